import BareModel.IsoText
import BareProofs.C16Lemmas

/-!
# C16Text — lemmas (model: `BareModel/IsoText.lean`; theorems: `BareProofs/C16Text.lean`)

`Lang r` is the textbook language of a pattern.  `Splits f L` (the matcher `f` returns exactly the remainders left by the
prefixes in `L`) is preserved by every construct of `Re`, so the matcher decides `Lang r` for EVERY `Re`.  The languages of
the two ISO patterns are then written positionally (`DateShape`, `DateTimeShape`: which character stands where), the
hand-written recognisers succeed exactly on those shapes, and the mirror's `Datetime.scanDateTime` is the recogniser followed
by the offset range check.
-/

namespace C16Text
open IsoText Datetime

/-- `k`-fold concatenation of a language -/
def LangPow (L : List Char → Prop) : Nat → List Char → Prop
  | 0, w => w = []
  | k + 1, w => ∃ u v, w = u ++ v ∧ L u ∧ LangPow L k v

/-- the language of a pattern (declarative semantics) -/
def Lang : Re → List Char → Prop
  | .lit c, w => w = [c]
  | .digit, w => ∃ c, isDigit c = true ∧ w = [c]
  | .cls items, w => ∃ c, inCls items c = true ∧ w = [c]
  | .seq a b, w => ∃ u v, w = u ++ v ∧ Lang a u ∧ Lang b v
  | .alt a b, w => Lang a w ∨ Lang b w
  | .opt a, w => Lang a w ∨ w = []
  | .rep a n, w => LangPow (Lang a) n w
  | .repmn a m n, w => ∃ k, m ≤ k ∧ k ≤ n ∧ LangPow (Lang a) k w
  | .ncg a, w => Lang a w
  | .named _ a, w => Lang a w

def Splits (f : List Char → List (List Char)) (L : List Char → Prop) : Prop :=
  ∀ s t, t ∈ f s ↔ ∃ w, s = w ++ t ∧ L w

theorem splits_nil : Splits (fun s => [s]) (· = []) := fun s t => by
  simp only [List.mem_singleton]
  exact ⟨fun h => ⟨[], h ▸ rfl, rfl⟩, fun ⟨_, e, hw⟩ => by rw [e, hw, List.nil_append]⟩

theorem splits_one (p : Char → Bool) : Splits (one p) fun w => ∃ c, p c = true ∧ w = [c] := fun s t => by
  cases s with
  | nil => simp [one]
  | cons x xs =>
    by_cases hx : p x = true
    · simp only [one, hx, if_true, List.mem_singleton]
      exact ⟨fun h => ⟨[x], h ▸ rfl, x, hx, rfl⟩, fun ⟨_, e, _, _, hw⟩ => by rw [hw] at e; exact (List.cons.inj e).2.symm⟩
    · simp only [one, hx, Bool.false_eq_true, if_false, List.not_mem_nil, false_iff]
      rintro ⟨_, e, c, hc, rfl⟩
      exact hx ((List.cons.inj e).1 ▸ hc)

theorem Splits.append {f g L M} (hf : Splits f L) (hg : Splits g M) : Splits (fun s => f s ++ g s) fun w => L w ∨ M w :=
  fun s t => by
    simp only [List.mem_append, hf s t, hg s t]
    exact ⟨fun h => h.elim (fun ⟨w, e, l⟩ => ⟨w, e, .inl l⟩) fun ⟨w, e, l⟩ => ⟨w, e, .inr l⟩,
      fun ⟨w, e, l⟩ => l.elim (fun l => .inl ⟨w, e, l⟩) fun l => .inr ⟨w, e, l⟩⟩

theorem Splits.flatMap {f g L M} (hf : Splits f L) (hg : Splits g M) :
    Splits (fun s => (f s).flatMap g) fun w => ∃ u v, w = u ++ v ∧ L u ∧ M v := fun s t => by
  simp only [List.mem_flatMap]
  constructor
  · rintro ⟨r, hr, ht⟩
    obtain ⟨u, rfl, lu⟩ := (hf s r).1 hr
    obtain ⟨v, rfl, lv⟩ := (hg r t).1 ht
    exact ⟨u ++ v, (List.append_assoc ..).symm, u, v, rfl, lu, lv⟩
  · rintro ⟨_, rfl, u, v, rfl, lu, lv⟩
    exact ⟨v ++ t, (hf _ _).2 ⟨u, List.append_assoc .., lu⟩, (hg _ _).2 ⟨v, rfl, lv⟩⟩

theorem Splits.pow {f L} (hf : Splits f L) : ∀ k, Splits (pow f k) (LangPow L k)
  | 0 => splits_nil
  | k + 1 => hf.flatMap (Splits.pow hf k)

/-- **matcher correctness** (every pattern, every text): the remainders the matcher returns are exactly the
suffixes left by a prefix in the language -/
theorem rests_spec : ∀ (r : Re) (s t : List Char), t ∈ r.rests s ↔ ∃ w, s = w ++ t ∧ Lang r w
  | .lit c => fun s t => (splits_one (· == c) s t).trans (by simp [Lang])
  | .digit => splits_one isDigit
  | .cls items => splits_one (inCls items)
  | .seq a b => Splits.flatMap (rests_spec a) (rests_spec b)
  | .alt a b => Splits.append (rests_spec a) (rests_spec b)
  | .opt a => Splits.append (rests_spec a) splits_nil
  | .rep a n => Splits.pow (rests_spec a) n
  | .repmn a m n => fun s t => by
    simp only [Re.rests, List.mem_flatMap, List.mem_range, Lang, Splits.pow (rests_spec a) _ s t]
    constructor
    · rintro ⟨j, hj, w, e, l⟩; exact ⟨w, e, m + j, by omega, by omega, l⟩
    · rintro ⟨w, e, k, h1, h2, l⟩; exact ⟨k - m, by omega, w, e, by rwa [Nat.add_sub_cancel' h1]⟩
  | .ncg a => rests_spec a
  | .named _ a => rests_spec a

/-- the decidable predicate `fullMatch` decides the language of the pattern -/
theorem fullMatch_iff (r : Re) (s : List Char) : r.fullMatch s = true ↔ Lang r s := by
  simp only [Re.fullMatch, List.any_eq_true, List.isEmpty_iff]
  constructor
  · rintro ⟨_, ht, rfl⟩
    obtain ⟨w, rfl, l⟩ := (rests_spec r s []).1 ht
    rwa [List.append_nil]
  · exact fun l => ⟨[], (rests_spec r s []).2 ⟨s, (List.append_nil s).symm, l⟩, rfl⟩

/-- an ASCII decimal digit -/
def Dig (c : Char) : Prop := isDigit c = true

theorem dig_iff {c : Char} : Dig c ↔ 48 ≤ c.toNat ∧ c.toNat ≤ 57 := decide_eq_true_iff

theorem dig_digit? {c : Char} (h : Dig c) : ∃ n, digit? c = some n ∧ n ≤ 9 :=
  ⟨c.toNat - 48, if_pos (dig_iff.1 h), by have := dig_iff.1 h; omega⟩

theorem digit?_dig {c : Char} {n : Nat} (h : digit? c = some n) : Dig c := by
  unfold digit? at h
  split at h
  · exact dig_iff.2 ‹_›
  · cases h

theorem digit?_le {c : Char} {n : Nat} (h : digit? c = some n) : n ≤ 9 := by
  obtain ⟨m, hm, h9⟩ := dig_digit? (digit?_dig h)
  rw [h] at hm; cases hm; exact h9

theorem isDigit_eq (c : Char) : isDigit c = (digit? c).isSome := by
  unfold isDigit digit?
  by_cases h : 48 ≤ c.toNat ∧ c.toNat ≤ 57 <;> simp [h]

theorem cls05_iff {c : Char} : inCls [('0', '5')] c = true ↔ 48 ≤ c.toNat ∧ c.toNat ≤ 53 := by
  simp only [inCls, List.any_cons, List.any_nil, Bool.or_false, decide_eq_true_eq]; exact Iff.rfl

theorem cls05_dig {c : Char} (h : inCls [('0', '5')] c = true) : Dig c :=
  dig_iff.2 (by have := cls05_iff.1 h; omega)

theorem inCls_sign (c : Char) : inCls [('+', '+'), ('-', '-')] c = true ↔ (c = '+' ∨ c = '-') := by
  simp only [inCls, List.any_cons, List.any_nil, Bool.or_false, Bool.or_eq_true, decide_eq_true_eq]
  constructor
  · rintro (h | h)
    · exact Or.inl (Char.toNat_inj.1 (by have : ('+' : Char).toNat = 43 := rfl; omega))
    · exact Or.inr (Char.toNat_inj.1 (by have : ('-' : Char).toNat = 45 := rfl; omega))
  · rintro (h | h) <;> subst h <;> decide

theorem lang_named (n : String) (a : Re) (w : List Char) : Lang (.named n a) w ↔ Lang a w := Iff.rfl
theorem lang_ncg (a : Re) (w : List Char) : Lang (.ncg a) w ↔ Lang a w := Iff.rfl
theorem lang_named_seq (n : String) (a r : Re) (w : List Char) : Lang (.named n a ⬝ r) w ↔ Lang (a ⬝ r) w := Iff.rfl
theorem lang_seq (a b : Re) (w : List Char) : Lang (a ⬝ b) w ↔ ∃ u v, w = u ++ v ∧ Lang a u ∧ Lang b v := Iff.rfl

theorem lang_digit (w : List Char) : Lang .digit w ↔ ∃ c, Dig c ∧ w = [c] := Iff.rfl

theorem langPow_digit : ∀ (k : Nat) (w : List Char), LangPow (Lang .digit) k w ↔ w.length = k ∧ ∀ c ∈ w, Dig c
  | 0, w => by
    simp only [LangPow, List.length_eq_zero_iff]
    exact ⟨fun h => ⟨h, by simp [h]⟩, fun h => h.1⟩
  | k + 1, w => by
    simp only [LangPow, langPow_digit k, lang_digit]
    constructor
    · rintro ⟨_, v, rfl, ⟨c, hc, rfl⟩, rfl, hv⟩
      exact ⟨rfl, List.forall_mem_cons.2 ⟨hc, hv⟩⟩
    · rintro ⟨hl, hv⟩
      match w, hl with
      | c :: t, hl =>
        exact ⟨[c], t, rfl, ⟨c, hv c (List.mem_cons_self ..), rfl⟩, Nat.succ.inj hl, fun x hx => hv x (List.mem_cons_of_mem _ hx)⟩

/-- one character of a class `P`, then `r` -/
theorem lang_char_seq {a : Re} {P : Char → Prop} (ha : ∀ u, Lang a u ↔ ∃ c, P c ∧ u = [c]) (r : Re) (w : List Char) :
    Lang (a ⬝ r) w ↔ ∃ c v, w = c :: v ∧ P c ∧ Lang r v := by
  simp only [Lang, ha]
  constructor
  · rintro ⟨_, v, e, ⟨c, hc, rfl⟩, hv⟩; exact ⟨c, v, e, hc, hv⟩
  · rintro ⟨c, v, e, hc, hv⟩; exact ⟨[c], v, e, ⟨c, hc, rfl⟩, hv⟩

theorem lang_digit_seq (r : Re) (w : List Char) : Lang (.digit ⬝ r) w ↔ ∃ a v, w = a :: v ∧ Dig a ∧ Lang r v :=
  lang_char_seq (fun _ => Iff.rfl) r w

theorem lang_cls_seq (items : List (Char × Char)) (r : Re) (w : List Char) :
    Lang (.cls items ⬝ r) w ↔ ∃ a v, w = a :: v ∧ inCls items a = true ∧ Lang r v :=
  lang_char_seq (fun _ => Iff.rfl) r w

theorem lang_lit_seq (c : Char) (r : Re) (w : List Char) : Lang (.lit c ⬝ r) w ↔ ∃ v, w = c :: v ∧ Lang r v := by
  simp only [Lang]
  constructor
  · rintro ⟨_, v, e, rfl, hv⟩; exact ⟨v, e, hv⟩
  · rintro ⟨v, e, hv⟩; exact ⟨[c], v, e, rfl, hv⟩

theorem lang_d2 (w : List Char) : Lang d2 w ↔ ∃ a b, w = [a, b] ∧ Dig a ∧ Dig b := by
  simp only [d2, Lang, LangPow]
  constructor
  · rintro ⟨_, _, rfl, ⟨a, ha, rfl⟩, _, _, rfl, ⟨b, hb, rfl⟩, rfl⟩; exact ⟨a, b, rfl, ha, hb⟩
  · rintro ⟨a, b, rfl, ha, hb⟩; exact ⟨[a], [b], rfl, ⟨a, ha, rfl⟩, [b], [], rfl, ⟨b, hb, rfl⟩, rfl⟩

theorem lang_d2_seq (r : Re) (w : List Char) :
    Lang (d2 ⬝ r) w ↔ ∃ a b v, w = a :: b :: v ∧ Dig a ∧ Dig b ∧ Lang r v := by
  rw [Lang]
  simp only [lang_d2]
  constructor
  · rintro ⟨_, v, e, ⟨a, b, rfl, ha, hb⟩, hv⟩; exact ⟨a, b, v, e, ha, hb, hv⟩
  · rintro ⟨a, b, v, e, ha, hb, hv⟩; exact ⟨[a, b], v, e, ⟨a, b, rfl, ha, hb⟩, hv⟩

theorem lang_d4_seq (r : Re) (w : List Char) :
    Lang (d4 ⬝ r) w ↔ ∃ a b c d v, w = a :: b :: c :: d :: v ∧ Dig a ∧ Dig b ∧ Dig c ∧ Dig d ∧ Lang r v := by
  simp only [d4, Lang, LangPow]
  constructor
  · rintro ⟨_, v, e, ⟨_, _, rfl, ⟨a, ha, rfl⟩, _, _, rfl, ⟨b, hb, rfl⟩, _, _, rfl, ⟨c, hc, rfl⟩, _, _, rfl, ⟨d, hd, rfl⟩, rfl⟩, hv⟩
    exact ⟨a, b, c, d, v, e, ha, hb, hc, hd, hv⟩
  · rintro ⟨a, b, c, d, v, e, ha, hb, hc, hd, hv⟩
    exact ⟨[a, b, c, d], v, e, ⟨[a], [b, c, d], rfl, ⟨a, ha, rfl⟩, [b], [c, d], rfl, ⟨b, hb, rfl⟩, [c], [d], rfl, ⟨c, hc, rfl⟩,
      [d], [], rfl, ⟨d, hd, rfl⟩, rfl⟩, hv⟩

/-- `^(?P<year>\d{4})-(?P<month>\d{2})-(?P<day>\d{2})\Z` -/
def DateShape (cs : List Char) : Prop :=
  ∃ y1 y2 y3 y4 m1 m2 d1 d2, cs = [y1, y2, y3, y4, '-', m1, m2, '-', d1, d2] ∧
    Dig y1 ∧ Dig y2 ∧ Dig y3 ∧ Dig y4 ∧ Dig m1 ∧ Dig m2 ∧ Dig d1 ∧ Dig d2

/-- `(?:\.\d{1,6})?` -/
def FracShape (f : List Char) : Prop :=
  f = [] ∨ ∃ ds, f = '.' :: ds ∧ 1 ≤ ds.length ∧ ds.length ≤ 6 ∧ ∀ c ∈ ds, Dig c

/-- `(?:Z|[+-]\d{2}:[0-5]\d)` -/
def ZoneShape (z : List Char) : Prop :=
  z = ['Z'] ∨ ∃ sg h1 h2 m1 m2, z = [sg, h1, h2, ':', m1, m2] ∧ (sg = '+' ∨ sg = '-') ∧
    Dig h1 ∧ Dig h2 ∧ inCls [('0', '5')] m1 = true ∧ Dig m2

/-- `^\d{4}-\d{2}-\d{2}T\d{2}:\d{2}:\d{2}(?:\.\d{1,6})?(?:Z|[+-]\d{2}:[0-5]\d)\Z` -/
def DateTimeShape (cs : List Char) : Prop :=
  ∃ y1 y2 y3 y4 m1 m2 d1 d2 h1 h2 i1 i2 s1 s2 f z,
    cs = y1 :: y2 :: y3 :: y4 :: '-' :: m1 :: m2 :: '-' :: d1 :: d2 :: 'T' :: h1 :: h2 :: ':' :: i1 :: i2 :: ':' :: s1 :: s2 :: (f ++ z) ∧
    Dig y1 ∧ Dig y2 ∧ Dig y3 ∧ Dig y4 ∧ Dig m1 ∧ Dig m2 ∧ Dig d1 ∧ Dig d2 ∧
    Dig h1 ∧ Dig h2 ∧ Dig i1 ∧ Dig i2 ∧ Dig s1 ∧ Dig s2 ∧ FracShape f ∧ ZoneShape z

theorem lang_date (cs : List Char) : Lang dateRe cs ↔ DateShape cs := by
  simp only [dateRe, lang_named_seq, lang_named, lang_d4_seq, lang_lit_seq, lang_d2_seq, lang_d2, DateShape]
  constructor
  · rintro ⟨y1, y2, y3, y4, v, e, a1, a2, a3, a4, v2, e2, m1, m2, v3, e3, b1, b2, v4, e4, d1, d2, e5, c1, c2⟩
    subst e5 e4 e3 e2 e
    exact ⟨y1, y2, y3, y4, m1, m2, d1, d2, rfl, a1, a2, a3, a4, b1, b2, c1, c2⟩
  · rintro ⟨y1, y2, y3, y4, m1, m2, d1, d2, e, a1, a2, a3, a4, b1, b2, c1, c2⟩
    exact ⟨y1, y2, y3, y4, _, e, a1, a2, a3, a4, _, rfl, m1, m2, _, rfl, b1, b2, _, rfl, d1, d2, rfl, c1, c2⟩

theorem lang_frac (f : List Char) : Lang fracRe f ↔ FracShape f := by
  unfold fracRe FracShape
  rw [Lang, lang_ncg, lang_lit_seq]
  constructor
  · rintro (⟨v, e, h⟩ | h)
    · rw [Lang] at h
      obtain ⟨k, k1, k2, hk⟩ := h
      rw [langPow_digit] at hk
      exact Or.inr ⟨v, e, by omega, by omega, hk.2⟩
    · exact Or.inl h
  · rintro (h | ⟨ds, e, l1, l2, hd⟩)
    · exact Or.inr h
    · refine Or.inl ⟨ds, e, ?_⟩
      rw [Lang]
      exact ⟨ds.length, l1, l2, (langPow_digit _ _).2 ⟨rfl, hd⟩⟩

theorem lang_zone (z : List Char) : Lang zoneRe z ↔ ZoneShape z := by
  unfold zoneRe ZoneShape
  rw [lang_ncg, Lang]
  simp only [lang_cls_seq, lang_d2_seq, lang_lit_seq, inCls_sign, lang_digit]
  constructor
  · rintro (h | ⟨sg, v, e, hs, h1, h2, v2, e2, a1, a2, v3, e3, m1, v4, e4, hm1, m2, hm2, e5⟩)
    · rw [Lang] at h; exact Or.inl h
    · subst e5 e4 e3 e2 e
      exact Or.inr ⟨sg, h1, h2, m1, m2, rfl, hs, a1, a2, hm1, hm2⟩
  · rintro (h | ⟨sg, h1, h2, m1, m2, e, hs, a1, a2, hm1, hm2⟩)
    · left; rw [Lang]; exact h
    · exact Or.inr ⟨sg, _, e, hs, h1, h2, _, rfl, a1, a2, _, rfl, m1, _, rfl, hm1, m2, hm2, rfl⟩

theorem lang_dateTime (cs : List Char) : Lang dateTimeRe cs ↔ DateTimeShape cs := by
  simp only [dateTimeRe, lang_d4_seq, lang_lit_seq, lang_d2_seq, lang_seq fracRe zoneRe, lang_frac, lang_zone, DateTimeShape]
  constructor
  · rintro ⟨y1, y2, y3, y4, v, e, a1, a2, a3, a4, v2, e2, m1, m2, v3, e3, b1, b2, v4, e4, d1, d2, v5, e5, c1, c2, v6, e6,
      h1, h2, v7, e7, g1, g2, v8, e8, i1, i2, v9, e9, j1, j2, v10, e10, s1, s2, v11, e11, k1, k2, f, z, e12, hf, hz⟩
    subst e12 e11 e10 e9 e8 e7 e6 e5 e4 e3 e2 e
    exact ⟨y1, y2, y3, y4, m1, m2, d1, d2, h1, h2, i1, i2, s1, s2, f, z, rfl, a1, a2, a3, a4, b1, b2, c1, c2, g1, g2, j1, j2, k1, k2, hf, hz⟩
  · rintro ⟨y1, y2, y3, y4, m1, m2, d1, d2, h1, h2, i1, i2, s1, s2, f, z, e, a1, a2, a3, a4, b1, b2, c1, c2, g1, g2, j1, j2, k1, k2, hf, hz⟩
    exact ⟨y1, y2, y3, y4, _, e, a1, a2, a3, a4, _, rfl, m1, m2, _, rfl, b1, b2, _, rfl, d1, d2, _, rfl, c1, c2, _, rfl,
      h1, h2, _, rfl, g1, g2, _, rfl, i1, i2, _, rfl, j1, j2, _, rfl, s1, s2, _, rfl, k1, k2, f, z, rfl, hf, hz⟩

theorem num2?_of_dig {a b : Char} (ha : Dig a) (hb : Dig b) : ∃ n, num2? a b = some n := by
  obtain ⟨x, hx, _⟩ := dig_digit? ha
  obtain ⟨y, hy, _⟩ := dig_digit? hb
  exact ⟨x * 10 + y, by simp [num2?, hx, hy]⟩

theorem num4?_of_dig {a b c d : Char} (ha : Dig a) (hb : Dig b) (hc : Dig c) (hd : Dig d) : ∃ n, num4? a b c d = some n := by
  obtain ⟨x, hx⟩ := num2?_of_dig ha hb
  obtain ⟨y, hy⟩ := num2?_of_dig hc hd
  exact ⟨x * 100 + y, by simp [num4?, hx, hy]⟩

theorem num2?_dig {a b : Char} {n : Nat} (h : num2? a b = some n) : Dig a ∧ Dig b := by
  simp only [num2?, Option.bind_eq_bind, Option.bind_eq_some_iff, Option.pure_def, Option.some.injEq] at h
  obtain ⟨x, hx, y, hy, _⟩ := h
  exact ⟨digit?_dig hx, digit?_dig hy⟩

theorem num4?_dig {a b c d : Char} {n : Nat} (h : num4? a b c d = some n) : Dig a ∧ Dig b ∧ Dig c ∧ Dig d := by
  simp only [num4?, Option.bind_eq_bind, Option.bind_eq_some_iff, Option.pure_def, Option.some.injEq] at h
  obtain ⟨x, hx, y, hy, _⟩ := h
  exact ⟨(num2?_dig hx).1, (num2?_dig hx).2, (num2?_dig hy).1, (num2?_dig hy).2⟩

theorem scanZone_shape {z : List Char} {o : Int} (h : scanZone z = some o) : ZoneShape z := by
  unfold scanZone at h
  split at h
  · exact Or.inl rfl
  · rename_i sg h1 h2 m1 m2
    split at h
    · rename_i hsg
      split at h
      · rename_i hm1
        simp only [Option.bind_eq_bind, Option.bind_eq_some_iff, Option.pure_def, Option.some.injEq] at h
        obtain ⟨hh, hhh, mm, hmm, _⟩ := h
        exact Or.inr ⟨sg, h1, h2, m1, m2, rfl, hsg, (num2?_dig hhh).1, (num2?_dig hhh).2, hm1, (num2?_dig hmm).2⟩
      · simp at h
    · simp at h
  · simp at h

theorem shape_scanZone {z : List Char} (h : ZoneShape z) : ∃ o, scanZone z = some o := by
  rcases h with h | ⟨sg, h1, h2, m1, m2, e, hs, a1, a2, hm1, hm2⟩
  · subst h; exact ⟨0, rfl⟩
  · subst e
    obtain ⟨hh, hhh⟩ := num2?_of_dig a1 a2
    obtain ⟨mm, hmm⟩ := num2?_of_dig (cls05_dig hm1) hm2
    simp only [scanZone, hs, if_true, hm1, hhh, hmm, Option.bind_eq_bind, Option.bind_some, Option.pure_def]
    exact ⟨_, rfl⟩

theorem mapM_digit?_of_digs : ∀ {ds : List Char}, (∀ c ∈ ds, Dig c) → ∃ ns, ds.mapM digit? = some ns
  | [], _ => ⟨[], rfl⟩
  | c :: t, h => by
    obtain ⟨n, hn, _⟩ := dig_digit? (h c (by simp))
    obtain ⟨ns, hns⟩ := mapM_digit?_of_digs (ds := t) (fun x hx => h x (by simp [hx]))
    exact ⟨n :: ns, by simp [List.mapM_cons, hn, hns]⟩

theorem frac?_of_digs {ds : List Char} (l1 : 1 ≤ ds.length) (l2 : ds.length ≤ 6) (hd : ∀ c ∈ ds, Dig c) :
    ∃ us, frac? ds = some us := by
  obtain ⟨ns, hns⟩ := mapM_digit?_of_digs hd
  unfold frac?
  rw [if_neg (by omega), hns]
  exact ⟨_, rfl⟩

theorem frac?_len {ds : List Char} {us : Nat} (h : frac? ds = some us) : 1 ≤ ds.length ∧ ds.length ≤ 6 := by
  unfold frac? at h
  split at h
  · simp at h
  · omega

theorem zoneShape_head {z : List Char} (h : ZoneShape z) : ∃ c tl, z = c :: tl ∧ isDigit c = false ∧ c ≠ '.' := by
  rcases h with h | ⟨sg, h1, h2, m1, m2, e, hs, _⟩
  · subst h; exact ⟨'Z', [], rfl, by decide, by decide⟩
  · subst e
    rcases hs with hs | hs <;> subst hs
    · exact ⟨'+', _, rfl, by decide, by decide⟩
    · exact ⟨'-', _, rfl, by decide, by decide⟩

/-- how `scanFracZone` splits a text: a fraction is `.` and the longest run of digits; what follows starts the zone -/
theorem scanFracZone_frac {ds z : List Char} (hd : ∀ c ∈ ds, Dig c) {c : Char} {tl : List Char} (hz : z = c :: tl)
    (hc : isDigit c = false) :
    scanFracZone ('.' :: (ds ++ z)) = (do let us ← frac? ds; let o ← scanZone z; pure (us, o)) := by
  subst hz
  have hc' : ¬ isDigit c = true := by simp [hc]
  simp only [scanFracZone, if_true, List.takeWhile_append_of_pos hd, List.dropWhile_append_of_pos hd,
    List.takeWhile_cons_of_neg hc', List.dropWhile_cons_of_neg hc', List.append_nil]

theorem scanFracZone_nofrac {z : List Char} {c : Char} {tl : List Char} (hz : z = c :: tl) (hc : c ≠ '.') :
    scanFracZone z = (scanZone z).map fun o => (0, o) := by
  subst hz; simp only [scanFracZone, hc, if_false]

theorem scanFracZone_shape {cs : List Char} {r : Nat × Int} (h : scanFracZone cs = some r) :
    ∃ f z, cs = f ++ z ∧ FracShape f ∧ ZoneShape z := by
  unfold scanFracZone at h
  split at h
  · cases h
  · rename_i c rest
    split at h
    · subst c
      simp only [Option.bind_eq_bind, Option.bind_eq_some_iff, Option.pure_def, Option.some.injEq] at h
      obtain ⟨us, hus, o, ho, _⟩ := h
      have hl := frac?_len hus
      exact ⟨'.' :: rest.takeWhile isDigit, rest.dropWhile isDigit, by rw [List.cons_append, List.takeWhile_append_dropWhile],
        Or.inr ⟨_, rfl, hl.1, hl.2, List.all_eq_true.1 List.all_takeWhile⟩, scanZone_shape ho⟩
    · obtain ⟨o, ho, _⟩ := Option.map_eq_some_iff.1 h
      exact ⟨[], c :: rest, rfl, Or.inl rfl, scanZone_shape ho⟩

theorem shape_scanFracZone {f z : List Char} (hf : FracShape f) (hz : ZoneShape z) : ∃ r, scanFracZone (f ++ z) = some r := by
  obtain ⟨c, tl, ez, hc, hdot⟩ := zoneShape_head hz
  obtain ⟨o, ho⟩ := shape_scanZone hz
  rcases hf with rfl | ⟨ds, rfl, l1, l2, hd⟩
  · exact ⟨_, by rw [List.nil_append, scanFracZone_nofrac ez hdot, ho]; rfl⟩
  · obtain ⟨us, hus⟩ := frac?_of_digs l1 l2 hd
    exact ⟨_, by rw [List.cons_append, scanFracZone_frac hd ez hc, hus, ho]; rfl⟩

theorem scanRaw_shape {cs : List Char} {r : Raw} (h : scanRaw cs = some r) : DateTimeShape cs := by
  unfold scanRaw at h
  split at h
  · rename_i y1 y2 y3 y4 m1 m2 d1 d2 h1 h2 i1 i2 s1 s2 rest
    simp only [Option.bind_eq_bind, Option.bind_eq_some_iff, Option.pure_def, Option.some.injEq] at h
    obtain ⟨y, hy, mo, hmo, d, hd, hh, hhh, mi, hmi, s, hs, ⟨us, o⟩, hfz, _⟩ := h
    obtain ⟨fr, z, hrest, hfr, hz⟩ := scanFracZone_shape hfz
    have hy' := num4?_dig hy
    subst hrest
    exact ⟨y1, y2, y3, y4, m1, m2, d1, d2, h1, h2, i1, i2, s1, s2, fr, z, rfl, hy'.1, hy'.2.1, hy'.2.2.1, hy'.2.2.2,
      (num2?_dig hmo).1, (num2?_dig hmo).2, (num2?_dig hd).1, (num2?_dig hd).2, (num2?_dig hhh).1, (num2?_dig hhh).2,
      (num2?_dig hmi).1, (num2?_dig hmi).2, (num2?_dig hs).1, (num2?_dig hs).2, hfr, hz⟩
  · simp at h

theorem shape_scanRaw {cs : List Char} (h : DateTimeShape cs) : ∃ r, scanRaw cs = some r := by
  obtain ⟨y1, y2, y3, y4, m1, m2, d1, d2, h1, h2, i1, i2, s1, s2, f, z, e, a1, a2, a3, a4, b1, b2, c1, c2, g1, g2, j1, j2, k1, k2,
    hf, hz⟩ := h
  subst e
  obtain ⟨y, hy⟩ := num4?_of_dig a1 a2 a3 a4
  obtain ⟨mo, hmo⟩ := num2?_of_dig b1 b2
  obtain ⟨d, hd⟩ := num2?_of_dig c1 c2
  obtain ⟨hh, hhh⟩ := num2?_of_dig g1 g2
  obtain ⟨mi, hmi⟩ := num2?_of_dig j1 j2
  obtain ⟨s, hs⟩ := num2?_of_dig k1 k2
  obtain ⟨⟨us, o⟩, hfz⟩ := shape_scanFracZone hf hz
  simp only [scanRaw, hy, hmo, hd, hhh, hmi, hs, hfz, Option.bind_eq_bind, Option.bind_some, Option.pure_def]
  exact ⟨_, rfl⟩

theorem scanDate_shape {cs : List Char} {r : Nat × Nat × Nat} (h : scanDate cs = some r) : DateShape cs := by
  unfold scanDate at h
  split at h
  · rename_i y1 y2 y3 y4 m1 m2 d1 d2
    simp only [Option.bind_eq_bind, Option.bind_eq_some_iff, Option.pure_def, Option.some.injEq] at h
    obtain ⟨y, hy, mo, hmo, d, hd, _⟩ := h
    have := num4?_dig hy
    exact ⟨y1, y2, y3, y4, m1, m2, d1, d2, rfl, this.1, this.2.1, this.2.2.1, this.2.2.2, (num2?_dig hmo).1, (num2?_dig hmo).2,
      (num2?_dig hd).1, (num2?_dig hd).2⟩
  · simp at h

theorem shape_scanDate {cs : List Char} (h : DateShape cs) : ∃ r, scanDate cs = some r := by
  obtain ⟨y1, y2, y3, y4, m1, m2, d1, d2, e, a1, a2, a3, a4, b1, b2, c1, c2⟩ := h
  subst e
  obtain ⟨y, hy⟩ := num4?_of_dig a1 a2 a3 a4
  obtain ⟨mo, hmo⟩ := num2?_of_dig b1 b2
  obtain ⟨d, hd⟩ := num2?_of_dig c1 c2
  simp only [scanDate, hy, hmo, hd, Option.bind_eq_bind, Option.bind_some, Option.pure_def]
  exact ⟨_, rfl⟩

theorem digit_ofNat : ∀ r : Nat, r < 10 → digit? (Char.ofNat (48 + r)) = some r := by decide

theorem digit?_digitChar (k : Nat) : digit? (digitChar k) = some (k % 10) :=
  digit_ofNat (k % 10) (Nat.mod_lt _ (by decide))

theorem dig_digitChar (k : Nat) : Dig (digitChar k) := digit?_dig (digit?_digitChar k)

theorem cls05_ofNat : ∀ r : Nat, r < 6 → inCls [('0', '5')] (Char.ofNat (48 + r)) = true := by decide

theorem cls05_digitChar {k : Nat} (h : k < 6) : inCls [('0', '5')] (digitChar k) = true := by
  unfold digitChar
  rw [Nat.mod_eq_of_lt (by omega)]
  exact cls05_ofNat k h

theorem num2?_pad {n : Nat} (h : n < 100) : num2? (digitChar (n / 10)) (digitChar n) = some n := by
  simp only [num2?, digit?_digitChar, Option.bind_eq_bind, Option.bind_some, Option.pure_def, Option.some.injEq]
  omega

theorem num4?_pad {n : Nat} (h : n < 10000) :
    num4? (digitChar (n / 1000)) (digitChar (n / 100)) (digitChar (n / 10)) (digitChar n) = some n := by
  simp only [num4?, num2?, digit?_digitChar, Option.bind_eq_bind, Option.bind_some, Option.pure_def, Option.some.injEq]
  omega

theorem frac_pad3 {n : Nat} (h : n < 1000) : frac? (pad3 n) = some (n * 1000) := by
  simp only [frac?, pad3, List.length_cons, List.length_nil, List.mapM_cons, List.mapM_nil, digit?_digitChar,
    Option.pure_def, Option.bind_eq_bind, Option.bind_some, Option.map_some]
  simp
  omega

/-- the offset part `±HH:MM` as the formatter prints it -/
def fmtOff (o : Int) : List Char :=
  (if o < 0 then '-' else '+') :: (pad2 (o.natAbs / 60) ++ ':' :: pad2 (o.natAbs % 60))

theorem scanZone_fmtOff {o : Int} (h1 : -1440 < o) (h2 : o < 1440) : scanZone (fmtOff o) = some o := by
  have hh : o.natAbs / 60 < 100 := by omega
  have hm : o.natAbs % 60 < 100 := by omega
  have h5 : o.natAbs % 60 / 10 < 6 := by omega
  simp only [fmtOff, pad2, List.cons_append, List.nil_append, scanZone, cls05_digitChar h5, if_true, num2?_pad hh, num2?_pad hm,
    Option.bind_eq_bind, Option.bind_some, Option.pure_def]
  by_cases hneg : o < 0
  · simp only [hneg, if_true, Char.reduceEq, or_true, Option.some.injEq]
    omega
  · simp only [hneg, if_false, if_true, Char.reduceEq, true_or, Option.some.injEq]
    omega

theorem fmtOff_head (o : Int) : ∃ c tl, fmtOff o = c :: tl ∧ isDigit c = false ∧ c ≠ '.' := by
  by_cases h : o < 0
  · exact ⟨'-', pad2 (o.natAbs / 60) ++ ':' :: pad2 (o.natAbs % 60), by simp only [fmtOff, h, if_true], by decide, by decide⟩
  · exact ⟨'+', pad2 (o.natAbs / 60) ++ ':' :: pad2 (o.natAbs % 60), by simp only [fmtOff, h, if_false], by decide, by decide⟩

theorem dig_pad3 (n : Nat) : ∀ x ∈ pad3 n, Dig x := by
  simp only [pad3, List.forall_mem_cons, dig_digitChar, List.not_mem_nil, false_imp_iff, implies_true, and_self]

theorem scanRaw_format {f : Fields} (sub : Nat) (hv : f.Valid) :
    scanRaw (formatChars f sub) = some ⟨f.year, f.month, f.day, f.hour, f.minute, f.second, f.ms * 1000, f.off⟩ := by
  obtain ⟨⟨y1, y2, m1, m2, d1, d2, a1, a2, b1, b2, c1, c2, e1, e2⟩, o1, o2⟩ := hv
  simp only [Fields.dt] at y1 y2 m1 m2 d1 d2 a1 a2 b1 b2 c1 c2 e1 e2
  have hdim := C16.daysInMonth_le f.year m1 m2
  have hY : f.year < 10000 := by omega
  have hM : f.month < 100 := by omega
  have hD : f.day < 100 := by omega
  have hH : f.hour < 100 := by omega
  have hI : f.minute < 100 := by omega
  have hS : f.second < 100 := by omega
  have hms : f.ms < 1000 := by omega
  obtain ⟨c, tl, e, hc, hdot⟩ := fmtOff_head f.off
  have hfz : scanFracZone ((if f.ms = 0 ∧ sub = 0 then [] else '.' :: pad3 f.ms) ++ fmtOff f.off) = some (f.ms * 1000, f.off) := by
    by_cases h0 : f.ms = 0 ∧ sub = 0
    · rw [if_pos h0, List.nil_append, scanFracZone_nofrac e hdot, scanZone_fmtOff o1 o2, h0.1]; rfl
    · rw [if_neg h0, List.cons_append, scanFracZone_frac (dig_pad3 _) e hc, frac_pad3 hms, scanZone_fmtOff o1 o2]; rfl
  simp only [fmtOff] at hfz
  simp only [formatChars, pad4, pad2, List.cons_append, List.nil_append, scanRaw, num4?_pad hY, num2?_pad hM,
    num2?_pad hD, num2?_pad hH, num2?_pad hI, num2?_pad hS, Option.bind_eq_bind, Option.bind_some, Option.pure_def]
  simp only [pad2, List.cons_append, List.nil_append] at hfz
  simp only [hfz, Option.bind_some]

/-- the range check `Datetime.zone?` merges into the scan: |offset| < 24 h; the offset in seconds -/
def rawIso (r : Raw) : Option IsoFields :=
  if -1440 < r.off ∧ r.off < 1440 then some ⟨r.year, r.month, r.day, r.hour, r.minute, r.second, r.us, r.off * 60⟩ else none

theorem num2?_cls05 {a b : Char} {n : Nat} (h : num2? a b = some n) : inCls [('0', '5')] a = true ↔ n ≤ 59 := by
  simp only [num2?, Option.bind_eq_bind, Option.bind_eq_some_iff, Option.pure_def, Option.some.injEq] at h
  obtain ⟨x, hx, y, hy, rfl⟩ := h
  have hy9 := digit?_le hy
  have ha := dig_iff.1 (digit?_dig hx)
  rw [digit?, if_pos ha] at hx
  cases hx
  rw [cls05_iff]; omega

theorem zone?_eq (z : List Char) :
    zone? z = (scanZone z).bind fun o => if -1440 < o ∧ o < 1440 then some (o * 60) else none := by
  unfold zone? scanZone
  split
  · simp
  · rename_i sg h1 h2 m1 m2
    by_cases hsg : sg = '+' ∨ sg = '-'
    · simp only [hsg, if_true]
      cases hh : num2? h1 h2 with
      | none => by_cases h5 : inCls [('0', '5')] m1 = true <;> simp [h5]
      | some hhv =>
        cases hm : num2? m1 m2 with
        | none => by_cases h5 : inCls [('0', '5')] m1 = true <;> simp [h5]
        | some mmv =>
          have h5 := num2?_cls05 hm
          by_cases hmm : mmv ≤ 59
          · simp only [h5.2 hmm, if_true, Option.bind_eq_bind, Option.bind_some, Option.pure_def, hmm, and_true]
            by_cases hneg : sg = '-'
            · by_cases h23 : hhv ≤ 23
              · rw [if_pos h23, if_pos hneg, if_pos hneg, if_pos (by omega)]; simp only [Option.some.injEq]; omega
              · rw [if_neg h23, if_pos hneg, if_neg (by omega)]
            · by_cases h23 : hhv ≤ 23
              · rw [if_pos h23, if_neg hneg, if_neg hneg, if_pos (by omega)]; simp only [Option.some.injEq]; omega
              · rw [if_neg h23, if_neg hneg, if_neg (by omega)]
          · have : ¬ inCls [('0', '5')] m1 = true := fun c => hmm (h5.1 c)
            simp [this, hmm]
    · simp [hsg]
  · rename_i n1 n2
    split
    · exact absurd rfl n1
    · exact absurd rfl (n2 _ _ _ _ _)
    · rfl

theorem isDigit_fun : (fun c => (digit? c).isSome) = isDigit := by
  funext c; exact (isDigit_eq c).symm

theorem fracZone?_eq (cs : List Char) :
    fracZone? cs = (scanFracZone cs).bind fun p => if -1440 < p.2 ∧ p.2 < 1440 then some (p.1, p.2 * 60) else none := by
  unfold fracZone? scanFracZone
  split
  · rfl
  · rename_i c rest
    by_cases hc : c = '.'
    · simp only [hc, if_true, isDigit_fun, zone?_eq]
      cases frac? (rest.takeWhile isDigit) with
      | none => rfl
      | some us =>
        cases scanZone (rest.dropWhile isDigit) with
        | none => rfl
        | some o => by_cases hr : -1440 < o ∧ o < 1440 <;> simp [hr]
    · simp only [hc, if_false, zone?_eq]
      cases scanZone (c :: rest) with
      | none => rfl
      | some o => by_cases hr : -1440 < o ∧ o < 1440 <;> simp [hr]

theorem scanDateTime_eq (cs : List Char) : scanDateTime cs = (scanRaw cs).bind rawIso := by
  unfold scanDateTime scanRaw
  split
  · rename_i y1 y2 y3 y4 m1 m2 d1 d2 h1 h2 i1 i2 s1 s2 rest
    simp only [fracZone?_eq]
    cases num4? y1 y2 y3 y4 <;> try rfl
    cases num2? m1 m2 <;> try rfl
    cases num2? d1 d2 <;> try rfl
    cases num2? h1 h2 <;> try rfl
    cases num2? i1 i2 <;> try rfl
    cases num2? s1 s2 <;> try rfl
    cases scanFracZone rest with
    | none => rfl
    | some p =>
      obtain ⟨us, o⟩ := p
      by_cases hr : -1440 < o ∧ o < 1440 <;> simp [rawIso, hr]
  · rename_i n1
    split
    · exact absurd rfl (n1 _ _ _ _ _ _ _ _ _ _ _ _ _ _ _)
    · rfl

/-! ### the fraction is cut, not rounded -/

/-- the millisecond value of a fraction: its first three digits, right-padded with zeros -/
def ms3 (ds : List Char) : Option Nat :=
  match (ds ++ ['0', '0']).take 3 with
  | [a, b, c] => do let x ← digit? a; let y ← digit? b; let z ← digit? c; pure (x * 100 + y * 10 + z)
  | _ => none

theorem mapM_digit?_length : ∀ {ds : List Char} {ns : List Nat}, ds.mapM digit? = some ns → ns.length = ds.length
  | [], _, h => by cases h; rfl
  | c :: t, ns, h => by
    simp only [List.mapM_cons, Option.pure_def, Option.bind_eq_bind, Option.bind_eq_some_iff, Option.some.injEq] at h
    obtain ⟨n, _, ms, hms, rfl⟩ := h
    simp [mapM_digit?_length hms]

/-- a further zero at the end of the fraction changes nothing -/
theorem frac?_pad {ds : List Char} (h1 : 1 ≤ ds.length) (h2 : ds.length < 6) : frac? (ds ++ ['0']) = frac? ds := by
  unfold frac?
  rw [if_neg (by simp; omega), if_neg (by omega), List.mapM_append]
  cases h : ds.mapM digit? with
  | none => rfl
  | some ns =>
    have hl := mapM_digit?_length h
    have e : 6 - ns.length = (6 - (ns ++ [0]).length) + 1 := by simp; omega
    simp [show digit? '0' = some 0 from rfl, e, List.replicate_succ]

theorem ms3_pad : ∀ {ds : List Char}, 1 ≤ ds.length → ms3 (ds ++ ['0']) = ms3 ds
  | [a], _ => rfl
  | [a, b], _ => rfl
  | a :: b :: c :: t, _ => by simp [ms3]

/-- with six digits the claim is arithmetic; with fewer, pad -/
theorem frac_truncates_pad : ∀ (k : Nat) {ds : List Char} {us : Nat}, ds.length + k = 6 → frac? ds = some us → ms3 ds = some (us / 1000)
  | 0, ds, us, hk, h => by
    match ds, hk with
    | [a, b, c, d, e, f], _ =>
      unfold frac? at h
      rw [if_neg (by simp)] at h
      obtain ⟨ns, hns, rfl⟩ := Option.map_eq_some_iff.1 h
      simp only [List.mapM_cons, List.mapM_nil, Option.pure_def, Option.bind_eq_bind, Option.bind_eq_some_iff, Option.some.injEq] at hns
      obtain ⟨x, hx, _, ⟨y, hy, _, ⟨z, hz, _, ⟨u, hu, _, ⟨v, hv, _, ⟨w, hw, _, rfl, rfl⟩, rfl⟩, rfl⟩, rfl⟩, rfl⟩, rfl⟩ := hns
      -- only the digits that are dropped need their bound
      have := digit?_le hu
      have := digit?_le hv
      have := digit?_le hw
      simp [ms3, hx, hy, hz]
      omega
  | k + 1, ds, us, hk, h => by
    have hl := frac?_len h
    rw [← ms3_pad hl.1]
    exact frac_truncates_pad k (by simp; omega) (by rw [frac?_pad hl.1 (by omega)]; exact h)

theorem frac_truncates {ds : List Char} {us : Nat} (h : frac? ds = some us) : ms3 ds = some (us / 1000) :=
  frac_truncates_pad (6 - ds.length) (by have := frac?_len h; omega) h

end C16Text
