import Std.Data.String.ToNat
import BareModel.Print
import BareProofs.C02Lemmas

/-!
# C02 — print/parse round trip: scanner lemmas

For every kind of token the canonical printer (`BareModel/Print.lean`) writes, the corresponding scanner of
`BareModel/ExprScan.lean` reads it back — value and rest — whatever follows (under the side conditions `Sep` / `OpSafe` /
`Follow` / `Stop` on the following text, which the printer's layout guarantees), and the scanners that
`_parse_unary_expression` tries *earlier* do not match there.  Also: `Name.render` undoes `Name.ofString`
(`render_ofString`), and every value an unsigned number literal denotes is printable (`numOk_decVal`).
-/

namespace C02
open ExprParse ExprScan Print TextRun

theorem ne_of_class {p : Char → Bool} {c d : Char} (h : p c = true) (hd : p d = false) : c ≠ d := by
  rintro rfl; rw [h] at hd; cases hd

theorem isDigit_digitChar : ∀ d, d < 10 → isDigit (digitChar d) = true := by decide
theorem digitChar_val : ∀ d, d < 10 → digitVal (digitChar d) = d := by decide

open C13Bridge in
theorem digitsVal_append (a b : List Char) : digitsVal (a ++ b) = digitsVal a * 10 ^ b.length + digitsVal b := by
  simp only [digitsVal_eq_natOf, natOf_append]

open C13Bridge in
theorem digitsVal_natDigits (n : Nat) : digitsVal (natDigits n) = n := by
  rw [digitsVal_eq_natOf, natDigits, ← C13.natStr_eq, C13.natOf_natStr]

theorem allDigits_natDigits (n : Nat) : AllDigits (natDigits n) := fun _ hc =>
  (isDigit_ascii (toNat_of_mem_toDigits hc).1 (toNat_of_mem_toDigits hc).2).1

theorem natDigits_ne_nil (n : Nat) : natDigits n ≠ [] := Nat.toDigits_ne_nil

theorem allDigits_fixDigits (k x : Nat) : AllDigits (fixDigits k x) := by
  induction k generalizing x with
  | zero => intro c hc; cases hc
  | succ k ih =>
    intro c hc
    rcases List.mem_append.mp hc with hc | hc
    · exact ih _ c hc
    · cases List.mem_singleton.mp hc; exact isDigit_digitChar _ (Nat.mod_lt _ (by omega))

theorem length_fixDigits (k x : Nat) : (fixDigits k x).length = k := by
  induction k generalizing x with
  | zero => rfl
  | succ k ih => simp [fixDigits, ih]

theorem digitsVal_fixDigits (k x : Nat) : digitsVal (fixDigits k x) = x % 10 ^ k := by
  induction k generalizing x with
  | zero => simp [fixDigits, digitsVal, Nat.mod_one]
  | succ k ih =>
    simp only [fixDigits]
    rw [digitsVal_append, ih]
    simp only [digitsVal, List.foldl_cons, List.foldl_nil, List.length_singleton, digitChar_val (x % 10) (Nat.mod_lt _ (by omega))]
    have e1 : 10 ^ (k + 1) = 10 * 10 ^ k := by rw [Nat.pow_succ, Nat.mul_comm]
    rw [e1, Nat.mod_mul]
    omega

theorem decExpFrom_sound (den : Nat) : ∀ f k j, decExpFrom den f k = some j → 10 ^ j % den = 0 := by
  intro f
  induction f with
  | zero => intro k j h; simp only [decExpFrom] at h; split at h <;> simp_all
  | succ f ih =>
    intro k j h
    simp only [decExpFrom] at h
    split at h
    · simp_all
    · exact ih _ _ h

theorem decExp_sound {q : Rat} {k : Nat} (h : decExp q = some k) : 0 ≤ q.num ∧ q.den ∣ 10 ^ k := by
  simp only [decExp] at h
  split at h
  · cases h
  · exact ⟨by omega, Nat.dvd_of_mod_eq_zero (decExpFrom_sound _ _ _ _ h)⟩

theorem decVal_int (q : Rat) (h : decExp q = some 0) : decVal false (natDigits q.num.toNat) [] 0 = q := by
  obtain ⟨hn, hd⟩ := decExp_sound h
  have hden : q.den = 1 := by simpa using hd
  simp only [decVal, List.append_nil, digitsVal_natDigits, List.length_nil]
  simp
  apply Rat.ext
  · simp [Rat.num_intCast, Int.max_eq_left hn]
  · simp [Rat.den_intCast, hden]

theorem decVal_frac (q : Rat) (k : Nat) (h : decExp q = some (k + 1)) :
    decVal false (natDigits (q.num.toNat * (10 ^ (k + 1) / q.den) / 10 ^ (k + 1)))
      (fixDigits (k + 1) (q.num.toNat * (10 ^ (k + 1) / q.den) % 10 ^ (k + 1))) 0 = q := by
  obtain ⟨hn, hd⟩ := decExp_sound h
  obtain ⟨c, hc⟩ := hd
  have hcpos : c ≠ 0 := by rintro rfl; simp at hc
  have hdiv : 10 ^ (k + 1) / q.den = c := by rw [hc]; exact Nat.mul_div_cancel_left c (Nat.pos_of_ne_zero q.den_nz)
  rw [hdiv]
  simp only [decVal, digitsVal_append, digitsVal_natDigits, digitsVal_fixDigits, length_fixDigits, Nat.mod_mod,
    Nat.div_add_mod']
  have hneg : ¬ (0 : Int) ≤ 0 - ((k + 1 : Nat) : Int) := by omega
  simp only [hneg, if_false, Bool.false_eq_true]
  have he : (-(0 - ((k + 1 : Nat) : Int))).toNat = k + 1 := by omega
  rw [he, hc]
  have : ((q.num.toNat * c : Nat) : Int) = q.num * (c : Int) := by
    rw [Int.natCast_mul, Int.toNat_of_nonneg hn]
  rw [this, Rat.mkRat_mul_right hcpos, Rat.mkRat_self]

theorem printNum_shape {q : Rat} (h : numOk q = true) :
    ∃ ip frac fp, printNum q = ip ++ frac ∧ ip ≠ [] ∧ AllDigits ip ∧ FracShape frac fp ∧ decVal false ip fp 0 = q := by
  obtain ⟨k, hk⟩ := Option.isSome_iff_exists.mp h
  cases k with
  | zero =>
    exact ⟨_, [], [], by simp [printNum, hk], natDigits_ne_nil _, allDigits_natDigits _, .none, decVal_int q hk⟩
  | succ k =>
    exact ⟨_, _, _, by simp only [printNum, hk], natDigits_ne_nil _, allDigits_natDigits _,
      .some _ (allDigits_fixDigits _ _), decVal_frac q k hk⟩

theorem printNum_head {q : Rat} (h : numOk q = true) : ∃ d r, printNum q = d :: r ∧ isDigit d = true := by
  obtain ⟨ip, frac, fp, hp, hne, hip, _⟩ := printNum_shape h
  obtain ⟨d, ip', rfl⟩ := List.exists_cons_of_ne_nil hne
  exact ⟨d, ip' ++ frac, hp, hip d List.mem_cons_self⟩

/-- the text behind a number / identifier must not continue it -/
def Sep (rest : List Char) : Prop := ∀ c t, rest = c :: t → isWord c = false ∧ c ≠ '.'

theorem sep_nil : Sep [] := by intro c t h; cases h

theorem sep_cons {c : Char} (h1 : isWord c = false) (h2 : c ≠ '.') (t : List Char) : Sep (c :: t) := by
  intro d r h; cases h; exact ⟨h1, h2⟩

theorem sep_ws_append {w : List Char} (hw : AllSpace w) {t : List Char} (ht : Sep t) : Sep (w ++ t) := by
  cases w with
  | nil => simpa using ht
  | cons x xs =>
    have hx := hw x (List.mem_cons_self ..)
    exact sep_cons (space_not_word hx) (ne_of_class hx (by decide)) _

open NumText C13 C13Bridge in
theorem ends_of_sep {rest : List Char} (h : Sep rest) : Ends rest := by
  intro c hc
  cases rest with
  | nil => cases hc
  | cons x xs =>
    cases hc
    obtain ⟨hw, hdot⟩ := h c xs rfl
    refine ⟨?_, hdot, ?_, ?_⟩
    · rw [← isDigit_eq_isDig]; exact Bool.eq_false_iff.mpr fun hd => by rw [digit_word hd] at hw; cases hw
    · rintro rfl; revert hw; decide
    · rintro rfl; revert hw; decide

open NumText C13 C13Bridge in
/-- digits and an optional fraction are the text of a token without sign and exponent -/
theorem scanNumber_dec {ip frac fp rest : List Char} (hne : ip ≠ []) (hip : AllDigits ip) (hfr : FracShape frac fp)
    (hr : Sep rest) : scanNumber (ip ++ (frac ++ rest)) = some (decVal false ip fp 0, rest) := by
  obtain ⟨fr, rfl, rfl, hfd⟩ : ∃ fr : Option (List Char), frac = fracText fr ∧ fp = fr.getD [] ∧ ∀ x, fr = some x → Digs x := by
    cases hfr with
    | none => exact ⟨none, rfl, rfl, nofun⟩
    | some fp h => exact ⟨some fp, rfl, rfl, fun x hx => by cases hx; exact allDigits_iff_digs.mp h⟩
  have hw : TokWF true ⟨.none, ip, fr, none⟩ := ⟨allDigits_iff_digs.mp hip, hfd, .inl hne, nofun⟩
  obtain ⟨d, ip', rfl⟩ := List.exists_cons_of_ne_nil hne
  have ht := scanTok_text_rest hw (ends_of_sep hr)
  simp only [Tok.text, Sign.text, expText, List.nil_append, List.append_nil, List.append_assoc] at ht
  refine scanNumber_tok.mpr ⟨⟨.none, d :: ip', fr, none⟩, ?_, val_bridge .none (d :: ip') fr none⟩
  rw [List.cons_append, skipWs_cons (digit_not_space (hip d List.mem_cons_self)), ← List.cons_append]
  exact ht

theorem escape_special {q c : Char} (h : c = '\\' ∨ c = q) (t : List Char) : escape q (c :: t) = '\\' :: c :: escape q t := by
  rw [escape, if_pos (by simpa using h)]

theorem escape_plain {q c : Char} (h1 : c ≠ '\\') (h2 : c ≠ q) (t : List Char) : escape q (c :: t) = c :: escape q t := by
  rw [escape, if_neg (by simp [h1, h2])]

theorem unescape_escape (q : Char) : ∀ s : List Char, unescape q (escape q s) = s
  | [] => rfl
  | c :: t => by
    by_cases h : c = '\\' ∨ c = q
    · rw [escape_special h, unescape.eq_def]
      simp [h, unescape_escape q t]
    · have h1 : c ≠ '\\' := fun e => h (.inl e)
      rw [escape_plain h1 (fun e => h (.inr e)), unescape.eq_def]
      simp [h1, unescape_escape q t]

/-- the printer's escaping of a string tiles, whatever follows the closing quote -/
theorem tiled_escape (q : Char) (more : Bool) : ∀ s : List Char, Tiled (strEsc q) q more (escape q s)
  | [] => .nil
  | c :: t => by
    by_cases h : c = '\\' ∨ c = q
    · rw [escape_special h]; exact .pair c _ (by simpa [strEsc] using h) (tiled_escape q more t)
    · rw [escape_plain (fun e => h (.inl e)) (fun e => h (.inr e))]
      exact .other c _ (fun e => h (.inr e)) (fun e => h (.inl e)) (tiled_escape q more t)

theorem scanString_printStr (s : String) (rest : List Char) :
    scanString '\'' (printStr s ++ rest) = some (s.toList, rest) :=
  (scanString_iff (by decide)).mpr ⟨escape '\'' s.toList,
    by rw [printStr, List.cons_append, skipWs_cons (by decide)]; simp, tiled_escape _ _ _, (unescape_escape _ _).symm⟩

theorem scanChar_ne {d c : Char} (hs : isPySpace c = false) (h : c ≠ d) (t : List Char) : scanChar d (c :: t) = none := by
  simp [scanChar, skipWs_cons hs, h]

theorem scanChar_eq (d : Char) (hs : isPySpace d = false) (t : List Char) : scanChar d (d :: t) = some t :=
  scanChar_iff.mpr (skipWs_cons hs t)

theorem scanUnaryOp_ne {c : Char} (hs : isPySpace c = false) (h1 : c ≠ '!') (h2 : c ≠ '-') (t : List Char) :
    scanUnaryOp (c :: t) = none := by
  simp [scanUnaryOp, skipWs_cons hs, unOpAlts, firstAlt, stripPrefix?, h1.symm, h2.symm]

theorem scanFuncOpen_ne {c : Char} (hs : isPySpace c = false) (h : isIdStart c = false) (t : List Char) :
    scanFuncOpen (c :: t) = none := by
  simp [scanFuncOpen, skipWs_cons hs, h]

theorem scanVariable_ne {c : Char} (hs : isPySpace c = false) (h : isIdStart c = false) (t : List Char) :
    scanVariable (c :: t) = none := by
  simp [scanVariable, skipWs_cons hs, h]

theorem scanNumber_ne {c : Char} (hs : isPySpace c = false) (h : isDigit c = false) (h1 : c ≠ '+') (h2 : c ≠ '-')
    (t : List Char) : scanNumber (c :: t) = none := by
  simp [scanNumber, skipWs_cons hs, scanSign, h1, h2, h]

theorem scanString_ne {q c : Char} (hs : isPySpace c = false) (h : c ≠ q) (t : List Char) :
    scanString q (c :: t) = none := by
  simp [scanString, skipWs_cons hs, h]

theorem isIdent_iff {cs : List Char} : isIdent cs = true ↔ IdentShape cs := by
  cases cs with
  | nil => exact ⟨fun h => (nomatch h), fun ⟨_, _, h, _⟩ => (nomatch h)⟩
  | cons c w =>
    simp only [isIdent, Bool.and_eq_true, List.all_eq_true]
    exact ⟨fun h => ⟨c, w, rfl, h⟩, fun ⟨_, _, e, h⟩ => by cases e; exact h⟩

theorem sep_not_word {rest : List Char} (h : Sep rest) : Stops isWord rest :=
  stops_iff.2 fun c t hc => (h c t hc).1

theorem scanVariable_ident {c : Char} {w : List Char} (hc : isIdStart c = true) (hw : ∀ d ∈ w, isWord d = true)
    {rest : List Char} (hr : Sep rest) : scanVariable (c :: w ++ rest) = some (c :: w, rest) :=
  scanVariable_iff.mpr ⟨skipWs_cons (word_not_space (idStart_word hc)) _, ⟨c, w, rfl, hc, hw⟩, sep_not_word hr⟩

theorem scanFuncOpen_ident_none {c : Char} {w : List Char} (hc : isIdStart c = true) (hw : ∀ d ∈ w, isWord d = true)
    {rest : List Char} (hr : Sep rest) (hp : ∀ t, skipWs rest ≠ '(' :: t) : scanFuncOpen (c :: w ++ rest) = none :=
  Option.eq_none_iff_forall_ne_some.mpr fun ⟨n, r⟩ e => by
    obtain ⟨x, hv, hx⟩ := scanFuncOpen_iff.mp e
    rw [scanVariable_ident hc hw hr] at hv
    cases hv
    exact hp r (scanChar_iff.mp hx)

theorem scanFuncOpen_ident {c : Char} {w w1 : List Char} (hc : isIdStart c = true) (hw : ∀ d ∈ w, isWord d = true)
    (hw1 : AllSpace w1) (body : List Char) : scanFuncOpen (c :: w ++ (w1 ++ '(' :: body)) = some (c :: w, body) :=
  scanFuncOpen_iff.mpr ⟨_, scanVariable_ident hc hw (sep_ws_append hw1 (sep_cons (c := '(') (by decide) (by decide) body)),
    scanChar_iff.mpr (by rw [skipWs_append hw1, skipWs_cons (by decide)])⟩

theorem escape_cons_head (q c : Char) (t : List Char) (hq : q ≠ '\\') :
    ∃ d r, escape q (c :: t) = d :: r ∧ d ≠ q ∧ (d = c ∨ d = '\\') := by
  by_cases h : c = '\\' ∨ c = q
  · exact ⟨'\\', c :: escape q t, escape_special h t, fun e => hq e.symm, .inr rfl⟩
  · exact ⟨c, escape q t, escape_plain (fun e => h (.inl e)) (fun e => h (.inr e)) t, fun e => h (.inr e), .inl rfl⟩

/-- the printer's escaping of a name that does not end in a backslash tiles, whatever follows the closing bracket -/
theorem tiled_escape_br (more : Bool) : ∀ s : List Char, s.getLast? ≠ some '\\' → Tiled brEsc ']' more (escape ']' s)
  | [] => fun _ => .nil
  | c :: t => fun hl => by
    have hl' : t.getLast? ≠ some '\\' := by
      cases t with
      | nil => simp
      | cons x xs => simpa [List.getLast?_cons_cons] using hl
    have ih := tiled_escape_br more t hl'
    by_cases hb : c = '\\'
    · subst hb
      cases t with
      | nil => simp at hl
      | cons x xs =>
        -- `\` is written `\\`; in a bracketed name only `\]` pairs, so both backslashes stand alone in front of what follows
        obtain ⟨d, r, hd, hdq, _⟩ := escape_cons_head ']' x xs (by decide)
        rw [escape_special (.inl rfl)]
        rw [hd] at ih ⊢
        exact .lone '\\' _ (by decide) (.lone d r (by simpa [brEsc] using hdq) ih)
    · by_cases hq : c = ']'
      · subst hq; rw [escape_special (.inr rfl)]; exact .pair ']' _ (by decide) ih
      · rw [escape_plain hb hq]; exact .other c _ hq hb ih

theorem bracketOk_singleton (c : Char) : bracketOk [c] = (c != '\\') := rfl

theorem bracketOk_cons_cons (c x : Char) (xs : List Char) :
    bracketOk (c :: x :: xs) = (!isPySpace c && (x :: xs).getLast? != some '\\') := rfl

theorem bracketOk_cases {cs : List Char} (h : bracketOk cs = true) :
    (∃ w, cs = [w] ∧ isPySpace w = true) ∨
    (∃ c t, cs = c :: t ∧ isPySpace c = false ∧ cs.getLast? ≠ some '\\') := by
  rcases cs with _ | ⟨c, _ | ⟨x, xs⟩⟩
  · exact Bool.noConfusion h
  · simp only [bracketOk_singleton, bne_iff_ne, ne_eq] at h
    cases hs : isPySpace c with
    | true => exact Or.inl ⟨c, rfl, hs⟩
    | false => exact Or.inr ⟨c, [], rfl, hs, by simpa using h⟩
  · simp only [bracketOk_cons_cons, Bool.and_eq_true, Bool.not_eq_true', bne_iff_ne, ne_eq] at h
    exact Or.inr ⟨c, x :: xs, rfl, h.1, by simpa [List.getLast?_cons_cons] using h.2⟩

theorem scanVariableEx_bracket {cs : List Char} (h : bracketOk cs = true) (rest : List Char) :
    scanVariableEx ('[' :: (escape ']' cs ++ ']' :: rest)) = some (cs, rest) := by
  rw [scanVariableEx_iff, skipWs_cons (by decide)]
  rcases bracketOk_cases h with ⟨w, rfl, hw⟩ | ⟨c, t, rfl, hc, hl⟩
  · -- one blank: the name the engine finds by giving it back
    have h1 : w ≠ '\\' := by rintro rfl; revert hw; decide
    have h2 : w ≠ ']' := by rintro rfl; revert hw; decide
    refine ⟨[w], ']' :: rest, by simp [escape, h1, h2], fun c hc => by rw [List.mem_singleton.mp hc]; exact hw,
      stops_cons (by decide), .inl ⟨[], w, rfl, rfl, rfl⟩⟩
  · obtain ⟨d, r, hd, _, hdc⟩ := escape_cons_head ']' c t (by decide)
    have hds : isPySpace d = false := by
      rcases hdc with rfl | rfl
      · exact hc
      · decide
    refine ⟨[], _, rfl, fun _ h => (nomatch h), by rw [hd]; exact stops_cons hds,
      .inr ⟨escape ']' (c :: t), rfl, by rw [hd]; exact List.cons_ne_nil _ _, tiled_escape_br _ _ hl, (unescape_escape _ _).symm⟩⟩

theorem stripPrefix?_self : ∀ (p r : List Char), stripPrefix? p (p ++ r) = some r
  | [], _ => rfl
  | a :: ps, r => by rw [List.cons_append, stripPrefix?, if_pos rfl, stripPrefix?_self ps r]

/-- text appended behind a failed literal can only help if the literal was failing for lack of text -/
theorem stripPrefix?_append_none {p t s : List Char} (h : stripPrefix? p t = none)
    (hs : ∀ c y, p = t ++ c :: y → s.head? ≠ some c) : stripPrefix? p (t ++ s) = none := by
  induction p generalizing t with
  | nil => cases h
  | cons a ps ih =>
    cases t with
    | nil =>
      cases s with
      | nil => rfl
      | cons d s' => rw [List.nil_append, stripPrefix?, if_neg fun e => hs a ps rfl (by rw [e]; rfl)]
    | cons c t' =>
      rw [stripPrefix?] at h
      rw [List.cons_append, stripPrefix?]
      by_cases e : a = c
      · rw [if_pos e] at h ⊢
        exact ih h fun c' y hp => hs c' y (by rw [hp, e]; rfl)
      · rw [if_neg e]

/-- the alternation picks the same alternative on a longer text, unless an alternative extends the matched text into it -/
theorem firstAlt_append {α : Type} {alts : List (List Char × α)} {t r : List Char} {a : α} (s : List Char)
    (h : firstAlt alts t = some (a, r)) (hs : ∀ x ∈ alts, ∀ c y, x.1 = t ++ c :: y → s.head? ≠ some c) :
    firstAlt alts (t ++ s) = some (a, r ++ s) := by
  induction alts with
  | nil => cases h
  | cons x rest ih =>
    obtain ⟨p, b⟩ := x
    rw [firstAlt] at h ⊢
    cases hp : stripPrefix? p t with
    | some r' =>
      rw [hp] at h
      cases h
      rw [stripPrefix_spec p t r hp, List.append_assoc, stripPrefix?_self]
    | none =>
      rw [hp] at h
      rw [stripPrefix?_append_none hp (hs _ List.mem_cons_self)]
      exact ih h fun x hx => hs x (List.mem_cons_of_mem _ hx)

theorem binText_head (op : BinOp) :
    ∃ c u, op.text.toList = c :: u ∧ isPySpace c = false ∧ isWord c = false ∧ c ≠ '.' ∧ c ≠ '(' := by
  have := (by decide +kernel : ∀ op ∈ BinOp.all, ∃ c ∈ op.text.toList.head?,
    isPySpace c = false ∧ isWord c = false ∧ c ≠ '.' ∧ c ≠ '(') op (BinOp.mem_all op)
  obtain ⟨c, hc, h⟩ := this
  obtain ⟨u, hu⟩ := List.head?_eq_some_iff.mp hc
  exact ⟨c, u, hu, h⟩

/-- the text behind a binary operator must not extend it (`*` + `*`, `<` + `=`, `>` + `=`) -/
def OpSafe (s : List Char) : Prop := ∀ c t, s = c :: t → c ≠ '*' ∧ c ≠ '='

theorem scanBinOp_text (op : BinOp) (s : List Char) (hs : OpSafe s) : scanBinOp (op.text.toList ++ s) = some (op, s) := by
  -- alone, the text of `op` is matched by its own alternative; an alternative that extends it does so by `*` or `=`
  obtain ⟨h0, hext⟩ := (by decide +kernel : ∀ op ∈ BinOp.all, firstAlt binOpAlts op.text.toList = some (op, []) ∧
    ∀ x ∈ binOpAlts, op.text.toList <+: x.1 → (x.1.drop op.text.toList.length).head? ∈ [none, some '*', some '=']) op
    (BinOp.mem_all op)
  obtain ⟨c, u, hcu, hc, _⟩ := binText_head op
  rw [scanBinOp, hcu, List.cons_append, skipWs_cons hc, ← List.cons_append, ← hcu]
  refine firstAlt_append s h0 fun x hx d y hxy hd => ?_
  have := hext x hx ⟨d :: y, hxy.symm⟩
  rw [hxy, List.drop_left] at this
  obtain ⟨t, rfl⟩ := List.head?_eq_some_iff.mp hd
  rcases List.mem_cons.mp this with e | this
  · cases e
  rcases List.mem_cons.mp this with e | this
  · exact (hs d t rfl).1 (Option.some.inj e)
  · exact (hs d t rfl).2 (Option.some.inj (List.mem_singleton.mp this))

theorem scanUnaryOp_text (op : UnOp) (s : List Char) : scanUnaryOp (op.text.toList ++ s) = some (op, s) := by
  cases op <;> simp [scanUnaryOp, UnOp.text, skipWs, isPySpace, unOpAlts, firstAlt, stripPrefix?]

theorem scanGroupOpen_unText (op : UnOp) (s : List Char) : scanGroupOpen (op.text.toList ++ s) = none := by
  cases op <;> simp [scanGroupOpen, scanChar, UnOp.text, skipWs, isPySpace]

/-- the text behind an operand: it does not continue a number or identifier (`Sep`), and it does not turn an identifier
into a call (`name \s* (`) -/
def Follow (rest : List Char) : Prop := Sep rest ∧ ∀ t, skipWs rest ≠ '(' :: t

/-- the text behind a complete binary chain: additionally no binary operator follows -/
def Stop (rest : List Char) : Prop := Follow rest ∧ scanBinOp rest = none

theorem follow_ws_append {w : List Char} (hw : AllSpace w) {t : List Char} (ht : Follow t) : Follow (w ++ t) :=
  ⟨sep_ws_append hw ht.1, by rw [skipWs_append hw]; exact ht.2⟩

theorem follow_nil : Follow [] := ⟨sep_nil, by intro t; simp [skipWs]⟩

theorem follow_cons {c : Char} (hs : isPySpace c = false) (h1 : isWord c = false) (h2 : c ≠ '.') (h3 : c ≠ '(')
    (t : List Char) : Follow (c :: t) :=
  ⟨sep_cons h1 h2 t, by intro r; rw [skipWs_cons hs]; intro h; cases h; exact h3 rfl⟩

theorem stop_ws_append {w : List Char} (hw : AllSpace w) {t : List Char} (ht : Stop t) : Stop (w ++ t) :=
  ⟨follow_ws_append hw ht.1, by rw [skips_binOp.ws hw]; exact ht.2⟩

theorem stop_nil : Stop [] := ⟨follow_nil, by simp [scanBinOp, skipWs, binOpAlts, firstAlt, stripPrefix?]⟩
theorem stop_close (t : List Char) : Stop (')' :: t) :=
  ⟨follow_cons (by decide) (by decide) (by decide) (by decide) t,
    by simp [scanBinOp, skipWs, isPySpace, binOpAlts, firstAlt, stripPrefix?]⟩
theorem stop_comma (t : List Char) : Stop (',' :: t) :=
  ⟨follow_cons (by decide) (by decide) (by decide) (by decide) t,
    by simp [scanBinOp, skipWs, isPySpace, binOpAlts, firstAlt, stripPrefix?]⟩

theorem follow_binText (op : BinOp) (s : List Char) : Follow (op.text.toList ++ s) := by
  obtain ⟨c, u, hcu, hc, h1, h2, h3⟩ := binText_head op
  rw [hcu]
  exact follow_cons hc h1 h2 h3 _

theorem parseUnary_atom {t : List Char} (hg : scanGroupOpen t = none) (hu : scanUnaryOp t = none)
    (hf : scanFuncOpen t = none) (fuel : Nat) : parseUnary fuel t = parseAtom t := by
  cases fuel <;> simp [parseUnary, hg, hu, hf]

theorem parseUnary_group {f : Nat} {t gt nt r : List Char} {x : Expr} (hg : scanGroupOpen t = some gt)
    (hb : parseBinary f gt = .ok (x, nt)) (hc : scanClose nt = some r) : parseUnary (f + 1) t = .ok (.group x, r) := by
  rw [parseBinary] at hb
  simp only [parseUnary, hg, hb, hc]

theorem parseUnary_unary {f : Nat} {t ut r : List Char} {op : UnOp} {x : Expr} (hg : scanGroupOpen t = none)
    (hu : scanUnaryOp t = some (op, ut)) (hx : parseUnary f ut = .ok (x, r)) : parseUnary (f + 1) t = .ok (.unary op x, r) := by
  simp only [parseUnary, hg, hu, hx]

theorem parseUnary_call {f : Nat} {t name rt r : List Char} {args : List Expr} (hg : scanGroupOpen t = none)
    (hu : scanUnaryOp t = none) (hf : scanFuncOpen t = some (name, rt))
    (ha : argsLoop (parseBinary f) f [] rt = .ok (args, r)) :
    parseUnary (f + 1) t = .ok (.function (Name.ofString (String.ofList name)) args, r) := by
  unfold parseBinary at ha
  simp only [parseUnary, hg, hu, hf, ha]

theorem parseAtom_number {t r : List Char} {q : Rat} (h : scanNumber t = some (q, r)) : parseAtom t = .ok (.number q, r) := by
  simp only [parseAtom, h]

theorem parseAtom_string {t r s : List Char} (hn : scanNumber t = none) (h : scanString '\'' t = some (s, r)) :
    parseAtom t = .ok (.string (String.ofList s), r) := by
  simp only [parseAtom, hn, h]

theorem parseAtom_variable {t r n : List Char} (hn : scanNumber t = none) (h1 : scanString '\'' t = none)
    (h2 : scanString '"' t = none) (h : scanVariable t = some (n, r)) :
    parseAtom t = .ok (.variable (Name.ofString (String.ofList n)), r) := by
  simp only [parseAtom, hn, h1, h2, h]

theorem parseAtom_variableEx {t r n : List Char} (hn : scanNumber t = none) (h1 : scanString '\'' t = none)
    (h2 : scanString '"' t = none) (h3 : scanVariable t = none) (h : scanVariableEx t = some (n, r)) :
    parseAtom t = .ok (.variable (Name.ofString (String.ofList n)), r) := by
  simp only [parseAtom, hn, h1, h2, h3, h]

theorem parseUnary_number {q : Rat} (h : numOk q = true) {rest : List Char} (hr : Follow rest) (fuel : Nat) :
    parseUnary fuel (printNum q ++ rest) = .ok (.number q, rest) := by
  obtain ⟨ip, frac, fp, hp, hne, hip, hfr, rfl⟩ := printNum_shape h
  have hscan := scanNumber_dec hne hip hfr hr.1
  obtain ⟨d, ip', rfl⟩ := List.exists_cons_of_ne_nil hne
  have hdd := hip d List.mem_cons_self
  have hs := digit_not_space hdd
  rw [hp, List.append_assoc]
  exact (parseUnary_atom (scanChar_ne hs (ne_of_class hdd (by decide)) _)
    (scanUnaryOp_ne hs (ne_of_class hdd (by decide)) (ne_of_class hdd (by decide)) _)
    (scanFuncOpen_ne hs (digit_not_idStart hdd) _) fuel).trans (parseAtom_number hscan)

theorem parseUnary_string (s : String) (rest : List Char) (fuel : Nat) :
    parseUnary fuel (printStr s ++ rest) = .ok (.string s, rest) := by
  have hs : isPySpace '\'' = false := by decide
  have := parseAtom_string (scanNumber_ne hs (by decide) (by decide) (by decide) _) (scanString_printStr s rest)
  rw [String.ofList_toList] at this
  rw [← this]
  exact parseUnary_atom (scanChar_ne hs (by decide) _) (scanUnaryOp_ne hs (by decide) (by decide) _)
    (scanFuncOpen_ne hs (by decide) _) fuel

theorem parseUnary_variable {n : Name} (h : varOk n = true) {rest : List Char} (hr : Follow rest) (fuel : Nat) :
    parseUnary fuel (printVar n ++ rest) = .ok (.variable n, rest) := by
  simp only [varOk, nameOk, Bool.and_eq_true, decide_eq_true_eq, Bool.or_eq_true] at h
  obtain ⟨hname, hshape⟩ := h
  have hback : Name.ofString (String.ofList n.render.toList) = n := by rw [String.ofList_toList]; exact hname
  by_cases hid : isIdent n.render.toList = true
  · obtain ⟨c, x, hcx, hc, hx⟩ := isIdent_iff.mp hid
    have hs := word_not_space (idStart_word hc)
    have hne : ∀ {d}, isIdStart d = false → c ≠ d := ne_of_class hc
    rw [show printVar n = c :: x by rw [printVar, if_pos hid, hcx], ← hback, hcx]
    exact (parseUnary_atom (scanChar_ne hs (hne (by decide)) _) (scanUnaryOp_ne hs (hne (by decide)) (hne (by decide)) _)
      (scanFuncOpen_ident_none hc hx hr.1 hr.2) fuel).trans
      (parseAtom_variable (scanNumber_ne hs (idStart_not_digit hc) (hne (by decide)) (hne (by decide)) _)
        (scanString_ne hs (hne (by decide)) _) (scanString_ne hs (hne (by decide)) _) (scanVariable_ident hc hx hr.1))
  · have hbr : bracketOk n.render.toList = true := hshape.resolve_left hid
    have hs : isPySpace '[' = false := by decide
    rw [show printVar n ++ rest = '[' :: (escape ']' n.render.toList ++ ']' :: rest) by simp [printVar, hid]]
    conv => rhs; rw [← hback]
    exact (parseUnary_atom (scanChar_ne hs (by decide) _) (scanUnaryOp_ne hs (by decide) (by decide) _)
      (scanFuncOpen_ne hs (by decide) _) fuel).trans <| parseAtom_variableEx (scanNumber_ne hs (by decide) (by decide) (by decide) _) (scanString_ne hs (by decide) _)
      (scanString_ne hs (by decide) _) (scanVariable_ne hs (by decide) _) (scanVariableEx_bracket hbr rest)

theorem digitChar_of_isDigit {c : Char} (h : c.isDigit = true) : Nat.digitChar (c.toNat - 48) = c := by
  obtain ⟨h1, h2⟩ := toNat_of_isDigit h
  rw [(by decide : ∀ k, k < 10 → Nat.digitChar k = Char.ofNat (48 + k)) _ (by omega)]
  have : 48 + (c.toNat - 48) = c.toNat := by omega
  rw [this, Char.ofNat_toNat]

theorem toDigits_ofDigitChars : ∀ (n : Nat) (ds : List Char), ds.length = n → ds ≠ [] → (∀ c ∈ ds, c.isDigit = true) →
    (ds.length = 1 ∨ ds.head? ≠ some '0') → Nat.toDigits 10 (Nat.ofDigitChars 10 ds 0) = ds := by
  intro n
  induction n with
  | zero => intro ds hl hne; simp at hl; exact absurd hl hne
  | succ n ih =>
    intro ds hl hne hall hcan
    rcases List.eq_nil_or_concat ds with h | ⟨init, d, rfl⟩
    · exact absurd h hne
    · have hd : d.isDigit = true := hall d (by simp)
      obtain ⟨hd1, hd2⟩ := toNat_of_isDigit hd
      have hinit : ∀ c ∈ init, c.isDigit = true := fun c hc => hall c (by simp [hc])
      simp only [List.concat_eq_append, Nat.ofDigitChars_append, Nat.ofDigitChars_cons, Nat.ofDigitChars_nil]
      by_cases hi : init = []
      · subst hi
        simp only [Nat.ofDigitChars_nil, Nat.mul_zero, Nat.zero_add, List.nil_append]
        rw [Nat.toDigits_of_lt_base (by simp; omega)]
        simp only [Char.reduceToNat]
        rw [digitChar_of_isDigit hd]
      · have hlen : init.length = n := by simpa using hl
        have hhead : init.head? ≠ some '0' := by
          rcases hcan with h | h
          · simp at h; exact absurd h hi
          · cases init with
            | nil => exact absurd rfl hi
            | cons x xs => simpa using h
        have ihi := ih init hlen hi hinit (Or.inr hhead)
        have hpos : 0 < Nat.ofDigitChars 10 init 0 := by
          rcases Nat.eq_zero_or_pos (Nat.ofDigitChars 10 init 0) with h0 | h0
          · rw [h0, Nat.toDigits_zero] at ihi
            rw [← ihi] at hhead; simp at hhead
          · exact h0
        have := Nat.toDigits_append_toDigits (b := 10) (n := Nat.ofDigitChars 10 init 0) (d := d.toNat - '0'.toNat) (by decide) hpos
          (by simp; omega)
        rw [← this, ihi, Nat.toDigits_of_lt_base (by simp; omega)]
        simp only [Char.reduceToNat]
        rw [digitChar_of_isDigit hd]

theorem canonDigits_spec {ds : List Char} {n : Nat} (h : canonDigits ds = some n) : Nat.toDigits 10 n = ds := by
  simp only [canonDigits] at h
  split at h
  · cases h
  · rename_i h1
    split at h
    · cases h
    · rename_i h2
      simp only [Bool.or_eq_true, List.isEmpty_iff, Bool.not_eq_true', not_or, Bool.not_eq_false] at h1
      obtain ⟨hne, hall⟩ := h1
      have hall' : ∀ c ∈ ds, c.isDigit = true := List.all_eq_true.mp hall
      have hnat := String.isNat_of_toNat?_eq_some h
      rw [String.toNat?_eq_some_ofDigitChars hnat] at h
      simp only [Option.some.injEq, String.toList_ofList] at h
      have hfil : ds.filter (fun c => c != '_') = ds := by
        apply List.filter_eq_self.mpr
        intro c hc
        have := hall' c hc
        simp only [bne_iff_ne, ne_eq]
        rintro rfl; simp at this
      rw [hfil] at h
      subst h
      refine toDigits_ofDigitChars ds.length ds rfl hne hall' ?_
      simp only [Bool.and_eq_true, decide_eq_true_eq, beq_iff_eq, not_and] at h2
      by_cases hl : ds.length > 1
      · exact Or.inr (h2 hl)
      · left
        have : ds.length ≠ 0 := by simpa [List.length_eq_zero_iff] using hne
        omega

theorem isPrefixOf_split {p l : List Char} (h : p.isPrefixOf l = true) : l = p ++ l.drop p.length := by
  obtain ⟨t, rfl⟩ := List.isPrefixOf_iff_prefix.mp h
  simp

/-- rendering a parsed identifier gives the identifier back (a generated name is recognised only in its canonical spelling) -/
theorem render_ofString (s : String) : (Name.ofString s).render = s := by
  unfold Name.ofString
  simp only
  split
  · rename_i hpre
    split
    · rename_i nm hfind
      obtain ⟨k, _, hk⟩ := List.exists_of_findSome?_eq_some hfind
      split at hk
      · rename_i hkt
        simp only [Option.map_eq_some_iff] at hk
        obtain ⟨n, hcd, rfl⟩ := hk
        have h1 := isPrefixOf_split hpre
        have h2 := isPrefixOf_split hkt
        have h3 := canonDigits_spec hcd
        apply String.toList_inj.mp
        simp only [Name.render, String.toList_append, Nat.toString_eq_repr, Nat.toList_repr]
        rw [h3, List.append_assoc, ← h2, ← h1]
      · cases hk
    · rfl
  · rfl

theorem ofString_render_ofString (s : String) : Name.ofString (Name.ofString s).render = Name.ofString s := by
  rw [render_ofString]

theorem dvd_pow_log2 : ∀ (n d : Nat), d ≤ n → d ≠ 0 → (∃ j, d ∣ 10 ^ j) → d ∣ 10 ^ d.log2 := by
  intro n
  induction n with
  | zero => intro d hd h0; omega
  | succ n ih =>
    intro d hd h0 ⟨j, hj⟩
    by_cases h1 : d = 1
    · subst h1; exact Nat.one_dvd _
    · have hg : 2 ≤ Nat.gcd d 10 := by
        rcases Nat.lt_or_ge (Nat.gcd d 10) 2 with hlt | hge
        · exfalso
          have hpos : 0 < Nat.gcd d 10 := Nat.gcd_pos_of_pos_right _ (by decide)
          have hc : Nat.Coprime d 10 := by unfold Nat.Coprime; omega
          have hc' : Nat.Coprime d (10 ^ j) := Nat.Coprime.pow_right j hc
          exact h1 (Nat.Coprime.eq_one_of_dvd hc' hj)
        · exact hge
      obtain ⟨d', hd'⟩ := Nat.gcd_dvd_left d 10
      have hd'pos : d' ≠ 0 := by rintro rfl; simp at hd'; exact h0 hd'
      have hlt : 2 * d' ≤ d := by
        calc 2 * d' ≤ Nat.gcd d 10 * d' := Nat.mul_le_mul_right _ hg
          _ = d := hd'.symm
      have hd'dvd : d' ∣ d := ⟨Nat.gcd d 10, by rw [Nat.mul_comm]; exact hd'⟩
      have ih' := ih d' (by omega) hd'pos ⟨j, Nat.dvd_trans hd'dvd hj⟩
      have hlog : d'.log2 + 1 ≤ d.log2 := by
        have hlt2 : d'.log2 < d.log2 := by
          rw [Nat.log2_lt hd'pos]
          have := Nat.log2_self_le h0
          have h3 : d < 2 ^ (d.log2 + 1) := Nat.lt_log2_self
          rw [Nat.pow_succ] at h3
          omega
        omega
      have h10 : Nat.gcd d 10 ∣ 10 := Nat.gcd_dvd_right d 10
      have : d ∣ 10 ^ (d'.log2 + 1) := by
        rw [Nat.pow_succ, Nat.mul_comm, hd']
        exact Nat.mul_dvd_mul h10 ih'
      exact Nat.dvd_trans this (Nat.pow_dvd_pow 10 hlog)

theorem decExpFrom_complete (den : Nat) : ∀ (f k j : Nat), k ≤ j → j ≤ k + f → 10 ^ j % den = 0 →
    (decExpFrom den f k).isSome = true := by
  intro f
  induction f with
  | zero =>
    intro k j h1 h2 h3
    have : j = k := by omega
    subst this
    simp [decExpFrom, h3]
  | succ f ih =>
    intro k j h1 h2 h3
    simp only [decExpFrom]
    split
    · rfl
    · rename_i hk
      have : k ≠ j := by rintro rfl; exact hk h3
      exact ih (k + 1) j (by omega) (by omega) h3

theorem numOk_of_dvd {q : Rat} (hn : 0 ≤ q.num) (hd : ∃ j, q.den ∣ 10 ^ j) : numOk q = true := by
  have h := dvd_pow_log2 q.den q.den (Nat.le_refl _) q.den_nz hd
  simp only [numOk, decExp, show ¬ q.num < 0 by omega, if_false]
  exact decExpFrom_complete q.den q.den.log2 0 q.den.log2 (Nat.zero_le _) (by omega) (Nat.mod_eq_zero_of_dvd h)

/-- every value an unsigned number literal can denote is printable -/
theorem numOk_decVal (ip fp : List Char) (ex : Int) : numOk (decVal false ip fp ex) = true := by
  simp only [decVal, Bool.false_eq_true, if_false]
  split
  · apply numOk_of_dvd
    · rw [Rat.num_intCast]
      exact Int.mul_nonneg (Int.natCast_nonneg _) (Int.pow_nonneg (by decide))
    · exact ⟨0, by rw [Rat.den_intCast]; exact Nat.one_dvd _⟩
  · apply numOk_of_dvd
    · rw [Rat.num_mkRat]
      split
      · exact Int.le_refl 0
      · exact Int.ediv_nonneg (Int.natCast_nonneg _) (Int.natCast_nonneg _)
    · refine ⟨(-(ex - (fp.length : Int))).toNat, ?_⟩
      rw [Rat.den_mkRat]
      split
      · exact Nat.one_dvd _
      · exact Nat.div_dvd_of_dvd (Nat.gcd_dvd_left _ _)

end C02
