import BareProofs.C19CsvText
import BareProofs.C02

/-!
C19 extension: the text round trip on the example table of `C19CsvText`, and tables that violate one side condition each.
-/

namespace C19CsvText
open Compare Data CsvText

example :
    readRecords (splitLines (writeCsvWith .crlf true ["k", "v,w"] [["", " \"x\"\r\n,"], ["é\u2028😀", ""], ["\n", "\r"]]).toList) =
      .ok [["k", "v,w"], ["", " \"x\"\r\n,"], ["é\u2028😀", ""], ["\n", "\r"]] ∧
    writeCsvWith .crlf true ["k", "v,w"] [["", " \"x\"\r\n,"], ["é\u2028😀", ""], ["\n", "\r"]] =
      "k,\"v,w\"\r\n,\" \"\"x\"\"\r\n,\"\r\né\u2028😀,\r\n\"\n\",\"\r\"\r\n" :=
  ⟨csv_records_roundtrip _ _ _ _ (by decide +kernel), by kernel_rfl⟩

/-- non-vacuity of `csv_text_roundtrip`: the hypotheses hold for the table above; the text it is written as; what comes back -/
example :
    writeCsv "null" (fun _ => 20700) exHeader exRows =
      "id,\"name, \"\"quoted\"\"\",when,ok,note\n17,\"a,b\",2024-02-29T01:02:03.045+05:45,true,null\nnull,\"say \"\"hi\"\"\",null,null,2024-02-30\n1.5e-07,\"line1\nline2\r\nline3\rend\",1999-12-31T23:59:59+05:45,false,12\n-2,,null,null,\" naïve 😀,  \"\n123,null,null,true,true" ∧
    parseCsv (fun _ => 20700) (writeCsv "null" (fun _ => 20700) exHeader exRows) = .ok ⟨some exHeader, expectedRows exHeader exRows⟩ ∧
    (expectedRows exHeader exRows)[1]? = some ⟨[("id", .null), ("name, \"quoted\"", .str "say \"hi\""), ("when", .null), ("ok", .null),
      ("note", .str "2024-02-30")], none⟩ :=
  ⟨by kernel_rfl, csv_text_roundtrip _ _ _ _ _ exTable_ok, by decide +kernel⟩

/-- the same table with CRLF line ends and a line end after the last record; typed columns only, nulls as empty cells;
one column whose only record is the empty string (written `""`) -/
example :
    parseCsv (fun _ => 20700) (writeCsvLE .crlf true "null" (fun _ => 20700) exHeader exRows) = .ok ⟨some exHeader, expectedRows exHeader exRows⟩ ∧
    parseCsv (fun _ => 0) (writeCsvLE .cr false "" (fun _ => 0) ["n", "b"] [[.null, .bool true], [.num (.int 5), .null]]) =
      .ok ⟨some ["n", "b"], expectedRows ["n", "b"] [[.null, .bool true], [.num (.int 5), .null]]⟩ ∧
    writeCsv "null" (fun _ => 0) ["s"] [[.str ""], [.str "x"]] = "s\n\"\"\nx" ∧
    parseCsv (fun _ => 0) (writeCsv "null" (fun _ => 0) ["s"] [[.str ""], [.str "x"]]) = .ok ⟨some ["s"], expectedRows ["s"] [[.str ""], [.str "x"]]⟩ :=
  ⟨csv_text_roundtrip_lineend _ _ _ _ _ _ _ exTable_ok,
   csv_text_roundtrip_lineend _ _ _ _ _ _ _ (by decide +kernel),
   by decide +kernel,
   csv_text_roundtrip _ _ _ _ _ (by decide +kernel)⟩

/-- the rows of a parse, for the examples below -/
def rowsOf (r : Except ParseError Parsed) : Option (List Row) :=
  match r with
  | .ok p => some (p.rows.map (·.row))
  | .error _ => none

/-- **the side conditions are needed** (each line: a table that violates exactly one of them, and what `dataParseCSV` returns):
a string with a leading blank loses it (`skipinitialspace`); the string `12` at the head of a string column is read as a
number; the string `null` is read as null; a string column with nulls written as empty cells gets empty strings back; a
number column all of whose cells are null, written as empty cells, is a string column of empty strings. -/
example :
    rowsOf (parseCsv (fun _ => 0) (writeCsv "null" (fun _ => 0) ["s"] [[.str " x"]])) = some [[("s", .str "x")]] ∧
    rowsOf (parseCsv (fun _ => 0) (writeCsv "null" (fun _ => 0) ["s"] [[.str "12"], [.str "x"]])) = none ∧
    rowsOf (parseCsv (fun _ => 0) (writeCsv "null" (fun _ => 0) ["s"] [[.str "12"]])) = some [[("s", .num 12)]] ∧
    rowsOf (parseCsv (fun _ => 0) (writeCsv "null" (fun _ => 0) ["s"] [[.str "null"], [.str "x"]])) = some [[("s", .null)], [("s", .str "x")]] ∧
    rowsOf (parseCsv (fun _ => 0) (writeCsv "" (fun _ => 0) ["s", "t"] [[.null, .str "y"], [.str "x", .null]])) =
      some [[("s", .str ""), ("t", .str "y")], [("s", .str "x"), ("t", .str "")]] ∧
    rowsOf (parseCsv (fun _ => 0) (writeCsv "" (fun _ => 0) ["n", "t"] [[.null, .str "y"]])) = some [[("n", .str ""), ("t", .str "y")]] := by
  decide +kernel

end C19CsvText
