import BareProofs.C11

/-!
# C11Opt — traversals that may fail, and the lexicographic loop of a host against `C11.IsLex`

Each host compares heap values with a fuelled function that may give no answer, and a heap value is read back as a closed value by a
partial map.  That the one computes `Compare.valueCompare` of what the other reads back is shown twice, for the machine host
(`valueCompare_bridge` in C11BridgeLemmas) and for the heap of the library (`C15More.vcmp_reify_le` in C15MoreSortLemmas), by one
argument.  What the two proofs share is here; it mentions no host, so the library side imports it without the machine.

`mapOpt` is `mapM` in `Option`; `itemOpt` converts the value of an object item and keeps the key.
`IsLexOpt c L` says that `L` is the lexicographic loop over an element comparison `c` that may give no answer;
`IsLexOpt.bridge`: if `c` answers with `c'` on what two partial maps read back, `L` answers with the `C11.IsLex` loop of `c'`.
`insertBy_mapOpt`: insertion commutes with a partial map that keeps the order.
-/

namespace C11Bridge

/-- `mapM` in `Option`, written out (all elements must succeed) -/
def mapOpt {α β : Type} (f : α → Option β) : List α → Option (List β)
  | [] => some []
  | x :: xs =>
    match f x, mapOpt f xs with
    | some y, some ys => some (y :: ys)
    | _, _ => none

theorem mapOpt_nil_iff {α β : Type} (f : α → Option β) (l : List β) : mapOpt f [] = some l ↔ l = [] := by
  simp [mapOpt, eq_comm]

theorem mapOpt_cons_iff {α β : Type} (f : α → Option β) (x : α) (xs : List α) (l : List β) :
    mapOpt f (x :: xs) = some l ↔ ∃ y ys, f x = some y ∧ mapOpt f xs = some ys ∧ l = y :: ys := by
  simp only [mapOpt]
  cases hx : f x <;> cases hxs : mapOpt f xs <;> simp [eq_comm]

theorem mapOpt_length {α β : Type} (f : α → Option β) :
    ∀ (xs : List α) (l : List β), mapOpt f xs = some l → l.length = xs.length
  | [], l, h => by simp [(mapOpt_nil_iff f l).mp h]
  | x :: xs, l, h => by
    obtain ⟨y, ys, _, h2, rfl⟩ := (mapOpt_cons_iff f x xs l).mp h
    simp [mapOpt_length f xs ys h2]

theorem mapOpt_getElem {α β : Type} (f : α → Option β) : ∀ (xs : List α) (l : List β), mapOpt f xs = some l →
    ∀ (i : Nat) x, xs[i]? = some x → ∃ y, l[i]? = some y ∧ f x = some y
  | [], _, _, i, x, hx => by simp at hx
  | x0 :: xs, l, h, i, x, hx => by
    obtain ⟨y, ys, h1, h2, rfl⟩ := (mapOpt_cons_iff f x0 xs l).mp h
    cases i with
    | zero => cases hx; exact ⟨y, rfl, h1⟩
    | succ i => exact mapOpt_getElem f xs ys h2 i x hx

theorem mapOpt_getElem' {α β : Type} (f : α → Option β) (xs : List α) (l : List β) (h : mapOpt f xs = some l)
    (i : Nat) (y : β) (hy : l[i]? = some y) : ∃ x, xs[i]? = some x ∧ f x = some y := by
  have hi : i < xs.length := mapOpt_length f xs l h ▸ (List.getElem?_eq_some_iff.mp hy).1
  obtain ⟨y', hy', hx⟩ := mapOpt_getElem f xs l h i xs[i] (List.getElem?_eq_getElem hi)
  exact ⟨xs[i], List.getElem?_eq_getElem hi, by rw [hx, ← hy', hy]⟩

theorem mapOpt_mem {α β : Type} (f : α → Option β) (xs : List α) (l : List β) (h : mapOpt f xs = some l)
    (x : α) (hx : x ∈ xs) : ∃ y ∈ l, f x = some y := by
  obtain ⟨i, hi⟩ := List.getElem?_of_mem hx
  obtain ⟨y, hy, hxy⟩ := mapOpt_getElem f xs l h i x hi
  exact ⟨y, List.mem_of_getElem? hy, hxy⟩

theorem mapOpt_none {α β : Type} (f : α → Option β) : ∀ xs : List α, mapOpt f xs = none → ∃ x ∈ xs, f x = none
  | [], h => by simp [mapOpt] at h
  | x :: xs, h => by
    cases hx : f x with
    | none => exact ⟨x, by simp, hx⟩
    | some y =>
      cases hxs : mapOpt f xs with
      | none =>
        obtain ⟨z, hz, hfz⟩ := mapOpt_none f xs hxs
        exact ⟨z, by simp [hz], hfz⟩
      | some ys => simp [mapOpt, hx, hxs] at h

theorem mapOpt_none_of_mem {α β : Type} (f : α → Option β) : ∀ (xs : List α) (x : α), x ∈ xs → f x = none → mapOpt f xs = none
  | [], _, h, _ => by simp at h
  | y :: ys, x, h, hx => by
    simp only [mapOpt]
    rcases List.mem_cons.mp h with rfl | h
    · rw [hx]
    · rw [mapOpt_none_of_mem f ys x h hx]; cases f y <;> rfl

theorem mapOpt_congr {α β : Type} (f g : α → Option β) : ∀ (xs : List α) (l : List β),
    (∀ x ∈ xs, ∀ y ∈ l, f x = some y → g x = some y) → mapOpt f xs = some l → mapOpt g xs = some l
  | [], l, _, h => by simpa [mapOpt] using h
  | x :: xs, l, hfg, h => by
    obtain ⟨y, ys, h1, h2, rfl⟩ := (mapOpt_cons_iff f x xs l).mp h
    exact (mapOpt_cons_iff g x xs _).mpr ⟨y, ys, hfg x (by simp) y (by simp) h1,
      mapOpt_congr f g xs ys (fun z hz y' hy' => hfg z (by simp [hz]) y' (by simp [hy'])) h2, rfl⟩

theorem mapOpt_map {α β γ : Type} (f : β → Option γ) (g : α → β) : ∀ l : List α, mapOpt f (l.map g) = mapOpt (fun x => f (g x)) l
  | [] => rfl
  | x :: xs => by simp only [List.map_cons, mapOpt, mapOpt_map f g xs]

theorem mapM_eq_mapOpt {α β : Type} (f : α → Option β) : ∀ xs : List α, xs.mapM f = mapOpt f xs
  | [] => by simp [mapOpt]
  | x :: xs => by
    rw [List.mapM_cons, mapM_eq_mapOpt f xs]
    simp only [mapOpt]
    cases f x <;> cases mapOpt f xs <;> rfl

/-- an item whose value is converted by `f`; the key is kept -/
def itemOpt {V P : Type} (f : V → Option P) (kv : String × V) : Option (String × P) :=
  (f kv.2).map fun p => (kv.1, p)

theorem itemOpt_iff {V P : Type} (f : V → Option P) (kv : String × V) (q : String × P) :
    itemOpt f kv = some q ↔ q.1 = kv.1 ∧ f kv.2 = some q.2 := by
  obtain ⟨k, p⟩ := q
  simp only [itemOpt]
  cases f kv.2 <;> simp [eq_comm]

theorem mapOpt_item_keys {V P : Type} (f : V → Option P) : ∀ (kvs : List (String × V)) (qs : List (String × P)),
    mapOpt (itemOpt f) kvs = some qs → qs.map (·.1) = kvs.map (·.1)
  | [], qs, h => by rw [(mapOpt_nil_iff _ qs).mp h]; rfl
  | x :: xs, qs, h => by
    obtain ⟨y, ys, h1, h2, rfl⟩ := (mapOpt_cons_iff _ x xs qs).mp h
    rw [List.map_cons, List.map_cons, ((itemOpt_iff f x y).mp h1).1, mapOpt_item_keys f xs ys h2]

theorem insertBy_mapOpt {α β : Type} (f : α → Option β) (lt : α → α → Bool) (lt' : β → β → Bool)
    (hlt : ∀ x y px py, f x = some px → f y = some py → lt x y = lt' px py) (x : α) (px : β) (hx : f x = some px) :
    ∀ (ys : List α) (pys : List β), mapOpt f ys = some pys →
    mapOpt f (Compare.insertBy lt x ys) = some (Compare.insertBy lt' px pys)
  | [], pys, h => by
    rw [(mapOpt_nil_iff _ pys).mp h]
    exact (mapOpt_cons_iff _ _ _ _).mpr ⟨px, [], hx, rfl, rfl⟩
  | y :: ys, pys, h => by
    obtain ⟨py, pys', h1, h2, rfl⟩ := (mapOpt_cons_iff _ y ys pys).mp h
    rw [Compare.insertBy, Compare.insertBy, hlt x y px py hx h1]
    split
    · exact (mapOpt_cons_iff _ _ _ _).mpr ⟨px, py :: pys', hx, h, rfl⟩
    · exact (mapOpt_cons_iff _ _ _ _).mpr ⟨py, _, h1, insertBy_mapOpt f lt lt' hlt x px hx ys pys' h2, rfl⟩

/-- `L` is the lexicographic loop over two lists whose elements are compared by `c`; a comparison without an answer ends it -/
structure IsLexOpt {α : Type} (c : α → α → Option Int) (L : List α → List α → Option Int) : Prop where
  nil_nil : L [] [] = some 0
  nil_cons : ∀ y ys, L [] (y :: ys) = some (-1)
  cons_nil : ∀ x xs, L (x :: xs) [] = some 1
  cons_cons : ∀ x xs y ys, L (x :: xs) (y :: ys) = (c x y).bind fun r => if r != 0 then some r else L xs ys

theorem IsLexOpt.bridge {α β : Type} {c : α → α → Option Int} {L : List α → List α → Option Int} (hL : IsLexOpt c L)
    {c' : β → β → Int} {L' : List β → List β → Int} (hL' : C11.IsLex c' L') (f g : α → Option β)
    (H : ∀ x px y py, f x = some px → g y = some py → c x y = some (c' px py)) :
    ∀ (xs : List α) (pxs : List β) (ys : List α) (pys : List β),
    mapOpt f xs = some pxs → mapOpt g ys = some pys → L xs ys = some (L' pxs pys)
  | [], pxs, [], pys, hx, hy => by
    rw [(mapOpt_nil_iff _ _).mp hx, (mapOpt_nil_iff _ _).mp hy, hL.nil_nil, hL'.nil_nil]
  | [], pxs, y :: ys, pys, hx, hy => by
    obtain ⟨_, _, _, _, rfl⟩ := (mapOpt_cons_iff _ _ _ _).mp hy
    rw [(mapOpt_nil_iff _ _).mp hx, hL.nil_cons, hL'.nil_cons]
  | x :: xs, pxs, [], pys, hx, hy => by
    obtain ⟨_, _, _, _, rfl⟩ := (mapOpt_cons_iff _ _ _ _).mp hx
    rw [(mapOpt_nil_iff _ _).mp hy, hL.cons_nil, hL'.cons_nil]
  | x :: xs, pxs, y :: ys, pys, hx, hy => by
    obtain ⟨px, pxs', hx1, hx2, rfl⟩ := (mapOpt_cons_iff _ _ _ _).mp hx
    obtain ⟨py, pys', hy1, hy2, rfl⟩ := (mapOpt_cons_iff _ _ _ _).mp hy
    rw [hL.cons_cons, hL'.cons_cons, H x px y py hx1 hy1, Option.bind_some,
      IsLexOpt.bridge hL hL' f g H xs pxs' ys pys' hx2 hy2]
    split <;> rfl

theorem item_bridge {V : Type} {c : V → V → Option Int} {kc : String → String → Int}
    (hk : ∀ a b, kc a b = Compare.strCompare a b) (f g : V → Option Compare.PValue)
    (H : ∀ x px y py, f x = some px → g y = some py → c x y = some (Compare.valueCompare px py))
    (x : String × V) (px : String × Compare.PValue) (y : String × V) (py : String × Compare.PValue)
    (hx : itemOpt f x = some px) (hy : itemOpt g y = some py) :
    (if kc x.1 y.1 != 0 then some (kc x.1 y.1) else c x.2 y.2) = some (C11.itemCmp px py) := by
  obtain ⟨e1, v1⟩ := (itemOpt_iff _ _ _).mp hx
  obtain ⟨e2, v2⟩ := (itemOpt_iff _ _ _).mp hy
  rw [hk, H _ _ _ _ v1 v2, ← e1, ← e2]
  split <;> rfl

end C11Bridge
