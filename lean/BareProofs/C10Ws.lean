import BareProofs.C02
import BareProofs.C10
import BareProofs.C10WsLemmas

/-!
# C10 — white space and the expression parser (`ExprParse.parseExpr`): the layout theorems made unconditional

`BareProofs/C10.lean` proves that indentation does not matter *given* `SkipsLeadingBlanks parseExpr`, and trailing blanks
for the statement kinds whose expression text does not reach the end of the line.  Here the hypothesis is discharged for
the expression parser model of C02 (`parseExpr_skips_leading_blanks`), and the remaining cases are closed, for **all**
texts (no bound on length or nesting): trailing blanks after every statement kind (`trailing_ws_irrelevant`; one
exclusion, a line whose last non-blank character is `=`, where the Python really differs: `a =` / `a = `), an
inter-token blank stretched or shrunk (`parseExpr_gap`, `parseExpr_blank_stretch`, `classifyL_gap`), and a line broken
with a backslash at such a blank (`continuation_break_irrelevant`).

White space: the line scanners use `Text.isSpace`, the token scanners `ExprScan.isPySpace`; the two are the same function
(`isPySpace_eq_isSpace`: the 29 code points of `str.isspace`), so "blank" means the same on both sides.

How: the parser looks at the text only through ten scanners; a relation on remaining texts that all scanners respect is
respected by the parser (`parseUnary_rel` in `C10WsLemmas.lean`, induction on fuel); `LeadR` and `GapR` are such relations;
fuel is irrelevant beyond the text length (`parseExpr_fuel`), so texts of different lengths can be run at a common fuel
(`parseExprL_rel`).
-/

namespace C10
open ExprScan ExprParse

/-- **Fuel**: `_parse_binary_expression` with more fuel than the length of the text gives what it gives with exactly that
much (with `C02.fuel_sufficient`: the fuel marker never shows, so nothing depends on the fuel at all). -/
theorem parseExpr_fuel (t : List Char) (k : Nat) : parseBinary (t.length + k) t = parseBinary t.length t :=
  parseBinary_more _ _ _ (fun l => (C02.fuel_sufficient t.length t (Nat.le_refl _) l).2)

example : parseBinary 40 "a + b".toList = parseBinary 5 "a + b".toList := parseExpr_fuel "a + b".toList 35

/-- apply `f` to the column of an error -/
def mapCol (f : Nat → Nat) : Except ParseErr Expr → Except ParseErr Expr
  | .ok e => .ok e
  | .error e => .error { e with column := f e.column }

theorem EqUpToColumn_mapCol (f : Nat → Nat) (r : Except ParseErr Expr) : EqUpToColumn (mapCol f r) r := by
  cases r <;> simp [EqUpToColumn, mapCol]

/-- **Related texts parse alike.**  For a relation `R` on remaining texts that the scanners respect: the whole texts
`cs`, `cs'` related, and wherever the parser stops on related rests `l`, `l'`, nothing but blanks is left in both or in
neither and the column of `l'` in `cs'` is `g` of the column of `l` in `cs` — then `cs'` has the tree of `cs`, or its error
with the column mapped by `g`.  Both texts are run at the common fuel `|cs| + |cs'|` (`parseExpr_fuel`). -/
theorem parseExprL_rel {R : List Char → List Char → Prop} (hR : Respects R) {cs cs' : List Char} (h : R cs cs')
    (g : Nat → Nat)
    (hg : ∀ l l', R l l' → (skipWs l).isEmpty = (skipWs l').isEmpty ∧
      cs'.length - l'.length + 1 = g (cs.length - l.length + 1)) :
    parseExprL cs' = mapCol g (parseExprL cs) := by
  have hrel := parseBinary_rel hR (cs.length + cs'.length) cs cs' h
  unfold parseExprL
  rw [← parseExpr_fuel cs cs'.length, ← parseExpr_fuel cs' cs.length, Nat.add_comm cs'.length]
  rcases hrel.cases with ⟨x, l, l', e, e', hl⟩ | ⟨m, l, l', e, e', hl⟩ <;>
    simp only [e, e', ← (hg l l' hl).1, (hg l l' hl).2]
  · split <;> rfl
  · rfl

/-- **Leading blanks, exactly**: blanks in front of an expression text do not change the tree; an error keeps its text and
its column moves by the number of blanks — except an error at the very start of the text (column 1: nothing at all could
be parsed, parser.py reports the whole text), which stays at column 1. -/
theorem parseExprL_leading_blanks (ws s : List Char) (hws : Blank ws) :
    parseExprL (ws ++ s) = mapCol (fun c => if c = 1 then 1 else c + ws.length) (parseExprL s) :=
  parseExprL_rel (lead_respects hws) (Or.inl ⟨rfl, rfl⟩) _ fun l l' hl => by
    rcases hl with ⟨rfl, rfl⟩ | ⟨rfl, hlen⟩
    · exact ⟨by rw [C02.skipWs_append hws], by simp⟩
    · refine ⟨rfl, ?_⟩
      simp only [List.length_append]
      split <;> omega

theorem parseExpr_leading_blanks (ws s : List Char) (h : Text.allSpace ws = true) :
    parseExpr (String.ofList (ws ++ s)) =
      mapCol (fun c => if c = 1 then 1 else c + ws.length) (parseExpr (String.ofList s)) := by
  simp only [parseExpr, String.toList_ofList]
  exact parseExprL_leading_blanks ws s (blank_of_allSpace h)

/-- a column behind the blanks moves by their number (here 4: blank, tab, U+3000, blank); column 1 stays -/
example : parseExpr (String.ofList (" \t　 ".toList ++ "a b".toList)) =
    mapCol (fun c => if c = 1 then 1 else c + 4) (parseExpr (String.ofList "a b".toList)) :=
  parseExpr_leading_blanks " \t　 ".toList "a b".toList (by decide)
example : parseExpr " \t　 a b" = .error ⟨"Syntax error", 6⟩ ∧ parseExpr "a b" = .error ⟨"Syntax error", 2⟩ := by
  constructor <;> kernel_rfl
example : parseExpr "   )" = .error ⟨"Syntax error", 1⟩ ∧ parseExpr ")" = .error ⟨"Syntax error", 1⟩ := by
  constructor <;> kernel_rfl

/-- **The hypothesis of `C10.leading_ws_irrelevant`, discharged** for the expression parser model of C02
(`ExprParse.parseExpr`): with blanks (`Text.isSpace` = `ExprScan.isPySpace`) in front, the same tree or the same error
text. -/
theorem parseExpr_skips_leading_blanks : SkipsLeadingBlanks ExprParse.parseExpr := by
  intro ws s h
  rw [parseExpr_leading_blanks ws s h]
  exact EqUpToColumn_mapCol _ _

section
attribute [local irreducible] EqUpToColumn
/-- (`EqUpToColumn` is made irreducible around the concrete examples only to keep the elaborator from *evaluating* the
parser on the literal when it looks at the type) -/
example : EqUpToColumn (parseExpr (String.ofList ("\t  ".toList ++ "ff(x, 'a  b')".toList)))
    (parseExpr (String.ofList "ff(x, 'a  b')".toList)) :=
  parseExpr_skips_leading_blanks "\t  ".toList "ff(x, 'a  b')".toList (by decide)
end

/-- **Indentation is irrelevant** for every line, for the classifier instantiated with the expression parser — no
hypothesis left.  (Up to the error column; `leading_ws_irrelevant_stmt` and `parseExpr_leading_blanks` say exactly how
it moves.) -/
theorem leading_ws_irrelevant_parseExpr (ws l : List Char) (h : Text.allSpace ws = true) :
    EqUpToColumn (Scan.classifyL ExprParse.parseExpr (ws ++ l)) (Scan.classifyL ExprParse.parseExpr l) :=
  leading_ws_irrelevant ExprParse.parseExpr parseExpr_skips_leading_blanks ws l h

/-- … at the `String` interface -/
theorem leading_ws_irrelevant_classify (ws l : List Char) (h : Text.allSpace ws = true) :
    EqUpToColumn (Scan.classify ExprParse.parseExpr (String.ofList (ws ++ l)))
      (Scan.classify ExprParse.parseExpr (String.ofList l)) := by
  simp only [Scan.classify, String.toList_ofList]
  exact leading_ws_irrelevant_parseExpr ws l h

section
attribute [local irreducible] EqUpToColumn
example : EqUpToColumn (Scan.classifyL parseExpr ("\t  ".toList ++ "ff(x, 'a  b')".toList))
    (Scan.classifyL parseExpr "ff(x, 'a  b')".toList) :=
  leading_ws_irrelevant_parseExpr "\t  ".toList "ff(x, 'a  b')".toList (by decide)
example : EqUpToColumn (Scan.classify parseExpr (String.ofList ("\t  ".toList ++ "ff(x, 'a  b')".toList)))
    (Scan.classify parseExpr (String.ofList "ff(x, 'a  b')".toList)) :=
  leading_ws_irrelevant_classify "\t  ".toList "ff(x, 'a  b')".toList (by decide)
end

theorem GapR.isEmpty {ws ws' q : List Char} (ok : GapOK ws ws' q) {t t' : List Char} (h : GapR ws ws' q t t') :
    (skipWs t).isEmpty = (skipWs t').isEmpty := by
  rcases h with hg | ⟨rfl, _⟩
  · rcases hg.skipWs ok with ⟨he, _⟩ | ⟨d, r, r', _, e1, e2, _⟩
    · rw [he]
    · rw [e1, e2]; rfl
  · rfl

/-- **A blank run outside string literals and bracketed names** (`Gap ws ws' q cs cs'`: `cs = a ++ ws ++ q`,
`cs' = a ++ ws' ++ q`, both runs blank and non-empty — or any blank runs at the very end of the text) can be replaced by
another: same tree.  An error keeps its text; its column is unchanged if it is in front of the run (or points at it) and
moves by `|ws'| - |ws|` if it is behind. -/
theorem parseExprL_gap {ws ws' q cs cs' : List Char} (ok : GapOK ws ws' q) (h : Gap ws ws' q cs cs') :
    parseExprL cs' =
      mapCol (fun c => if c + (ws.length + q.length) ≤ cs.length + 1 then c else c + ws'.length - ws.length)
        (parseExprL cs) :=
  parseExprL_rel (gap_respects ok) (Or.inl h) _ fun l l' hl => by
    obtain ⟨hlen, hle⟩ := h.length
    refine ⟨GapR.isEmpty ok hl, ?_⟩
    rcases hl with hg | ⟨rfl, hlt⟩
    · -- in front of the site: the same column (`omega` is slow on the truncated differences, so they are moved by hand)
      obtain ⟨k1, k2⟩ := hg.length
      have e : cs'.length - l'.length = cs.length - l.length := by
        rw [← Nat.add_sub_add_right cs'.length ws.length, ← hlen, ← k1, Nat.add_sub_add_right]
      have c : cs.length - l.length + 1 + (ws.length + q.length) ≤ cs.length + 1 := by
        have := Nat.add_le_of_le_sub hle (Nat.sub_le_sub_left k2 cs.length)
        omega
      simp only [e, c, if_true]
    · -- behind the site: `cs = l ++ …` in length, the column moves by the difference of the runs
      obtain ⟨d, hd⟩ : ∃ d, cs.length = l.length + d := ⟨cs.length - l.length, by omega⟩
      simp only [hd, Nat.add_sub_cancel_left] at hlen hle ⊢
      rw [if_neg (by omega)]
      omega

theorem parseExpr_gap {ws ws' q cs cs' : List Char} (ok : GapOK ws ws' q) (h : Gap ws ws' q cs cs') :
    parseExpr (String.ofList cs') =
      mapCol (fun c => if c + (ws.length + q.length) ≤ cs.length + 1 then c else c + ws'.length - ws.length)
        (parseExpr (String.ofList cs)) := by
  simp only [parseExpr, String.toList_ofList]
  exact parseExprL_gap ok h

/-- a site by hand (three ordinary characters, then the site) … -/
example : Gap " ".toList "   ".toList "b".toList "a + b".toList "a +   b".toList :=
  .cons 'a' rfl (.cons ' ' rfl (.cons '+' rfl .site))
/-- … and found by the executable test: offset 10 of `ff('a  b') + c` is outside the literal, offset 6 is inside it;
the same for a bracketed name -/
example : topLevelAt 14 10 "ff('a  b') + c".toList = true := by kernel_rfl
example : topLevelAt 14 6 "ff('a  b') + c".toList = false := by kernel_rfl
example : topLevelAt 9 6 "[a  b]  c".toList = true := by kernel_rfl
example : topLevelAt 9 2 "[a  b]  c".toList = false := by kernel_rfl
example := parseExpr_gap (ws := " ".toList) (ws' := " \t  ".toList) (q := "+ c".toList)
    ⟨blank_of_allSpace (by decide_lit), blank_of_allSpace (by decide_lit), Or.inl ⟨by decide, by decide⟩⟩
    (gap_of_topLevelAt _ _ _ 14 10 _ "ff('a  b')".toList (by kernel_rfl) rfl (by kernel_rfl))

theorem parseExpr_ff_c : parseExpr "ff('a  b') + c" =
    .ok (.binary .add (.function (.user "ff") [.string "a  b"]) (.variable (.user "c"))) := by
  rw [parseExpr, String.toList_ofList]; kernel_rfl

/-- the conclusion on this instance, and that it fails inside the literal -/
example : parseExpr "ff('a  b') \t  + c" = parseExpr "ff('a  b') + c" := by
  -- each side is evaluated on its own: comparing the two calls directly makes the kernel unfold them in step
  have e : parseExpr "ff('a  b') \t  + c" =
      .ok (.binary .add (.function (.user "ff") [.string "a  b"]) (.variable (.user "c"))) := by
    rw [parseExpr, String.toList_ofList]; kernel_rfl
  rw [e, parseExpr_ff_c]
example : parseExpr "ff('a  b') + c" ≠ parseExpr "ff('a b') + c" := by
  have e : parseExpr "ff('a b') + c" =
      .ok (.binary .add (.function (.user "ff") [.string "a b"]) (.variable (.user "c"))) := by
    rw [parseExpr, String.toList_ofList]; kernel_rfl
  rw [parseExpr_ff_c, e]; intro h; simp at h

/-- every text can be read up to its end (`Gap` with the site at the end of the text) -/
theorem gap_trailing (ws : List Char) : ∀ (n : Nat) (s : List Char), s.length ≤ n → Gap [] ws [] s (s ++ ws)
  | _, [], _ => by simpa using (Gap.site : Gap [] ws [] ([] ++ []) (ws ++ []))
  | 0, _ :: _, hs => by cases hs
  | n + 1, c :: s1, hs => by
    have hs1 : s1.length ≤ n := Nat.le_of_succ_le_succ hs
    by_cases hsp : special c = false
    · exact Gap.cons c hsp (gap_trailing ws n s1 hs1)
    · have hcase : (c = '\'' ∨ c = '"') ∨ c = '[' := by
        simpa only [special, Bool.or_eq_true, beq_iff_eq, Bool.not_eq_false] using hsp
      rcases hcase with hq | rfl
      · cases hb : strBody c s1 with
        | none => exact Gap.strFail c hq ((strBody_none_iff c s1).mp hb) (gap_trailing ws n s1 hs1)
        | some x =>
          have hx := (strBody_local c (quote_ne_backslash hq) _ _ _ hb).1
          have hr : x.2.length ≤ n := by rw [hx] at hs1; simp at hs1; omega
          have := Gap.str c x.1 hq (by rw [← hx]; exact hb) (gap_trailing ws n x.2 hr)
          rw [hx]; simpa using this
      · cases hb : brTail s1 with
        | none => exact Gap.brFail hb (gap_trailing ws n s1 hs1)
        | some x =>
          obtain ⟨lit, _, hx, _⟩ := brTail_local _ _ _ hb
          have hr : x.2.length ≤ n := by rw [hx] at hs1; simp at hs1; omega
          have := Gap.br lit x.1 (by rw [← hx]; exact hb) (gap_trailing ws n x.2 hr)
          rw [hx]; simpa using this

theorem parseExprL_column_le (cs : List Char) (e : ParseErr) (h : parseExprL cs = .error e) : e.column ≤ cs.length + 1 := by
  unfold parseExprL at h
  split at h
  · split at h
    · cases h
    · cases h; simp only; omega
  · cases h; simp only; omega

/-- **Trailing blanks, exactly**: blanks behind an expression text change nothing — same tree, same error, same column. -/
theorem parseExprL_trailing_blanks (s ws : List Char) (hws : Blank ws) : parseExprL (s ++ ws) = parseExprL s := by
  have ok : GapOK [] ws [] := ⟨Blank.nil, hws, Or.inr rfl⟩
  rw [parseExprL_gap ok (gap_trailing ws s.length s (Nat.le_refl _))]
  cases hp : parseExprL s with
  | ok e => rfl
  | error e =>
    have := parseExprL_column_le s e hp
    simp only [mapCol, List.length_nil, Nat.add_zero, Nat.sub_zero, this, if_true]

theorem parseExpr_trailing_blanks (s ws : List Char) (h : Text.allSpace ws = true) :
    parseExpr (String.ofList (s ++ ws)) = parseExpr (String.ofList s) := by
  simp only [parseExpr, String.toList_ofList]
  exact parseExprL_trailing_blanks s ws (blank_of_allSpace h)

example : parseExpr (String.ofList ("a +".toList ++ " \t ".toList)) = parseExpr (String.ofList "a +".toList) :=
  parseExpr_trailing_blanks "a +".toList " \t ".toList (by decide_lit)
example : parseExpr "a + \t " = .error ⟨"Syntax error", 4⟩ ∧ parseExpr "a +" = .error ⟨"Syntax error", 4⟩ := by
  constructor <;> kernel_rfl

end C10

namespace C10
open Text Scan

/-- **The regex cascade and trailing blanks** (`shape`, any indentation): same statement kind, same groups, same
offsets; the expression text of an assignment or a `return` (it runs to the end of the line) gets the blanks. -/
theorem shape_append_ws (l ws : Chars) (h : allSpace ws = true) (hne : lastNS l ≠ some '=') :
    shape (l ++ ws) = addTrailS ws (shape l) := by
  unfold shape
  simp only [lstrip_append_right l ws h]
  by_cases hl : lstripL l = []
  · have : shapeS [] = .exprStmt := by decide +kernel
    simp [hl, this, Shape.shift, addTrailS]
  · simp only [hl, if_false]
    rw [shapeS_append_ws h _ (by rw [lastNS_lstrip]; exact hne), addTrailS_shift, List.length_append, List.length_append]
    have := lstrip_length_le l
    congr 2; omega

/-- **Trailing blanks are irrelevant** for every statement kind of the cascade — assignment, function begin, the
keyword-only statements, `if`/`elif`/`else`/`while`/`for` headers, labels, `jump`/`jumpif`, `return`, both `include`
forms and expression statements: with the expression parser model, the classified line is *equal* (same statement, same
expression trees, same error text and the same error column).  The one exclusion is a line whose last non-blank
character is `=` (`a =` is the expression statement `a =`; `a = ` is the assignment of the expression `' '`: both are
syntax errors, reported at different columns — this is the behaviour of the Python regex, not an artefact). -/
theorem trailing_ws_irrelevant (l ws : Chars) (h : allSpace ws = true) (hne : lastNS l ≠ some '=') :
    classifyL ExprParse.parseExpr (l ++ ws) = classifyL ExprParse.parseExpr l := by
  unfold classifyL
  rw [shape_append_ws l ws h hne]
  cases shape l with
  | assign n off e => simp only [addTrailS, parseExpr_trailing_blanks e ws h]
  | ret c => cases c with
    | none => rfl
    | some p => obtain ⟨off, e⟩ := p; simp only [addTrailS, parseExpr_trailing_blanks e ws h]
  | jump n c => cases c with
    | none => rfl
    | some p => rfl
  | exprStmt => simp only [addTrailS, parseExpr_trailing_blanks l ws h]
  | _ => rfl

example : classifyL ExprParse.parseExpr ("  x = ff(1, 'a ')".toList ++ " \t".toList) =
    classifyL ExprParse.parseExpr "  x = ff(1, 'a ')".toList :=
  trailing_ws_irrelevant _ _ (by decide_lit) (by decide_lit)
example : classifyL ExprParse.parseExpr ("for v, i in arr :".toList ++ "  ".toList) =
    classifyL ExprParse.parseExpr "for v, i in arr :".toList :=
  trailing_ws_irrelevant _ _ (by decide_lit) (by decide_lit)
example : classifyL ExprParse.parseExpr ("async function ff(a, b...) :".toList ++ "\t".toList) =
    classifyL ExprParse.parseExpr "async function ff(a, b...) :".toList :=
  trailing_ws_irrelevant _ _ (by decide_lit) (by decide_lit)
/-- the excluded line: the hypothesis fails, and so does the conclusion (different statement kind, different column) -/
example : lastNS "a =".toList = some '=' ∧
    shape "a =".toList = .exprStmt ∧ shape "a = ".toList = .assign "a".toList 3 " ".toList := by decide_lit
example : classifyL ExprParse.parseExpr "a =".toList = .error ⟨"Syntax error", 2⟩ ∧
    classifyL ExprParse.parseExpr "a = ".toList = .error ⟨"Syntax error", 4⟩ := by constructor <;> kernel_rfl

/-- the expression text a statement pattern captured (for an expression statement: the line) -/
def lineExpr (l : Chars) : Option Chars :=
  match shape l with
  | .assign _ _ e => some e
  | .ifBegin _ e => some e
  | .elif _ e => some e
  | .whileBegin _ e => some e
  | .forBegin _ _ _ e => some e
  | .jump _ (some (_, e)) => some e
  | .ret (some (_, e)) => some e
  | .exprStmt => some l
  | _ => none

/-- the same statement with another expression text at the same place -/
def _root_.Scan.Shape.withExpr (e' : Chars) : Shape → Shape
  | .assign n off _ => .assign n off e'
  | .ifBegin off _ => .ifBegin off e'
  | .elif off _ => .elif off e'
  | .whileBegin off _ => .whileBegin off e'
  | .forBegin v i off _ => .forBegin v i off e'
  | .jump n (some (off, _)) => .jump n (some (off, e'))
  | .ret (some (off, _)) => .ret (some (off, e'))
  | s => s

theorem EqUpToColumn_shift_mapCol {α : Type} (off : Nat) (g : Nat → Nat) (f : Expr → α) (r : Except ParseErr Expr) :
    EqUpToColumn ((shiftErr off (mapCol g r)).map f) ((shiftErr off r).map f) := by
  cases r <;> simp [EqUpToColumn, mapCol, shiftErr, Except.map]

/-- **A blank run inside the expression of a statement** (outside string literals and bracketed names) replaced by
another: if the statement pattern captures the same groups around it (`shape l' = (shape l).withExpr e'`; proved for
assignments in `shape_assign_replace`), the classified line is the same, up to the error column. -/
theorem classifyL_gap {l l' e e' ws ws' q : Chars} (ok : GapOK ws ws' q) (h1 : lineExpr l = some e)
    (h2 : lineExpr l' = some e') (h3 : shape l' = (shape l).withExpr e') (hg : Gap ws ws' q e e') :
    EqUpToColumn (classifyL ExprParse.parseExpr l') (classifyL ExprParse.parseExpr l) := by
  have key := parseExpr_gap ok hg
  unfold lineExpr at h1 h2
  unfold classifyL
  cases hs : shape l with
  | assign _ _ _ | ifBegin _ _ | elif _ _ | whileBegin _ _ | forBegin _ _ _ _ =>
    rw [hs] at h1 h3; cases h1
    simp only [h3, Shape.withExpr, key]; exact EqUpToColumn_shift_mapCol _ _ _ _
  | jump _ c | ret c =>
    cases c with
    | none => rw [hs] at h1; cases h1
    | some p =>
      rw [hs] at h1 h3; cases h1
      simp only [h3, Shape.withExpr, key]; exact EqUpToColumn_shift_mapCol _ _ _ _
  | exprStmt =>
    -- the expression text is the line itself
    rw [hs] at h1 h3; cases h1
    rw [show shape l' = .exprStmt from h3] at h2 ⊢; cases h2
    simp only [key]; exact (EqUpToColumn_mapCol _ _).map _
  | _ => rw [hs] at h1; cases h1

/-- **Assignments**: whatever non-empty expression text (starting with a non-blank) replaces the captured one, the
assignment pattern captures it in the same way — same name, same offset. -/
theorem shape_assign_replace {l name e : Chars} {off : Nat} (h : shape l = .assign name off e) (he : lstripL e = e)
    (e' : Chars) (he' : lstripL e' = e') (hne' : e' ≠ []) :
    l = l.take off ++ e ∧ shape (l.take off ++ e') = .assign name off e' := by
  obtain ⟨bl, hbl, hl⟩ := lstrip_decomp l
  have hk : l.length - (lstripL l).length = bl.length := by
    have := congrArg List.length hl; simp at this; omega
  unfold shape at h
  simp only [hk] at h
  obtain ⟨off0, hs, rfl⟩ := shift_assign_inv h
  obtain ⟨hd, hh, hs', rfl⟩ := assign?_inv (shapeS_assign_inv hs) he
  have htake : l.take (hd.length + bl.length) = bl ++ hd := by
    rw [hl, hs', ← List.append_assoc]; exact List.take_left' (by rw [List.length_append, Nat.add_comm])
  have r3 := assign?_head hh he' hne'
  rw [htake]
  refine ⟨by rw [List.append_assoc, ← hs', ← hl], ?_⟩
  rw [List.append_assoc, shape_leading_ws _ hbl]
  unfold shape
  simp only [assign?_lstrip r3, shapeS_of_assign r3, Nat.sub_self, Shape.shift, Nat.add_zero]

example : shape ("  x = ".toList ++ "g(2)  + 1".toList) = .assign "x".toList 6 "g(2)  + 1".toList :=
  (shape_assign_replace (l := "  x = ff(1)".toList) (name := "x".toList) (e := "ff(1)".toList) (off := 6) (by decide_lit)
    (by decide_lit) "g(2)  + 1".toList (by decide_lit) (by simp)).2

/-- **Where the line is broken**: the physical lines `p \` and `q` — with any blanks before and after the backslash and
any indentation of the second line — are the one logical line `p q`, joined by a single blank. -/
theorem continuation_break_line (i ix : Nat) (p q ws1 tr ind : Chars) (rest : List Chars)
    (hp : rstripL p = p) (hq : stripL q = q) (hpc : isCommentL p = false) (hqc : isCommentL q = false)
    (hqb : contBody? q = none) (h1 : allSpace ws1 = true) (h2 : allSpace tr = true) (h3 : allSpace ind = true) :
    loopL i ((p ++ ws1 ++ '\\' :: tr) :: (ind ++ q) :: rest) [] ix =
      emit (i, p ++ ' ' :: q) (loopL (i + 2) rest [] i) := by
  have hA : isCommentL (p ++ ws1 ++ '\\' :: tr) = false := by
    -- the first non-blank character of the line is that of `p`
    unfold isCommentL lstripL at hpc ⊢
    rw [List.append_assoc, List.dropWhile_append]
    cases hd : List.dropWhile isSpace p with
    | nil => rw [hd] at hpc; cases hpc
    | cons c r => rw [hd] at hpc; exact hpc
  have hc : contBody? (p ++ ws1 ++ '\\' :: tr) = some (p ++ ws1) := by
    unfold contBody?
    have : (p ++ ws1 ++ '\\' :: tr).reverse = tr.reverse ++ '\\' :: (p ++ ws1).reverse := by simp
    rw [this, List.dropWhile_append_of_pos (by intro a ha; simp [allSpace] at h2; exact h2 a (by simpa using ha))]
    simp [show isSpace '\\' = false by decide]
  have hB : isCommentL (ind ++ q) = false := by
    unfold isCommentL at hqc ⊢; rw [lstrip_append_ws q h3]; exact hqc
  have hBc : contBody? (ind ++ q) = none := by
    rw [contBody?_none_iff, lastNS_append]
    have hq1 : lastNS q ≠ none := fun h0 => by
      rw [lastNS_none_iff, ← firstNS_none_iff] at h0
      rw [(isCommentL_iff q).mpr (Or.inl h0)] at hqc; cases hqc
    have := (contBody?_none_iff q).mp hqb
    cases hl : lastNS q with
    | none => exact absurd hl hq1
    | some c => rw [hl] at this; simpa using this
  have hj : joined (p ++ ws1) (ind ++ q) = p ++ ' ' :: q := by
    unfold joined
    have e1 : rstripL (p ++ ws1) = p := by
      unfold rstripL at hp ⊢; rw [rev_dropWhile_append_ws p ws1 h1]; exact hp
    have e2 : stripL (ind ++ q) = q := by
      unfold stripL at hq ⊢; rw [lstrip_append_ws q h3]; exact hq
    rw [e1, e2]
  have := (continuation_join i ix _ _ _ rest hA hc hB hBc).1
  rw [hj] at this; exact this

example : loopL 0 ["x = ff(1, \\  ".toList, "\t 2)".toList] [] 0 = emit (0, "x = ff(1, 2)".toList) ([], none) :=
  -- the kernel splits the literals into `p ++ ws1 ++ '\\' :: tr` and `ind ++ q`; the unifier is slow on string literals
  Eq.mp (by kernel_rfl) (continuation_break_line 0 0 "x = ff(1,".toList "2)".toList " ".toList "  ".toList "\t ".toList []
    (by decide_lit) (by decide_lit) (by decide_lit) (by decide_lit) (by decide_lit) (by decide_lit) (by decide_lit) (by decide_lit))

/-- **An inter-token blank may be stretched or shrunk**: in `cs = a ++ ws ++ q` the non-empty blank run `ws` stands outside
string literals and bracketed names (`Gap`: `a` is read as ordinary characters, complete string literals and complete
bracketed names); replacing it by another non-empty blank run `ws'` does not change the tree; a rejected text stays
rejected with the same error text (`parseExpr_gap` gives the column).  This is the step from a line to the same line broken
by a backslash, where the two parts are stripped and joined by exactly one blank. -/
theorem parseExpr_blank_stretch {ws ws' q cs cs' : Chars} (hws : allSpace ws = true) (hws' : allSpace ws' = true)
    (hne : ws ≠ []) (hne' : ws' ≠ []) (h : Gap ws ws' q cs cs') :
    (∀ e, ExprParse.parseExpr (String.ofList cs) = .ok e → ExprParse.parseExpr (String.ofList cs') = .ok e) ∧
    EqUpToColumn (ExprParse.parseExpr (String.ofList cs')) (ExprParse.parseExpr (String.ofList cs)) := by
  have ok : GapOK ws ws' q := ⟨blank_of_allSpace hws, blank_of_allSpace hws', Or.inl ⟨hne, hne'⟩⟩
  rw [parseExpr_gap ok h]
  exact ⟨fun e he => by rw [he]; rfl, EqUpToColumn_mapCol _ _⟩

/-- the same with the position given by its offset and checked by the executable test `topLevelAt` -/
theorem parseExpr_blank_stretch_at (a ws ws' q : Chars) (hws : allSpace ws = true) (hws' : allSpace ws' = true)
    (hne : ws ≠ []) (hne' : ws' ≠ [])
    (htop : topLevelAt (a ++ (ws ++ q)).length a.length (a ++ (ws ++ q)) = true) :
    (∀ e, ExprParse.parseExpr (String.ofList (a ++ (ws ++ q))) = .ok e →
      ExprParse.parseExpr (String.ofList (a ++ (ws' ++ q))) = .ok e) ∧
    EqUpToColumn (ExprParse.parseExpr (String.ofList (a ++ (ws' ++ q))))
      (ExprParse.parseExpr (String.ofList (a ++ (ws ++ q)))) :=
  parseExpr_blank_stretch hws hws' hne hne' (gap_of_topLevelAt ws ws' q _ _ _ a htop rfl rfl)

/-- one blank between `ff('a  b')` and `+` stretched to blank-tab-blank-blank: same tree (`ok` case) / same error text -/
example := parseExpr_blank_stretch_at "ff('a  b')".toList " ".toList " \t  ".toList "+ c".toList (by decide_lit) (by decide_lit)
  (by simp) (by simp) (by kernel_rfl)
example := parseExpr_blank_stretch (ws := " ".toList) (ws' := "   ".toList) (q := "b".toList) (cs := "a + b".toList)
  (cs' := "a +   b".toList) (by decide_lit) (by decide_lit) (by simp) (by simp) (.cons 'a' rfl (.cons ' ' rfl (.cons '+' rfl .site)))

/-- **Breaking a line at an inter-token blank of its expression does not matter.**  The logical line `l = p ++ ws ++ q`
(`ws` a non-empty blank run outside string literals and bracketed names of the expression of `l`) and the two physical
lines `p ws1 \ tr` / `ind q` (any blanks `ws1`, `tr`, any indentation `ind`): the line loop yields the one logical line
`p ++ " " ++ q` (first conjunct, with `continuation_join`), and that line classifies like `l` — same statement, same
expression tree, same error text (second conjunct, with `parseExpr_gap`).  Hypothesis `hsh`: the statement pattern
captures the same groups around the blank run; it is a theorem for assignments (`continuation_break_irrelevant_assign`)
and a decidable fact for a given line otherwise. -/
theorem continuation_break_irrelevant (i ix : Nat) (p q ws ws1 tr ind : Chars) (rest : List Chars) (e e' qe : Chars)
    (hp : rstripL p = p) (hq : stripL q = q) (hpc : isCommentL p = false) (hqc : isCommentL q = false)
    (hqb : contBody? q = none) (h1 : allSpace ws1 = true) (h2 : allSpace tr = true) (h3 : allSpace ind = true)
    (hws : allSpace ws = true) (hne : ws ≠ [])
    (he : lineExpr (p ++ ws ++ q) = some e) (he' : lineExpr (p ++ ' ' :: q) = some e')
    (hsh : shape (p ++ ' ' :: q) = (shape (p ++ ws ++ q)).withExpr e') (hg : Gap ws [' '] qe e e') :
    loopL i ((p ++ ws1 ++ '\\' :: tr) :: (ind ++ q) :: rest) [] ix =
      emit (i, p ++ ' ' :: q) (loopL (i + 2) rest [] i) ∧
    EqUpToColumn (classifyL ExprParse.parseExpr (p ++ ' ' :: q)) (classifyL ExprParse.parseExpr (p ++ ws ++ q)) :=
  ⟨continuation_break_line i ix p q ws1 tr ind rest hp hq hpc hqc hqb h1 h2 h3,
    classifyL_gap ⟨blank_of_allSpace hws, blank_of_allSpace (by decide), Or.inl ⟨hne, by simp⟩⟩ he he' hsh hg⟩

/-- an `if` header broken inside its condition: physical lines `if a &&` + backslash and `    b :`, logical line
`if a && b :`, compared with the unbroken `if a &&  b :` (two blanks) -/
example := continuation_break_irrelevant 3 0 "if a &&".toList "b :".toList "  ".toList "".toList "  ".toList "    ".toList []
  _ _ "b ".toList
  (by decide_lit) (by decide_lit) (by decide_lit) (by decide_lit) (by decide_lit) (by decide_lit) (by decide_lit) (by decide_lit) (by decide_lit) (by simp)
  (by decide_lit) (by decide_lit) (by decide_lit)
  (.cons 'a' rfl (.cons ' ' rfl (.cons '&' rfl (.cons '&' rfl .site))))

theorem lstrip_append_self {e1 : Chars} (he1 : lstripL e1 = e1) (hne1 : e1 ≠ []) (x : Chars) :
    lstripL (e1 ++ x) = e1 ++ x := by
  obtain ⟨d, r, rfl, hd⟩ := lstrip_self_head he1 hne1
  simp [lstripL, hd]

/-- … for an **assignment** `name = e1 ws q` broken inside its expression: no hypothesis about the statement pattern. -/
theorem continuation_break_irrelevant_assign (i ix : Nat) (pre e1 q ws ws1 tr ind name : Chars) (rest : List Chars)
    (hp : rstripL (pre ++ e1) = pre ++ e1) (hq : stripL q = q) (hpc : isCommentL (pre ++ e1) = false)
    (hqc : isCommentL q = false) (hqb : contBody? q = none) (h1 : allSpace ws1 = true) (h2 : allSpace tr = true)
    (h3 : allSpace ind = true) (hws : allSpace ws = true) (hne : ws ≠ [])
    (hsh : shape (pre ++ e1 ++ ws ++ q) = .assign name pre.length (e1 ++ ws ++ q))
    (he1 : lstripL e1 = e1) (hne1 : e1 ≠ []) (hg : Gap ws [' '] q (e1 ++ ws ++ q) (e1 ++ ' ' :: q)) :
    loopL i ((pre ++ e1 ++ ws1 ++ '\\' :: tr) :: (ind ++ q) :: rest) [] ix =
      emit (i, pre ++ e1 ++ ' ' :: q) (loopL (i + 2) rest [] i) ∧
    EqUpToColumn (classifyL ExprParse.parseExpr (pre ++ e1 ++ ' ' :: q))
      (classifyL ExprParse.parseExpr (pre ++ e1 ++ ws ++ q)) := by
  have hrep := (shape_assign_replace hsh (by rw [List.append_assoc]; exact lstrip_append_self he1 hne1 _)
    (e1 ++ ' ' :: q) (lstrip_append_self he1 hne1 _) (by simp [hne1])).2
  have htake : (pre ++ e1 ++ ws ++ q).take pre.length = pre := by
    rw [List.append_assoc, List.append_assoc]; exact List.take_left
  rw [htake] at hrep
  have hl' : pre ++ e1 ++ ' ' :: q = pre ++ (e1 ++ ' ' :: q) := by simp
  refine continuation_break_irrelevant i ix (pre ++ e1) q ws ws1 tr ind rest (e1 ++ ws ++ q) (e1 ++ ' ' :: q) q
    hp hq hpc hqc hqb h1 h2 h3 hws hne ?_ ?_ ?_ hg
  · unfold lineExpr; rw [hsh]
  · unfold lineExpr; rw [hl', hrep]
  · rw [hl', hrep, hsh]; rfl

/-- `  x = ff(1,` + backslash / `\t\t'a \' b') + 2`: the break is in front of a string literal with an escaped quote; the
site is found by `topLevelAt`, every other hypothesis is decided -/
example := continuation_break_irrelevant_assign 0 0 "  x = ".toList "ff(1,".toList "'a \\' b') + 2".toList "   ".toList
  " ".toList "\t".toList "\t\t".toList "x".toList ["y = 1".toList]
  (by decide_lit) (by decide_lit) (by decide_lit) (by decide_lit) (by decide_lit) (by decide_lit) (by decide_lit) (by decide_lit) (by decide_lit) (by decide_lit)
  (by decide_lit) (by decide_lit) (by decide_lit)
  (gap_of_topLevelAt _ _ _ 30 5 _ "ff(1,".toList (by kernel_rfl) (List.append_assoc ..) (by kernel_rfl))

end C10
