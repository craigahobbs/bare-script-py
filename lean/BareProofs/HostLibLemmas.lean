import BareModel.HostLib

/-!
# `HostLib.lib` by the answer of `Lib`

`HostLib.lib` asks `Lib` first; a call `Lib` answers `unmodelled` goes to `fallback`, which for the eight names of `hostKeeps`
is HostImpl's tree on the projection `LWorld.toImpl`, lifted.  `Lib` answers `unmodelled` in particular for every name neither
of its tables has a body for (`lib_noBody`), whatever the arguments and the heap: every name of `hostKeeps` but `arrayIndexOf`.
-/

namespace HostLib
open Machine

theorem putBack_toImpl (w : LWorld) : putBack w.heap w.toImpl = w := rfl

theorem lib_noBody {f : String} (hb : Lib.bodies.lookup f = none) (hr : Lib.rawBodies.lookup f = none)
    (args : List Lib.Value) (h : Lib.Heap) : Lib.lib f args h = (.unmodelled, h) := by
  unfold Lib.lib Lib.eff
  split
  · rfl
  · split
    · rw [hr]; rfl
    · rw [hb]
      split
      · contradiction
      · rfl

/-- stated for variables: on a closed call the elaborator evaluates the call (the string comparisons through all of `Lib`'s
tables) to see that the host's field and `HostLib.lib` agree -/
theorem lib_fallback {name : String} {args : List Value} {w : LWorld}
    (hu : (Lib.lib name (args.map toLib) w.heap).1 = .unmodelled) : hostLib.lib name args w = fallback name args w := by
  show lib name args w = _
  unfold lib
  generalize Lib.lib name (args.map toLib) w.heap = r at hu
  obtain ⟨r1, h⟩ := r
  cases hu
  rfl

theorem lib_keeps {name : String} {args : List Value} {w : LWorld}
    (hu : (Lib.lib name (args.map toLib) w.heap).1 = .unmodelled) (hk : hostKeeps.contains name = true) :
    hostLib.lib name args w = lift (HostImpl.lib name args w.toImpl) w.heap :=
  (lib_fallback hu).trans (if_pos hk)

/-- of the names of `hostKeeps` only `arrayIndexOf` has a body in `Lib` (which answers `unmodelled` when the needle is a
match function) -/
theorem keeps_noBody :
    ∀ f ∈ hostKeeps, f ≠ "arrayIndexOf" → Lib.bodies.lookup f = none ∧ Lib.rawBodies.lookup f = none := by
  decide +kernel

theorem lib_keeps_noBody {name : String} (hk : name ∈ hostKeeps) (hne : name ≠ "arrayIndexOf") (args : List Value)
    (w : LWorld) : hostLib.lib name args w = lift (HostImpl.lib name args w.toImpl) w.heap :=
  have ⟨hb, hr⟩ := keeps_noBody name hk hne
  lib_keeps (congrArg Prod.fst (lib_noBody hb hr _ _)) (List.contains_iff_mem.mpr hk)

end HostLib
