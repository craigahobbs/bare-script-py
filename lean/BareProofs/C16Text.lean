import BareProofs.C16TextLemmas
import BareProofs.TextRun
import BareModel.Gen.Regex

/-!
# C16Text — ISO date/datetime TEXT at character level (property C16, text part)

Model: `BareModel/IsoText.lean`; lemmas: `BareProofs/C16TextLemmas.lean`.  The text ↔ fields step on its own, with nothing of
the zone in it, so everything here is at full strength: the pattern sources of the working tree ARE the anchored renderings of
the regex ASTs `dateRe` / `dateTimeRe` whose languages the hand-written recognisers accept (the language is tied to the pattern
SOURCE, not only to a hand-written shape); `parseText (formatText f sub) = some f` for every valid field record; the accepted
texts are exactly those of the language with valid fields; fraction digits are cut, not rounded.  The mirror
`Datetime.isoParse` / `isoFormatUs` is this layer composed with the zone step `toZone` (`isoParse_factors`, `isoFormatUs_eq`);
its round trip and rejection are in `BareProofs/C16.lean`.
-/

open Datetime IsoText

namespace C16

/-- the ISO regex sources (and flags: 256 = re.ASCII) the hand-written scanners/formatter were written for -/
theorem regex_table :
    Gen.regexes.lookup "value._R_DATE" = some ("^(?P<year>\\d{4})-(?P<month>\\d{2})-(?P<day>\\d{2})\\Z", 256) ∧
    Gen.regexes.lookup "value._R_DATETIME" =
      some ("^\\d{4}-\\d{2}-\\d{2}T\\d{2}:\\d{2}:\\d{2}(?:\\.\\d{1,6})?(?:Z|[+-]\\d{2}:[0-5]\\d)\\Z", 256) ∧
    Gen.regexes.lookup "value._R_DATETIME_ZULU" = some ("Z\\Z", 32) ∧
    Gen.regexes.lookup "value._R_DATETIME_MICROSECOND" = some ("\\.(\\d{6})", 32) ∧
    Gen.regexes.lookup "value._R_DATETIME_TZ_CLEANUP" = some ("([+-]\\d\\d:\\d\\d):\\d\\d$", 32) := by decide +kernel

end C16

namespace C16Text

instance (c : Char) : Decidable (Dig c) := by unfold Dig; exact inferInstance

theorem patSource_dateRe : patSource dateRe = "^(?P<year>\\d{4})-(?P<month>\\d{2})-(?P<day>\\d{2})\\Z".toList := by
  decide_lit

theorem patSource_dateTimeRe : patSource dateTimeRe =
    "^\\d{4}-\\d{2}-\\d{2}T\\d{2}:\\d{2}:\\d{2}(?:\\.\\d{1,6})?(?:Z|[+-]\\d{2}:[0-5]\\d)\\Z".toList := by
  decide_lit

/-- **C16Text / pin.** The sources (and flags: 256 = `re.ASCII`, 32 = `re.UNICODE` default) of the patterns in
`value.py` today — regenerated into `Gen.regexes` on every run — are, character for character, the anchored rendering
`^…\Z` of the regex ASTs whose language the recogniser is proved to accept (`isoText_lang`, `isoDate_lang`); the three
helper patterns of `value_string` / `value_parse_datetime` are the ones the formatter/parser model was written for. -/
theorem iso_regex_sources_pinned :
    Gen.regexes.lookup "value._R_DATE" = some (String.ofList (patSource dateRe), 256) ∧
    Gen.regexes.lookup "value._R_DATETIME" = some (String.ofList (patSource dateTimeRe), 256) ∧
    Gen.regexes.lookup "value._R_DATETIME_ZULU" = some ("Z\\Z", 32) ∧
    Gen.regexes.lookup "value._R_DATETIME_MICROSECOND" = some ("\\.(\\d{6})", 32) ∧
    Gen.regexes.lookup "value._R_DATETIME_TZ_CLEANUP" = some ("([+-]\\d\\d:\\d\\d):\\d\\d$", 32) := by
  rw [patSource_dateRe, patSource_dateTimeRe, String.ofList_toList, String.ofList_toList]
  exact C16.regex_table

example : patSource dateRe = "^(?P<year>\\d{4})-(?P<month>\\d{2})-(?P<day>\\d{2})\\Z".toList ∧
    patSource dateTimeRe =
      "^\\d{4}-\\d{2}-\\d{2}T\\d{2}:\\d{2}:\\d{2}(?:\\.\\d{1,6})?(?:Z|[+-]\\d{2}:[0-5]\\d)\\Z".toList :=
  ⟨patSource_dateRe, patSource_dateTimeRe⟩

/-- **C16Text / language (datetime).** For EVERY text: the hand-written recogniser `scanRaw` succeeds iff the text is in
the language of `_R_DATETIME` (decided by the generic matcher on the AST; `fullMatch_iff`: that is the declarative
language `Lang dateTimeRe`). -/
theorem isoText_lang (cs : List Char) : isDateTimeText cs = true ↔ (scanRaw cs).isSome = true := by
  unfold isDateTimeText
  rw [fullMatch_iff, lang_dateTime]
  constructor
  · intro h; obtain ⟨r, hr⟩ := shape_scanRaw h; simp [hr]
  · intro h; obtain ⟨r, hr⟩ := Option.isSome_iff_exists.1 h; exact scanRaw_shape hr

/-- **C16Text / language (date).** The same for `_R_DATE` and `Datetime.scanDate`. -/
theorem isoDate_lang (cs : List Char) : isDateText cs = true ↔ (scanDate cs).isSome = true := by
  unfold isDateText
  rw [fullMatch_iff, lang_date]
  constructor
  · intro h; obtain ⟨r, hr⟩ := shape_scanDate h; simp [hr]
  · intro h; obtain ⟨r, hr⟩ := Option.isSome_iff_exists.1 h; exact scanDate_shape hr

/-- non-vacuity / hostile texts: the predicate, computed by the kernel (7 fraction digits, lower-case `z`/`t`, trailing
newline, non-ASCII digits, offset minutes 60, missing seconds, 5-digit year: out; `+24:00`, `-00:00`, year `0000`: in the
LANGUAGE — the field check rejects `+24:00` and year 0 later) -/
example : isDateTimeText "2024-01-01T00:00:00.123456+05:30".toList = true ∧
    isDateTimeText "2024-01-01T00:00:00.1234567+05:30".toList = false ∧
    isDateTimeText "2024-01-01T00:00:00Z".toList = true ∧ isDateTimeText "2024-01-01T00:00:00z".toList = false ∧
    isDateTimeText "2024-01-01t00:00:00Z".toList = false ∧ isDateTimeText "2024-01-01T00:00:00Z\n".toList = false ∧
    isDateTimeText "2024-01-0١T00:00:00Z".toList = false ∧ isDateTimeText "2024-01-01T00:00:00+00:60".toList = false ∧
    isDateTimeText "2024-01-01T00:00Z".toList = false ∧ isDateTimeText "12024-01-01T00:00:00Z".toList = false ∧
    isDateTimeText "2024-01-01T00:00:00.Z".toList = false ∧ isDateTimeText "2024-01-01T00:00:00".toList = false ∧
    isDateTimeText "2024-01-01T00:00:00+24:00".toList = true ∧ isDateTimeText "2024-01-01T00:00:00-00:00".toList = true ∧
    isDateTimeText "0000-01-01T00:00:00Z".toList = true ∧
    isDateText "0999-01-01".toList = true ∧ isDateText "2024-01-01\n".toList = false ∧ isDateText "２０２４-01-01".toList = false ∧
    isDateText "2024-1-1".toList = false := by decide_lit

/-- the two languages are disjoint: the order of the two tests in `value_parse_datetime` is immaterial -/
theorem iso_langs_disjoint (cs : List Char) : ¬ (isDateText cs = true ∧ isDateTimeText cs = true) := by
  rintro ⟨h1, h2⟩
  unfold isDateText at h1; unfold isDateTimeText at h2
  rw [fullMatch_iff, lang_date] at h1
  rw [fullMatch_iff, lang_dateTime] at h2
  obtain ⟨y1, y2, y3, y4, m1, m2, d1, d2, e, _⟩ := h1
  obtain ⟨a1, a2, a3, a4, b1, b2, c1, c2, h1, h2, i1, i2, s1, s2, f, z, e', _⟩ := h2
  rw [e] at e'
  simp at e'

theorem validate_eq (r : Raw) :
    validate r = if (⟨r.year, r.month, r.day, r.hour, r.minute, r.second, r.us / 1000, r.off⟩ : Fields).Valid then
      some ⟨r.year, r.month, r.day, r.hour, r.minute, r.second, r.us / 1000, r.off⟩ else none := by
  simp only [validate, C16.mkDT_eq, Fields.Valid, Fields.dt]
  by_cases hv : DT.Valid ⟨r.year, r.month, r.day, r.hour, r.minute, r.second, (r.us / 1000 : Nat)⟩
  · simp only [hv, if_true, true_and]
  · simp only [hv, if_false, false_and]

theorem validate_some_iff (r : Raw) (f : Fields) :
    validate r = some f ↔
      f = ⟨r.year, r.month, r.day, r.hour, r.minute, r.second, r.us / 1000, r.off⟩ ∧ f.Valid := by
  rw [validate_eq]
  constructor
  · intro h
    split at h
    · cases h; exact ⟨rfl, ‹_›⟩
    · cases h
  · rintro ⟨rfl, hv⟩; exact if_pos hv

theorem validate_of_valid {f : Fields} (hv : f.Valid) :
    validate ⟨f.year, f.month, f.day, f.hour, f.minute, f.second, f.ms * 1000, f.off⟩ = some f :=
  (validate_some_iff _ f).2 ⟨by simp only [Nat.mul_div_cancel _ (show 0 < 1000 by decide)], hv⟩

theorem isoText_roundtrip_chars (f : Fields) (sub : Nat) (hv : f.Valid) : parseChars (formatChars f sub) = some f := by
  simp only [parseChars, scanRaw_format sub hv, Option.bind_some, validate_of_valid hv]

/-- **C16Text / round trip.** For EVERY valid field record `f` — year 1..9999 (printed with four digits: `0999`, `0001`),
a real calendar day, time of day to the millisecond, UTC offset any whole number of minutes with |offset| < 24 h — and every
sub-millisecond remainder `sub` (which only forces the `.mmm` fraction to be printed), the text `value_string` prints
parses back to exactly `f`: nothing is lost or altered between fields and characters.  No zone is involved. -/
theorem isoText_roundtrip (f : Fields) (sub : Nat) (hv : f.Valid) : parseText (formatText f sub) = some f := by
  simp only [parseText, formatText, String.toList_ofList, isoText_roundtrip_chars f sub hv]

/-- non-vacuity: year 999 at −05:30 with milliseconds; UTC prints `+00:00`; `.000` printed when only microseconds exist;
the extreme offsets ±23:59 -/
example : (⟨999, 1, 2, 3, 4, 5, 6, -330⟩ : Fields).Valid ∧
    formatText ⟨999, 1, 2, 3, 4, 5, 6, -330⟩ = "0999-01-02T03:04:05.006-05:30" ∧
    parseText "0999-01-02T03:04:05.006-05:30" = some ⟨999, 1, 2, 3, 4, 5, 6, -330⟩ ∧
    formatText ⟨2024, 2, 29, 23, 59, 59, 0, 0⟩ = "2024-02-29T23:59:59+00:00" ∧
    formatText ⟨2024, 2, 29, 23, 59, 59, 0, 0⟩ 7 = "2024-02-29T23:59:59.000+00:00" ∧
    (⟨9999, 12, 31, 0, 0, 0, 999, 1439⟩ : Fields).Valid ∧
    formatText ⟨9999, 12, 31, 0, 0, 0, 999, 1439⟩ = "9999-12-31T00:00:00.999+23:59" ∧
    formatText ⟨1, 1, 1, 0, 0, 0, 0, -1439⟩ = "0001-01-01T00:00:00-23:59" ∧
    ¬ (⟨2023, 2, 29, 0, 0, 0, 0, 0⟩ : Fields).Valid ∧ ¬ (⟨2024, 1, 1, 0, 0, 0, 0, 1440⟩ : Fields).Valid := by
  simp only [parseText, formatText]
  repeat rw [String.ofList_inj]
  decide_lit

/-- the formatter is injective on valid records (distinct datetimes/offsets never print the same text) -/
theorem formatText_injective {f g : Fields} {sub sub' : Nat} (hf : f.Valid) (hg : g.Valid)
    (h : formatText f sub = formatText g sub') : f = g := by
  have h1 := isoText_roundtrip f sub hf
  rw [h, isoText_roundtrip g sub' hg] at h1
  exact (Option.some.inj h1).symm

/-- **C16Text / rejection.** If a text parses to a field record at all, the text is in the language of `_R_DATETIME`
(explicit decidable predicate `isDateTimeText` = the generic matcher run on the AST of the pinned source: ASCII digits
only, upper-case `T`/`Z`, 1..6 fraction digits, offset minutes `[0-5]\d`, nothing before or after — no trailing newline)
and the record is valid.  Contrapositive: every other text gives `none` (null), it never fails. -/
theorem isoText_reject (s : String) (f : Fields) (h : parseText s = some f) :
    isDateTimeText s.toList = true ∧ f.Valid := by
  simp only [parseText, parseChars, Option.bind_eq_some_iff] at h
  obtain ⟨r, hr, hv⟩ := h
  exact ⟨(isoText_lang _).2 (by simp [hr]), ((validate_some_iff r f).1 hv).2⟩

/-- what the formatter prints is always in the language of `_R_DATETIME` -/
theorem isoText_format_in_lang (f : Fields) (sub : Nat) (hv : f.Valid) :
    isDateTimeText (formatText f sub).toList = true :=
  (isoText_reject _ f (isoText_roundtrip f sub hv)).1

/-- **C16Text / parse ∘ format ∘ parse = parse** (no zone, full strength): whatever spelling was accepted (`Z`, `-00:00`,
one or six fraction digits), printing the parsed record and parsing again returns the same record. -/
theorem isoText_reparse (s : String) (f : Fields) (sub : Nat) (h : parseText s = some f) :
    parseText (formatText f sub) = some f :=
  isoText_roundtrip f sub (isoText_reject s f h).2

example : parseText "2024-01-01T00:00:00.5Z" = some ⟨2024, 1, 1, 0, 0, 0, 500, 0⟩ ∧
    formatText ⟨2024, 1, 1, 0, 0, 0, 500, 0⟩ = "2024-01-01T00:00:00.500+00:00" := by
  simp only [parseText, formatText]
  rw [String.ofList_inj]
  decide_lit

/-- **C16Text / acceptance.** Conversely every text in the language scans to a `Raw` record (six numbers, microseconds,
offset) and the outcome is decided by the field check alone. -/
theorem isoText_accept (cs : List Char) (h : isDateTimeText cs = true) :
    ∃ r, scanRaw cs = some r ∧ parseChars cs = validate r := by
  obtain ⟨r, hr⟩ := Option.isSome_iff_exists.1 ((isoText_lang cs).1 h)
  exact ⟨r, hr, by simp [parseChars, hr]⟩

theorem isoText_parse_iff (cs : List Char) (f : Fields) :
    parseChars cs = some f ↔
      isDateTimeText cs = true ∧
      ∃ r, scanRaw cs = some r ∧ f = ⟨r.year, r.month, r.day, r.hour, r.minute, r.second, r.us / 1000, r.off⟩ ∧ f.Valid := by
  constructor
  · intro h
    simp only [parseChars, Option.bind_eq_some_iff] at h
    obtain ⟨r, hr, hv⟩ := h
    exact ⟨(isoText_lang _).2 (by simp [hr]), r, hr, (validate_some_iff r f).1 hv⟩
  · rintro ⟨_, r, hr, hv⟩
    simp only [parseChars, hr, Option.bind_some]
    exact (validate_some_iff r f).2 hv

/-- non-vacuity / hostile texts through the whole text layer: fraction cut (not rounded) to milliseconds, 1..6 digits,
`Z` and `-00:00` are offset 0, `+24:00`, minute 60, second 60, hour 24, February 30, year 0 are null -/
example : parseText "2024-01-01T00:00:00.123456+05:30" = some ⟨2024, 1, 1, 0, 0, 0, 123, 330⟩ ∧
    parseText "2024-01-01T00:00:00.9999Z" = some ⟨2024, 1, 1, 0, 0, 0, 999, 0⟩ ∧
    parseText "2024-01-01T00:00:00.1-00:00" = some ⟨2024, 1, 1, 0, 0, 0, 100, 0⟩ ∧
    parseText "2024-01-01T00:00:00.0009Z" = some ⟨2024, 1, 1, 0, 0, 0, 0, 0⟩ ∧
    parseText "2024-01-01T00:00:00-23:59" = some ⟨2024, 1, 1, 0, 0, 0, 0, -1439⟩ ∧
    parseText "2024-01-01T00:00:00.1234567+05:30" = none ∧ parseText "2024-01-01T00:00:00+24:00" = none ∧
    parseText "2024-01-01T23:60:00Z" = none ∧ parseText "2024-01-01T23:59:60Z" = none ∧ parseText "2024-01-01T24:00:00Z" = none ∧
    parseText "2024-02-30T00:00:00Z" = none ∧ parseText "0000-01-01T00:00:00Z" = none ∧ parseText "2024-01-01T00:00:00Z\n" = none ∧
    parseText "" = none := by
  simp only [parseText]
  decide_lit

/-- **C16Text / fraction.** Whatever the number of fraction digits (1..6) of an accepted text, the millisecond field is
the value of the first three digits, right-padded with zeros (`.1` → 100, `.0009` → 0, `.999999` → 999): digits beyond the
third are CUT, never rounded — what `result.microsecond // 1000` does. -/
theorem isoText_fraction_truncates {y1 y2 y3 y4 m1 m2 d1 d2 h1 h2 i1 i2 s1 s2 : Char} {ds z : List Char} {f : Fields}
    (hd : ∀ c ∈ ds, Dig c) (hz : ZoneShape z)
    (h : parseChars (y1 :: y2 :: y3 :: y4 :: '-' :: m1 :: m2 :: '-' :: d1 :: d2 :: 'T' :: h1 :: h2 :: ':' :: i1 :: i2 :: ':' ::
      s1 :: s2 :: '.' :: (ds ++ z)) = some f) :
    ms3 ds = some f.ms := by
  simp only [parseChars, Option.bind_eq_some_iff] at h
  obtain ⟨r, hr, hv⟩ := h
  have hf := ((validate_some_iff r f).1 hv).1
  simp only [scanRaw, Option.bind_eq_bind, Option.bind_eq_some_iff, Option.pure_def, Option.some.injEq] at hr
  obtain ⟨y, _, mo, _, d, _, hh, _, mi, _, s, _, ⟨us, o⟩, hfz, e⟩ := hr
  obtain ⟨c, tl, ez, hc, _⟩ := zoneShape_head hz
  rw [scanFracZone_frac hd ez hc] at hfz
  simp only [Option.bind_eq_bind, Option.bind_eq_some_iff, Option.pure_def, Option.some.injEq, Prod.mk.injEq] at hfz
  obtain ⟨us', hus, o', _, rfl, _⟩ := hfz
  rw [hf, ← e]
  exact frac_truncates hus

example : parseText "2024-01-01T00:00:00.999999Z" = some ⟨2024, 1, 1, 0, 0, 0, 999, 0⟩ ∧ ms3 "999999".toList = some 999 ∧
    ms3 "1".toList = some 100 ∧ ms3 "0009".toList = some 0 ∧ ms3 "12".toList = some 120 ∧
    ZoneShape ['Z'] ∧ ZoneShape "+05:30".toList := by
  simp only [parseText]
  refine ⟨by decide_lit, by decide_lit, by decide_lit, by decide_lit, by decide_lit, Or.inl rfl, ?_⟩
  exact Or.inr ⟨'+', '0', '5', '3', '0', rfl, Or.inl rfl, by decide, by decide, by decide, by decide⟩

/-- **C16Text / date form.** `datetimeISOFormat(d, true)` prints `YYYY-MM-DD` (year zero-padded to four digits) and that
text parses back to the same year, month, day — for every real calendar day of years 1..9999. -/
theorem isoText_date_form (y m d : Nat) (hv : DT.Valid ⟨y, m, d, 0, 0, 0, 0⟩) :
    parseDateText (formatDateText y m d) = some (y, m, d) := by
  obtain ⟨y1, y2, m1, m2, d1, d2, _⟩ := hv
  simp only [] at y1 y2 m1 m2 d1 d2
  have hdim := C16.daysInMonth_le y m1 m2
  have hY : y < 10000 := by omega
  have hM : m < 100 := by omega
  have hD : d < 100 := by omega
  have hs : scanDate (formatDateChars y m d) = some (y, m, d) := by
    simp only [formatDateChars, pad4, pad2, List.cons_append, List.nil_append, scanDate, num4?_pad hY, num2?_pad hM,
      num2?_pad hD, Option.bind_eq_bind, Option.bind_some, Option.pure_def]
  have hk : mkDT y m d 0 0 0 0 = some ⟨y, m, d, 0, 0, 0, 0⟩ := by
    unfold mkDT; exact if_pos ⟨y1, y2, m1, m2, d1, d2, by decide⟩
  simp only [parseDateText, formatDateText, String.toList_ofList, parseDateChars, hs, Option.bind_some, hk, Option.map_some]

/-- … and a text that parses as a date is in the language of `_R_DATE` and names a real calendar day -/
theorem isoDate_reject (s : String) (p : Nat × Nat × Nat) (h : parseDateText s = some p) :
    isDateText s.toList = true ∧ DT.Valid ⟨p.1, p.2.1, p.2.2, 0, 0, 0, 0⟩ := by
  simp only [parseDateText, parseDateChars, Option.bind_eq_some_iff, Option.map_eq_some_iff] at h
  obtain ⟨q, hq, t, hk, e⟩ := h
  subst e
  have := C16.mkDT_some hk
  refine ⟨(isoDate_lang _).2 (by simp [hq]), ?_⟩
  have h2 := this.2; rw [this.1] at h2; exact h2

/-- the date text of the text layer is `Datetime.isoFormatDate` (what the driver of C16 compares with the library) -/
theorem formatDate_eq (t : DT) : formatDateChars t.year.toNat t.month.toNat t.day.toNat = isoFormatDate t := rfl

example : formatDateText 999 2 3 = "0999-02-03" ∧ parseDateText "0999-02-03" = some (999, 2, 3) ∧
    formatDateText 5 12 31 = "0005-12-31" ∧ parseDateText "2024-02-30" = none ∧ parseDateText "2023-02-29" = none ∧
    parseDateText "0000-01-01" = none ∧ parseDateText "2024-13-01" = none ∧ parseDateText "2024-01-01\n" = none ∧
    parseDateText "2024-02-29" = some (2024, 2, 29) := by
  simp only [parseDateText, formatDateText]
  repeat rw [String.ofList_inj]
  decide_lit

theorem scanRaw_of_scanDate {cs : List Char} {p : Nat × Nat × Nat} (hd : scanDate cs = some p) : scanRaw cs = none := by
  cases hr : scanRaw cs with
  | none => rfl
  | some r =>
    exact absurd ⟨(isoDate_lang cs).2 (by rw [hd]; rfl), (isoText_lang cs).2 (by rw [hr]; rfl)⟩ (iso_langs_disjoint cs)

/-- **C16Text / factoring (parse).** The mirror of `value_parse_datetime` is: the date form (local midnight, no zone), else
the text layer `parseChars` followed by the zone step `toZone` — for every text and every zone function. -/
theorem isoParse_factors (offU : Int → Int) (cs : List Char) :
    isoParse offU cs =
      match parseDateChars cs with
      | some p => some ⟨p.1, p.2.1, p.2.2, 0, 0, 0, 0⟩
      | none => (parseChars cs).bind (toZone offU) := by
  unfold isoParse parseDateChars parseChars
  cases hd : scanDate cs with
  | some p =>
    obtain ⟨y, mo, d⟩ := p
    simp only [Option.bind_some, C16.mkDT_eq]
    split
    · rfl
    · simp only [Option.map_none, scanRaw_of_scanDate hd, Option.bind_none]
  | none =>
    simp only [Option.bind_none, scanDateTime_eq]
    cases scanRaw cs with
    | none => rfl
    | some r =>
      have eus : (r.us : Int) / 1000 = ((r.us / 1000 : Nat) : Int) := by omega
      simp only [Option.bind_some, rawIso, validate_eq, Fields.Valid, Fields.dt, C16.mkDT_eq]
      by_cases hrange : -1440 < r.off ∧ r.off < 1440
      · simp only [hrange, and_self, and_true, if_true, eus]
        by_cases hv : DT.Valid ⟨r.year, r.month, r.day, r.hour, r.minute, r.second, (r.us / 1000 : Nat)⟩
        · simp only [hv, if_true, Option.bind_some]; rfl
        · simp only [hv, if_false, Option.bind_none]
      · simp only [hrange, and_false, if_false, Option.bind_none]

/-- the field record of a naive datetime printed at offset `om` minutes -/
def fieldsOf (t : DT) (om : Int) : Fields :=
  ⟨t.year.toNat, t.month.toNat, t.day.toNat, t.hour.toNat, t.minute.toNat, t.second.toNat, t.ms.toNat, om⟩

theorem fieldsOf_dt {t : DT} (hv : t.Valid) (om : Int) : (fieldsOf t om).dt = t := by
  obtain ⟨y1, y2, m1, m2, d1, d2, a1, a2, b1, b2, c1, c2, e1, e2⟩ := hv
  simp only [fieldsOf, Fields.dt]
  rw [Int.toNat_of_nonneg (by omega), Int.toNat_of_nonneg (by omega), Int.toNat_of_nonneg (by omega),
    Int.toNat_of_nonneg a1, Int.toNat_of_nonneg b1, Int.toNat_of_nonneg c1, Int.toNat_of_nonneg e1]

theorem fieldsOf_valid {t : DT} (hv : t.Valid) {o : Int} (hmin : o % 60 = 0) (h1 : -86400 < o) (h2 : o < 86400) :
    (fieldsOf t (o / 60)).Valid :=
  ⟨by rw [fieldsOf_dt hv]; exact hv, by show -1440 < o / 60; omega, by show o / 60 < 1440; omega⟩

/-- the mirror's formatter on any sub-millisecond remainder (only whether it is zero matters) -/
theorem isoFormatUs_eq (o : Int) (t : DT) (us : Int) (hms : 0 ≤ t.ms) (hmin : o % 60 = 0) :
    isoFormatUs o t us = formatChars (fieldsOf t (o / 60)) us.natAbs := by
  have e1 : (o / 60).natAbs / 60 = o.natAbs / 3600 := by omega
  have e2 : (o / 60).natAbs % 60 = o.natAbs / 60 % 60 := by omega
  have e3 : (o / 60 < 0) ↔ o < 0 := by omega
  have e4 : (t.ms.toNat = 0 ∧ us.natAbs = 0) ↔ (t.ms = 0 ∧ us = 0) := by omega
  simp only [isoFormatUs, formatChars, fieldsOf, fmtOffset, e1, e2, e3, e4]

/-- **C16Text / factoring (format).** The mirror of `value_string` at an offset of whole minutes IS the text-layer
formatter on the field record (offsets with a seconds part, local mean time, are NOT covered: their seconds are dropped
from the text — `C16.iso_offset_seconds_lost`). -/
theorem isoFormat_factors (o : Int) (t : DT) (sub : Nat) (hms : 0 ≤ t.ms) (hmin : o % 60 = 0) :
    isoFormatUs o t sub = formatChars (fieldsOf t (o / 60)) sub := by
  have := isoFormatUs_eq o t sub hms hmin
  rwa [Int.natAbs_natCast] at this

/-- a datetime text is too long to be a date text -/
theorem scanDate_formatChars (f : Fields) (sub : Nat) : scanDate (formatChars f sub) = none := by
  simp [formatChars, pad4, pad2, scanDate]

/-- the zone step undoes the printed offset for a datetime that exists in the zone -/
theorem toZone_roundtrip (offU : Int → Int) (t : DT) (hv : t.Valid) {o : Int} (hmin : o % 60 = 0)
    (hexists : offU (toLocalMs t - o * 1000) = o) (hutc : (ofLocalMs (toLocalMs t - o * 1000)).isSome = true) :
    toZone offU (fieldsOf t (o / 60)) = some t := by
  obtain ⟨u, hu⟩ := Option.isSome_iff_exists.1 hutc
  have e : o / 60 * 60 = o := by omega
  have e' : (fieldsOf t (o / 60)).off = o / 60 := rfl
  unfold toZone
  rw [fieldsOf_dt hv, e', e]
  simp only [hu, hexists, Int.sub_add_cancel]
  exact C16.ofLocalMs_toLocalMs hv

/-- **C16Text / date text round trip** (no zone hypothesis at all: a date is local midnight). For every well-formed
datetime, `datetimeISOParse(datetimeISOFormat(t, true))` is `t` cut to midnight, in every zone. -/
theorem iso_date_text_roundtrip (offU : Int → Int) (t : DT) (hv : t.Valid) :
    isoParseText offU (String.ofList (isoFormatDate t)) = some ⟨t.year, t.month, t.day, 0, 0, 0, 0⟩ := by
  obtain ⟨y1, y2, m1, m2, d1, d2, _⟩ := hv
  have hv' : DT.Valid ⟨(t.year.toNat : Int), t.month.toNat, t.day.toNat, 0, 0, 0, 0⟩ := by
    rw [Int.toNat_of_nonneg (by omega), Int.toNat_of_nonneg (by omega), Int.toNat_of_nonneg (by omega)]
    exact ⟨y1, y2, m1, m2, d1, d2, by simp⟩
  have := isoText_date_form t.year.toNat t.month.toNat t.day.toNat hv'
  simp only [parseDateText, formatDateText, String.toList_ofList] at this
  simp only [isoParseText, String.toList_ofList, isoParse_factors, ← formatDate_eq, this]
  rw [Int.toNat_of_nonneg (by omega), Int.toNat_of_nonneg (by omega), Int.toNat_of_nonneg (by omega)]

example : isoParseText (fun _ => -18000) (String.ofList (isoFormatDate ⟨999, 12, 31, 23, 59, 59, 999⟩)) =
    some ⟨999, 12, 31, 0, 0, 0, 0⟩ ∧ String.ofList (isoFormatDate ⟨999, 12, 31, 23, 59, 59, 999⟩) = "0999-12-31" := by
  decide +kernel

end C16Text
