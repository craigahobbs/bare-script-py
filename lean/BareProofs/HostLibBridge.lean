import BareProofs.HostLibLemmas
import BareModel.MachineSpec
import BareProofs.C15
import BareProofs.C08
import BareProofs.C09LibParam
import BareProofs.C04
import BareProofs.C01EraseLemmas
import Std.Data.String.ToNat

/-!
# HostLibBridge — the theorems of C15 for library calls issued by scripts through the Machine

`BareModel/HostLib.lean` makes the verified library model `Lib` the library of the jump machine (`hostLib`).  This file proves
that the construction is exact and transports C15 to machine level.  `Machine.Value ≃ Lib.Value` (function values are coded by
a bijection `FnVal ≃ Nat`), cells and worlds likewise, so no heap well-formedness side condition appears anywhere.  A modelled
library call of the machine **is** `Lib.lib` / one `Lib.step`: result value and heap, nothing else moves, independent of the
call-back runner and of `debug`; this carries C15's frame / freshness / failure theorems to `Machine.callValue … (fn (lib name))`,
with globals, log, partials and the statement counter in the frame.  Every tree of `hostLib` is one of the shapes of `HostShape`,
from which the host laws other properties assume are read off.  Any straight-line script of library-call statements
`v_k = f(args…)` run by `execM₀` (resp. `Machine.execute`, the mirror with the label cache) refines `Lib.runHistory` (resp. the
fold of the reference operations `Lib.Spec.specLib`).

**Side conditions** (all decidable): `Modelled name args heap` / `AllModelled cs s` — `Lib` answers `ok` or `fail`, not
`unmodelled` (see the module comment of `Lib.lean` for what is unmodelled); `ArgOK` — an argument of a history call is a
variable or a `null`/boolean/number/string literal (other values have no literal syntax); `NamesOK` — the variable names are
distinct, are not `null`/`true`/`false`, do not collide with the called function names, and no called function is named `if`;
fuel ≥ number of statements + 1 and statement budget 0 (= unlimited) or ≥ number of statements.
-/

namespace HostLib
open Machine

/-! ## isomorphisms: values, cells, worlds -/

theorem charIdx_lt (c : Char) : charIdx c < nScalars := by
  have := c.valid
  simp only [UInt32.isValidChar, Nat.isValidChar] at this
  unfold charIdx nScalars
  have : c.val.toNat = c.toNat := rfl
  split <;> omega

theorem idxChar_charIdx (c : Char) : idxChar (charIdx c) = c := by
  have hv := c.valid
  simp only [UInt32.isValidChar, Nat.isValidChar] at hv
  have : c.val.toNat = c.toNat := rfl
  unfold idxChar charIdx
  by_cases h : c.toNat < 0xD800
  · rw [if_pos h, if_pos h, Char.ofNat_toNat]
  · -- a scalar value that is not below the surrogate block lies above it
    rw [if_neg h, if_neg (by omega), show c.toNat - 0x800 + 0x800 = c.toNat by omega, Char.ofNat_toNat]

theorem charIdx_idxChar (d : Nat) (h : d < nScalars) : charIdx (idxChar d) = d := by
  unfold nScalars at h
  unfold idxChar charIdx
  have hv : (if d < 0xD800 then d else d + 0x800).isValidChar := by
    simp only [Nat.isValidChar]; split <;> omega
  rw [C15.toNat_ofNat_valid _ hv]
  by_cases hd : d < 0xD800
  · rw [if_pos hd, if_pos hd]
  · rw [if_neg hd, if_neg (by omega)]; omega

theorem nScalars_pos : 0 < nScalars := by decide

theorem decChars_encChars (cs : List Char) : ∀ f, encChars cs ≤ f → decChars f (encChars cs) = cs := by
  induction cs with
  | nil => intro f _; cases f <;> simp [encChars, decChars]
  | cons c cs ih =>
    intro f hf
    have hc := charIdx_lt c
    cases f with
    | zero => simp [encChars] at hf
    | succ f =>
      simp only [encChars] at hf ⊢
      have h1 : charIdx c + 1 + nScalars * encChars cs - 1 = charIdx c + nScalars * encChars cs := by omega
      have hm : (charIdx c + nScalars * encChars cs) % nScalars = charIdx c := by
        rw [Nat.add_mul_mod_self_left]; exact Nat.mod_eq_of_lt hc
      have hd : (charIdx c + nScalars * encChars cs) / nScalars = encChars cs := by
        rw [Nat.add_mul_div_left _ _ nScalars_pos, Nat.div_eq_of_lt hc]; omega
      have hle : encChars cs ≤ f := by
        have : encChars cs ≤ nScalars * encChars cs := Nat.le_mul_of_pos_left _ nScalars_pos
        omega
      simp only [decChars, h1, hm, hd, idxChar_charIdx, ih f hle]
      simp

theorem encChars_decChars : ∀ f n, n ≤ f → encChars (decChars f n) = n := by
  intro f
  induction f with
  | zero =>
    intro n hn
    have : n = 0 := by omega
    subst this; simp [decChars, encChars]
  | succ f ih =>
    intro n hn
    unfold decChars
    split
    · subst_vars; simp [encChars]
    · rename_i hne
      have hlt : (n - 1) % nScalars < nScalars := Nat.mod_lt _ nScalars_pos
      have hdiv : (n - 1) / nScalars ≤ f := by
        have : (n - 1) / nScalars ≤ n - 1 := Nat.div_le_self _ _
        omega
      simp only [encChars, charIdx_idxChar _ hlt, ih _ hdiv]
      have := Nat.mod_add_div (n - 1) nScalars
      omega

theorem decStr_encStr (s : String) : decStr (encStr s) = s := by
  unfold decStr encStr
  rw [decChars_encChars _ _ (Nat.le_refl _), String.ofList_toList]

theorem encStr_decStr (n : Nat) : encStr (decStr n) = n := by
  unfold decStr encStr
  rw [String.toList_ofList, encChars_decChars _ _ (Nat.le_refl _)]

theorem decFn_encFn (f : FnVal) : decFn (encFn f) = f := by
  cases f with
  | script i =>
    have h1 : 3 * i % 3 = 0 := Nat.mul_mod_right 3 i
    have h2 : 3 * i / 3 = i := Nat.mul_div_cancel_left i (by decide)
    simp [encFn, decFn, h1, h2]
  | other k =>
    have h1 : (3 * k + 1) % 3 = 1 := by omega
    have h2 : (3 * k + 1) / 3 = k := by omega
    simp [encFn, decFn, h1, h2]
  | lib name =>
    have h1 : (3 * encStr name + 2) % 3 = 2 := by omega
    have h2 : (3 * encStr name + 2) / 3 = encStr name := by omega
    simp [encFn, decFn, h1, h2, decStr_encStr]

theorem encFn_decFn (n : Nat) : encFn (decFn n) = n := by
  unfold decFn
  split
  · simp only [encFn]; omega
  · split
    · simp only [encFn]; omega
    · simp only [encFn, encStr_decStr]; omega

theorem ofLib_toLib (v : Value) : ofLib (toLib v) = v := by
  cases v <;> simp [toLib, ofLib, decFn_encFn]

theorem toLib_ofLib (v : Lib.Value) : toLib (ofLib v) = v := by
  cases v <;> simp [toLib, ofLib, encFn_decFn]

theorem toLib_injective {a b : Value} (h : toLib a = toLib b) : a = b := by
  rw [← ofLib_toLib a, ← ofLib_toLib b, h]

theorem map_ofLib_toLib (vs : List Value) : (vs.map toLib).map ofLib = vs := by
  rw [List.map_map]; exact List.map_id'' ofLib_toLib vs

theorem map_toLib_ofLib (vs : List Lib.Value) : (vs.map ofLib).map toLib = vs := by
  rw [List.map_map]; exact List.map_id'' toLib_ofLib vs

theorem cellToLib_cellOfLib (c : Lib.Cell) : cellToLib (cellOfLib c) = c := by
  cases c with
  | arr xs => simp only [cellToLib, cellOfLib, map_toLib_ofLib]
  | obj kvs =>
    simp only [cellToLib, cellOfLib, List.map_map]
    exact congrArg _ (List.map_id'' (fun kv => by simp only [Function.comp, toLib_ofLib]) kvs)

theorem cellOfLib_cellToLib (c : HostImpl.Cell) : cellOfLib (cellToLib c) = c := by
  cases c with
  | arr xs => simp only [cellToLib, cellOfLib, map_ofLib_toLib]
  | obj kvs =>
    simp only [cellToLib, cellOfLib, List.map_map]
    exact congrArg _ (List.map_id'' (fun kv => by simp only [Function.comp, ofLib_toLib]) kvs)

theorem ofImpl_toImpl (w : LWorld) : LWorld.ofImpl w.toImpl = w := by
  cases w with
  | mk heap log partials =>
    simp only [LWorld.ofImpl, LWorld.toImpl, List.map_map]
    exact congrArg (LWorld.mk · log partials) (List.map_id'' cellToLib_cellOfLib heap)

theorem toImpl_ofImpl (w : HostImpl.World) : (LWorld.ofImpl w).toImpl = w := by
  cases w with
  | mk heap log partials =>
    simp only [LWorld.ofImpl, LWorld.toImpl, List.map_map]
    exact congrArg (HostImpl.World.mk · log partials) (List.map_id'' cellOfLib_cellToLib heap)

/-! ## one library call -/

/-- `Lib` models this call (decidable: `Lib.Res` has decidable equality) -/
def Modelled (name : String) (args : List Lib.Value) (h : Lib.Heap) : Prop := (Lib.lib name args h).1 ≠ .unmodelled

instance (name : String) (args : List Lib.Value) (h : Lib.Heap) : Decidable (Modelled name args h) :=
  inferInstanceAs (Decidable (_ ≠ _))

/-- the `Lib` state a machine state with script variables `env` (as `Lib` values) corresponds to -/
def libSt (env : List Lib.Value) (st : State LWorld) : Lib.St := ⟨env, st.world.heap⟩

/-- the machine state after a library call that left `Lib` state `s'`: only the heap component of the world moves -/
def withHeap (st : State LWorld) (h : Lib.Heap) : State LWorld := { st with world := { st.world with heap := h } }

theorem withHeap_self (st : State LWorld) : withHeap st st.world.heap = st := by
  cases st with
  | mk g w c => cases w; rfl

/-- the tree of a modelled call is a single `ret` node: the `Lib` outcome, values converted back -/
theorem lib_modelled (name : String) (args : List Value) (w : LWorld) (hm : Modelled name (args.map toLib) w.heap) :
    hostLib.lib name args w =
      .ret (match (Lib.lib name (args.map toLib) w.heap).1 with
            | .ok v => .ok (ofLib v) | .fail v => .fail (ofLib v) | .unmodelled => .fail .null)
        { w with heap := (Lib.lib name (args.map toLib) w.heap).2 } := by
  show lib name args w = _
  unfold lib
  unfold Modelled at hm
  generalize Lib.lib name (args.map toLib) w.heap = r at hm ⊢
  obtain ⟨r1, h⟩ := r
  cases r1 with
  | ok v => rfl
  | fail v => rfl
  | unmodelled => exact absurd rfl hm

/-- **lib_call_is_lib.** For every name, argument list and machine state such that `Lib` models the call:
running the interaction tree of `hostLib` yields exactly the `Lib` outcome — result value (`Res.val`, converted back) and heap —
and nothing else of the state moves (globals, log, partials, statement counter); it does not depend on the call-back runner
`call` (no call-back is ever issued) nor on `cfg.debug`. -/
theorem lib_call_is_lib (cfg : Config LWorld) (hh : cfg.host = hostLib) (call : CallFn LWorld) (name : String)
    (args : List Value) (st : State LWorld) (hm : Modelled name (args.map toLib) st.world.heap) :
    runTree cfg call (hostLib.lib name args st.world) st =
      .ok (ofLib (Lib.lib name (args.map toLib) st.world.heap).1.val)
        (withHeap st (Lib.lib name (args.map toLib) st.world.heap).2) := by
  rw [lib_modelled name args st.world hm]
  unfold Modelled at hm
  generalize Lib.lib name (args.map toLib) st.world.heap = r at hm ⊢
  obtain ⟨r1, h⟩ := r
  cases r1 with
  | ok v => simp [runTree, withHeap, Lib.Res.val]
  | fail v => simp [runTree, withHeap, Lib.Res.val, hh, hostLib]
  | unmodelled => exact absurd rfl hm

/-- **lib_call_is_step.** The same, phrased with `Lib.step`: if the machine state carries the heap of the `Lib` state `s` and
the arguments the machine evaluated are (as `Lib` values) the arguments `c.args` evaluate to in `s.env`, then the library call
`c.fn(args…)` made by the machine returns the value `Lib.step` binds to the new variable and leaves exactly the heap of
`Lib.step Lib.lib s c`; independent of `call`. -/
theorem lib_call_is_step (cfg : Config LWorld) (hh : cfg.host = hostLib) (call : CallFn LWorld) (s : Lib.St) (c : Lib.Call)
    (args : List Value) (st : State LWorld) (hheap : st.world.heap = s.heap)
    (hargs : args.map toLib = c.args.map (Lib.evalArg s.env))
    (hm : Modelled c.fn (c.args.map (Lib.evalArg s.env)) s.heap) :
    ∃ v, (Lib.step Lib.lib s c).env = s.env ++ [v] ∧
      runTree cfg call (hostLib.lib c.fn args st.world) st = .ok (ofLib v) (withHeap st (Lib.step Lib.lib s c).heap) := by
  refine ⟨(Lib.lib c.fn (c.args.map (Lib.evalArg s.env)) s.heap).1.val, rfl, ?_⟩
  rw [← hargs, ← hheap] at hm
  rw [lib_call_is_lib cfg hh call c.fn args st hm, hargs, hheap]
  rfl

/-- the same for the call as the machine issues it: `callValue` on the function value `fn (lib name)` (any positive fuel) -/
theorem callValue_lib (cfg : Config LWorld) (hh : cfg.host = hostLib) (fuel : Nat) (name : String)
    (args : List Value) (st : State LWorld) (hm : Modelled name (args.map toLib) st.world.heap) :
    callValue cfg (fuel+1) (.fn (.lib name)) args st =
      .ok (ofLib (Lib.lib name (args.map toLib) st.world.heap).1.val)
        (withHeap st (Lib.lib name (args.map toLib) st.world.heap).2) := by
  rw [callValue, hh]
  exact lib_call_is_lib cfg hh _ name args st hm

/-! ## C15 at machine level -/

theorem head_toLib {args : List Value} {v : Value} (h : (args.map toLib).head? = some (toLib v)) : args.head? = some v := by
  cases args with
  | nil => simp at h
  | cons a as =>
    simp only [List.map_cons, List.head?_cons, Option.some.injEq] at h ⊢
    exact toLib_injective h

/-- **machine_lib_frame.** A (modelled) library call made by the machine changes no existing heap cell except — for the nine
mutators — the cell of the container passed as first argument; and it changes nothing else of the machine state: globals, log,
partial applications and statement counter are those before the call. -/
theorem machine_lib_frame (cfg : Config LWorld) (hh : cfg.host = hostLib) (fuel : Nat) (name : String)
    (args : List Value) (st : State LWorld) (hm : Modelled name (args.map toLib) st.world.heap)
    (r : Nat) (hr : r < st.world.heap.length)
    (hnot : ¬ (name ∈ C15.mutators ∧ (args.head? = some (.arr r) ∨ args.head? = some (.obj r)))) :
    ∃ v st', callValue cfg (fuel+1) (.fn (.lib name)) args st = .ok v st' ∧
      st'.world.heap[r]? = st.world.heap[r]? ∧ st.world.heap.length ≤ st'.world.heap.length ∧
      st'.globals = st.globals ∧ st'.world.log = st.world.log ∧ st'.world.partials = st.world.partials ∧
      st'.count = st.count := by
  refine ⟨_, _, callValue_lib cfg hh fuel name args st hm, ?_, ?_, rfl, rfl, rfl, rfl⟩
  · show (Lib.lib name (args.map toLib) st.world.heap).2[r]? = _
    apply C15.lib_frame name _ _ r hr
    rintro ⟨hmut, h | h⟩
    · exact hnot ⟨hmut, Or.inl (head_toLib (v := .arr r) h)⟩
    · exact hnot ⟨hmut, Or.inr (head_toLib (v := .obj r) h)⟩
  · exact (C15.lib_length name _ _).1

theorem ofLib_refOf (c : Lib.Cell) (n : Nat) : ofLib (Lib.refOf c n) = .arr n ∨ ofLib (Lib.refOf c n) = .obj n := by
  cases c <;> simp [Lib.refOf, ofLib]

/-- **machine_lib_fresh.** A successful call of one of the eight allocators (`arrayCopy`, `arrayNew`, `arrayNewSize`,
`arraySlice`, `objectCopy`, `objectKeys`, `objectNew`, `stringSplit`) made by the machine evaluates to a reference that is not
allocated before the call (`heap.length`), and the state after the call is the old state with exactly that one cell appended:
no existing cell, no global, no log line changes, so the result shares no cell with any argument. -/
theorem machine_lib_fresh (cfg : Config LWorld) (hh : cfg.host = hostLib) (fuel : Nat) (name : String)
    (hf : name ∈ C15.allocators) (args : List Value) (st : State LWorld) (lv : Lib.Value)
    (hok : (Lib.lib name (args.map toLib) st.world.heap).1 = .ok lv) :
    ∃ c, callValue cfg (fuel+1) (.fn (.lib name)) args st =
        .ok (ofLib (Lib.refOf c st.world.heap.length)) (withHeap st (st.world.heap ++ [c])) ∧
      (ofLib (Lib.refOf c st.world.heap.length) = .arr st.world.heap.length ∨
       ofLib (Lib.refOf c st.world.heap.length) = .obj st.world.heap.length) := by
  have hm : Modelled name (args.map toLib) st.world.heap := by unfold Modelled; rw [hok]; simp
  obtain ⟨c, hh', hv, -, -⟩ := C15.lib_fresh name hf (args.map toLib) st.world.heap
    (Lib.lib name (args.map toLib) st.world.heap).2 lv (by rw [← hok])
  refine ⟨c, ?_, ofLib_refOf c _⟩
  rw [callValue_lib cfg hh fuel name args st hm, hok, hh', hv]
  rfl

/-- the documented failure value, as a machine value -/
def docFailM (f : String) (args : List Value) : Value :=
  if f == "arrayIndexOf" || f == "arrayLastIndexOf" || f == "stringIndexOf" || f == "stringLastIndexOf" then .num (Rat.ofInt (-1))
  else if f == "arrayLength" || f == "stringLength" then .num (Rat.ofInt 0)
  else if f == "objectHas" then .bool false
  else if f == "objectGet" then args[2]?.getD .null
  else .null

theorem ofLib_docFail (f : String) (args : List Value) : ofLib (Lib.Spec.docFail f (args.map toLib)) = docFailM f args := by
  have h2 : ofLib ((args.map toLib)[2]?.getD .null) = args[2]?.getD .null := by
    cases h : args[2]? with
    | none => simp [h, ofLib]
    | some a => simp [h, ofLib_toLib]
  simp only [Lib.Spec.docFail, docFailM, apply_ite ofLib, h2]
  rfl

/-- **machine_lib_fail_unchanged.** A failing library call made by the machine — wrong-typed, missing or surplus argument, index
out of range, empty array to pop/shift, empty separator, … — leaves the *whole machine state* as it was (globals, heap, log,
partials, counter; with `cfg.debug` too: `hostLib.logFailure` is the identity) and evaluates to the documented failure value:
`-1` for the four index searches, `0` for the two lengths, `false` for `objectHas`, the caller's default for `objectGet`, `null`
otherwise. -/
theorem machine_lib_fail_unchanged (cfg : Config LWorld) (hh : cfg.host = hostLib) (fuel : Nat) (name : String)
    (args : List Value) (st : State LWorld) (lv : Lib.Value)
    (hfail : (Lib.lib name (args.map toLib) st.world.heap).1 = .fail lv) :
    callValue cfg (fuel+1) (.fn (.lib name)) args st = .ok (docFailM name args) st := by
  have hm : Modelled name (args.map toLib) st.world.heap := by unfold Modelled; rw [hfail]; simp
  obtain ⟨hheap, hv⟩ := C15.lib_fail_unchanged name (args.map toLib) st.world.heap lv hfail
  rw [callValue_lib cfg hh fuel name args st hm, hheap, hfail, withHeap_self]
  simp only [Lib.Res.val, hv, ofLib_docFail]

/-! ## calls `Lib` does not model -/

theorem lib_unmodelled {name : String} {args : List Value} {w : LWorld} (hu : ¬ Modelled name (args.map toLib) w.heap) :
    hostLib.lib name args w = fallback name args w ∧ (Lib.lib name (args.map toLib) w.heap).2 = w.heap := by
  have hu' : (Lib.lib name (args.map toLib) w.heap).1 = .unmodelled := Decidable.of_not_not hu
  refine ⟨lib_fallback hu', ?_⟩
  unfold Lib.lib at hu' ⊢
  generalize Lib.eff name (args.map toLib) w.heap = e at hu' ⊢
  cases e with
  | unmodelled => rfl
  | _ => cases hu'

/-- a call `Lib` does not model, of a function outside `hostKeeps`: the wrapper's `null`, state unchanged -/
theorem machine_lib_unmodelled (cfg : Config LWorld) (hh : cfg.host = hostLib) (fuel : Nat) (name : String)
    (args : List Value) (st : State LWorld) (hu : ¬ Modelled name (args.map toLib) st.world.heap)
    (hk : hostKeeps.contains name = false) :
    callValue cfg (fuel+1) (.fn (.lib name)) args st = .ok .null st := by
  rw [callValue, hh, (lib_unmodelled hu).1]
  simp only [fallback, hk, Bool.false_eq_true, if_false, runTree, hh, hostLib]
  cases st; simp

/-! ## `hostLib` has a `HostShape` -/

open HostShape (View Shape)
open C09 (Given)

def libView : View LWorld where
  heapAll Q w := C09.LibParam.HeapQ (fun v => Q (ofLib v)) w.heap
  mono h hh := fun c hc => by
    have := hh c hc
    cases c with
    | arr xs => exact fun x hx => h _ (this x hx)
    | obj kvs => exact fun kv hkv => h _ (this kv hkv)
  log := LWorld.log
  partials := LWorld.partials

theorem toImpl_all {Q : Value → Prop} {w : LWorld} (hh : libView.heapAll Q w) : C09.implView.heapAll Q w.toImpl := by
  intro c hc v hv
  obtain ⟨c0, hc0, rfl⟩ := List.mem_map.1 hc
  have := hh c0 hc0
  cases c0 with
  | arr xs =>
    obtain ⟨x, hx, rfl⟩ := List.mem_map.1 hv
    exact this x hx
  | obj kvs =>
    simp only [cellOfLib, C09.cellVals, List.map_map] at hv
    obtain ⟨kv, hkv, rfl⟩ := List.mem_map.1 hv
    exact this kv hkv

theorem all_map_toLib {Q : Value → Prop} {xs : List Value} (h : ∀ x ∈ xs, Q x) : ∀ x ∈ xs.map toLib, Q (ofLib x) := by
  intro x hx
  obtain ⟨a, ha, rfl⟩ := List.mem_map.1 hx
  rw [ofLib_toLib]; exact h a ha

/-- a shape of HostImpl, transported along `lift`, is the same shape over `LWorld`: the lifted tree hands every world it is
given to the HostImpl continuation as its projection, and no shape looks at more of a world than `libView` keeps -/
theorem lift_shape {fn : FnVal} {args : List Value} {W0 : LWorld} {w : HostImpl.World} {t : LibTree HostImpl.World}
    (h : Shape C09.implView fn args W0.toImpl w t) :
    ∀ W1 : LWorld, w = W1.toImpl → Shape libView fn args W0 W1 (lift t W1.heap) := by
  induction h with
  | ret hp hlog hq hrt =>
    rintro W1 rfl
    exact .ret hp hlog (fun Q hG h0 h1 => ⟨h1, (hq Q hG (toImpl_all h0) (toImpl_all h1)).2⟩) hrt
  | newPartial hn ha hp hlog _ => rintro W1 rfl; exact .newPartial hn ha hp hlog fun _ hh => hh
  | each hn ha hq _ ih =>
    rintro W1 rfl
    exact .each hn ha (fun Q hG h0 => hq Q hG (toImpl_all h0)) fun v W2 => ih v W2.toImpl W2 rfl
  | apply hn hk => rintro W1 rfl; exact .apply hn hk
  | globalGet hd hn ha => rintro W1 rfl; exact .globalGet hd hn ha
  | globalSet hv hn ha => rintro W1 rfl; exact .globalSet hv hn ha

/-- a call `Lib` answers is one `ret` made of what it was given (`LibParam.lib_q`); any other is HostImpl's tree, lifted, or
the wrapper's null -/
theorem lib_shape (name : String) (args : List Value) (w : LWorld) :
    Shape libView (.lib name) args w w (HostLib.lib name args w) := by
  unfold HostLib.lib
  have hq := fun (Q : Value → Prop) (hG : Given Q args) => C09.LibParam.lib_q (Q := fun v => Q (ofLib v))
    (fun v hv => hG.1 _ fun f hf => by cases v <;> cases hv <;> cases hf) name (args.map toLib) w.heap (all_map_toLib hG.2)
  generalize Lib.lib name (args.map toLib) w.heap = res at hq
  obtain ⟨r, h'⟩ := res
  cases r with
  | ok v | fail v =>
    exact .ret rfl (List.prefix_refl _) (fun Q hG _ hh => ⟨(hq Q hG hh).2, fun x hx => by cases hx; exact (hq Q hG hh).1⟩) nofun
  | unmodelled =>
    simp only
    unfold fallback
    split
    · exact lift_shape (C09.lib_shape name args w.toImpl) w rfl
    · exact .const rfl

theorem libShape : HostShape libView hostLib where
  lib := lib_shape
  other := fun k args w => lift_shape (C09.other_shape k args w.toImpl) w rfl
  binop := fun op a b w => C09.binop_nonfn op a b w.toImpl
  neg := C09.neg_nonfn
  notCallable := fun _ _ => rfl
  logFailure := fun _ => rfl
  newArray := fun xs w => ⟨⟨_, rfl⟩, rfl, rfl, fun Q hh hx c hc => by
    rcases List.mem_append.1 hc with h | h
    · exact hh c h
    · rw [List.mem_singleton.1 h]; exact all_map_toLib hx⟩
  builtin := fun _ => rfl

/-! ## host laws: no call-back but from `arrayIndexOf` (hence the fallback keeps the heap); C01; C04 -/

/-- the tree issues no call-back -/
inductive NoCall {W : Type} : LibTree W → Prop
  | ret (o : LibOut) (w : W) : NoCall (.ret o w)
  | globalGet (n : Name) (w : W) (k : Option Value → W → LibTree W) : (∀ v w', NoCall (k v w')) → NoCall (.globalGet n w k)
  | globalSet (n : Name) (v : Value) (w : W) (k : W → LibTree W) : (∀ w', NoCall (k w')) → NoCall (.globalSet n v w k)

theorem _root_.HostShape.Shape.noCall {W : Type} {V : View W} {name : String} {args : List Value} {w0 w : W} {t : LibTree W}
    (h : Shape V (.lib name) args w0 w t) (hne : name ≠ "arrayIndexOf") : NoCall t := by
  cases h with
  | ret | newPartial => exact .ret _ _
  | each hn => exact absurd (FnVal.lib.inj hn) hne
  | apply hn => cases hn
  | globalGet => exact .globalGet _ _ _ fun _ _ => .ret _ _
  | globalSet => exact .globalSet _ _ _ _ fun _ => .ret _ _

theorem hostImpl_noCall (name : String) (hne : name ≠ "arrayIndexOf") (args : List Value) (w : HostImpl.World) :
    NoCall (HostImpl.lib name args w) := (C09.lib_shape name args w).noCall hne

def Out.heap? : Out LWorld → Option Lib.Heap
  | .ok _ st => some st.world.heap
  | .err _ st => some st.world.heap
  | .oof => none

/-- a lifted HostImpl tree without call-backs ends with the `Lib` heap it was started with -/
theorem lift_keeps_heap (cfg : Config LWorld) (hh : cfg.host = hostLib) (call : CallFn LWorld)
    {t : LibTree HostImpl.World} (ht : NoCall t) : ∀ (h : Lib.Heap) (st : State LWorld),
    Out.heap? (runTree cfg call (lift t h) st) = some h := by
  induction ht with
  | ret o w =>
    intro h st
    cases o <;> simp [lift, runTree, Out.heap?, putBack, hh, hostLib]
  | globalGet n w k _ ih => intro h st; simp only [lift, runTree]; exact ih _ _ _ _
  | globalSet n v w k _ ih => intro h st; simp only [lift, runTree]; exact ih _ _ _

/-- **the fallback never changes the heap** unless a script call-back does (`arrayIndexOf` with a predicate): for every
library call other than `arrayIndexOf`, modelled or not, the heap after the call is the `Lib` heap `(Lib.lib …).2` —
in particular `systemLog`, `systemGlobalGet/Set`, `systemPartial`, `systemCompare`, `systemType`, `systemBoolean` leave it as it
was (`Lib` answers `unmodelled` with the heap unchanged) -/
theorem machine_lib_heap (cfg : Config LWorld) (hh : cfg.host = hostLib) (fuel : Nat) (name : String)
    (hne : name ≠ "arrayIndexOf") (args : List Value) (st : State LWorld) :
    Out.heap? (callValue cfg (fuel+1) (.fn (.lib name)) args st) = some (Lib.lib name (args.map toLib) st.world.heap).2 := by
  by_cases hm : Modelled name (args.map toLib) st.world.heap
  · rw [callValue_lib cfg hh fuel name args st hm]; rfl
  · rw [(lib_unmodelled hm).2]
    by_cases hk : hostKeeps.contains name = true
    · rw [callValue, hh, (lib_unmodelled hm).1]
      simp only [fallback, hk, if_true]
      exact lift_keeps_heap cfg hh _ (hostImpl_noCall name hne args _) _ _
    · rw [machine_lib_unmodelled cfg hh fuel name args st hm (by simpa using hk)]; rfl

/-- the law `C01.ticked_erasure` / `parse_exec_structured` need: the host's truth value of a boolean is that boolean -/
theorem hostLib_truthyBool : C01.TruthyBool hostLib := fun _ _ => rfl

/-- **hostLib_noGlobalSet_except_system.** Only `systemGlobalSet` issues `globalSet` requests: the tree of every other library
function — all of `Lib`'s, the lifted HostImpl ones, the `fail null` fallback — satisfies C04's `NoGlobalSet` (on every path,
whatever the call-backs return), so `C04.assign_local_only` / `globals_frame` apply to scripts over `hostLib` that do not call it. -/
theorem hostLib_noGlobalSet_except_system (name : String) (hne : name ≠ "systemGlobalSet") (args : List Value) (w : LWorld) :
    C04.NoGlobalSet (hostLib.lib name args w) := (lib_shape name args w).noSet fun h => hne (FnVal.lib.inj h)

/-- partial applications (`other`) issue no `globalSet` request of their own either -/
theorem hostLib_other_noGlobalSet (k : Nat) (args : List Value) (w : LWorld) : C04.NoGlobalSet (hostLib.other k args w) :=
  (libShape.other k args w).noSet nofun

/-! ## histories as scripts -/

/-- a `Lib` value that can be written as a literal expression: null, true/false, a number, a string -/
def IsLit : Lib.Value → Bool
  | .null | .bool _ | .num _ | .str _ => true
  | _ => false

def litExpr : Lib.Value → Expr
  | .bool true => .variable kwTrue
  | .bool false => .variable kwFalse
  | .num q => .number q
  | .str s => .string s
  | _ => .variable kwNull

/-- an argument of a history call as an expression: a literal, or the script variable `nm i` -/
def argExpr (nm : Nat → Name) : Lib.Arg → Expr
  | .lit v => litExpr v
  | .var i => .variable (nm i)

def ArgOK : Lib.Arg → Bool
  | .lit v => IsLit v
  | .var _ => true

/-- the statement `v_k = f(args…)` -/
def callStmt (nm : Nat → Name) (k : Nat) (c : Lib.Call) : Stmt :=
  .expr (some (nm k)) (.function (.user c.fn) (c.args.map (argExpr nm)))

/-- the straight-line script of a history whose first result is bound to variable number `n` (as `script_of` in
`harness/props/C15.py` renders it, with `nm k = v<k>`) -/
def progOf (nm : Nat → Name) : Nat → List Lib.Call → List Stmt
  | _, [] => []
  | n, c :: cs => callStmt nm n c :: progOf nm (n+1) cs

/-- the variable naming is usable for the function names `fs`: injective, no keyword, no called function, and no function is
the built-in `if` -/
structure NamesOK (nm : Nat → Name) (fs : List String) : Prop where
  inj : ∀ i j, nm i = nm j → i = j
  notKw : ∀ i, nm i ≠ kwNull ∧ nm i ≠ kwTrue ∧ nm i ≠ kwFalse
  notFn : ∀ i, ∀ f ∈ fs, nm i ≠ .user f
  notIf : ∀ f ∈ fs, Name.user f ≠ kwIf

/-- **the refinement relation** between a `Lib` history state and a machine state: same heap; script variable `nm i` holds
(the machine form of) `env[i]` — unbound beyond the environment, as both sides read an unbound variable as null —; every
function name of `fs` is bound to its library function -/
structure Rel (nm : Nat → Name) (fs : List String) (s : Lib.St) (st : State LWorld) : Prop where
  heap : st.world.heap = s.heap
  vars : ∀ i, (st.globals.get? (nm i)).getD .null = ofLib (s.env[i]?.getD .null)
  fns : ∀ f ∈ fs, st.globals.get? (.user f) = some (.fn (.lib f))

/-- every call of the history is one `Lib` models, in the state the history has reached (decidable, call by call) -/
def AllModelled : List Lib.Call → Lib.St → Prop
  | [], _ => True
  | c :: cs, s => Modelled c.fn (c.args.map (Lib.evalArg s.env)) s.heap ∧ AllModelled cs (Lib.step Lib.lib s c)

instance decAllModelled : ∀ (cs : List Lib.Call) (s : Lib.St), Decidable (AllModelled cs s)
  | [], _ => isTrue trivial
  | c :: cs, s =>
    have := decAllModelled cs (Lib.step Lib.lib s c)
    inferInstanceAs (Decidable (_ ∧ _))

theorem evalExpr_lit (cfg : Config LWorld) (call : CallFn LWorld) (v : Lib.Value) (hv : IsLit v = true) (st : State LWorld) :
    evalExpr cfg call none (litExpr v) st = .ok (ofLib v) st := by
  cases v with
  | null => simp [litExpr, evalExpr, ofLib]
  | bool b => cases b <;> simp [litExpr, evalExpr, ofLib, kwNull, kwTrue, kwFalse]
  | num q => simp [litExpr, evalExpr, ofLib]
  | str s => simp [litExpr, evalExpr, ofLib]
  | _ => simp [IsLit] at hv

theorem evalArgs_hist (cfg : Config LWorld) (call : CallFn LWorld) (nm : Nat → Name) (fs : List String)
    (hn : NamesOK nm fs) (s : Lib.St) (st : State LWorld) (hrel : Rel nm fs s st) :
    ∀ (args : List Lib.Arg), (∀ a ∈ args, ArgOK a = true) →
      evalArgs cfg call none (args.map (argExpr nm)) st = .ok (args.map fun a => ofLib (Lib.evalArg s.env a)) st := by
  intro args
  induction args with
  | nil => intro _; simp [evalArgs]
  | cons a as ih =>
    intro hok
    have ha := hok a (List.mem_cons_self ..)
    have has := ih (fun b hb => hok b (List.mem_cons_of_mem _ hb))
    have he : evalExpr cfg call none (argExpr nm a) st = .ok (ofLib (Lib.evalArg s.env a)) st := by
      cases a with
      | lit v => exact evalExpr_lit cfg call v ha st
      | var i =>
        obtain ⟨h1, h2, h3⟩ := hn.notKw i
        simp only [argExpr, evalExpr, h1, h2, h3, if_false, lookupVar, Lib.evalArg]
        rw [hrel.vars i]
    simp only [List.map_cons, evalArgs, he, has]

theorem progOf_length (nm : Nat → Name) (n : Nat) (cs : List Lib.Call) : (progOf nm n cs).length = cs.length := by
  induction cs generalizing n with
  | nil => rfl
  | cons c cs ih => simp [progOf, ih]

/-- one statement `v_k = f(args…)` of the history, executed by the machine -/
theorem evalExpr_call (cfg : Config LWorld) (hh : cfg.host = hostLib) (fuel : Nat) (nm : Nat → Name) (fs : List String)
    (hn : NamesOK nm fs) (s : Lib.St) (st : State LWorld) (hrel : Rel nm fs s st) (c : Lib.Call) (hf : c.fn ∈ fs)
    (hargs : ∀ a ∈ c.args, ArgOK a = true) (hm : Modelled c.fn (c.args.map (Lib.evalArg s.env)) s.heap) :
    ∃ v, (Lib.step Lib.lib s c).env = s.env ++ [v] ∧
      evalExpr cfg (callValue₀ cfg (fuel+1)) none (.function (.user c.fn) (c.args.map (argExpr nm))) st =
        .ok (ofLib v) (withHeap st (Lib.step Lib.lib s c).heap) := by
  have hfn := hrel.fns c.fn hf
  have hcont : st.globals.contains (.user c.fn) = true := (C04.contains_true_iff _ _).mpr ⟨_, hfn⟩
  have hmap : (c.args.map fun a => ofLib (Lib.evalArg s.env a)).map toLib = c.args.map (Lib.evalArg s.env) := by
    rw [List.map_map]; apply List.map_congr_left; intro a _; exact toLib_ofLib _
  obtain ⟨v, hv, hrun⟩ := lib_call_is_step cfg hh (callValue₀ cfg fuel) s c _ st hrel.heap hmap hm
  refine ⟨v, hv, ?_⟩
  rw [evalExpr]
  simp only [hn.notIf c.fn hf, if_false, evalArgs_hist cfg _ nm fs hn s st hrel c.args hargs, lookupFunc, hcont, if_true, hfn]
  rw [C09.callValue₀_lib, hh]
  exact hrun

theorem rel_assign {nm : Nat → Name} {fs : List String} (hn : NamesOK nm fs) {s : Lib.St} {st : State LWorld}
    (hrel : Rel nm fs s st) (v : Lib.Value) (h : Lib.Heap) :
    Rel nm fs ⟨s.env ++ [v], h⟩ { withHeap st h with globals := st.globals.set (nm s.env.length) (ofLib v) } := by
  refine ⟨rfl, fun i => ?_, fun f hf => ?_⟩
  · show ((st.globals.set (nm s.env.length) (ofLib v)).get? (nm i)).getD .null = _
    rw [C04.get?_set]
    by_cases hi : i = s.env.length
    · subst hi; simp
    · have hne : nm i ≠ nm s.env.length := fun h => hi (hn.inj _ _ h)
      simp only [hne, if_false, hrel.vars i]
      congr 2
      by_cases hlt : i < s.env.length
      · rw [List.getElem?_append_left hlt]
      · rw [List.getElem?_eq_none (by omega), List.getElem?_eq_none (by simp; omega)]
  · show (st.globals.set (nm s.env.length) (ofLib v)).get? (.user f) = _
    rw [C04.get?_set_other _ _ _ _ (fun h => hn.notFn _ f hf h.symm)]
    exact hrel.fns f hf

/-- **machine_history_refines.** Let `cs` be any history of library calls (any length, any function names of `fs`, arguments
= literals or earlier variables, well-typed or not), rendered as the straight-line script `v_n = f₀(…); v_(n+1) = f₁(…); …`
(`progOf`), and let the machine state `st` represent the `Lib` state `s` (`Rel`: same heap, variables `v_i` hold `env[i]`,
function names bound to the library).  If every call along the history is one `Lib` models, then the documented jump machine
`execM₀` over `hostLib` — started anywhere in a statement list that continues with that script, at top level, with enough
fuel and statement budget — runs the whole script to its end and reaches a state that represents `Lib.runHistory Lib.lib cs s`:
all variables (hence every alias) and the whole heap.  Nothing else moves: the log and the partials are unchanged, the
statement counter advanced by one per call, and every global other than the assigned variables keeps its binding. -/
theorem machine_history_refines (cfg : Config LWorld) (hh : cfg.host = hostLib) (nm : Nat → Name) (fs : List String)
    (hn : NamesOK nm fs) (base : Option String) (extra : Nat) :
    ∀ (cs : List Lib.Call) (A : List Stmt) (s : Lib.St) (st : State LWorld),
      (∀ c ∈ cs, c.fn ∈ fs ∧ ∀ a ∈ c.args, ArgOK a = true) → AllModelled cs s → Rel nm fs s st →
      (cfg.maxStatements = 0 ∨ st.count + cs.length ≤ cfg.maxStatements) →
      ∃ st', execM₀ cfg (cs.length + 1 + extra) (A ++ progOf nm s.env.length cs) none base A.length st = .done st' ∧
        Rel nm fs (Lib.runHistory Lib.lib cs s) st' ∧
        st'.count = st.count + cs.length ∧ st'.world.log = st.world.log ∧ st'.world.partials = st.world.partials ∧
        ∀ n, (∀ k, s.env.length ≤ k → k < s.env.length + cs.length → n ≠ nm k) → st'.globals.get? n = st.globals.get? n := by
  intro cs
  induction cs with
  | nil =>
    intro A s st _ _ hrel _
    refine ⟨st, ?_, hrel, rfl, rfl, rfl, fun _ _ => rfl⟩
    rw [execM₀]
    simp [progOf]
  | cons c cs ih =>
    intro A s st hcs hmod hrel hbud
    obtain ⟨hm, hmod'⟩ := hmod
    obtain ⟨hf, hargs⟩ := hcs c (List.mem_cons_self ..)
    have hP : (A ++ progOf nm s.env.length (c :: cs))[A.length]? = some (.expr (some (nm s.env.length))
        (.function (.user c.fn) (c.args.map (argExpr nm)))) := by
      simp [progOf, callStmt]
    have hb : C08.BudgetOk cfg st := by
      simp only [C08.BudgetOk, List.length_cons] at hbud ⊢
      rcases hbud with h0 | hle
      · simp [h0]
      · have : ¬ (st.count + 1 > cfg.maxStatements) := by omega
        simp [this]
    have hfuel : (c :: cs).length + 1 + extra = (cs.length + extra + 1) + 1 := by simp only [List.length_cons]; omega
    rw [hfuel, C08.step_assign_global cfg _ _ base _ st _ _ hP hb]
    have hrelT : Rel nm fs s (C08.tick st) := ⟨hrel.heap, hrel.vars, hrel.fns⟩
    obtain ⟨v, hv, he⟩ := evalExpr_call cfg hh (cs.length + extra) nm fs hn s (C08.tick st) hrelT c hf hargs hm
    rw [he]
    simp only
    have hstep : Lib.step Lib.lib s c = ⟨s.env ++ [v], (Lib.step Lib.lib s c).heap⟩ := by rw [← hv]
    let st1 : State LWorld :=
      { (withHeap (C08.tick st) (Lib.step Lib.lib s c).heap) with
        globals := (withHeap (C08.tick st) (Lib.step Lib.lib s c).heap).globals.set (nm s.env.length) (ofLib v) }
    have hrel1 : Rel nm fs (Lib.step Lib.lib s c) st1 := by rw [hstep]; exact rel_assign hn hrelT v _
    have hlen : (Lib.step Lib.lib s c).env.length = s.env.length + 1 := by rw [hstep]; simp
    have hbud1 : cfg.maxStatements = 0 ∨ st1.count + cs.length ≤ cfg.maxStatements := by
      rcases hbud with h0 | hle
      · exact Or.inl h0
      · right; show st.count + 1 + cs.length ≤ _; simp only [List.length_cons] at hle; omega
    obtain ⟨st', hrun, hrel', hcount, hlog, hpart, hglob⟩ :=
      ih (A ++ [callStmt nm s.env.length c]) (Lib.step Lib.lib s c) st1
        (fun c' hc' => hcs c' (List.mem_cons_of_mem _ hc')) hmod' hrel1 hbud1
    refine ⟨st', ?_, ?_, ?_, hlog, hpart, ?_⟩
    · have hPeq : A ++ progOf nm s.env.length (c :: cs) =
          (A ++ [callStmt nm s.env.length c]) ++ progOf nm (Lib.step Lib.lib s c).env.length cs := by
        rw [hlen]; simp [progOf]
      have hAl : (A ++ [callStmt nm s.env.length c]).length = A.length + 1 := by simp
      have hfu : cs.length + 1 + extra = cs.length + extra + 1 := by omega
      rw [hPeq, ← hAl, ← hfu]
      exact hrun
    · simpa [Lib.runHistory] using hrel'
    · rw [hcount]; show st.count + 1 + cs.length = _; simp only [List.length_cons]; omega
    · intro n hne
      rw [hglob n (fun k hk1 hk2 => hne k (by omega) (by simp only [List.length_cons]; omega))]
      show (st.globals.set (nm s.env.length) (ofLib v)).get? n = _
      exact C04.get?_set_other _ _ _ _ (hne s.env.length (Nat.le_refl _) (by simp))

/-- the same for `Machine.execute` (`execute_script`: the mirror machine with its label cache, counter reset to 0) on the
whole script, and with the **reference operations** of the documented contracts (`Lib.Spec.specLib`, through
`C15.history_refines`) on the `Lib` side: the state a script of library calls reaches is the fold of the reference operations. -/
theorem machine_history_refines_execute (cfg : Config LWorld) (hh : cfg.host = hostLib) (nm : Nat → Name) (fs : List String)
    (hn : NamesOK nm fs) (base : Option String) (extra : Nat) (cs : List Lib.Call) (s : Lib.St) (st : State LWorld)
    (hcs : ∀ c ∈ cs, c.fn ∈ fs ∧ ∀ a ∈ c.args, ArgOK a = true) (hmod : AllModelled cs s) (hrel : Rel nm fs s st)
    (hbud : cfg.maxStatements = 0 ∨ cs.length ≤ cfg.maxStatements) :
    ∃ st', execute cfg (cs.length + 1 + extra) (progOf nm s.env.length cs) base st = .done st' ∧
      Rel nm fs (Lib.runHistory Lib.Spec.specLib cs s) st' ∧
      st'.count = cs.length ∧ st'.world.log = st.world.log ∧ st'.world.partials = st.world.partials := by
  have hrel0 : Rel nm fs s { st with count := 0 } := ⟨hrel.heap, hrel.vars, hrel.fns⟩
  obtain ⟨st', hrun, hrel', hcount, hlog, hpart, -⟩ :=
    machine_history_refines cfg hh nm fs hn base extra cs [] s { st with count := 0 } hcs hmod hrel0
      (by rcases hbud with h | h
          · exact Or.inl h
          · right; show 0 + cs.length ≤ _; omega)
  refine ⟨st', ?_, ?_, ?_, hlog, hpart⟩
  · rw [C08.execute_eq]
    simpa [execute₀] using hrun
  · rw [← C15.history_refines]; exact hrel'
  · rw [hcount]; show 0 + cs.length = _; omega

/-- the parser-generated names `__bareScriptValues<k>` are a usable naming for any function names -/
theorem namesOK_gen (fs : List String) (hif : ∀ f ∈ fs, f ≠ "if") : NamesOK (Name.gen .values) fs where
  inj := fun _ _ h => by cases h; rfl
  notKw := fun _ => ⟨by simp [kwNull], by simp [kwTrue], by simp [kwFalse]⟩
  notFn := fun _ _ _ => by simp
  notIf := fun f hf h => hif f hf (by simpa [kwIf] using h)

/-- the naming of the harness (`script_of` in props/C15.py): `v0`, `v1`, … -/
def vName (k : Nat) : Name := .user ("v" ++ toString k)

theorem vName_head (k : Nat) : ("v" ++ toString k).toList.head? = some 'v' := by
  rw [String.toList_append]; rfl

/-- `v<k>` is a usable naming for function names that do not start with `v` (no library function does) and are not `if` -/
theorem namesOK_vName (fs : List String) (hfs : ∀ f ∈ fs, f ≠ "if" ∧ f.toList.head? ≠ some 'v') : NamesOK vName fs where
  inj := fun i j h => by
    simp only [vName, Name.user.injEq] at h
    exact Nat.repr_injective ((String.append_right_inj "v").mp h)
  notKw := fun i => by
    have h := vName_head i
    refine ⟨?_, ?_, ?_⟩ <;> intro hk <;> simp only [vName, kwNull, kwTrue, kwFalse, Name.user.injEq] at hk <;>
      rw [hk] at h <;> revert h <;> decide
  notFn := fun i f hf h => by
    simp only [vName, Name.user.injEq] at h
    exact (hfs f hf).2 (h ▸ vName_head i)
  notIf := fun f hf h => (hfs f hf).1 (by simpa [kwIf] using h)

def bindFns (fs : List String) (g : Env) : Env := fs.foldl (fun g f => g.set (.user f) (.fn (.lib f))) g

def bindVars (nm : Nat → Name) : Env → Nat → List Lib.Value → Env
  | g, _, [] => g
  | g, n, v :: vs => bindVars nm (g.set (nm n) (ofLib v)) (n+1) vs

/-- globals = the library bindings, then `v_i = env[i]`; world = the heap, empty log -/
def initState (nm : Nat → Name) (fs : List String) (s : Lib.St) : State LWorld :=
  { globals := bindVars nm (bindFns fs []) 0 s.env, world := { heap := s.heap }, count := 0 }

theorem bindFns_get (fs : List String) (f : String) : ∀ g : Env,
    (f ∈ fs ∨ g.get? (.user f) = some (.fn (.lib f))) → (bindFns fs g).get? (.user f) = some (.fn (.lib f)) := by
  induction fs with
  | nil => intro g h; exact h.resolve_left List.not_mem_nil
  | cons x xs ih =>
    intro g h
    show (bindFns xs (g.set (.user x) (.fn (.lib x)))).get? _ = _
    apply ih
    by_cases hx : f = x
    · subst hx; exact Or.inr (C04.get?_set_same _ _ _)
    · rcases h with h | h
      · rcases List.mem_cons.mp h with h | h
        · exact absurd h hx
        · exact Or.inl h
      · right; rw [C04.get?_set_other _ _ _ _ (by simpa using hx)]; exact h

theorem bindFns_other (fs : List String) (n : Name) (hn : ∀ f ∈ fs, n ≠ .user f) : ∀ g : Env,
    (bindFns fs g).get? n = g.get? n := by
  induction fs with
  | nil => intro g; rfl
  | cons x xs ih =>
    intro g
    show (bindFns xs (g.set (.user x) (.fn (.lib x)))).get? n = _
    rw [ih (fun f hf => hn f (List.mem_cons_of_mem _ hf)), C04.get?_set_other _ _ _ _ (hn x (List.mem_cons_self ..))]

theorem bindVars_other (nm : Nat → Name) (m : Name) (hm : ∀ i, m ≠ nm i) : ∀ (vs : List Lib.Value) (g : Env) (n : Nat),
    (bindVars nm g n vs).get? m = g.get? m := by
  intro vs
  induction vs with
  | nil => intro g n; rfl
  | cons v vs ih => intro g n; rw [bindVars, ih, C04.get?_set_other _ _ _ _ (hm n)]

theorem bindVars_get (nm : Nat → Name) (hinj : ∀ i j, nm i = nm j → i = j) : ∀ (vs : List Lib.Value) (g : Env) (n i : Nat),
    (bindVars nm g n vs).get? (nm i) = if n ≤ i ∧ i < n + vs.length then some (ofLib (vs[i - n]?.getD .null)) else g.get? (nm i) := by
  intro vs
  induction vs with
  | nil => intro g n i; simp [bindVars]; omega
  | cons v vs ih =>
    intro g n i
    rw [bindVars, ih, C04.get?_set]
    by_cases hi : i = n
    · subst hi
      have h1 : ¬ (i + 1 ≤ i ∧ i < i + 1 + vs.length) := by omega
      simp [h1]
    · have hne : nm i ≠ nm n := fun h => hi (hinj _ _ h)
      simp only [hne, if_false, List.length_cons]
      by_cases h1 : n + 1 ≤ i ∧ i < n + 1 + vs.length
      · have h2 : n ≤ i ∧ i < n + (vs.length + 1) := by omega
        have h3 : i - n = (i - (n + 1)) + 1 := by omega
        simp [h1, h2, h3]
      · have h2 : ¬ (n ≤ i ∧ i < n + (vs.length + 1)) := by omega
        simp [h1, h2]

/-- non-vacuity of `Rel`: **every** `Lib` state (any pool of aliased containers, any environment) is represented by a
machine state -/
theorem rel_initState (nm : Nat → Name) (fs : List String) (hn : NamesOK nm fs) (s : Lib.St) : Rel nm fs s (initState nm fs s) := by
  refine ⟨rfl, ?_, ?_⟩
  · intro i
    show ((bindVars nm (bindFns fs []) 0 s.env).get? (nm i)).getD .null = _
    rw [bindVars_get nm hn.inj]
    by_cases hi : i < s.env.length
    · simp [hi]
    · have : ¬ (0 ≤ i ∧ i < 0 + s.env.length) := by omega
      simp only [this, if_false]
      rw [bindFns_other fs _ (fun f hf => hn.notFn i f hf), List.getElem?_eq_none (by omega)]
      rfl
  · intro f hf
    show (bindVars nm (bindFns fs []) 0 s.env).get? (.user f) = _
    rw [bindVars_other nm _ (fun i h => hn.notFn i f hf h.symm)]
    exact bindFns_get fs f [] (Or.inl hf)

/-! ## demo -/

def demoFs : List String := ["arrayCopy", "arrayPush", "arrayGet", "arrayLength"]

theorem demo_names : NamesOK vName demoFs := namesOK_vName demoFs (by decide +kernel)

/-- the hypotheses of `machine_history_refines_execute` hold for `C15.demo` from `C15.demo0` (two aliases of `[1,2,3]`): every call
is modelled, every argument is a variable or a number literal -/
theorem demo_modelled : AllModelled C15.demo C15.demo0 := by
  simp only [C15.demo, AllModelled, Modelled, C15.lib_eq_specLib]; decide +kernel
theorem demo_args : ∀ c ∈ C15.demo, c.fn ∈ demoFs ∧ ∀ a ∈ c.args, ArgOK a = true := by decide +kernel

example : AllModelled C15.demo C15.demo0 := demo_modelled
example : ∀ c ∈ C15.demo, c.fn ∈ demoFs ∧ ∀ a ∈ c.args, ArgOK a = true := demo_args

/-- the script `v2 = arrayCopy(v0)`, `v3 = arrayPush(v1, 9)`, `v4 = arrayGet(v0, 3)`, `v5 = arrayLength(v2)` -/
example : progOf vName 2 C15.demo =
    [.expr (some (vName 2)) (.function (.user "arrayCopy") [.variable (vName 0)]),
     .expr (some (vName 3)) (.function (.user "arrayPush") [.variable (vName 1), .number 9]),
     .expr (some (vName 4)) (.function (.user "arrayGet") [.variable (vName 0), .number 3]),
     .expr (some (vName 5)) (.function (.user "arrayLength") [.variable (vName 2)])] := rfl

/-- … so `Machine.execute` over `hostLib` runs that script to the end and the push through one alias is seen through the
other (`v4 = 9`), the copy is cell 1 and keeps its three elements (`v5 = 3`): the final machine state represents the `Lib` state
that `C15` computes by `decide` -/
example (cfg : Config LWorld) (hh : cfg.host = hostLib) (hmax : cfg.maxStatements = 0) :
    ∃ st', execute cfg 5 (progOf vName 2 C15.demo) none (initState vName demoFs C15.demo0) = .done st' ∧
      st'.world.heap = [.arr [Lib.numN 1, Lib.numN 2, Lib.numN 3, Lib.numN 9], .arr [Lib.numN 1, Lib.numN 2, Lib.numN 3]] ∧
      (st'.globals.get? (vName 4)).getD .null = .num 9 ∧ (st'.globals.get? (vName 5)).getD .null = .num 3 ∧
      (st'.globals.get? (vName 2)).getD .null = .arr 1 ∧ st'.count = 4 := by
  obtain ⟨st', hrun, hrel, hcount, -, -⟩ :=
    machine_history_refines_execute cfg hh vName demoFs demo_names none 0 C15.demo C15.demo0 _
      demo_args demo_modelled (rel_initState vName demoFs demo_names C15.demo0) (Or.inl hmax)
  rw [← C15.history_refines, C15.demo_run] at hrel
  refine ⟨st', hrun, hrel.heap, ?_, ?_, ?_, hcount⟩
  · rw [hrel.vars 4]; rfl
  · rw [hrel.vars 5]; rfl
  · rw [hrel.vars 2]; rfl

/-- a failing call through the machine: `arraySet(a, 1.5, null)` on `[1,2,3]` — state untouched, value null -/
example (cfg : Config LWorld) (hh : cfg.host = hostLib) (st : State LWorld) (hheap : st.world.heap = C15.demo0.heap) :
    callValue cfg 1 (.fn (.lib "arraySet")) [.arr 0, .num (mkRat 3 2), .null] st = .ok .null st := by
  have := machine_lib_fail_unchanged cfg hh 0 "arraySet" [.arr 0, .num (mkRat 3 2), .null] st .null
    (by rw [hheap, Lib.lib, C15.eff_row (C15.table_at (i := 11) rfl)]; decide +kernel)
  simpa [docFailM] using this

/-- the isomorphism on function values: a library function stored in a `Lib` heap comes back as itself -/
example : ofLib (toLib (.fn (.lib "arrayPush"))) = .fn (.lib "arrayPush") := ofLib_toLib _
example : decFn 0 = .script 0 ∧ decFn 1 = .other 0 ∧ decFn 5 = .lib (decStr 1) := by decide +kernel

end HostLib
