import BareProofs.C12HistLemmas

/-!
# C12Hist — one number type along a HISTORY of library calls and operator applications (extension of `C12` / `C12More`)

`LibH3` adds 21 host-level library functions (the number producers `jsonParse`, `numberParseFloat`, the datetime getters; the object
functions with numbers inside, `systemType` / `systemBoolean` / `systemIs`, `arraySort` on mixed int / float arrays) to the 15 of `LibH`
and the 21 of `LibH2`, assembles ONE dispatch `callAllH : Env → String → List HVal → Out PyNum` over the three libraries and defines
histories: a `Step` is a library call or an operator application whose operands are variables of a pool; the result is appended to the
pool and the post-call contents of the arguments are written back.  So the int produced by `arrayLength` flows into `arrayGet`, the
float produced by `+` into `stringRepeat`, the int / float chosen by `json.loads` for a number token into an index position …

**Main theorem `history_spelling_irrelevant`**: for ANY history (any length, any function names, any variable indices), any
environment of abstract host functions meeting `Sane` (rounding idempotent, small integers are doubles and print alike …), two initial
pools that are equal up to the int / float spelling of their numbers (at every depth) give pools equal up to spelling after EVERY
step - hence the same results, the same failure values (null / -1 / 0 / false / objectGet's default) and the same post-call argument
contents - provided the per-step hypothesis `histOkB` holds along both runs.

**Which form of the magnitude hypothesis**: it is stated PER STEP on the operands the step actually receives (`stepOkB`, a `Bool`): number
operands of `+ - * / %` are doubles and the exact `int ± int` / adjusted `int % int` result is a double; a host int whose text is taken
(`stringNew`, `arrayJoin`, `string + number`) is below 1e15; `mathRound` / `numberToFixed` get a double / small int and a digit count
0..22 (F15).  Every other step - all 15 functions of `LibH`, 17 of `LibH2`, all 21 of `LibH3`, the comparisons, `&&`, `||`, `!`, unary
`-` - needs nothing.  It is NOT a pool invariant, because "every integral number in the pool is below 1e15" is not preserved by `+`
(`history_bound_needed`: with the first step inside the bound and the second not, the two spellings part).
-/

namespace C12Hist
open LibH LibH2 LibH3 C12 C12More

/-- forget the spelling of every number in a pool -/
abbrev absPool (p : Pool PyNum) : Pool Rat := p.map absV

/-- the Boolean check on the validated argument list gives the hypothesis of `libH2_refines_lib` -/
theorem preBody_of_validated (E : Env) (name : String) (args : List HVal)
    (h : (match validated2 name args with | none => true | some v => argsOkB E name v) = true) :
    ∀ v, validated2 name args = some v → PreBody E name v :=
  fun v hv => preBody_of_argsOkB E name v (by rw [hv] at h; exact h)

/-- the single dispatch over `LibH`, `LibH2` and `LibH3`: for every function name and ALL argument lists the
    wrapped host-level call with spellings forgotten afterwards equals the one-number-type call on the abstracted arguments (value of
    the call expression incl. failure values, post-call contents of the arguments), under `callOkB` - which is `true` outright except for
    `stringNew`, `arrayJoin`, `mathRound`, `numberToFixed`. -/
theorem callAll_refines (E : Env) (hE : Sane E) (name : String) (args : List HVal) (h : callOkB E name args = true) :
    absOut (callAllH E name args) = callAllA E name (args.map absV) := by
  unfold callAllH callAllA
  unfold callOkB at h
  by_cases h1 : LibH.modelled.contains name = true
  · simp only [h1, if_true]
    exact libH_refines_lib name args
  · simp only [h1] at h ⊢
    by_cases h2 : modelled2.contains name = true
    · simp only [h2, if_true] at h ⊢
      exact libH2_refines_lib E hE name args (preBody_of_validated E name args h)
    · simp only [h2]
      exact libH3_refines_lib E.rnd name args

/-- two argument lists equal up to spelling give the same result and post-call arguments up to
    spelling, for every function of the three libraries. -/
theorem callAll_spelling_irrelevant (E : Env) (hE : Sane E) (name : String) (args args' : List HVal)
    (h : args.map absV = args'.map absV) (hok : callOkB E name args = true) (hok' : callOkB E name args' = true) :
    absOut (callAllH E name args) = absOut (callAllH E name args') := by
  rw [callAll_refines E hE name args hok, callAll_refines E hE name args' hok', h]

/-- the `LibH3` functions alone, unconditionally: in particular a number KEY fails alike in both
    spellings, `systemType` says `number` for both, `systemBoolean` treats `0` and `0.0` alike, `arraySort` orders a mixed array by value. -/
theorem spelling_irrelevant3 (rnd : Rat → Rat) (name : String) (args args' : List HVal) (h : args.map absV = args'.map absV) :
    absOut (callH3 rnd name args) = absOut (callH3 rnd name args') := by
  rw [libH3_refines_lib, libH3_refines_lib, h]

theorem step_refines (E : Env) (hE : Sane E) (p : Pool PyNum) (s : Step) (h : stepOkB E p s = true) :
    absPool (stepH E p s) = stepA E (absPool p) s := by
  cases s with
  | call fn ixs =>
    have hargs : (ixs.map (getVar p)).map absV = ixs.map (getVar (absPool p)) := by
      simp [List.map_map, Function.comp_def, getVar_abs]
    have hc := callAll_refines E hE fn (ixs.map (getVar p)) h
    rw [hargs] at hc
    simp only [stepH, stepA, absPool, List.map_append, List.map_cons, List.map_nil, writeBack_abs, ← hc, absOut]
  | bin op a b =>
    simp only [stepH, stepA, absPool, List.map_append, List.map_cons, List.map_nil, ← getVar_abs]
    rw [opBin_refines E hE op _ _ h]
  | un op a =>
    simp only [stepH, stepA, absPool, List.map_append, List.map_cons, List.map_nil, ← getVar_abs, opUn_refines]

/-- the host-level run of ANY history, with the spellings forgotten after every step, is the one-number-type
    run from the abstracted pool. -/
theorem history_refines (E : Env) (hE : Sane E) : ∀ (h : List Step) (p : Pool PyNum), histOkB E h p = true →
    (runH E h p).map absPool = runA E h (absPool p)
  | [], _, _ => rfl
  | s :: r, p, hok => by
    simp only [histOkB, Bool.and_eq_true] at hok
    simp only [runH, runA, List.map_cons, step_refines E hE p s hok.1, history_refines E hE r (stepH E p s) hok.2]

/-- the main theorem: running a history at host level from two pools that are equal up to spelling
    yields pools equal up to spelling after every step - same results, same failure values, same post-call argument contents. -/
theorem history_spelling_irrelevant (E : Env) (hE : Sane E) (h : List Step) (p p' : Pool PyNum)
    (heq : absPool p = absPool p') (hok : histOkB E h p = true) (hok' : histOkB E h p' = true) :
    (runH E h p).map absPool = (runH E h p').map absPool := by
  rw [history_refines E hE h p hok, history_refines E hE h p' hok', heq]

/-- the value each step produced (the last slot of the pool after it) -/
def results {N : Type} (tr : List (Pool N)) : List (Option (Val N)) := tr.map List.getLast?

/-- in particular the sequence of step results (failure values included) is the same up to
    spelling. -/
theorem history_results_spelling_irrelevant (E : Env) (hE : Sane E) (h : List Step) (p p' : Pool PyNum)
    (heq : absPool p = absPool p') (hok : histOkB E h p = true) (hok' : histOkB E h p' = true) :
    (results (runH E h p)).map (Option.map absV) = (results (runH E h p')).map (Option.map absV) := by
  have hh := congrArg results (history_spelling_irrelevant E hE h p p' heq hok hok')
  simpa [results, List.map_map, Function.comp_def, List.getLast?_map] using hh

/-- an environment whose rounding moves 12 (standing for the first integer above 2^53 that is not a double) to 16 -/
def Ebad : Env where
  rnd := fun q => if q = 12 then 16 else q
  floatText := fun _ => ""
  jsonText := fun _ _ => ""
  fixedText := fun _ _ => ""
  opaqueText := fun _ _ => ""
  cleanup := id

/-- the number in the last slot of the last pool of a trace -/
def lastNum (tr : List (Pool Rat)) : Option Rat :=
  match tr.getLast? with
  | some p => (match p.getLast? with | some (.num q) => some q | _ => none)
  | none => none

/-- repeated doubling `x = x + x`.  The rounding function is idempotent, the two initial pools are equal
    up to spelling, the hypothesis holds at the FIRST step (3 + 3 = 6 is exact in both spellings) but not at the second (6 + 6 = 12 is
    not representable): the int spelling keeps the exact 12, the float spelling holds the rounded 16 - the pools are no longer equal up
    to spelling.  So the magnitude condition cannot be dropped, and it cannot be a condition on the INITIAL pool only. -/
theorem history_bound_needed :
    (∀ q, Ebad.rnd (Ebad.rnd q) = Ebad.rnd q) ∧
    absPool [.num (.int 3)] = absPool [.num (.float 3)] ∧
    stepOkB Ebad [.num (.int 3)] (.bin .add 0 0) = true ∧ stepOkB Ebad [.num (.float 3)] (.bin .add 0 0) = true ∧
    histOkB Ebad [.bin .add 0 0, .bin .add 1 1] [.num (.int 3)] = false ∧
    (runH Ebad [.bin .add 0 0, .bin .add 1 1] [.num (.int 3)]).map absPool ≠
      (runH Ebad [.bin .add 0 0, .bin .add 1 1] [.num (.float 3)]).map absPool := by
  refine ⟨?_, by simp [absPool], by decide +kernel, by decide +kernel, by decide +kernel, ?_⟩
  · intro q
    by_cases h : q = 12
    · simp only [Ebad, h, if_true]; decide +kernel
    · simp [Ebad, h]
  · intro heq
    have h := congrArg lastNum heq
    revert h
    decide +kernel

/-- what `json.loads` makes of a number token: without fraction and exponent a host `int`, otherwise a host
    `float` holding the double nearest to the decimal value - and after forgetting the spelling both are the same number. -/
theorem jsonParse_token_typing (rnd : Rat → Rat) (n : Int) (t : Json.Str) :
    ofJ hOps rnd (.num (.int n)) = .num (.int n) ∧
    ofJ hOps rnd (.num (.dec t)) = .num (.float (rnd ((NumText.decValL t).getD 0))) ∧
    absV (ofJ hOps rnd (.num (.int n))) = ofJ aOps rnd (.num (.int n)) := by
  refine ⟨by simp [ofJ, hOps], by simp [ofJ, hOps], ofJ_abs rnd _⟩

/-- `jsonParse('[1, 1.0, 1e2, {"a": 2, "a": 3.5}]')`: int, float, float; the repeated key keeps its last value -/
theorem jsonParse_example :
    (match (callH3 id "jsonParse" [.str "[1, 1.0, 1e2, {\"a\": 2, \"a\": 3.5}]"]).result with
     | .arr [.num (.int 1), .num (.float a), .num (.float b), .obj [("a", .num (.float c))]] => a == 1 && b == 100 && c == 7 / 2
     | _ => false) = true := by decide +kernel

/-- the typed bucket key of data.py (`('number', value)`): `1` and `1.0` share a key, `True` and `1` do
    not (the general statement is `C12.keyEq_abs`). -/
theorem bucket_key_spelling :
    keyEq pyEq (.num (.int 1)) (.num (.float 1)) = true ∧ keyEq pyEq (.bool true) (.num (.int 1)) = false ∧
    keyEq pyEq (.arr [.num (.float 2), .str "x"]) (.arr [.num (.int 2), .str "x"]) = true := by
  decide +kernel

/-- a number key is rejected by validation in either spelling: result null, object untouched. -/
theorem objectSet_number_key_fails :
    (match callH3 id "objectSet" [.obj [("a", .num (.int 1))], .num (.int 1), .str "v"] with
     | ⟨.null, [.obj [("a", .num (.int 1))], _, _]⟩ => true
     | _ => false) = true ∧
    (match callH3 id "objectSet" [.obj [("a", .num (.int 1))], .num (.float 1), .str "v"] with
     | ⟨.null, [.obj [("a", .num (.int 1))], _, _]⟩ => true
     | _ => false) = true ∧
    (match callH3 id "objectGet" [.null, .str "k", .num (.float 5)] with
     | ⟨.num (.float q), _⟩ => q == 5
     | _ => false) = true := by
  decide +kernel

/-- a history inside the hypotheses: `n = arrayLength(a); i = n - one; x = arrayGet(a, i); s = stringRepeat('ab', i); t = s + x;
    d = datetimeNew(2020, i, n); m = datetimeMonth(d); y = arrayGet(a, m)` from the int and from the float spelling of the pool -/
def exHist : List Step :=
  [.call "arrayLength" [0], .bin .sub 4 1, .call "arrayGet" [0, 5], .call "stringRepeat" [2, 5], .bin .add 7 6,
   .call "datetimeNew" [3, 5, 4], .call "datetimeMonth" [9], .call "arrayGet" [0, 10]]

def exPoolI : Pool PyNum := [.arr [.num (.int 7), .num (.int 8), .num (.int 9)], .num (.int 1), .str "ab", .num (.int 2020)]
def exPoolF : Pool PyNum := [.arr [.num (.float 7), .num (.int 8), .num (.float 9)], .num (.float 1), .str "ab", .num (.float 2020)]

/-- the hypotheses of `history_spelling_irrelevant` are met by a non-trivial instance (8 steps with five flows of a produced number
    into an index / count / field position) -/
theorem exHist_ok : histOkB E0 exHist exPoolI = true ∧ histOkB E0 exHist exPoolF = true ∧ absPool exPoolI = absPool exPoolF :=
  -- one evaluation for both runs: they share the dispatch on the function names
  and_assoc.1 ⟨by decide +kernel, by simp [absPool, exPoolI, exPoolF]⟩

/-- … and the conclusion on it, obtained from the theorem (not by evaluation) -/
example : (runH E0 exHist exPoolI).map absPool = (runH E0 exHist exPoolF).map absPool :=
  history_spelling_irrelevant E0 sane_E0 exHist exPoolI exPoolF exHist_ok.2.2 exHist_ok.1 exHist_ok.2.1

/-- `libH2_refines_lib` on `mathRound(1.25, 1.0)`: the precondition holds of the validated argument list -/
example : absOut (callH2 E0 "mathRound" [.num (.float (5 / 4)), .num (.float 1)])
    = callA2 E0 "mathRound" ([.num (.float (5 / 4)), .num (.float 1)].map absV) :=
  libH2_refines_lib E0 sane_E0 "mathRound" _ (preBody_of_validated E0 _ _ (by decide +kernel))

/-- `libH2_refines_lib` on `arrayJoin`: host ints below 1e15 -/
example : absOut (callH2 E0 "arrayJoin" [.arr [.num (.float 5), .num (.int 5), .null], .str "-"])
    = callA2 E0 "arrayJoin" ([.arr [.num (.float 5), .num (.int 5), .null], .str "-"].map absV) :=
  libH2_refines_lib E0 sane_E0 "arrayJoin" _ (preBody_of_validated E0 _ _ (by decide +kernel))

/-- `callOkB` is not trivially true: `stringNew` of a host int beyond 1e15 is outside the hypothesis -/
example : callOkB E0 "stringNew" [.num (.int (10 ^ 15))] = false ∧ callOkB E0 "stringNew" [.num (.int (10 ^ 15 - 1))] = true := by
  decide +kernel

end C12Hist
