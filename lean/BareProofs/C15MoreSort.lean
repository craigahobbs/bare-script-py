import BareProofs.C15MoreSortLemmas
import BareProofs.C15MoreLemmas

/-!
# C15More — the contract of `arraySort` (no compare function)

On values that read back from the heap as trees, `Lib.valueCompare` is the C11 comparison of the trees (`valueCompare_tree`), so the
call is modelled (`comparable_of_readable`) and the sorted list denotes `Compare.arraySort` of the trees (`sortV_tree`).
`sortV_contract` says the same at the level of the heap values themselves, where references keep their identity.
-/

namespace C15More
open Lib LibMore Compare C11

/-- the value reads back as a tree, with the nesting depth the library comparison allows (`|heap| + 1`: every acyclic well-formed
heap value does) -/
def Readable (h : Heap) (v : Value) : Bool := (reify (h.length + 1) h v).isSome

/-- the tree a value denotes -/
def tree (h : Heap) (v : Value) : PValue := (reify (h.length + 1) h v).getD .null

theorem reify_tree {h : Heap} {v : Value} (hv : Readable h v = true) : reify (h.length + 1) h v = some (tree h v) := by
  unfold Readable at hv
  unfold tree
  cases hr : reify (h.length + 1) h v with
  | none => simp [hr] at hv
  | some p => rfl

/-- **the library comparison is the C11 comparison** of the denoted trees -/
theorem valueCompare_tree (h : Heap) (a b : Value) (ha : Readable h a = true) (hb : Readable h b = true) :
    Lib.valueCompare h a b = some (Compare.valueCompare (tree h a) (tree h b)) :=
  vcmp_reify _ h a b _ _ (reify_tree ha) (reify_tree hb)

theorem cmpD_tree (h : Heap) (a b : Value) (ha : Readable h a = true) (hb : Readable h b = true) :
    cmpD h a b = Compare.valueCompare (tree h a) (tree h b) := by
  simp [cmpD, valueCompare_tree h a b ha hb]

theorem comparable_of_readable (h : Heap) (xs : List Value) (hall : ∀ x ∈ xs, Readable h x = true) : comparable h xs = true := by
  simp only [comparable, List.all_eq_true]
  intro x hx y hy
  rw [valueCompare_tree h x y (hall x hx) (hall y hy)]
  rfl

/-- the sorted list of heap values denotes the C11 sort of the denoted trees -/
theorem sortV_tree (h : Heap) (xs : List Value) (hall : ∀ x ∈ xs, Readable h x = true) :
    (sortV h xs).map (tree h) = Compare.arraySort (xs.map (tree h)) := by
  unfold sortV Compare.arraySort
  apply sortBy_map_on
  intro a ha b hb
  rw [cmpD_tree h a b (hall a ha) (hall b hb)]

/-- the comparison of the denoted trees: a total preorder on all values, and the library comparison on readable ones
(`cmpD_tree`) -/
def cmpT (h : Heap) (a b : Value) : Int := Compare.valueCompare (tree h a) (tree h b)

theorem cmpT_isPre (h : Heap) : IsPre (cmpT h) := valueCompare_isPre.comap (tree h)

theorem sortV_eq (h : Heap) (xs : List Value) (hall : ∀ x ∈ xs, Readable h x = true) :
    sortV h xs = sortBy (ltOf (cmpT h)) xs := by
  have := sortBy_map_on id (fun a b => decide (cmpD h a b < 0)) (ltOf (cmpT h)) xs (fun a ha b hb => by
    simp only [id, cmpD_tree h a b (hall a ha) (hall b hb)]; rfl)
  simpa [sortV] using this

/-- **Contract of the sort.** If every element reads back as a tree, the list `arraySort` stores is a permutation of the old
contents, ordered by `value_compare`, in which elements that compare equal keep their relative order (as *references*: two
different arrays with equal contents are not swapped), and it is the only such list: whatever stable sorting algorithm the host
runs (CPython: timsort, binary insertion on short runs) returns it. -/
theorem sortV_contract (h : Heap) (xs : List Value) (hall : ∀ x ∈ xs, Readable h x = true) :
    (sortV h xs).Perm xs ∧
    (sortV h xs).Pairwise (fun x y => cmpD h x y ≤ 0) ∧
    (∀ a ∈ xs, (sortV h xs).filter (fun x => cmpD h x a == 0) = xs.filter (fun x => cmpD h x a == 0)) ∧
    (∀ ys : List Value, ys.Perm xs → ys.Pairwise (fun x y => cmpD h x y ≤ 0) →
      (∀ a ∈ xs, ys.filter (fun x => cmpD h x a == 0) = xs.filter (fun x => cmpD h x a == 0)) → ys = sortV h xs) := by
  obtain ⟨hsorted, hperm, hstable, huniq⟩ := sortBy_spec (cmpT_isPre h) xs
  rw [sortV_eq h xs hall]
  have hc : ∀ a ∈ xs, ∀ b ∈ xs, cmpD h a b = cmpT h a b := fun a ha b hb => cmpD_tree h a b (hall a ha) (hall b hb)
  have hfil : ∀ l : List Value, (∀ x ∈ l, x ∈ xs) → ∀ a ∈ xs,
      l.filter (fun x => cmpD h x a == 0) = l.filter (eqv (cmpT h) a) := fun l hl a ha => List.filter_congr fun x hx => by rw [hc x (hl x hx) a ha]
  refine ⟨hperm, ?_, fun a ha => ?_, fun ys hp hys hf => huniq ys ?_ fun a => ?_⟩
  · exact hsorted.imp_of_mem fun ha hb hab => by rw [hc _ (hperm.mem_iff.mp ha) _ (hperm.mem_iff.mp hb)]; exact hab
  · rw [hfil _ (fun x => hperm.mem_iff.mp) a ha, hfil xs (fun _ hx => hx) a ha]; exact hstable a
  · exact hys.imp_of_mem fun ha hb hab => by rw [← hc _ (hp.mem_iff.mp ha) _ (hp.mem_iff.mp hb)]; exact hab
  · -- the class of `a`: that of an element of `xs`, or empty in both lists
    by_cases hex : ∃ a' ∈ xs, cmpT h a' a = 0
    · obtain ⟨a', ha', he⟩ := hex
      have he' : cmpT h a a' = 0 := by rw [(cmpT_isPre h).antisymm, he]; rfl
      have hcl : eqv (cmpT h) a = eqv (cmpT h) a' := funext fun x => Bool.eq_iff_iff.mpr <| by
        simp only [eqv, beq_iff_eq]
        exact ⟨fun hx => (cmpT_isPre h).eq_eq hx he', fun hx => (cmpT_isPre h).eq_eq hx he⟩
      rw [hcl, ← hfil ys (fun x => hp.mem_iff.mp) a' ha', ← hfil xs (fun _ hx => hx) a' ha']
      exact hf a' ha'
    · have hnil : ∀ l : List Value, (∀ x ∈ l, x ∈ xs) → l.filter (eqv (cmpT h) a) = [] := fun l hl =>
        List.filter_eq_nil_iff.mpr fun x hx hxa => hex ⟨x, hl x hx, by simpa [eqv] using hxa⟩
      rw [hnil ys (fun x => hp.mem_iff.mp), hnil xs (fun _ hx => hx)]

/-- **arraySort_contract.** `arraySort(array)` / `arraySort(array, null)` on an allocated array whose elements read back as trees:
the call succeeds, returns the array it was given, and the heap afterwards is the old heap with exactly that cell replaced by the
ordered stable permutation of `sortV_contract`; every other cell is untouched (also `more_frame`). -/
theorem arraySort_contract (T : TextFns) (h : Heap) (r : Nat) (xs : List Value) (hx : getArr h r = some xs)
    (hall : ∀ x ∈ xs, Readable h x = true) (rest : List Value) (hrest : rest = [] ∨ rest = [.null]) :
    libMore T "arraySort" (.arr r :: rest) h = (.ok (.arr r), h.set r (.arr (sortV h xs))) ∧
    (sortV h xs).Perm xs ∧ (sortV h xs).Pairwise (fun x y => cmpD h x y ≤ 0) ∧
    (sortV h xs).map (tree h) = Compare.arraySort (xs.map (tree h)) := by
  refine ⟨?_, (sortV_contract h xs hall).1, (sortV_contract h xs hall).2.1, sortV_tree h xs hall⟩
  have hv : validate h [Spec.arrP "array", { Spec.P "compareFn" (some "function") with nullable := true }] (.arr r :: rest) =
      some [.one (.arr r), .one .null] := by rcases hrest with rfl | rfl <;> rfl
  rw [libMore, effMore_arraySort, C15.callRow, hv]
  simp [arraySortM, hx, comparable_of_readable h xs hall, Eff.run]

/-- non-vacuity: a heap with nested arrays, an object and scalars of several types — every element is readable; the stored list -/
example : (∀ x ∈ [Value.arr 1, numN 2, .str "a", .obj 2, .null, .arr 3],
      Readable [.arr [.arr 1, numN 2, .str "a", .obj 2, .null, .arr 3], .arr [numN 1], .obj [("k", .arr 1)], .arr [numN 1]] x = true) ∧
    sortV [.arr [.arr 1, numN 2, .str "a", .obj 2, .null, .arr 3], .arr [numN 1], .obj [("k", .arr 1)], .arr [numN 1]]
      [.arr 1, numN 2, .str "a", .obj 2, .null, .arr 3] = [.null, .arr 1, .arr 3, numN 2, .obj 2, .str "a"] := by
  decide +kernel

end C15More
