import BareModel.Lint

/-!
# C18 — what `lint` reports, exactly (the model `BareModel/Lint.lean` against its set-theoretic reading)

The statement loop is described once under an invariant (`step_eq`, `loop_eq`), the two after-loop reports by `report_exact`;
`mem_lint` and `mem_lintFunction` give the output of `lint` as a set, and the exactness theorems are its projections.
-/

namespace C18
open Lint

theorem has_iff (d : Dict) (k : Name) : d.has k = true ↔ k ∈ d.keys := by
  simp [Dict.has]

theorem has_false_iff (d : Dict) (k : Name) : d.has k = false ↔ k ∉ d.keys := by
  simp [Dict.has]

@[simp] theorem keys_nil : Dict.keys [] = [] := rfl

@[simp] theorem keys_cons (p : Name × Nat) (d : Dict) : Dict.keys (p :: d) = p.1 :: d.keys := rfl

@[simp] theorem keys_append (d : Dict) (k : Name) (v : Nat) : Dict.keys (d ++ [(k, v)]) = d.keys ++ [k] := by
  simp [Dict.keys]

theorem has_append (d : Dict) (k k' : Name) (v : Nat) : Dict.has (d ++ [(k', v)]) k = (d.has k || k' == k) := by
  by_cases h : k' = k
  · simp [Dict.has, h]
  · have h' : ¬ k = k' := fun e => h e.symm
    simp [Dict.has, h, h']

theorem has_setDefault (d : Dict) (k k' : Name) (v : Nat) : (d.setDefault k' v).has k = (d.has k || k' == k) := by
  unfold Dict.setDefault
  by_cases h : d.has k' = true
  · by_cases e : k' = k
    · subst e; simp [h]
    · simp [h, e]
  · simp only [h, Bool.false_eq_true, if_false, has_append]

theorem mem_ins {ks : List Name} {k l : Name} : l ∈ (if k ∈ ks then ks else ks ++ [k]) ↔ l ∈ ks ∨ l = k := by
  split
  · exact ⟨Or.inl, fun h => h.elim id (· ▸ ‹k ∈ ks›)⟩
  · simp

theorem nodup_ins {ks : List Name} {k : Name} (h : ks.Nodup) : (if k ∈ ks then ks else ks ++ [k]).Nodup := by
  split
  · exact h
  · rename_i hk
    rw [List.nodup_append]
    exact ⟨h, by simp, fun a ha b hb => by simp at hb; subst hb; exact fun e => hk (e ▸ ha)⟩

theorem keys_set (d : Dict) (k : Name) (v : Nat) :
    (d.set k v).keys = if k ∈ d.keys then d.keys else d.keys ++ [k] := by
  unfold Dict.set
  by_cases h : k ∈ d.keys
  · simp only [(has_iff d k).2 h, if_true, h]
    simp only [Dict.keys, List.map_map]
    apply List.map_congr_left
    intro p _
    by_cases hp : p.1 = k <;> simp [hp]
  · have : d.has k = false := (has_false_iff d k).2 h
    simp [this, h]

theorem keys_setDefault_eq (d : Dict) (k : Name) (v : Nat) :
    (d.setDefault k v).keys = if k ∈ d.keys then d.keys else d.keys ++ [k] := by
  unfold Dict.setDefault
  by_cases h : k ∈ d.keys
  · simp only [(has_iff d k).2 h, if_true, h]
  · simp [(has_false_iff d k).2 h, h]

theorem keys_setDefault (d : Dict) (k : Name) (v : Nat) (n : Name) :
    n ∈ (d.setDefault k v).keys ↔ n ∈ d.keys ∨ n = k := by
  rw [keys_setDefault_eq, mem_ins]

theorem get_append (d : Dict) (k k' : Name) (v : Nat) :
    Dict.get (d ++ [(k', v)]) k = if k ∈ d.keys then d.get k else if k' = k then v else 0 := by
  induction d with
  | nil => simp [Dict.get]
  | cons p d ih =>
    obtain ⟨a, b⟩ := p
    by_cases ha : a = k
    · simp [Dict.get, ha]
    · have : ¬ k = a := fun e => ha e.symm
      simp [Dict.get, ha, this, ih]

theorem get_of_not_mem (d : Dict) (k : Name) (h : k ∉ d.keys) : d.get k = 0 := by
  induction d with
  | nil => rfl
  | cons p d ih =>
    obtain ⟨a, b⟩ := p
    simp only [keys_cons, List.mem_cons, not_or] at h
    have : ¬ a = k := fun e => h.1 e.symm
    simp [Dict.get, this, ih h.2]

theorem get_map_set (d : Dict) (k k' : Name) (v : Nat) :
    Dict.get (d.map (fun p => if p.1 = k' then (k', v) else p)) k = if k = k' ∧ k' ∈ d.keys then v else d.get k := by
  induction d with
  | nil => simp [Dict.get]
  | cons p d ih =>
    obtain ⟨a, b⟩ := p
    by_cases ha : a = k'
    · subst ha
      by_cases hk : a = k
      · simp [Dict.get, hk]
      · simp [Dict.get, hk, ih, Ne.symm hk]
    · by_cases hk : a = k
      · subst hk; simp [Dict.get, ha]
      · simp [Dict.get, ha, hk, ih, Ne.symm ha]

theorem get_set (d : Dict) (k k' : Name) (v : Nat) :
    (d.set k' v).get k = if k = k' then v else d.get k := by
  unfold Dict.set
  by_cases h : k' ∈ d.keys
  · simp only [(has_iff d k').2 h, if_true, get_map_set, h, and_true]
  · simp only [(has_false_iff d k').2 h, Bool.false_eq_true, if_false]
    rw [get_append]
    by_cases hk : k = k'
    · subst hk; simp [h]
    · have hk' : ¬ k' = k := fun e => hk e.symm
      by_cases hm : k ∈ d.keys
      · simp [hm, hk]
      · simp [hm, hk, hk', get_of_not_mem d k hm]

theorem get_setDefault (d : Dict) (k k' : Name) (v : Nat) :
    (d.setDefault k' v).get k = if k ∈ d.keys then d.get k else if k' = k then v else 0 := by
  unfold Dict.setDefault
  by_cases h : k' ∈ d.keys
  · by_cases hk : k ∈ d.keys
    · simp [(has_iff d k').2 h, hk]
    · have : k' ≠ k := fun e => hk (e ▸ h)
      simp [(has_iff d k').2 h, hk, this, get_of_not_mem d k hk]
  · simp only [(has_false_iff d k').2 h, Bool.false_eq_true, if_false, get_append]

def isFn (f : Name) : Stmt → Bool
  | .function _ g _ _ _ _ => g == f
  | _ => false

theorem isLabel_iff (l : Name) (s : Stmt) : isLabel l s = true ↔ s = .label l := by
  cases s <;> simp [isLabel]

theorem isJumpTo_iff (l : Name) (s : Stmt) : isJumpTo l s = true ↔ ∃ c, s = .jump l c := by
  cases s <;> simp [isJumpTo]

theorem isFn_iff (f : Name) (s : Stmt) : isFn f s = true ↔ ∃ k a v y b, s = .function k f a v y b := by
  cases s <;> simp [isFn]

theorem any_isLabel (l : Name) (ss : List Stmt) : ss.any (isLabel l) = true ↔ DefinedIn ss l := by
  simp only [List.any_eq_true, isLabel_iff, DefinedIn]
  constructor
  · rintro ⟨s, hs, rfl⟩; exact hs
  · intro h; exact ⟨_, h, rfl⟩

theorem any_isJumpTo (l : Name) (ss : List Stmt) : ss.any (isJumpTo l) = true ↔ JumpsTo ss l := by
  simp only [List.any_eq_true, isJumpTo_iff, JumpsTo]
  constructor
  · rintro ⟨s, hs, c, rfl⟩; exact ⟨c, hs⟩
  · rintro ⟨c, h⟩; exact ⟨_, h, c, rfl⟩

/-- the warnings the loop emits at one statement, as a function of the statements *before* it in the scope -/
def stmtW (sc : Scope) (onFn : Nat → Name → List Name → List Stmt → List Warning) (pre : List Stmt) (ix : Nat) :
    Stmt → List Warning
  | .function _ f args _ _ body =>
      match sc with
      | .global => (if pre.any (isFn f) then [.redefFunction f ix] else []) ++ onFn ix f args body
      | .fn _ => []
  | .expr nm e => if nm.isNone && isPointless e then [.pointless sc ix] else []
  | .label l => if pre.any (isLabel l) then [.redefLabel sc l ix] else []
  | _ => []

def specW (sc : Scope) (onFn : Nat → Name → List Name → List Stmt → List Warning) :
    List Stmt → Nat → List Stmt → List Warning
  | _, _, [] => []
  | pre, ix, s :: r => stmtW sc onFn pre ix s ++ specW sc onFn (pre ++ [s]) (ix + 1) r

/-- what one statement does to `functions_defined` (global scope only), `labels_defined`, `labels_used` -/
def fnStep (sc : Scope) (ix : Nat) (s : Stmt) (d : Dict) : Dict :=
  match s with
  | .function _ f _ _ _ _ =>
      match sc with
      | .global => d.setDefault f ix
      | .fn _ => d
  | _ => d

def defStep (ix : Nat) (s : Stmt) (d : Dict) : Dict :=
  match s with
  | .label l => d.setDefault l ix
  | _ => d

def useStep (ix : Nat) (s : Stmt) (d : Dict) : Dict :=
  match s with
  | .jump l _ => d.set l ix
  | _ => d

def scan (step : Nat → Stmt → Dict → Dict) : Nat → List Stmt → Dict → Dict
  | _, [], d => d
  | ix, s :: r, d => scan step (ix + 1) r (step ix s d)

/-- what the loop state remembers about the statements already visited -/
structure Inv (sc : Scope) (pre : List Stmt) (st : LoopState) : Prop where
  lab : ∀ l, st.ldefs.has l = pre.any (isLabel l)
  fn : sc = .global → ∀ f, st.fdefs.has f = pre.any (isFn f)

theorem inv_init (sc : Scope) : Inv sc [] {} := ⟨fun _ => rfl, fun _ _ => rfl⟩

theorem step_eq {sc onFn pre st} (ix : Nat) (s : Stmt) (h : Inv sc pre st) :
    scopeStep sc onFn ix s st =
      { warnings := st.warnings ++ stmtW sc onFn pre ix s, fdefs := fnStep sc ix s st.fdefs,
        ldefs := defStep ix s st.ldefs, lused := useStep ix s st.lused } := by
  cases s with
  | function k f args v y body =>
    cases sc with
    | global =>
      simp only [scopeStep, stmtW, fnStep, defStep, useStep, Dict.setDefault, ← h.fn rfl f]
      cases st.fdefs.has f <;> simp
    | fn g => simp [scopeStep, stmtW, fnStep, defStep, useStep]
  | expr nm e =>
    simp only [scopeStep, stmtW, fnStep, defStep, useStep]
    cases nm.isNone && isPointless e <;> simp
  | label l =>
    simp only [scopeStep, stmtW, fnStep, defStep, useStep, Dict.setDefault, ← h.lab l]
    cases st.ldefs.has l <;> simp
  | jump l c => simp [scopeStep, stmtW, fnStep, defStep, useStep]
  | ret e => simp [scopeStep, stmtW, fnStep, defStep, useStep]
  | «include» incs => simp [scopeStep, stmtW, fnStep, defStep, useStep]

theorem step_inv {sc onFn pre st} (ix : Nat) (s : Stmt) (h : Inv sc pre st) :
    Inv sc (pre ++ [s]) (scopeStep sc onFn ix s st) := by
  rw [step_eq ix s h]
  refine ⟨fun l => ?_, fun hg f => ?_⟩
  · simp only [List.any_append, List.any_cons, List.any_nil, Bool.or_false, ← h.lab l]
    cases s <;> simp [defStep, has_setDefault, isLabel]
  · subst hg
    simp only [List.any_append, List.any_cons, List.any_nil, Bool.or_false, ← h.fn rfl f]
    cases s <;> simp [fnStep, has_setDefault, isFn]

theorem loop_eq (sc onFn) (ss : List Stmt) : ∀ (pre : List Stmt) (ix : Nat) (st : LoopState), Inv sc pre st →
    scopeLoop sc onFn ix ss st =
      { warnings := st.warnings ++ specW sc onFn pre ix ss, fdefs := scan (fnStep sc) ix ss st.fdefs,
        ldefs := scan defStep ix ss st.ldefs, lused := scan useStep ix ss st.lused } := by
  induction ss with
  | nil => intro pre ix st _; simp [scopeLoop, specW, scan]
  | cons s r ih =>
    intro pre ix st h
    rw [scopeLoop, ih (pre ++ [s]) (ix + 1) _ (step_inv ix s h), step_eq ix s h]
    simp only [specW, scan, List.append_assoc]

theorem specW_split {sc onFn} (ss : List Stmt) : ∀ (pre : List Stmt) (ix i : Nat) (s : Stmt), ss[i]? = some s →
    ∃ A B, specW sc onFn pre ix ss = A ++ stmtW sc onFn (pre ++ ss.take i) (ix + i) s ++ B := by
  induction ss with
  | nil => intro pre ix i s h; simp at h
  | cons x r ih =>
    intro pre ix i s h
    cases i with
    | zero =>
      simp only [List.getElem?_cons_zero, Option.some.injEq] at h
      subst h
      exact ⟨[], specW sc onFn (pre ++ [x]) (ix + 1) r, by simp [specW]⟩
    | succ i =>
      simp only [List.getElem?_cons_succ] at h
      obtain ⟨A, B, hAB⟩ := ih (pre ++ [x]) (ix + 1) i s h
      refine ⟨stmtW sc onFn pre ix x ++ A, B, ?_⟩
      have e : ix + 1 + i = ix + (i + 1) := by omega
      rw [specW, hAB, e]
      simp [List.append_assoc]

theorem mem_specW {sc onFn} {w : Warning} (ss : List Stmt) : ∀ (pre : List Stmt) (ix : Nat),
    w ∈ specW sc onFn pre ix ss ↔ ∃ k s, ss[k]? = some s ∧ w ∈ stmtW sc onFn (pre ++ ss.take k) (ix + k) s := by
  refine fun pre ix => ⟨?_, fun ⟨k, s, hk, hw⟩ => ?_⟩
  · induction ss generalizing pre ix with
    | nil => simp [specW]
    | cons s r ih =>
      rw [specW, List.mem_append]
      rintro (h | h)
      · exact ⟨0, s, rfl, by simpa using h⟩
      · obtain ⟨k, s', hk, hw⟩ := ih _ _ h
        have : ix + 1 + k = ix + (k + 1) := by omega
        exact ⟨k + 1, s', by simpa using hk, by simpa [this, List.append_assoc] using hw⟩
  · obtain ⟨A, B, e⟩ := specW_split (sc := sc) (onFn := onFn) ss pre ix k s hk
    rw [e]
    exact List.mem_append_left _ (List.mem_append_right _ hw)

theorem mem_loop_warnings {sc onFn} {w : Warning} (ss : List Stmt) :
    w ∈ (scopeLoop sc onFn 0 ss {}).warnings ↔ ∃ k s, ss[k]? = some s ∧ w ∈ stmtW sc onFn (ss.take k) k s := by
  rw [loop_eq sc onFn ss [] 0 {} (inv_init sc)]
  simp [mem_specW]

theorem scan_mem {step : Nat → Stmt → Dict → Dict} {p : Name → Stmt → Bool}
    (hstep : ∀ ix s d l, l ∈ (step ix s d).keys ↔ l ∈ d.keys ∨ p l s = true) (l : Name) (ss : List Stmt) :
    ∀ (ix : Nat) (d : Dict), l ∈ (scan step ix ss d).keys ↔ l ∈ d.keys ∨ ss.any (p l) = true := by
  induction ss with
  | nil => intro ix d; simp [scan]
  | cons s r ih => intro ix d; rw [scan, ih, hstep, List.any_cons, Bool.or_eq_true, or_assoc]

theorem scan_nodup {step : Nat → Stmt → Dict → Dict}
    (hstep : ∀ ix s (d : Dict), d.keys.Nodup → (step ix s d).keys.Nodup) (ss : List Stmt) :
    ∀ (ix : Nat) (d : Dict), d.keys.Nodup → (scan step ix ss d).keys.Nodup := by
  induction ss with
  | nil => intro ix d h; exact h
  | cons s r ih => intro ix d h; exact ih _ _ (hstep ix s d h)

theorem defStep_mem (ix : Nat) (s : Stmt) (d : Dict) (l : Name) :
    l ∈ (defStep ix s d).keys ↔ l ∈ d.keys ∨ isLabel l s = true := by
  cases s with
  | label l' => simp only [defStep, keys_setDefault, isLabel, beq_iff_eq, eq_comm (a := l)]
  | _ => simp [defStep, isLabel]

theorem useStep_mem (ix : Nat) (s : Stmt) (d : Dict) (l : Name) :
    l ∈ (useStep ix s d).keys ↔ l ∈ d.keys ∨ isJumpTo l s = true := by
  cases s with
  | jump l' c => simp only [useStep, keys_set, mem_ins, isJumpTo, beq_iff_eq, eq_comm (a := l)]
  | _ => simp [useStep, isJumpTo]

theorem defStep_nodup (ix : Nat) (s : Stmt) (d : Dict) (h : d.keys.Nodup) : (defStep ix s d).keys.Nodup := by
  cases s with
  | label l => rw [defStep, keys_setDefault_eq]; exact nodup_ins h
  | _ => exact h

theorem useStep_nodup (ix : Nat) (s : Stmt) (d : Dict) (h : d.keys.Nodup) : (useStep ix s d).keys.Nodup := by
  cases s with
  | jump l c => rw [useStep, keys_set]; exact nodup_ins h
  | _ => exact h

/-- `labels_defined[l]` is the index of the *first* definition -/
theorem defs_get (l : Name) (ss : List Stmt) : ∀ (ix : Nat) (d : Dict),
    (scan defStep ix ss d).get l =
      if l ∈ d.keys then d.get l else
        match ss.findIdx? (isLabel l) with
        | some i => ix + i
        | none => 0 := by
  induction ss with
  | nil =>
    intro ix d
    by_cases h : l ∈ d.keys <;> simp [scan, h, get_of_not_mem]
  | cons s r ih =>
    intro ix d
    rw [scan, ih]
    simp only [defStep_mem, List.findIdx?_cons]
    by_cases h : l ∈ d.keys
    · cases s <;> simp [h, defStep, get_setDefault]
    · -- a label `l` at this statement is the first one; otherwise the search goes on, one position further
      cases hs : isLabel l s with
      | true =>
        obtain rfl := (isLabel_iff l s).1 hs
        simp [h, defStep, get_setDefault]
      | false =>
        simp only [h, false_or, Bool.false_eq_true, if_false]
        cases r.findIdx? (isLabel l) <;> simp <;> omega

/-- `labels_used[l]` is the index of the *last* jump to `l` -/
theorem uses_get (l : Name) (ss : List Stmt) : ∀ (ix : Nat) (d : Dict),
    (scan useStep ix ss d).get l =
      match lastJumpFrom l ix ss with
      | some j => j
      | none => d.get l := by
  induction ss with
  | nil => intro ix d; simp [scan, lastJumpFrom]
  | cons s r ih =>
    intro ix d
    rw [scan, ih, lastJumpFrom]
    cases hlj : lastJumpFrom l (ix + 1) r with
    | some j => simp
    | none =>
      cases s with
      | jump l' c =>
        by_cases e : l' = l
        · subst e; simp [useStep, get_set, isJumpTo]
        · have e' : ¬ l = l' := fun x => e x.symm
          simp [useStep, get_set, isJumpTo, e, e']
      | _ => simp [useStep, isJumpTo]

theorem lastJump_isSome (l : Name) (ss : List Stmt) : ∀ ix, (lastJumpFrom l ix ss).isSome = ss.any (isJumpTo l) := by
  induction ss with
  | nil => intro ix; rfl
  | cons s r ih =>
    intro ix
    rw [lastJumpFrom, List.any_cons, ← ih (ix + 1)]
    cases lastJumpFrom l (ix + 1) r with
    | some j => simp
    | none => cases isJumpTo l s <;> rfl

theorem lastJump_none (l : Name) (ss : List Stmt) (ix : Nat) : lastJumpFrom l ix ss = none ↔ ¬ JumpsTo ss l := by
  rw [← any_isJumpTo, ← lastJump_isSome l ss ix]
  cases lastJumpFrom l ix ss <;> simp

theorem lastJump_some (l : Name) (ss : List Stmt) : ∀ (ix j : Nat), lastJumpFrom l ix ss = some j →
    ∃ k : Nat, j = ix + k ∧ (∃ c, ss[k]? = some (.jump l c)) ∧
      ∀ k' : Nat, k < k' → ∀ c, ss[k']? ≠ some (.jump l c) := by
  induction ss with
  | nil => intro ix j h; simp [lastJumpFrom] at h
  | cons s r ih =>
    intro ix j h
    rw [lastJumpFrom] at h
    cases hlj : lastJumpFrom l (ix + 1) r with
    | some j' =>
      rw [hlj] at h
      obtain rfl := Option.some.inj h
      obtain ⟨k, rfl, ⟨c, hc⟩, hlast⟩ := ih (ix + 1) j' hlj
      refine ⟨k + 1, by omega, ⟨c, by simpa using hc⟩, fun k' hk' c' => ?_⟩
      cases k' with
      | zero => omega
      | succ k' => simpa using hlast k' (by omega) c'
    | none =>
      rw [hlj] at h
      have hr : ∀ (k : Nat) c, r[k]? ≠ some (.jump l c) := fun k c hk =>
        (lastJump_none l r (ix + 1)).1 hlj ⟨c, List.mem_of_getElem? hk⟩
      by_cases hj : isJumpTo l s = true
      · simp only [hj, if_true, Option.some.injEq] at h
        obtain ⟨c, rfl⟩ := (isJumpTo_iff l s).1 hj
        refine ⟨0, h.symm, ⟨c, rfl⟩, fun k' hk' c' => ?_⟩
        cases k' with
        | zero => omega
        | succ k' => simpa using hr k' c'
      · simp [hj] at h

/-- `lastJumpFrom l ix ss = some j` says: `j - ix` is the position of the *last* jump to `l` in `ss` -/
theorem lastJump_spec (l : Name) (ss : List Stmt) : ∀ (ix j : Nat), lastJumpFrom l ix ss = some j ↔
    ∃ k : Nat, j = ix + k ∧ (∃ c, ss[k]? = some (.jump l c)) ∧
      ∀ k' : Nat, k < k' → ∀ c, ss[k']? ≠ some (.jump l c) := by
  intro ix j
  refine ⟨lastJump_some l ss ix j, ?_⟩
  rintro ⟨k, rfl, ⟨c, hc⟩, hlast⟩
  -- some jump targets `l`, so the scan finds a last one; a list has only one last jump to `l`
  cases hlj : lastJumpFrom l ix ss with
  | none => exact absurd ⟨c, List.mem_of_getElem? hc⟩ ((lastJump_none l ss ix).1 hlj)
  | some j' =>
    obtain ⟨k', rfl, ⟨c', hc'⟩, hlast'⟩ := lastJump_some l ss ix j' hlj
    rcases Nat.lt_trichotomy k k' with h | rfl | h
    · exact absurd hc' (hlast k' h c')
    · rfl
    · exact absurd hc (hlast' k h c)

theorem mem_sortNames (a : Name) (ns : List Name) : a ∈ sortNames ns ↔ a ∈ ns :=
  (List.mergeSort_perm ns _).mem_iff

theorem nodup_sortNames {ns : List Name} (h : ns.Nodup) : (sortNames ns).Nodup :=
  (List.mergeSort_perm ns _).nodup_iff.2 h

/-- the order of the after-loop reports: ascending code-point order of the names -/
theorem sorted_sortNames (ns : List Name) : (sortNames ns).Pairwise (fun a b => a.render ≤ b.render) := by
  have h := List.pairwise_mergeSort (le := fun a b : Name => decide (a.render ≤ b.render))
    (fun a b c hab hbc => by
      simp only [decide_eq_true_eq] at hab hbc ⊢
      exact String.le_trans hab hbc)
    (fun a b => by
      simp only [Bool.or_eq_true, decide_eq_true_eq]
      exact String.le_total _ _) ns
  exact h.imp (fun hab => by simpa using hab)

theorem filterMap_ite {α β : Type} (c : α → Bool) (g : α → β) (l : List α) :
    l.filterMap (fun x => if c x = true then none else some (g x)) = (l.filter (fun x => !c x)).map g := by
  induction l with
  | nil => rfl
  | cons x xs ih => by_cases h : c x = true <;> simp [h, ih]

/-- an after-loop report (`for l in sorted(a.keys()): if l not in b: …`): one entry per key of `a` that `b` lacks, in
ascending order of the names, each with its value in `a` -/
theorem report_exact (a b : Dict) (ha : a.keys.Nodup) (mk : Name → Nat → Warning) :
    ∃ us : List (Name × Nat),
      (a.sortedKeys.filterMap fun l => if b.has l then none else some (mk l (a.get l))) = us.map (fun p => mk p.1 p.2) ∧
      (us.map (·.1)).Nodup ∧ (us.map (·.1)).Pairwise (fun x y => x.render ≤ y.render) ∧
      ∀ l i, (l, i) ∈ us ↔ l ∈ a.keys ∧ l ∉ b.keys ∧ a.get l = i := by
  have hfst : ∀ ks : List Name, (ks.map (fun l => (l, a.get l))).map (·.1) = ks := fun ks => by
    simp [List.map_map, Function.comp_def]
  refine ⟨(a.sortedKeys.filter (fun l => !b.has l)).map (fun l => (l, a.get l)), ?_, ?_, ?_, fun l i => ?_⟩
  · rw [filterMap_ite, List.map_map]; rfl
  · rw [hfst]; exact (nodup_sortNames ha).filter _
  · rw [hfst]; exact (sorted_sortNames _).filter _
  · simp only [List.mem_map, List.mem_filter, Prod.mk.injEq, Dict.sortedKeys, mem_sortNames, Bool.not_eq_eq_eq_not,
      Bool.not_true, has_false_iff]
    exact ⟨fun ⟨_, h, e, e'⟩ => e ▸ ⟨h.1, h.2, e'⟩, fun ⟨h1, h2, e⟩ => ⟨l, ⟨h1, h2⟩, rfl, e⟩⟩

/-- final loop state of a linted scope: the global list, or the body of a top-level function -/
def scopeState : Scope → List Stmt → LoopState
  | .global, ss => globalLoop ss
  | .fn f, ss => fnLoop f ss

/-- the unknown-label reports lint emits for the scope `sc` whose statement list is `ss` -/
def unknownWarnings (sc : Scope) (ss : List Stmt) : List Warning :=
  unknownLabelW sc (scopeState sc ss).ldefs (scopeState sc ss).lused

/-- the unused-label reports of the scope -/
def unusedWarnings (sc : Scope) (ss : List Stmt) : List Warning :=
  unusedLabelW sc (scopeState sc ss).ldefs (scopeState sc ss).lused

/-- the warnings emitted inside the statement loop of the scope -/
def loopWarnings (sc : Scope) (ss : List Stmt) : List Warning := (scopeState sc ss).warnings

theorem scope_ldefs (sc : Scope) (ss : List Stmt) : (scopeState sc ss).ldefs = scan defStep 0 ss [] := by
  cases sc <;> simp only [scopeState, globalLoop, fnLoop, loop_eq _ _ _ [] 0 {} (inv_init _)] <;> rfl

theorem scope_lused (sc : Scope) (ss : List Stmt) : (scopeState sc ss).lused = scan useStep 0 ss [] := by
  cases sc <;> simp only [scopeState, globalLoop, fnLoop, loop_eq _ _ _ [] 0 {} (inv_init _)] <;> rfl

theorem scope_ldefs_mem (sc ss l) : l ∈ (scopeState sc ss).ldefs.keys ↔ DefinedIn ss l := by
  rw [scope_ldefs, scan_mem defStep_mem, any_isLabel]; simp

theorem scope_lused_mem (sc ss l) : l ∈ (scopeState sc ss).lused.keys ↔ JumpsTo ss l := by
  rw [scope_lused, scan_mem useStep_mem, any_isJumpTo]; simp

/-- `findLabel`: the interpreter's label search — index of the first `label l` statement of the list, if any -/
def findLabel (l : Name) (ss : List Stmt) : Option Nat := ss.findIdx? (isLabel l)

theorem findLabel_none (l : Name) (ss : List Stmt) : findLabel l ss = none ↔ ¬ DefinedIn ss l := by
  rw [findLabel, List.findIdx?_eq_none_iff, ← any_isLabel]
  simp

theorem findLabel_some (l : Name) (ss : List Stmt) (i : Nat) :
    findLabel l ss = some i ↔ ss[i]? = some (.label l) ∧ ∀ j, j < i → ss[j]? ≠ some (.label l) := by
  rw [findLabel, List.findIdx?_eq_some_iff_getElem]
  constructor
  · rintro ⟨hi, hp, hlt⟩
    refine ⟨?_, fun j hj hs => ?_⟩
    · rw [List.getElem?_eq_getElem hi, (isLabel_iff l _).1 hp]
    · obtain ⟨hj', hs⟩ := List.getElem?_eq_some_iff.1 hs
      exact hlt j hj (by rw [hs]; exact (isLabel_iff l _).2 rfl)
  · rintro ⟨hs, hlt⟩
    obtain ⟨hi, hs'⟩ := List.getElem?_eq_some_iff.1 hs
    refine ⟨hi, by rw [hs']; exact (isLabel_iff l _).2 rfl, fun j hj hp => hlt j hj ?_⟩
    rw [List.getElem?_eq_getElem (Nat.lt_trans hj hi), (isLabel_iff l _).1 hp]

theorem scope_lused_get (sc : Scope) {ss : List Stmt} {l : Name} (h : JumpsTo ss l) :
    lastJumpFrom l 0 ss = some ((scopeState sc ss).lused.get l) := by
  rw [scope_lused, uses_get]
  cases hl : lastJumpFrom l 0 ss with
  | some j => rfl
  | none => exact absurd h ((lastJump_none l ss 0).1 hl)

theorem scope_ldefs_get (sc : Scope) {ss : List Stmt} {l : Name} (h : DefinedIn ss l) :
    findLabel l ss = some ((scopeState sc ss).ldefs.get l) := by
  rw [scope_ldefs, defs_get]
  cases hl : findLabel l ss with
  | some i => rw [findLabel] at hl; simp [hl]
  | none => exact absurd h ((findLabel_none l ss).1 hl)

/-- **unknown_label_exact.**  For every scope `ss` (global statement list or body of a top-level function): the
unknown-label warnings are `us.map …` for a list `us` of (label, index) pairs that has no repeated label, is in ascending
order of the label names, and contains `(l, j)` exactly when `UnknownLabel ss l` — some jump of the scope targets `l`
and the scope does not define `l` — with `j` the index of the last jump to `l`. -/
theorem unknown_label_exact (sc : Scope) (ss : List Stmt) :
    ∃ us : List (Name × Nat),
      unknownWarnings sc ss = us.map (fun p => Warning.unknownLabel sc p.1 p.2) ∧
      (us.map (·.1)).Nodup ∧
      (us.map (·.1)).Pairwise (fun a b => a.render ≤ b.render) ∧
      ∀ l j, (l, j) ∈ us ↔ UnknownLabel ss l ∧ lastJumpFrom l 0 ss = some j := by
  obtain ⟨us, h1, h2, h3, h4⟩ := report_exact (scopeState sc ss).lused (scopeState sc ss).ldefs
    (by rw [scope_lused]; exact scan_nodup useStep_nodup ss 0 [] List.nodup_nil) (Warning.unknownLabel sc)
  refine ⟨us, h1, h2, h3, fun l j => ?_⟩
  rw [h4, scope_lused_mem, scope_ldefs_mem, ← and_assoc]
  exact and_congr_right fun h => by rw [scope_lused_get sc h.1, Option.some.injEq]

/-- **unknown_label_iff_findLabel_none** (bridge to the machine).  The scope reports label `l` as unknown exactly when
some jump of the scope targets `l` and the interpreter's label search `findLabel l` over the same list fails — i.e. exactly
for the jumps that raise `Unknown jump label` when taken. -/
theorem unknown_label_iff_findLabel_none (sc : Scope) (ss : List Stmt) (l : Name) :
    (∃ j, Warning.unknownLabel sc l j ∈ unknownWarnings sc ss) ↔ JumpsTo ss l ∧ findLabel l ss = none := by
  obtain ⟨us, hus, -, -, hmem⟩ := unknown_label_exact sc ss
  simp only [findLabel_none, hus, List.mem_map, Prod.exists, Warning.unknownLabel.injEq, true_and, hmem]
  exact ⟨fun ⟨_, _, _, ⟨h, _⟩, e, _⟩ => e ▸ h, fun h => ⟨_, l, _, ⟨h, scope_lused_get sc h.1⟩, rfl, rfl⟩⟩

/-- for one particular jump statement of the scope: its target is reported iff `findLabel` fails -/
theorem jump_reported_iff_findLabel_none (sc : Scope) (ss : List Stmt) (l : Name) (c : Option Expr)
    (h : Stmt.jump l c ∈ ss) :
    (∃ j, Warning.unknownLabel sc l j ∈ unknownWarnings sc ss) ↔ findLabel l ss = none := by
  rw [unknown_label_iff_findLabel_none]
  exact ⟨fun h => h.2, fun h' => ⟨⟨c, h⟩, h'⟩⟩

/-- **unused_label_exact.**  The unused-label warnings of a scope: one per label that the scope defines and no jump of the
scope targets, in ascending order of the names, each with the index of the label's first definition. -/
theorem unused_label_exact (sc : Scope) (ss : List Stmt) :
    ∃ us : List (Name × Nat),
      unusedWarnings sc ss = us.map (fun p => Warning.unusedLabel sc p.1 p.2) ∧
      (us.map (·.1)).Nodup ∧
      (us.map (·.1)).Pairwise (fun a b => a.render ≤ b.render) ∧
      ∀ l i, (l, i) ∈ us ↔ UnusedLabel ss l ∧ findLabel l ss = some i := by
  obtain ⟨us, h1, h2, h3, h4⟩ := report_exact (scopeState sc ss).ldefs (scopeState sc ss).lused
    (by rw [scope_ldefs]; exact scan_nodup defStep_nodup ss 0 [] List.nodup_nil) (Warning.unusedLabel sc)
  refine ⟨us, h1, h2, h3, fun l i => ?_⟩
  rw [h4, scope_lused_mem, scope_ldefs_mem, ← and_assoc]
  exact and_congr_right fun h => by rw [scope_ldefs_get sc h.1, Option.some.injEq]

theorem mem_unknownWarnings {sc : Scope} {ss : List Stmt} {w : Warning} : w ∈ unknownWarnings sc ss ↔
    ∃ l j, w = .unknownLabel sc l j ∧ UnknownLabel ss l ∧ lastJumpFrom l 0 ss = some j := by
  obtain ⟨us, hus, -, -, hmem⟩ := unknown_label_exact sc ss
  simp only [hus, List.mem_map, Prod.exists, hmem]
  exact ⟨fun ⟨l, j, h, e⟩ => ⟨l, j, e.symm, h⟩, fun ⟨l, j, e, h⟩ => ⟨l, j, h, e.symm⟩⟩

theorem mem_unusedWarnings {sc : Scope} {ss : List Stmt} {w : Warning} : w ∈ unusedWarnings sc ss ↔
    ∃ l i, w = .unusedLabel sc l i ∧ UnusedLabel ss l ∧ findLabel l ss = some i := by
  obtain ⟨us, hus, -, -, hmem⟩ := unused_label_exact sc ss
  simp only [hus, List.mem_map, Prod.exists, hmem]
  exact ⟨fun ⟨l, i, h, e⟩ => ⟨l, i, e.symm, h⟩, fun ⟨l, i, e, h⟩ => ⟨l, i, h, e.symm⟩⟩

theorem lint_decomp (ss : List Stmt) :
    lint ss = (if ss.isEmpty then [.emptyScript] else []) ++
      usedBeforeW .global [] (varScan 0 ss [] []).1 (varScan 0 ss [] []).2 ++
      loopWarnings .global ss ++ unusedWarnings .global ss ++ unknownWarnings .global ss := rfl

theorem lintFunction_decomp (ix : Nat) (f : Name) (args : List Name) (body : List Stmt) :
    lintFunction ix f args body =
      usedBeforeW (.fn f) args (varScan 0 body [] []).1 (varScan 0 body [] []).2 ++
      unusedVarW f (varScan 0 body [] []).1 (varScan 0 body [] []).2 ++
      argLoop f ix (varScan 0 body [] []).2 [] args ++
      loopWarnings (.fn f) body ++ unusedWarnings (.fn f) body ++ unknownWarnings (.fn f) body := rfl

theorem mem_usedBeforeW_iff {w sc skip a u} : w ∈ usedBeforeW sc skip a u ↔
    ∃ v, v ∈ a.keys ∧ skip.contains v = false ∧ (u.has v && decide (u.get v ≤ a.get v)) = true ∧
      w = .usedBefore sc v (u.get v) (a.get v) := by
  simp only [usedBeforeW, List.mem_filterMap, Option.ite_none_left_eq_some, Option.ite_none_right_eq_some,
    Option.some.injEq, Bool.not_eq_true, eq_comm (b := w), Dict.sortedKeys, mem_sortNames]

theorem mem_unusedVarW_iff {w f a u} : w ∈ unusedVarW f a u ↔
    ∃ v, v ∈ a.keys ∧ v ∉ u.keys ∧ w = .unusedVar f v (a.get v) := by
  simp only [unusedVarW, List.mem_filterMap, Option.ite_none_left_eq_some, Option.some.injEq, Bool.not_eq_true,
    eq_comm (b := w), Dict.sortedKeys, mem_sortNames, has_false_iff]

theorem mem_usedBeforeW {w sc skip a u} (h : w ∈ usedBeforeW sc skip a u) : ∃ v i j, w = .usedBefore sc v i j :=
  let ⟨v, _, _, _, e⟩ := mem_usedBeforeW_iff.1 h
  ⟨v, _, _, e⟩

theorem mem_unusedVarW {w f a u} (h : w ∈ unusedVarW f a u) : ∃ v i, w = .unusedVar f v i :=
  let ⟨v, _, _, e⟩ := mem_unusedVarW_iff.1 h
  ⟨v, _, e⟩

theorem mem_take_iff {α : Type} {l : List α} {k : Nat} {a : α} : a ∈ l.take k ↔ ∃ j, j < k ∧ l[j]? = some a := by
  simp only [List.mem_iff_getElem?, List.getElem?_take, Option.ite_none_right_eq_some]

theorem any_take {α : Type} (p : α → Bool) (l : List α) (k : Nat) :
    (l.take k).any p = true ↔ ∃ j, j < k ∧ ∃ s, l[j]? = some s ∧ p s = true := by
  simp only [List.any_eq_true, mem_take_iff]
  exact ⟨fun ⟨s, ⟨j, hj, hs⟩, hp⟩ => ⟨j, hj, s, hs, hp⟩, fun ⟨j, hj, s, hs, hp⟩ => ⟨s, ⟨j, hj, hs⟩, hp⟩⟩

theorem exists_nat_cases {P : Nat → Prop} : (∃ p, P p) ↔ P 0 ∨ ∃ p, P (p + 1) :=
  ⟨fun ⟨p, h⟩ => by cases p with | zero => exact Or.inl h | succ p => exact Or.inr ⟨p, h⟩,
   fun h => h.elim (fun h => ⟨0, h⟩) (fun ⟨p, h⟩ => ⟨p + 1, h⟩)⟩

theorem mem_argLoop {w f ix u} (args : List Name) : ∀ seen, w ∈ argLoop f ix u seen args ↔
    ∃ p a, args[p]? = some a ∧
      ((a ∈ seen ∨ a ∈ args.take p) ∧ w = .dupArg f a ix ∨
       ¬ (a ∈ seen ∨ a ∈ args.take p) ∧ u.has a = false ∧ w = .unusedArg f a ix) := by
  induction args with
  | nil => intro seen; simp [argLoop]
  | cons x r ih =>
    intro seen
    rw [argLoop, exists_nat_cases]
    simp only [List.getElem?_cons_zero, List.getElem?_cons_succ, List.take_succ_cons, List.take_zero, List.mem_cons,
      List.not_mem_nil, or_false, Option.some.injEq, exists_eq_left']
    by_cases hx : x ∈ seen
    · have hc : seen.contains x = true := by simpa using hx
      have hmem : ∀ a p, (a ∈ seen ∨ a = x ∨ a ∈ r.take p) ↔ (a ∈ seen ∨ a ∈ r.take p) := fun a p =>
        ⟨fun h => h.elim Or.inl (fun h => h.elim (fun e => Or.inl (e ▸ hx)) Or.inr), fun h => h.imp_right Or.inr⟩
      simp only [hc, if_true, List.mem_cons, ih seen, hx, true_and, not_true, false_and, or_false, hmem]
    · have hc : seen.contains x = false := by simpa using hx
      have hmem : ∀ a p, ((a = x ∨ a ∈ seen) ∨ a ∈ r.take p) ↔ (a ∈ seen ∨ a = x ∨ a ∈ r.take p) :=
        fun a p => by rw [or_assoc, or_left_comm]
      simp only [hc, Bool.false_eq_true, if_false, List.mem_append, ih (x :: seen), List.mem_cons, hx, false_and,
        not_false_eq_true, true_and, false_or, hmem]
      cases u.has x <;> simp

theorem mem_argLoop_shape {w f ix u} (args : List Name) : ∀ seen, w ∈ argLoop f ix u seen args →
    (∃ a, w = .dupArg f a ix) ∨ (∃ a, w = .unusedArg f a ix) := by
  intro seen h
  obtain ⟨_, a, _, ⟨_, h⟩ | ⟨_, _, h⟩⟩ := (mem_argLoop args seen).1 h
  · exact Or.inl ⟨a, h⟩
  · exact Or.inr ⟨a, h⟩

theorem mem_argLoop_dup {f f' a : Name} {ix ix' : Nat} {u : Dict} {args : List Name} :
    Warning.dupArg f' a ix' ∈ argLoop f ix u [] args ↔ f' = f ∧ ix' = ix ∧ ∃ p, DuplicateArgAt args a p := by
  simp only [mem_argLoop, List.not_mem_nil, false_or, Warning.dupArg.injEq, reduceCtorEq, and_false, or_false,
    DuplicateArgAt, mem_take_iff]
  exact ⟨fun ⟨p, _, hp, h, e, e', e''⟩ => by subst e e' e''; exact ⟨rfl, rfl, p, hp, h⟩,
    fun ⟨e, e', p, hp, h⟩ => ⟨p, _, hp, h, e, rfl, e'⟩⟩

theorem mem_argLoop_unused {f f' a : Name} {ix ix' : Nat} {u : Dict} {args : List Name} :
    Warning.unusedArg f' a ix' ∈ argLoop f ix u [] args ↔ f' = f ∧ ix' = ix ∧ a ∈ args ∧ a ∉ u.keys := by
  simp only [mem_argLoop, List.not_mem_nil, false_or, Warning.unusedArg.injEq, reduceCtorEq, and_false, false_or,
    has_false_iff]
  constructor
  · rintro ⟨p, _, hp, _, hu, rfl, rfl, rfl⟩
    exact ⟨rfl, rfl, List.mem_of_getElem? hp, hu⟩
  · rintro ⟨rfl, rfl, ha, hu⟩
    -- the first occurrence of `a` is the one reported
    obtain ⟨as, bs, rfl, has⟩ := List.eq_append_cons_of_mem ha
    exact ⟨as.length, a, by simp, by simpa using has, hu, rfl, rfl, rfl⟩

theorem mem_loop {sc onFn w} {ss : List Stmt} : w ∈ (scopeLoop sc onFn 0 ss {}).warnings ↔
    (sc = .global ∧ ((∃ f i, w = .redefFunction f i ∧ RedefinedFunctionAt ss f i) ∨
      ∃ i k f a v y b, ss[i]? = some (.function k f a v y b) ∧ w ∈ onFn i f a b)) ∨
    (∃ i e, w = .pointless sc i ∧ ss[i]? = some (.expr none e) ∧ isPointless e = true) ∨
    (∃ l i, w = .redefLabel sc l i ∧ RedefinedLabelAt ss l i) := by
  rw [mem_loop_warnings]
  constructor
  · rintro ⟨k, s, hk, hw⟩
    cases s with
    | function n f a v y b =>
      cases sc with
      | fn g => simp [stmtW] at hw
      | global =>
        simp only [stmtW, List.mem_append, List.mem_ite_nil_right, List.mem_singleton] at hw
        rcases hw with ⟨hany, rfl⟩ | hw
        · obtain ⟨j, hj, s, hs, hp⟩ := (any_take _ _ _).1 hany
          obtain ⟨n', a', v', y', b', rfl⟩ := (isFn_iff f s).1 hp
          exact Or.inl ⟨rfl, Or.inl ⟨f, k, rfl, ⟨n, a, v, y, b, hk⟩, j, hj, n', a', v', y', b', hs⟩⟩
        · exact Or.inl ⟨rfl, Or.inr ⟨k, n, f, a, v, y, b, hk, hw⟩⟩
    | expr nm e =>
      simp only [stmtW, List.mem_ite_nil_right, List.mem_singleton, Bool.and_eq_true, Option.isNone_iff_eq_none] at hw
      obtain ⟨⟨rfl, hp⟩, rfl⟩ := hw
      exact Or.inr (Or.inl ⟨k, e, rfl, hk, hp⟩)
    | label l =>
      simp only [stmtW, List.mem_ite_nil_right, List.mem_singleton] at hw
      obtain ⟨hany, rfl⟩ := hw
      obtain ⟨j, hj, s, hs, hp⟩ := (any_take _ _ _).1 hany
      rw [(isLabel_iff l s).1 hp] at hs
      exact Or.inr (Or.inr ⟨l, k, rfl, hk, j, hj, hs⟩)
    | jump l c => simp [stmtW] at hw
    | ret e => simp [stmtW] at hw
    | «include» incs => simp [stmtW] at hw
  · rintro (⟨rfl, ⟨f, i, rfl, ⟨n, a, v, y, b, hi⟩, j, hj, n', a', v', y', b', hj'⟩ | ⟨i, k, f, a, v, y, b, hi, hw⟩⟩ |
      ⟨i, e, rfl, hi, hp⟩ | ⟨l, i, rfl, hi, j, hj, hj'⟩)
    · refine ⟨i, _, hi, ?_⟩
      have : (ss.take i).any (isFn f) = true :=
        (any_take _ _ _).2 ⟨j, hj, _, hj', (isFn_iff f _).2 ⟨n', a', v', y', b', rfl⟩⟩
      simp [stmtW, this]
    · exact ⟨i, _, hi, by simp [stmtW, hw]⟩
    · exact ⟨i, _, hi, by simp [stmtW, hp]⟩
    · refine ⟨i, _, hi, ?_⟩
      have : (ss.take i).any (isLabel l) = true := (any_take _ _ _).2 ⟨j, hj, _, hj', (isLabel_iff l _).2 rfl⟩
      simp [stmtW, this]

/-- the statement and label warnings of the scope `sc` with statement list `body`, read off the list -/
def ScopeWarning (sc : Scope) (body : List Stmt) (w : Warning) : Prop :=
  (∃ i e, w = .pointless sc i ∧ body[i]? = some (.expr none e) ∧ isPointless e = true) ∨
  (∃ l i, w = .redefLabel sc l i ∧ RedefinedLabelAt body l i) ∨
  (∃ l i, w = .unusedLabel sc l i ∧ UnusedLabel body l ∧ findLabel l body = some i) ∨
  (∃ l j, w = .unknownLabel sc l j ∧ UnknownLabel body l ∧ lastJumpFrom l 0 body = some j)

theorem mem_lintFunction {w ix f args body} : w ∈ lintFunction ix f args body ↔
    w ∈ usedBeforeW (.fn f) args (varScan 0 body [] []).1 (varScan 0 body [] []).2 ∨
    w ∈ unusedVarW f (varScan 0 body [] []).1 (varScan 0 body [] []).2 ∨
    w ∈ argLoop f ix (varScan 0 body [] []).2 [] args ∨ ScopeWarning (.fn f) body w := by
  simp only [lintFunction_decomp, List.mem_append, or_assoc, loopWarnings, scopeState, fnLoop, mem_loop, reduceCtorEq,
    false_and, false_or, mem_unusedWarnings, mem_unknownWarnings, ScopeWarning]

theorem mem_lint {w ss} : w ∈ lint ss ↔
    (w = .emptyScript ∧ ss = []) ∨ w ∈ usedBeforeW .global [] (varScan 0 ss [] []).1 (varScan 0 ss [] []).2 ∨
    (∃ f i, w = .redefFunction f i ∧ RedefinedFunctionAt ss f i) ∨
    (∃ i k f a v y b, ss[i]? = some (.function k f a v y b) ∧ w ∈ lintFunction i f a b) ∨ ScopeWarning .global ss w := by
  simp only [lint_decomp, List.mem_append, or_assoc, List.mem_ite_nil_right, List.mem_singleton, List.isEmpty_iff,
    and_comm (a := ss = []), loopWarnings, scopeState, globalLoop, mem_loop, true_and, mem_unusedWarnings,
    mem_unknownWarnings, ScopeWarning]

/-- `body` is the statement list of the linted scope `sc` of the script `ss`: the script itself for the global scope, the
body of a top-level function statement named `f` for `.fn f` (several statements may define the same name: each is a scope
of its own and lint reports on each) -/
def ScopeOf (ss : List Stmt) (sc : Scope) (body : List Stmt) : Prop :=
  (sc = .global ∧ body = ss) ∨
    ∃ (f : Name) (i k : Nat) (a : List Name) (v y : Bool), sc = .fn f ∧ ss[i]? = some (Stmt.function k f a v y body)

/-- the four kinds of warning that speak about the statements and labels of one scope -/
def labelKind (sc : Scope) : Warning → Prop
  | .pointless s _ => s = sc
  | .redefLabel s _ _ => s = sc
  | .unusedLabel s _ _ => s = sc
  | .unknownLabel s _ _ => s = sc
  | _ => False

theorem ScopeWarning.scope_eq {sc sc' : Scope} {body : List Stmt} {w : Warning} (h : ScopeWarning sc' body w)
    (hk : labelKind sc w) : sc' = sc := by
  rcases h with ⟨_, _, rfl, _⟩ | ⟨_, _, rfl, _⟩ | ⟨_, _, rfl, _⟩ | ⟨_, _, rfl, _⟩ <;> exact hk

theorem mem_lintFunction_scoped {w : Warning} {sc : Scope} (hk : labelKind sc w) {ix f args body} :
    w ∈ lintFunction ix f args body ↔ sc = .fn f ∧ ScopeWarning (.fn f) body w := by
  rw [mem_lintFunction]
  constructor
  · rintro (h | h | h | h)
    · obtain ⟨_, _, _, rfl⟩ := mem_usedBeforeW h; exact hk.elim
    · obtain ⟨_, _, rfl⟩ := mem_unusedVarW h; exact hk.elim
    · rcases mem_argLoop_shape args [] h with ⟨_, rfl⟩ | ⟨_, rfl⟩ <;> exact hk.elim
    · exact ⟨(h.scope_eq hk).symm, h⟩
  · exact fun h => Or.inr (Or.inr (Or.inr h.2))

theorem mem_lint_scopeWarning {w : Warning} {sc : Scope} (hk : labelKind sc w) (ss : List Stmt) :
    w ∈ lint ss ↔ ∃ body, ScopeOf ss sc body ∧ ScopeWarning sc body w := by
  rw [mem_lint]
  constructor
  · rintro (⟨rfl, _⟩ | h | ⟨_, _, rfl, _⟩ | ⟨i, k, f, a, v, y, b, hi, h⟩ | h)
    · exact hk.elim
    · obtain ⟨_, _, _, rfl⟩ := mem_usedBeforeW h; exact hk.elim
    · exact hk.elim
    · obtain ⟨rfl, h⟩ := (mem_lintFunction_scoped hk).1 h
      exact ⟨b, Or.inr ⟨f, i, k, a, v, y, rfl, hi⟩, h⟩
    · cases h.scope_eq hk
      exact ⟨ss, Or.inl ⟨rfl, rfl⟩, h⟩
  · rintro ⟨body, ⟨rfl, rfl⟩ | ⟨f, i, k, a, v, y, rfl, hi⟩, h⟩
    · exact Or.inr (Or.inr (Or.inr (Or.inr h)))
    · exact Or.inr (Or.inr (Or.inr (Or.inl ⟨i, k, f, a, v, y, body, hi, (mem_lintFunction_scoped hk).2 ⟨rfl, h⟩⟩)))

theorem mem_lint_scoped {w : Warning} {sc : Scope} (hk : labelKind sc w) (ss : List Stmt) :
    w ∈ lint ss ↔ ∃ body, ScopeOf ss sc body ∧
      (w ∈ loopWarnings sc body ∨ w ∈ unusedWarnings sc body ∨ w ∈ unknownWarnings sc body) := by
  rw [mem_lint_scopeWarning hk]
  refine exists_congr fun body => and_congr_right fun _ => ?_
  cases sc with
  | fn f => simp only [loopWarnings, scopeState, fnLoop, mem_loop, reduceCtorEq, false_and, false_or,
      mem_unusedWarnings, mem_unknownWarnings, ScopeWarning, or_assoc]
  | global =>
    simp only [loopWarnings, scopeState, globalLoop, mem_loop, true_and, mem_unusedWarnings, mem_unknownWarnings,
      ScopeWarning, or_assoc]
    refine ⟨fun h => Or.inr (Or.inr h), ?_⟩
    rintro (⟨_, _, rfl, _⟩ | ⟨_, _, _, _, _, _, _, _, h⟩ | h)
    · exact hk.elim
    · cases ((mem_lintFunction_scoped hk).1 h).1
    · exact h

/-- **unknown_label_mem_lint.**  `lint` reports `Unknown label l` for a scope (with index `j`) iff the script has a scope of
that name — the global list, or the body of a top-level function with that name — in which some jump targets `l`, `l` is not
defined, and `j` is the index of the last such jump. -/
theorem unknown_label_mem_lint (ss : List Stmt) (sc : Scope) (l : Name) (j : Nat) :
    Warning.unknownLabel sc l j ∈ lint ss ↔
      ∃ body, ScopeOf ss sc body ∧ UnknownLabel body l ∧ lastJumpFrom l 0 body = some j := by
  simp only [mem_lint_scopeWarning (w := .unknownLabel sc l j) (sc := sc) rfl, ScopeWarning, reduceCtorEq, false_and,
    exists_false, false_or, Warning.unknownLabel.injEq, true_and, and_assoc, exists_and_left, exists_eq_left']

/-- **unused_label_mem_lint.**  `lint` reports `Unused label l` for a scope (with index `i`) iff the script has a scope of
that name which defines `l` (first at index `i`) and in which no jump targets `l`. -/
theorem unused_label_mem_lint (ss : List Stmt) (sc : Scope) (l : Name) (i : Nat) :
    Warning.unusedLabel sc l i ∈ lint ss ↔
      ∃ body, ScopeOf ss sc body ∧ UnusedLabel body l ∧ findLabel l body = some i := by
  simp only [mem_lint_scopeWarning (w := .unusedLabel sc l i) (sc := sc) rfl, ScopeWarning, reduceCtorEq, false_and,
    exists_false, false_or, or_false, Warning.unusedLabel.injEq, true_and, and_assoc, exists_and_left, exists_eq_left']

/-- **redefinition_exact (labels).**  `lint` reports `Redefinition of label l` at index `i` of a scope iff statement `i` of
a scope of that name defines `l` and an earlier statement of the same scope already did. -/
theorem redefinition_exact_labels (ss : List Stmt) (sc : Scope) (l : Name) (i : Nat) :
    Warning.redefLabel sc l i ∈ lint ss ↔ ∃ body, ScopeOf ss sc body ∧ RedefinedLabelAt body l i := by
  simp only [mem_lint_scopeWarning (w := .redefLabel sc l i) (sc := sc) rfl, ScopeWarning, reduceCtorEq, false_and,
    exists_false, false_or, or_false, Warning.redefLabel.injEq, true_and, and_assoc, exists_and_left, exists_eq_left']

/-- **pointless_exact.**  `lint` reports a pointless statement at index `i` of a scope iff statement `i` of a scope of that
name is an expression statement without assignment target whose expression contains no function call. -/
theorem pointless_exact (ss : List Stmt) (sc : Scope) (i : Nat) :
    Warning.pointless sc i ∈ lint ss ↔
      ∃ body, ScopeOf ss sc body ∧ ∃ e, body[i]? = some (.expr none e) ∧ isPointless e = true := by
  simp only [mem_lint_scopeWarning (w := .pointless sc i) (sc := sc) rfl, ScopeWarning, reduceCtorEq, false_and,
    exists_false, or_false, Warning.pointless.injEq, true_and, exists_and_left, exists_eq_left']

/-- **redefinition_exact (functions).**  `lint` reports `Redefinition of function f` at index `i` iff statement `i` of the
script is a function statement named `f` and an earlier statement of the script already defined a function `f`. -/
theorem redefinition_exact_functions (ss : List Stmt) (f : Name) (i : Nat) :
    Warning.redefFunction f i ∈ lint ss ↔ RedefinedFunctionAt ss f i := by
  simp only [mem_lint, mem_lintFunction, ScopeWarning, mem_usedBeforeW_iff, mem_unusedVarW_iff, mem_argLoop,
    reduceCtorEq, false_and, and_false, exists_false, or_false, false_or, Warning.redefFunction.injEq, and_assoc,
    exists_and_left, exists_eq_left']

/-- **redefinition_exact (arguments).**  `lint` reports `Duplicate argument a of function f` with index `i` iff statement
`i` of the script is a function statement named `f` one of whose argument positions repeats the earlier argument `a`. -/
theorem redefinition_exact_args (ss : List Stmt) (f a : Name) (i : Nat) :
    Warning.dupArg f a i ∈ lint ss ↔
      ∃ k args v y body, ss[i]? = some (Stmt.function k f args v y body) ∧ ∃ p, DuplicateArgAt args a p := by
  simp only [mem_lint, mem_lintFunction, ScopeWarning, mem_usedBeforeW_iff, mem_unusedVarW_iff, mem_argLoop_dup,
    reduceCtorEq, false_and, and_false, exists_false, or_false, false_or]
  exact ⟨fun ⟨_, k, _, args, v, y, body, hi, e, e', h⟩ => by subst e e'; exact ⟨k, args, v, y, body, hi, h⟩,
    fun ⟨k, args, v, y, body, hi, h⟩ => ⟨i, k, f, args, v, y, body, hi, rfl, rfl, h⟩⟩

theorem twice_iff_countP {α : Type} (p : α → Bool) (l : List α) :
    (∃ i j : Nat, j < i ∧ (∃ s, l[i]? = some s ∧ p s = true) ∧ (∃ s, l[j]? = some s ∧ p s = true)) ↔ 2 ≤ l.countP p := by
  induction l with
  | nil => simp
  | cons x r ih =>
    rw [List.countP_cons]
    constructor
    · rintro ⟨i, j, hji, ⟨s, hs, hps⟩, ⟨t, ht, hpt⟩⟩
      cases i with
      | zero => omega
      | succ i =>
        simp only [List.getElem?_cons_succ] at hs
        cases j with
        | zero =>
          simp only [List.getElem?_cons_zero, Option.some.injEq] at ht
          subst ht
          have : 0 < r.countP p := List.countP_pos_iff.2 ⟨s, List.mem_of_getElem? hs, hps⟩
          simp only [hpt, if_true]; omega
        | succ j =>
          simp only [List.getElem?_cons_succ] at ht
          have := ih.1 ⟨i, j, by omega, ⟨s, hs, hps⟩, ⟨t, ht, hpt⟩⟩
          omega
    · intro h
      by_cases hx : p x = true
      · simp only [hx, if_true] at h
        have : 0 < r.countP p := by omega
        obtain ⟨s, hs, hps⟩ := List.countP_pos_iff.1 this
        obtain ⟨m, hm⟩ := List.getElem?_of_mem hs
        exact ⟨m + 1, 0, by omega, ⟨s, by simpa using hm, hps⟩, ⟨x, rfl, hx⟩⟩
      · simp only [hx, Bool.false_eq_true, if_false, Nat.add_zero] at h
        obtain ⟨i, j, hji, ⟨s, hs, hps⟩, ⟨t, ht, hpt⟩⟩ := ih.2 h
        exact ⟨i + 1, j + 1, by omega, ⟨s, by simpa using hs, hps⟩, ⟨t, by simpa using ht, hpt⟩⟩

/-- **redefined_iff_defined_twice.**  A redefinition is reported for a name exactly when the scope / script / argument list
defines it more than once. -/
theorem redefined_iff_defined_twice :
    (∀ (ss : List Stmt) (l : Name), (∃ i, RedefinedLabelAt ss l i) ↔ 2 ≤ ss.countP (isLabel l)) ∧
    (∀ (ss : List Stmt) (f : Name), (∃ i, RedefinedFunctionAt ss f i) ↔ 2 ≤ ss.countP (isFn f)) ∧
    (∀ (args : List Name) (a : Name), (∃ p, DuplicateArgAt args a p) ↔ 2 ≤ args.countP (· == a)) := by
  refine ⟨fun ss l => ?_, fun ss f => ?_, fun args a => ?_⟩
  · rw [← twice_iff_countP]
    simp only [RedefinedLabelAt, isLabel_iff, exists_eq_right]
    exact ⟨fun ⟨i, hi, j, hj, hj'⟩ => ⟨i, j, hj, hi, hj'⟩, fun ⟨i, j, hj, hi, hj'⟩ => ⟨i, hi, j, hj, hj'⟩⟩
  · rw [← twice_iff_countP]
    constructor
    · rintro ⟨i, ⟨k, a, v, y, b, hi⟩, j, hj, k', a', v', y', b', hj'⟩
      exact ⟨i, j, hj, ⟨_, hi, (isFn_iff f _).2 ⟨_, _, _, _, _, rfl⟩⟩, ⟨_, hj', (isFn_iff f _).2 ⟨_, _, _, _, _, rfl⟩⟩⟩
    · rintro ⟨i, j, hj, ⟨s, hs, hps⟩, ⟨t, ht, hpt⟩⟩
      obtain ⟨k, a, v, y, b, rfl⟩ := (isFn_iff f s).1 hps
      obtain ⟨k', a', v', y', b', rfl⟩ := (isFn_iff f t).1 hpt
      exact ⟨i, ⟨k, a, v, y, b, hs⟩, j, hj, k', a', v', y', b', ht⟩
  · rw [← twice_iff_countP]
    simp only [DuplicateArgAt, beq_iff_eq, exists_eq_right]
    exact ⟨fun ⟨i, hi, j, hj, hj'⟩ => ⟨i, j, hj, hi, hj'⟩, fun ⟨i, j, hj, hi, hj'⟩ => ⟨i, hi, j, hj, hj'⟩⟩

/-- **lint_function_block.**  For every top-level function statement (index `i`) the output of lint contains, as one
contiguous block, the per-function report `lintFunction i f args body`, which ends with that function's own unused-label and
unknown-label warnings (`lintFunction_decomp`). -/
theorem lint_function_block (ss : List Stmt) (i k : Nat) (f : Name) (args : List Name) (v y : Bool) (body : List Stmt)
    (h : ss[i]? = some (Stmt.function k f args v y body)) :
    ∃ pre post, lint ss = pre ++ lintFunction i f args body ++ post := by
  have hl : loopWarnings .global ss = specW .global lintFunction [] 0 ss := by
    show (scopeLoop .global lintFunction 0 ss {}).warnings = _
    rw [loop_eq .global lintFunction ss [] 0 {} (inv_init _)]; rfl
  obtain ⟨A, B, hAB⟩ := specW_split (sc := .global) (onFn := lintFunction) ss [] 0 i _ h
  rw [lint_decomp, hl, hAB]
  simp only [stmtW, Nat.zero_add, List.nil_append]
  refine ⟨(if ss.isEmpty then [Warning.emptyScript] else []) ++
      usedBeforeW .global [] (varScan 0 ss [] []).1 (varScan 0 ss [] []).2 ++ A ++
      (if (ss.take i).any (isFn f) = true then [Warning.redefFunction f i] else []),
    B ++ unusedWarnings .global ss ++ unknownWarnings .global ss, ?_⟩
  simp only [List.append_assoc]

/-- **lint_total_pure.**  In the model `lintScript` is a function `List Stmt → List String`: it is defined on every model
(no failure value exists in its type), its result is determined by the model alone (same model, same warnings), and it has
no way to modify its argument — "the model is returned unchanged" is not a statement about a pure function, so that part of
the property (and "never raises" for the Python) is carried by the purity oracle of the correspondence check. -/
theorem lint_total_pure (ss : List Stmt) :
    (∃ ws : List String, lintScript ss = ws) ∧ ∀ ss' : List Stmt, ss' = ss → lintScript ss' = lintScript ss :=
  ⟨⟨_, rfl⟩, fun _ h => by rw [h]⟩

/-! ## Non-vacuity: one model with duplicate labels, dangling jumps, duplicate functions and duplicate arguments

The same model is case `lean-example` of `harness/corpus/C18.jsonl`, where the implementation's output is compared with the
model's: `Pointless global statement (index 1)`, `Redefinition of global label "a" (index 2)`, `Unused argument "p" …`,
`Duplicate argument "p" of function "f" (index 4)`, `Redefinition of label "a" in function "f" (index 2)`,
`Unused label "a" in function "f" (index 0)`, `Unused label "u" in function "f" (index 3)`,
`Unknown label "x" in function "f" (index 1)`, `Redefinition of function "f" (index 5)`,
`Unused global label "a" (index 0)`, `Unknown global label "x" (index 6)`. -/

def exBody : List Stmt :=
  [.label (.user "a"), .jump (.user "x") none, .label (.user "a"), .label (.user "u")]

def exScript : List Stmt := [
  .label (.user "a"),
  .expr none (.variable (.user "v")),
  .label (.user "a"),
  .jump (.user "x") none,
  .function 0 (.user "f") [.user "p", .user "p"] false false exBody,
  .function 1 (.user "f") [] false false [],
  .jump (.user "x") (some (.variable (.user "c")))]

theorem exBody_scope : ScopeOf exScript (.fn (.user "f")) exBody :=
  Or.inr ⟨.user "f", 4, 0, [.user "p", .user "p"], false, false, rfl, rfl⟩

theorem exScript_scope : ScopeOf exScript .global exScript := Or.inl ⟨rfl, rfl⟩

/-- `UnknownLabel` is inhabited in both scopes, and lint reports exactly these (global: the *last* jump, index 6) -/
example : UnknownLabel exScript (.user "x") := ⟨⟨none, by simp [exScript]⟩, by simp [DefinedIn, exScript]⟩
example : Warning.unknownLabel .global (.user "x") 6 ∈ lint exScript :=
  (unknown_label_mem_lint _ _ _ _).2
    ⟨_, exScript_scope, ⟨⟨none, by simp [exScript]⟩, by simp [DefinedIn, exScript]⟩, by decide⟩
example : Warning.unknownLabel (.fn (.user "f")) (.user "x") 1 ∈ lint exScript :=
  (unknown_label_mem_lint _ _ _ _).2
    ⟨_, exBody_scope, ⟨⟨none, by simp [exBody]⟩, by simp [DefinedIn, exBody]⟩, by decide⟩
/-- the label `a` is defined in both scopes, so it is *not* unknown in either: scopes do not leak -/
example : ∀ sc j, Warning.unknownLabel sc (.user "a") j ∉ lint exScript := by
  intro sc j h
  obtain ⟨body, hs, ⟨⟨c, hc⟩, hd⟩, _⟩ := (unknown_label_mem_lint _ _ _ _).1 h
  rcases hs with ⟨_, rfl⟩ | ⟨f, i, k, a, v, y, _, hi⟩
  · exact hd (by simp [DefinedIn, exScript])
  · have : i < exScript.length := (List.getElem?_eq_some_iff.1 hi).1
    have hi' : i < 7 := this
    rcases i with _ | _ | _ | _ | _ | _ | _ | i
    all_goals first
      | omega
      | (simp only [exScript, List.getElem?_cons_zero, List.getElem?_cons_succ, Option.some.injEq, reduceCtorEq] at hi)
      | skip
    · simp only [Stmt.function.injEq] at hi
      obtain ⟨-, -, -, -, -, rfl⟩ := hi
      exact hd (by simp [DefinedIn, exBody])
    · simp only [Stmt.function.injEq] at hi
      obtain ⟨-, -, -, -, -, rfl⟩ := hi
      simp at hc
/-- the bridge: the dangling jump is exactly where the interpreter's label search fails -/
example : findLabel (.user "x") exScript = none ∧ findLabel (.user "a") exBody = some 0 := by decide
example : ∃ j, Warning.unknownLabel .global (.user "x") j ∈ unknownWarnings .global exScript :=
  (jump_reported_iff_findLabel_none .global exScript (.user "x") none (by simp [exScript])).2 (by decide)
/-- unused labels, redefinitions of labels / functions / arguments, pointless statement: all inhabited -/
example : Warning.unusedLabel (.fn (.user "f")) (.user "u") 3 ∈ lint exScript :=
  (unused_label_mem_lint _ _ _ _).2
    ⟨_, exBody_scope, ⟨by simp [DefinedIn, exBody], by rintro ⟨c, hc⟩; simp [exBody] at hc⟩, by decide⟩
example : Warning.redefLabel .global (.user "a") 2 ∈ lint exScript :=
  (redefinition_exact_labels _ _ _ _).2 ⟨_, exScript_scope, rfl, 0, by omega, rfl⟩
example : Warning.redefLabel (.fn (.user "f")) (.user "a") 2 ∈ lint exScript :=
  (redefinition_exact_labels _ _ _ _).2 ⟨_, exBody_scope, rfl, 0, by omega, rfl⟩
example : Warning.redefFunction (.user "f") 5 ∈ lint exScript :=
  (redefinition_exact_functions _ _ _).2 ⟨⟨_, _, _, _, _, rfl⟩, 4, by omega, _, _, _, _, _, rfl⟩
example : Warning.redefFunction (.user "f") 4 ∉ lint exScript := by
  intro h
  obtain ⟨-, j, hj, k, a, v, y, b, hb⟩ := (redefinition_exact_functions _ _ _).1 h
  rcases j with _ | _ | _ | _ | j
  all_goals first
    | omega
    | simp [exScript] at hb
example : Warning.dupArg (.user "f") (.user "p") 4 ∈ lint exScript :=
  (redefinition_exact_args _ _ _ _).2 ⟨_, _, _, _, _, rfl, 1, rfl, 0, by omega, rfl⟩
example : Warning.pointless .global 1 ∈ lint exScript :=
  (pointless_exact _ _ _).2 ⟨_, exScript_scope, _, rfl, rfl⟩
example : (2 ≤ exScript.countP (isLabel (.user "a"))) ∧ (2 ≤ exScript.countP (isFn (.user "f"))) := by decide

end C18
