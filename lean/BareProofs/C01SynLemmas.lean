import BareProofs.C01HostLemmas
import BareProofs.HostLibBridge

/-!
# A value-flow invariant: no library call of the run reaches the globals by a computed name

The only library functions of `HostImpl.host` / `HostLib.hostLib` that reach the globals by a *computed* name are
`systemGlobalGet` and `systemGlobalSet`.  For a list `F` of such *forbidden* library names:

* `clean F v` (the value is not one of the forbidden library function values), `fbName F n` (the identifier spells a forbidden
  name), `EnvOK` (every binding holds a clean value **or** sits under a forbidden identifier — the initial globals bind
  `systemGlobalGet ↦ fn (lib "systemGlobalGet")`, and that binding can only be reached by that identifier), `StOK`, and the
  syntactic predicates `nmE` / `nmStmt` / `nmP` on jump-level code, `nmS` / `nmB` / `nmEl` on structured programs: no *read* of
  a forbidden identifier (as a variable, as the name of a called function, as the index variable of a `for`);
* `TreeC`: a library interaction tree that issues **no** `globalGet` / `globalSet` request at all, hands only clean values to
  call-backs and to the script, keeps the world invariant, and never raises the guard's error; `HostClean`: every tree of
  the host is such when the function called is not forbidden and the arguments are clean, and the operators never fabricate
  a forbidden function value;
* **`run_good`** (`callValue₀` / `execM₀` / `execIncludes₀`) and **`pure_good`** (`callS` / `execSS` / `execSB` / `execSE` /
  `forS`): under `HostClean`, with all code that can run reading no forbidden identifier, every step preserves the invariant
  and no run ends with the guard's error; the evaluator is walked on `C09.Oc` outcomes (`GoodOc`, with the one rule
  `GoodOc.bind`); `lowerB_nm`: the lowering of a program that reads none reads none;
* `Shape.treeC`: a tree that is a shape (`HostShape`) is `TreeC`, or the single request of `systemGlobalGet` /
  `systemGlobalSet`; `hostClean`: every host with a `HostShape` is `HostClean` for every `F` with the two names, the world
  invariant being `ViewOK` (no heap cell and no partial application holds a forbidden function value); `hostImpl_clean`,
  `hostLib_clean` are the two concrete hosts, with `ViewOK` spelt out as `WorldOK`, `LWorldOK`.
-/

set_option linter.unusedSectionVars false

namespace C01Syn
open Machine StructuredS Lower Structured C01

variable {W : Type}

section Defs
variable (F : List String)

def fbFn : FnVal → Bool
  | .lib n => F.contains n
  | _ => false

def clean : Value → Bool
  | .fn f => !fbFn F f
  | _ => true

def fbName : Name → Bool
  | .user s => F.contains s
  | .gen _ _ => false

omit F in
theorem clean_nil (v : Value) : clean [] v = true := by
  cases v with
  | fn f => cases f <;> rfl
  | _ => rfl

def CleanL (xs : List Value) : Prop := ∀ x ∈ xs, clean F x = true

/-- every binding holds a clean value, or sits under a forbidden identifier (where no admissible program looks) -/
def EnvOK (e : Env) : Prop := ∀ p ∈ e, clean F p.2 = true ∨ fbName F p.1 = true

def LocOK : Option Env → Prop
  | none => True
  | some l => EnvOK F l

/-- state invariant: admissible globals, admissible world; the statement counter is irrelevant -/
def StOK (okW : W → Prop) (st : State W) : Prop := EnvOK F st.globals ∧ okW st.world

instance (xs : List Value) : Decidable (CleanL F xs) := by unfold CleanL; infer_instance
instance (e : Env) : Decidable (EnvOK F e) := by unfold EnvOK; infer_instance

theorem cleanL_nil : CleanL F [] := fun _ h => by cases h

theorem cleanL_cons {v : Value} {vs : List Value} (h1 : clean F v = true) (h2 : CleanL F vs) : CleanL F (v :: vs) := by
  intro x hx
  rcases List.mem_cons.1 hx with h | h
  · rw [h]; exact h1
  · exact h2 x h

theorem cleanL_append {xs ys : List Value} (h1 : CleanL F xs) (h2 : CleanL F ys) : CleanL F (xs ++ ys) := by
  intro x hx
  rcases List.mem_append.1 hx with h | h
  · exact h1 x h
  · exact h2 x h

theorem cleanL_tail {xs : List Value} (h : CleanL F xs) : CleanL F xs.tail :=
  fun x hx => h x (List.mem_of_mem_tail hx)

theorem clean_headD {xs : List Value} (h : CleanL F xs) : clean F (xs.head?.getD .null) = true := by
  cases xs with
  | nil => rfl
  | cons x r => exact h x List.mem_cons_self

theorem envOK_nil : EnvOK F [] := fun _ h => by cases h

theorem envOK_set {e : Env} (he : EnvOK F e) (n : Name) {v : Value} (hv : clean F v = true) : EnvOK F (e.set n v) :=
  fun p hp => (C04.mem_set hp).elim (fun h => h ▸ .inl hv) (he p)

theorem get?_clean {e : Env} (he : EnvOK F e) {n : Name} (hn : fbName F n = false) {v : Value} (h : e.get? n = some v) :
    clean F v = true :=
  (he _ (C04.mem_of_get? h)).resolve_right (by rw [hn]; nofun)

theorem clean_getD {o : Option Value} (h : ∀ v, o = some v → clean F v = true) : clean F (o.getD .null) = true := by
  cases o with
  | none => rfl
  | some v => exact h v rfl

theorem lookupVar_clean {l : Option Env} {g : Env} (hl : LocOK F l) (hg : EnvOK F g) {n : Name} (hn : fbName F n = false) :
    clean F (lookupVar l g n) = true := by
  unfold lookupVar
  cases l with
  | none => exact clean_getD F fun v h => get?_clean F hg hn h
  | some l =>
    simp only
    split
    · exact clean_getD F fun v h => get?_clean F hl hn h
    · exact clean_getD F fun v h => get?_clean F hg hn h

theorem readVar_clean {l : Option Env} {g : Env} (hl : LocOK F l) (hg : EnvOK F g) {x : Name} (hx : fbName F x = false) :
    clean F (readVar l g x) = true := by
  unfold readVar
  split
  · rfl
  · split
    · rfl
    · split
      · rfl
      · exact lookupVar_clean F hl hg hx

theorem lookupFunc_clean {c : Config W} (hb : ∀ n f, c.host.builtin n = some f → clean F (.fn f) = true)
    {l : Option Env} {g : Env} (hl : LocOK F l) (hg : EnvOK F g) {n : Name} (hn : fbName F n = false) {v : Value}
    (h : lookupFunc c l g n = some v) : clean F v = true := by
  have hvia : ∀ v, (if g.contains n then g.get? n else if c.builtins then (c.host.builtin n).map Value.fn else none) = some v →
      clean F v = true := by
    intro v hv
    split at hv
    · exact get?_clean F hg hn hv
    · split at hv
      · cases hbn : c.host.builtin n with
        | none => rw [hbn] at hv; cases hv
        | some f => rw [hbn] at hv; cases hv; exact hb n f hbn
      · cases hv
  unfold lookupFunc at h
  cases l with
  | none => exact hvia v h
  | some l =>
    simp only at h
    split at h
    · exact get?_clean F hl hn h
    · exact hvia v h

mutual
/-- the expression reads no forbidden identifier (as a variable or as the name of a called function) -/
def nmE : Expr → Bool
  | .number _ => true
  | .string _ => true
  | .variable n => !fbName F n
  | .function n args => !fbName F n && nmEs args
  | .binary _ l r => nmE l && nmE r
  | .unary _ e => nmE e
  | .group e => nmE e
def nmEs : List Expr → Bool
  | [] => true
  | a :: as => nmE a && nmEs as
end

def nmEO : Option Expr → Bool
  | none => true
  | some e => nmE F e

/-- a statement reads no forbidden identifier; `inc` = include statements are admitted (then the fetched scripts must satisfy
the predicate too, `CfgClean.fetch`).  The body carried by a `function` statement is not looked at: a call runs the table
entry (`CfgClean.funs`). -/
def nmStmt (inc : Bool) : Stmt → Bool
  | .expr _ e => nmE F e
  | .jump _ c => nmEO F c
  | .ret e => nmEO F e
  | .label _ => true
  | .function _ _ _ _ _ _ => true
  | .include _ => inc

def nmP (inc : Bool) (P : List Stmt) : Bool := P.all (nmStmt F inc)

theorem nmP_get {inc : Bool} {P : List Stmt} (h : nmP F inc P = true) {pc : Nat} {s : Stmt} (hs : P[pc]? = some s) :
    nmStmt F inc s = true :=
  List.all_eq_true.1 h s (List.mem_of_getElem? hs)

theorem nmP_append (inc : Bool) (P Q : List Stmt) : nmP F inc (P ++ Q) = (nmP F inc P && nmP F inc Q) := by
  simp only [nmP, List.all_append]

theorem nmP_nil (inc : Bool) : nmP F inc [] = true := rfl

theorem nmP_one (inc : Bool) (s : Stmt) : nmP F inc [s] = nmStmt F inc s := Bool.and_true _

theorem nmP_cons (inc : Bool) (s : Stmt) (P : List Stmt) : nmP F inc (s :: P) = (nmStmt F inc s && nmP F inc P) := by
  simp only [nmP, List.all_cons]

variable (okW : W → Prop)

def GoodOut : Out W → Prop
  | .ok v st => clean F v = true ∧ StOK F okW st
  | .err e _ => e ≠ .host reservedMsg
  | .oof => True

def GoodArgs : ArgsOut W → Prop
  | .ok vs st => CleanL F vs ∧ StOK F okW st
  | .err e _ => e ≠ .host reservedMsg
  | .oof => True

def GoodRes : Res W → Prop
  | .done st => StOK F okW st
  | .ret v st => clean F v = true ∧ StOK F okW st
  | .err e _ => e ≠ .host reservedMsg
  | .oof => True

def GoodStep : C09.StmtStep W → Prop
  | .next l st => LocOK F l ∧ StOK F okW st
  | .goto _ st => StOK F okW st
  | .halt r => GoodRes F okW r

def GoodCall (call : CallFn W) : Prop :=
  ∀ f args st, clean F f = true → CleanL F args → StOK F okW st → GoodOut F okW (call f args st)

/-- `GoodOut` and `GoodArgs` on `C09.Oc`: `V` of the result and `StOK` of the state, or an error other than the guard's -/
def GoodOc {α : Type} (V : α → Prop) : C09.Oc α W → Prop
  | .ok a st => V a ∧ StOK F okW st
  | .err e _ => e ≠ .host reservedMsg
  | .oof => True

variable {F okW}

theorem GoodOut.oc {o : Out W} : GoodOut F okW o ↔ GoodOc F okW (clean F · = true) o.oc := by cases o <;> exact Iff.rfl
theorem GoodArgs.oc {o : ArgsOut W} : GoodArgs F okW o ↔ GoodOc F okW (CleanL F) o.oc := by cases o <;> exact Iff.rfl

theorem GoodOc.bind {α β : Type} {V : α → Prop} {V' : β → Prop} {o : C09.Oc α W} (h : GoodOc F okW V o)
    {k : α → State W → C09.Oc β W} (hk : ∀ a s, V a → StOK F okW s → GoodOc F okW V' (k a s)) :
    GoodOc F okW V' (o.bind k) := by
  cases o with
  | ok a s => exact hk a s h.1 h.2
  | err e s => exact h
  | oof => trivial

omit F okW in
theorem touches_err {e : RtErr} (h : e ≠ .host reservedMsg) (s : State W) :
    touchesReserved (.err e s) = false ∧ touchesReservedO (.err e s) = false := by
  cases e <;> try exact ⟨rfl, rfl⟩
  rename_i m
  have : (m == reservedMsg) = false := beq_eq_false_iff_ne.2 fun hm => h (by rw [hm])
  exact ⟨this, this⟩

theorem goodOut_touches : {o : Out W} → GoodOut F okW o → touchesReservedO o = false
  | .err _ s, h => (touches_err h s).2
  | .ok _ _, _ | .oof, _ => rfl

theorem goodRes_touches : {r : Res W} → GoodRes F okW r → touchesReserved r = false
  | .err _ s, h => (touches_err h s).1
  | .done _, _ | .ret _ _, _ | .oof, _ => rfl

end Defs

section Machine
variable (F : List String) (okW : W → Prop)

/-- the tree issues **no** `globalGet` / `globalSet` request, hands only clean values (function value and arguments) to its
call-backs and a clean value back to the script, every world it passes on satisfies the world invariant — given that the
answers of its call-backs are clean and the worlds they hand back satisfy the invariant — and it does not raise the guard's
error -/
inductive TreeC : LibTree W → Prop
  | ret (out : LibOut) (w : W) : okW w → (∀ v, out.val? = some v → clean F v = true) → out ≠ .rt reservedMsg →
      TreeC (.ret out w)
  | call (f : Value) (args : List Value) (w : W) (k : Value → W → LibTree W) :
      okW w → clean F f = true → CleanL F args → (∀ v w', clean F v = true → okW w' → TreeC (k v w')) →
      TreeC (.call f args w k)

/-- what the invariant needs from a host -/
structure HostClean (h : Host W) : Prop where
  binop : ∀ op a b w, clean F (h.binop op a b w) = true
  neg : ∀ v, clean F (h.neg v) = true
  notCallable : ∀ v w, okW w → okW (h.notCallable v w)
  logFailure : ∀ w, okW w → okW (h.logFailure w)
  newArray : ∀ xs w, okW w → CleanL F xs → clean F (h.newArray xs w).1 = true ∧ okW (h.newArray xs w).2
  builtin : ∀ n f, h.builtin n = some f → clean F (.fn f) = true
  lib : ∀ name args w, okW w → F.contains name = false → CleanL F args → TreeC F okW (h.lib name args w)
  other : ∀ k args w, okW w → CleanL F args → TreeC F okW (h.other k args w)

/-- what the invariant needs from a configuration: such a host, and all code that can ever run — the bodies of the function
table, and (when include statements are admitted) the fetched scripts — reads no forbidden identifier -/
structure CfgClean (inc : Bool) (c : Config W) : Prop where
  host : HostClean F okW c.host
  funs : ∀ id fd, c.funs id = some fd → nmP F inc fd.body = true
  fetch : inc = true → ∀ url ss, c.fetch url = .script ss → nmP F inc ss = true

variable {F okW}

/-- guarding a `TreeC` tree leaves it `TreeC` (it has no node the guard could replace on the admissible paths) -/
theorem treeC_guardT {t : LibTree W} (ht : TreeC F okW t) : TreeC F okW (guardT t) := by
  induction ht with
  | ret out w h1 h2 h3 => exact .ret out w h1 h2 h3
  | call f args w k h1 h2 h3 _ ih => exact .call f args w _ h1 h2 h3 ih

theorem hostClean_guard {h : Host W} (hh : HostClean F okW h) : HostClean F okW (guard h) :=
  { binop := hh.binop, neg := hh.neg, notCallable := hh.notCallable, logFailure := hh.logFailure, newArray := hh.newArray,
    builtin := hh.builtin,
    lib := fun name args w hw hn ha => treeC_guardT (hh.lib name args w hw hn ha),
    other := fun k args w hw ha => treeC_guardT (hh.other k args w hw ha) }

theorem cfgClean_guard {inc : Bool} {c : Config W} (hc : CfgClean F okW inc c) : CfgClean F okW inc (guardCfg c) :=
  { host := hostClean_guard hc.host, funs := hc.funs, fetch := hc.fetch }

section Eval
variable {c : Config W} (hh : HostClean F okW c.host) {call : CallFn W} (hcall : GoodCall F okW call)
  {l : Option Env} (hl : LocOK F l)
include hh hcall hl

theorem callLooked_good {n : Name} (hn : fbName F n = false) {vs : List Value} {s : State W} (hvs : CleanL F vs)
    (hs : StOK F okW s) : GoodOut F okW (callLooked call n (lookupFunc c l s.globals n) vs s) := by
  cases hr : lookupFunc c l s.globals n with
  | none => simp only [callLooked]; intro h; cases h
  | some fv =>
    have hfv := lookupFunc_clean F hh.builtin hl hs.1 hn hr
    cases fv with
    | null => simp only [callLooked]; intro h; cases h
    | _ => exact hcall _ vs s hfv hvs hs

mutual
theorem evalExpr_goodOc : ∀ (e : Expr) (st : State W), nmE F e = true → StOK F okW st →
    GoodOc F okW (clean F · = true) (evalExpr c call l e st).oc
  | .number q, st, _, hs | .string q, st, _, hs => by simp only [evalExpr]; exact ⟨rfl, hs⟩
  | .variable n, st, he, hs => by
      simp only [nmE, Bool.not_eq_true'] at he
      rw [evalExpr_variable]
      exact ⟨readVar_clean F hl hs.1 he, hs⟩
  | .function n args, st, he, hs => by
      simp only [nmE, Bool.and_eq_true, Bool.not_eq_true'] at he
      rw [C09.evalExpr_function]
      split
      · exact evalIf_goodOc args st he.2 hs
      · exact (evalArgs_goodOc args st he.2 hs).bind fun vs s hvs hs' =>
          callLooked_oc c call l n vs s ▸ GoodOut.oc.1 (callLooked_good hh hcall hl he.1 hvs hs')
  | .binary op a b, st, he, hs => by
      simp only [nmE, Bool.and_eq_true] at he
      rw [C09.evalExpr_binary]
      refine (evalExpr_goodOc a st he.1 hs).bind fun v s hv hs' => ?_
      unfold C09.binRest
      split
      · split
        · exact evalExpr_goodOc b s he.2 hs'
        · exact ⟨hv, hs'⟩
      · split
        · exact ⟨hv, hs'⟩
        · exact evalExpr_goodOc b s he.2 hs'
      · exact (evalExpr_goodOc b s he.2 hs').bind fun v2 s2 _ hs2 => ⟨hh.binop _ _ _ _, hs2⟩
  | .unary op a, st, he, hs => by
      simp only [nmE] at he
      rw [C09.evalExpr_unary]
      refine (evalExpr_goodOc a st he hs).bind fun v s _ hs' => ⟨?_, hs'⟩
      cases op
      · rfl
      · exact hh.neg _
  | .group a, st, he, hs => by
      simp only [nmE] at he
      simp only [evalExpr]
      exact evalExpr_goodOc a st he hs

theorem evalArgs_goodOc : ∀ (as : List Expr) (st : State W), nmEs F as = true → StOK F okW st →
    GoodOc F okW (CleanL F) (evalArgs c call l as st).oc
  | [], st, _, hs => by simp only [evalArgs]; exact ⟨cleanL_nil F, hs⟩
  | a :: as, st, he, hs => by
      simp only [nmEs, Bool.and_eq_true] at he
      rw [C09.evalArgs_cons]
      exact (evalExpr_goodOc a st he.1 hs).bind fun v s hv hs' =>
        (evalArgs_goodOc as s he.2 hs').bind fun vs s2 hvs hs2 => ⟨cleanL_cons F hv hvs, hs2⟩

theorem evalIf_goodOc : ∀ (as : List Expr) (st : State W), nmEs F as = true → StOK F okW st →
    GoodOc F okW (clean F · = true) (evalIf c call l as st).oc
  | [], st, _, hs => by simp only [evalIf]; exact ⟨rfl, hs⟩
  | [x], st, he, hs => by
      simp only [nmEs, Bool.and_eq_true] at he
      rw [C09.evalIf_one]
      exact (evalExpr_goodOc x st he.1 hs).bind fun _ s _ hs' => ⟨rfl, hs'⟩
  | [x, t], st, he, hs => by
      simp only [nmEs, Bool.and_eq_true] at he
      rw [C09.evalIf_two]
      refine (evalExpr_goodOc x st he.1 hs).bind fun v s _ hs' => ?_
      unfold C09.condRest
      split
      · exact evalExpr_goodOc t s he.2.1 hs'
      · exact ⟨rfl, hs'⟩
  | x :: t :: f :: r, st, he, hs => by
      simp only [nmEs, Bool.and_eq_true] at he
      rw [C09.evalIf_three]
      refine (evalExpr_goodOc x st he.1 hs).bind fun v s _ hs' => ?_
      unfold C09.condRest
      split
      · exact evalExpr_goodOc t s he.2.1 hs'
      · exact evalExpr_goodOc f s he.2.2.1 hs'
end

theorem evalExpr_good : ∀ (e : Expr) (st : State W), nmE F e = true → StOK F okW st → GoodOut F okW (evalExpr c call l e st) :=
  fun e st he hs => GoodOut.oc.2 (evalExpr_goodOc hh hcall hl e st he hs)

theorem evalArgs_good : ∀ (as : List Expr) (st : State W), nmEs F as = true → StOK F okW st →
    GoodArgs F okW (evalArgs c call l as st) :=
  fun as st he hs => GoodArgs.oc.2 (evalArgs_goodOc hh hcall hl as st he hs)

theorem evalIf_good : ∀ (as : List Expr) (st : State W), nmEs F as = true → StOK F okW st →
    GoodOut F okW (evalIf c call l as st) :=
  fun as st he hs => GoodOut.oc.2 (evalIf_goodOc hh hcall hl as st he hs)
end Eval

theorem runTree_good {c : Config W} (hh : HostClean F okW c.host) {call : CallFn W} (hcall : GoodCall F okW call)
    {t : LibTree W} (ht : TreeC F okW t) : ∀ st : State W, EnvOK F st.globals → GoodOut F okW (runTree c call t st) := by
  induction ht with
  | ret out w hw hv hne =>
    intro st hg
    cases out with
    | ok v => simp only [runTree]; exact ⟨hv v rfl, hg, hw⟩
    | fail v =>
      simp only [runTree]
      refine ⟨hv v rfl, hg, ?_⟩
      show okW (if c.debug then c.host.logFailure w else w)
      split
      · exact hh.logFailure w hw
      · exact hw
    | rt msg =>
      simp only [runTree]
      intro h
      cases h
      exact hne rfl
  | call f args w k hw hf ha _ ih =>
    intro st hg
    rw [GoodOut.oc, C09.runTree_call]
    exact (GoodOut.oc.1 (hcall f args { st with world := w } hf ha ⟨hg, hw⟩)).bind fun v s hv hs =>
      GoodOut.oc.1 (ih v s.world hv hs.2 s hs.1)

theorem bindArgs_good {h : Host W} (hh : HostClean F okW h) (laa : Bool) :
    ∀ (ps : List Name) (as : List Value) (env : Env) (w : W), CleanL F as → EnvOK F env → okW w →
      EnvOK F (bindArgs h laa ps as env w).1 ∧ okW (bindArgs h laa ps as env w).2
  | [], _, _, _, _, he, hw => ⟨he, hw⟩
  | [p], as, env, w, ha, he, hw => by
      simp only [bindArgs]
      split
      · have := hh.newArray as w hw ha
        exact ⟨envOK_set F he p this.1, this.2⟩
      · exact ⟨envOK_set F he p (clean_headD F ha), hw⟩
  | p :: q :: ps, as, env, w, ha, he, hw => by
      rw [bindArgs]
      exact bindArgs_good hh laa (q :: ps) as.tail _ w (cleanL_tail F ha) (envOK_set F he p (clean_headD F ha)) hw

theorem step_run_good {x : C09.StmtStep W} (hx : GoodStep F okW x) (P : List Stmt) {k : Option Env → Nat → State W → Res W}
    (hk : ∀ l pc st, LocOK F l → StOK F okW st → GoodRes F okW (k l pc st)) {l : Option Env} (hl : LocOK F l) (pc : Nat) :
    GoodRes F okW (x.run P k l pc) := by
  cases x with
  | next l1 st => exact hk _ _ _ hx.1 hx.2
  | goto lab st =>
    simp only [C09.StmtStep.run]
    cases findLabel P lab with
    | none => intro h; cases h
    | some i => exact hk _ _ _ hl hx
  | halt r => exact hx

theorem resOut_good {r : Res W} (h : GoodRes F okW r) : GoodOut F okW (C09.resOut r) := by
  cases r with
  | done s => exact ⟨rfl, h⟩
  | ret v s | err e s => exact h
  | oof => trivial

section Run
variable {inc : Bool} {c : Config W} (hc : CfgClean F okW inc c)
include hc

theorem stepStmt_good {call : CallFn W} (hcall : GoodCall F okW call) {incl : List IncludeScript → State W → Res W}
    (hi : inc = true → ∀ incs s, StOK F okW s → GoodRes F okW (incl incs s)) {l : Option Env} (hl : LocOK F l)
    {s : Stmt} (hs : nmStmt F inc s = true) {st : State W} (hst : StOK F okW st) :
    GoodStep F okW (C09.stepStmt c call incl l s st) := by
  cases s with
  | expr name e =>
    simp only [nmStmt] at hs
    simp only [C09.stepStmt]
    have := evalExpr_good hc.host hcall hl e st hs hst
    generalize evalExpr c call l e st = o at this ⊢
    cases o with
    | ok v st2 =>
      cases name with
      | none => exact ⟨hl, this.2⟩
      | some n =>
        cases l with
        | none => exact ⟨trivial, envOK_set F this.2.1 n this.1, this.2.2⟩
        | some l0 => exact ⟨envOK_set F hl n this.1, this.2⟩
    | err e s2 => exact this
    | oof => trivial
  | jump lab cnd =>
    cases cnd with
    | none => exact hst
    | some cnd =>
      simp only [nmStmt, nmEO] at hs
      simp only [C09.stepStmt]
      have := evalExpr_good hc.host hcall hl cnd st hs hst
      generalize evalExpr c call l cnd st = o at this ⊢
      cases o with
      | ok v st2 =>
        simp only
        split
        · exact this.2
        · exact ⟨hl, this.2⟩
      | err e s2 => exact this
      | oof => trivial
  | ret e =>
    cases e with
    | none => exact ⟨rfl, hst⟩
    | some e =>
      simp only [nmStmt, nmEO] at hs
      simp only [C09.stepStmt]
      have := evalExpr_good hc.host hcall hl e st hs hst
      generalize evalExpr c call l e st = o at this ⊢
      cases o with
      | ok v st2 | err e s2 => exact this
      | oof => trivial
  | label lab => exact ⟨hl, hst⟩
  | function fid name args laa isAsync body => exact ⟨hl, envOK_set F hst.1 name rfl, hst.2⟩
  | «include» incs =>
    simp only [nmStmt] at hs
    simp only [C09.stepStmt]
    have := hi hs incs st hst
    generalize incl incs st = r at this ⊢
    cases r with
    | done st2 => exact ⟨hl, this⟩
    | ret v s2 | err e s2 => exact this
    | oof => trivial

/-- **the value-flow invariant is preserved by every step of the machine, and no run ends with the guard's error.**
For every fuel: a call of a clean function value with clean arguments from an admissible state yields a clean value and an
admissible state (or a runtime error other than the guard's, or is out of fuel); so does the run of a statement list that
reads no forbidden identifier, from every program counter, with admissible locals; so do include statements. -/
theorem run_good : ∀ fuel : Nat,
    GoodCall F okW (callValue₀ c fuel) ∧
    (∀ P l base pc st, nmP F inc P = true → LocOK F l → StOK F okW st → GoodRes F okW (execM₀ c fuel P l base pc st)) ∧
    (inc = true → ∀ base incs st, StOK F okW st → GoodRes F okW (execIncludes₀ c fuel base incs st)) := by
  intro fuel
  induction fuel with
  | zero =>
    refine ⟨fun f args st _ _ _ => ?_, fun P l base pc st _ _ hst => ?_, fun _ base incs st hst => ?_⟩
    · rw [callValue₀]; trivial
    · cases hs : P[pc]? with
      | none => rw [C09.execM₀_end hs]; exact hst
      | some s => rw [C09.execM₀_zero hs]; trivial
    · cases incs with
      | nil => rw [execIncludes₀]; exact hst
      | cons i rest =>
        rw [execIncludes₀]
        cases c.fetch (c.resolve base i) with
        | missing | broken => intro h; cases h
        | script stmts => trivial
  | succ fuel ih =>
    obtain ⟨ihc, ihe, ihi⟩ := ih
    refine ⟨fun f args st hf ha hst => ?_, fun P l base pc st hP hl hst => ?_, fun hinc base incs st hst => ?_⟩
    · cases C09.callee c f with
      | script id fd hf' hd =>
        subst hf'
        rw [C09.callValue₀_script c fuel hd]
        have hb := bindArgs_good hc.host fd.lastArgArray fd.args args [] st.world ha (envOK_nil F) hst.2
        exact resOut_good (ihe _ _ _ _ _ (hc.funs id fd hd) hb.1 ⟨hst.1, hb.2⟩)
      | lib name hf' =>
        subst hf'
        rw [C09.callValue₀_lib]
        have hn : F.contains name = false := by simpa [clean, fbFn] using hf
        exact runTree_good hc.host ihc (hc.host.lib name args st.world hst.2 hn ha) st hst.1
      | other j hf' =>
        subst hf'
        rw [C09.callValue₀_other]
        exact runTree_good hc.host ihc (hc.host.other j args st.world hst.2 ha) st hst.1
      | none h hl ho =>
        rw [C09.callValue₀_notCallable c fuel h hl ho]
        exact ⟨rfl, hst.1, hc.host.notCallable _ _ hst.2⟩
    · cases hs : P[pc]? with
      | none => rw [C09.execM₀_end hs]; exact hst
      | some s =>
        rw [C09.execM₀_succ hs]
        split
        · intro h; cases h
        · exact step_run_good (stepStmt_good hc ihc (fun hinc incs s' hs' => ihi hinc base incs s' hs') hl (nmP_get F hP hs)
            (st := { st with count := st.count + 1 }) hst) P (fun l' pc' st' hl' hst' => ihe P l' base pc' st' hP hl' hst') hl pc
    · cases incs with
      | nil => rw [execIncludes₀]; exact hst
      | cons i rest =>
        rw [execIncludes₀]
        cases hf : c.fetch (c.resolve base i) with
        | missing | broken => intro h; cases h
        | script stmts =>
          simp only
          have h1 := ihe stmts none (some (c.resolve base i)) 0 st (hc.fetch hinc _ _ hf) trivial hst
          generalize execM₀ c fuel stmts none (some (c.resolve base i)) 0 st = r at h1 ⊢
          cases r with
          | done st' => exact ihi hinc base rest st' h1
          | ret v st' => exact ihi hinc base rest st' h1.2
          | err e st' => exact h1
          | oof => trivial

end Run

end Machine

section Source
variable (F : List String)

/-- an optional identifier that is read (the index variable of a `for`) -/
def nmNO : Option Name → Bool
  | none => true
  | some x => !fbName F x

mutual
/-- **the structured statement reads no forbidden identifier**: not as a variable, not as the name of a called function, not
as the index variable of a `for` (which the loop reads back); a `for` also calls `arrayLength` / `arrayGet` by name, so these
two must not be forbidden where a `for` occurs.  Assignment targets, parameter names, function names and labels are *not*
restricted (binding a clean value under a forbidden name is harmless: nothing admissible reads it).  Function bodies are
checked.  `inc` = include statements are admitted. -/
def nmS (inc : Bool) : SStmt → Bool
  | .expr _ e => nmE F e
  | .ret e => nmEO F e
  | .ite c t e => nmE F c && nmB inc t && nmEl inc e
  | .while c b => nmE F c && nmB inc b
  | .for _ ix vals b => !fbName F fnArrayLength && !fbName F fnArrayGet && nmNO F ix && nmE F vals && nmB inc b
  | .brk => true
  | .cont => true
  | .func _ _ _ _ _ b => nmB inc b
  | .label _ => true
  | .jump _ c => nmEO F c
  | .include _ => inc
def nmB (inc : Bool) : List SStmt → Bool
  | [] => true
  | s :: ss => nmS inc s && nmB inc ss
def nmEl (inc : Bool) : SElse → Bool
  | .none => true
  | .els b => nmB inc b
  | .elif c t e => nmE F c && nmB inc t && nmEl inc e
end

variable {F}

omit F in
theorem fbName_gen (F : List String) (k : GK) (n : Nat) : fbName F (.gen k n) = false := rfl

theorem nmP_forHeader (inc : Bool) (i : Nat) (v ixv : Name) (vals : Expr) (h1 : fbName F fnArrayLength = false)
    (h2 : fbName F fnArrayGet = false) (h3 : fbName F ixv = false) (h4 : nmE F vals = true) :
    nmP F inc (forHeader i v ixv vals) = true := by
  simp [forHeader, nmP, nmStmt, nmEO, nmE, nmEs, notE, h1, h2, h3, h4, vValues, vLength, fbName_gen]

theorem nmP_forFooter (inc : Bool) (i : Nat) (ixv : Name) (hc : Bool) (h3 : fbName F ixv = false) :
    nmP F inc (forFooter i ixv hc) = true := by
  cases hc <;> simp [forFooter, nmP, nmStmt, nmEO, nmE, h3, vLength, fbName_gen]

mutual
theorem lowerS_nm (inc : Bool) : ∀ (s : SStmt) (lp : Option (Name × Name)) (i : Nat), nmS F inc s = true →
    nmP F inc (lowerS lp s i).1 = true
  | .expr n e, lp, i, h | .ret e, lp, i, h => (nmP_one F inc _).trans h
  | .label l, lp, i, h => rfl
  | .jump l c, lp, i, h | .include incs, lp, i, h => (nmP_one F inc _).trans h
  | .brk, lp, i, h | .cont, lp, i, h => by cases lp <;> rfl
  | .func fid n args laa isAsync b, lp, i, h => rfl
  | .ite c t e, lp, i, h => by
      simp only [nmS, Bool.and_eq_true] at h
      have h1 := lowerB_nm inc t lp (i+1) h.1.2
      have h2 := lowerElse_nm inc e lp (lIf i) (lDone i) (lowerB lp t (i+1)).2 h.2
      simp only [lowerS, nmP_append, nmP_cons, nmP_nil, nmStmt, nmEO, nmE, notE, h.1.1, h1, h2, Bool.and_self]
  | .while c b, lp, i, h => by
      simp only [nmS, Bool.and_eq_true] at h
      have h1 := lowerB_nm inc b (some (lDone i, lLoop i)) (i+1) h.2
      simp only [lowerS, nmP_append, nmP_cons, nmP_nil, nmStmt, nmEO, nmE, notE, h.1, h1, Bool.and_self]
  | .for v ix vals b, lp, i, h => by
      simp only [nmS, Bool.and_eq_true, Bool.not_eq_true'] at h
      obtain ⟨⟨⟨⟨h1, h2⟩, h3⟩, h4⟩, h5⟩ := h
      have hb := lowerB_nm inc b (some (lDone i, lCont i)) (i+1) h5
      have hix : fbName F (ix.getD (vIndex i)) = false := by
        cases ix with
        | none => rfl
        | some x => simpa [nmNO] using h3
      simp only [lowerS, nmP_append, nmP_forHeader inc i v _ vals h1 h2 hix h4, hb, nmP_forFooter inc i _ _ hix, Bool.and_self]
theorem lowerB_nm (inc : Bool) : ∀ (B : List SStmt) (lp : Option (Name × Name)) (i : Nat), nmB F inc B = true →
    nmP F inc (lowerB lp B i).1 = true
  | [], lp, i, h => rfl
  | s :: ss, lp, i, h => by
      simp only [nmB, Bool.and_eq_true] at h
      have h1 := lowerS_nm inc s lp i h.1
      have h2 := lowerB_nm inc ss lp (lowerS lp s i).2 h.2
      simp only [lowerB, nmP_append, h1, h2, Bool.and_self]
theorem lowerElse_nm (inc : Bool) : ∀ (e : SElse) (lp : Option (Name × Name)) (cur done : Name) (i : Nat),
    nmEl F inc e = true → nmP F inc (lowerElse lp cur done e i).1 = true
  | .none, lp, cur, done, i, h => by simp [lowerElse, nmP, nmStmt]
  | .els b, lp, cur, done, i, h => by
      simp only [nmEl] at h
      have h1 := lowerB_nm inc b lp i h
      simp only [lowerElse, nmP_append, nmP_cons, nmP_nil, nmStmt, nmEO, h1, Bool.and_self]
  | .elif c t e, lp, cur, done, i, h => by
      simp only [nmEl, Bool.and_eq_true] at h
      have h1 := lowerB_nm inc t lp (i+1) h.1.2
      have h2 := lowerElse_nm inc e lp (lIf i) done (lowerB lp t (i+1)).2 h.2
      simp only [lowerElse, nmP_append, nmP_cons, nmP_nil, nmStmt, nmEO, nmE, notE, h.1.1, h1, h2, Bool.and_self]
end

end Source

section Pure
variable (F : List String) (okW : W → Prop)

def GoodS : SOut W → Prop
  | .norm l s => LocOK F l ∧ StOK F okW s
  | .brk l s => LocOK F l ∧ StOK F okW s
  | .cont l s => LocOK F l ∧ StOK F okW s
  | .ret v s => clean F v = true ∧ StOK F okW s
  | .err e _ => e ≠ .host reservedMsg
  | .oof => True

variable {F okW}

theorem assign_good {l : Option Env} {st : State W} (hl : LocOK F l) (hs : StOK F okW st) (x : Name) {v : Value}
    (hv : clean F v = true) : LocOK F (assign l st x v).1 ∧ StOK F okW (assign l st x v).2 := by
  cases l with
  | none => exact ⟨trivial, envOK_set F hs.1 x hv, hs.2⟩
  | some l0 => exact ⟨envOK_set F hl x hv, hs⟩

theorem assignO_good {l : Option Env} {st : State W} (hl : LocOK F l) (hs : StOK F okW st) (x : Option Name) {v : Value}
    (hv : clean F v = true) : LocOK F (assignO l st x v).1 ∧ StOK F okW (assignO l st x v).2 := by
  cases x with
  | none => exact ⟨hl, hs⟩
  | some x => exact assign_good hl hs x hv

theorem idxS_clean {ix : Option Name} (hix : nmNO F ix = true) {c : Value} (hc : clean F c = true) {l : Option Env} {g : Env}
    (hl : LocOK F l) (hg : EnvOK F g) : clean F (idxS ix c l g) = true := by
  cases ix with
  | none => exact hc
  | some x => exact readVar_clean F hl hg (by simpa [nmNO] using hix)

theorem exprK_good {o : Out W} (ho : GoodOut F okW o) (n : Option Name) {l : Option Env} (hl : LocOK F l) :
    GoodS F okW (exprK n l o) := by
  cases o with
  | ok v s =>
    cases n with
    | none => exact ⟨hl, ho.2⟩
    | some x => exact assign_good hl ho.2 x ho.1
  | err e s => exact ho
  | oof => trivial

theorem retK_good {o : Out W} (ho : GoodOut F okW o) : GoodS F okW (retK o) := by
  cases o with
  | ok v s | err e s => exact ho
  | oof => trivial

theorem condK_good {h : Host W} {A B : State W → SOut W} (hA : ∀ s, StOK F okW s → GoodS F okW (A s))
    (hB : ∀ s, StOK F okW s → GoodS F okW (B s)) {o : Out W} (ho : GoodOut F okW o) : GoodS F okW (condK h A B o) := by
  cases o with
  | ok v s =>
    simp only [condK]
    split
    · exact hA s ho.2
    · exact hB s ho.2
  | err e s => exact ho
  | oof => trivial

theorem seqK_good {G : Option Env → State W → SOut W} (hG : ∀ l s, LocOK F l → StOK F okW s → GoodS F okW (G l s)) {o : SOut W}
    (ho : GoodS F okW o) : GoodS F okW (seqK G o) := by
  cases o <;> first | exact hG _ _ ho.1 ho.2 | exact ho

theorem loopK_good {G : Option Env → State W → SOut W} (hG : ∀ l s, LocOK F l → StOK F okW s → GoodS F okW (G l s)) {o : SOut W}
    (ho : GoodS F okW o) : GoodS F okW (loopK G o) := by
  cases o <;> first | exact hG _ _ ho.1 ho.2 | exact ho

theorem bodyK_good {o : SOut W} (ho : GoodS F okW o) : GoodOut F okW (bodyK o) := by
  cases o with
  | norm l s | brk l s | cont l s => exact ⟨rfl, ho.2⟩
  | ret v s | err e s => exact ho
  | oof => trivial

theorem goodS_touches : {o : SOut W} → GoodS F okW o → touchesReserved (toResS o) = false
  | .err _ s, h => (touches_err h s).1
  | .norm _ _, _ | .brk _ _, _ | .cont _ _, _ | .ret _ _, _ | .oof, _ => rfl

section
variable {scfg : SConfig W} {h : Host W} (hh : HostClean F okW h) (k : Nat)
  {v : Name} {ix : Option Name} {b : List SStmt} {a n : Value}
  (ihF : ∀ c l st, clean F c = true → LocOK F l → StOK F okW st → GoodS F okW (forS scfg k v ix b a n c l st))
include hh ihF

theorem footerS_good {c : Value} (hc : clean F c = true) {l2 : Option Env} {st2 : State W} (hl : LocOK F l2)
    (hs : StOK F okW st2) : GoodS F okW (footerS h scfg k v ix b a n c l2 st2) := by
  cases ix with
  | none =>
    simp only [footerS]
    split
    · exact ihF _ _ _ (hh.binop _ _ _ _) hl hs
    · exact ⟨hl, hs⟩
  | some xn =>
    have hg := assign_good hl hs xn (hh.binop .add (readVar l2 st2.globals xn) (.num 1) st2.world)
    simp only [footerS]
    split
    · exact ihF _ _ _ hc hg.1 hg.2
    · exact hg

theorem forIterK_good (ihB : ∀ l st, LocOK F l → StOK F okW st → GoodS F okW (execSB scfg k b l st)) {c : Value}
    (hc : clean F c = true) {l : Option Env} (hl : LocOK F l) {o : Out W} (ho : GoodOut F okW o) :
    GoodS F okW (forIterK h scfg k v ix b a n c l o) := by
  cases o with
  | ok x st1 =>
    simp only [forIterK]
    have hg := assign_good hl ho.2 v ho.1
    exact loopK_good (fun l2 st2 hl2 hs2 => footerS_good hh k ihF hc hl2 hs2) (ihB _ _ hg.1 hg.2)
  | err e s => exact ho
  | oof => trivial

end

theorem forLenK_good {scfg : SConfig W} {h : Host W} (k : Nat) {v : Name} {ix : Option Name} {b : List SStmt} {a : Value}
    (ihF : ∀ n c l st, clean F n = true → clean F c = true → LocOK F l → StOK F okW st →
      GoodS F okW (forS scfg k v ix b a n c l st))
    {l : Option Env} (hl : LocOK F l) {o : Out W} (ho : GoodOut F okW o) :
    GoodS F okW (forLenK h scfg k v ix b a l o) := by
  cases o with
  | ok n' st2 =>
    simp only [forLenK]
    have hg := assignO_good hl ho.2 ix (v := .num 0) rfl
    split
    · exact ihF _ _ _ _ ho.1 rfl hg.1 hg.2
    · exact ⟨hl, ho.2⟩
  | err e s => exact ho
  | oof => trivial

/-- **the pure source-level reading keeps the value-flow invariant**, for every structured program that reads no forbidden
identifier — no other hypothesis on the program (no `ProgOK`): calls, statements, blocks, else-chains and the iterations of
`for`, for every fuel -/
theorem pure_good {scfg : SConfig W} {inc : Bool} (hh : HostClean F okW scfg.host)
    (htc : ∀ id d, scfg.sfuns id = some d → nmB F inc d.body = true) : ∀ k : Nat,
    GoodCall F okW (callS scfg k) ∧
    (∀ x l st, nmS F inc x = true → LocOK F l → StOK F okW st → GoodS F okW (execSS scfg k x l st)) ∧
    (∀ B l st, nmB F inc B = true → LocOK F l → StOK F okW st → GoodS F okW (execSB scfg k B l st)) ∧
    (∀ e l st, nmEl F inc e = true → LocOK F l → StOK F okW st → GoodS F okW (execSE scfg k e l st)) ∧
    (∀ v ix b a n c l st, fbName F fnArrayGet = false → nmNO F ix = true → nmB F inc b = true → clean F a = true →
      clean F n = true → clean F c = true → LocOK F l → StOK F okW st → GoodS F okW (forS scfg k v ix b a n c l st)) := by
  have hh' : HostClean F okW (cfgOf scfg).host := hh
  intro k
  induction k with
  | zero =>
    refine ⟨fun f args st _ _ _ => ?_, fun x l st _ _ _ => ?_, fun B l st _ _ _ => ?_, fun e l st _ _ _ => ?_,
      fun v ix b a n c l st _ _ _ _ _ _ _ _ => ?_⟩
    · rw [callS]; trivial
    · rw [execSS]; trivial
    · rw [execSB]; trivial
    · rw [execSE]; trivial
    · rw [forS]; trivial
  | succ k ih =>
    obtain ⟨ihc, ihS, ihB, ihE, ihF⟩ := ih
    have hev : ∀ l e st, nmE F e = true → LocOK F l → StOK F okW st →
        GoodOut F okW (evalExpr (cfgOf scfg) (callS scfg k) l e st) :=
      fun l e st he hl hs => evalExpr_good hh' ihc hl e st he hs
    have hcond : ∀ cnd t e l st, nmE F cnd = true → nmB F inc t = true → nmEl F inc e = true → LocOK F l → StOK F okW st →
        GoodS F okW (condK (cfgOf scfg).host (fun s => execSB scfg k t l s) (fun s => execSE scfg k e l s)
          (evalExpr (cfgOf scfg) (callS scfg k) l cnd st)) :=
      fun cnd t e l st hc ht he hl hs =>
        condK_good (fun s hs' => ihB t l s ht hl hs') (fun s hs' => ihE e l s he hl hs') (hev l cnd st hc hl hs)
    refine ⟨fun f args st hf ha hst => ?_, fun x l st hx hl hst => ?_, fun B l st hB hl hst => ?_, fun e l st he hl hst => ?_,
      fun v ix b a n c l st hag hix hb ha hn hc hl hst => ?_⟩
    · cases f with
      | fn fn =>
        cases fn with
        | script id =>
          cases hd : scfg.sfuns id with
          | none =>
            rw [callS_script_none scfg k id args st hd]
            exact ⟨rfl, hst.1, hh.notCallable _ _ hst.2⟩
          | some d =>
            rw [callS_script (agree_cfgOf scfg) k id args st d hd]
            have hb := bindArgs_good hh' d.lastArgArray d.args args [] st.world ha (envOK_nil F) hst.2
            exact bodyK_good (ihB _ _ _ (htc id d hd) hb.1 ⟨hst.1, hb.2⟩)
        | lib name =>
          rw [callS]
          have hn : F.contains name = false := by simpa [clean, fbFn] using hf
          exact runTree_good (c := scfg.toConfig) hh ihc (hh.lib name args st.world hst.2 hn ha) st hst.1
        | other j =>
          rw [callS]
          exact runTree_good (c := scfg.toConfig) hh ihc (hh.other j args st.world hst.2 ha) st hst.1
      | _ =>
        rw [callS_nonfn scfg k _ args st (by intro fn h; cases h)]
        exact ⟨rfl, hst.1, hh.notCallable _ _ hst.2⟩
    · cases x with
      | expr n e =>
        simp only [nmS] at hx
        rw [execSS_expr (agree_cfgOf scfg)]; exact exprK_good (hev l e st hx hl hst) n hl
      | ret e =>
        cases e with
        | none => rw [execSS]; exact ⟨rfl, hst⟩
        | some e =>
          simp only [nmS, nmEO] at hx
          rw [execSS_ret (agree_cfgOf scfg)]; exact retK_good (hev l e st hx hl hst)
      | label _ | jump _ _ | «include» _ => rw [execSS]; intro h; cases h
      | brk | cont => rw [execSS]; exact ⟨hl, hst⟩
      | func fid n args laa isAsync body => rw [execSS]; exact ⟨hl, envOK_set F hst.1 n rfl, hst.2⟩
      | ite cnd t e =>
        simp only [nmS, Bool.and_eq_true] at hx
        rw [execSS_ite (agree_cfgOf scfg)]
        exact hcond cnd t e l st hx.1.1 hx.1.2 hx.2 hl hst
      | «while» cnd b =>
        simp only [nmS, Bool.and_eq_true] at hx
        have hx' : nmS F inc (.while cnd b) = true := by simp only [nmS, Bool.and_eq_true]; exact hx
        rw [execSS_while (agree_cfgOf scfg)]
        exact condK_good (fun s' hs' => loopK_good (fun l1 s1 hl1 hs1 => ihS _ l1 s1 hx' hl1 hs1) (ihB b l s' hx.2 hl hs'))
          (B := fun s' => .norm l s') (fun s' hs' => ⟨hl, hs'⟩) (hev l cnd st hx.1 hl hst)
      | «for» v ix vals b =>
        simp only [nmS, Bool.and_eq_true, Bool.not_eq_true'] at hx
        obtain ⟨⟨⟨⟨h1, h2⟩, h3⟩, h4⟩, h5⟩ := hx
        rw [execSS_for (agree_cfgOf scfg)]
        have hv := hev l vals st h4 hl hst
        generalize evalExpr (cfgOf scfg) (callS scfg k) l vals st = o at hv ⊢
        cases o with
        | ok a st1 =>
          simp only [forValsK]
          refine forLenK_good k (fun n c l' st' hn hc hl' hs' => ihF v ix b a n c l' st' h2 h3 h5 hv.1 hn hc hl' hs') hl ?_
          exact callLooked_good hh' ihc hl h1 (cleanL_cons F hv.1 (cleanL_nil F)) hv.2
        | err e s' => exact hv
        | oof => trivial
    · cases B with
      | nil => rw [execSB]; exact ⟨hl, hst⟩
      | cons x xs =>
        simp only [nmB, Bool.and_eq_true] at hB
        rw [execSB_cons]
        exact seqK_good (fun l1 s1 hl1 hs1 => ihB xs l1 s1 hB.2 hl1 hs1) (ihS x l st hB.1 hl hst)
    · cases e with
      | none => rw [execSE]; exact ⟨hl, hst⟩
      | els b => simp only [nmEl] at he; rw [execSE]; exact ihB b l st he hl hst
      | elif cnd t e =>
        simp only [nmEl, Bool.and_eq_true] at he
        rw [execSE_elif (agree_cfgOf scfg)]
        exact hcond cnd t e l st he.1.1 he.1.2 he.2 hl hst
    · rw [forS_succ (agree_cfgOf scfg)]
      refine forIterK_good hh' k (fun c' l' st' hc' hl' hs' => ihF v ix b a n c' l' st' hag hix hb ha hn hc' hl' hs')
        (fun l' st' hl' hs' => ihB b l' st' hb hl' hs') hc hl ?_
      exact callLooked_good hh' ihc hl hag
        (cleanL_cons F ha (cleanL_cons F (idxS_clean hix hc hl hst.1) (cleanL_nil F))) hst

end Pure

section Hosts
open HostImpl HostLib
open HostShape (View Shape)
variable (F : List String)

def cellVals : Cell → List Value
  | .arr xs => xs
  | .obj kvs => kvs.map (·.2)

def HeapOK (heap : List Cell) : Prop := ∀ c ∈ heap, CleanL F (cellVals c)

def PartialsOK (ps : List (Value × List Value)) : Prop := ∀ p ∈ ps, clean F p.1 = true ∧ CleanL F p.2

/-- world invariant of `HostImpl`: no heap cell and no entry of the partial-application table holds a forbidden function
value -/
def WorldOK (w : World) : Prop := HeapOK F w.heap ∧ PartialsOK F w.partials

instance (heap : List Cell) : Decidable (HeapOK F heap) := by unfold HeapOK; infer_instance
instance (ps : List (Value × List Value)) : Decidable (PartialsOK F ps) := by unfold PartialsOK; infer_instance
instance (w : World) : Decidable (WorldOK F w) := by unfold WorldOK; infer_instance

def LHeapOK (h : Lib.Heap) : Prop := C09.LibParam.HeapQ (fun v => clean F (ofLib v) = true) h

def LWorldOK (w : LWorld) : Prop := LHeapOK F w.heap ∧ PartialsOK F w.partials

/-- decidable form of `LHeapOK` -/
def lheapOKB (h : Lib.Heap) : Bool :=
  h.all fun c => match c with
    | .arr xs => xs.all fun v => clean F (ofLib v)
    | .obj kvs => kvs.all fun kv => clean F (ofLib kv.2)

/-- `WorldOK` is this at `C09.implView`, `LWorldOK` at `HostLib.libView` -/
def ViewOK {W : Type} (V : View W) (w : W) : Prop := V.heapAll (clean F · = true) w ∧ PartialsOK F (V.partials w)

variable {F}

theorem worldOK_empty : WorldOK F {} := by
  constructor <;> (intro _ h; cases h)

theorem lheapOKB_sound {h : Lib.Heap} (hb : lheapOKB F h = true) : LHeapOK F h := by
  intro c hc
  have := List.all_eq_true.1 hb c hc
  cases c with
  | arr xs => exact fun x hx => List.all_eq_true.1 this x hx
  | obj kvs => exact fun kv hkv => List.all_eq_true.1 this kv hkv

theorem clean_nonfn {v : Value} (h : ∀ f, v ≠ .fn f) : clean F v = true := by
  cases v <;> first | rfl | exact absurd rfl (h _)

variable {W : Type} {V : View W}
variable (hG : F.contains "systemGlobalGet" = true) (hS : F.contains "systemGlobalSet" = true)
include hG hS

/-- a shape of a call of a function that is not forbidden, with clean arguments, from a world that was `ViewOK` at the
start and is now: the forbidden names exclude the two shapes that reach the globals -/
theorem _root_.HostShape.Shape.treeC {fn : FnVal} {args : List Value} {w0 w : W} {t : LibTree W}
    (h : Shape V fn args w0 w t) (hfn : ∀ name, fn = .lib name → F.contains name = false) (ha : CleanL F args)
    (h0 : V.heapAll (clean F · = true) w0) : ViewOK F V w → TreeC F (ViewOK F V) t := by
  have hQ : C09.Given (clean F · = true) args := ⟨fun v h => clean_nonfn h, ha⟩
  induction h with
  | ret hp _ hq hrt => exact fun hw => .ret _ _ ⟨(hq _ hQ h0 hw.1).1, hp ▸ hw.2⟩ (hq _ hQ h0 hw.1).2 (hrt _)
  | newPartial _ ha' hp _ hh =>
    subst ha'
    refine fun hw => .ret _ _ ⟨hh _ hw.1, hp ▸ fun p hp' => ?_⟩ (fun _ h => by cases h; rfl) nofun
    rcases List.mem_append.1 hp' with h | h
    · exact hw.2 p h
    · rw [List.mem_singleton.1 h]; exact ⟨ha _ List.mem_cons_self, fun y hy => ha y (List.mem_cons_of_mem _ hy)⟩
  | each _ _ hq _ ih =>
    exact fun hw => .call _ _ _ _ hw (hq _ hQ h0).1 (cleanL_cons F (hq _ hQ h0).2 (cleanL_nil F)) fun v w1 _ hw1 => ih v w1 hw1
  | apply _ hk =>
    intro hw
    have hp := hw.2 _ (List.mem_of_getElem? hk)
    exact .call _ _ _ _ hw hp.1 (cleanL_append F hp.2 ha) fun v w1 hv hw1 =>
      .ret _ _ hw1 (fun _ h => by cases h; exact hv) nofun
  | globalGet _ hn => rw [hfn _ hn] at hG; cases hG
  | globalSet _ hn => rw [hfn _ hn] at hS; cases hS

/-- a host whose trees are shapes is `HostClean` for every list of forbidden names that contains `systemGlobalGet` and
`systemGlobalSet` -/
theorem hostClean {host : Host W} (hs : HostShape V host) : HostClean F (ViewOK F V) host where
  binop := fun op a b w => clean_nonfn (hs.binop op a b w)
  neg := fun v => clean_nonfn (hs.neg v)
  notCallable := fun v w hw => (hs.notCallable v w).symm ▸ hw
  logFailure := fun w hw => (hs.logFailure w).symm ▸ hw
  newArray := fun xs w hw hx => by
    obtain ⟨⟨r, hr⟩, hp, _, hh⟩ := hs.newArray xs w
    exact ⟨hr ▸ rfl, hh _ hw.1 hx, hp ▸ hw.2⟩
  builtin := fun n f h => by rw [hs.builtin] at h; cases h
  lib := fun name args w hw hn ha => (hs.lib name args w).treeC hG hS (fun _ h => FnVal.lib.inj h ▸ hn) ha hw.1 hw
  other := fun k args w hw ha => (hs.other k args w).treeC hG hS nofun ha hw.1 hw

theorem hostImpl_clean : HostClean F (WorldOK F) HostImpl.host := hostClean hG hS C09.implShape

theorem hostLib_clean : HostClean F (LWorldOK F) HostLib.hostLib := hostClean hG hS HostLib.libShape

end Hosts

end C01Syn
