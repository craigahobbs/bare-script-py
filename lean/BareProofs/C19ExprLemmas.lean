import BareModel.DataExpr
import BareProofs.C19
import BareProofs.C09
import BareProofs.C04
import BareProofs.C18SemLemmas
import BareProofs.C02PrintLemmas

/-!
Helper lemmas for `BareProofs/C19Expr.lean` (C19 extension: the data functions evaluate expression TEXT): the mirror loops of
`BareModel/DataExpr.lean` are the fold of the machine over the rows; buckets of annotated rows; rows as locals; the counter.
-/

namespace C19Expr
open Machine DataExpr

variable {W : Type}

/-- `row[field] = value` on the rows that were evaluated (a prefix), the others unchanged -/
def setRows (field : String) : VTable → List (Value × W) → VTable
  | r :: rs, v :: vs => rowSet field v.1 r :: setRows field rs vs
  | rs, [] => rs
  | [], _ :: _ => []

/-- one left row of the relational join against the bucket dict -/
def joinOneB (names : List (String × String)) (buckets : List (Data.Key × List VRow)) (isLeftJoin : Bool) (l : VRow × Data.Key) : VTable :=
  match Data.bucketLookup l.2 buckets with
  | some rs => rs.map (joinRow names l.1)
  | none => if !isLeftJoin then [l.1] else []

/-- what the invariants of C09 talk about -/
def _root_.DataExpr.LOut.fin {α : Type} : LOut W α → C09.Fin W
  | .ok _ st => .ok st
  | .err e _ st => .err e st
  | .keyErr st => .ok st
  | .oof => .oof

def _root_.DataExpr.LOut.map {α β : Type} (f : α → β) : LOut W α → LOut W β
  | .ok a st => .ok (f a) st
  | .err e a st => .err e (f a) st
  | .keyErr st => .keyErr st
  | .oof => .oof

theorem LOut.map_map {α β γ : Type} (f : α → β) (g : β → γ) (x : LOut W α) : (x.map f).map g = x.map (fun a => g (f a)) := by
  cases x <;> rfl

theorem LOut.fin_map {α β : Type} (f : α → β) (x : LOut W α) : (x.map f).fin = x.fin := by
  cases x <;> rfl

theorem runRows_cons (ev : VRow → State W → Out W) (row : VRow) (rest : VTable) (st : State W) :
    runRows ev (row :: rest) st =
      match ev row st with
      | .ok v st1 => (runRows ev rest st1).map ((v, st1.world) :: ·)
      | .err e st1 => .err e [] st1
      | .oof => .oof := by
  rw [runRows]
  cases ev row st with
  | ok v st1 =>
    dsimp only
    cases runRows ev rest st1 <;> rfl
  | _ => rfl

theorem runKeys_cons (ev : VRow → State W → Out W) (key : W → Value → Option Data.Key) (row : VRow) (rest : VTable) (st : State W) :
    runKeys ev key (row :: rest) st =
      match ev row st with
      | .ok v st1 =>
        match key st1.world v with
        | none => .keyErr st1
        | some k => (runKeys ev key rest st1).map (k :: ·)
      | .err e st1 => .err e [] st1
      | .oof => .oof := by
  rw [runKeys]
  cases ev row st with
  | ok v st1 =>
    dsimp only
    cases key st1.world v with
    | none => rfl
    | some k =>
      dsimp only
      cases runKeys ev key rest st1 <;> rfl
  | _ => rfl

theorem keepRows_cons (truthy : Value → W → Bool) (row : VRow) (rest : VTable) (p : Value × W) (vs : List (Value × W)) :
    keepRows truthy (row :: rest) (p :: vs) = (if truthy p.1 p.2 then [row] else []) ++ keepRows truthy rest vs := by
  by_cases h : truthy p.1 p.2 = true <;> simp [keepRows, List.zip_cons_cons, h]

theorem filterLoop_spec (ev : VRow → State W → Out W) (truthy : Value → W → Bool) : ∀ (rows acc : VTable) (st : State W),
    filterLoop ev truthy rows acc st = (runRows ev rows st).map fun vs => acc ++ keepRows truthy rows vs
  | [], acc, st => by simp [filterLoop, runRows, keepRows, LOut.map]
  | row :: rest, acc, st => by
    rw [filterLoop, runRows_cons]
    cases ev row st with
    | ok v st1 =>
      simp only [filterLoop_spec ev truthy rest, LOut.map_map, keepRows_cons]
      by_cases ht : truthy v st1.world = true <;> simp [ht]
    | err e st1 => simp [keepRows, LOut.map]
    | oof => rfl

theorem calcLoop_spec (ev : VRow → State W → Out W) (field : String) : ∀ (rows : VTable) (st : State W),
    calcLoop ev field rows st = (runRows ev rows st).map (setRows field rows)
  | [], st => rfl
  | row :: rest, st => by
    rw [calcLoop, runRows_cons]
    cases ev row st with
    | ok v st1 =>
      simp only [calcLoop_spec ev field rest, LOut.map_map]
      cases runRows ev rest st1 <;> rfl
    | err e st1 => rfl
    | oof => rfl

theorem bucketLoop_spec (ev : VRow → State W → Out W) (key : W → Value → Option Data.Key) :
    ∀ (rows : VTable) (acc : List (Data.Key × List VRow)) (st : State W),
    bucketLoop ev key rows acc st =
      (runKeys ev key rows st).map fun ks => (rows.zip ks).foldl (fun bs p => Data.bucketAdd p.2 p.1 bs) acc
  | [], acc, st => rfl
  | row :: rest, acc, st => by
    rw [bucketLoop, runKeys_cons]
    cases ev row st with
    | ok v st1 =>
      dsimp only
      cases key st1.world v with
      | none => rfl
      | some k =>
        dsimp only
        rw [bucketLoop_spec ev key rest, LOut.map_map]
        rfl
    | err e st1 => rfl
    | oof => rfl

theorem joinLoop_spec (ev : VRow → State W → Out W) (key : W → Value → Option Data.Key) (names : List (String × String))
    (buckets : List (Data.Key × List VRow)) (flag : Bool) : ∀ (rows acc : VTable) (st : State W),
    joinLoop ev key names buckets flag rows acc st =
      (runKeys ev key rows st).map fun ks => acc ++ (rows.zip ks).flatMap (joinOneB names buckets flag)
  | [], acc, st => by simp [joinLoop, runKeys, LOut.map]
  | row :: rest, acc, st => by
    rw [joinLoop, runKeys_cons]
    cases ev row st with
    | ok v st1 =>
      dsimp only
      cases key st1.world v with
      | none => rfl
      | some k =>
        simp only [LOut.map_map, List.zip_cons_cons, List.flatMap_cons, joinOneB]
        cases Data.bucketLookup k buckets
        · simp only [joinLoop_spec ev key names buckets flag rest]
          cases flag <;> simp
        · simp only [joinLoop_spec ev key names buckets flag rest, List.append_assoc]
    | err e st1 => simp [LOut.map]
    | oof => rfl

/-- the list a loop has built has one entry per row when the loop ended normally, fewer when an error left it -/
def LenOk {γ : Type} (n : Nat) : LOut W (List γ) → Prop
  | .ok xs _ => xs.length = n
  | .err _ xs _ => xs.length < n
  | _ => True

theorem LenOk.map_cons {γ : Type} (c : γ) {n : Nat} {x : LOut W (List γ)} (h : LenOk n x) : LenOk (n + 1) (x.map (c :: ·)) := by
  cases x <;> simp_all [LenOk, LOut.map]

theorem runRows_lenOk (ev : VRow → State W → Out W) : ∀ (rows : VTable) (st : State W), LenOk rows.length (runRows ev rows st)
  | [], st => rfl
  | row :: rest, st => by
    rw [runRows_cons]
    cases ev row st with
    | ok v st1 => exact (runRows_lenOk ev rest st1).map_cons _
    | err e st1 => exact Nat.zero_lt_succ _
    | oof => trivial

theorem runKeys_lenOk (ev : VRow → State W → Out W) (key : W → Value → Option Data.Key) :
    ∀ (rows : VTable) (st : State W), LenOk rows.length (runKeys ev key rows st)
  | [], st => rfl
  | row :: rest, st => by
    rw [runKeys_cons]
    cases ev row st with
    | ok v st1 =>
      dsimp only
      cases key st1.world v with
      | none => trivial
      | some k => exact (runKeys_lenOk ev key rest st1).map_cons _
    | err e st1 => exact Nat.zero_lt_succ _
    | oof => trivial

theorem runKeys_length (ev : VRow → State W → Out W) (key : W → Value → Option Data.Key) : ∀ (rows : VTable) (st : State W),
    match runKeys ev key rows st with
    | .ok ks _ => ks.length = rows.length
    | .err _ ks _ => ks.length < rows.length
    | _ => True := fun rows st => by
  have h := runKeys_lenOk ev key rows st
  cases hr : runKeys ev key rows st <;> rw [hr] at h <;> exact h

theorem keepRows_sublist (truthy : Value → W → Bool) : ∀ (rows : VTable) (vs : List (Value × W)), (keepRows truthy rows vs).Sublist rows
  | [], vs => by simp [keepRows]
  | r :: rows, [] => by simp [keepRows]
  | r :: rows, v :: vs => by
    have ih := keepRows_sublist truthy rows vs
    simp only [keepRows, List.zip_cons_cons, List.filter_cons] at ih ⊢
    split
    · simpa using ih.cons_cons r
    · exact ih.cons r

/-- `right_category_rows.get(key)` after the right loop: the right rows of that key in order, if there is one -/
theorem bucketLookup_fold (pairs : List (VRow × Data.Key)) (k : Data.Key) :
    Data.bucketLookup k (pairs.foldl (fun bs p => Data.bucketAdd p.2 p.1 bs) []) =
      if (pairs.filter fun p => p.2 = k).isEmpty then none else some ((pairs.filter fun p => p.2 = k).map (·.1)) := by
  rw [C19.foldl_bucketAdd_groupSpec (α := VRow × Data.Key) (fun p => p.2) (fun p => p.1) pairs,
    C19.bucketLookup_mapval (fun xs : List (VRow × Data.Key) => xs.map (·.1)), C19.bucketLookup_groupSpec]
  split <;> rfl

theorem joinOneB_fold (names : List (String × String)) (flag : Bool) (pairs : List (VRow × Data.Key)) (l : VRow × Data.Key) :
    joinOneB names (pairs.foldl (fun bs p => Data.bucketAdd p.2 p.1 bs) []) flag l =
      (let partners := (pairs.filter (fun r => r.2 = l.2)).map (·.1)
       if partners.isEmpty then (if !flag then [l.1] else []) else partners.map (joinRow names l.1)) := by
  simp only [joinOneB, bucketLookup_fold, List.isEmpty_map]
  by_cases he : (pairs.filter fun r => decide (r.2 = l.2)).isEmpty = true <;> simp only [he, if_true, Bool.false_eq_true, if_false]

theorem ofString_injective {a b : String} (h : Name.ofString a = Name.ofString b) : a = b := by
  have := congrArg Name.render h
  simpa [C02.render_ofString] using this

theorem rowEnv_get? (k : String) (row : VRow) : (rowEnv row).get? (Name.ofString k) = rowGet? k row := by
  have : ((fun p : Name × Value => p.1 == Name.ofString k) ∘ fun p : String × Value => (Name.ofString p.1, p.2)) = (·.1 == k) :=
    funext fun p => Bool.eq_iff_iff.mpr (by simpa using ⟨ofString_injective, congrArg _⟩)
  simp only [rowEnv, Env.get?, rowGet?, List.find?_map, this, Option.map_map]
  rfl

theorem mergeVars_eq (g : Env) (vars : VRow) : mergeVars g vars = C04.setAll g (rowEnv vars) := by
  simp only [mergeVars, C04.setAll, rowEnv, List.foldl_map]

theorem mergeVars_get? (n : Name) (vars : VRow) (g : Env) :
    (mergeVars g vars).get? n = ((rowEnv vars).reverse.find? (·.1 == n)).elim (g.get? n) (fun p => some p.2) := by
  rw [mergeVars_eq]
  cases hf : (rowEnv vars).reverse.find? (·.1 == n) with
  | none =>
    refine C04.setAll_get?_notin _ _ _ fun hm => ?_
    obtain ⟨p, hp, rfl⟩ := List.mem_map.mp hm
    exact List.find?_eq_none.mp hf p (List.mem_reverse.mpr hp) (beq_self_eq_true _)
  | some p =>
    -- `p` is the last entry of that name: the entries after it have other names
    obtain ⟨hp, as, bs, hs, hall⟩ := List.find?_eq_some_iff_append.mp hf
    obtain rfl : p.1 = n := beq_iff_eq.mp hp
    rw [List.reverse_eq_iff.mp hs, List.reverse_append, List.reverse_cons, List.append_assoc]
    refine C04.setAll_get?_last _ _ _ _ _ fun hm => ?_
    obtain ⟨q, hq, e⟩ := List.mem_map.mp hm
    simpa [e] using hall q (List.mem_reverse.mp hq)

theorem callGood (cfg : Config W) (fuel : Nat) : C09.CallGood (C09.Ext.triv W) cfg.maxStatements (callValue cfg fuel) := by
  rw [C08.callValue_eq]
  exact (C09.goodM (C09.Ext.triv W) cfg (C09.hostExt_triv _) fuel).1

theorem evalRow_good (C : Ctx W) (e : Expr) (row : VRow) (st : State W) :
    C09.Good (C09.Ext.triv W) C.cfg.maxStatements st (evalRow C e row st).fin :=
  C09.evalExpr_good (C09.Ext.triv W) C.cfg.maxStatements _ _ (callGood C.cfg C.fuel) _ e st

section Loops
variable (L : Nat) (ev : VRow → State W → Out W) (hev : ∀ row st, C09.Good (C09.Ext.triv W) L st (ev row st).fin)
include hev

theorem runRows_good : ∀ (rows : VTable) (st : State W), C09.Good (C09.Ext.triv W) L st (runRows ev rows st).fin
  | [], st => C09.Good.refl ..
  | row :: rest, st => by
    rw [runRows_cons]
    have h1 := hev row st
    cases h : ev row st with
    | ok v st1 =>
      rw [h] at h1
      dsimp only
      rw [LOut.fin_map]
      exact h1.trans (runRows_good rest st1)
    | err e st1 => rw [h] at h1; exact h1
    | oof => trivial

theorem runKeys_good (key : W → Value → Option Data.Key) : ∀ (rows : VTable) (st : State W),
    C09.Good (C09.Ext.triv W) L st (runKeys ev key rows st).fin
  | [], st => C09.Good.refl ..
  | row :: rest, st => by
    rw [runKeys_cons]
    have h1 := hev row st
    cases h : ev row st with
    | ok v st1 =>
      rw [h] at h1
      dsimp only
      cases key st1.world v with
      | none => exact h1
      | some k =>
        dsimp only
        rw [LOut.fin_map]
        exact h1.trans (runKeys_good key rest st1)
    | err e st1 => rw [h] at h1; exact h1
    | oof => trivial

end Loops

/-- the value of a call-free expression on a row (any total reading of `evalRow`; equal to it by `evalRow_pure`) -/
def pureVal (C : Ctx W) (e : Expr) (row : VRow) (st : State W) : Value :=
  match evalRow C e row st with
  | .ok v _ => v
  | _ => .null

theorem evalRow_pure (C : Ctx W) (e : Expr) (h : Lint.isPointless e = true) (row : VRow) (st : State W) :
    evalRow C e row st = .ok (pureVal C e row st) st := by
  obtain ⟨v, hv⟩ := C18.evalExpr_pointless { C.cfg with builtins := true } (callValue C.cfg C.fuel) (some (rowEnv row)) e st h
  simp only [pureVal, evalRow, hv]

theorem runRows_pure (ev : VRow → State W → Out W) (val : VRow → Value) (st : State W) (h : ∀ row, ev row st = .ok (val row) st) :
    ∀ rows : VTable, runRows ev rows st = .ok (rows.map fun r => (val r, st.world)) st
  | [] => rfl
  | row :: rest => by simp [runRows, h row, runRows_pure ev val st h rest]

theorem runKeys_pure (ev : VRow → State W → Out W) (key : W → Value → Option Data.Key) (val : VRow → Value) (kf : VRow → Data.Key) (st : State W)
    (h : ∀ row, ev row st = .ok (val row) st) :
    ∀ rows : VTable, (∀ r ∈ rows, key st.world (val r) = some (kf r)) → runKeys ev key rows st = .ok (rows.map kf) st
  | [], _ => rfl
  | row :: rest, hk => by
    simp [runKeys, h row, hk row List.mem_cons_self, runKeys_pure ev key val kf st h rest (fun r hr => hk r (List.mem_cons_of_mem _ hr))]

theorem keepRows_map (truthy : Value → W → Bool) (f : VRow → Value × W) : ∀ rows : VTable,
    keepRows truthy rows (rows.map f) = rows.filter (fun r => truthy (f r).1 (f r).2)
  | [] => rfl
  | r :: rows => by
    have ih := keepRows_map truthy f rows
    simp only [keepRows, List.map_cons, List.zip_cons_cons, List.filter_cons] at ih ⊢
    split <;> simp [ih]

theorem setRows_map (field : String) (f : VRow → Value × W) : ∀ rows : VTable,
    setRows field rows (rows.map f) = rows.map (fun r => rowSet field (f r).1 r)
  | [] => rfl
  | r :: rows => by simp [setRows, setRows_map field f rows]

theorem leave_enter (vars : Option VRow) (st : State W) : leave vars st (enter vars st) = st := by
  cases vars <;> rfl

end C19Expr
