import BareModel.Compare

/-!
# C11 — the order laws of `valueCompare`, and the stable sort by a total preorder

Every loop of `value_compare` is lexicographic: a comparison decides unless it says "equal" (`thenCmp`).  The composition
laws `T3` are closed under that step, so they pass from the elements to the lexicographic comparison of lists (`IsLex.laws`)
and, by recursion on the left operand, to all values (`laws`); values of different types are ordered by `rank`.
-/

namespace C11
open Compare

/-- the three composition laws used for lexicographic induction (strict/weak, weak/strict, equal/equal) -/
def T3 (ab bd ad : Int) : Prop :=
  (ab < 0 → bd ≤ 0 → ad < 0) ∧ (ab ≤ 0 → bd < 0 → ad < 0) ∧ (ab = 0 → bd = 0 → ad = 0)

/-- all laws for one left operand `a`, against arbitrary right operands -/
structure Laws {α : Type} (c : α → α → Int) (a : α) : Prop where
  range : ∀ b, -1 ≤ c a b ∧ c a b ≤ 1
  refl : c a a = 0
  antisymm : ∀ b, c a b = - c b a
  t3 : ∀ b d, T3 (c a b) (c b d) (c a d)

theorem T3.trans {ab bd ad : Int} (h : T3 ab bd ad) (h1 : ab ≤ 0) (h2 : bd ≤ 0) : ad ≤ 0 := by
  obtain ⟨t1, t2, t3⟩ := h
  omega

/-- the first comparison decides unless it says "equal" -/
abbrev thenCmp (c r : Int) : Int := if c != 0 then c else r

theorem thenCmp_zero (r : Int) : thenCmp 0 r = r := rfl

theorem thenCmp_of_ne {c : Int} (h : c ≠ 0) (r : Int) : thenCmp c r = c := by
  simp only [thenCmp, bne_iff_ne, ne_eq, h, not_false_eq_true, if_true]

theorem thenCmp_lt {c r : Int} : thenCmp c r < 0 ↔ c < 0 ∨ (c = 0 ∧ r < 0) := by
  by_cases h : c = 0
  · rw [h, thenCmp_zero]; omega
  · rw [thenCmp_of_ne h]; omega

theorem thenCmp_le {c r : Int} : thenCmp c r ≤ 0 ↔ c < 0 ∨ (c = 0 ∧ r ≤ 0) := by
  by_cases h : c = 0
  · rw [h, thenCmp_zero]; omega
  · rw [thenCmp_of_ne h]; omega

theorem thenCmp_eq {c r : Int} : thenCmp c r = 0 ↔ c = 0 ∧ r = 0 := by
  by_cases h : c = 0
  · rw [h, thenCmp_zero]; omega
  · rw [thenCmp_of_ne h]; omega

theorem thenCmp_assoc (a b r : Int) : thenCmp (thenCmp a b) r = thenCmp a (thenCmp b r) := by
  by_cases h : a = 0
  · rw [h, thenCmp_zero, thenCmp_zero]
  · rw [thenCmp_of_ne h, thenCmp_of_ne h, thenCmp_of_ne h]

theorem thenCmp_range {c r : Int} (hc : -1 ≤ c ∧ c ≤ 1) (hr : c = 0 → -1 ≤ r ∧ r ≤ 1) :
    -1 ≤ thenCmp c r ∧ thenCmp c r ≤ 1 := by
  by_cases h : c = 0
  · rw [h, thenCmp_zero]; exact hr h
  · rw [thenCmp_of_ne h]; exact hc

theorem thenCmp_antisymm {c c' r r' : Int} (hc : c = - c') (hr : c = 0 → r = - r') : thenCmp c r = - thenCmp c' r' := by
  by_cases h : c = 0
  · rw [h, show c' = 0 by omega, thenCmp_zero, thenCmp_zero]; exact hr h
  · rw [thenCmp_of_ne h, thenCmp_of_ne (by omega), hc]

theorem T3.thenCmp {ab bd ad ab' bd' ad' : Int} (h : T3 ab bd ad) (h' : ab = 0 → bd = 0 → T3 ab' bd' ad') :
    T3 (thenCmp ab ab') (thenCmp bd bd') (thenCmp ad ad') := by
  obtain ⟨h1, h2, h3⟩ := h
  simp only [T3, thenCmp_lt, thenCmp_le, thenCmp_eq]
  refine ⟨?_, ?_, ?_⟩
  · rintro (a | ⟨a, a'⟩) (b | ⟨b, b'⟩)
    · exact .inl (h1 a (Int.le_of_lt b))
    · exact .inl (h1 a (Int.le_of_eq b))
    · exact .inl (h2 (Int.le_of_eq a) b)
    · exact .inr ⟨h3 a b, (h' a b).1 a' b'⟩
  · rintro (a | ⟨a, a'⟩) (b | ⟨b, b'⟩)
    · exact .inl (h1 a (Int.le_of_lt b))
    · exact .inl (h1 a (Int.le_of_eq b))
    · exact .inl (h2 (Int.le_of_eq a) b)
    · exact .inr ⟨h3 a b, (h' a b).2.1 a' b'⟩
  · rintro ⟨a, a'⟩ ⟨b, b'⟩
    exact ⟨h3 a b, (h' a b).2.2 a' b'⟩

namespace Laws
variable {α β : Type} {c : α → α → Int}

theorem zero (a : α) : Laws (fun _ _ : α => (0 : Int)) a :=
  ⟨fun _ => by omega, rfl, fun _ => rfl,
    fun _ _ => ⟨fun h => absurd h (by decide), fun _ h => absurd h (by decide), fun _ _ => rfl⟩⟩

theorem comap (g : β → α) {a : β} (h : Laws c (g a)) : Laws (fun x y => c (g x) (g y)) a :=
  ⟨fun b => h.range (g b), h.refl, fun b => h.antisymm (g b), fun b d => h.t3 (g b) (g d)⟩

theorem thenCmp {c' : β → β → Int} {a : α} {a' : β} (h : Laws c a) (h' : Laws c' a') :
    Laws (fun p q : α × β => thenCmp (c p.1 q.1) (c' p.2 q.2)) (a, a') where
  range b := thenCmp_range (h.range b.1) fun _ => h'.range b.2
  refl := by rw [h.refl, h'.refl]; rfl
  antisymm b := thenCmp_antisymm (h.antisymm b.1) fun _ => h'.antisymm b.2
  t3 b d := (h.t3 b.1 d.1).thenCmp fun _ _ => h'.t3 b.2 d.2

end Laws

structure IsLex {α : Type} (c : α → α → Int) (L : List α → List α → Int) : Prop where
  nil_nil : L [] [] = 0
  nil_cons : ∀ y ys, L [] (y :: ys) = -1
  cons_nil : ∀ x xs, L (x :: xs) [] = 1
  cons_cons : ∀ x xs y ys, L (x :: xs) (y :: ys) = thenCmp (c x y) (L xs ys)

theorem IsLex.laws {α : Type} {c : α → α → Int} {L : List α → List α → Int} (hL : IsLex c L) :
    ∀ xs : List α, (∀ x ∈ xs, Laws c x) → Laws L xs
  | [], _ => by
    refine ⟨fun b => ?_, hL.nil_nil, fun b => ?_, fun b d => ?_⟩
    · cases b <;> simp only [hL.nil_nil, hL.nil_cons] <;> omega
    · cases b <;> simp only [hL.nil_nil, hL.nil_cons, hL.cons_nil] <;> rfl
    · cases b with
      | nil => rw [hL.nil_nil]; unfold T3; omega
      | cons y ys =>
        cases d with
        | nil => rw [hL.nil_cons, hL.cons_nil]; unfold T3; omega
        | cons z zs => rw [hL.nil_cons, hL.nil_cons]; unfold T3; omega
  | x :: xs, h => by
    have hx := h x (List.mem_cons_self ..)
    have ih := hL.laws xs (fun y hy => h y (List.mem_cons_of_mem _ hy))
    refine ⟨fun b => ?_, ?_, fun b => ?_, fun b d => ?_⟩
    · cases b with
      | nil => rw [hL.cons_nil]; omega
      | cons y ys => rw [hL.cons_cons]; exact thenCmp_range (hx.range y) fun _ => ih.range ys
    · rw [hL.cons_cons, hx.refl, ih.refl]; rfl
    · cases b with
      | nil => rw [hL.cons_nil, hL.nil_cons]; rfl
      | cons y ys => rw [hL.cons_cons, hL.cons_cons]; exact thenCmp_antisymm (hx.antisymm y) fun _ => ih.antisymm ys
    · cases b with
      | nil => rw [hL.cons_nil]; unfold T3; omega
      | cons y ys =>
        cases d with
        | nil => rw [hL.cons_nil, hL.cons_nil]; unfold T3; omega
        | cons z zs => rw [hL.cons_cons, hL.cons_cons, hL.cons_cons]; exact (hx.t3 y z).thenCmp fun _ _ => ih.t3 ys zs

theorem IsLex.zero_iff {α γ : Type} {c : α → α → Int} {L : List α → List α → Int} (hL : IsLex c L) (F : α → γ) :
    ∀ xs ys : List α, (∀ x ∈ xs, ∀ y ∈ ys, (F x = F y ↔ c x y = 0)) → (xs.map F = ys.map F ↔ L xs ys = 0)
  | [], [], _ => by simp [hL.nil_nil]
  | [], _ :: _, _ => by simp [hL.nil_cons]
  | _ :: _, [], _ => by simp [hL.cons_nil]
  | x :: xs, y :: ys, H => by
    rw [List.map_cons, List.map_cons, List.cons.injEq, hL.cons_cons, thenCmp_eq, H x List.mem_cons_self y List.mem_cons_self,
      hL.zero_iff F xs ys fun x' hx' y' hy' => H x' (List.mem_cons_of_mem _ hx') y' (List.mem_cons_of_mem _ hy')]

theorem tri_range (l e : Bool) : -1 ≤ tri l e ∧ tri l e ≤ 1 := by
  unfold tri; split <;> (try split) <;> omega

theorem tri_lt {l e : Bool} : tri l e < 0 ↔ l = true := by cases l <;> cases e <;> decide

theorem tri_le {l e : Bool} : tri l e ≤ 0 ↔ l = true ∨ e = true := by cases l <;> cases e <;> decide

theorem tri_eq {l e : Bool} : tri l e = 0 ↔ l = false ∧ e = true := by cases l <;> cases e <;> decide

/-- `-1 if a < b else (0 if a == b else 1)` on a linear order (code points, numbers, normalised datetimes) -/
theorem tri_laws {α : Type} [LT α] [LE α] [Std.IsLinearOrder α] [Std.LawfulOrderLT α] [DecidableEq α] [DecidableLT α]
    (a : α) : Laws (fun a b : α => tri (a < b) (a = b)) a := by
  refine ⟨fun b => tri_range _ _, ?_, fun b => ?_, fun b d => ?_⟩
  · simp [tri, Std.lt_irrefl]
  · rcases Std.lt_trichotomy a b with h | rfl | h
    · simp [tri, h, Std.not_gt_of_lt h, (Std.ne_of_lt h).symm]
    · simp [tri, Std.lt_irrefl]
    · simp [tri, h, Std.not_gt_of_lt h, (Std.ne_of_lt h).symm]
  · simp only [T3, tri_lt, tri_le, tri_eq, decide_eq_true_eq, decide_eq_false_iff_not]
    refine ⟨fun h1 h2 => ?_, fun h1 h2 => ?_, fun h1 h2 => ⟨h1.2 ▸ h2.1, h1.2.trans h2.2⟩⟩
    · rcases h2 with h2 | rfl
      · exact Std.lt_trans h1 h2
      · exact h1
    · rcases h1 with h1 | rfl
      · exact Std.lt_trans h1 h2
      · exact h2

theorem boolTri_laws (a : Bool) : Laws (fun a b : Bool => tri (!a && b) (a == b)) a := by
  refine ⟨fun b => tri_range _ _, ?_, fun b => ?_, fun b d => ?_⟩
  · cases a <;> rfl
  · cases a <;> cases b <;> rfl
  · cases a <;> cases b <;> cases d <;> unfold T3 <;> decide

theorem codeCmp_isLex : IsLex (fun a b : Nat => tri (a < b) (a = b)) codeCmp := by
  refine ⟨rfl, fun _ _ => rfl, fun _ _ => rfl, fun a as b bs => ?_⟩
  simp only [codeCmp, tri, thenCmp, decide_eq_true_eq]
  split
  · rfl
  · split <;> rfl

theorem codeCmp_laws (a : List Nat) : Laws codeCmp a := codeCmp_isLex.laws a fun x _ => tri_laws x

theorem strCompare_laws (a : String) : Laws strCompare a := (codeCmp_laws (codes a)).comap codes

theorem cmpList_isLex : IsLex valueCompare cmpList :=
  ⟨by simp only [cmpList], fun _ _ => by simp only [cmpList], fun _ _ => by simp only [cmpList],
    fun _ _ _ _ => by simp only [cmpList]⟩

abbrev itemCmp (p q : String × PValue) : Int := thenCmp (strCompare p.1 q.1) (valueCompare p.2 q.2)

theorem cmpItems_isLex : IsLex itemCmp cmpItems :=
  ⟨by simp only [cmpItems], fun _ _ => by simp only [cmpItems], fun _ _ => by simp only [cmpItems],
    fun (_, _) _ (_, _) _ => by simp only [cmpItems, thenCmp_assoc]⟩

/-- alphabetical position of the type name, `null` first -/
def rank : PValue → Nat
  | .null => 0 | .arr _ => 1 | .bool _ => 2 | .dt _ => 3 | .fn _ => 4 | .num _ => 5 | .obj _ => 6 | .regex _ => 7 | .str _ => 8

/-- the last branch of `value_compare` -/
theorem cmp_of_typeName_ne {a b : PValue} (ha : a ≠ .null) (hb : b ≠ .null) (h : typeName a ≠ typeName b) :
    valueCompare a b = strCompare (typeName a) (typeName b) :=
  valueCompare.eq_10 a b ha hb (fun e _ => ha e) (fun _ _ e e' => h (e ▸ e' ▸ rfl)) (fun _ _ e e' => h (e ▸ e' ▸ rfl))
    (fun _ _ e e' => h (e ▸ e' ▸ rfl)) (fun _ _ e e' => h (e ▸ e' ▸ rfl)) (fun _ _ e e' => h (e ▸ e' ▸ rfl))
    (fun _ _ e e' => h (e ▸ e' ▸ rfl))

def rankName : Nat → String
  | 0 => "null" | 1 => "array" | 2 => "boolean" | 3 => "datetime" | 4 => "function" | 5 => "number" | 6 => "object"
  | 7 => "regex" | _ => "string"

theorem typeName_eq (a : PValue) : typeName a = rankName (rank a) ∧ rank a ≤ 8 := by
  cases a <;> exact ⟨rfl, Nat.le_of_ble_eq_true rfl⟩

theorem rank_eq_zero {a : PValue} : rank a = 0 ↔ a = .null := by cases a <;> simp [rank]

theorem rankName_lt : ∀ j ≤ 8, ∀ i < j, rankName i ≠ rankName j ∧
    (0 < i → strCompare (rankName i) (rankName j) = -1 ∧ strCompare (rankName j) (rankName i) = 1) := by decide +kernel

theorem rankName_ne {i j : Nat} (hi : i ≤ 8) (hj : j ≤ 8) (h : i ≠ j) : rankName i ≠ rankName j := by
  rcases Nat.lt_or_gt_of_ne h with h | h
  · exact (rankName_lt j hj i h).1
  · exact fun e => (rankName_lt i hi j h).1 e.symm

theorem rank_eq_iff (a b : PValue) : rank a = rank b ↔ typeName a = typeName b := by
  have ⟨na, la⟩ := typeName_eq a
  have ⟨nb, lb⟩ := typeName_eq b
  rw [na, nb]
  exact ⟨congrArg rankName, fun e => Decidable.byContradiction fun h => rankName_ne la lb h e⟩

/-- All three versions of `value_compare` (closed values, heap values of either host) end alike: null before everything, two
non-null values of different types by type name.  So a rank in step with the type names orders values of different rank. -/
theorem rank_decides {V : Type} {cmp : V → V → Option Int} {tn : V → String} {rk : V → Nat} {nul : V}
    (hl : ∀ x, x ≠ nul → cmp nul x = some (-1)) (hr : ∀ x, x ≠ nul → cmp x nul = some 1)
    (hx : ∀ a b, a ≠ nul → b ≠ nul → tn a ≠ tn b → cmp a b = some (strCompare (tn a) (tn b)))
    (hn : ∀ a, tn a = rankName (rk a) ∧ rk a ≤ 8) (h0 : ∀ a, rk a = 0 ↔ a = nul)
    {a b : V} (h : rk a < rk b) : cmp a b = some (-1) ∧ cmp b a = some 1 := by
  have hb : b ≠ nul := fun e => Nat.not_lt_zero _ ((h0 b).mpr e ▸ h)
  by_cases ha : a = nul
  · rw [ha]; exact ⟨hl b hb, hr b hb⟩
  · have hne : tn a ≠ tn b := by
      rw [(hn a).1, (hn b).1]; exact rankName_ne (hn a).2 (hn b).2 (Nat.ne_of_lt h)
    have hlt := (rankName_lt _ (hn b).2 _ h).2 (Nat.pos_of_ne_zero fun e => ha ((h0 a).mp e))
    rw [hx a b ha hb hne, hx b a hb ha hne.symm, (hn a).1, (hn b).1, hlt.1, hlt.2]
    exact ⟨rfl, rfl⟩

theorem cmp_rank {a b : PValue} (h : rank a < rank b) : valueCompare a b = -1 ∧ valueCompare b a = 1 := by
  have := rank_decides (cmp := fun a b => some (valueCompare a b)) (fun x hx => congrArg some (valueCompare.eq_2 x hx))
    (fun x hx => congrArg some (valueCompare.eq_3 x hx)) (fun a b ha hb hn => congrArg some (cmp_of_typeName_ne ha hb hn))
    typeName_eq (fun _ => rank_eq_zero) h
  exact ⟨Option.some.inj this.1, Option.some.inj this.2⟩

theorem cmp_rank_lt (a b : PValue) (h : rank a < rank b) : valueCompare a b = -1 := (cmp_rank h).1

theorem cmp_rank_gt (a b : PValue) (h : rank b < rank a) : valueCompare a b = 1 := (cmp_rank h).2

/-- `value_compare` asks the types first -/
theorem cmp_by_rank (a b : PValue) :
    valueCompare a b = thenCmp (tri (rank a < rank b) (rank a = rank b)) (valueCompare a b) := by
  rcases Nat.lt_trichotomy (rank a) (rank b) with h | h | h
  · rw [cmp_rank_lt a b h]; simp [tri, h]
  · simp [tri, h]
  · rw [cmp_rank_gt a b h]; simp [tri, Nat.lt_asymm h, Nat.ne_of_gt h]

theorem laws_of_ctor {β : Type} (mk : β → PValue) (c : β → β → Int) (x : β)
    (hc : ∀ x y, valueCompare (mk x) (mk y) = c x y) (l : Laws c x)
    (hmk : ∀ b, rank b = rank (mk x) → ∃ y, b = mk y := by intro b h; cases b <;> cases h <;> exact ⟨_, rfl⟩) :
    Laws valueCompare (mk x) := by
  -- by rank first (`cmp_by_rank`), then, among values of the rank of `mk x`, by `c`
  have lr := (tri_laws (rank (mk x))).comap rank
  have same : ∀ {a b : PValue}, tri (rank a < rank b) (rank a = rank b) = 0 → rank b = rank a :=
    fun e => (of_decide_eq_true (tri_eq.mp e).2).symm
  refine ⟨fun b => ?_, (hc x x).trans l.refl, fun b => ?_, fun b d => ?_⟩
  · rw [cmp_by_rank (mk x) b]
    refine thenCmp_range (lr.range b) fun e => ?_
    obtain ⟨y, rfl⟩ := hmk b (same e)
    rw [hc]; exact l.range y
  · rw [cmp_by_rank (mk x) b, cmp_by_rank b (mk x)]
    refine thenCmp_antisymm (lr.antisymm b) fun e => ?_
    obtain ⟨y, rfl⟩ := hmk b (same e)
    rw [hc, hc]; exact l.antisymm y
  · rw [cmp_by_rank (mk x) b, cmp_by_rank b d, cmp_by_rank (mk x) d]
    refine (lr.t3 b d).thenCmp fun e e' => ?_
    obtain ⟨y, rfl⟩ := hmk b (same e)
    obtain ⟨z, rfl⟩ := hmk d ((same e').trans (same e))
    rw [hc, hc, hc]; exact l.t3 y z

-- induction over closed values (`PValue` is a nested inductive)
section
variable {P : PValue → Prop}
  (null : P .null) (bool : ∀ b, P (.bool b)) (num : ∀ q, P (.num q)) (str : ∀ s, P (.str s)) (dt : ∀ t, P (.dt t))
  (fn : ∀ i, P (.fn i)) (regex : ∀ i, P (.regex i))
  (arr : ∀ xs, (∀ x ∈ xs, P x) → P (.arr xs)) (obj : ∀ kvs : List (String × PValue), (∀ p ∈ kvs, P p.2) → P (.obj kvs))
include null bool num str dt fn regex arr obj
set_option linter.unusedSectionVars false

mutual
theorem pvalInd : ∀ v, P v
  | .null => null
  | .bool b => bool b
  | .num q => num q
  | .str s => str s
  | .dt t => dt t
  | .fn i => fn i
  | .regex i => regex i
  | .arr xs => arr xs (pvalIndList xs)
  | .obj kvs => obj kvs (pvalIndItems kvs)
theorem pvalIndList : ∀ xs : List PValue, ∀ x ∈ xs, P x
  | [] => fun _ h => nomatch h
  | y :: ys => List.forall_mem_cons.mpr ⟨pvalInd y, pvalIndList ys⟩
theorem pvalIndItems : ∀ kvs : List (String × PValue), ∀ p ∈ kvs, P p.2
  | [] => fun _ h => nomatch h
  | (_, v) :: kvs => List.forall_mem_cons.mpr ⟨pvalInd v, pvalIndItems kvs⟩
end
end

theorem laws : ∀ a : PValue, Laws valueCompare a := by
  intro a
  induction a using pvalInd with
  | null =>
    exact laws_of_ctor (fun _ : Unit => .null) (fun _ _ => 0) () (fun _ _ => by simp only [valueCompare]) (.zero _)
      (fun _ h => ⟨(), rank_eq_zero.mp h⟩)
  | bool x => exact laws_of_ctor .bool _ x (fun _ _ => by simp only [valueCompare]) (boolTri_laws x)
  | num x => exact laws_of_ctor .num _ x (fun _ _ => by simp only [valueCompare]) (tri_laws x)
  | dt x => exact laws_of_ctor .dt _ x (fun _ _ => by simp only [valueCompare]) (tri_laws x)
  | str x => exact laws_of_ctor .str _ x (fun _ _ => by simp only [valueCompare]) (strCompare_laws x)
  | fn x =>
    exact laws_of_ctor .fn (fun _ _ => 0) x
      (fun _ _ => by simp only [valueCompare, typeName]; exact (strCompare_laws _).refl) (.zero _)
  | regex x =>
    exact laws_of_ctor .regex (fun _ _ => 0) x
      (fun _ _ => by simp only [valueCompare, typeName]; exact (strCompare_laws _).refl) (.zero _)
  | arr xs ih => exact laws_of_ctor .arr _ xs (fun _ _ => by simp only [valueCompare]) (cmpList_isLex.laws xs ih)
  | obj kvs ih =>
    exact laws_of_ctor .obj (fun a b => cmpItems (sortItems a) (sortItems b)) kvs (fun _ _ => by simp only [valueCompare])
      ((cmpItems_isLex.laws (sortItems kvs) fun p hp =>
        (strCompare_laws p.1).thenCmp (ih p ((sortItems_perm kvs).mem_iff.mp hp))).comap sortItems)

/-- a comparator that is a total preorder: exactly the three laws of the property -/
structure IsPre {α : Type} (c : α → α → Int) : Prop where
  refl : ∀ a, c a a = 0
  antisymm : ∀ a b, c a b = - c b a
  trans : ∀ a b d, c a b ≤ 0 → c b d ≤ 0 → c a d ≤ 0

namespace IsPre
variable {α : Type} {c : α → α → Int}

theorem of_laws (h : ∀ a, Laws c a) : IsPre c :=
  ⟨fun a => (h a).refl, fun a b => (h a).antisymm b, fun a b d => ((h a).t3 b d).trans⟩

theorem lt_le (h : IsPre c) {a b d : α} (h1 : c a b < 0) (h2 : c b d ≤ 0) : c a d < 0 := by
  have := h.antisymm a d; have := h.antisymm a b
  have := h.trans b d a h2
  omega

theorem le_lt (h : IsPre c) {a b d : α} (h1 : c a b ≤ 0) (h2 : c b d < 0) : c a d < 0 := by
  have := h.antisymm a d; have := h.antisymm b d
  have := h.trans d a b
  omega

theorem eq_eq (h : IsPre c) {a b d : α} (h1 : c a b = 0) (h2 : c b d = 0) : c a d = 0 := by
  have := h.antisymm a d; have := h.antisymm a b; have := h.antisymm b d
  have := h.trans a b d; have := h.trans d b a
  omega

theorem t3 (h : IsPre c) (a b d : α) : T3 (c a b) (c b d) (c a d) := ⟨h.lt_le, h.le_lt, h.eq_eq⟩

theorem flip (h : IsPre c) : IsPre (fun a b => c b a) :=
  ⟨fun a => h.refl a, fun a b => h.antisymm b a, fun a b d h1 h2 => h.trans d b a h2 h1⟩

theorem comap {β : Type} (h : IsPre c) (g : β → α) : IsPre (fun a b => c (g a) (g b)) :=
  ⟨fun _ => h.refl _, fun _ _ => h.antisymm _ _, fun _ _ _ => h.trans _ _ _⟩

theorem lex {c₂ : α → α → Int} (h : IsPre c) (h₂ : IsPre c₂) : IsPre (fun a b => thenCmp (c a b) (c₂ a b)) :=
  ⟨fun a => by rw [h.refl, h₂.refl]; rfl, fun a b => thenCmp_antisymm (h.antisymm a b) fun _ => h₂.antisymm a b,
    fun a b d => ((h.t3 a b d).thenCmp fun _ _ => h₂.t3 a b d).trans⟩

end IsPre

theorem valueCompare_isPre : IsPre valueCompare := .of_laws laws

section Sorting
variable {α : Type} {c : α → α → Int}

/-- the `<` that `functools.cmp_to_key(c)` gives the sort -/
abbrev ltOf (c : α → α → Int) : α → α → Bool := fun a b => decide (c a b < 0)

/-- ordered: no element is greater than a later one -/
abbrev Sorted (c : α → α → Int) (l : List α) : Prop := l.Pairwise (fun x y => c x y ≤ 0)

/-- the class of `a`: the elements that compare equal to it -/
abbrev eqv (c : α → α → Int) (a : α) : α → Bool := fun x => c x a == 0

theorem insertBy_sorted (h : IsPre c) (x : α) : ∀ ys, Sorted c ys → Sorted c (insertBy (ltOf c) x ys)
  | [], _ => by simp [insertBy]
  | y :: ys, hs => by
    have ⟨hy, hys⟩ := List.pairwise_cons.mp hs
    unfold insertBy
    by_cases hxy : c x y < 0
    · simp only [ltOf, hxy, decide_true, if_true]
      refine List.pairwise_cons.mpr ⟨fun z hz => ?_, hs⟩
      rcases List.mem_cons.mp hz with rfl | hz
      · omega
      · exact Int.le_of_lt (h.lt_le hxy (hy z hz))
    · simp only [ltOf, hxy, decide_false, Bool.false_eq_true, if_false]
      refine List.pairwise_cons.mpr ⟨fun z hz => ?_, insertBy_sorted h x ys hys⟩
      rcases List.mem_cons.mp ((insertBy_perm _ x ys).mem_iff.mp hz) with rfl | hz
      · have := h.antisymm y z; omega
      · exact hy z hz

theorem foldl_insertBy_sorted (h : IsPre c) : ∀ (xs acc : List α), Sorted c acc →
    Sorted c (xs.foldl (fun acc x => insertBy (ltOf c) x acc) acc)
  | [], _, ha => ha
  | x :: xs, acc, ha => foldl_insertBy_sorted h xs _ (insertBy_sorted h x acc ha)

theorem insertBy_filter (h : IsPre c) (a x : α) : ∀ ys, Sorted c ys →
    (insertBy (ltOf c) x ys).filter (eqv c a) = ys.filter (eqv c a) ++ [x].filter (eqv c a)
  | [], _ => by simp [insertBy]
  | y :: ys, hs => by
    have ⟨hy, hys⟩ := List.pairwise_cons.mp hs
    unfold insertBy
    by_cases hxy : c x y < 0
    · simp only [ltOf, hxy, decide_true, if_true]
      by_cases hxa : c x a = 0
      · have hnil : (y :: ys).filter (eqv c a) = [] := by
          refine List.filter_eq_nil_iff.mpr (fun z hz hza => ?_)
          have hxz : c x z < 0 := by
            rcases List.mem_cons.mp hz with rfl | hz
            · exact hxy
            · exact h.lt_le hxy (hy z hz)
          have hza : c z a = 0 := by simpa using hza
          have hax : c a x = 0 := by have := h.antisymm a x; omega
          have := h.eq_eq hza hax
          have := h.antisymm x z
          omega
        rw [List.filter_cons, hnil]; simp [hxa]
      · simp [List.filter_cons, hxa]
    · simp only [ltOf, hxy, decide_false, Bool.false_eq_true, if_false]
      rw [List.filter_cons, insertBy_filter h a x ys hys, List.filter_cons (x := y)]
      split <;> simp

theorem foldl_insertBy_filter (h : IsPre c) (a : α) : ∀ (xs acc : List α), Sorted c acc →
    (xs.foldl (fun acc x => insertBy (ltOf c) x acc) acc).filter (eqv c a) = acc.filter (eqv c a) ++ xs.filter (eqv c a)
  | [], _, _ => by simp
  | x :: xs, acc, ha => by
    rw [List.foldl_cons, foldl_insertBy_filter h a xs _ (insertBy_sorted h x acc ha), insertBy_filter h a x acc ha,
      List.filter_cons (x := x)]
    split <;> simp [*]

theorem sortBy_sorted (h : IsPre c) (xs : List α) : Sorted c (sortBy (ltOf c) xs) :=
  foldl_insertBy_sorted h xs [] List.Pairwise.nil

theorem sortBy_stable (h : IsPre c) (xs : List α) (a : α) :
    (sortBy (ltOf c) xs).filter (eqv c a) = xs.filter (eqv c a) := by
  simpa [sortBy] using foldl_insertBy_filter h a xs [] List.Pairwise.nil

/-- an ordered list is determined by its equivalence classes taken in order of appearance -/
theorem sorted_stable_unique (h : IsPre c) : ∀ ys zs : List α, Sorted c ys → Sorted c zs →
    (∀ a, ys.filter (eqv c a) = zs.filter (eqv c a)) → ys = zs
  | [], [], _, _, _ => rfl
  | [], z :: zs, _, _, hf => by have := hf z; simp [h.refl] at this
  | y :: ys, [], _, _, hf => by have := hf y; simp [h.refl] at this
  | y :: ys, z :: zs, hy, hz, hf => by
    have ⟨hy1, hy2⟩ := List.pairwise_cons.mp hy
    have ⟨hz1, hz2⟩ := List.pairwise_cons.mp hz
    -- an element of one list is in its own class, hence in the other list; so each head is ≤ the other
    have mem : ∀ {l l' : List α}, (∀ a, l.filter (eqv c a) = l'.filter (eqv c a)) → ∀ w ∈ l, w ∈ l' := fun {l _} hf w hw => by
      have : w ∈ l.filter (eqv c w) := List.mem_filter.mpr ⟨hw, by simp [h.refl]⟩
      rw [hf w] at this; exact (List.mem_filter.mp this).1
    have hyz : c y z ≤ 0 := by
      rcases List.mem_cons.mp (mem (fun a => (hf a).symm) z (by simp)) with e | hm
      · rw [e, h.refl]; omega
      · exact hy1 z hm
    have hzy : c z y ≤ 0 := by
      rcases List.mem_cons.mp (mem hf y (by simp)) with e | hm
      · rw [e, h.refl]; omega
      · exact hz1 y hm
    have hzy0 : c z y = 0 := by have := h.antisymm y z; omega
    have hhead := hf y
    simp only [List.filter_cons, eqv, h.refl, hzy0, beq_self_eq_true, if_true] at hhead
    have hyz_eq : y = z := (List.cons.inj hhead).1
    subst hyz_eq
    have htail : ∀ a, ys.filter (eqv c a) = zs.filter (eqv c a) := fun a => by
      have := hf a
      simp only [List.filter_cons] at this
      split at this
      · exact (List.cons.inj this).2
      · exact this
    rw [sorted_stable_unique h ys zs hy2 hz2 htail]

end Sorting

/-! ## sorting under a map that keeps the order on the elements at hand -/

theorem insertBy_map_on {α β} (g : α → β) (lt : α → α → Bool) (lt' : β → β → Bool) (x : α) (ys : List α)
    (hlt : ∀ y ∈ ys, lt' (g x) (g y) = lt x y) : (insertBy lt x ys).map g = insertBy lt' (g x) (ys.map g) := by
  induction ys with
  | nil => rfl
  | cons y ys ih =>
    simp only [insertBy, List.map_cons, hlt y (by simp)]
    split
    · rfl
    · simp [ih (fun z hz => hlt z (by simp [hz]))]

theorem foldl_insertBy_map_on {α β} (g : α → β) (lt : α → α → Bool) (lt' : β → β → Bool) :
    ∀ (xs acc : List α), (∀ a ∈ xs ++ acc, ∀ b ∈ xs ++ acc, lt' (g a) (g b) = lt a b) →
      (xs.foldl (fun acc x => insertBy lt x acc) acc).map g = (xs.map g).foldl (fun acc x => insertBy lt' x acc) (acc.map g)
  | [], acc, _ => rfl
  | x :: xs, acc, hlt => by
    simp only [List.foldl_cons, List.map_cons]
    rw [foldl_insertBy_map_on g lt lt' xs (insertBy lt x acc)]
    · rw [insertBy_map_on g lt lt' x acc (fun y hy => hlt x (by simp) y (by simp [hy]))]
    · intro a ha b hb
      have mem : ∀ z, z ∈ xs ++ insertBy lt x acc → z ∈ x :: xs ++ acc := by
        intro z hz
        rcases List.mem_append.mp hz with hz | hz
        · simp [hz]
        · have := (insertBy_perm lt x acc).mem_iff.mp hz
          rcases List.mem_cons.mp this with rfl | h'
          · simp
          · simp [h']
      exact hlt a (mem a ha) b (mem b hb)

theorem sortBy_map_on {α β} (g : α → β) (lt : α → α → Bool) (lt' : β → β → Bool) (xs : List α)
    (hlt : ∀ a ∈ xs, ∀ b ∈ xs, lt' (g a) (g b) = lt a b) : (sortBy lt xs).map g = sortBy lt' (xs.map g) := by
  unfold sortBy
  simpa using foldl_insertBy_map_on g lt lt' xs [] (by simpa using hlt)

end C11
