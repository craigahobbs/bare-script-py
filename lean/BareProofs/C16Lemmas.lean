import BareModel.Datetime

/-!
# C16 — calendar and instant lemmas behind `BareProofs/C16.lean`

Python `//`, `%` with a positive divisor are Lean's `/`, `%` on `Int`.  `ord0 y m + d` is the invariant of the two day loops of
`datetimeNew`; `_ord2ymd` inverts `_ymd2ord` on every integer ordinal; the time of day is four mixed-radix digits, so
`fromOrdinalMs` / `ofLocalMs` invert `toLocalMs` on well-formed datetimes.
-/

open Datetime
namespace C16

theorem pyFloorDiv_pos (a : Int) {b : Int} (h : 0 < b) : pyFloorDiv a b = a / b :=
  Int.fdiv_eq_ediv_of_nonneg a (Int.le_of_lt h)

theorem pyMod_pos (a : Int) {b : Int} (h : 0 < b) : pyMod a b = a % b :=
  Int.fmod_eq_emod_of_nonneg a (Int.le_of_lt h)

theorem isLeap_iff (y : Int) : isLeap y = true ↔ (y % 4 = 0 ∧ (y % 100 ≠ 0 ∨ y % 400 = 0)) := by
  simp [isLeap, pyMod_pos]

def yearLen (y : Int) : Int := if isLeap y then 366 else 365

theorem daysBeforeYear_succ (y : Int) : daysBeforeYear (y + 1) = daysBeforeYear y + yearLen y := by
  have hl := isLeap_iff y
  simp only [daysBeforeYear, yearLen, Int.add_sub_cancel]
  by_cases h : isLeap y = true
  · rw [if_pos h]; rw [hl] at h; omega
  · rw [if_neg h]; rw [hl] at h; omega

/-! ### the month tables (finite: checked by evaluation over `Nat`, used over `Int`) -/

/-- one row of the month table: length, running sum, and the bounds that make `(n + 50) / 32` an estimate of the month that is
never too small and at most one too large -/
def monthRowOk (leap : Bool) (m : Nat) : Bool :=
  (mdays leap m).any fun k => decide (28 ≤ k ∧ k ≤ 31 ∧ dbmL leap (m + 1) = dbmL leap m + k ∧
    k = dimTable m + (if (m : Int) = 2 ∧ leap then 1 else 0) ∧
    32 * (m : Int) ≤ dbmL leap m + 50 ∧ dbmL leap (m + 1) + 49 < 32 * ((m : Int) + 2))

theorem monthRowOk_all : ∀ leap : Bool, ∀ m : Nat, m < 13 → 1 ≤ m → monthRowOk leap m = true := by decide +kernel

theorem monthRow (leap : Bool) {m : Int} (h1 : 1 ≤ m) (h2 : m ≤ 12) :
    ∃ k, mdays leap m = some k ∧ 28 ≤ k ∧ k ≤ 31 ∧ dbmL leap (m + 1) = dbmL leap m + k ∧
      k = dimTable m + (if m = 2 ∧ leap then 1 else 0) ∧
      32 * m ≤ dbmL leap m + 50 ∧ dbmL leap (m + 1) + 49 < 32 * (m + 2) := by
  have h := monthRowOk_all leap m.toNat (by omega) (by omega)
  rw [monthRowOk, Int.toNat_of_nonneg (by omega)] at h
  simpa [Option.any_eq_true] using h

/-- days before the first of month `m` of year `y` (`ymd2ord y m d = ord0 y m + d`) -/
def ord0 (y m : Int) : Int := daysBeforeYear y + daysBeforeMonth y m

theorem ymd2ord_eq (y m d : Int) : ymd2ord y m d = ord0 y m + d := rfl

theorem dbmL_one (leap : Bool) : dbmL leap 1 = 0 := by cases leap <;> rfl

theorem dbmL_13 (y : Int) : dbmL (isLeap y) 13 = yearLen y := by
  unfold yearLen; cases isLeap y <;> rfl

theorem monthrange_some {y m k : Int} (h : monthrange y m = some k) : daysInMonth y m = k := by
  simp [daysInMonth, h]

theorem daysInMonth_le (y : Int) {m : Int} (h1 : 1 ≤ m) (h2 : m ≤ 12) : daysInMonth y m ≤ 31 := by
  obtain ⟨k, hk, _, k2, _⟩ := monthRow (isLeap y) h1 h2
  rw [monthrange_some hk]; exact k2

theorem ord0_succ (y : Int) {m : Int} (h1 : 1 ≤ m) (h2 : m ≤ 12) :
    ∃ k, monthrange y m = some k ∧ 28 ≤ k ∧ k ≤ 31 ∧ ord0 y (m + 1) = ord0 y m + k := by
  obtain ⟨k, hk, k1, k2, hs, -⟩ := monthRow (isLeap y) h1 h2
  exact ⟨k, hk, k1, k2, by simp only [ord0, daysBeforeMonth, hs, Int.add_assoc]⟩

/-- month 13 of a year is January of the next -/
theorem ord0_13 (y : Int) : ord0 y 13 = ord0 (y + 1) 1 := by
  simp only [ord0, daysBeforeMonth, dbmL_one, dbmL_13, daysBeforeYear_succ, Int.add_zero]

/-- going to the next month keeps `ord0 + day` when the month length is subtracted from the day -/
theorem next_month (y : Int) {m : Int} (h1 : 1 ≤ m) (h2 : m ≤ 12) :
    ∃ k, monthrange y m = some k ∧ 28 ≤ k ∧ k ≤ 31 ∧
      1 ≤ (if m ≠ 12 then m + 1 else 1) ∧ (if m ≠ 12 then m + 1 else 1) ≤ 12 ∧
      ord0 (if m ≠ 12 then y else y + 1) (if m ≠ 12 then m + 1 else 1) = ord0 y m + k := by
  obtain ⟨k, hk, k1, k2, hs⟩ := ord0_succ y h1 h2
  refine ⟨k, hk, k1, k2, ?_⟩
  by_cases hm : m = 12
  · subst hm
    simp only [ne_eq, not_true_eq_false, if_false]
    exact ⟨by decide, by decide, by rw [← ord0_13]; exact hs⟩
  · simp only [ne_eq, hm, not_false_eq_true, if_true]
    exact ⟨by omega, by omega, hs⟩

/-- going to the previous month keeps `ord0 + day` when the month length is added to the day -/
theorem prev_month (y : Int) {m : Int} (h1 : 1 ≤ m) (h2 : m ≤ 12) :
    ∃ k, monthrange (if m ≠ 1 then y else y - 1) (if m ≠ 1 then m - 1 else 12) = some k ∧ 28 ≤ k ∧ k ≤ 31 ∧
      1 ≤ (if m ≠ 1 then m - 1 else 12) ∧ (if m ≠ 1 then m - 1 else 12) ≤ 12 ∧
      ord0 (if m ≠ 1 then y else y - 1) (if m ≠ 1 then m - 1 else 12) + k = ord0 y m := by
  by_cases hm : m = 1
  · subst hm
    simp only [ne_eq, not_true_eq_false, if_false]
    obtain ⟨k, hk, k1, k2, hs⟩ := ord0_succ (y - 1) (m := 12) (by decide) (by decide)
    rw [show (12 : Int) + 1 = 13 from rfl, ord0_13, Int.sub_add_cancel] at hs
    exact ⟨k, hk, k1, k2, by decide, by decide, hs.symm⟩
  · simp only [ne_eq, hm, not_false_eq_true, if_true]
    obtain ⟨k, hk, k1, k2, hs⟩ := ord0_succ y (m := m - 1) (by omega) (by omega)
    rw [Int.sub_add_cancel] at hs
    exact ⟨k, hk, k1, k2, by omega, by omega, hs.symm⟩

/-- `while day < 1` loop: invariant `ord0 year month + day`, measure `1 - day` -/
theorem dayUp_spec : ∀ (f : Nat) (y m d : Int), 1 ≤ m → m ≤ 12 → 1 - d ≤ f →
    ∃ y' m' d', dayUp f y m d = some (y', m', d') ∧ 1 ≤ m' ∧ m' ≤ 12 ∧ ord0 y' m' + d' = ord0 y m + d ∧
      (d < 1 → 1 ≤ d' ∧ d' ≤ daysInMonth y' m') ∧ (1 ≤ d → (y', m', d') = (y, m, d))
  | 0, y, m, d, h1, h2, hf => by
    refine ⟨y, m, d, rfl, h1, h2, rfl, ?_, fun _ => rfl⟩
    intro h; simp at hf; omega
  | f + 1, y, m, d, h1, h2, hf => by
    by_cases hd : d < 1
    · obtain ⟨k, hk, k1, k2, m1, m2, hs⟩ := prev_month y h1 h2
      simp only [dayUp, hd, if_true, hk]
      obtain ⟨y', m', d', hr, a1, a2, ho, hlt, hge⟩ :=
        dayUp_spec f (if m ≠ 1 then y else y - 1) (if m ≠ 1 then m - 1 else 12) (d + k) m1 m2 (by push_cast at hf ⊢; omega)
      refine ⟨y', m', d', hr, a1, a2, by omega, ?_, fun h => by omega⟩
      intro _
      by_cases hdk : d + k < 1
      · exact hlt hdk
      · have := hge (by omega)
        simp only [Prod.mk.injEq] at this
        obtain ⟨e1, e2, e3⟩ := this
        subst e1 e2 e3
        rw [monthrange_some hk]; omega
    · simp only [dayUp, hd, if_false]
      exact ⟨y, m, d, rfl, h1, h2, rfl, fun h => False.elim h, fun _ => rfl⟩

/-- `while day > month_days` loop: same invariant, measure `day` -/
theorem dayDown_spec : ∀ (f : Nat) (y m d md : Int), 1 ≤ m → m ≤ 12 → monthrange y m = some md → 1 ≤ d → d ≤ f →
    ∃ y' m' d', dayDown f y m d md = some (y', m', d') ∧ 1 ≤ m' ∧ m' ≤ 12 ∧ ord0 y' m' + d' = ord0 y m + d ∧
      1 ≤ d' ∧ d' ≤ daysInMonth y' m'
  | 0, y, m, d, md, h1, h2, hmd, hd, hf => by simp at hf; omega
  | f + 1, y, m, d, md, h1, h2, hmd, hd, hf => by
    obtain ⟨k, hk, k1, k2, m1, m2, hs⟩ := next_month y h1 h2
    have hkmd : k = md := by rw [hk] at hmd; exact Option.some.inj hmd
    subst hkmd
    by_cases hgt : d > k
    · obtain ⟨k', hk', _, _, _, _, _⟩ := next_month (if m ≠ 12 then y else y + 1) m1 m2
      simp only [dayDown, hgt, if_true, hk']
      obtain ⟨y', m', d', hr, a1, a2, ho, b1, b2⟩ :=
        dayDown_spec f (if m ≠ 12 then y else y + 1) (if m ≠ 12 then m + 1 else 1) (d - k) k' m1 m2 hk' (by omega)
          (by push_cast at hf ⊢; omega)
      exact ⟨y', m', d', hr, a1, a2, by omega, b1, b2⟩
    · simp only [dayDown, hgt, if_false]
      exact ⟨y, m, d, rfl, h1, h2, rfl, hd, by rw [monthrange_some hk]; omega⟩

/-- the `# Adjust day` block: the result is a valid month/day with the same ordinal -/
theorem dayAdjust_spec (y m d : Int) (h1 : 1 ≤ m) (h2 : m ≤ 12) :
    ∃ y' m' d', dayAdjust y m d = some (y', m', d') ∧ 1 ≤ m' ∧ m' ≤ 12 ∧ 1 ≤ d' ∧ d' ≤ daysInMonth y' m' ∧
      ord0 y' m' + d' = ord0 y m + d := by
  unfold dayAdjust
  by_cases hd : d < 1
  · simp only [hd, if_true]
    obtain ⟨y', m', d', hr, a1, a2, ho, hlt, _⟩ := dayUp_spec (1 - d).toNat y m d h1 h2 (by omega)
    exact ⟨y', m', d', hr, a1, a2, (hlt hd).1, (hlt hd).2, ho⟩
  · simp only [hd, if_false]
    obtain ⟨k, hk, k1, k2, _, _, _⟩ := next_month y h1 h2
    by_cases h28 : d > 28
    · simp only [h28, if_true, hk]
      obtain ⟨y', m', d', hr, a1, a2, ho, b1, b2⟩ := dayDown_spec d.toNat y m d k h1 h2 hk (by omega) (by omega)
      exact ⟨y', m', d', hr, a1, a2, b1, b2, ho⟩
    · simp only [h28, if_false]
      exact ⟨y, m, d, rfl, h1, h2, by omega, by rw [monthrange_some hk]; omega, rfl⟩

theorem dbmL_mono {leap : Bool} {m m' : Int} (h1 : 1 ≤ m) (h2 : m ≤ m') (h3 : m' ≤ 13) :
    dbmL leap m ≤ dbmL leap m' := by
  obtain ⟨n, rfl⟩ : ∃ n : Nat, m' = m + n := ⟨(m' - m).toNat, by omega⟩
  induction n with
  | zero => simp
  | succ n ih =>
    obtain ⟨k, -, hk, -, hs, -⟩ := monthRow leap (m := m + n) (by omega) (by omega)
    have := ih (by omega) (by omega)
    rw [Int.natCast_succ, ← Int.add_assoc, hs]; omega

/-- the month a day of the year falls in -/
theorem month_of_day (leap : Bool) {n : Int} (h0 : 0 ≤ n) (h1 : n < 365) :
    ∃ m, 1 ≤ m ∧ m ≤ 12 ∧ dbmL leap m ≤ n ∧ n < dbmL leap (m + 1) := by
  have key : ∀ j : Nat, j ≤ 12 → n < dbmL leap (1 + j) → ∃ m, 1 ≤ m ∧ m ≤ 12 ∧ dbmL leap m ≤ n ∧ n < dbmL leap (m + 1) := by
    intro j
    induction j with
    | zero => intro _ h; rw [Int.natCast_zero, Int.add_zero, dbmL_one] at h; omega
    | succ j ih =>
      intro hj h
      by_cases c : n < dbmL leap (1 + j)
      · exact ih (by omega) c
      · exact ⟨1 + j, by omega, by omega, by omega, by rw [Int.natCast_succ, ← Int.add_assoc] at h; exact h⟩
  have h13 : 365 ≤ dbmL leap (1 + (12 : Nat)) := by cases leap <;> decide
  exact key 12 (Nat.le_refl _) (by omega)

theorem monthDay_sound (leap : Bool) {n : Int} (h0 : 0 ≤ n) (h1 : n < 365) :
    1 ≤ (monthDay leap n).1 ∧ (monthDay leap n).1 ≤ 12 ∧ 1 ≤ (monthDay leap n).2 ∧
      (∃ k, mdays leap (monthDay leap n).1 = some k ∧ (monthDay leap n).2 ≤ k) ∧
      dbmL leap (monthDay leap n).1 + (monthDay leap n).2 = n + 1 := by
  obtain ⟨m, m1, m2, lo, hi⟩ := month_of_day leap h0 h1
  obtain ⟨k, hk, k1, k2, hs, hdim, e1, e2⟩ := monthRow leap m1 m2
  -- the estimate is the month or the next one; in the second case the days before it exceed `n` and one month is taken back
  have hmd : monthDay leap n = (m, n - dbmL leap m + 1) := by
    have hest : (n + 50) / 32 = m ∨ (n + 50) / 32 = m + 1 := by omega
    simp only [monthDay]
    rcases hest with e | e <;> rw [e]
    · rw [show dbmTable m + (if m > 2 ∧ leap = true then 1 else 0) = dbmL leap m from rfl, if_neg (by omega)]
    · rw [show dbmTable (m + 1) + (if m + 1 > 2 ∧ leap = true then 1 else 0) = dbmL leap (m + 1) from rfl, if_pos (by omega),
        Int.add_sub_cancel, ← hdim, hs, Int.add_sub_cancel]
  rw [hmd]; dsimp only
  exact ⟨m1, m2, by omega, ⟨k, hk, by omega⟩, by omega⟩

/-- days before the year at position `(a, b, c, d)` of the 400/100/4/1-year cycles -/
theorem dby_cycle (a b c d : Int) (hb : 0 ≤ b) (hb' : b ≤ 3) (hc : 0 ≤ c) (hc' : c ≤ 24) (hd : 0 ≤ d) (hd' : d ≤ 3) :
    daysBeforeYear (a * 400 + 1 + b * 100 + c * 4 + d) = 146097 * a + 36524 * b + 1461 * c + 365 * d := by
  simp only [daysBeforeYear]; omega

theorem isLeap_cycle (a b c d : Int) (hb : 0 ≤ b) (hb' : b ≤ 3) (hc : 0 ≤ c) (hc' : c ≤ 24) (hd : 0 ≤ d) (hd' : d ≤ 3) :
    isLeap (a * 400 + 1 + b * 100 + c * 4 + d) = true ↔ (d = 3 ∧ (c ≠ 24 ∨ b = 3)) := by
  rw [isLeap_iff]; omega

theorem daysInMonth_12 (y : Int) : daysInMonth y 12 = 31 := by
  unfold daysInMonth monthrange; cases isLeap y <;> rfl

/-- December 31st is the last ordinal of its year -/
theorem ymd2ord_dec31 (y : Int) : ymd2ord y 12 31 = daysBeforeYear y + yearLen y := by
  have h12 : ∀ leap, dbmL leap 12 + 31 = if leap then 366 else 365 := by decide
  simp only [ymd2ord, daysBeforeMonth, yearLen, Int.add_assoc, h12]

theorem ediv_emod_spec (x : Int) {k : Int} (hk : 0 < k) : k * (x / k) + x % k = x ∧ 0 ≤ x % k ∧ x % k < k :=
  ⟨Int.mul_ediv_add_emod x k, Int.emod_nonneg x (Int.ne_of_gt hk), Int.emod_lt_of_pos x hk⟩

theorem ord2ymd_sound (ord : Int) :
    1 ≤ (ord2ymd ord).2.1 ∧ (ord2ymd ord).2.1 ≤ 12 ∧ 1 ≤ (ord2ymd ord).2.2 ∧
      (ord2ymd ord).2.2 ≤ daysInMonth (ord2ymd ord).1 (ord2ymd ord).2.1 ∧
      ymd2ord (ord2ymd ord).1 (ord2ymd ord).2.1 (ord2ymd ord).2.2 = ord := by
  simp only [ord2ymd]
  have ⟨q1, b1, c1⟩ := ediv_emod_spec (ord - 1) (k := 146097) (by decide)
  generalize (ord - 1) / 146097 = n400 at *
  generalize (ord - 1) % 146097 = r1 at *
  have ⟨q2, b2, c2⟩ := ediv_emod_spec r1 (k := 36524) (by decide)
  generalize r1 / 36524 = n100 at *
  generalize r1 % 36524 = r2 at *
  have ⟨q3, b3, c3⟩ := ediv_emod_spec r2 (k := 1461) (by decide)
  generalize r2 / 1461 = n4 at *
  generalize r2 % 1461 = r3 at *
  have ⟨q4, b4, c4⟩ := ediv_emod_spec r3 (k := 365) (by decide)
  generalize r3 / 365 = n1 at *
  generalize r3 % 365 = r4 at *
  by_cases hsp : n1 = 4 ∨ n100 = 4
  · -- last day of a 4-year or 400-year cycle: December 31st of a leap year, at cycle position `(a, b, c, 3)`
    rw [if_pos hsp]
    obtain ⟨a, b, c, hb, hb', hc, hc', hy, hlp, hord⟩ :
        ∃ a b c : Int, 0 ≤ b ∧ b ≤ 3 ∧ 0 ≤ c ∧ c ≤ 24 ∧
          n400 * 400 + 1 + n100 * 100 + n4 * 4 + n1 - 1 = a * 400 + 1 + b * 100 + c * 4 + 3 ∧
          (c ≠ 24 ∨ b = 3) ∧ 146097 * a + 36524 * b + 1461 * c + 365 * 3 + 366 = ord := by
      rcases hsp with h | h
      · exact ⟨n400, n100, n4, by omega⟩
      · exact ⟨n400, 3, 24, by omega⟩
    rw [hy]; dsimp only
    refine ⟨by decide, by decide, by decide, by rw [daysInMonth_12]; decide, ?_⟩
    rw [ymd2ord_dec31, dby_cycle a b c 3 hb hb' hc hc' (by decide) (by decide), yearLen,
      if_pos ((isLeap_cycle a b c 3 hb hb' hc hc' (by decide) (by decide)).2 ⟨rfl, hlp⟩)]
    exact hord
  · rw [if_neg hsp]
    have g : 0 ≤ n100 ∧ n100 ≤ 3 ∧ 0 ≤ n4 ∧ n4 ≤ 24 ∧ 0 ≤ n1 ∧ n1 ≤ 3 := by omega
    obtain ⟨g1, g2, g3, g4, g5, g6⟩ := g
    have hl : (decide (n1 = 3) && (decide (n4 ≠ 24) || decide (n100 = 3))) =
        isLeap (n400 * 400 + 1 + n100 * 100 + n4 * 4 + n1) := by
      rw [Bool.eq_iff_iff, isLeap_cycle n400 n100 n4 n1 g1 g2 g3 g4 g5 g6]
      simp only [Bool.and_eq_true, Bool.or_eq_true, decide_eq_true_eq]
    rw [hl]
    obtain ⟨m1, m2, d1, ⟨k, hk, d2⟩, hs⟩ :=
      monthDay_sound (isLeap (n400 * 400 + 1 + n100 * 100 + n4 * 4 + n1)) b4 c4
    refine ⟨m1, m2, d1, by rw [monthrange_some hk]; exact d2, ?_⟩
    simp only [ymd2ord, daysBeforeMonth, dby_cycle n400 n100 n4 n1 g1 g2 g3 g4 g5 g6]
    omega

theorem dby_le {a b : Int} (h : a ≤ b) : daysBeforeYear a ≤ daysBeforeYear b := by
  simp only [daysBeforeYear]; omega

/-- a legal month and day-of-month for year `y` -/
def ValidMD (y m d : Int) : Prop := 1 ≤ m ∧ m ≤ 12 ∧ 1 ≤ d ∧ d ≤ daysInMonth y m

theorem validMD_next {y m d : Int} (h : ValidMD y m d) :
    dbmL (isLeap y) m + d ≤ dbmL (isLeap y) (m + 1) := by
  obtain ⟨h1, h2, h3, h4⟩ := h
  obtain ⟨k, hk, _, _, hs, -⟩ := monthRow (isLeap y) h1 h2
  have : daysInMonth y m = k := monthrange_some hk
  omega

theorem ord_in_year {y m d : Int} (h : ValidMD y m d) :
    daysBeforeYear y < ymd2ord y m d ∧ ymd2ord y m d ≤ daysBeforeYear (y + 1) := by
  have hn := validMD_next h
  obtain ⟨h1, h2, h3, h4⟩ := h
  have lo : dbmL (isLeap y) 1 ≤ dbmL (isLeap y) m := dbmL_mono (by omega) h1 (by omega)
  have hi : dbmL (isLeap y) (m + 1) ≤ dbmL (isLeap y) 13 := dbmL_mono (by omega) (by omega) (by omega)
  rw [dbmL_one] at lo
  have h13 := dbmL_13 y
  rw [daysBeforeYear_succ]
  simp only [ymd2ord, daysBeforeMonth]
  omega

/-- the year of a valid date is the one whose first day is the last not after it -/
theorem ord_le_dby_iff {y m d : Int} (h : ValidMD y m d) (a : Int) : ymd2ord y m d ≤ daysBeforeYear a ↔ y < a := by
  have r := ord_in_year h
  constructor
  · intro h1; apply Classical.byContradiction; intro c
    have := dby_le (Int.not_lt.1 c); omega
  · intro h1
    have := dby_le (show y + 1 ≤ a from h1); omega

theorem md_inj {y m d m' d' : Int} (h : ValidMD y m d) (h' : ValidMD y m' d')
    (e : dbmL (isLeap y) m + d = dbmL (isLeap y) m' + d') : m = m' ∧ d = d' := by
  have n1 := validMD_next h
  have n2 := validMD_next h'
  obtain ⟨a1, a2, a3, a4⟩ := h
  obtain ⟨b1, b2, b3, b4⟩ := h'
  by_cases c1 : m < m'
  · have := dbmL_mono (leap := isLeap y) (m := m + 1) (m' := m') (by omega) (by omega) (by omega)
    omega
  · by_cases c2 : m' < m
    · have := dbmL_mono (leap := isLeap y) (m := m' + 1) (m' := m) (by omega) (by omega) (by omega)
      omega
    · have : m = m' := by omega
      subst this
      exact ⟨rfl, by omega⟩

theorem ymd2ord_inj {y m d y' m' d' : Int} (h : ValidMD y m d) (h' : ValidMD y' m' d')
    (e : ymd2ord y m d = ymd2ord y' m' d') : y = y' ∧ m = m' ∧ d = d' := by
  have r1 := ord_in_year h
  have r2 := ord_in_year h'
  have hy : y = y' := by
    have a := ord_le_dby_iff h y'
    have b := ord_le_dby_iff h' y
    omega
  subst hy
  refine ⟨rfl, md_inj h h' ?_⟩
  simp only [ymd2ord, daysBeforeMonth] at e
  omega

theorem ord2ymd_valid (ord : Int) : ValidMD (ord2ymd ord).1 (ord2ymd ord).2.1 (ord2ymd ord).2.2 := by
  obtain ⟨a, b, c, d, _⟩ := ord2ymd_sound ord
  exact ⟨a, b, c, d⟩

/-- `_ord2ymd (_ymd2ord y m d) = (y, m, d)` for every valid date of every integer year -/
theorem ord2ymd_ymd2ord {y m d : Int} (h : ValidMD y m d) : ord2ymd (ymd2ord y m d) = (y, m, d) := by
  have hs := (ord2ymd_sound (ymd2ord y m d)).2.2.2.2
  obtain ⟨e1, e2, e3⟩ := ymd2ord_inj (ord2ymd_valid _) h hs
  exact Prod.ext e1 (Prod.ext e2 e3)

theorem dby_one : daysBeforeYear 1 = 0 := by decide
theorem dby_10000 : daysBeforeYear 10000 = maxOrdinal := by decide

/-- years 1..9999 are exactly the ordinals 1.._MAXORDINAL -/
theorem year_range_iff {y m d : Int} (h : ValidMD y m d) :
    (1 ≤ y ∧ y ≤ 9999) ↔ (1 ≤ ymd2ord y m d ∧ ymd2ord y m d ≤ maxOrdinal) := by
  have h1 := ord_le_dby_iff h 1
  have h2 := ord_le_dby_iff h 10000
  rw [dby_one] at h1; rw [dby_10000] at h2
  omega

theorem mkDT_eq (y mo d h mi s ms : Int) :
    mkDT y mo d h mi s ms = if DT.Valid ⟨y, mo, d, h, mi, s, ms⟩ then some ⟨y, mo, d, h, mi, s, ms⟩ else none := rfl

theorem mkDT_some {y mo d h mi s ms : Int} {t : DT} (hk : mkDT y mo d h mi s ms = some t) :
    t = ⟨y, mo, d, h, mi, s, ms⟩ ∧ t.Valid := by
  rw [mkDT_eq] at hk
  split at hk
  · cases hk; exact ⟨rfl, ‹_›⟩
  · cases hk

theorem ediv_emod_digits (q : Int) {r k : Int} (h0 : 0 ≤ r) (h1 : r < k) : (q * k + r) / k = q ∧ (q * k + r) % k = r :=
  (Int.ediv_emod_unique (Int.lt_of_le_of_lt h0 h1)).2 ⟨by rw [Int.add_comm, Int.mul_comm], h0, h1⟩

/-- the four time fields are the mixed-radix digits of the time of day in milliseconds -/
theorem tod_of_fields {h mi s ms : Int} (hb : 0 ≤ h ∧ h ≤ 23 ∧ 0 ≤ mi ∧ mi ≤ 59 ∧ 0 ≤ s ∧ s ≤ 59 ∧ 0 ≤ ms ∧ ms ≤ 999) :
    0 ≤ ((h * 60 + mi) * 60 + s) * 1000 + ms ∧ ((h * 60 + mi) * 60 + s) * 1000 + ms < 86400000 ∧
    (((h * 60 + mi) * 60 + s) * 1000 + ms) / 3600000 = h ∧ (((h * 60 + mi) * 60 + s) * 1000 + ms) / 60000 % 60 = mi ∧
    (((h * 60 + mi) * 60 + s) * 1000 + ms) / 1000 % 60 = s ∧ (((h * 60 + mi) * 60 + s) * 1000 + ms) % 1000 = ms := by
  omega

/-- … and conversely every time of day has digits in range -/
theorem tod_fields {tod : Int} (h0 : 0 ≤ tod) (h1 : tod < 86400000) :
    0 ≤ tod / 3600000 ∧ tod / 3600000 ≤ 23 ∧ 0 ≤ tod / 60000 % 60 ∧ tod / 60000 % 60 ≤ 59 ∧
    0 ≤ tod / 1000 % 60 ∧ tod / 1000 % 60 ≤ 59 ∧ 0 ≤ tod % 1000 ∧ tod % 1000 ≤ 999 ∧
    ((tod / 3600000 * 60 + tod / 60000 % 60) * 60 + tod / 1000 % 60) * 1000 + tod % 1000 = tod := by
  omega

theorem fromOrdinalMs_tod (ord : Int) {h mi s ms : Int}
    (hb : 0 ≤ h ∧ h ≤ 23 ∧ 0 ≤ mi ∧ mi ≤ 59 ∧ 0 ≤ s ∧ s ≤ 59 ∧ 0 ≤ ms ∧ ms ≤ 999) :
    fromOrdinalMs ord (((h * 60 + mi) * 60 + s) * 1000 + ms) =
      if 1 ≤ ord ∧ ord ≤ maxOrdinal then some ⟨(ord2ymd ord).1, (ord2ymd ord).2.1, (ord2ymd ord).2.2, h, mi, s, ms⟩ else none := by
  obtain ⟨_, _, q1, q2, q3, q4⟩ := tod_of_fields hb
  simp only [fromOrdinalMs, q1, q2, q3, q4]

theorem fromOrdinalMs_some {ord tod : Int} {t : DT} (h : fromOrdinalMs ord tod = some t)
    (h0 : 0 ≤ tod) (h1 : tod < msPerDay) : t.Valid ∧ toLocalMs t = (ord - 1) * msPerDay + tod := by
  unfold fromOrdinalMs at h
  split at h
  · rename_i hr
    have hs := ord2ymd_sound ord
    have hy := (year_range_iff (ord2ymd_valid ord)).2 (by rw [hs.2.2.2.2]; exact hr)
    obtain ⟨f1, f2, f3, f4, f5, f6, f7, f8, f9⟩ := tod_fields h0 h1
    cases h
    exact ⟨⟨hy.1, hy.2, hs.1, hs.2.1, hs.2.2.1, hs.2.2.2.1, f1, f2, f3, f4, f5, f6, f7, f8⟩,
      by simp only [toLocalMs, hs.2.2.2.2, f9]⟩
  · cases h

theorem fromOrdinalMs_of_valid {t : DT} (hv : t.Valid) :
    fromOrdinalMs (ymd2ord t.year t.month t.day) (((t.hour * 60 + t.minute) * 60 + t.second) * 1000 + t.ms) = some t := by
  have hmd : ValidMD t.year t.month t.day := ⟨hv.2.2.1, hv.2.2.2.1, hv.2.2.2.2.1, hv.2.2.2.2.2.1⟩
  rw [fromOrdinalMs_tod _ hv.2.2.2.2.2.2, if_pos ((year_range_iff hmd).1 ⟨hv.1, hv.2.1⟩), ord2ymd_ymd2ord hmd]

theorem ofLocalMs_toLocalMs {t : DT} (hv : t.Valid) : ofLocalMs (toLocalMs t) = some t := by
  obtain ⟨b0, b1, _⟩ := tod_of_fields hv.2.2.2.2.2.2
  obtain ⟨e1, e2⟩ := ediv_emod_digits (ymd2ord t.year t.month t.day - 1) b0 b1
  simp only [ofLocalMs, toLocalMs, msPerDay, e1, e2, Int.sub_add_cancel]
  exact fromOrdinalMs_of_valid hv

theorem toLocalMs_ofLocalMs {x : Int} {t : DT} (h : ofLocalMs x = some t) : t.Valid ∧ toLocalMs t = x := by
  have := fromOrdinalMs_some h (Int.emod_nonneg x (by decide)) (Int.emod_lt_of_pos x (by decide))
  exact ⟨this.1, by rw [this.2, Int.add_sub_cancel, Int.mul_comm]; exact Int.mul_ediv_add_emod x msPerDay⟩

end C16
