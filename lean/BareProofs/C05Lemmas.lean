import BareModel.HostPy

/-!
# C05 — helper lemmas: which exception classes each host primitive can raise

`Only S r` : the partial computation `r` raises nothing outside the class set `S`.
The lemmas follow the call graph of the operator block bottom-up:
`toFloat/asFloat` → `py{Add,Sub,Mul,Div,Mod,Pow}` → `dtPlus/dtMinus/dtString` → `jsonVal/valueString/concat{L,R}` →
`cmpVal/cmpOp` → the two steps of `binopPy` itself (`okVal`, the `_is_number` guard).
Each proof walks the branches of the definition: a branch returns, raises a class of `S`, or passes on what an earlier
step raised (`Only.raise`).
-/

namespace C05
open HostPy

/-- `r` raises only exceptions of the classes in `S` -/
def Only {α : Type} (S : HostExc → Bool) (r : Except HostExc α) : Prop := ∀ e, r = .error e → S e = true

section
variable {α β : Type} {S T : HostExc → Bool}

theorem Only.ok (a : α) : Only S (.ok a : Except HostExc α) := nofun

theorem Only.err {e : HostExc} (h : S e = true) : Only S (.error e : Except HostExc α) := by
  intro e' h'; cases h'; exact h

theorem Only.mono {r : Except HostExc α} (hr : Only S r) (hST : ∀ e, S e = true → T e = true) : Only T r :=
  fun e h => hST e (hr e h)

theorem Only.raise {r : Except HostExc α} {e : HostExc} (hr : Only S r) (h : r = .error e) :
    Only S (.error e : Except HostExc β) := Only.err (hr e h)
end

def sOverflow (e : HostExc) : Bool := e == .overflow
def sZeroDiv (e : HostExc) : Bool := e == .zeroDivision
def sArith (e : HostExc) : Bool := e.isArithmetic
def sOvVal (e : HostExc) : Bool := e == .overflow || e == .valueError
def sOvRec (e : HostExc) : Bool := e == .overflow || e == .recursion
def sOvValRec (e : HostExc) : Bool := e == .overflow || e == .valueError || e == .recursion
def sNone (_ : HostExc) : Bool := false

theorem sOverflow_arith : ∀ e, sOverflow e = true → sArith e = true := by intro e; cases e <;> decide
theorem sZeroDiv_arith : ∀ e, sZeroDiv e = true → sArith e = true := by intro e; cases e <;> decide
theorem sOverflow_ovVal : ∀ e, sOverflow e = true → sOvVal e = true := by intro e; cases e <;> decide
theorem sOvVal_ovValRec : ∀ e, sOvVal e = true → sOvValRec e = true := by intro e; cases e <;> decide
theorem sOverflow_ovRec : ∀ e, sOverflow e = true → sOvRec e = true := by intro e; cases e <;> decide
theorem sOverflow_ovValRec : ∀ e, sOverflow e = true → sOvValRec e = true := by intro e; cases e <;> decide

/-! ## numbers -/

theorem toFloat_only (F : Libm) (n : Int) : Only sOverflow (toFloat F n) := by
  unfold toFloat
  split
  · exact Only.ok _
  · exact Only.err rfl

theorem asFloat_only (F : Libm) {v : PyVal} (hv : isNumber v = true) : Only sOverflow (asFloat F v) := by
  cases v <;> first | exact toFloat_only F _ | exact Only.ok _ | cases hv

/-- shape shared by `+ - *`: two conversions, then a total float operation -/
theorem conv2_only (F : Libm) {a b : PyVal} (ha : isNumber a = true) (hb : isNumber b = true) (g : PyFloat → PyFloat → PyFloat) :
    Only sOverflow (match asFloat F a with
      | .error e => .error e
      | .ok x => match asFloat F b with
        | .error e => .error e
        | .ok y => (.ok (.float (g x y)) : Except HostExc PyVal)) := by
  split
  · exact (asFloat_only F ha).raise ‹_›
  · split
    · exact (asFloat_only F hb).raise ‹_›
    · exact Only.ok _

theorem pyAdd_only (F : Libm) {a b : PyVal} (ha : isNumber a = true) (hb : isNumber b = true) : Only sOverflow (pyAdd F a b) := by
  unfold pyAdd
  split
  · exact Only.ok _
  · exact conv2_only F ha hb _

theorem pySub_only (F : Libm) {a b : PyVal} (ha : isNumber a = true) (hb : isNumber b = true) : Only sOverflow (pySub F a b) := by
  unfold pySub
  split
  · exact Only.ok _
  · exact conv2_only F ha hb _

theorem pyMul_only (F : Libm) {a b : PyVal} (ha : isNumber a = true) (hb : isNumber b = true) : Only sOverflow (pyMul F a b) := by
  unfold pyMul
  split
  · exact Only.ok _
  · exact conv2_only F ha hb _

theorem fDiv_only (F : Libm) (x y : PyFloat) : Only sZeroDiv (fDiv F x y) := by
  unfold fDiv
  split
  · exact Only.err rfl
  · split <;> exact Only.ok _

theorem fMod_only (F : Libm) (x y : PyFloat) : Only sZeroDiv (fMod F x y) := by
  unfold fMod
  split
  · exact Only.err rfl
  · split <;> exact Only.ok _

/-- shape shared by `/ %` on non-(int,int) operands: two conversions, then a float operation that may raise ZeroDivisionError -/
theorem conv2E_only (F : Libm) {a b : PyVal} (ha : isNumber a = true) (hb : isNumber b = true)
    (g : PyFloat → PyFloat → Except HostExc PyFloat) (hg : ∀ x y, Only sZeroDiv (g x y)) :
    Only sArith (match asFloat F a with
      | .error e => .error e
      | .ok x => match asFloat F b with
        | .error e => .error e
        | .ok y => match g x y with
          | .error e => .error e
          | .ok z => (.ok (.float z) : Except HostExc PyVal)) := by
  have hf := fun {v} (hv : isNumber v = true) => (asFloat_only F hv).mono sOverflow_arith
  split
  · exact (hf ha).raise ‹_›
  · split
    · exact (hf hb).raise ‹_›
    · split
      · exact ((hg _ _).mono sZeroDiv_arith).raise ‹_›
      · exact Only.ok _

theorem pyDiv_only (F : Libm) {a b : PyVal} (ha : isNumber a = true) (hb : isNumber b = true) : Only sArith (pyDiv F a b) := by
  unfold pyDiv
  split
  · split
    · exact Only.err rfl
    · split
      · exact Only.ok _
      · exact Only.err rfl
  · exact conv2E_only F ha hb _ (fDiv_only F)

theorem pyMod_only (F : Libm) {a b : PyVal} (ha : isNumber a = true) (hb : isNumber b = true) : Only sArith (pyMod F a b) := by
  unfold pyMod
  split
  · split
    · exact Only.err rfl
    · exact Only.ok _
  · exact conv2E_only F ha hb _ (fMod_only F)

theorem powPosE_only (F : Libm) (a y : Rat) : Only sOverflow (powPosE F a y) := by
  unfold powPosE
  split
  · exact Only.ok _
  · split
    · exact Only.ok _
    · exact Only.err rfl
    · exact Only.ok _

theorem fPow_only (F : Libm) (x y : PyFloat) : Only sArith (fPow F x y) := by
  have hp := fun a y => (powPosE_only F a y).mono sOverflow_arith
  unfold fPow
  by_cases hy : y.isZero = true
  · rw [if_pos hy]; exact Only.ok _
  · rw [if_neg hy]
    -- only finite ** finite can raise: 0 ** negative, and an overflowing power (real or complex)
    cases x with
    | nan => exact Only.ok _
    | inf xn =>
      cases y with
      | fin q => dsimp only; split <;> exact Only.ok _
      | _ => exact Only.ok _
    | fin p =>
      cases y with
      | fin q =>
        dsimp only
        split
        · split
          · exact Only.err rfl
          · exact Only.ok _
        · split
          · split
            · split
              · exact Only.err rfl
              · exact Only.ok _
            · split
              · exact Only.ok _
              · exact (hp _ _).raise ‹_›
          · split
            · exact Only.ok _
            · exact (hp _ _).raise ‹_›
      | _ => exact Only.ok _

theorem floatPowOut_only (F : Libm) (x y : PyFloat) : Only sArith (floatPowOut F x y) := by
  unfold floatPowOut
  split
  · exact (fPow_only F x y).raise ‹_›
  · exact Only.ok _
  · exact Only.ok _

theorem pyPow_only (F : Libm) {a b : PyVal} (ha : isNumber a = true) (hb : isNumber b = true) : Only sArith (pyPow F a b) := by
  unfold pyPow
  split
  · split
    · exact Only.ok _
    · split
      · exact ((toFloat_only F _).mono sOverflow_arith).raise ‹_›
      · split
        · exact ((toFloat_only F _).mono sOverflow_arith).raise ‹_›
        · exact floatPowOut_only F _ _
  · split
    · exact ((asFloat_only F ha).mono sOverflow_arith).raise ‹_›
    · split
      · exact ((asFloat_only F hb).mono sOverflow_arith).raise ‹_›
      · exact floatPowOut_only F _ _

theorem pyFloatOf_only (F : Libm) {v : PyVal} (hv : isNumber v = true) : Only sOverflow (pyFloatOf F v) := by
  unfold pyFloatOf
  split
  · exact Only.ok _
  · exact (asFloat_only F hv).raise ‹_›

theorem pyFloatOf_isNumber (F : Libm) {v w : PyVal} (h : pyFloatOf F v = .ok w) : isNumber w = true := by
  unfold pyFloatOf at h
  split at h <;> cases h
  rfl

theorem pyMulF_only (F : Libm) {a b : PyVal} (ha : isNumber a = true) (hb : isNumber b = true) : Only sOverflow (pyMulF F a b) := by
  unfold pyMulF
  split
  · exact pyMul_only F (pyFloatOf_isNumber F ‹_›) hb
  · exact (pyFloatOf_only F ha).raise ‹_›

theorem pyPowF_only (F : Libm) {a b : PyVal} (ha : isNumber a = true) (hb : isNumber b = true) : Only sArith (pyPowF F a b) := by
  unfold pyPowF
  split
  · exact pyPow_only F (pyFloatOf_isNumber F ‹_›) hb
  · exact ((pyFloatOf_only F ha).mono sOverflow_arith).raise ‹_›

/-- unary minus behind its guard never raises -/
theorem pyNeg_total {v : PyVal} (hv : isNumber v = true) : ∃ r, pyNeg v = .ok r := by
  cases v <;> first | exact ⟨_, rfl⟩ | cases hv

/-! ## datetimes -/

theorem normalizeDt_only (F : Libm) (k : DtKind) (t : Int) : Only sOverflow (normalizeDt F k t) := by
  unfold normalizeDt
  split
  · split
    · exact Only.ok _
    · exact Only.err rfl
  · exact Only.ok _

theorem timedeltaUs_only (F : Libm) {v : PyVal} (hv : isNumber v = true) : Only sOvVal (timedeltaUs F v) := by
  unfold timedeltaUs
  split
  · exact Only.ok _
  · exact Only.ok _
  · exact Only.err rfl
  · exact Only.err rfl
  · -- the last row is for operands that are not numbers
    rename_i h1 h2 h3 h4
    cases v <;> first | exact absurd rfl (h1 _) | cases hv | skip
    rename_i x
    cases x
    · exact absurd rfl (h2 _)
    · exact absurd rfl (h3 _)
    · exact absurd rfl h4

theorem dtPlus_only (F : Libm) (k : DtKind) (t : Int) {ms : PyVal} (hv : isNumber ms = true) : Only sOvVal (dtPlus F k t ms) := by
  unfold dtPlus
  split
  · exact ((normalizeDt_only F k t).mono sOverflow_ovVal).raise ‹_›
  · split
    · exact (timedeltaUs_only F hv).raise ‹_›
    · split
      · exact Only.ok _
      · exact Only.err rfl

theorem dtMinus_only (F : Libm) (k1 : DtKind) (t1 : Int) (k2 : DtKind) (t2 : Int) : Only sOverflow (dtMinus F k1 t1 k2 t2) := by
  unfold dtMinus
  split
  · exact (normalizeDt_only F _ _).raise ‹_›
  · split
    · exact (normalizeDt_only F _ _).raise ‹_›
    · exact Only.ok _

theorem dtString_only (F : Libm) (k : DtKind) (t : Int) : Only sOvVal (dtString F k t) := by
  unfold dtString
  split
  · exact ((normalizeDt_only F k t).mono sOverflow_ovVal).raise ‹_›
  · split
    · exact Only.ok _
    · exact Only.err rfl
    · exact Only.err rfl

/-! ## stringification -/

theorem pyStrInt_only (n : Int) : Only sOvValRec (pyStrInt n) := by
  unfold pyStrInt
  split
  · exact Only.err rfl
  · exact Only.ok _

theorem mapE_only {α β : Type} {S : HostExc → Bool} (f : α → Except HostExc β) (hf : ∀ x, Only S (f x)) :
    ∀ xs, Only S (mapE f xs)
  | [] => Only.ok _
  | x :: xs => by
    unfold mapE
    split
    · exact (hf x).raise ‹_›
    · split
      · exact (mapE_only f hf xs).raise ‹_›
      · exact Only.ok _

/-- the JSON encoder raises only ValueError (circular reference, non-finite float, int digit limit, datetime out of
range), OverflowError (aware datetime normalisation) and RecursionError — for every heap, fuel and marker path -/
theorem jsonVal_only (F : Libm) (h : Heap) : ∀ fuel path v, Only sOvValRec (jsonVal F h fuel path v)
  | 0, _, _ => by unfold jsonVal; exact Only.err rfl
  | fuel+1, path, v => by
    have ih := jsonVal_only F h fuel
    unfold jsonVal
    split
    · exact Only.ok _
    · exact Only.ok _
    · exact pyStrInt_only _
    · exact Only.ok _
    · exact Only.err rfl
    · exact Only.ok _
    · split
      · exact Only.ok _
      · exact ((dtString_only F _ _).mono sOvVal_ovValRec).raise ‹_›
    · exact Only.ok _
    · exact Only.ok _
    · rename_i r
      split
      · exact Only.err rfl
      · split
        · exact (mapE_only _ (ih (r :: path)) _).raise ‹_›
        · exact Only.ok _
    · rename_i r
      split
      · exact Only.err rfl
      · split
        · refine (mapE_only _ (fun kv => ?_) _).raise ‹_›
          split
          · exact Only.ok _
          · exact (ih (r :: path) kv.2).raise ‹_›
        · exact Only.ok _

theorem valueString_only (F : Libm) (h : Heap) (v : PyVal) : Only sOvValRec (valueString F h v) := by
  cases v with
  | int n => exact pyStrInt_only n
  | dt k t => exact (dtString_only F k t).mono sOvVal_ovValRec
  | dict r => exact jsonVal_only F h _ _ _
  | list r => exact jsonVal_only F h _ _ _
  | _ => exact Only.ok _

theorem concatL_only (F : Libm) (h : Heap) (s : String) (v : PyVal) : Only sOvValRec (concatL F h s v) := by
  unfold concatL
  split
  · exact Only.ok _
  · exact (valueString_only F h v).raise ‹_›

theorem concatR_only (F : Libm) (h : Heap) (v : PyVal) (s : String) : Only sOvValRec (concatR F h v s) := by
  unfold concatR
  split
  · exact Only.ok _
  · exact (valueString_only F h v).raise ‹_›

/-! ## comparison -/

theorem cmpLists_only {S : HostExc → Bool} (f : PyVal → PyVal → Except HostExc Int) (hf : ∀ x y, Only S (f x y)) :
    ∀ xs ys, Only S (cmpLists f xs ys)
  | [], [] | [], _ :: _ | _ :: _, [] => by unfold cmpLists; exact Only.ok _
  | x :: xs, y :: ys => by
    unfold cmpLists
    split
    · exact (hf x y).raise ‹_›
    · split
      · exact Only.ok _
      · exact cmpLists_only f hf xs ys

theorem cmpItems_only {S : HostExc → Bool} (f : PyVal → PyVal → Except HostExc Int) (hf : ∀ x y, Only S (f x y)) :
    ∀ xs ys, Only S (cmpItems f xs ys)
  | [], [] | [], _ :: _ | _ :: _, [] => by unfold cmpItems; exact Only.ok _
  | x :: xs, y :: ys => by
    unfold cmpItems
    dsimp only
    split
    · exact Only.ok _
    · split
      · exact (hf _ _).raise ‹_›
      · split
        · exact Only.ok _
        · exact cmpItems_only f hf xs ys

/-- `value_compare` raises only RecursionError (nesting beyond the limit, self-containing containers) and OverflowError
(normalising an aware datetime at the edge of the range) -/
theorem cmpVal_only (F : Libm) (h : Heap) : ∀ fuel a b, Only sOvRec (cmpVal F h fuel a b)
  | 0, _, _ => by unfold cmpVal; exact Only.err rfl
  | fuel+1, a, b => by
    have ih := cmpVal_only F h fuel
    have hn := fun k t => (normalizeDt_only F k t).mono sOverflow_ovRec
    unfold cmpVal
    split
    any_goals exact Only.ok _
    · split
      · exact (hn _ _).raise ‹_›
      · split
        · exact (hn _ _).raise ‹_›
        · exact Only.ok _
    · exact cmpLists_only _ ih _ _
    · exact cmpItems_only _ ih _ _
    · split <;> exact Only.ok _

theorem cmpOp_only (F : Libm) (h : Heap) (a b : PyVal) (t : Int → Bool) : Only sOvRec (cmpOp F h a b t) := by
  unfold cmpOp
  split
  · exact Only.ok _
  · exact (cmpVal_only F h _ _ _).raise ‹_›

/-! ## the operator block -/

theorem okVal_only {S : HostExc → Bool} {r : Except HostExc PyVal} (hr : Only S r) : Only S (okVal r) := by
  unfold okVal
  split
  · exact Only.ok _
  · exact hr.raise rfl

/-- the `_is_number(left) and _is_number(right)` dispatch: the guarded row may assume both operands are numbers -/
theorem numGuard_only {S : HostExc → Bool} {a b : PyVal} {r s : Except HostExc PowOut}
    (hr : isNumber a = true → isNumber b = true → Only S r) (hs : Only S s) :
    Only S (if (isNumber a && isNumber b) = true then r else s) := by
  split
  · rename_i hn; exact hr (Bool.and_eq_true_iff.1 hn).1 (Bool.and_eq_true_iff.1 hn).2
  · exact hs

end C05
