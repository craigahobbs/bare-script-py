import BareProofs.C06Regex4
import BareProofs.C06Regex5Lemmas

/-!
# C06Regex5 — `function`, the hypothesis-free cascade `shape_is_cascade`, and its corollary for `classifyL`
-/

namespace C06Regex
open Rx Text Scan RxPatterns

/-! ## the scanner side of `function`, as data -/

theorem funcBegin?_eq (s : Chars) :
    funcBegin? s = match keyword? "async" s with
      | some r => C10.funcScan true (lstripL r)
      | none => C10.funcScan false s := C10.funcBegin?_scan s

/-- the same in terms of `funcTail` / `closeOK` -/
def funcRest (isAsync : Bool) (s1 : Chars) : Option Shape :=
  match keyword? "function" s1 with
  | none => none
  | some r1 =>
    match ws1? r1 with
    | none => none
    | some r2 =>
      match ident? r2 with
      | none => none
      | some (name, r3) =>
        match lstripL r3 with
        | x :: r4 => if x = '(' then funcTail name isAsync (lstripL r4) else none
        | [] => none

theorem close_scan (R : Chars) (v : Shape) :
    (match lstripL R with
      | ')' :: r =>
        match lstripL r with
        | ':' :: r => if allSpace r then some v else none
        | _ => none
      | _ => none) = if closeOK R then some v else none := by
  unfold closeOK
  cases lstripL R with
  | nil => rfl
  | cons x r =>
    by_cases hx : x = ')'
    · subst hx
      simp only [beq_self_eq_true, Bool.true_and]
      cases lstripL r with
      | nil => rfl
      | cons y r' =>
        by_cases hy : y = ':'
        · subst hy; simp only [beq_self_eq_true, Bool.true_and]
        · have := head_ne hy r'
          simp only [beq_eq_false_iff_ne.mpr hy, Bool.false_and, Bool.false_eq_true, if_false]
    · have := head_ne hx r
      simp only [beq_eq_false_iff_ne.mpr hx, Bool.false_and, Bool.false_eq_true, if_false]

theorem funcScan_spec (isAsync : Bool) (s1 : Chars) : C10.funcScan isAsync s1 = funcRest isAsync s1 := by
  unfold C10.funcScan funcRest
  cases keyword? "function" s1 with
  | none => rfl
  | some r1 =>
    simp only []
    cases ws1? r1 with
    | none => rfl
    | some r2 =>
      simp only []
      cases ident? r2 with
      | none => rfl
      | some nr =>
        obtain ⟨name, r3⟩ := nr
        simp only []
        cases hl3 : lstripL r3 with
        | nil => rfl
        | cons x r4 =>
          by_cases hx : x = '('
          · subst hx
            simp only [if_true]
            unfold funcTail
            cases ident? (lstripL r4) with
            | none =>
              simp only []
              cases keyword? "..." (lstripL (lstripL r4)) with
              | none => simp only []; exact close_scan _ _
              | some r8 => simp only []; exact close_scan _ _
            | some ar =>
              obtain ⟨a, r6⟩ := ar
              simp only []
              cases keyword? "..." (lstripL (argsLoop r6.length r6).2) with
              | none => simp only []; exact close_scan _ _
              | some r8 => simp only []; exact close_scan _ _
          · have := head_ne hx r4
            simp only [hx, if_false]

/-! ## the engine side of `function` -/

/-- `function\s+(?P<name>…)\s*\(\s*(?P<args>…)?(?P<lastArgArray>…)?\s*\)\s*:\s*$`, what follows the optional `async` -/
def funcBody : Rx :=
  kw "function".toList ⬝ ws1 ⬝ Rx.cap 2 (some "name") ident ⬝ ws ⬝ elit '(' ⬝ ws ⬝
    Rx.opt (.cap 3 (some "args") (ident ⬝ .star argIter)) ⬝ K5rx

theorem startsNonBlank_function : startsNonBlank "function" = true := by decide +kernel

theorem func_rx (line : Chars) (isAsync : Bool) (p : Nat) (s1 : Chars) (caps : List (Nat × Nat × Nat))
    (hd : line.drop p = s1) (hnl : '\n' ∉ s1) (h1 : (caps.lookup 1).isSome = isAsync)
    (h3 : caps.lookup 3 = none) (h4 : caps.lookup 4 = none) :
    (funcBody.m ⟨p, s1, caps⟩ some).bind (funcReader line) = funcRest isAsync s1 := by
  rw [funcBody, seq_m, kw_m "function" startsNonBlank_function]
  unfold funcRest
  cases hk : keyword? "function" s1 with
  | none => rfl
  | some r1 =>
    have hr1 : '\n' ∉ r1 := noNL_keyword hnl hk
    have hd1 : line.drop (p + "function".length) = r1 := by rw [← List.drop_drop, hd, keyword?_drop hk]
    simp only []
    rw [ws1_det _ _ _ ((avoids_cap_ident _ _).seq _ _)]
    cases r1 with
    | nil => rfl
    | cons c r0 =>
      have hr0 : '\n' ∉ r0 := fun hm => hr1 (List.mem_cons_of_mem _ hm)
      by_cases hc : isSpace c = true
      · rw [show ws1? (c :: r0) = some (lstripL r0) from by simp [ws1?, hc]]
        simp only [hc, if_true]
        have hd2 : line.drop (p + "function".length + 1 + (r0.takeWhile isSpace).length) = lstripL r0 :=
          drop_ws (drop_add_of_drop line [c] r0 _ hd1)
        rw [seq_m, cap_ident_det _ _ _ _ (by unfold elit; exact rejects_ws_lit isWord true '(' (word_ne (by decide)) _ _)]
        cases hi : ident? (lstripL r0) with
        | none => rfl
        | some nr =>
          obtain ⟨name, r3⟩ := nr
          have hr3 : '\n' ∉ r3 := noNL_ident (not_mem_dropWhile hr0) hi
          have hsp := C10.ident?_decomp hi
          have hd3 := drop_add_of_drop line name r3 _ (hd2.trans hsp)
          have hg2 := slice_prefix line _ _ name r3 (hd2.trans hsp) rfl
          simp only []
          unfold elit
          rw [ws_lit_det true '(' (by decide)]
          cases hl3 : lstripL r3 with
          | nil => rfl
          | cons x r4 =>
            by_cases hx : x = '('
            · subst hx
              have hr4 : '\n' ∉ r4 := noNL_lstrip_tail hr3 hl3
              have hd5 : line.drop (p + "function".length + 1 + (r0.takeWhile isSpace).length + name.length +
                  (r3.takeWhile isSpace).length + 1 + (r4.takeWhile isSpace).length) = lstripL r4 :=
                drop_ws (drop_ws_char hd3 hl3)
              simp only [if_true]
              rw [ws_K4 _ _ _ hr4]
              exact func_read line name isAsync _ (lstripL r4) _ hd5 (not_mem_dropWhile hr4)
                (by simp [List.lookup, hg2]) (by simp only [List.lookup]; exact h1) (by simp only [List.lookup]; exact h3)
                (by simp only [List.lookup]; exact h4)
            · simp [hx]
      · simp [hc, ws1?]

theorem map_shift_ite (c : Prop) [Decidable c] (n : Chars) (a : List Chars) (l b : Bool) (k : Nat) :
    (if c then some (Shape.funcBegin n a l b) else none).map (Shape.shift k) = if c then some (Shape.funcBegin n a l b) else none := by
  split <;> rfl

theorem funcTail_shift (name : Chars) (b : Bool) (r : Chars) (k : Nat) :
    (funcTail name b r).map (Shape.shift k) = funcTail name b r := by
  unfold funcTail
  exact map_shift_ite _ _ _ _ _ _

theorem funcRest_shift (b : Bool) (s : Chars) (k : Nat) : (funcRest b s).map (Shape.shift k) = funcRest b s := by
  unfold funcRest
  split
  · rfl
  · split
    · rfl
    · split
      · rfl
      · split
        · split
          · exact funcTail_shift _ _ _ _
          · rfl
        · rfl

theorem keyword?_async_function {s r : Chars} (h : keyword? "async" s = some r) : keyword? "function" s = none := by
  unfold keyword? at h ⊢
  cases s with
  | nil => simp [show "async".toList = ['a', 's', 'y', 'n', 'c'] from rfl] at h
  | cons c t =>
    by_cases hc : c = 'a'
    · subst hc; simp [show "function".toList = ['f', 'u', 'n', 'c', 't', 'i', 'o', 'n'] from rfl, List.isPrefixOf]
    · have : ¬ 'a' = c := fun e => hc e.symm
      simp [show "async".toList = ['a', 's', 'y', 'n', 'c'] from rfl, List.isPrefixOf, this] at h

/-- **`_R_SCRIPT_FUNCTION_BEGIN`**: `^(?P<async>\s*async)?\s*function\s+(?P<name>…)\s*\(\s*(?P<args>…)?(?P<lastArgArray>\s*\.\.\.)?`
`\s*\)\s*:\s*$`, `args` split by `_R_SCRIPT_FUNCTION_ARG_SPLIT`. -/
theorem function_regex (line : Chars) (hnl : '\n' ∉ line) : onLine funcBegin? line = rxFunction line := by
  have hshape : functionBegin = Rx.bol ⬝ Rx.opt (.cap 1 (some "async") (ws ⬝ kw "async".toList)) ⬝ ws ⬝ funcBody := rfl
  have hasync : startsNonBlank "async" = true := by decide +kernel
  have hF : RejectsHead isSpace (fun st => funcBody.m st some) := (avoids_kw startsNonBlank_function).seq _ some
  have hws : ∀ st, (ws ⬝ funcBody).m st some = funcBody.m (skip isSpace st) some := fun st => ws_det st _ hF
  unfold onLine rxFunction matchAt matchFrom
  rw [hshape, funcBegin?_eq]
  change _ = (Rx.m _ _ some).bind (funcReader line)
  rw [seq_m, bol_m, seq_m, opt_m, cap_m, seq_m, ws_det _ _ (avoids_kw hasync _), kw_m "async" hasync, hws]
  simp only [if_true, skip, show List.dropWhile isSpace line = lstripL line from rfl]
  have hs : '\n' ∉ lstripL line := not_mem_dropWhile hnl
  have hdi : line.drop (0 + (line.takeWhile isSpace).length) = lstripL line := by rw [Nat.zero_add]; exact drop_ind line
  cases hka : keyword? "async" (lstripL line) with
  | none =>
    simp only []
    rw [none_orElse,
      func_rx line false _ (lstripL line) [] hdi hs rfl rfl rfl, funcScan_spec, funcRest_shift]
  | some r =>
    have hr : '\n' ∉ r := noNL_keyword hs hka
    have hdr : line.drop (0 + (line.takeWhile isSpace).length + "async".length) = r := by
      rw [← List.drop_drop, hdi, keyword?_drop hka]
    simp only []
    rw [hws]
    simp only [skip]
    have hnone : funcBody.m ⟨0 + (line.takeWhile isSpace).length, lstripL line, []⟩ some = none := by
      rw [funcBody, seq_m, kw_m "function" startsNonBlank_function]
      simp only [keyword?_async_function hka]
    rw [hnone, orElse_none', show List.dropWhile isSpace r = lstripL r from rfl,
      func_rx line true _ (lstripL r) _ (by rw [← List.drop_drop, hdr]; exact drop_ind r) (not_mem_dropWhile hr)
        rfl rfl rfl,
      funcScan_spec, funcRest_shift]

example : '\n' ∉ " async function  f ( a , b ... ) : ".toList ∧
    rxFunction " async function  f ( a , b ... ) : ".toList = some (.funcBegin ['f'] [['a'], ['b']] true true) := by decide_lit
example : rxFunction "function g():".toList = some (.funcBegin ['g'] [] false false) ∧
    rxFunction "function f(a,):".toList = none := by decide_lit

/-! ## the cascade -/

/-- **`Scan.shape` IS the regex cascade of parser.py**: for every line without `'\n'`, the hand-written classifier equals
`RxPatterns.rxShape` — every statement pattern tried in the order of `parse_script` by the backtracking matcher `Rx.matchAt` on
the pattern AST (rendering pinned to the regenerated sources: `sources_pinned`), followed by parser.py's reading of the groups. -/
theorem shape_is_cascade (line : Chars) (hnl : '\n' ∉ line) : shape line = rxShape line :=
  shape_is_cascade_partial4 line hnl (function_regex line hnl)

/-- the classification of a logical line is decided by the regex cascade on the pinned ASTs: `Scan.classifyL` with `shape`
replaced by `rxShape` -/
def rxClassifyL (parseExpr : String → Except ParseErr Expr) (line : Chars) : Except ParseErr Line :=
  let ex (off : Nat) (e : Chars) : Except ParseErr Expr := shiftErr off (parseExpr (String.ofList e))
  match rxShape line with
  | .assign n off e => (ex off e).map (Line.assign (nameOf n))
  | .funcBegin n args laa isAsync => .ok (.funcBegin (nameOf n) (args.map nameOf) laa isAsync)
  | .funcEnd => .ok .funcEnd
  | .ifBegin off e => (ex off e).map Line.ifBegin
  | .elif off e => (ex off e).map Line.elif
  | .else_ => .ok .else_
  | .endif => .ok .endif
  | .whileBegin off e => (ex off e).map Line.whileBegin
  | .endwhile => .ok .endwhile
  | .forBegin v i off e => (ex off e).map (Line.forBegin (nameOf v) (i.map nameOf))
  | .endfor => .ok .endfor
  | .break_ => .ok .break_
  | .continue_ => .ok .continue_
  | .label n => .ok (.label (nameOf n))
  | .jump n none => .ok (.jump (nameOf n) none)
  | .jump n (some (off, e)) => (ex off e).map (fun c => Line.jump (nameOf n) (some c))
  | .ret none => .ok (.ret none)
  | .ret (some (off, e)) => (ex off e).map (fun c => Line.ret (some c))
  | .include url sys => .ok (.include (String.ofList url) sys)
  | .exprStmt => (parseExpr (String.ofList line)).map Line.exprStmt

/-- **corollary**: `Scan.classifyL pe line` (statement kind, group texts, re-based error columns) is determined by the regex
cascade `rxShape line`, for every expression parser `pe` -/
theorem classifyL_is_cascade (pe : String → Except ParseErr Expr) (line : Chars) (hnl : '\n' ∉ line) :
    classifyL pe line = rxClassifyL pe line := by
  unfold classifyL rxClassifyL
  rw [shape_is_cascade line hnl]
  rfl

/-- two lines with the same regex cascade result and the same text classify alike; in particular the statement kind depends on
`rxShape` only -/
theorem classify_is_cascade (pe : String → Except ParseErr Expr) (line : String) (hnl : '\n' ∉ line.toList) :
    classify pe line = rxClassifyL pe line.toList := classifyL_is_cascade pe line.toList hnl

end C06Regex
