import BareModel.HostPy
import BareModel.Machine
import BareModel.HostImpl
import BareProofs.C05Lemmas

/-!
# C05 — runtime errors are contained: only documented exceptions escape

Two levels.

**Host level** (`BareModel/HostPy.lean`: Python exceptions are values).
`binopPy` is the body of the `try:` of runtime.py:273-347 over partial Python primitives.
`binopPy_raises_only` says, operator by operator, which exception classes the body can raise *for all operands, heaps and
libm behaviours* — never TypeError/KeyError/IndexError/anything else; `handler_covers_block` says the handler
(`except (ArithmeticError, ValueError, RecursionError)`, runtime.py:351) covers every one of them, hence
`binopSafe_total`: the operator block is a TOTAL function into values.  That is exactly the totality of
`Machine.Host.binop` that the machine-level typing argument assumes.  `wrapper_contains` & co. do the same for the call
wrapper (runtime.py:240-250).

**Machine level** (`BareModel/Machine.lean`): `no_host_escape_machine` — by typing; its doc-comment states what the
typing assumes and which theorem discharges each assumption.

`refines_host_*` tie the host-level model to `HostImpl.binop`, the operator the correspondence drivers run, on the
exactly-representable fragment.
-/

namespace C05
open HostPy

/-! ## 1. the operator block -/

/-- the exception classes the body of the `try:` can raise, per operator -/
def allowedFor : BinOp → HostExc → Bool
  | .add, e => sOvValRec e        -- OverflowError (int→float, timedelta, date range), ValueError + RecursionError (value_string)
  | .sub, e => sOverflow e        -- OverflowError (int→float, aware datetime normalisation)
  | .mul, e => sOverflow e        -- OverflowError (float(int))
  | .div, e => sArith e           -- ZeroDivisionError, OverflowError
  | .mod, e => sArith e
  | .pow, e => sArith e
  | .and, _ => false
  | .or, _ => false
  | _, e => sOvRec e              -- comparisons: RecursionError, OverflowError (aware datetime normalisation)

/-- **Which host exceptions the operator block can raise** — for every operator, all operands (of any type, any
magnitude, non-finite floats, huge ints, datetimes at the edge of the range), every heap (cyclic ones included), every
rounding / libm / zone behaviour `F` and every recursion limit.  In particular: never `TypeError` (the `_is_number` /
`isinstance` dispatch guards every primitive), `KeyError`, `IndexError` or any other class. -/
theorem binopPy_raises_only (F : Libm) (h : Heap) (op : BinOp) (a b : PyVal) :
    Only (allowedFor op) (binopPy F h op a b) := by
  cases op
  case and | or => exact Only.ok _
  case pow => exact numGuard_only (pyPowF_only F) (Only.ok _)
  case mul => exact numGuard_only (fun ha hb => okVal_only (pyMulF_only F ha hb)) (Only.ok _)
  case div => exact numGuard_only (fun ha hb => okVal_only (pyDiv_only F ha hb)) (Only.ok _)
  case mod => exact numGuard_only (fun ha hb => okVal_only (pyMod_only F ha hb)) (Only.ok _)
  case sub =>
    refine numGuard_only (fun ha hb => okVal_only (pySub_only F ha hb)) ?_
    split
    · exact okVal_only (dtMinus_only F _ _ _ _)
    · exact Only.ok _
  case add =>
    refine numGuard_only (fun ha hb => (okVal_only (pyAdd_only F ha hb)).mono sOverflow_ovValRec) ?_
    split
    · exact Only.ok _
    · exact concatL_only F h _ _
    · exact concatR_only F h _ _
    · split
      · rename_i hn; exact (okVal_only (dtPlus_only F _ _ hn)).mono sOvVal_ovValRec
      · exact Only.ok _
    · split
      · rename_i hn; exact (okVal_only (dtPlus_only F _ _ hn)).mono sOvVal_ovValRec
      · exact Only.ok _
    · exact Only.ok _
  all_goals exact cmpOp_only F h a b _

/-- every class the block can raise is a class the handler of runtime.py:351 catches -/
theorem handler_covers_block : ∀ op e, allowedFor op e = true → caught e = true := by
  intro op e h
  -- four classes are caught; no operator raises any of the other four
  cases e <;> first | rfl | (cases op <;> cases h)

theorem binopPy_only_caught (F : Libm) (h : Heap) (op : BinOp) (a b : PyVal) : Only caught (binopPy F h op a b) :=
  (binopPy_raises_only F h op a b).mono (handler_covers_block op)

/-- **The operator block is total**: for every operator and ALL operands, heaps and host behaviours, `binopSafe`
(= try-body + complex test + handler) is a value.  No hypothesis: after fix F25 neither `NoHugeInt` (F17) nor `Acyclic`
(F18) is needed.  This is the totality of `Machine.Host.binop`. -/
theorem binopSafe_total (F : Libm) (h : Heap) (op : BinOp) (a b : PyVal) : ∃ v, binopSafe F h op a b = .ok v := by
  unfold binopSafe binopWith
  split
  · exact ⟨_, rfl⟩
  · exact ⟨_, rfl⟩
  · rename_i e heq
    rw [binopPy_only_caught F h op a b e heq]
    exact ⟨_, rfl⟩

/-- **No host exception escapes the operator block** — not the ArithmeticError classes (F4), not ValueError /
RecursionError (F17, F18, F25), nor any other class; and the result is never a `complex` (the type `PyVal` has none:
`.ok .complex` of the body is mapped to `None`, see `complex_is_null`). -/
theorem binopSafe_no_escape (F : Libm) (h : Heap) (op : BinOp) (a b : PyVal) (e : HostExc) : binopSafe F h op a b ≠ .error e := by
  obtain ⟨v, hv⟩ := binopSafe_total F h op a b
  rw [hv]; intro hh; cases hh

theorem complex_is_null (F : Libm) (h : Heap) (op : BinOp) (a b : PyVal) (hc : binopPy F h op a b = .ok .complex) :
    binopSafe F h op a b = .ok .none := by
  unfold binopSafe binopWith; rw [hc]

/-- a caught exception evaluates to null ("invalid operation values yield null") -/
theorem raised_is_null (F : Libm) (h : Heap) (op : BinOp) (a b : PyVal) (e : HostExc) (he : binopPy F h op a b = .error e) :
    binopSafe F h op a b = .ok .none := by
  unfold binopSafe binopWith
  rw [he]
  simp only [binopPy_only_caught F h op a b e he, if_true]

/-- **What escaped BEFORE fix F25** (handler `except ArithmeticError` only — the state after F4): exactly the classes
ValueError and RecursionError, ValueError only from `+` (string concatenation through value_string: int digit limit
F17, circular reference F18, non-finite float in a container, datetime at the edge of the range; `datetime + nan`),
RecursionError only from `+` and the six comparisons (containers nested beyond the limit or self-containing, F18).
This is the explicit list the widened handler has to cover — and all it has to cover. -/
theorem binopF4_escapes_only (F : Libm) (h : Heap) (op : BinOp) (a b : PyVal) (e : HostExc)
    (hesc : binopWith caughtF4 F h op a b = .error e) :
    (e = .valueError ∧ op = .add) ∨
    (e = .recursion ∧ (op = .add ∨ op = .eq ∨ op = .ne ∨ op = .le ∨ op = .lt ∨ op = .ge ∨ op = .gt)) := by
  unfold binopWith at hesc
  split at hesc
  · cases hesc
  · cases hesc
  · rename_i e' heq
    split at hesc
    · cases hesc
    · rename_i hnc
      cases hesc
      have hall := binopPy_raises_only F h op a b e heq
      cases e
      case zeroDivision | overflow => exact absurd rfl hnc
      case valueError => cases op <;> first | exact .inl ⟨rfl, rfl⟩ | cases hall
      case recursion => cases op <;> first | exact .inr ⟨rfl, by decide⟩ | cases hall
      all_goals cases handler_covers_block op _ hall

/-- unary minus is total behind its `_is_number` guard (runtime.py:363): no handler is needed -/
theorem negSafe_never_raises (v : PyVal) (hv : isNumber v = true) : ∃ r, pyNeg v = .ok r ∧ negSafe v = r := by
  obtain ⟨r, hr⟩ := pyNeg_total hv
  exact ⟨r, hr, by unfold negSafe; rw [hv, hr]; rfl⟩

/-! ### non-vacuity: the adversarial operands of the property all evaluate to null in the model (`HostPy.ieee` =
correctly rounded binary64).  Number literals are floats, `numberParseInt` gives ints. -/

section examples
open PyVal

instance {α : Type} [DecidableEq α] : DecidableEq (Except HostExc α) := fun a b =>
  match a, b with
  | .ok x, .ok y => if h : x = y then isTrue (by rw [h]) else isFalse (by intro hh; cases hh; exact h rfl)
  | .error x, .error y => if h : x = y then isTrue (by rw [h]) else isFalse (by intro hh; cases hh; exact h rfl)
  | .ok _, .error _ => isFalse (by intro hh; cases hh)
  | .error _, .ok _ => isFalse (by intro hh; cases hh)

def fl (q : Rat) : PyVal := .float (.fin q)

/-- 1 / 0 -/
example : binopPy ieee [] .div (fl 1) (fl 0) = .error .zeroDivision ∧ binopSafe ieee [] .div (fl 1) (fl 0) = .ok .none := by
  decide +kernel
/-- 1 % 0 -/
example : binopPy ieee [] .mod (fl 1) (fl 0) = .error .zeroDivision ∧ binopSafe ieee [] .mod (fl 1) (fl 0) = .ok .none := by
  decide +kernel
/-- 0 ** -1 -/
example : binopPy ieee [] .pow (fl 0) (fl (-1)) = .error .zeroDivision ∧ binopSafe ieee [] .pow (fl 0) (fl (-1)) = .ok .none := by
  decide +kernel
/-- (0 - 8) ** 0.5 : complex -/
example : binopPy ieee [] .pow (fl (-8)) (fl (1/2)) = .ok .complex ∧ binopSafe ieee [] .pow (fl (-8)) (fl (1/2)) = .ok .none := by
  decide +kernel
/-- int operands (numberParseInt): 1 / 0, 1 % 0 -/
example : binopSafe ieee [] .div (.int 1) (.int 0) = .ok .none ∧ binopSafe ieee [] .mod (.int 1) (.int 0) = .ok .none := by
  decide +kernel
/-- datetime + nan (F25-N1): ValueError in the block, null outside -/
example : binopPy ieee [] .add (.dt .naive 63713433600000000) (.float .nan) = .error .valueError
    ∧ binopSafe ieee [] .add (.dt .naive 63713433600000000) (.float .nan) = .ok .none := by decide +kernel
/-- '' + [inf] (F25-N2): a non-finite float inside a stringified container -/
example : binopPy ieee [.list [.float (.inf false)]] .add (.str "") (.list 0) = .error .valueError
    ∧ binopSafe ieee [.list [.float (.inf false)]] .add (.str "") (.list 0) = .ok .none := by decide +kernel
/-- '' + datetimeNew(9999,12,31) (F25-N3) -/
example : binopPy ieee [] .add (.str "") (.dt .naive (maxUs - 1000)) = .error .valueError
    ∧ binopSafe ieee [] .add (.str "") (.dt .naive (maxUs - 1000)) = .ok .none := by decide +kernel
/-- a = arrayNew(); arrayPush(a, a); '' + a (F18): circular reference -/
example : binopPy ieee [.list [.list 0]] .add (.str "") (.list 0) = .error .valueError
    ∧ binopSafe ieee [.list [.list 0]] .add (.str "") (.list 0) = .ok .none := by decide +kernel
/-- … and a == a on it: RecursionError (recursion limit 5 here so that the kernel evaluates it quickly) -/
example : binopPy { ieee with recLimit := 5 } [.list [.list 0]] .eq (.list 0) (.list 0) = .error .recursion
    ∧ binopSafe { ieee with recLimit := 5 } [.list [.list 0]] .eq (.list 0) (.list 0) = .ok .none := by decide +kernel
/-- acyclic but deeper than the recursion limit (F25-N4) -/
example : binopSafe { ieee with recLimit := 2 } [.list [], .list [.list 0], .list [.list 1]] .add (.str "") (.list 2) = .ok .none
    ∧ binopPy { ieee with recLimit := 2 } [.list [], .list [.list 0], .list [.list 1]] .add (.str "") (.list 2) = .error .recursion := by
  decide +kernel
/-- before F25 these escaped: the model of the old handler reproduces F18 -/
example : binopWith caughtF4 ieee [.list [.list 0]] .add (.str "") (.list 0) = .error .valueError := by decide +kernel
/-- ordinary cases are not null: 'a' + [1, 'x'] -/
example : binopSafe ieee [.list [.int 1, .str "x"]] .add (.str "a") (.list 0) = .ok (.str "a[1,\"x\"]") := by decide +kernel

end examples

/-! ## 2. the call wrapper (runtime.py:240-250) -/

/-- **Only the two documented exceptions pass the wrapper**: whatever the callee does — return, raise a runtime error,
raise a parser error (include inside a function, F21), raise ValueArgsError, raise ANY other exception — the call
expression either evaluates to a value or re-raises the callee's BareScriptRuntimeError / BareScriptParserError
unchanged.  (`EvalOut` has no constructor for a host exception; this theorem says which callee outcome gives which.) -/
theorem wrapper_contains (cfg : WrapCfg) (name : String) (out : CalleeOut) (log : List String) :
    (∃ v, (wrapCall cfg name out log).1 = .value v ∧ (∀ m, out ≠ .rtError m) ∧ (∀ m, out ≠ .parserError m))
    ∨ (∃ m, out = .rtError m ∧ (wrapCall cfg name out log).1 = .raiseRuntime m)
    ∨ (∃ m, out = .parserError m ∧ (wrapCall cfg name out log).1 = .raiseParser m) := by
  cases out with
  | ret v => refine .inl ⟨v, rfl, ?_, ?_⟩ <;> (intro m hm; cases hm)
  | rtError m => exact .inr (.inl ⟨m, rfl, rfl⟩)
  | parserError m => exact .inr (.inr ⟨m, rfl, rfl⟩)
  | argsError m rv => refine .inl ⟨rv, rfl, ?_, ?_⟩ <;> (intro m hm; cases hm)
  | host e m => refine .inl ⟨.none, rfl, ?_, ?_⟩ <;> (intro m hm; cases hm)

/-- a host exception of ANY class inside a library / host function never propagates -/
theorem wrapper_swallows_every_host_class (cfg : WrapCfg) (name : String) (e : HostExc) (m : String) (log : List String) :
    (wrapCall cfg name (.host e m) log).1 = .value .none := rfl

/-- **A failing call evaluates to null, or to the function's documented failure value** (the `return_value` the
function passed to `value_args_validate` / `ValueArgsError`) -/
theorem failure_is_null_or_documented (cfg : WrapCfg) (name : String) (log : List String) :
    (∀ e m, (wrapCall cfg name (.host e m) log).1 = .value .none)
    ∧ (∀ m rv, (wrapCall cfg name (.argsError m rv) log).1 = .value rv) := ⟨fun _ _ => rfl, fun _ _ => rfl⟩

/-- is the callee outcome a swallowed failure, and with which message -/
def failureMsg : CalleeOut → Option String
  | .argsError m _ => some m
  | .host _ m => some m
  | _ => none

/-- **Exactly one log line in debug mode, none otherwise**: the log after the call is the log the callee left, plus —
iff the call failed, `logFn` is present and `debug` is on — the single line
`BareScript: Function "<name>" failed with error: <message>`; nothing already logged is lost or re-ordered. -/
theorem failure_logged_once_in_debug (cfg : WrapCfg) (name : String) (out : CalleeOut) (log : List String) :
    (wrapCall cfg name out log).2 =
      match failureMsg out with
      | some m => if cfg.hasLogFn && cfg.debug then log ++ [failureLine name m] else log
      | none => log := by
  cases out <;> simp [wrapCall, failureMsg, logFailure]

theorem failure_log_length (cfg : WrapCfg) (name : String) (out : CalleeOut) (log : List String) :
    ((wrapCall cfg name out log).2).length =
      log.length + (if (failureMsg out).isSome && cfg.hasLogFn && cfg.debug then 1 else 0) := by
  rw [failure_logged_once_in_debug]
  cases failureMsg out with
  | none => simp
  | some m => by_cases hc : (cfg.hasLogFn && cfg.debug) = true <;> simp [hc]

/-- **The host configuration changes nothing but the log**: what a call evaluates to (value, or which documented
exception) is the same under every combination of `debug` and `logFn` present / absent, whatever was logged before. -/
theorem wrapper_result_config_independent (cfg cfg' : WrapCfg) (name : String) (out : CalleeOut) (log log' : List String) :
    (wrapCall cfg name out log).1 = (wrapCall cfg' name out log').1 := by
  cases out <;> rfl

/-- without a `logFn` (the member is optional), or without `debug`, the wrapper logs nothing — and needs no log
function: a failing call is still only its value -/
theorem wrapper_silent_without_logFn_or_debug (cfg : WrapCfg) (h : cfg.hasLogFn = false ∨ cfg.debug = false)
    (name : String) (out : CalleeOut) (log : List String) :
    (wrapCall cfg name out log).2 = log := by
  rw [failure_logged_once_in_debug]
  cases failureMsg out with
  | none => rfl
  | some m => rcases h with h | h <;> simp [h]

example : wrapCall ⟨true, false⟩ "arrayGet" (.host .indexError "list index out of range") []
    = (.value .none, []) := by decide +kernel

example : wrapCall ⟨true, true⟩ "arrayGet" (.host .indexError "list index out of range") ["before"]
    = (.value .none, ["before", "BareScript: Function \"arrayGet\" failed with error: list index out of range"]) := by decide +kernel
example : wrapCall ⟨false, true⟩ "arrayIndexOf" (.argsError "Invalid \"index\" argument value, 5" (.int (-1))) ["before"]
    = (.value (.int (-1)), ["before"]) := by decide +kernel
example : wrapCall ⟨true, true⟩ "ff" (.parserError "Syntax error") [] = (.raiseParser "Syntax error", []) := by decide +kernel

/-! ## 3. the machine level -/

section machine
open Machine

variable {W : Type}

/-- the Python class of each machine error: all six are one of the two documented exception classes -/
def rtErrClass : RtErr → String
  | .includeParse _ => "BareScriptParserError"
  | _ => "BareScriptRuntimeError"

/-- **No host exception at machine level — by typing.**  Every result of `evalExpr`/`callValue` is an `Out`
(`ok | err RtErr | oof`), every result of `execM`/`execute` a `Res` (`done | ret | err RtErr | oof`), and `RtErr` has six
constructors, each a BareScriptRuntimeError except `includeParse` (BareScriptParserError).  The statement is trivial;
what the typing ASSUMES about the code is not, and is discharged one level down:

* `Host.truthy`, `Host.binop`, `Host.neg` are total functions — `HostPy.truthy` is total by definition (no partial
  primitive in it), `binopSafe_total` (operator block + handler), `negSafe_never_raises` (guard);
* a library / host function body ends in `LibOut.ok | fail | rt` — i.e. it fails only INSIDE the wrapper:
  `wrapper_contains`, `libOut_of_wrapCall`;
* variable lookup, parameter binding, label search are total on the model's data (dict / list operations with present
  keys and in-range indices only: by construction of `evalExpr`, `bindArgs`, `findLabel`);
* OUTSIDE the model (DESIGN §6): the Python recursion limit at evaluator level (a RecursionError raised in
  `evaluate_expression` itself is caught by the innermost enclosing call wrapper or operator handler, but an
  expression nested ~1000 deep with no enclosing call escapes — the parser refuses such text long before), memory
  exhaustion, `KeyboardInterrupt`/`SystemExit` (not `Exception`s), exceptions raised by the host's own `logFn`, `urlFn`,
  and values that are not BareScript values (e.g. a dict global with non-string keys). -/
theorem no_host_escape_machine (cfg : Config W) (fuel : Nat) (P : List Stmt) (base : Option String) (st : State W) :
    (∃ st', execute cfg fuel P base st = .done st') ∨ (∃ v st', execute cfg fuel P base st = .ret v st')
    ∨ (∃ e st', execute cfg fuel P base st = .err e st'
          ∧ (rtErrClass e = "BareScriptRuntimeError" ∨ rtErrClass e = "BareScriptParserError"))
    ∨ execute cfg fuel P base st = .oof := by
  cases execute cfg fuel P base st with
  | done st' => exact .inl ⟨_, rfl⟩
  | ret v st' => exact .inr (.inl ⟨_, _, rfl⟩)
  | err e st' => exact .inr (.inr (.inl ⟨e, st', rfl, by cases e <;> simp [rtErrClass]⟩))
  | oof => exact .inr (.inr (.inr rfl))

theorem no_host_escape_expr (cfg : Config W) (call : CallFn W) (locals : Option Env) (e : Expr) (st : State W) :
    (∃ v st', evalExpr cfg call locals e st = .ok v st')
    ∨ (∃ err st', evalExpr cfg call locals e st = .err err st'
          ∧ (rtErrClass err = "BareScriptRuntimeError" ∨ rtErrClass err = "BareScriptParserError"))
    ∨ evalExpr cfg call locals e st = .oof := by
  cases evalExpr cfg call locals e st with
  | ok v st' => exact .inl ⟨_, _, rfl⟩
  | err er st' => exact .inr (.inl ⟨er, st', rfl, by cases er <;> simp [rtErrClass]⟩)
  | oof => exact .inr (.inr rfl)

/-- how a callee outcome of the host level is seen by the machine (`abs` = abstraction of values) -/
def libOutOf (abs : PyVal → Value) : CalleeOut → LibOut
  | .ret v => .ok (abs v)
  | .rtError m => .rt m
  | .parserError m => .rt m          -- the machine keeps both documented exceptions in `RtErr`
  | .argsError _ rv => .fail (abs rv)
  | .host _ _ => .fail .null

/-- the machine's treatment of a finished library call IS the wrapper: value ↔ `.ok`, documented exception ↔ `.err`,
and the debug line is appended under the same condition (`logFn` present is part of `Host.logFailure`) -/
theorem libOut_of_wrapCall (cfg : Config W) (call : CallFn W) (abs : PyVal → Value) (habs : abs .none = .null)
    (wc : WrapCfg) (name : String) (out : CalleeOut) (log : List String) (w : W) (st : State W) :
    match (wrapCall wc name out log).1 with
    | .value v => ∃ st', runTree cfg call (.ret (libOutOf abs out) w) st = .ok (abs v) st'
        ∧ st'.globals = st.globals ∧ st'.count = st.count
        ∧ st'.world = (if (failureMsg out).isSome && cfg.debug then cfg.host.logFailure w else w)
    | .raiseRuntime m => runTree cfg call (.ret (libOutOf abs out) w) st = .err (.host m) { st with world := w }
    | .raiseParser m => runTree cfg call (.ret (libOutOf abs out) w) st = .err (.host m) { st with world := w } := by
  cases out <;> simp [wrapCall, libOutOf, runTree, failureMsg, habs]

/-- the host-level log grows by exactly one line precisely when the machine applies `Host.logFailure`
(same `debug` flag, `logFn` present) -/
theorem log_line_iff_machine_logFailure (cfg : Config W) (wc : WrapCfg) (hd : wc.debug = cfg.debug) (hl : wc.hasLogFn = true)
    (name : String) (out : CalleeOut) (log : List String) :
    ((wrapCall wc name out log).2).length = log.length + (if (failureMsg out).isSome && cfg.debug then 1 else 0) := by
  rw [failure_log_length, hl, hd]; simp

/-- **Execution continues after a swallowed failure.**  In the machine a failing library call (`.ret (.fail v)`)
(1) yields the failure value as an ordinary `ok` result, (2) in the state the callee left (`globals`, statement counter
untouched, world = callee's world plus the debug line iff `debug`), and (3) is from then on INDISTINGUISHABLE from a
normal return of that value: every continuation (the enclosing library tree via `k`, the remaining operands, the next
statements) is a function of this `Out` only. -/
theorem execution_continues (cfg : Config W) (call : CallFn W) (v : Value) (w : W) (st : State W) :
    runTree cfg call (.ret (.fail v) w) st
      = .ok v { st with world := if cfg.debug then cfg.host.logFailure w else w }
    ∧ runTree cfg call (.ret (.fail v) w) st
      = runTree cfg call (.ret (.ok v) (if cfg.debug then cfg.host.logFailure w else w)) st := by
  constructor <;> simp [runTree]

/-- the rest of a binary expression is evaluated normally after its left operand ended in a swallowed failure (or in
any other way that produced a value): the right operand runs in the state the callee left, then the operator applies;
a documented error of the right operand propagates -/
theorem binary_continues (cfg : Config W) (call : CallFn W) (locals : Option Env) (op : BinOp) (l r : Expr) (st st1 : State W)
    (lv : Value) (hop : op ≠ .and ∧ op ≠ .or) (hl : evalExpr cfg call locals l st = .ok lv st1) :
    (∀ rv st2, evalExpr cfg call locals r st1 = .ok rv st2 →
        evalExpr cfg call locals (.binary op l r) st = .ok (cfg.host.binop op lv rv st2.world) st2)
    ∧ (∀ e st2, evalExpr cfg call locals r st1 = .err e st2 → evalExpr cfg call locals (.binary op l r) st = .err e st2)
    ∧ (evalExpr cfg call locals r st1 = .oof → evalExpr cfg call locals (.binary op l r) st = .oof) := by
  have h := evalExpr.eq_7 cfg call locals st op l r hop.1 hop.2
  simp only [hl] at h
  exact ⟨fun rv st2 hr => by rw [h, hr], fun e st2 hr => by rw [h, hr], fun hr => by rw [h, hr]⟩

/-- … and the remaining arguments of a call likewise -/
theorem args_continue (cfg : Config W) (call : CallFn W) (locals : Option Env) (a : Expr) (as : List Expr) (st st1 : State W)
    (v : Value) (ha : evalExpr cfg call locals a st = .ok v st1) :
    (∀ vs st2, evalArgs cfg call locals as st1 = .ok vs st2 → evalArgs cfg call locals (a :: as) st = .ok (v :: vs) st2)
    ∧ (∀ e st2, evalArgs cfg call locals as st1 = .err e st2 → evalArgs cfg call locals (a :: as) st = .err e st2) := by
  refine ⟨fun vs st2 hr => ?_, fun e st2 hr => ?_⟩ <;> simp [evalArgs, ha, hr]

/-- … and the next statement: an expression statement whose call failed still assigns (the failure value) and the
machine proceeds to `pc + 1` -/
theorem statement_continues (cfg : Config W) (fuel : Nat) (P : List Stmt) (base : Option String) (cache : Cache) (pc : Nat)
    (st st2 : State W) (n : Name) (e : Expr) (v : Value)
    (hs : P[pc]? = some (.expr (some n) e))
    (hlim : ¬ (cfg.maxStatements > 0 && st.count + 1 > cfg.maxStatements) = true)
    (he : evalExpr cfg (callValue cfg fuel) none e { st with count := st.count + 1 } = .ok v st2) :
    execM cfg (fuel+1) P none base cache pc st
      = execM cfg fuel P none base cache (pc+1) { st2 with globals := st2.globals.set n v } := by
  rw [execM, hs]
  refine (if_neg hlim).trans ?_
  simp only [he]

end machine

/-! ## 4. `HostImpl.binop` (the operator of the correspondence drivers) refines `binopSafe`

on the exactly-representable fragment: scalar operands (null, booleans, ints, finite floats, strings), every rational
that is converted or produced is representable (`F.rnd q = .fin q`: no rounding, no overflow). -/

section refines
open Machine

/-- abstraction of host-level scalars to machine values (forgets int vs float: DESIGN §3.2 "one number type") -/
def absVal : PyVal → Option Value
  | .none => some .null
  | .bool b => some (.bool b)
  | .int n => some (.num (n : Rat))
  | .float (.fin q) => some (.num q)
  | .str s => some (.str s)
  | _ => none

/-- the rational a scalar number denotes -/
def numQ : PyVal → Option Rat
  | .int n => some (n : Rat)
  | .float (.fin q) => some q
  | _ => none

/-- `q` is exactly representable: rounding does nothing (no rounding error, no overflow) -/
abbrev Exact (F : Libm) (q : Rat) : Prop := F.rnd q = .fin q

theorem numQ_cases {v : PyVal} {q : Rat} (hq : numQ v = some q) : (∃ n : Int, v = .int n ∧ q = (n : Rat)) ∨ v = .float (.fin q) := by
  cases v <;> simp [numQ] at hq
  · exact .inl ⟨_, rfl, hq.symm⟩
  · rename_i x; cases x <;> simp at hq; subst hq; exact .inr rfl

theorem asFloat_exact (F : Libm) {v : PyVal} {q : Rat} (hq : numQ v = some q) (hx : Exact F q) : asFloat F v = .ok (.fin q) := by
  rcases numQ_cases hq with ⟨n, rfl, rfl⟩ | rfl
  · simp [asFloat, toFloat, hx]
  · rfl

theorem numQ_isNumber {v : PyVal} {q : Rat} (hq : numQ v = some q) : isNumber v = true := by
  rcases numQ_cases hq with ⟨n, rfl, rfl⟩ | rfl <;> rfl

theorem numQ_abs {v : PyVal} {q : Rat} (hq : numQ v = some q) : absVal v = some (.num q) := by
  rcases numQ_cases hq with ⟨n, rfl, rfl⟩ | rfl <;> rfl

/-- result of `binopSafe` seen through the abstraction -/
def absRes (r : Except HostExc PyVal) : Option Value :=
  match r with
  | .ok v => absVal v
  | .error _ => none

theorem absRes_of_val {F : Libm} {h : Heap} {op : BinOp} {a b v : PyVal} (hpy : binopPy F h op a b = .ok (.val v)) :
    absRes (binopSafe F h op a b) = absVal v := by
  unfold binopSafe binopWith; rw [hpy]; rfl

theorem absRes_of_error {F : Libm} {h : Heap} {op : BinOp} {a b : PyVal} {e : HostExc} (hpy : binopPy F h op a b = .error e) :
    absRes (binopSafe F h op a b) = some .null := by
  rw [raised_is_null F h op a b e hpy]; rfl

theorem binopPy_num (F : Libm) (h : Heap) {a b : PyVal} (na : isNumber a = true) (nb : isNumber b = true) :
    binopPy F h .add a b = okVal (pyAdd F a b) ∧ binopPy F h .sub a b = okVal (pySub F a b) ∧
    binopPy F h .mul a b = okVal (pyMulF F a b) ∧ binopPy F h .div a b = okVal (pyDiv F a b) ∧
    binopPy F h .mod a b = okVal (pyMod F a b) ∧ binopPy F h .pow a b = pyPowF F a b := by
  simp only [binopPy, na, nb, Bool.and_self, if_true, and_self]

section
variable {F : Libm} {a b : PyVal} {x y : Rat}
  (ha : numQ a = some x) (hb : numQ b = some y) (hx : Exact F x) (hy : Exact F y)
include ha hb hx hy

/-! On exact operands each primitive returns a number denoting the exact result: two ints are computed exactly,
anything else goes through the float operation, which rounds an exactly representable value. -/

theorem pyArith_exact :
    (Exact F (x + y) → ∃ v, pyAdd F a b = .ok v ∧ numQ v = some (x + y)) ∧
    (Exact F (x - y) → ∃ v, pySub F a b = .ok v ∧ numQ v = some (x - y)) ∧
    (Exact F (x * y) → ∃ v, pyMul F a b = .ok v ∧ numQ v = some (x * y)) := by
  have fa := asFloat_exact F ha hx
  have fb := asFloat_exact F hb hy
  rcases numQ_cases ha with ⟨n, rfl, rfl⟩ | rfl <;> rcases numQ_cases hb with ⟨m, rfl, rfl⟩ | rfl
  · exact ⟨fun _ => ⟨_, rfl, congrArg some (Rat.intCast_add n m)⟩, fun _ => ⟨_, rfl, congrArg some (Rat.intCast_sub n m)⟩,
      fun _ => ⟨_, rfl, congrArg some (Rat.intCast_mul n m)⟩⟩
  all_goals
    refine ⟨fun hr => ⟨.float (.fin _), ?_, rfl⟩, fun hr => ⟨.float (.fin _), ?_, rfl⟩, fun hr => ⟨.float (.fin _), ?_, rfl⟩⟩
    · simp only [pyAdd, fa, fb, fAdd, hr]
    · rw [Exact, Rat.sub_eq_add_neg] at hr
      simp only [pySub, fa, fb, fSub, fAdd, PyFloat.neg, hr, Rat.sub_eq_add_neg]
    · simp only [pyMul, fa, fb, fMul, hr]

theorem pyDiv_exact (hr : y ≠ 0 → Exact F (x / y)) :
    if y = 0 then pyDiv F a b = .error .zeroDivision else pyDiv F a b = .ok (.float (.fin (x / y))) := by
  have fa := asFloat_exact F ha hx
  have fb := asFloat_exact F hb hy
  split
  · rename_i hy0; subst hy0
    rcases numQ_cases ha with ⟨n, rfl, rfl⟩ | rfl <;> rcases numQ_cases hb with ⟨m, rfl, hm⟩ | rfl
    · rw [Rat.intCast_eq_zero_iff.mp hm.symm]; rfl
    all_goals simp only [pyDiv, fa, fb, fDiv, PyFloat.isZero, decide_true, if_true]
  · rename_i hy0
    have hr := hr hy0
    rcases numQ_cases ha with ⟨n, rfl, rfl⟩ | rfl <;> rcases numQ_cases hb with ⟨m, rfl, rfl⟩ | rfl
    · have : m ≠ 0 := fun hm => hy0 (by rw [hm]; rfl)
      simp only [pyDiv, this, if_false, hr]
    all_goals simp only [pyDiv, fa, fb, fDiv, PyFloat.isZero, hy0, decide_false, Bool.false_eq_true, if_false, hr]

theorem pyMod_exact (hfl : (∃ q, a = .float (.fin q)) ∨ (∃ q, b = .float (.fin q)))
    (hr : y ≠ 0 → Exact F (ratFloorMod x y)) :
    if y = 0 then pyMod F a b = .error .zeroDivision else pyMod F a b = .ok (.float (.fin (ratFloorMod x y))) := by
  have fa := asFloat_exact F ha hx
  have fb := asFloat_exact F hb hy
  have hmod : pyMod F a b = match fMod F (.fin x) (.fin y) with | .error e => .error e | .ok z => .ok (.float z) := by
    rcases hfl with ⟨q, rfl⟩ | ⟨q, rfl⟩ <;> (simp only [pyMod, fa, fb]; rfl)
  rw [hmod]
  split
  · rename_i hy0; simp only [fMod, PyFloat.isZero, hy0, decide_true, if_true]
  · rename_i hy0; simp only [fMod, PyFloat.isZero, hy0, decide_false, Bool.false_eq_true, if_false, hr hy0]
end

/-- **`+`, `-`, `*`, `/` on numbers** (ints or finite floats in any combination).  Side condition: both operands and the
exact result are representable (then no rounding and no overflow happens anywhere on the Python side); division by zero
is null on both sides without any side condition on the result. -/
theorem refines_host_arith (F : Libm) (h : Heap) (w : HostImpl.World) (a b : PyVal) (x y : Rat)
    (ha : numQ a = some x) (hb : numQ b = some y) (hx : Exact F x) (hy : Exact F y) :
    (Exact F (x + y) → absRes (binopSafe F h .add a b) = some (HostImpl.binop .add (.num x) (.num y) w))
    ∧ (Exact F (x - y) → absRes (binopSafe F h .sub a b) = some (HostImpl.binop .sub (.num x) (.num y) w))
    ∧ (Exact F (x * y) → absRes (binopSafe F h .mul a b) = some (HostImpl.binop .mul (.num x) (.num y) w))
    ∧ ((y ≠ 0 → Exact F (x / y)) → absRes (binopSafe F h .div a b) = some (HostImpl.binop .div (.num x) (.num y) w)) := by
  obtain ⟨hadd, hsub, hmul, hdiv, -, -⟩ := binopPy_num F h (numQ_isNumber ha) (numQ_isNumber hb)
  refine ⟨fun hr => ?_, fun hr => ?_, fun hr => ?_, fun hr => ?_⟩
  · obtain ⟨v, hv, hq⟩ := (pyArith_exact ha hb hx hy).1 hr
    rw [absRes_of_val (hadd.trans (congrArg okVal hv))]; exact numQ_abs hq
  · obtain ⟨v, hv, hq⟩ := (pyArith_exact ha hb hx hy).2.1 hr
    rw [absRes_of_val (hsub.trans (congrArg okVal hv))]; exact numQ_abs hq
  · -- `float(left) * right`
    have hf : pyMulF F a b = pyMul F (.float (.fin x)) b := by simp only [pyMulF, pyFloatOf, asFloat_exact F ha hx]
    obtain ⟨v, hv, hq⟩ := (pyArith_exact (a := .float (.fin x)) rfl hb hx hy).2.2 hr
    rw [absRes_of_val (hmul.trans (congrArg okVal (hf.trans hv)))]; exact numQ_abs hq
  · have hd := pyDiv_exact ha hb hx hy hr
    split at hd
    · rename_i hy0
      rw [absRes_of_error (hdiv.trans (congrArg okVal hd))]; exact congrArg some (if_pos hy0).symm
    · rename_i hy0
      rw [absRes_of_val (hdiv.trans (congrArg okVal hd))]; exact congrArg some (if_neg hy0).symm

/-- **`%`** with at least one float operand (number literals and all arithmetic results are floats; `int % int` is the
exact `Int.fmod`, tied by the correspondence stream `binopPy` only): same floor-modulo formula on both sides -/
theorem refines_host_mod (F : Libm) (h : Heap) (w : HostImpl.World) (a b : PyVal) (x y : Rat)
    (ha : numQ a = some x) (hb : numQ b = some y) (hx : Exact F x) (hy : Exact F y)
    (hfl : (∃ q, a = .float (.fin q)) ∨ (∃ q, b = .float (.fin q)))
    (hr : y ≠ 0 → Exact F (HostImpl.pyMod x y)) :
    absRes (binopSafe F h .mod a b) = some (HostImpl.binop .mod (.num x) (.num y) w) := by
  obtain ⟨-, -, -, -, hmod, -⟩ := binopPy_num F h (numQ_isNumber ha) (numQ_isNumber hb)
  have hd := pyMod_exact ha hb hx hy hfl hr
  split at hd
  · rename_i hy0
    rw [absRes_of_error (hmod.trans (congrArg okVal hd))]; exact congrArg some (if_pos hy0).symm
  · rename_i hy0
    rw [absRes_of_val (hmod.trans (congrArg okVal hd))]; exact congrArg some (if_neg hy0).symm

/-- scalars: the fragment on which the two `value_compare`s are compared -/
def isScalar : PyVal → Bool
  | .none => true
  | .bool _ => true
  | .int _ => true
  | .float (.fin _) => true
  | .str _ => true
  | _ => false

theorem scalar_cases {v : PyVal} (hv : isScalar v = true) :
    v = .none ∨ (∃ b, v = .bool b) ∨ (∃ n, v = .int n) ∨ (∃ q, v = .float (.fin q)) ∨ (∃ s, v = .str s) := by
  cases v <;> simp [isScalar] at hv <;> simp
  rename_i x; cases x <;> simp at hv; simp

theorem absVal_scalar {v : PyVal} (hv : isScalar v = true) : ∃ m, absVal v = some m := by
  rcases scalar_cases hv with rfl | ⟨_, rfl⟩ | ⟨_, rfl⟩ | ⟨_, rfl⟩ | ⟨_, rfl⟩ <;> exact ⟨_, rfl⟩

/-- the value of a partial computation, if any -/
def okOpt {α : Type} : Except HostExc α → Option α
  | .ok a => some a
  | .error _ => none

theorem cmp3_decide (p q : Prop) [Decidable p] [Decidable q] :
    cmp3 (decide p) (decide q) = if p then -1 else if q then 0 else 1 := by
  unfold cmp3; by_cases hp : p <;> by_cases hq : q <;> simp [hp, hq]

theorem compare_scalar_ok (F : Libm) (h : Heap) (w : HostImpl.World) (a b : PyVal) (va vb : Value)
    (ha : isScalar a = true) (hb : isScalar b = true) (ea : absVal a = some va) (eb : absVal b = some vb)
    (hL : 0 < F.recLimit) :
    ∃ c, valueCompare F h a b = .ok c ∧ HostImpl.compare? w va vb = some c := by
  unfold valueCompare HostImpl.compare?
  obtain ⟨n, hn⟩ : ∃ n, F.recLimit = n + 1 := ⟨F.recLimit - 1, by omega⟩
  rw [hn, show (w.heap.length + 1) * (w.heap.length + 1) + 2 = ((w.heap.length + 1) * (w.heap.length + 1) + 1) + 1 from rfl]
  rcases scalar_cases ha with rfl | ⟨p, rfl⟩ | ⟨i, rfl⟩ | ⟨q, rfl⟩ | ⟨s, rfl⟩ <;>
    rcases scalar_cases hb with rfl | ⟨p', rfl⟩ | ⟨i', rfl⟩ | ⟨q', rfl⟩ | ⟨s', rfl⟩ <;>
    cases ea <;> cases eb <;>
    refine ⟨_, rfl, ?_⟩ <;> simp only [HostImpl.valueCompare]
  -- left: three-way tests of the same `<` and `=` (numbers, strings, type names), or two booleans
  all_goals first | exact congrArg some (cmp3_decide _ _).symm | (cases p <;> cases p' <;> rfl)

/-- `value_compare` on scalars: the host-level ladder (value.py:193-229) and `HostImpl.compare?` give the same integer
(no side condition beyond a positive recursion limit: comparison never rounds) -/
theorem compare_scalar (F : Libm) (h : Heap) (w : HostImpl.World) (a b : PyVal) (va vb : Value)
    (ha : isScalar a = true) (hb : isScalar b = true) (ea : absVal a = some va) (eb : absVal b = some vb)
    (hL : 0 < F.recLimit) :
    okOpt (valueCompare F h a b) = HostImpl.compare? w va vb := by
  obtain ⟨c, h1, h2⟩ := compare_scalar_ok F h w a b va vb ha hb ea eb hL
  rw [h1, h2]; rfl

/-- **the six comparisons on scalars** agree (they are sign tests of the same integer) -/
theorem refines_host_cmp (F : Libm) (h : Heap) (w : HostImpl.World) (a b : PyVal) (va vb : Value)
    (ha : isScalar a = true) (hb : isScalar b = true) (ea : absVal a = some va) (eb : absVal b = some vb)
    (hL : 0 < F.recLimit) (op : BinOp) (hop : op = .eq ∨ op = .ne ∨ op = .le ∨ op = .lt ∨ op = .ge ∨ op = .gt) :
    absRes (binopSafe F h op a b) = some (HostImpl.binop op va vb w) := by
  obtain ⟨c, hv, hc⟩ := compare_scalar_ok F h w a b va vb ha hb ea eb hL
  rcases hop with rfl | rfl | rfl | rfl | rfl | rfl <;>
    simp [binopSafe, binopWith, binopPy, cmpOp, hv, hc, absRes, absVal, HostImpl.binop]

/-- **string concatenation** of a string with a string, null or a boolean (numbers are excluded here: their text goes
through `float.__repr__` = the abstract `Libm.floatText`; tied by the exec correspondence instead) -/
theorem refines_host_concat (F : Libm) (h : Heap) (w : HostImpl.World) (s : String) (v : PyVal) (mv : Value)
    (hv : v = .none ∨ (∃ b, v = .bool b) ∨ (∃ t, v = .str t)) (ev : absVal v = some mv) :
    absRes (binopSafe F h .add (.str s) v) = some (HostImpl.binop .add (.str s) mv w)
    ∧ absRes (binopSafe F h .add v (.str s)) = some (HostImpl.binop .add mv (.str s) w) := by
  rcases hv with rfl | ⟨b, rfl⟩ | ⟨t, rfl⟩ <;> simp [absVal] at ev <;> subst ev <;>
    constructor <;>
    simp [binopSafe, binopWith, binopPy, isNumber, concatL, concatR, valueString, absRes, absVal, HostImpl.binop,
      HostImpl.valueString?] <;>
    (try (cases b <;> simp))

/-- **unsupported operand types are null on both sides**: for the arithmetic operators, scalar operands that are not
both numbers (and, for `+`, neither is a string) -/
theorem refines_host_unsupported (F : Libm) (h : Heap) (w : HostImpl.World) (a b : PyVal) (va vb : Value)
    (ha : isScalar a = true) (hb : isScalar b = true) (ea : absVal a = some va) (eb : absVal b = some vb)
    (hnn : (isNumber a && isNumber b) = false) (hns : isStr a = false ∧ isStr b = false)
    (op : BinOp) (hop : op = .add ∨ op = .sub ∨ op = .mul ∨ op = .div ∨ op = .mod ∨ op = .pow) :
    absRes (binopSafe F h op a b) = some .null ∧ HostImpl.binop op va vb w = .null := by
  rcases scalar_cases ha with rfl | ⟨p, rfl⟩ | ⟨n, rfl⟩ | ⟨q, rfl⟩ | ⟨s, rfl⟩ <;>
    rcases scalar_cases hb with rfl | ⟨p', rfl⟩ | ⟨n', rfl⟩ | ⟨q', rfl⟩ | ⟨s', rfl⟩ <;>
    simp [isStr, isNumber] at hns hnn <;>
    cases ea <;> cases eb <;>
    rcases hop with rfl | rfl | rfl | rfl | rfl | rfl <;>
    exact ⟨rfl, rfl⟩

theorem ratPowNat_eq (x : Rat) : ∀ n, HostImpl.ratPowNat x n = HostPy.ratPowNat x n
  | 0 => rfl
  | n+1 => by simp [HostImpl.ratPowNat, HostPy.ratPowNat, ratPowNat_eq x n]

theorem ratPowNat_zero : ∀ n, 0 < n → HostPy.ratPowNat 0 n = 0
  | n+1, _ => by simp [HostPy.ratPowNat, Rat.zero_mul]

theorem ratPowNat_one : ∀ n, HostPy.ratPowNat 1 n = 1
  | 0 => rfl
  | n+1 => by simp [HostPy.ratPowNat, ratPowNat_one n, Rat.mul_one]

section
-- both sides of `**`, unfolded by every `simp` below
attribute [local simp] floatPowOut fPow PyFloat.isZero powPosE absRes absVal HostImpl.binop ratPowNat_eq

/-- **`**`** for a base `x ≥ 0` and an INTEGRAL exponent `k` (`HostImpl.binop` is null for a fractional exponent:
"outside the driver").  Side condition: libm's `pow` returns the exact power, which is representable
(`hpow`); the special cases `k = 0`, `x = 0` (ZeroDivisionError → null for `k < 0`), `x = 1` need nothing.
`_partial`: negative bases (sign by parity of `k`) and fractional exponents are tied by the correspondence stream
`binopPy` only. -/
theorem refines_host_pow_partial (F : Libm) (h : Heap) (w : HostImpl.World) (a b : PyVal) (x : Rat) (k : Int)
    (ha : numQ a = some x) (hb : numQ b = some (k : Rat)) (hx : Exact F x) (hy : Exact F (k : Rat)) (hx0 : 0 ≤ x)
    (hpow : x ≠ 0 → x ≠ 1 → k ≠ 0 → F.powPos x (k : Rat) = .fin (HostPy.ratPowInt x k)) :
    absRes (binopSafe F h .pow a b) = some (HostImpl.binop .pow (.num x) (.num (k : Rat)) w) := by
  have na := numQ_isNumber ha
  have nb := numQ_isNumber hb
  have fa := asFloat_exact F ha hx
  have fb := asFloat_exact F hb hy
  have h2 : pyPow F (.float (.fin x)) b = floatPowOut F (.fin x) (.fin (k : Rat)) := by
    have e1 : asFloat F (.float (.fin x)) = .ok (.fin x) := rfl
    unfold pyPow
    split
    · simp_all
    · rw [e1, fb]
  have hpy : binopPy F h .pow a b = floatPowOut F (.fin x) (.fin (k : Rat)) := by
    rw [(binopPy_num F h na nb).2.2.2.2.2, pyPowF, pyFloatOf, fa]
    exact h2
  unfold binopSafe binopWith
  rw [hpy]
  have hnotneg : ¬ x < 0 := Rat.not_lt.mpr hx0
  by_cases hk0 : k = 0
  · subst hk0
    simp [HostPy.ratPowNat]
  · have hkq : ¬ ((k : Rat) = 0) := fun hh => hk0 (Rat.intCast_eq_zero_iff.mp hh)
    by_cases hxz : x = 0
    · subst hxz
      by_cases hkneg : k < 0
      · have : (k : Rat) < 0 := Rat.intCast_neg_iff.mpr hkneg
        have hk' : ¬ (0 ≤ k) := by omega
        simp [hkq, this, caught, HostExc.isArithmetic, hk']
      · have : ¬ (k : Rat) < 0 := fun hh => hkneg (Rat.intCast_neg_iff.mp hh)
        have hk' : 0 ≤ k := by omega
        have hpos : 0 < k.toNat := by omega
        simp [hkq, this, hk', ratPowNat_zero _ hpos]
    · by_cases hx1 : x = 1
      · subst hx1
        by_cases hk' : 0 ≤ k
        · simp [hkq, hxz, hnotneg, hk', ratPowNat_one]
        · simp [hkq, hxz, hnotneg, hk', ratPowNat_one]
          rw [Rat.div_def, Rat.mul_inv_cancel 1 (by decide)]
      · have hp := hpow hxz hx1 hk0
        by_cases hk' : 0 ≤ k
        · simp [hkq, hxz, hnotneg, hx1, hp, hk', HostPy.ratPowInt]
        · have hnat : (-k).toNat = k.natAbs := by omega
          simp [hkq, hxz, hnotneg, hx1, hp, hk', HostPy.ratPowInt, hnat]
end

/-! non-vacuity of the side conditions: a `Libm` whose rounding is the identity makes every rational exact -/

def exactLibm : Libm := { ieee with rnd := fun q => .fin q, powPos := fun a y => .fin (HostPy.ratPowInt a y.num) }

/-- 1.5 + int 2 (a `numberParseInt` result) = 3.5 on both sides -/
example : absRes (binopSafe exactLibm [] .add (.float (.fin (3/2))) (.int 2)) = some (HostImpl.binop .add (.num (3/2)) (.num (2 : Int)) {}) :=
  (refines_host_arith exactLibm [] {} (.float (.fin (3/2))) (.int 2) (3/2) (2 : Int) rfl rfl rfl rfl).1 rfl

/-- 7 / 0 is null on both sides (no exactness needed for the quotient) -/
example : absRes (binopSafe exactLibm [] .div (.float (.fin 7)) (.float (.fin 0))) = some (HostImpl.binop .div (.num 7) (.num 0) {}) :=
  (refines_host_arith exactLibm [] {} (.float (.fin 7)) (.float (.fin 0)) 7 0 rfl rfl rfl rfl).2.2.2 (fun h => absurd rfl h)

/-- 'a' < 5 compares type names on both sides -/
example : absRes (binopSafe exactLibm [] .lt (.str "a") (.int 5)) = some (HostImpl.binop .lt (.str "a") (.num (5 : Int)) {}) :=
  refines_host_cmp exactLibm [] {} (.str "a") (.int 5) _ _ rfl rfl rfl rfl (by decide) .lt (by simp)

/-- 2 ** -3 = 1/8 on both sides -/
example : absRes (binopSafe exactLibm [] .pow (.float (.fin 2)) (.float (.fin ((-3 : Int) : Rat))))
    = some (HostImpl.binop .pow (.num 2) (.num ((-3 : Int) : Rat)) {}) :=
  refines_host_pow_partial exactLibm [] {} (.float (.fin 2)) (.float (.fin ((-3 : Int) : Rat))) 2 (-3) rfl rfl rfl rfl (by decide)
    (fun _ _ _ => rfl)

end refines

end C05
