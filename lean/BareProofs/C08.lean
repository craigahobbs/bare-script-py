import BareModel.MachineSpec
import BareModel.HostImpl

/-!
# C08 — jump-level models execute by the documented statement semantics

`Machine.execM` is the mirror of `_execute_script_helper` (runtime.py:47-150) *with* its per-invocation label cache
`label_indexes`; `Machine.execM₀` (BareModel/MachineSpec.lean) is the documented semantics: statements in order, a taken
jump continues after the FIRST `label l` of the SAME list (`findLabel P l`), else `Unknown jump label`; `return` ends the
current list; a function statement binds a global.  This file proves

* `cache_transparent` — the cache is unobservable: `execM … cache … = execM₀ …` for every cache that is valid for the list
  being run (in particular the empty cache every invocation starts with), and `callValue = callValue₀`,
  `execIncludes = execIncludes₀`, `execute = execute₀`;
* `unknown_label_iff`, `findLabel_some_iff`, `first_label_wins` — what "the first label of that name in the same list" means;
* the one-step lemmas (`step_*`) that make the statement semantics explicit, among them `return_ends_only_current`,
  `function_stmt_binds_global`, `jump_taken`, `jumpif_step`;
* `jumps_stay_in_scope` — a script-function call runs `fd.body` from index 0 with labels resolved in `fd.body` only;
  the caller's list is not an input of the callee (`callee_independent_of_caller_list`);
* `exec_deterministic` — trivial in Lean (a function); that executing does not mutate the *Python* model dicts is checked
  on the implementation by harness/props/C08.py (deep copy before / compare after, execute twice).

Everything is for ALL configurations, hosts, programs, states and fuel.
-/

open Machine
namespace C08
variable {W : Type}

/-- a cache is valid for the list `P` when every entry is the index of the first label of that name in `P` -/
def CacheValid (P : List Stmt) (c : Cache) : Prop := ∀ l i, (l, i) ∈ c → findLabel P l = some i

theorem cacheValid_nil (P : List Stmt) : CacheValid P [] := by intro l i h; cases h

theorem cache_get_mem {c : Cache} {l : Name} {i : Nat} (h : c.get? l = some i) : (l, i) ∈ c := by
  obtain ⟨⟨l', i'⟩, hf, rfl⟩ := Option.map_eq_some_iff.1 h
  have hl : (l' == l) = true := List.find?_some (p := fun x : Name × Nat => x.1 == l) hf
  rw [beq_iff_eq] at hl
  exact hl ▸ List.mem_of_find?_eq_some hf

theorem jumpTarget_spec {P : List Stmt} {c : Cache} (hc : CacheValid P c) (l : Name) :
    match jumpTarget P c l with
    | some (c', i) => findLabel P l = some i ∧ CacheValid P c'
    | none => findLabel P l = none := by
  unfold jumpTarget
  cases hg : c.get? l with
  | some i => exact ⟨hc l i (cache_get_mem hg), hc⟩
  | none =>
    cases hf : findLabel P l with
    | none => simp
    | some i =>
      refine ⟨rfl, ?_⟩
      intro l' i' hm
      cases hm with
      | head => exact hf
      | tail _ h => exact hc l' i' h

/-- a taken jump: whatever runs from the label gives the same result with any valid cache as without one -/
theorem jumpTarget_elim {α : Type} {P : List Stmt} {c : Cache} (hc : CacheValid P c) (l : Name)
    (k : Cache → Nat → α) (k₀ : Nat → α) (e : α) (hk : ∀ c' i, CacheValid P c' → k c' i = k₀ i) :
    (match jumpTarget P c l with | some (c', i) => k c' i | none => e) =
      (match findLabel P l with | some i => k₀ i | none => e) := by
  have hj := jumpTarget_spec hc l
  cases hJ : jumpTarget P c l with
  | none => rw [hJ] at hj; rw [show findLabel P l = none from hj]
  | some ci => rw [hJ] at hj; rw [hj.1]; exact hk _ _ hj.2

/-- the three statements proved together by induction on the fuel -/
def Transparent (cfg : Config W) (fuel : Nat) : Prop :=
  (callValue cfg fuel = callValue₀ cfg fuel) ∧
  (∀ P locals base cache pc st, CacheValid P cache →
      execM cfg fuel P locals base cache pc st = execM₀ cfg fuel P locals base pc st) ∧
  (∀ base incs st, execIncludes cfg fuel base incs st = execIncludes₀ cfg fuel base incs st)

theorem transparent (cfg : Config W) : ∀ fuel, Transparent cfg fuel
  | 0 => by
    refine ⟨?_, ?_, ?_⟩
    · funext f a s; rw [callValue.eq_def, callValue₀.eq_def]
    · intro P locals base cache pc st _
      rw [execM.eq_1, execM₀.eq_1]
      cases P[pc]? <;> rfl
    · intro base incs st
      cases incs with
      | nil => rw [execIncludes.eq_1, execIncludes₀.eq_1]
      | cons i r =>
        rw [execIncludes.eq_2, execIncludes₀.eq_2]
        cases cfg.fetch (cfg.resolve base i) <;> rfl
  | fuel+1 => by
    obtain ⟨ihC, ihE, ihI⟩ := transparent cfg fuel
    have ihE0 := fun P locals base pc st => ihE P locals base [] pc st (cacheValid_nil _)
    refine ⟨?_, ?_, ?_⟩
    · funext f a s
      rw [callValue.eq_def, callValue₀.eq_def]
      simp only [ihC, ihE0]
      rfl
    · intro P locals base cache pc st hc
      -- with the given cache every continuation is already the cache-free one; only the taken jumps change the cache
      have ihEc := fun locals pc st => ihE P locals base cache pc st hc
      have hjump := fun locals st l =>
        jumpTarget_elim hc l (fun c' i => execM cfg fuel P locals base c' (i+1) st) (fun i => execM₀ cfg fuel P locals base (i+1) st)
          (.err (.unknownLabel l) st) fun c' i hc' => ihE P locals base c' (i+1) st hc'
      rw [execM.eq_1, execM₀.eq_1]
      simp only [ihC, ihI, ihEc]
      cases P[pc]? with
      | none => rfl
      | some s =>
        refine ite_congr rfl (fun _ => rfl) fun _ => ?_
        cases s with
        | jump l c =>
          cases c with
          | none => exact hjump _ _ _
          | some c =>
            dsimp only
            generalize evalExpr cfg _ locals c _ = r
            cases r with
            | ok v st2 => exact ite_congr rfl (fun _ => hjump _ _ _) fun _ => rfl
            | _ => rfl
        | ret e => cases e <;> rfl
        | _ => rfl
    · intro base incs st
      cases incs with
      | nil => rw [execIncludes.eq_1, execIncludes₀.eq_1]
      | cons i r =>
        rw [execIncludes.eq_2, execIncludes₀.eq_2]
        simp only [ihE0, ihI]
        rfl

/-- **cache_transparent.** With a cache that is valid for the list being run — in particular the empty cache every
invocation of `_execute_script_helper` starts with — the mirror machine (label cache) and the documented semantics
(look the label up afresh at every taken jump) give the same result, for every fuel, program, state and host. -/
theorem cache_transparent (cfg : Config W) (fuel : Nat) (P : List Stmt) (locals : Option Env) (base : Option String)
    (cache : Cache) (pc : Nat) (st : State W) (hc : CacheValid P cache) :
    execM cfg fuel P locals base cache pc st = execM₀ cfg fuel P locals base pc st :=
  (transparent cfg fuel).2.1 P locals base cache pc st hc

/-- the empty cache is valid for every list, so every *invocation* is cache-transparent -/
theorem cache_transparent_nil (cfg : Config W) (fuel : Nat) (P : List Stmt) (locals : Option Env) (base : Option String)
    (pc : Nat) (st : State W) : execM cfg fuel P locals base [] pc st = execM₀ cfg fuel P locals base pc st :=
  cache_transparent cfg fuel P locals base [] pc st (cacheValid_nil P)

/-- the call wrapper is the same function on both machines -/
theorem callValue_eq (cfg : Config W) (fuel : Nat) : callValue cfg fuel = callValue₀ cfg fuel := (transparent cfg fuel).1

theorem execIncludes_eq (cfg : Config W) (fuel : Nat) (base : Option String) (incs : List IncludeScript) (st : State W) :
    execIncludes cfg fuel base incs st = execIncludes₀ cfg fuel base incs st := (transparent cfg fuel).2.2 base incs st

/-- `execute_script` on the mirror = on the documented semantics -/
theorem execute_eq (cfg : Config W) (fuel : Nat) (P : List Stmt) (base : Option String) (st : State W) :
    execute cfg fuel P base st = execute₀ cfg fuel P base st := cache_transparent_nil ..

/-- the cache only ever holds valid entries: the cache `jumpTarget` hands on is valid again (the invariant of the loop) -/
theorem cache_stays_valid {P : List Stmt} {c c' : Cache} {l : Name} {i : Nat} (hc : CacheValid P c)
    (h : jumpTarget P c l = some (c', i)) : CacheValid P c' ∧ findLabel P l = some i := by
  have := jumpTarget_spec hc l
  rw [h] at this
  exact ⟨this.2, this.1⟩

/-! ## "the first label of that name in the same statement list" -/

/-- **unknown_label_iff.** The lookup of a taken jump fails — and the run ends with `Unknown jump label` (`jump_taken`,
`jumpif_step`) — iff NO statement of the same list is `label l`. -/
theorem unknown_label_iff (P : List Stmt) (l : Name) : findLabel P l = none ↔ ∀ s ∈ P, isLabel l s = false := by
  simp only [findLabel, ite_eq_right_iff, reduceCtorEq, imp_false, List.findIdx_lt_length, not_exists, not_and,
    Bool.not_eq_true]

theorem isLabel_iff (l : Name) (s : Stmt) : isLabel l s = true ↔ s = .label l := by
  cases s <;> simp [isLabel]

theorem findLabel_eq_some {P : List Stmt} {l : Name} {i : Nat} :
    findLabel P l = some i ↔ List.findIdx (isLabel l) P = i ∧ i < P.length := by
  unfold findLabel
  dsimp only
  split
  · rw [Option.some.injEq]; exact ⟨fun h => ⟨h, h ▸ ‹_›⟩, And.left⟩
  · exact ⟨nofun, fun h => absurd (h.1 ▸ h.2) ‹_›⟩

/-- **findLabel_some_iff.** The lookup yields index `i` iff statement `i` is `label l` and no earlier statement is. -/
theorem findLabel_some_iff (P : List Stmt) (l : Name) (i : Nat) :
    findLabel P l = some i ↔ P[i]? = some (.label l) ∧ ∀ j, j < i → P[j]? ≠ some (.label l) := by
  rw [findLabel_eq_some]
  by_cases hil : i < P.length
  · rw [List.findIdx_eq hil, List.getElem?_eq_getElem hil, Option.some.injEq, ← isLabel_iff, and_iff_left hil]
    refine and_congr_right fun _ => forall₂_congr fun j hj => ?_
    have hjl : j < P.length := Nat.lt_trans hj hil
    rw [List.getElem?_eq_getElem hjl, Ne, Option.some.injEq, ← isLabel_iff, Bool.not_eq_true]
  · exact ⟨fun h => absurd h.2 hil, fun h => absurd (List.getElem?_eq_none (Nat.le_of_not_lt hil) ▸ h.1) nofun⟩

/-- **first_label_wins.** With duplicate labels the FIRST one is the jump target: if `A` contains no `label l`, a jump to
`l` in `A ++ label l :: B` continues after index `A.length`, whatever further `label l` statements `B` contains. -/
theorem first_label_wins (A B : List Stmt) (l : Name) (hA : ∀ s ∈ A, isLabel l s = false) :
    findLabel (A ++ .label l :: B) l = some A.length := by
  rw [findLabel_some_iff]
  refine ⟨by simp, ?_⟩
  intro j hj hget
  rw [List.getElem?_append_left hj] at hget
  have hm : Stmt.label l ∈ A := List.mem_of_getElem? hget
  have := hA _ hm
  simp [isLabel] at this

/-- a label that exists is found, and execution continues *after* it (index + 1): `ix_statement = ix_label`, then `+= 1` -/
theorem findLabel_lt {P : List Stmt} {l : Name} {i : Nat} (h : findLabel P l = some i) : i < P.length :=
  (findLabel_eq_some.1 h).2

/-! ## the documented statement semantics, one statement kind at a time (`execM₀`, hence `execM` by `cache_transparent`) -/

/-- the state after the statement counter has been incremented (runtime.py:59) -/
def tick (st : State W) : State W := { st with count := st.count + 1 }

/-- the statement budget allows one more statement to start (runtime.py:61 does not raise) -/
def BudgetOk (cfg : Config W) (st : State W) : Prop :=
  (decide (cfg.maxStatements > 0) && decide (st.count + 1 > cfg.maxStatements)) = false

/-- falling off the end of the list ends the script/function with `null` -/
theorem step_end (cfg : Config W) (fuel : Nat) (P : List Stmt) (locals base) (pc : Nat) (st : State W)
    (h : P[pc]? = none) : execM₀ cfg fuel P locals base pc st = .done st := by
  rw [execM₀.eq_1, h]

/-- the budget test comes first, whatever the statement is -/
theorem step_exceeded (cfg : Config W) (fuel : Nat) (P : List Stmt) (locals base) (pc : Nat) (st : State W) (s : Stmt)
    (h : P[pc]? = some s) (hb : ¬ BudgetOk cfg st) :
    execM₀ cfg (fuel+1) P locals base pc st = .err (.exceeded cfg.maxStatements) (tick st) := by
  rw [execM₀.eq_1, h]
  simp only [BudgetOk, Bool.not_eq_false] at hb
  simp only [hb, if_true, tick]

/-- a label is a no-op: execution continues with the next statement -/
theorem step_label (cfg : Config W) (fuel : Nat) (P : List Stmt) (locals base) (pc : Nat) (st : State W) (l : Name)
    (h : P[pc]? = some (.label l)) (hb : BudgetOk cfg st) :
    execM₀ cfg (fuel+1) P locals base pc st = execM₀ cfg fuel P locals base (pc+1) (tick st) := by
  rw [execM₀.eq_1, h]
  exact if_neg (Bool.eq_false_iff.1 hb)

/-- **function_stmt_binds_global.** A function statement binds the *global* `name` to the function value — also when it
is executed inside a function body (`locals` untouched) — and continues with the next statement. -/
theorem function_stmt_binds_global (cfg : Config W) (fuel : Nat) (P : List Stmt) (locals base) (pc : Nat) (st : State W)
    (fid : Nat) (name : Name) (args : List Name) (laa isAsync : Bool) (body : List Stmt)
    (h : P[pc]? = some (.function fid name args laa isAsync body)) (hb : BudgetOk cfg st) :
    execM₀ cfg (fuel+1) P locals base pc st =
      execM₀ cfg fuel P locals base (pc+1)
        { (tick st) with globals := (tick st).globals.set name (.fn (.script fid)) } := by
  rw [execM₀.eq_1, h]
  exact if_neg (Bool.eq_false_iff.1 hb)

/-- **return_ends_only_current** (part 1: the list). `return` ends the run of the *current* list at once, with `null` … -/
theorem step_return_none (cfg : Config W) (fuel : Nat) (P : List Stmt) (locals base) (pc : Nat) (st : State W)
    (h : P[pc]? = some (.ret none)) (hb : BudgetOk cfg st) :
    execM₀ cfg (fuel+1) P locals base pc st = .ret .null (tick st) := by
  rw [execM₀.eq_1, h]
  exact if_neg (Bool.eq_false_iff.1 hb)

/-- … or with the value of its expression; the statements after it are not looked at -/
theorem step_return_some (cfg : Config W) (fuel : Nat) (P : List Stmt) (locals base) (pc : Nat) (st : State W) (e : Expr)
    (h : P[pc]? = some (.ret (some e))) (hb : BudgetOk cfg st) :
    execM₀ cfg (fuel+1) P locals base pc st =
      match evalExpr cfg (callValue₀ cfg fuel) locals e (tick st) with
      | .ok v st2 => .ret v st2
      | .err e st2 => .err e st2
      | .oof => .oof := by
  rw [execM₀.eq_1, h]
  exact if_neg (Bool.eq_false_iff.1 hb)

/-- an unconditional jump continues after the first label of that name in the same list, or raises -/
theorem jump_taken (cfg : Config W) (fuel : Nat) (P : List Stmt) (locals base) (pc : Nat) (st : State W) (l : Name)
    (h : P[pc]? = some (.jump l none)) (hb : BudgetOk cfg st) :
    execM₀ cfg (fuel+1) P locals base pc st =
      match findLabel P l with
      | some i => execM₀ cfg fuel P locals base (i+1) (tick st)
      | none => .err (.unknownLabel l) (tick st) := by
  rw [execM₀.eq_1, h]
  exact if_neg (Bool.eq_false_iff.1 hb)

/-- a conditional jump evaluates its condition once; truthy: as an unconditional jump; falsy: next statement -/
theorem jumpif_step (cfg : Config W) (fuel : Nat) (P : List Stmt) (locals base) (pc : Nat) (st : State W) (l : Name)
    (c : Expr) (h : P[pc]? = some (.jump l (some c))) (hb : BudgetOk cfg st) :
    execM₀ cfg (fuel+1) P locals base pc st =
      match evalExpr cfg (callValue₀ cfg fuel) locals c (tick st) with
      | .ok v st2 =>
          if cfg.host.truthy v st2.world then
            match findLabel P l with
            | some i => execM₀ cfg fuel P locals base (i+1) st2
            | none => .err (.unknownLabel l) st2
          else execM₀ cfg fuel P locals base (pc+1) st2
      | .err e st2 => .err e st2
      | .oof => .oof := by
  rw [execM₀.eq_1, h]
  exact if_neg (Bool.eq_false_iff.1 hb)

/-- a taken jump to a label that does not occur in the same list is the `Unknown jump label` runtime error -/
theorem jump_unknown (cfg : Config W) (fuel : Nat) (P : List Stmt) (locals base) (pc : Nat) (st : State W) (l : Name)
    (h : P[pc]? = some (.jump l none)) (hb : BudgetOk cfg st) (hno : ∀ s ∈ P, isLabel l s = false) :
    execM₀ cfg (fuel+1) P locals base pc st = .err (.unknownLabel l) (tick st) := by
  rw [jump_taken cfg fuel P locals base pc st l h hb, (unknown_label_iff P l).2 hno]

/-- a taken jump to an existing label continues after its FIRST occurrence -/
theorem jump_known (cfg : Config W) (fuel : Nat) (A B : List Stmt) (locals base) (pc : Nat) (st : State W) (l : Name)
    (h : (A ++ .label l :: B)[pc]? = some (.jump l none)) (hb : BudgetOk cfg st) (hA : ∀ s ∈ A, isLabel l s = false) :
    execM₀ cfg (fuel+1) (A ++ .label l :: B) locals base pc st =
      execM₀ cfg fuel (A ++ .label l :: B) locals base (A.length + 1) (tick st) := by
  rw [jump_taken cfg fuel _ locals base pc st l h hb, first_label_wins A B l hA]

/-- an expression statement without a name: evaluate for its effects, continue with the next statement -/
theorem step_expr (cfg : Config W) (fuel : Nat) (P : List Stmt) (locals base) (pc : Nat) (st : State W)
    (e : Expr) (h : P[pc]? = some (.expr none e)) (hb : BudgetOk cfg st) :
    execM₀ cfg (fuel+1) P locals base pc st =
      match evalExpr cfg (callValue₀ cfg fuel) locals e (tick st) with
      | .ok _ st2 => execM₀ cfg fuel P locals base (pc+1) st2
      | .err e st2 => .err e st2
      | .oof => .oof := by
  rw [execM₀.eq_1, h]
  exact if_neg (Bool.eq_false_iff.1 hb)

/-- an assignment at top level (no local scope) writes the global -/
theorem step_assign_global (cfg : Config W) (fuel : Nat) (P : List Stmt) (base) (pc : Nat) (st : State W)
    (n : Name) (e : Expr) (h : P[pc]? = some (.expr (some n) e)) (hb : BudgetOk cfg st) :
    execM₀ cfg (fuel+1) P none base pc st =
      match evalExpr cfg (callValue₀ cfg fuel) none e (tick st) with
      | .ok v st2 => execM₀ cfg fuel P none base (pc+1) { st2 with globals := st2.globals.set n v }
      | .err e st2 => .err e st2
      | .oof => .oof := by
  rw [execM₀.eq_1, h]
  exact if_neg (Bool.eq_false_iff.1 hb)

/-- an assignment inside a function body writes the local scope; the globals are untouched by the assignment itself -/
theorem step_assign_local (cfg : Config W) (fuel : Nat) (P : List Stmt) (l : Env) (base) (pc : Nat) (st : State W)
    (n : Name) (e : Expr) (h : P[pc]? = some (.expr (some n) e)) (hb : BudgetOk cfg st) :
    execM₀ cfg (fuel+1) P (some l) base pc st =
      match evalExpr cfg (callValue₀ cfg fuel) (some l) e (tick st) with
      | .ok v st2 => execM₀ cfg fuel P (some (l.set n v)) base (pc+1) st2
      | .err e st2 => .err e st2
      | .oof => .oof := by
  rw [execM₀.eq_1, h]
  exact if_neg (Bool.eq_false_iff.1 hb)

/-! ## scopes: function bodies and their callers -/

/-- **jumps_stay_in_scope.** Calling the script function `id` runs *its own* statement list `fd.body` from index 0 on the
documented semantics — labels are looked up with `findLabel fd.body` only.  The caller's statement list is not an
argument of `callValue`: the call depends on the program only through the function table entry `cfg.funs id`. -/
theorem jumps_stay_in_scope (cfg : Config W) (fuel : Nat) (id : FnId) (fd : FuncDef) (h : cfg.funs id = some fd)
    (args : List Value) (st : State W) :
    callValue cfg (fuel+1) (.fn (.script id)) args st =
      match execM₀ cfg fuel fd.body (some (bindArgs cfg.host fd.lastArgArray fd.args args [] st.world).1) none 0
              { st with world := (bindArgs cfg.host fd.lastArgArray fd.args args [] st.world).2 } with
      | .done st' => .ok .null st'
      | .ret v st' => .ok v st'
      | .err e st' => .err e st'
      | .oof => .oof := by
  rw [callValue_eq, callValue₀.eq_2, h]
  rfl

/-- **return_ends_only_current** (part 2: the caller goes on). A `return v` inside a function body ends that body; the
call expression evaluates to `v` (`Out.ok`, not a `Res.ret` of the caller) and the caller continues. -/
theorem return_ends_only_current (cfg : Config W) (fuel : Nat) (id : FnId) (fd : FuncDef) (h : cfg.funs id = some fd)
    (args : List Value) (st st' : State W) (v : Value)
    (hret : execM₀ cfg fuel fd.body (some (bindArgs cfg.host fd.lastArgArray fd.args args [] st.world).1) none 0
              { st with world := (bindArgs cfg.host fd.lastArgArray fd.args args [] st.world).2 } = .ret v st') :
    callValue cfg (fuel+1) (.fn (.script id)) args st = .ok v st' := by
  rw [jumps_stay_in_scope cfg fuel id fd h, hret]

/-- a `return` inside an included script ends only the included script: the next include entry (and then the
including script) goes on -/
theorem return_in_include_ends_only_include (cfg : Config W) (fuel : Nat) (base : Option String) (inc : IncludeScript)
    (rest : List IncludeScript) (st st' : State W) (stmts : List Stmt) (v : Value)
    (hf : cfg.fetch (cfg.resolve base inc) = .script stmts)
    (hret : execM₀ cfg fuel stmts none (some (cfg.resolve base inc)) 0 st = .ret v st') :
    execIncludes₀ cfg (fuel+1) base (inc :: rest) st = execIncludes₀ cfg fuel base rest st' := by
  rw [execIncludes₀.eq_2]
  simp only [hf, hret]

/-- A statement's outcome does not depend on which list it sits in, except for jumps: two lists that hold the same
`return e` statement (at any indices) give the same result — whatever functions `e` calls, they cannot reach the
caller's list. -/
theorem callee_independent_of_caller_list (cfg : Config W) (fuel : Nat) (P P' : List Stmt) (locals base base')
    (pc pc' : Nat) (st : State W) (e : Expr) (h : P[pc]? = some (.ret (some e))) (h' : P'[pc']? = some (.ret (some e))) :
    execM₀ cfg fuel P locals base pc st = execM₀ cfg fuel P' locals base' pc' st := by
  rw [execM₀.eq_1, execM₀.eq_1 cfg fuel P', h, h']

/-- **exec_deterministic.** In Lean this is immediate — `execute` is a function of (config, fuel, model, base, state) and
the model `P` is an immutable value, so running it again from an equal state gives an equal result.  The Python-side
content (the model dicts are not mutated; two runs with equal fresh globals agree) is an oracle of harness/props/C08.py. -/
theorem exec_deterministic (cfg : Config W) (fuel : Nat) (P : List Stmt) (base : Option String) (st st' : State W)
    (h : st = st') : execute cfg fuel P base st = execute cfg fuel P base st' := by rw [h]

/-! ## non-vacuity: concrete programs on the concrete host of the driver -/

section Examples
open HostImpl

/-- what a test observes of a run -/
structure Obs where
  kind : String
  err : Option RtErr
  val : Option Value
  count : Nat
  log : List String
  globals : Env
deriving DecidableEq, Repr

def obs : Res World → Obs
  | .done st => ⟨"done", none, none, st.count, st.world.log, st.globals⟩
  | .ret v st => ⟨"ret", none, some v, st.count, st.world.log, st.globals⟩
  | .err e st => ⟨"err", some e, none, st.count, st.world.log, st.globals⟩
  | .oof => ⟨"oof", none, none, 0, [], []⟩

def xcfg (funs : List (Nat × FuncDef)) (max : Nat := 0) : Config World :=
  { host := host, funs := fun id => (funs.find? (·.1 == id)).map (·.2), maxStatements := max }

def g0 : State World := { globals := [(.user "systemLog", .fn (.lib "systemLog"))], world := {}, count := 0 }

def L1 : Name := .user "L1"
def L2 : Name := .user "L2"
def logS (s : String) : Stmt := .expr none (.function (.user "systemLog") [.string s])

/-- duplicate labels: the first wins.  `jump L1; log a; L1:; log b; L1:; log c` logs b, c (not just c). -/
example : (obs (execute (xcfg []) 20 [.jump L1 none, logS "a", .label L1, logS "b", .label L1, logS "c"] none g0)).log
    = ["b", "c"] := by decide +kernel

/-- … and the cached second jump goes to the same (first) label: a loop around two `L1` labels -/
example : obs (execute (xcfg []) 40
      [.expr (some (.user "x")) (.number 3), .label L1, logS "b", .label L1,
       .expr (some (.user "x")) (.binary .sub (.variable (.user "x")) (.number 1)),
       .jump L1 (some (.variable (.user "x")))] none g0)
    = ⟨"done", none, none, 14, ["b", "b", "b"], g0.globals ++ [(.user "x", .num 0)]⟩ := by decide +kernel

/-- unknown label: the error, raised when (and only when) the jump is taken -/
example : obs (execute (xcfg []) 20 [logS "a", .jump L2 none, .label L1] none g0)
    = ⟨"err", some (.unknownLabel L2), none, 2, ["a"], g0.globals⟩ := by decide +kernel

example : (obs (execute (xcfg []) 20 [.jump L2 (some (.variable (.user "false"))), .label L1, logS "a"] none g0)).log
    = ["a"] := by decide +kernel

def fBody : List Stmt := [.label L1, logS "in f", .ret (some (.number 7)), logS "dead"]
def fDef : FuncDef := { name := .user "f", args := [], lastArgArray := false, body := fBody }

/-- **label_in_function_not_visible**: a global jump to a label defined only inside a function body errs … -/
example : obs (execute (xcfg [(0, fDef)]) 20 [.function 0 (.user "f") [] false false fBody, .jump L1 none] none g0)
    = ⟨"err", some (.unknownLabel L1), none, 2, [], g0.globals ++ [(.user "f", .fn (.script 0))]⟩ := by decide +kernel

/-- … and a jump inside the body cannot reach a label of the caller (the body has no `L2`) -/
example : (obs (execute (xcfg [(0, { fDef with body := [.jump L2 none] })]) 20
      [.function 0 (.user "f") [] false false [.jump L2 none], .label L2,
       .expr none (.function (.user "f") [])] none g0)).err
    = some (.unknownLabel L2) := by decide +kernel

/-- return ends only the function: the caller logs the returned value and goes on -/
example : obs (execute (xcfg [(0, fDef)]) 20
      [.function 0 (.user "f") [] false false fBody,
       .expr (some (.user "r")) (.function (.user "f") []), logS "after", .ret (some (.variable (.user "r"))), logS "dead"]
      none g0)
    = ⟨"ret", none, some (.num 7), 7, ["in f", "after"],
       g0.globals ++ [(.user "f", .fn (.script 0)), (.user "r", .num 7)]⟩ := by decide +kernel

/-- the hypotheses of the one-step lemmas are inhabited -/
example : BudgetOk (xcfg [] 5) g0 := by unfold BudgetOk; decide +kernel
example : ¬ BudgetOk (xcfg [] 5) { g0 with count := 5 } := by unfold BudgetOk; decide +kernel
example : CacheValid [.jump L1 none, .label L2, .label L1, .label L1] [(L1, 2), (L2, 1)] := by
  intro l i h
  simp at h
  rcases h with ⟨rfl, rfl⟩ | ⟨rfl, rfl⟩ <;> decide +kernel
example : ¬ CacheValid [.label L1, .label L1] [(L1, 1)] := by
  intro h
  have := h L1 1 (by simp)
  revert this
  decide +kernel

end Examples

end C08
