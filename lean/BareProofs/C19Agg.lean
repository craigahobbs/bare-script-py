import BareProofs.C19Lemmas

/-!
C19, dataAggregate: the two-pass mirror (`aggregateData`) computes the relational specification (`aggregateSpec`).
-/

namespace C19
open Compare Data

theorem mapM_cells_names (c : Measure → Res PValue) : ∀ (ms : List Measure) (cs : Row),
    Res.mapM (fun m => (c m).map (fun v => (m.out, v))) ms = .ok cs → cs.map (·.1) = ms.map Measure.out
  | [], _, h => by cases h; rfl
  | m :: ms, _, h => by
    obtain ⟨y, ys, h1, h2, rfl⟩ := (Res.mapM_cons_ok _ m ms _).mp h
    cases hc : c m <;> simp only [hc, Res.map_ok, Res.map_raised, Res.map_unmodelled, Res.ok.injEq, reduceCtorEq] at h1
    subst h1
    simp [mapM_cells_names c ms ys h2]

def nonNull (vs : List PValue) : List PValue := vs.filter (fun v => v ≠ .null)

def nn (v : PValue) : List PValue := if v = .null then [] else [v]

theorem nonNull_append (a b : List PValue) : nonNull (a ++ b) = nonNull a ++ nonNull b := by simp [nonNull]

theorem nonNull_single (v : PValue) : nonNull [v] = nn v := by
  by_cases h : v = .null <;> simp [nonNull, nn, h]

/-- the list-valued cells pass 1 keeps under the measures' output names -/
def accCells (ms : List Measure) (vals : Measure → List PValue) : Row := ms.map (fun m => (m.out, .arr (vals m)))

def outNames (ms : List Measure) : List String := ms.map Measure.out

theorem accCells_keys (ms : List Measure) (vals : Measure → List PValue) : (accCells ms vals).map (·.1) = outNames ms := by
  simp [accCells, outNames, Function.comp_def]

theorem fresh_snoc {m : Measure} {todo : List Measure} {pre : Row} (v : PValue) (hnd : (outNames (m :: todo)).Nodup)
    (hpre : ∀ n ∈ outNames (m :: todo), n ∉ pre.map (·.1)) : ∀ n ∈ outNames todo, n ∉ (pre ++ [(m.out, v)]).map (·.1) := by
  have ⟨hm, _⟩ := List.nodup_cons.mp (show (m.out :: outNames todo).Nodup from hnd)
  intro n hn
  simp only [List.map_append, List.map_cons, List.map_nil, List.mem_append, List.mem_singleton, not_or]
  exact ⟨hpre n (List.mem_cons_of_mem _ hn), fun e => hm (e ▸ hn)⟩

theorem aggAppend_old (row pre post : Row) (m : Measure) (vs : List PValue) (hmp : m.out ∉ pre.map (·.1)) :
    aggAppend row (pre ++ (m.out, .arr vs) :: post) m = .ok (pre ++ (m.out, .arr (vs ++ nn (rowGet m.field row))) :: post) := by
  have hhas : rowHas m.out (pre ++ (m.out, .arr vs) :: post) = true := by simp [rowHas]
  unfold aggAppend
  simp only [hhas, if_true, rowGet_mid _ _ _ _ hmp, nn]
  by_cases hv : rowGet m.field row = .null
  · simp [hv]
  · simp [hv, rowSet_mid _ _ _ _ _ hmp]

theorem aggAppend_new (row pre : Row) (m : Measure) (hmp : m.out ∉ pre.map (·.1)) :
    aggAppend row pre m = .ok (pre ++ [(m.out, .arr (nn (rowGet m.field row)))]) := by
  have h := aggAppend_old row pre [] m [] hmp
  have hhas : rowHas m.out (pre ++ [(m.out, PValue.arr [])]) = true := by simp [rowHas]
  unfold aggAppend at h ⊢
  simpa only [(rowHas_false_iff _ _).mpr hmp, hhas, Bool.false_eq_true, if_false, if_true, rowSet_new _ _ _ hmp, List.nil_append] using h

/-- pass 1 on a fresh aggregate row: every measure gets its list, holding the row's value unless null -/
theorem foldlM_aggAppend_new (row : Row) : ∀ (todo : List Measure) (pre : Row),
    (outNames todo).Nodup → (∀ n ∈ outNames todo, n ∉ pre.map (·.1)) →
    Res.foldlM (aggAppend row) pre todo = .ok (pre ++ accCells todo (fun m => nn (rowGet m.field row)))
  | [], pre, _, _ => by simp [Res.foldlM, accCells]
  | m :: todo, pre, hnd, hpre => by
    rw [Res.foldlM, aggAppend_new row pre m (hpre m.out (by simp [outNames])), Res.bind_ok,
      foldlM_aggAppend_new row todo _ (List.nodup_cons.mp hnd).2 (fresh_snoc _ hnd hpre)]
    simp [accCells]

/-- pass 1 on an existing aggregate row: every measure's list gets the row's value appended unless null -/
theorem foldlM_aggAppend_old (row : Row) (vals : Measure → List PValue) : ∀ (todo : List Measure) (pre : Row),
    (outNames todo).Nodup → (∀ n ∈ outNames todo, n ∉ pre.map (·.1)) →
    Res.foldlM (aggAppend row) (pre ++ accCells todo vals) todo =
      .ok (pre ++ accCells todo (fun m => vals m ++ nn (rowGet m.field row)))
  | [], pre, _, _ => by simp [Res.foldlM, accCells]
  | m :: todo, pre, hnd, hpre => by
    have ih := foldlM_aggAppend_old row vals todo (pre ++ [(m.out, .arr (vals m ++ nn (rowGet m.field row)))])
      (List.nodup_cons.mp hnd).2 (fresh_snoc _ hnd hpre)
    rw [List.append_assoc, List.singleton_append] at ih
    rw [Res.foldlM, show accCells (m :: todo) vals = (m.out, .arr (vals m)) :: accCells todo vals from rfl,
      aggAppend_old row pre _ m _ (hpre m.out (by simp [outNames])), Res.bind_ok, ih]
    simp [accCells]

/-- SPEC: the cell of one measure -/
def cellOf (F : HostFloat) (vals : Measure → List PValue) (m : Measure) : Res (String × PValue) :=
  (aggCell F m.fn (vals m)).map (fun v => (m.out, v))

theorem aggFinish_cell (F : HostFloat) (pre post : Row) (m : Measure) (vs : List PValue) (hmp : m.out ∉ pre.map (·.1)) :
    aggFinish F (pre ++ (m.out, .arr vs) :: post) m = (aggCell F m.fn vs).map fun v => pre ++ (m.out, v) :: post := by
  unfold aggFinish aggCell
  simp only [rowGet_mid _ _ _ _ hmp]
  by_cases he : vs.isEmpty = true
  · simp [he, rowSet_mid _ _ _ _ _ hmp]
  · simp only [he, Bool.false_eq_true, if_false]
    cases aggApply F m.fn vs <;> simp [Res.map, Res.bind, rowSet_mid _ _ _ _ _ hmp]

/-- pass 2 on one aggregate row: the lists are replaced, in measure order, by the cells; the first failure wins -/
theorem foldlM_aggFinish (F : HostFloat) (vals : Measure → List PValue) : ∀ (todo : List Measure) (pre : Row),
    (outNames todo).Nodup → (∀ n ∈ outNames todo, n ∉ pre.map (·.1)) →
    Res.foldlM (aggFinish F) (pre ++ accCells todo vals) todo = (Res.mapM (cellOf F vals) todo).map (fun cells => pre ++ cells)
  | [], pre, _, _ => by simp [Res.foldlM, Res.mapM, accCells]
  | m :: todo, pre, hnd, hpre => by
    have ih := fun v => foldlM_aggFinish F vals todo (pre ++ [(m.out, v)]) (List.nodup_cons.mp hnd).2 (fresh_snoc v hnd hpre)
    simp only [List.append_assoc, List.singleton_append] at ih
    rw [Res.foldlM, show accCells (m :: todo) vals = (m.out, .arr (vals m)) :: accCells todo vals from rfl,
      aggFinish_cell F pre _ m _ (hpre m.out (by simp [outNames]))]
    simp only [Res.mapM, cellOf]
    cases aggCell F m.fn (vals m) with
    | ok v =>
      simp only [Res.map_ok, Res.bind_ok, ih v]
      cases Res.mapM (cellOf F vals) todo <;> simp [Res.map, Res.bind]
    | raised => simp
    | unmodelled => simp

theorem foldl_rowSet_keys (g : String → PValue) : ∀ (cats : List String) (acc : Row),
    ∀ k ∈ (cats.foldl (fun r c => rowSet c (g c) r) acc).map (·.1), k ∈ acc.map (·.1) ∨ k ∈ cats
  | [], _, _, hk => .inl hk
  | c :: cats, acc, k, hk => by
    rcases foldl_rowSet_keys g cats _ k hk with h | h
    · rcases (mem_rowSet_keys k c _ acc).mp h with h | h
      · exact .inl h
      · exact .inr (h ▸ List.mem_cons_self)
    · exact .inr (List.mem_cons_of_mem _ h)

theorem aggNewRow_keys (cats : Option (List String)) (row : Row) : ∀ k ∈ (aggNewRow cats row).map (·.1), k ∈ cats.getD [] :=
  fun k hk => (foldl_rowSet_keys (fun c => rowGet c row) (cats.getD []) [] k hk).elim (fun h => nomatch h) id

/-- the aggregate row of a category after pass 1 -/
def accRow (agg : Aggregation) (rs : List Row) : Row :=
  aggNewRow agg.categories (rs.headD []) ++ accCells agg.measures (fun m => nonNull (rs.map (rowGet m.field)))

theorem wf_names (agg : Aggregation) (hwf : agg.WF = true) :
    (outNames agg.measures).Nodup ∧ ∀ row, ∀ n ∈ outNames agg.measures, n ∉ (aggNewRow agg.categories row).map (·.1) := by
  simp only [Aggregation.WF, Bool.and_eq_true, List.all_eq_true, Bool.not_eq_true', decide_eq_true_eq] at hwf
  refine ⟨hwf.1, fun row n hn hk => ?_⟩
  have h1 := aggNewRow_keys agg.categories row n hk
  have h2 := hwf.2 n hn
  simp only [List.contains_eq_mem, decide_eq_false_iff_not] at h2
  exact h2 h1

/-- pass 1 = grouping: after all rows, one aggregate row per category in first-appearance order, each holding the category
fields of the category's first row and, per measure, the list of its non-null values in row order -/
theorem pass1 (agg : Aggregation) (hwf : agg.WF = true) (data : Table) :
    Res.foldlM (aggStep agg) [] data =
      .ok ((groupSpec (catKey agg.categories) data).map (fun g => (g.1, accRow agg g.2))) := by
  obtain ⟨hnd, hcat⟩ := wf_names agg hwf
  have := foldlM_upsert_groupSpec (catKey agg.categories) (aggNewRow agg.categories)
    (fun row aggRow => Res.foldlM (aggAppend row) aggRow agg.measures) (accRow agg)
    (fun r => by
      rw [foldlM_aggAppend_new r agg.measures _ hnd (hcat r)]
      simp [accRow, nonNull_single])
    (fun r xs hxs => by
      unfold accRow
      rw [foldlM_aggAppend_old r _ agg.measures _ hnd (hcat _)]
      have hh : (xs ++ [r]).headD [] = xs.headD [] := by cases xs <;> simp at hxs ⊢
      rw [hh]
      simp [nonNull_append, nonNull_single])
    data []
  have hs : aggStep agg = fun st r => bucketUpsert (catKey agg.categories r) (aggNewRow agg.categories r)
      (fun aggRow => Res.foldlM (aggAppend r) aggRow agg.measures) st := by funext st r; rfl
  rw [hs]
  simpa [groupSpec, dedup] using this

/-- **mirror = spec** for every table and every aggregation with well-formed output names -/
theorem aggregateData_eq_spec (F : HostFloat) (data : Table) (agg : Aggregation) (hv : agg.valid = true) (hwf : agg.WF = true) :
    aggregateData F data agg = aggregateSpec F data agg := by
  obtain ⟨hnd, hcat⟩ := wf_names agg hwf
  unfold aggregateData aggregateSpec
  simp only [hv, hwf, Bool.not_true, Bool.false_eq_true, if_false, pass1 agg hwf data, Res.bind_ok, Res.mapM_map]
  refine Res.mapM_congr _ _ _ (fun g _ => ?_)
  have := foldlM_aggFinish F (fun m => nonNull (g.2.map (rowGet m.field))) agg.measures
    (aggNewRow agg.categories (g.2.headD [])) hnd (hcat _)
  simp only [accRow]
  rw [this]
  rfl

end C19
