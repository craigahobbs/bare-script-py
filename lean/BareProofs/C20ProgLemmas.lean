import BareModel.HostDiff
import BareProofs.HostLibBridge
import BareProofs.C04Lemmas
import BareProofs.C03

/-!
# C20Prog — a small program logic for straight-line library code on the jump machine over `hostDiff`

Everything here is independent of the text of diff.bare:

* numbers as the machine holds them (`nv n = Value.num (n : Rat)`), frame lemmas for `Lib.getArr`/`Lib.getObj` under
  allocation (`h ++ [c]`) and store (`h.set r c`);
* the library calls diff.bare makes, one lemma each on `Lib.lib` (through the function's row of `C15.table`, `lib_row`), and the
  operators of `hostDiff` on numbers and strings;
* `LibCall` — what a call `Machine.callValue₀ … (fn (lib name))` does over a configuration whose host is `hostDiff`: the
  answer of `Lib.lib` (`libcall_of_lib`), or for names outside `Lib` what `hostDiff` says;
* `Ev` — "expression `e` evaluates, in local scope `l`, globals `g`, heap `h`, to `v` leaving heap `h'`" (for every log,
  partial table, statement counter and fuel), with one rule per expression form;
* `Steps` / `Halts` — "from statement index `pc` the cache-free machine `execM₀` reaches index `pc'`" / "returns `v`",
  burning exactly one unit of fuel and one tick of the statement counter per statement, for every amount of spare fuel —
  so that runs compose without any arithmetic on fuel bounds; `Steps.loop`: a lowered `while` by invariant and variant.
-/

namespace C20Prog
open Machine HostLib HostDiff Lib

abbrev MValue := Machine.Value

/-- a natural number as the machine holds it -/
def nv (n : Nat) : MValue := .num (n : Rat)

/-- a list of strings as array contents -/
def strs (xs : List String) : List Lib.Value := xs.map Lib.Value.str

theorem strs_length (xs : List String) : (strs xs).length = xs.length := by simp [strs]
theorem strs_append (xs ys : List String) : strs (xs ++ ys) = strs xs ++ strs ys := by simp [strs]
theorem strs_getElem? (xs : List String) (i : Nat) : (strs xs)[i]? = xs[i]?.map Lib.Value.str := by simp [strs]
theorem strs_drop (xs : List String) (s : Nat) : (strs xs).drop s = strs (xs.drop s) := by simp [strs]
theorem strs_take (xs : List String) (s : Nat) : (strs xs).take s = strs (xs.take s) := by simp [strs]

theorem nv_zero : Machine.Value.num (0 : Rat) = nv 0 := by simp [nv]
theorem numN_eq (n : Nat) : ofLib (numN n) = nv n := by
  simp only [numN, ofLib, nv]; congr 1
theorem toLib_nv (n : Nat) : toLib (nv n) = .num (n : Rat) := rfl

theorem getArr_congr {h h' : Heap} {r : Nat} (e : h'[r]? = h[r]?) : getArr h' r = getArr h r := by
  unfold getArr; rw [e]

theorem getObj_congr {h h' : Heap} {r : Nat} (e : h'[r]? = h[r]?) : getObj h' r = getObj h r := by
  unfold getObj; rw [e]

theorem getArr_append_lt {h : Heap} {r : Nat} (c : Cell) (hr : r < h.length) : getArr (h ++ [c]) r = getArr h r :=
  getArr_congr (List.getElem?_append_left hr)

theorem getObj_append_lt {h : Heap} {r : Nat} (c : Cell) (hr : r < h.length) : getObj (h ++ [c]) r = getObj h r :=
  getObj_congr (List.getElem?_append_left hr)

theorem getArr_append_new (h : Heap) (xs : List Lib.Value) : getArr (h ++ [.arr xs]) h.length = some xs := by
  simp [getArr]

theorem getObj_append_new (h : Heap) (kvs : List (String × Lib.Value)) : getObj (h ++ [.obj kvs]) h.length = some kvs := by
  simp [getObj]

theorem getArr_set_ne {h : Heap} {r r' : Nat} (c : Cell) (hne : r ≠ r') : getArr (h.set r c) r' = getArr h r' :=
  getArr_congr (List.getElem?_set_ne hne)

theorem getObj_set_ne {h : Heap} {r r' : Nat} (c : Cell) (hne : r ≠ r') : getObj (h.set r c) r' = getObj h r' :=
  getObj_congr (List.getElem?_set_ne hne)

theorem getArr_set_same {h : Heap} {r : Nat} (xs : List Lib.Value) (hr : r < h.length) :
    getArr (h.set r (.arr xs)) r = some xs := by
  simp [getArr, hr]

theorem getArr_lt {h : Heap} {r : Nat} {xs : List Lib.Value} (hx : getArr h r = some xs) : r < h.length := by
  unfold getArr at hx
  rcases Nat.lt_or_ge r h.length with hlt | hge
  · exact hlt
  · rw [List.getElem?_eq_none hge] at hx; cases hx

theorem getObj_lt {h : Heap} {r : Nat} {kvs} (hx : getObj h r = some kvs) : r < h.length := by
  unfold getObj at hx
  rcases Nat.lt_or_ge r h.length with hlt | hge
  · exact hlt
  · rw [List.getElem?_eq_none hge] at hx; cases hx

/- a documented function, by the position of its row in `C15.table` (no look-up by name): the arguments are validated against
the signature of the row, then the reference body runs -/
theorem lib_row {i : Nat} {f : String} {r : C15.Row} (ht : C15.table[i]? = some (f, r)) (args : List Lib.Value) (h : Heap) :
    Lib.lib f args h = (match validate h r.ms args with
      | none => Eff.fail (Spec.docFail f args)
      | some va => r.sb va h).run h := by
  have hr := C15.table_at ht
  have hs : Spec.docSig.lookup f = some r.ms := by rw [C15.docSig_col, C15.lookup_col, hr]; rfl
  have hb : Spec.specBodies.lookup f = some r.sb := by rw [C15.specBodies_col, C15.lookup_col, hr]; rfl
  rw [C15.lib_eq_specLib, Spec.specLib, Spec.specEff, hs, hb, if_neg (by simpa using C15.not_raw_of_docSig hs)]
  rfl

section
/- a call through the specification layer: the row (or, for the three raw functions, the look-up) and argument validation unfold,
the reference body is left -/
attribute [local simp] Spec.specLib Spec.specEff Spec.rawFns rawBodies List.lookup C15.Row.same C15.Row.of validate
  checkArg missingArg Spec.arrP Spec.idx0P Spec.idxEndP Spec.idxP Spec.anyP Spec.P typeBad isNum isArr isStr isObj isDt
  isRegex isFn numBad isIntegral boundBad rle Spec.nat Eff.run refOf

theorem lib_arrayNew (h : Heap) : Lib.lib "arrayNew" [] h = (.ok (.arr h.length), h ++ [.arr []]) := by
  rw [C15.lib_eq_specLib]; simp [arrayNewR]

theorem lib_arrayLength {h : Heap} {r : Nat} {xs : List Lib.Value} (hx : getArr h r = some xs) :
    Lib.lib "arrayLength" [.arr r] h = (.ok (numN xs.length), h) := by
  rw [lib_row (i := 7) rfl]; simp [arrayLengthB, hx]

theorem lib_arrayGet {h : Heap} {r : Nat} {xs : List Lib.Value} {n : Nat} {v : Lib.Value}
    (hx : getArr h r = some xs) (hv : xs[n]? = some v) :
    Lib.lib "arrayGet" [.arr r, .num (n : Rat)] h = (.ok v, h) := by
  rw [lib_row (i := 3) rfl]; simp [Spec.arrayGetS, hx, hv]

theorem lib_arrayPush {h : Heap} {r : Nat} {xs : List Lib.Value} (v : Lib.Value) (hx : getArr h r = some xs) :
    Lib.lib "arrayPush" [.arr r, v] h = (.ok (.arr r), h.set r (.arr (xs ++ [v]))) := by
  rw [lib_row (i := 10) rfl]; simp [arrayPushB, hx]

theorem lib_arrayExtend {h : Heap} {r r2 : Nat} {xs ys : List Lib.Value} (hx : getArr h r = some xs)
    (hy : getArr h r2 = some ys) :
    Lib.lib "arrayExtend" [.arr r, .arr r2] h = (.ok (.arr r), h.set r (.arr (xs ++ ys))) := by
  rw [lib_row (i := 2) rfl]; simp [arrayExtendB, hx, hy]

theorem lib_arraySlice2 {h : Heap} {r : Nat} {xs : List Lib.Value} {s : Nat} (hx : getArr h r = some xs)
    (hs : s ≤ xs.length) :
    Lib.lib "arraySlice" [.arr r, .num (s : Rat)] h = (.ok (.arr h.length), h ++ [.arr (xs.drop s)]) := by
  rw [lib_row (i := 13) rfl]
  simp [Spec.arraySliceS, hx, Spec.endN, Spec.sliceN, hs]
  exact List.take_of_length_le (by simp)

theorem lib_arraySlice3 {h : Heap} {r : Nat} {xs : List Lib.Value} {s e : Nat} (hx : getArr h r = some xs)
    (hs : s ≤ xs.length) (he : e ≤ xs.length) :
    Lib.lib "arraySlice" [.arr r, .num (s : Rat), .num (e : Rat)] h =
      (.ok (.arr h.length), h ++ [.arr ((xs.drop s).take (e - s))]) := by
  rw [lib_row (i := 13) rfl]
  simp [Spec.arraySliceS, hx, Spec.endN, Spec.sliceN, hs, he]

theorem lib_objectNew (h : Heap) (k : String) (v : Lib.Value) :
    Lib.lib "objectNew" [.str "type", .str k, .str "lines", v] h =
      (.ok (.obj h.length), h ++ [.obj [("type", .str k), ("lines", v)]]) := by
  rw [C15.lib_eq_specLib]; simp [objectNewR, objectNewLoop, dictSet]

theorem lib_fromCharCode (h : Heap) (n : Nat) (hn : n < 0xD800) :
    Lib.lib "stringFromCharCode" [.num (n : Rat)] h = (.ok (.str (String.ofList [Char.ofNat n])), h) := by
  rw [C15.lib_eq_specLib]; simp [stringFromCharCodeR, fromCodes, charOfCode, mkStr, hn]

end

theorem compare_nv (w : HostImpl.World) (i j : Nat) :
    HostImpl.compare? w (nv i) (nv j) = some (if i < j then -1 else if i = j then 0 else 1) := by
  simp only [nv, (C03.compare_scalars w).2.2.2.1, Rat.natCast_lt_natCast, Rat.natCast_inj]

theorem cmp_sign (i j : Nat) :
    ((if i < j then -1 else if i = j then 0 else 1 : Int) < 0 ↔ i < j) ∧
    ((if i < j then -1 else if i = j then 0 else 1 : Int) ≥ 0 ↔ i ≥ j) ∧
    ((if i < j then -1 else if i = j then 0 else 1 : Int) > 0 ↔ i > j) := by
  split
  · omega
  · split <;> omega

theorem binop_lt_nv (w : HostImpl.World) (i j : Nat) : HostImpl.binop .lt (nv i) (nv j) w = .bool (decide (i < j)) := by
  simp only [HostImpl.binop, compare_nv, decide_eq_decide.mpr (cmp_sign i j).1]

theorem binop_ge_nv (w : HostImpl.World) (i j : Nat) : HostImpl.binop .ge (nv i) (nv j) w = .bool (decide (i ≥ j)) := by
  simp only [HostImpl.binop, compare_nv, decide_eq_decide.mpr (cmp_sign i j).2.1]

theorem binop_gt_nv (w : HostImpl.World) (i j : Nat) : HostImpl.binop .gt (nv i) (nv j) w = .bool (decide (i > j)) := by
  simp only [HostImpl.binop, compare_nv, decide_eq_decide.mpr (cmp_sign i j).2.2]

theorem binop_add_one (w : HostImpl.World) (i : Nat) : HostImpl.binop .add (nv i) (.num (1 : Rat)) w = nv (i + 1) := by
  simp [HostImpl.binop, nv, Rat.natCast_add]

theorem binop_eq_str (w : HostImpl.World) (x y : String) :
    HostImpl.binop .eq (.str x) (.str y) w = .bool (decide (x = y)) := by
  simp only [HostImpl.binop, (C03.compare_scalars w).2.2.2.2.1, HostImpl.cmpOrd]
  by_cases h : x = y
  · subst h; simp [String.lt_irrefl]
  · by_cases h2 : x < y <;> simp [h, h2]

/-- a machine state: globals `g`, log `lg`, partial table `pt` (none of which diffLines touches), heap `h`, counter `n` -/
def mkS (g : Env) (lg : List String) (pt : List (MValue × List MValue)) (h : Heap) (n : Nat) : State LWorld :=
  ⟨g, ⟨h, lg, pt⟩, n⟩

theorem hostDiff_lib : hostDiff.lib = HostDiff.lib := rfl

theorem hi_globalGet (n : String) (w : HostImpl.World) :
    HostImpl.lib "systemGlobalGet" [.str n] w =
      .globalGet (Name.ofString n) w fun v w1 => HostImpl.ok (v.getD .null) w1 := rfl

theorem hi_systemType (v : MValue) (w : HostImpl.World) :
    HostImpl.lib "systemType" [v] w = HostImpl.ok (.str (HostImpl.typeName v)) w := rfl

section LibCall
variable (cfg : Config LWorld)

/-- the library call `name(args…)` issued by the machine with heap `h` returns `v` and leaves heap `h'`; nothing else moves -/
def LibCall (name : String) (args : List MValue) (h : Heap) (v : MValue) (h' : Heap) : Prop :=
  ∀ g lg pt n fuel, callValue₀ cfg (fuel+1) (.fn (.lib name)) args (mkS g lg pt h n) = .ok v (mkS g lg pt h' n)

variable {cfg} (hh : cfg.host = hostDiff)
include hh

theorem libcall_of_lib {name : String} {args : List MValue} {h h' : Heap} {v : Lib.Value}
    (hn1 : name ≠ "regexNew") (hn2 : name ≠ "regexSplit")
    (hl : Lib.lib name (args.map toLib) h = (.ok v, h')) : LibCall cfg name args h (ofLib v) h' := by
  intro g lg pt n fuel
  rw [callValue₀, hh, hostDiff_lib]
  simp only [HostDiff.lib, hn1, hn2, if_false, HostLib.lib, mkS, hl, runTree]

theorem libcall_fromCharCode (h : Heap) (n : Nat) (hn : n < 0xD800) :
    LibCall cfg "stringFromCharCode" [nv n] h (.str (String.ofList [Char.ofNat n])) h :=
  libcall_of_lib hh (name := "stringFromCharCode") (args := [nv n]) (by simp) (by simp) (lib_fromCharCode h n hn)

theorem libcall_regexNew (h : Heap) (p : String) : LibCall cfg "regexNew" [.str p] h (.regex (encStr p)) h := by
  intro g lg pt n fuel
  rw [callValue₀, hh, hostDiff_lib]
  simp [HostDiff.lib, runTree, mkS]

/-- `regexSplit` with the line-split regex: a fresh array holding `Diff.splitLines s` (the modelled assumption) -/
theorem libcall_regexSplit (h : Heap) (s : String) :
    LibCall cfg "regexSplit" [.regex (encStr lineSplitPattern), .str s] h (.arr h.length)
      (h ++ [.arr (strs (Diff.splitLines s))]) := by
  intro g lg pt n fuel
  rw [callValue₀, hh]
  rw [hostDiff_lib]
  simp [HostDiff.lib, decStr_encStr, runTree, mkS, strs]

omit hh in
/-- a name in neither table of the specification layer has no model in `Lib`: `hostDiff` answers with `fallback` -/
theorem hostDiff_lib_fallback {name : String} (hn1 : name ≠ "regexNew") (hn2 : name ≠ "regexSplit")
    (h1 : name ∉ Spec.rawFns) (h2 : name ∉ Spec.docSig.map Prod.fst) (args : List MValue) (w : LWorld) :
    HostDiff.lib name args w = fallback name args w := by
  simp only [HostDiff.lib, hn1, hn2, if_false]
  refine lib_fallback ?_
  rw [C15.lib_eq_specLib]
  simp [Spec.specLib, Spec.specEff, h1, C15.lookup_none_of_not_mem _ _ h2, Eff.run]

omit hh in
/-- one of the functions `hostLib` keeps from HostImpl: its tree, lifted -/
theorem hostDiff_lib_keeps {name : String} (hk : name ∈ hostKeeps) (hne : name ≠ "arrayIndexOf") (hn1 : name ≠ "regexNew")
    (hn2 : name ≠ "regexSplit") (args : List MValue) (w : LWorld) :
    HostDiff.lib name args w = lift (HostImpl.lib name args w.toImpl) w.heap := by
  simp only [HostDiff.lib, hn1, hn2, if_false]
  exact lib_keeps_noBody hk hne args w

/-- `systemType` is one of `hostLib`'s lifted HostImpl functions: the type name, nothing moves -/
theorem libcall_systemType (h : Heap) (v : MValue) : LibCall cfg "systemType" [v] h (.str (HostImpl.typeName v)) h := by
  intro g lg pt n fuel
  rw [callValue₀, hh, hostDiff_lib, hostDiff_lib_keeps (by decide) (by decide) (by decide) (by decide), hi_systemType]
  rfl

theorem call_systemGlobalGet (n : String) (g : Env) (lg : List String) (pt : List (MValue × List MValue)) (h : Heap)
    (c fuel : Nat) :
    callValue₀ cfg (fuel+1) (.fn (.lib "systemGlobalGet")) [.str n] (mkS g lg pt h c) =
      .ok ((g.get? (Name.ofString n)).getD .null) (mkS g lg pt h c) := by
  rw [callValue₀, hh, hostDiff_lib, hostDiff_lib_keeps (by decide) (by decide) (by decide) (by decide), hi_globalGet]
  rfl

/-- a function `Lib` has no model for and `hostLib` does not keep from HostImpl (`schemaParse`): the wrapper's null -/
theorem call_unmodelled {name : String} (hn1 : name ≠ "regexNew") (hn2 : name ≠ "regexSplit")
    (h1 : name ∉ Spec.rawFns) (h2 : name ∉ Spec.docSig.map Prod.fst) (hk : hostKeeps.contains name = false)
    (args : List MValue) (g : Env) (lg : List String) (pt : List (MValue × List MValue)) (h : Heap) (c fuel : Nat) :
    callValue₀ cfg (fuel+1) (.fn (.lib name)) args (mkS g lg pt h c) = .ok .null (mkS g lg pt h c) := by
  rw [callValue₀, hh, hostDiff_lib, hostDiff_lib_fallback hn1 hn2 h1 h2, fallback, hk]
  simp [runTree, hh, hostDiff, hostLib]

end LibCall

/-- `value_boolean v` with heap `h` is `b`, whatever the log and the partial table -/
def Tr (v : MValue) (h : Heap) (b : Bool) : Prop :=
  ∀ lg pt, HostImpl.truthy v (LWorld.toImpl ⟨h, lg, pt⟩) = b

theorem Tr.bool (b : Bool) (h : Heap) : Tr (.bool b) h b := fun _ _ => rfl
theorem Tr.null (h : Heap) : Tr .null h false := fun _ _ => rfl
theorem Tr.nv (n : Nat) (h : Heap) : Tr (nv n) h (n != 0) := by
  intro lg pt
  simp only [HostImpl.truthy, C20Prog.nv]
  by_cases hn : n = 0
  · subst hn; rfl
  · have : (n : Rat) ≠ 0 := fun h0 => hn (Rat.natCast_eq_zero_iff.mp h0)
    rw [show ((n : Rat) != 0) = true from bne_iff_ne.mpr this, show (n != 0) = true from bne_iff_ne.mpr hn]
theorem Tr.arr {h : Heap} {r : Nat} {xs : List Lib.Value} (hx : getArr h r = some xs) : Tr (.arr r) h (!xs.isEmpty) := by
  intro lg pt
  unfold getArr at hx
  cases hc : h[r]? with
  | none => rw [hc] at hx; cases hx
  | some c =>
    rw [hc] at hx
    cases c with
    | obj kvs => cases hx
    | arr ys =>
      simp only [Option.some.injEq] at hx
      subst hx
      simp [HostImpl.truthy, HostImpl.World.arr?, LWorld.toImpl, hc, cellOfLib]
      cases ys <;> simp

/-- the value of variable `x` in local scope `l` over globals `g` -/
def lk (l g : Env) (x : Name) : MValue :=
  match l.get? x with
  | some v => v
  | none => (g.get? x).getD .null

theorem lookupVar_eq (l g : Env) (x : Name) : lookupVar (some l) g x = lk l g x := by
  simp only [lookupVar, lk, C04.contains_eq_isSome]
  cases l.get? x <;> simp

def NotKw (x : Name) : Prop := x ≠ kwNull ∧ x ≠ kwFalse ∧ x ≠ kwTrue

instance (x : Name) : Decidable (NotKw x) := inferInstanceAs (Decidable (_ ∧ _ ∧ _))

section Ev
variable (cfg : Config LWorld)

/-- expression `e` evaluates to `v` in local scope `l`, globals `g`, heap `h`, leaving heap `h'` (and everything else) -/
def Ev (g l : Env) (h : Heap) (e : Expr) (v : MValue) (h' : Heap) : Prop :=
  ∀ lg pt n fuel, evalExpr cfg (callValue₀ cfg (fuel+1)) (some l) e (mkS g lg pt h n) = .ok v (mkS g lg pt h' n)

def EvArgs (g l : Env) (h : Heap) (es : List Expr) (vs : List MValue) (h' : Heap) : Prop :=
  ∀ lg pt n fuel, evalArgs cfg (callValue₀ cfg (fuel+1)) (some l) es (mkS g lg pt h n) = .ok vs (mkS g lg pt h' n)

/-- a condition: evaluates to the boolean `b`, heap unchanged -/
def EvB (g l : Env) (h : Heap) (e : Expr) (b : Bool) : Prop := Ev cfg g l h e (.bool b) h

variable {cfg} {g l : Env} {h h1 h2 : Heap}

theorem Ev.num (q : Rat) : Ev cfg g l h (.number q) (.num q) h := fun _ _ _ _ => by simp [evalExpr]
theorem Ev.str (s : String) : Ev cfg g l h (.string s) (.str s) h := fun _ _ _ _ => by simp [evalExpr]

theorem Ev.var {x : Name} (hk : NotKw x) : Ev cfg g l h (.variable x) (lk l g x) h := by
  intro lg pt n fuel
  simp [evalExpr, hk.1, hk.2.1, hk.2.2, lookupVar_eq, mkS]

theorem Ev.varG {x : Name} {v : MValue} (hk : NotKw x) (hx : l.get? x = none) (hg : g.get? x = some v) :
    Ev cfg g l h (.variable x) v h := by
  have := Ev.var (cfg := cfg) (g := g) (l := l) (h := h) hk
  simpa [lk, hx, hg] using this

theorem Ev.varNull {x : Name} (hk : NotKw x) (hx : l.get? x = none) (hg : g.get? x = none) :
    Ev cfg g l h (.variable x) .null h := by
  have := Ev.var (cfg := cfg) (g := g) (l := l) (h := h) hk
  simpa [lk, hx, hg] using this

theorem Ev.tt : Ev cfg g l h (.variable (.user "true")) (.bool true) h := fun _ _ _ _ => by
  simp [evalExpr, kwNull, kwFalse, kwTrue]

/-- the local variable `x` holds `v`, and `x` is not a literal keyword: reading `x` yields `v` -/
def Has (l : Env) (x : Name) (v : MValue) : Prop := NotKw x ∧ l.get? x = some v

theorem Has.ev {x : Name} {v : MValue} (hx : Has l x v) : Ev cfg g l h (.variable x) v h := by
  have := Ev.var (cfg := cfg) (g := g) (l := l) (h := h) hx.1
  simpa [lk, hx.2] using this

theorem Has.set {x : Name} (k : NotKw x) (l : Env) (v : MValue) : Has (l.set x v) x v := ⟨k, C04.get?_set_same _ _ _⟩

theorem Has.set_ne {x y : Name} {w : MValue} (hy : Has l y w) (hne : y ≠ x) (v : MValue) : Has (l.set x v) y w :=
  ⟨hy.1, (C04.get?_set_other _ _ _ _ hne).trans hy.2⟩

theorem EvArgs.nil : EvArgs cfg g l h [] [] h := fun _ _ _ _ => by simp [evalArgs]

theorem EvArgs.cons {e : Expr} {es : List Expr} {v : MValue} {vs : List MValue}
    (he : Ev cfg g l h e v h1) (hes : EvArgs cfg g l h1 es vs h2) : EvArgs cfg g l h (e :: es) (v :: vs) h2 := by
  intro lg pt n fuel
  simp [evalArgs, he lg pt n fuel, hes lg pt n fuel]

variable (hh : cfg.host = hostDiff)
include hh

/-- a strict binary operator whose result on the two values does not depend on the world -/
theorem Ev.binop {op : BinOp} {a b : Expr} {va vb v : MValue} (hop : op ≠ .and ∧ op ≠ .or)
    (ha : Ev cfg g l h a va h1) (hb : Ev cfg g l h1 b vb h2) (hv : ∀ w, HostImpl.binop op va vb w = v) :
    Ev cfg g l h (.binary op a b) v h2 := by
  intro lg pt n fuel
  rw [C01.evalExpr_binary_ok _ _ _ hop.1 hop.2 (ha lg pt n fuel) (hb lg pt n fuel), hh]
  exact congrArg (Out.ok · _) (hv _)

theorem Ev.not {a : Expr} {va : MValue} {b : Bool} (ha : Ev cfg g l h a va h1) (ht : Tr va h1 b) :
    Ev cfg g l h (.unary .not a) (.bool (!b)) h1 := by
  intro lg pt n fuel
  rw [C01.evalExpr_unary_ok _ _ _ (ha lg pt n fuel), C09.unValue, hh]
  exact congrArg (fun t => Out.ok (.bool (!t)) _) (ht lg pt)

theorem EvB.not {a : Expr} {b : Bool} (ha : EvB cfg g l h a b) : EvB cfg g l h (.unary .not a) (!b) :=
  Ev.not hh ha (Tr.bool b h)

theorem EvB.and {a b : Expr} {x y : Bool} (ha : EvB cfg g l h a x) (hb : x = true → EvB cfg g l h b y) :
    EvB cfg g l h (.binary .and a b) (x && y) := by
  intro lg pt n fuel
  rw [C01.evalExpr_and_ok _ _ _ (ha lg pt n fuel), hh]
  cases x with
  | false => rfl
  | true => exact hb rfl lg pt n fuel

theorem EvB.or {a b : Expr} {x y : Bool} (ha : EvB cfg g l h a x) (hb : x = false → EvB cfg g l h b y) :
    EvB cfg g l h (.binary .or a b) (x || y) := by
  intro lg pt n fuel
  rw [C01.evalExpr_or_ok _ _ _ (ha lg pt n fuel), hh]
  cases x with
  | true => rfl
  | false => exact hb rfl lg pt n fuel

theorem EvB.lt {a b : Expr} {i j : Nat} (ha : Ev cfg g l h a (nv i) h) (hb : Ev cfg g l h b (nv j) h) :
    EvB cfg g l h (.binary .lt a b) (decide (i < j)) :=
  Ev.binop hh (by decide) ha hb (fun w => binop_lt_nv w i j)

theorem EvB.ge {a b : Expr} {i j : Nat} (ha : Ev cfg g l h a (nv i) h) (hb : Ev cfg g l h b (nv j) h) :
    EvB cfg g l h (.binary .ge a b) (decide (i ≥ j)) :=
  Ev.binop hh (by decide) ha hb (fun w => binop_ge_nv w i j)

theorem EvB.gt {a b : Expr} {i j : Nat} (ha : Ev cfg g l h a (nv i) h) (hb : Ev cfg g l h b (nv j) h) :
    EvB cfg g l h (.binary .gt a b) (decide (i > j)) :=
  Ev.binop hh (by decide) ha hb (fun w => binop_gt_nv w i j)

theorem EvB.eqStr {a b : Expr} {x y : String} (ha : Ev cfg g l h a (.str x) h) (hb : Ev cfg g l h b (.str y) h) :
    EvB cfg g l h (.binary .eq a b) (decide (x = y)) :=
  Ev.binop hh (by decide) ha hb (fun w => binop_eq_str w x y)

theorem Ev.succ {a : Expr} {i : Nat} (ha : Ev cfg g l h a (nv i) h) :
    Ev cfg g l h (.binary .add a (.number (1 : Rat))) (nv (i + 1)) h :=
  Ev.binop hh (by decide) ha (Ev.num 1) (fun w => binop_add_one w i)

omit hh in
/-- a call of a library function bound in the globals (and not shadowed by a local) -/
theorem Ev.call {name : String} {args : List Expr} {vs : List MValue} {v : MValue}
    (hnif : Name.user name ≠ kwIf) (hargs : EvArgs cfg g l h args vs h1) (hloc : l.get? (.user name) = none)
    (hg : g.get? (.user name) = some (.fn (.lib name))) (hcall : LibCall cfg name vs h1 v h2) :
    Ev cfg g l h (.function (.user name) args) v h2 := by
  intro lg pt n fuel
  have hc : l.contains (.user name) = false := (C04.contains_false_iff _ _).mpr hloc
  have hgc : g.contains (.user name) = true := (C04.contains_true_iff _ _).mpr ⟨_, hg⟩
  simp only [evalExpr, hnif, if_false, hargs lg pt n fuel, lookupFunc, hc, Bool.false_eq_true]
  have e : (mkS g lg pt h1 n).globals = g := rfl
  simp only [e, hgc, if_true, hg]
  exact hcall g lg pt n fuel

end Ev

section Run
variable (cfg : Config LWorld) (P : List Stmt) (g : Env)

/-- from statement `pc` (locals `l`, heap `h`) the machine reaches statement `pc'` (locals `l'`, heap `h'`): some number `k`
of statements, each burning one unit of fuel and one tick of the counter, for every amount `fuel+1` of spare fuel -/
def Steps (pc : Nat) (l : Env) (h : Heap) (pc' : Nat) (l' : Env) (h' : Heap) : Prop :=
  ∃ k, ∀ lg pt n fuel, execM₀ cfg (fuel+1+k) P (some l) none pc (mkS g lg pt h n) =
    execM₀ cfg (fuel+1) P (some l') none pc' (mkS g lg pt h' (n+k))

/-- from statement `pc` the run of the list ends with `return v`, heap `h'` -/
def Halts (pc : Nat) (l : Env) (h : Heap) (v : MValue) (h' : Heap) : Prop :=
  ∃ k, ∀ lg pt n fuel, execM₀ cfg (fuel+1+k) P (some l) none pc (mkS g lg pt h n) = .ret v (mkS g lg pt h' (n+k))

variable {cfg P g}

theorem Steps.refl (pc : Nat) (l : Env) (h : Heap) : Steps cfg P g pc l h pc l h := ⟨0, fun _ _ _ _ => rfl⟩

theorem Steps.trans {pc pc' pc'' : Nat} {l l' l'' : Env} {h h' h'' : Heap}
    (s1 : Steps cfg P g pc l h pc' l' h') (s2 : Steps cfg P g pc' l' h' pc'' l'' h'') :
    Steps cfg P g pc l h pc'' l'' h'' := by
  obtain ⟨k1, e1⟩ := s1
  obtain ⟨k2, e2⟩ := s2
  refine ⟨k1 + k2, fun lg pt n fuel => ?_⟩
  have hf : fuel + 1 + (k1 + k2) = (fuel + k2) + 1 + k1 := by omega
  have hf2 : fuel + k2 + 1 = fuel + 1 + k2 := by omega
  rw [hf, e1 lg pt n (fuel + k2), hf2, e2 lg pt (n + k1) fuel, Nat.add_assoc]

theorem Steps.halts {pc pc' : Nat} {l l' : Env} {h h' h'' : Heap} {v : MValue}
    (s1 : Steps cfg P g pc l h pc' l' h') (s2 : Halts cfg P g pc' l' h' v h'') : Halts cfg P g pc l h v h'' := by
  obtain ⟨k1, e1⟩ := s1
  obtain ⟨k2, e2⟩ := s2
  refine ⟨k1 + k2, fun lg pt n fuel => ?_⟩
  have hf : fuel + 1 + (k1 + k2) = (fuel + k2) + 1 + k1 := by omega
  have hf2 : fuel + k2 + 1 = fuel + 1 + k2 := by omega
  rw [hf, e1 lg pt n (fuel + k2), hf2, e2 lg pt (n + k1) fuel, Nat.add_assoc]

variable (hmax : cfg.maxStatements = 0)
include hmax

theorem budgetOk (st : State LWorld) : C08.BudgetOk cfg st := by simp [C08.BudgetOk, hmax]

theorem Steps.assign {pc : Nat} {l : Env} {h h' : Heap} {x : Name} {e : Expr} {v : MValue}
    (hP : P[pc]? = some (.expr (some x) e)) (he : Ev cfg g l h e v h') :
    Steps cfg P g pc l h (pc+1) (l.set x v) h' := by
  refine ⟨1, fun lg pt n fuel => ?_⟩
  rw [C08.step_assign_local cfg (fuel+1) P l none pc _ x e hP (budgetOk hmax _)]
  have := he lg pt (n+1) fuel
  simp only [C08.tick, mkS] at this ⊢
  rw [this]

theorem Steps.exprStmt {pc : Nat} {l : Env} {h h' : Heap} {e : Expr} {v : MValue}
    (hP : P[pc]? = some (.expr none e)) (he : Ev cfg g l h e v h') :
    Steps cfg P g pc l h (pc+1) l h' := by
  refine ⟨1, fun lg pt n fuel => ?_⟩
  rw [C08.step_expr cfg (fuel+1) P (some l) none pc _ e hP (budgetOk hmax _)]
  have := he lg pt (n+1) fuel
  simp only [C08.tick, mkS] at this ⊢
  rw [this]

theorem Steps.label {pc : Nat} {l : Env} {h : Heap} {lab : Name} (hP : P[pc]? = some (.label lab)) :
    Steps cfg P g pc l h (pc+1) l h := by
  refine ⟨1, fun lg pt n fuel => ?_⟩
  rw [C08.step_label cfg (fuel+1) P (some l) none pc _ lab hP (budgetOk hmax _)]
  rfl

theorem Steps.jump {pc t : Nat} {l : Env} {h : Heap} {lab : Name} (hP : P[pc]? = some (.jump lab none))
    (hl : findLabel P lab = some t) : Steps cfg P g pc l h (t+1) l h := by
  refine ⟨1, fun lg pt n fuel => ?_⟩
  rw [C08.jump_taken cfg (fuel+1) P (some l) none pc _ lab hP (budgetOk hmax _), hl]
  rfl

variable (hh : cfg.host = hostDiff)
include hh

theorem Steps.jumpif {pc t : Nat} {l : Env} {h h' : Heap} {lab : Name} {c : Expr} {v : MValue} {b : Bool}
    (hP : P[pc]? = some (.jump lab (some c))) (hl : findLabel P lab = some t) (he : Ev cfg g l h c v h') (ht : Tr v h' b) :
    Steps cfg P g pc l h (if b then t+1 else pc+1) l h' := by
  refine ⟨1, fun lg pt n fuel => ?_⟩
  rw [C08.jumpif_step cfg (fuel+1) P (some l) none pc _ lab c hP (budgetOk hmax _)]
  have := he lg pt (n+1) fuel
  simp only [C08.tick, mkS] at this ⊢
  rw [this]
  have htr : cfg.host.truthy v ({ globals := g, world := { heap := h', log := lg, partials := pt }, count := n + 1 } : State LWorld).world = b := by
    rw [hh]; exact ht lg pt
  simp only [htr, hl]
  cases b <;> simp

theorem Steps.jumpifB {pc t : Nat} {l : Env} {h : Heap} {lab : Name} {c : Expr} {b : Bool}
    (hP : P[pc]? = some (.jump lab (some c))) (hl : findLabel P lab = some t) (he : EvB cfg g l h c b) :
    Steps cfg P g pc l h (if b then t+1 else pc+1) l h :=
  Steps.jumpif hmax hh hP hl he (Tr.bool b h)

theorem Steps.jumpifT {pc t : Nat} {l : Env} {h h' : Heap} {lab : Name} {c : Expr} {v : MValue}
    (hP : P[pc]? = some (.jump lab (some c))) (hl : findLabel P lab = some t) (he : Ev cfg g l h c v h') (ht : Tr v h' true) :
    Steps cfg P g pc l h (t+1) l h' := Steps.jumpif hmax hh hP hl he ht

theorem Steps.jumpifF {pc t : Nat} {l : Env} {h h' : Heap} {lab : Name} {c : Expr} {v : MValue}
    (hP : P[pc]? = some (.jump lab (some c))) (hl : findLabel P lab = some t) (he : Ev cfg g l h c v h') (ht : Tr v h' false) :
    Steps cfg P g pc l h (pc+1) l h' := Steps.jumpif hmax hh hP hl he ht

theorem Steps.jumpifBT {pc t : Nat} {l : Env} {h : Heap} {lab : Name} {c : Expr} {b : Bool}
    (hP : P[pc]? = some (.jump lab (some c))) (hl : findLabel P lab = some t) (he : EvB cfg g l h c b) (hb : b = true) :
    Steps cfg P g pc l h (t+1) l h := by
  subst hb; exact Steps.jumpifT hmax hh hP hl he (Tr.bool true h)

theorem Steps.jumpifBF {pc t : Nat} {l : Env} {h : Heap} {lab : Name} {c : Expr} {b : Bool}
    (hP : P[pc]? = some (.jump lab (some c))) (hl : findLabel P lab = some t) (he : EvB cfg g l h c b) (hb : b = false) :
    Steps cfg P g pc l h (pc+1) l h := by
  subst hb; exact Steps.jumpifF hmax hh hP hl he (Tr.bool false h)

/- A lowered `while c`: `jumpif (!c) done` at `pcE`, `label loop`, the body from `pcE+2`, `jumpif c loop` at `pcT`, `label done`.
`Inv a l h` holds whenever `c` is about to be tested (`a`: ghost state, e.g. the loop index; what relates `l` to the scope on entry
is part of `Inv`), `cnd a` is the value of `c` there, `μ` falls with every pass; `Brk`: the body left by a jump to `done`. -/
theorem Steps.loop {α : Type} {Inv : α → Env → Heap → Prop} {Brk : Env → Heap → Prop} {cnd : α → Bool} {μ : α → Nat}
    {pcE pcT : Nat} {c : Expr} {lab labD : Name}
    (hE : P[pcE]? = some (.jump labD (some (.unary .not c)))) (hT : P[pcT]? = some (.jump lab (some c)))
    (hl : findLabel P lab = some (pcE+1)) (hd : findLabel P labD = some (pcT+1))
    (test : ∀ a l h, Inv a l h → EvB cfg g l h c (cnd a))
    (body : ∀ a l h, Inv a l h → cnd a = true → ∃ l' h',
      (∃ a', Steps cfg P g (pcE+2) l h pcT l' h' ∧ Inv a' l' h' ∧ μ a' < μ a) ∨
      (Steps cfg P g (pcE+2) l h (pcT+2) l' h' ∧ Brk l' h'))
    {a : α} {l : Env} {h : Heap} (inv : Inv a l h) :
    ∃ l' h', Steps cfg P g pcE l h (pcT+2) l' h' ∧ ((∃ a', Inv a' l' h' ∧ cnd a' = false) ∨ Brk l' h') := by
  have hL := ((C08.findLabel_some_iff _ _ _).mp hl).1
  have hD := ((C08.findLabel_some_iff _ _ _).mp hd).1
  have core : ∀ n a l h, μ a < n → Inv a l h → cnd a = true →
      ∃ l' h', Steps cfg P g (pcE+2) l h (pcT+2) l' h' ∧ ((∃ a', Inv a' l' h' ∧ cnd a' = false) ∨ Brk l' h') := by
    intro n
    induction n with
    | zero => intro _ _ _ h; omega
    | succ n ih =>
      intro a l h hμ inv hc
      obtain ⟨l1, h1, ⟨a1, st, inv1, hlt⟩ | ⟨st, brk⟩⟩ := body a l h inv hc
      · cases hc1 : cnd a1 with
        | true =>
          obtain ⟨l', h', st', r⟩ := ih a1 l1 h1 (by omega) inv1 hc1
          exact ⟨l', h', st.trans ((Steps.jumpifBT hmax hh hT hl (test a1 l1 h1 inv1) hc1).trans st'), r⟩
        | false =>
          exact ⟨l1, h1, st.trans ((Steps.jumpifBF hmax hh hT hl (test a1 l1 h1 inv1) hc1).trans (Steps.label hmax hD)),
            .inl ⟨a1, inv1, hc1⟩⟩
      · exact ⟨l1, h1, st, .inr brk⟩
  cases hc : cnd a with
  | true =>
    obtain ⟨l', h', st, r⟩ := core _ a l h (Nat.lt_succ_self _) inv hc
    exact ⟨l', h', (Steps.jumpifBF hmax hh hE hd (EvB.not hh (test a l h inv)) (by rw [hc]; rfl)).trans
      ((Steps.label hmax hL).trans st), r⟩
  | false =>
    exact ⟨l, h, Steps.jumpifBT hmax hh hE hd (EvB.not hh (test a l h inv)) (by rw [hc]; rfl), .inl ⟨a, inv, hc⟩⟩

omit hh in
theorem Halts.ret {pc : Nat} {l : Env} {h h' : Heap} {e : Expr} {v : MValue}
    (hP : P[pc]? = some (.ret (some e))) (he : Ev cfg g l h e v h') : Halts cfg P g pc l h v h' := by
  refine ⟨1, fun lg pt n fuel => ?_⟩
  rw [C08.step_return_some cfg (fuel+1) P (some l) none pc _ e hP (budgetOk hmax _)]
  have := he lg pt (n+1) fuel
  simp only [C08.tick, mkS] at this ⊢
  rw [this]

end Run

end C20Prog
