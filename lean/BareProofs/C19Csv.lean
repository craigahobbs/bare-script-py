import BareProofs.C19Lemmas
import BareProofs.C13
import BareProofs.C16
import BareModel.CsvText

/-!
C19, CSV typing (`validate_data(csv=True)`) over a rectangular table of cell texts: each field gets the type of the first
determinable cell of its column; if every cell converts under the type of its column the parse returns the converted cells.
Canonical texts of typed values parse back to the values (numbers via C13, datetimes via C16).
-/

namespace C19
open Compare Data

/-- the type of the first cell that determines one (a cell that is neither `""` nor `"null"`) -/
def firstType (offU : Int → Int) : List String → Option FieldType
  | [] => none
  | c :: cs =>
    match detectType true offU (.str c) with
    | some (some t) => some t
    | _ => firstType offU cs

/-- the column type: string when no cell determines one -/
def colType (offU : Int → Int) (cells : List String) : FieldType := (firstType offU cells).getD .string

/-- every branch of the detection of a CSV cell is a `some` -/
theorem detectType_str (offU : Int → Int) (c : String) : ∃ x, detectType true offU (.str c) = some x :=
  Option.isSome_iff_exists.mp (by
    simp only [detectType, Bool.not_true, Bool.false_eq_true, if_false, apply_ite Option.isSome, Option.isSome_some, ite_self])

/-- the type of a column all of whose determinable cells have type `t` -/
theorem colType_of_all (offU : Int → Int) (t : FieldType) : ∀ cells : List String,
    (∀ c ∈ cells, detectType true offU (.str c) = some none ∨ detectType true offU (.str c) = some (some t)) →
    ((∃ c ∈ cells, detectType true offU (.str c) = some (some t)) ∨ t = .string) → colType offU cells = t
  | [], _, h => by
    rcases h with ⟨c, hc, _⟩ | h
    · simp at hc
    · simp [colType, firstType, h]
  | c :: cells, hall, h => by
    rcases hall c List.mem_cons_self with hc | hc
    · have ih := colType_of_all offU t cells (fun c' hc' => hall c' (List.mem_cons_of_mem _ hc')) (by
        rcases h with ⟨c', hc', hd⟩ | h
        · rcases List.mem_cons.mp hc' with e | e
          · subst e; rw [hc] at hd; cases hd
          · exact .inl ⟨c', e, hd⟩
        · exact .inr h)
      simpa [colType, firstType, hc] using ih
    · simp [colType, firstType, hc]

theorem lookup_typesSet (f g : String) (t : Option FieldType) : ∀ types : List (String × Option FieldType),
    bucketLookup f (typesSet g t types) = if g = f then some t else bucketLookup f types
  | [] => by simp [typesSet, bucketLookup]
  | (f', t') :: rest => by
    have ih := lookup_typesSet f g t rest
    by_cases h1 : f' = g
    · subst h1
      by_cases h2 : f' = f <;> simp [typesSet, bucketLookup, h2]
    · by_cases h2 : f' = f
      · subst h2
        simp [typesSet, bucketLookup, h1, Ne.symm h1]
      · simp [typesSet, bucketLookup, h1, h2, ih]

/-- the effect of one value on the `types` entry of its field -/
def upd (offU : Int → Int) (cur : Option (Option FieldType)) (v : PValue) : Option (Option FieldType) :=
  match cur.join with
  | some _ => cur
  | none =>
    match detectType true offU v with
    | none => cur
    | some t => some t

theorem lookup_detectCell (offU : Int → Int) (f g : String) (v : PValue) (types : List (String × Option FieldType)) :
    bucketLookup f (detectCell true offU types (g, v)) = if g = f then upd offU (bucketLookup f types) v else bucketLookup f types := by
  unfold detectCell upd typesGet
  by_cases h : g = f
  · subst h
    simp only [if_true]
    cases h1 : (bucketLookup g types).join with
    | some t => simp
    | none =>
      simp only
      cases h2 : detectType true offU v with
      | none => simp
      | some t => simp [lookup_typesSet]
  · simp only [h, if_false]
    split
    · rfl
    · split
      · rfl
      · simp [lookup_typesSet, h]

theorem lookup_row (offU : Int → Int) (f : String) : ∀ (row : Row) (types : List (String × Option FieldType)),
    (row.map (·.1)).Nodup →
    bucketLookup f (row.foldl (detectCell true offU) types) =
      match bucketLookup f row with
      | some v => upd offU (bucketLookup f types) v
      | none => bucketLookup f types
  | [], types, _ => by simp [bucketLookup]
  | (g, v) :: rest, types, hnd => by
    simp only [List.map_cons, List.nodup_cons] at hnd
    have ih := lookup_row offU f rest (detectCell true offU types (g, v)) hnd.2
    simp only [List.foldl_cons, ih, lookup_detectCell]
    by_cases h : g = f
    · subst h
      simp [bucketLookup, bucketLookup_eq_none g rest hnd.1]
    · simp [bucketLookup, h]

theorem lookup_table (offU : Int → Int) (f : String) : ∀ (T : Table) (types : List (String × Option FieldType)),
    (∀ r ∈ T, (r.map (·.1)).Nodup) →
    bucketLookup f (T.foldl (fun types row => row.foldl (detectCell true offU) types) types) =
      (T.filterMap (bucketLookup f)).foldl (upd offU) (bucketLookup f types)
  | [], types, _ => by simp
  | row :: T, types, hnd => by
    have ih := lookup_table offU f T (row.foldl (detectCell true offU) types) (fun r hr => hnd r (List.mem_cons_of_mem _ hr))
    simp only [List.foldl_cons, ih, lookup_row offU f row types (hnd row List.mem_cons_self), List.filterMap_cons]
    cases bucketLookup f row <;> simp

/-- the entry after a run of CSV cells -/
theorem upd_fold_str (offU : Int → Int) : ∀ (cs : List String) (cur : Option (Option FieldType)),
    (cs.map PValue.str).foldl (upd offU) cur =
      match cur.join with
      | some _ => cur
      | none => if cs = [] then cur else some (firstType offU cs)
  | [], cur => by cases h : cur.join <;> simp
  | c :: cs, cur => by
    have ih := upd_fold_str offU cs
    simp only [List.map_cons, List.foldl_cons, reduceCtorEq, if_false]
    cases h : cur.join with
    | some t =>
      have : upd offU cur (.str c) = cur := by simp [upd, h]
      rw [this, ih cur, h]
    | none =>
      obtain ⟨x, hx⟩ := detectType_str offU c
      have : upd offU cur (.str c) = some x := by simp [upd, h, hx]
      rw [this, ih (some x)]
      cases x with
      | some t => simp [firstType, hx]
      | none =>
        by_cases hcs : cs = []
        · subst hcs; simp [firstType, hx]
        · simp [firstType, hx, hcs]

theorem zip_keys_sublist {α : Type} : ∀ (hs : List String) (vs : List α), ((hs.zip vs).map (·.1)).Sublist hs
  | [], vs => by simp
  | h :: hs, [] => by simp
  | h :: hs, v :: vs => by simpa using zip_keys_sublist hs vs

theorem colAt_map {α β : Type} (g : α → β) (header : List String) (f : String) (rows : List (List α)) :
    CsvText.colAt header f (rows.map fun r => r.map g) = (CsvText.colAt header f rows).map g := by
  unfold CsvText.colAt CsvText.cellAt
  rw [List.filterMap_map, List.map_filterMap]
  congr 1
  funext r
  rw [Function.comp_apply, List.zip_map_right]
  exact bucketLookup_mapval g f (header.zip r)

theorem mem_colAt {α : Type} (header : List String) (hnd : header.Nodup) (rows : List (List α)) (r : List α) (hr : r ∈ rows)
    (f : String) (x : α) (hp : (f, x) ∈ header.zip r) : x ∈ CsvText.colAt header f rows :=
  List.mem_filterMap.mpr ⟨r, hr, bucketLookup_of_mem f x _ ((zip_keys_sublist header r).nodup hnd) hp⟩

/-- **the type of a field of a rectangular CSV table**: that of its column -/
theorem _root_.C19CsvText.lookup_detectTypes (offU : Int → Int) (header : List String) (hnd : header.Nodup) (cells : List (List String))
    (f : String) (hne : CsvText.colAt header f cells ≠ []) :
    bucketLookup f (detectTypes true offU (cells.map (fun r => header.zip (r.map PValue.str)))) =
      some (colType offU (CsvText.colAt header f cells)) := by
  unfold detectTypes
  rw [bucketLookup_mapval (fun (t : Option FieldType) => t.getD .string) f,
    lookup_table offU f _ [] (by
      intro r hr
      obtain ⟨r0, _, rfl⟩ := List.mem_map.mp hr
      exact (zip_keys_sublist header _).nodup hnd)]
  have hcol : (cells.map (fun r => header.zip (r.map PValue.str))).filterMap (bucketLookup f) =
      (CsvText.colAt header f cells).map PValue.str := by
    rw [← colAt_map, CsvText.colAt, List.filterMap_map, List.filterMap_map]
    rfl
  rw [hcol, upd_fold_str]
  simp [bucketLookup, hne, colType]

/-- second pass over one row whose fields all have a type entry under which their cell converts -/
theorem convertRow_zip {α : Type} (offU : Int → Int) (types : List (String × FieldType)) (text : α → String) (val : α → PValue) :
    ∀ (hs : List String) (r : List α),
    (∀ p ∈ hs.zip r, ∃ t, bucketLookup p.1 types = some t ∧ convertCell true offU p.1 t (.str (text p.2)) = .ok (val p.2)) →
    convertRow true offU types (hs.zip (r.map fun x => PValue.str (text x))) = .ok (hs.zip (r.map val))
  | [], _, _ => by simp [convertRow]
  | _ :: _, [], _ => rfl
  | f :: hs, x :: r, h => by
    obtain ⟨t, ht, hc⟩ := h (f, x) List.mem_cons_self
    have ih := convertRow_zip offU types text val hs r (fun p hp => h p (List.mem_cons_of_mem _ hp))
    simp only [List.map_cons, List.zip_cons_cons, convertRow, ht, hc, ih]
    rfl

theorem convertRows_zip {α : Type} (offU : Int → Int) (types : List (String × FieldType)) (text : α → String) (val : α → PValue)
    (hs : List String) : ∀ rows : List (List α),
    (∀ r ∈ rows, ∀ p ∈ hs.zip r, ∃ t, bucketLookup p.1 types = some t ∧ convertCell true offU p.1 t (.str (text p.2)) = .ok (val p.2)) →
    convertRows true offU types (rows.map fun r => hs.zip (r.map fun x => PValue.str (text x))) =
      .ok (rows.map fun r => hs.zip (r.map val))
  | [], _ => rfl
  | r :: rows, h => by
    have h1 := convertRow_zip offU types text val hs r (h r List.mem_cons_self)
    have ih := convertRows_zip offU types text val hs rows (fun r' hr => h r' (List.mem_cons_of_mem _ hr))
    simp only [List.map_cons, convertRows, h1, ih]
    rfl

/-- **a rectangular table of cell texts** (rows laid out along a header of pairwise different names, the cells given by `text`):
if every cell converts to `val` under the type of its column, `validate_data` returns the table of the `val`s; each column is
typed on its own -/
theorem validate_rect {α : Type} (text : α → String) (val : α → PValue) (offU : Int → Int) (header : List String) (hnd : header.Nodup)
    (rows : List (List α))
    (hconv : ∀ r ∈ rows, ∀ p ∈ header.zip r,
      convertCell true offU p.1 (colType offU ((CsvText.colAt header p.1 rows).map text)) (.str (text p.2)) = .ok (val p.2)) :
    validateData true offU (rows.map fun r => header.zip (r.map fun x => PValue.str (text x))) =
      .ok (rows.map fun r => header.zip (r.map val)) := by
  refine convertRows_zip offU _ text val header rows fun r hr p hp => ⟨_, ?_, hconv r hr p hp⟩
  have hx := mem_colAt header hnd rows r hr p.1 p.2 hp
  have := C19CsvText.lookup_detectTypes offU header hnd (rows.map fun r => r.map text) p.1 (by
    rw [colAt_map]
    exact fun h => List.ne_nil_of_mem hx (List.map_eq_nil_iff.mp h))
  simpa only [List.map_map, Function.comp_def, colAt_map] using this

theorem validate_one_column {α : Type} (text : α → String) (val : α → PValue) (offU : Int → Int) (f : String) (xs : List α)
    (hconv : ∀ x ∈ xs, convertCell true offU f (colType offU (xs.map text)) (.str (text x)) = .ok (val x)) :
    validateData true offU (xs.map fun x => [(f, PValue.str (text x))]) = .ok (xs.map fun x => [(f, val x)]) := by
  have hcol : CsvText.colAt [f] f (xs.map fun x => [x]) = xs := by
    simp [CsvText.colAt, CsvText.cellAt, bucketLookup, List.filterMap_map, Function.comp_def]
  have := validate_rect text val offU [f] (by simp) (xs.map fun x => [x]) (by
    intro r hr p hp
    obtain ⟨x, hx, rfl⟩ := List.mem_map.mp hr
    obtain rfl : p = (f, x) := by simpa using hp
    simpa only [hcol] using hconv x hx)
  simpa [List.map_map, Function.comp_def] using this

/-- **One CSV column**: the column gets the type of its first cell that is neither empty nor `null` (string if there is
none), and if every cell converts under that type the parse returns the converted cells (if one does not, the parse raises a
field error naming it: `convertCell`). -/
theorem validate_column (offU : Int → Int) (f : String) (cells : List String) (v : String → PValue)
    (hconv : ∀ c ∈ cells, convertCell true offU f (colType offU cells) (.str c) = .ok (v c)) :
    validateData true offU (cells.map (fun c => [(f, PValue.str c)])) = .ok (cells.map (fun c => [(f, v c)])) :=
  validate_one_column id v offU f cells (by simpa using hconv)

theorem isoParse_nil (offU : Int → Int) : Datetime.isoParse offU [] = none := rfl

theorem toZone_none (offU : Int → Int) (f : IsoText.Fields) (h : IsoText.toZone (fun _ => 0) f = none) :
    IsoText.toZone offU f = none := by
  unfold IsoText.toZone at h ⊢
  generalize Datetime.toLocalMs f.dt - f.off * 60 * 1000 = u at h ⊢
  simp only at h ⊢
  cases hu : Datetime.ofLocalMs u with
  | none => rfl
  | some v => simp only [hu, Int.zero_mul, Int.add_zero, reduceCtorEq] at h

/-- a text that is no datetime when read in the zone UTC is none in every zone: the zone enters only in the last step, the
shift of an instant that was found to be in range the step before -/
theorem isoParse_none (offU : Int → Int) (cs : List Char) (h : Datetime.isoParse (fun _ => 0) cs = none) :
    Datetime.isoParse offU cs = none := by
  rw [C16Text.isoParse_factors] at h ⊢
  cases hd : IsoText.parseDateChars cs with
  | some p => simp [hd] at h
  | none =>
    simp only [hd] at h ⊢
    cases hp : IsoText.parseChars cs with
    | none => rfl
    | some f => rw [hp] at h; exact toZone_none offU f h

theorem parseDatetime_none (offU : Int → Int) (s : String) (h : Datetime.isoParse (fun _ => 0) s.toList = none) :
    parseDatetime offU s = none := by
  rw [parseDatetime, isoParse_none offU _ h]
  rfl

theorem isoParse_date (offU : Int → Int) (cs : List Char) (h : (Datetime.scanDate cs).isSome = true) :
    Datetime.isoParse offU cs = Datetime.isoParse (fun _ => 0) cs := by
  unfold Datetime.isoParse
  cases hs : Datetime.scanDate cs with
  | some d => rfl
  | none => simp [hs] at h

theorem parseDatetime_empty (offU : Int → Int) : parseDatetime offU "" = none := rfl

theorem parseDatetime_null (offU : Int → Int) : parseDatetime offU "null" = none := parseDatetime_none offU _ (by decide +kernel)

theorem parseDatetime_true (offU : Int → Int) : parseDatetime offU "true" = none := parseDatetime_none offU _ (by decide +kernel)

theorem parseDatetime_false (offU : Int → Int) : parseDatetime offU "false" = none := parseDatetime_none offU _ (by decide +kernel)

/-- C16's ISO round trip, for the text `value_string`/`datetimeISOFormat` produce (no sub-millisecond part) -/
theorem iso_roundtrip (offL offU : Int → Int) (t : Datetime.DT) (hv : t.Valid)
    (hmin : offL (Datetime.toLocalMs t) % 60 = 0) (hlo : -86400 < offL (Datetime.toLocalMs t)) (hhi : offL (Datetime.toLocalMs t) < 86400)
    (hexists : offU (Datetime.toLocalMs t - offL (Datetime.toLocalMs t) * 1000) = offL (Datetime.toLocalMs t))
    (hutc : (Datetime.ofLocalMs (Datetime.toLocalMs t - offL (Datetime.toLocalMs t) * 1000)).isSome = true) :
    Datetime.isoParse offU (Datetime.isoFormat offL t) = some t :=
  C16.iso_roundtrip_partial offL offU t 0 hv hmin hlo hhi hexists hutc

open NumText in
/-- `value_parse_number(str(n))` for a Python `int` inside the double range -/
theorem parseNumber_int (z : Int) (hlo : -overflowBound < (z : Rat)) (hhi : (z : Rat) < overflowBound) :
    parseNumber (valueStringNum (.int z)) = some (.num z) := by
  have hw := C13.intTok_wf false z
  have hs : valueStringNum (.int z) = String.ofList (C13.intTok z).text := by rw [← C13.intTok_text]; simp
  have hno : ¬ (overflowBound ≤ (z : Rat) ∨ (z : Rat) ≤ -overflowBound) := by
    rintro (h1 | h1)
    · exact absurd hhi (Rat.not_lt.mpr h1)
    · exact absurd hlo (Rat.not_lt.mpr h1)
  simp [parseNumber, numberParseFloat, hs, C13.floatText_text hw (C13.intTok_ascii z), C13.intTok_val, hno]

open NumText in
/-- `value_parse_number(value_string(x))` for a finite `float` whose `repr` text is given (assumptions A1/A2 of C13) -/
theorem parseNumber_float (r : String) (q : Rat) (hr : IsRepr r) (hq : decVal r = some q)
    (hlo : -overflowBound < q) (hhi : q < overflowBound) :
    parseNumber (valueStringNum (.float r)) = some (.num q) := by
  simp [parseNumber, valueStringNum, C13.numberParseFloat_strip_repr r hr q hq hlo hhi]

end C19
