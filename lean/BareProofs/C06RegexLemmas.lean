import BareModel.RxPatterns
import BareProofs.C10Lemmas

/-!
# C06RegexLemmas — general facts about the backtracking matcher `Rx.m`

A greedy star over a one-character matcher followed by ANY continuation `k` takes the longest run and then gives
characters back one at a time until `k` accepts (`backoff`, `star_atom_backoff`).  When `k` cannot begin with a character
of the run, nothing is given back and the star is `takeWhile / dropWhile` (`star_atom_det`).  That side condition is a
statement about what a pattern can begin with (`Avoids`), which is computed along the constructors.  With it the pieces
the statement patterns are made of (`^\s*`, keywords, identifiers, `\s*` in front of a literal, `\s*$`, runs of `.`)
become the scanning functions of `Scan`.
-/

namespace C06Regex
open Rx Text Scan

/-! ## the matcher, one constructor at a time -/

theorem seq_m (a b : Rx) (st : St) (k : K) : (a ⬝ b).m st k = a.m st (fun st' => b.m st' k) := rfl
theorem bol_m (st : St) (k : K) : Rx.bol.m st k = if st.pos = 0 then k st else none := rfl
theorem alt_m (a b : Rx) (st : St) (k : K) : (Rx.alt a b).m st k = (a.m st k <|> b.m st k) := rfl
theorem opt_m (a : Rx) (st : St) (k : K) : (Rx.opt a).m st k = (a.m st k <|> k st) := rfl
theorem ncg_m (a : Rx) (st : St) (k : K) : (Rx.ncg a).m st k = a.m st k := rfl
theorem cap_m (i : Nat) (nm : Option String) (a : Rx) (st : St) (k : K) :
    (Rx.cap i nm a).m st k = a.m st (fun st' => k { st' with caps := (i, st.pos, st'.pos) :: st'.caps }) := rfl
theorem star_m (a : Rx) (st : St) (k : K) : (Rx.star a).m st k = loop a.m st.rest.length st k := rfl
theorem plus_m (a : Rx) (st : St) (k : K) : (Rx.plus a).m st k = a.m st (fun st' => (Rx.star a).m st' k) := rfl
theorem one_m' (a : Atom) (st : St) (k : K) : (Rx.one a).m st k = step a st k := rfl
theorem one_m (a : Atom) : (Rx.one a).m = step a := rfl

theorem step_cons (a : Atom) (p : Nat) (c : Char) (r : Chars) (caps : List (Nat × Nat × Nat)) (k : K) :
    step a ⟨p, c :: r, caps⟩ k = if a.test c then k ⟨p + 1, r, caps⟩ else none := rfl

theorem step_lit (e : Bool) (c : Char) (st : St) (k : K) :
    step (.lit e c) st k = match st.rest with
      | x :: r => if x = c then k ⟨st.pos + 1, r, st.caps⟩ else none
      | [] => none := by
  unfold step; cases st.rest <;> simp [Atom.test]

theorem space_test : Atom.space.test = isSpace := rfl
theorem word_test : Atom.word.test = isWord := rfl

theorem none_orElse {α} (x : Option α) : (none <|> x) = x := rfl
theorem orElse_none' {α} (a : Option α) : (a <|> none) = a := by cases a <;> rfl
theorem some_orElse {α} (a : α) (b : Option α) : (some a <|> b) = some a := rfl
theorem map_orElse' {α β} (f : α → β) (a b : Option α) : (a <|> b).map f = (a.map f <|> b.map f) := by
  cases a <;> rfl

/-! ## runs of characters -/

theorem drop_takeWhile_head (p : Char → Bool) : ∀ (l : List Char) (j : Nat), j < (l.takeWhile p).length →
    ∃ c r, l.drop j = c :: r ∧ p c = true
  | [], j, h => by simp at h
  | c :: l, j, h => by
    by_cases hc : p c = true
    · cases j with
      | zero => exact ⟨c, l, rfl, hc⟩
      | succ j =>
        simp only [List.takeWhile_cons, hc, if_true, List.length_cons] at h
        exact drop_takeWhile_head p l j (by omega)
    · simp [hc] at h

theorem drop_length_takeWhile (p : Char → Bool) : ∀ (l : List Char), l.drop (l.takeWhile p).length = l.dropWhile p
  | [] => rfl
  | c :: l => by
    by_cases hc : p c = true
    · simp only [List.takeWhile_cons, List.dropWhile_cons, hc, if_true, List.length_cons, List.drop_succ_cons,
        drop_length_takeWhile p l]
    · simp only [List.takeWhile_cons, List.dropWhile_cons, hc, Bool.false_eq_true, if_false, List.length_nil, List.drop_zero]

theorem takeWhile_length_of_all (p : Char → Bool) : ∀ l : List Char, l.all p = true → (l.takeWhile p).length = l.length
  | [], _ => rfl
  | c :: l, h => by
    simp only [List.all_cons, Bool.and_eq_true] at h
    simp only [List.takeWhile_cons, h.1, if_true, List.length_cons, takeWhile_length_of_all p l h.2]

theorem not_mem_dropWhile {x : Char} {p : Char → Bool} {l : List Char} (h : x ∉ l) : x ∉ l.dropWhile p :=
  fun hm => h ((List.dropWhile_sublist p).subset hm)

theorem noNL_lstrip {l : Chars} (h : '\n' ∉ l) : '\n' ∉ lstripL l := not_mem_dropWhile h

theorem not_mem_drop {x : Char} {n : Nat} {l : List Char} (h : x ∉ l) : x ∉ l.drop n :=
  fun hm => h (List.mem_of_mem_drop hm)

theorem not_mem_tail {x c : Char} {l : List Char} (h : x ∉ c :: l) : x ∉ l :=
  fun hm => h (List.mem_cons_of_mem _ hm)

theorem drop_ne_nil {l : List Char} {j : Nat} (hj : j < l.length) : l.drop j ≠ [] :=
  fun e => Nat.not_le_of_lt hj (List.drop_eq_nil_iff.mp e)

theorem drop_last : ∀ (l : List Char) (c : Char), l.getLast? = some c → l.drop (l.length - 1) = [c] := by
  intro l c h
  obtain ⟨ys, rfl⟩ := List.getLast?_eq_some_iff.mp h
  simp

/-- a text that does not begin with `c` is not `c :: r'` (what a `match` on a literal first character asks for) -/
theorem head_ne {x c : Char} (hx : ¬ x = c) (r r' : Chars) : x :: r = c :: r' → False := fun h => hx (List.cons.inj h).1

theorem lstrip_split_length (r : Chars) : (r.takeWhile isSpace).length + (lstripL r).length = r.length := by
  have := congrArg List.length (List.takeWhile_append_dropWhile (p := isSpace) (l := r))
  rwa [List.length_append] at this

theorem lstrip_length (line : Chars) : line.length - (lstripL line).length = (line.takeWhile isSpace).length := by
  have := lstrip_split_length line; omega

/-- an offset counted from the end of the stripped line, re-based to the line -/
theorem off_shift (line e : Chars) (he : e.length ≤ (lstripL line).length) :
    (lstripL line).length - e.length + (line.length - (lstripL line).length) = line.length - e.length := by
  have := lstrip_split_length line; omega

theorem drop_ind (line : Chars) : line.drop (line.takeWhile isSpace).length = lstripL line := drop_length_takeWhile _ _

theorem lstrip_cons_split {r r2 : Chars} {x : Char} (e : lstripL r = x :: r2) : r = (r.takeWhile isSpace ++ [x]) ++ r2 := by
  rw [List.append_assoc, List.singleton_append, ← e]; exact List.takeWhile_append_dropWhile.symm

theorem head_lstrip_ns {r e : Chars} {x : Char} (h : lstripL r = x :: e) : isSpace x = false :=
  C10.dropWhile_head_not _ h

theorem allSpace_of_lstrip_nil {r : Chars} (h : lstripL r = []) : allSpace r = true :=
  List.all_eq_true.mpr ((C10.dropWhile_eq_nil_iff' _ _).mp h)

theorem not_allSpace_of_lstrip_cons {r e : Chars} {x : Char} (h : lstripL r = x :: e) : allSpace r = false := by
  cases ha : allSpace r with
  | false => rfl
  | true => rw [C10.lstrip_allSpace ha] at h; cases h

theorem allSpace_drop {t : Chars} (h : allSpace t = true) (j : Nat) : allSpace (t.drop j) = true :=
  List.all_eq_true.mpr fun x hx => List.all_eq_true.mp h x (List.mem_of_mem_drop hx)

theorem noNL_lstrip_tail {r r2 : Chars} {x : Char} (h : '\n' ∉ r) (e : lstripL r = x :: r2) : '\n' ∉ r2 := by
  have h1 : '\n' ∉ lstripL r := not_mem_dropWhile h
  exact not_mem_tail (e ▸ h1)

theorem space_not_idStart {c : Char} (h : isSpace c = true) : isIdStart c = false := by
  cases hs : isIdStart c with
  | false => rfl
  | true => have := C10.idStart_isWord hs; rw [C10.space_not_word h] at this; cases this

/-! ## positions: `line.drop p = rest` is kept along a match, the groups are read off it -/

theorem drop_add_of_drop (line a b : Chars) (p : Nat) (h : line.drop p = a ++ b) : line.drop (p + a.length) = b := by
  rw [← List.drop_drop, h, List.drop_left]

theorem length_of_drop (line r : Chars) (p : Nat) (h : line.drop p = r) (hr : r ≠ []) : p + r.length = line.length := by
  subst h
  have : ¬ line.length ≤ p := fun hle => hr (List.drop_eq_nil_iff.mpr hle)
  rw [List.length_drop]; omega

theorem slice_prefix (line : Chars) (a n : Nat) (name r : Chars) (h : line.drop a = name ++ r) (hn : name.length = n) :
    slice line (a, a + n) = name := by
  simp [slice, h, ← hn]

/-- the text of a group that ends where the rest `r` of the line ends -/
theorem slice_suffix (line r : Chars) (P m : Nat) (hd : line.drop P = r) (hm : m ≤ r.length) :
    slice line (P + m, P + r.length) = r.drop m := by
  simp only [slice]
  rw [← List.drop_drop, hd, show P + r.length - (P + m) = r.length - m from by omega]
  exact List.take_of_length_le (by simp)

theorem drop_ws {line r : Chars} {P : Nat} (hd : line.drop P = r) :
    line.drop (P + (r.takeWhile isSpace).length) = lstripL r := by
  rw [← List.drop_drop, hd, drop_ind]

theorem drop_ws_char {line r r2 : Chars} {x : Char} {P : Nat} (hd : line.drop P = r) (h : lstripL r = x :: r2) :
    line.drop (P + (r.takeWhile isSpace).length + 1) = r2 := by
  have := drop_add_of_drop line _ r2 P (hd.trans (lstrip_cons_split h))
  rwa [List.length_append, List.length_singleton, ← Nat.add_assoc] at this

/-! ## advancing a state, backing off -/

/-- `j` more characters consumed -/
def adv (st : St) (j : Nat) : St := ⟨st.pos + j, st.rest.drop j, st.caps⟩

theorem adv_adv (st : St) (i j : Nat) : adv (adv st i) j = adv st (i + j) := by
  simp only [adv, List.drop_drop, Nat.add_assoc]

/-- try `k` after `n` characters, then after `n - 1`, …, then after none: the first success -/
def backoff (k : K) (st : St) : Nat → Option St
  | 0 => k st
  | j + 1 => k (adv st (j + 1)) <|> backoff k st j

theorem backoff_shift (k : K) (st : St) : ∀ m, backoff k st (m + 1) = (backoff k (adv st 1) m <|> k st)
  | 0 => rfl
  | m + 1 => by
    rw [backoff, backoff_shift k st m, backoff, adv_adv, Nat.add_comm 1]
    cases k (adv st (m + 1 + 1)) <;> rfl

theorem backoff_some (k : K) (st : St) (v : St) : ∀ n, k (adv st n) = some v → backoff k st n = some v
  | 0, h => h
  | n + 1, h => by rw [backoff, h]; rfl

theorem backoff_none (k : K) (st : St) : ∀ n, (∀ j, j ≤ n → k (adv st j) = none) → backoff k st n = none
  | 0, h => h 0 (Nat.le_refl _)
  | n + 1, h => by
    rw [backoff, h (n + 1) (Nat.le_refl _), backoff_none k st n (fun j hj => h j (Nat.le_succ_of_le hj))]; rfl

/-- the first acceptable position from the top: everything above `m` is refused, `m` is accepted -/
theorem backoff_first (k : K) (st : St) (v : St) (m : Nat) : ∀ n, m ≤ n → k (adv st m) = some v →
    (∀ j, m < j → j ≤ n → k (adv st j) = none) → backoff k st n = some v
  | 0, hm, hv, _ => by
    obtain rfl : m = 0 := Nat.le_zero.mp hm
    exact hv
  | n + 1, hm, hv, hn => by
    by_cases e : m = n + 1
    · subst e; exact backoff_some k st v _ hv
    · rw [backoff, hn (n + 1) (by omega) (Nat.le_refl _),
        backoff_first k st v m n (by omega) hv (fun j h1 h2 => hn j h1 (Nat.le_succ_of_le h2))]
      rfl

theorem backoff_unique (k : K) (st : St) (m n : Nat) (hm : m ≤ n) (h : ∀ j, j ≤ n → j ≠ m → k (adv st j) = none) :
    backoff k st n = k (adv st m) := by
  cases hv : k (adv st m) with
  | some v => exact backoff_first k st v m n hm hv fun j h1 h2 => h j h2 (Nat.ne_of_gt h1)
  | none => exact backoff_none k st n fun j hj => if e : j = m then e ▸ hv else h j hj e

theorem backoff_det (k : K) (st : St) : ∀ n, (∀ j, j < n → k (adv st j) = none) → backoff k st n = k (adv st n)
  | 0, _ => rfl
  | n + 1, h => by rw [backoff, backoff_none k st n (fun j hj => h j (Nat.lt_succ_of_le hj)), orElse_none']

/-! ## greedy star over one character -/

theorem loop_step (a : Atom) (k : K) : ∀ (n : Nat) (st : St), st.rest.length ≤ n →
    loop (step a) n st k = backoff k st (st.rest.takeWhile a.test).length
  | 0, st, h => by
    have : st.rest = [] := List.length_eq_zero_iff.mp (Nat.le_zero.mp h)
    rw [this]; rfl
  | n + 1, ⟨pos, rest, caps⟩, h => by
    cases rest with
    | nil => rfl
    | cons c r =>
      rw [loop, step_cons, List.takeWhile_cons]
      by_cases hc : a.test c = true
      · simp only [hc, if_true, List.length_cons, Nat.lt_add_one]
        rw [loop_step a k n ⟨pos + 1, r, caps⟩ (Nat.le_of_succ_le_succ h), backoff_shift]
        rfl
      · simp only [hc, Bool.false_eq_true, if_false]; rfl

/-- **greedy star over a class, followed by a continuation = longest run, then back off** -/
theorem star_atom_backoff (a : Atom) (st : St) (k : K) :
    (Rx.star (.one a)).m st k = backoff k st (st.rest.takeWhile a.test).length :=
  loop_step a k _ st (Nat.le_refl _)

/-- the state after the longest run of `p` -/
def skip (p : Char → Bool) (st : St) : St := ⟨st.pos + (st.rest.takeWhile p).length, st.rest.dropWhile p, st.caps⟩

theorem adv_takeWhile (p : Char → Bool) (st : St) : adv st (st.rest.takeWhile p).length = skip p st := by
  simp only [adv, skip, drop_length_takeWhile]

theorem skip_space_rest (st : St) : (skip isSpace st).rest = lstripL st.rest := rfl

/-- a continuation that cannot start with a character accepted by `p` -/
def RejectsHead (p : Char → Bool) (k : K) : Prop := ∀ st : St, (∃ c r, st.rest = c :: r ∧ p c = true) → k st = none

/-- disjoint follow set, local form: `k` rejects each of the states inside the run -/
theorem star_atom_det' (a : Atom) (st : St) (k : K)
    (hk : ∀ j c r, (adv st j).rest = c :: r → a.test c = true → k (adv st j) = none) :
    (Rx.star (.one a)).m st k = k (skip a.test st) := by
  rw [star_atom_backoff, backoff_det, adv_takeWhile]
  intro j hj
  obtain ⟨c, r, h1, h2⟩ := drop_takeWhile_head a.test st.rest j hj
  exact hk j c r h1 h2

/-- **disjoint follow set: the greedy star is the deterministic span** -/
theorem star_atom_det (a : Atom) (st : St) (k : K) (hk : RejectsHead a.test k) :
    (Rx.star (.one a)).m st k = k (skip a.test st) :=
  star_atom_det' a st k (fun _ c r h1 h2 => hk _ ⟨c, r, h1, h2⟩)

theorem ws_det (st : St) (k : K) (hk : RejectsHead isSpace k) : ws.m st k = k (skip isSpace st) :=
  star_atom_det .space st k hk

/-- `a+` over a one-character matcher with a disjoint follow set -/
theorem plus_atom_det (a : Atom) (st : St) (k : K) (hk : RejectsHead a.test k) :
    (Rx.plus (.one a)).m st k =
      match st.rest with
      | c :: r => if a.test c then k (skip a.test ⟨st.pos + 1, r, st.caps⟩) else none
      | [] => none := by
  obtain ⟨p, rest, caps⟩ := st
  rw [plus_m, one_m']
  cases rest with
  | nil => rfl
  | cons c r =>
    rw [step_cons]
    by_cases hc : a.test c = true
    · simp only [hc, if_true]; exact star_atom_det a _ k hk
    · simp only [hc, Bool.false_eq_true, if_false]

/-! ## what a pattern can begin with

`Avoids p R`: `R` fails on a text that begins with a character of `p`, whatever follows `R`.  This is what makes a star
in front of `R` deterministic; it is read off the pattern constructor by constructor. -/

def Avoids (p : Char → Bool) (R : Rx) : Prop := ∀ k : K, RejectsHead p (fun st => R.m st k)

theorem avoids_one {p : Char → Bool} {a : Atom} (h : ∀ x, p x = true → a.test x = false) : Avoids p (.one a) := by
  intro k ⟨pos, rest, caps⟩ ⟨c, r, hr, hc⟩
  subst hr
  show step a _ k = none
  rw [step_cons, h c hc]; rfl

theorem avoids_lit {p : Char → Bool} (e : Bool) {c : Char} (h : p c = false) : Avoids p (.one (.lit e c)) :=
  avoids_one fun x hx => by
    show (x == c) = false
    exact beq_eq_false_iff_ne.mpr fun e => by rw [e, h] at hx; cases hx

theorem Avoids.seq {p : Char → Bool} {a : Rx} (h : Avoids p a) (b : Rx) : Avoids p (a ⬝ b) :=
  fun _ st hst => h _ st hst

theorem Avoids.cap {p : Char → Bool} {a : Rx} (h : Avoids p a) (i : Nat) (nm : Option String) : Avoids p (.cap i nm a) :=
  fun _ st hst => h _ st hst

theorem Avoids.ncg {p : Char → Bool} {a : Rx} (h : Avoids p a) : Avoids p (.ncg a) := h

theorem Avoids.plus {p : Char → Bool} {a : Rx} (h : Avoids p a) : Avoids p (.plus a) :=
  fun _ st hst => h _ st hst

theorem Avoids.alt {p : Char → Bool} {a b : Rx} (ha : Avoids p a) (hb : Avoids p b) : Avoids p (.alt a b) := by
  intro k st hst
  have h1 : a.m st k = none := ha k st hst
  have h2 : b.m st k = none := hb k st hst
  show (a.m st k <|> b.m st k) = none
  rw [h1, h2]; rfl

theorem Avoids.opt_seq {p : Char → Bool} {a b : Rx} (ha : Avoids p a) (hb : Avoids p b) : Avoids p (.opt a ⬝ b) := by
  intro k st hst
  have h1 : a.m st (fun st' => b.m st' k) = none := ha _ st hst
  have h2 : b.m st k = none := hb k st hst
  show (a.m st _ <|> b.m st k) = none
  rw [h1, h2]; rfl

theorem loop_rejects {p : Char → Bool} {ma : St → K → Option St} {k : K} (hk : RejectsHead p k)
    (hma : ∀ K' : K, RejectsHead p (fun st => ma st K')) : ∀ n, RejectsHead p (fun st => loop ma n st k)
  | 0 => hk
  | n + 1 => by
    intro st h
    have h1 : ma st (fun st' => if st'.rest.length < st.rest.length then loop ma n st' k else none) = none := hma _ st h
    show (ma st _ <|> k st) = none
    rw [h1, hk st h]; rfl

theorem Avoids.star_seq {p : Char → Bool} {a b : Rx} (ha : Avoids p a) (hb : Avoids p b) : Avoids p (.star a ⬝ b) :=
  fun k st hst => loop_rejects (hb k) ha _ st hst

theorem Avoids.ws_seq {p : Char → Bool} {R : Rx} (h : Avoids p R) (hs : ∀ x, p x = true → isSpace x = false) :
    Avoids p (ws ⬝ R) :=
  Avoids.star_seq (avoids_one hs) h

theorem rejects_caps (p : Char → Bool) (k : K) (f : St → List (Nat × Nat × Nat)) (hk : RejectsHead p k) :
    RejectsHead p (fun st => k { st with caps := f st }) :=
  fun _ h => hk _ h

theorem avoids_eol {p : Char → Bool} (h : p '\n' = false) : Avoids p .eol := by
  intro k ⟨pos, rest, caps⟩ ⟨c, r, hr, hc⟩
  subst hr
  have hn : (c == '\n') = false := beq_eq_false_iff_ne.mpr fun e => by rw [e, h] at hc; cases hc
  show (if atEnd (c :: r) then _ else none) = none
  cases r with
  | nil => simp only [atEnd, hn, Bool.false_eq_true, if_false]
  | cons _ _ => rfl

/-! ## literal words -/

theorem word1_m : ∀ (cs : List Char) (c : Char) (st : St) (k : K),
    (word1 c cs).m st k = if (c :: cs).isPrefixOf st.rest then k (adv st (cs.length + 1)) else none
  | cs, c, ⟨pos, [], caps⟩, k => by cases cs <;> rfl
  | [], c, ⟨pos, x :: r, caps⟩, k => by
    rw [word1, lit, one_m', step_cons]
    show (if (x == c) = true then _ else none) = if ((c == x) && true) = true then _ else none
    rw [Bool.and_true, Bool.beq_comm]; rfl
  | d :: ds, c, ⟨pos, x :: r, caps⟩, k => by
    rw [word1, lit, seq_m, one_m', step_cons, word1_m ds d]
    show (if (x == c) = true then _ else none) = if ((c == x) && (d :: ds).isPrefixOf r) = true then _ else none
    rw [Bool.beq_comm]
    by_cases hx : (c == x) = true
    · simp only [hx, if_true, Bool.true_and, adv, List.length_cons, Nat.add_assoc, Nat.add_comm 1, List.drop_succ_cons]
    · simp only [hx, Bool.false_eq_true, if_false, Bool.false_and]

/-- **a literal keyword = `Scan.keyword?`** -/
theorem kw_match (w : String) (c : Char) (cs : List Char) (hw : w.toList = c :: cs) (st : St) (k : K) :
    (kw w.toList).m st k = match keyword? w st.rest with
      | some r => k ⟨st.pos + w.length, r, st.caps⟩
      | none => none := by
  have hl : w.length = cs.length + 1 := by rw [← String.length_toList, hw]; rfl
  unfold keyword?
  rw [hw, hl]
  show (word1 c cs).m st k = _
  rw [word1_m]
  by_cases h : (c :: cs).isPrefixOf st.rest = true
  · simp only [h, if_true]; rfl
  · simp only [h, Bool.false_eq_true, if_false]

theorem avoids_kw_of {p : Char → Bool} {w : String} {c : Char} {cs : List Char} (hw : w.toList = c :: cs) (hp : p c = false) :
    Avoids p (kw w.toList) := by
  rw [hw]
  cases cs with
  | nil => exact avoids_lit false hp
  | cons d ds => exact (avoids_lit false hp).seq _

/-- what `\s*kw` needs of a keyword: it is not empty and does not begin with a blank -/
def startsNonBlank (w : String) : Bool := w.toList.head?.any (fun c => !isSpace c)

theorem startsNonBlank_of {w : String} {c : Char} {cs : List Char} (hw : w.toList = c :: cs) (hc : isSpace c = false) :
    startsNonBlank w = true := by
  simp only [startsNonBlank, hw, List.head?_cons, Option.any_some, hc, Bool.not_false]

theorem startsNonBlank_cons {w : String} (h : startsNonBlank w = true) : ∃ c cs, w.toList = c :: cs ∧ isSpace c = false := by
  unfold startsNonBlank at h
  cases hw : w.toList with
  | nil => rw [hw] at h; cases h
  | cons c cs =>
    rw [hw] at h
    exact ⟨c, cs, rfl, by simpa using h⟩

theorem kw_m (w : String) (hw : startsNonBlank w = true) (st : St) (k : K) :
    (kw w.toList).m st k = match keyword? w st.rest with
      | some r => k ⟨st.pos + w.length, r, st.caps⟩
      | none => none := by
  obtain ⟨c, cs, h, _⟩ := startsNonBlank_cons hw
  exact kw_match w c cs h st k

theorem avoids_kw {w : String} (hw : startsNonBlank w = true) : Avoids isSpace (kw w.toList) := by
  obtain ⟨c, cs, h, hc⟩ := startsNonBlank_cons hw
  exact avoids_kw_of h hc

theorem keyword?_drop {w : String} {l r : Chars} (h : keyword? w l = some r) : r = l.drop w.length := by
  unfold keyword? at h; split at h
  · exact (Option.some.inj h).symm
  · cases h

theorem noNL_keyword {w : String} {l r : Chars} (h : '\n' ∉ l) (hk : keyword? w l = some r) : '\n' ∉ r :=
  keyword?_drop hk ▸ not_mem_drop h

theorem isPrefixOf_append : ∀ (a b l : List Char), (a ++ b).isPrefixOf l = (a.isPrefixOf l && b.isPrefixOf (l.drop a.length))
  | [], b, l => by simp
  | x :: a, b, [] => by simp [List.isPrefixOf]
  | x :: a, b, y :: l => by simp [List.isPrefixOf, isPrefixOf_append a b l, Bool.and_assoc]

theorem keyword?_append (w1 w2 : String) (s : Chars) : keyword? (w1 ++ w2) s = (keyword? w1 s).bind (keyword? w2) := by
  unfold keyword?
  rw [String.toList_append, isPrefixOf_append, String.length_append, String.length_toList]
  cases w1.toList.isPrefixOf s
  · rfl
  · simp only [Bool.true_and, if_true, Option.bind_some, List.drop_drop]

/-! ## end of line, blanks -/

theorem atEnd_noNL : ∀ (r : List Char), '\n' ∉ r → atEnd r = r.isEmpty
  | [], _ => rfl
  | [c], h => beq_eq_false_iff_ne.mpr fun e => h (e ▸ List.mem_singleton_self c)
  | _ :: _ :: _, _ => rfl

theorem eol_m (st : St) (k : K) (h : '\n' ∉ st.rest) :
    Rx.eol.m st k = match st.rest with | [] => k st | _ :: _ => none := by
  show (if atEnd st.rest then k st else none) = _
  rw [atEnd_noNL _ h]; cases st.rest <;> rfl

theorem eol_none_of_ne (st : St) (k : K) (h : '\n' ∉ st.rest) (hne : st.rest ≠ []) : Rx.eol.m st k = none := by
  rw [eol_m _ _ h]
  cases hr : st.rest with
  | nil => exact absurd hr hne
  | cons _ _ => rfl

/-- `\s*$` on the rest of a line: everything left is blank -/
theorem ws_eol (st : St) (k : K) (h : '\n' ∉ st.rest) :
    ws.m st (fun st' => Rx.eol.m st' k) =
      if allSpace st.rest then k ⟨st.pos + st.rest.length, [], st.caps⟩ else none := by
  show (Rx.star (.one .space)).m st _ = _
  rw [star_atom_det']
  · rw [eol_m _ _ (not_mem_dropWhile h)]
    show (match lstripL st.rest with | [] => _ | _ :: _ => none) = _
    cases hd : lstripL st.rest with
    | nil =>
      have ha := allSpace_of_lstrip_nil hd
      simp only [ha, if_true, skip, space_test, takeWhile_length_of_all isSpace st.rest ha]
      rw [show st.rest.dropWhile isSpace = [] from hd]
    | cons c r => simp only [not_allSpace_of_lstrip_cons hd, Bool.false_eq_true, if_false]
  · intro j c r hr _
    exact eol_none_of_ne _ _ (not_mem_drop h) (hr ▸ List.cons_ne_nil c r)

theorem ws_eol_seq (st : St) (k : K) (h : '\n' ∉ st.rest) :
    (ws ⬝ Rx.eol).m st k = if allSpace st.rest then k ⟨st.pos + st.rest.length, [], st.caps⟩ else none :=
  ws_eol st k h

/-! ## leading blanks, identifiers, `\s*` before a literal -/

/-- `^\s*R`, local form: `R` refuses each of the states inside the indentation -/
theorem lead' (R : Rx) (line : Chars) (k : K)
    (hR : ∀ j c r, line.drop j = c :: r → isSpace c = true → R.m ⟨j, line.drop j, []⟩ k = none) :
    (Rx.bol ⬝ ws ⬝ R).m ⟨0, line, []⟩ k = R.m ⟨(line.takeWhile isSpace).length, lstripL line, []⟩ k := by
  show (Rx.star (.one .space)).m ⟨0, line, []⟩ _ = _
  rw [star_atom_det']
  · simp only [skip, space_test, Nat.zero_add]; rfl
  · intro j c r h1 h2
    have := hR j c r h1 h2
    simpa only [adv, Nat.zero_add] using this

/-- `^\s*R` when `R` cannot start with a blank: `R` runs on the stripped line -/
theorem lead (R : Rx) (line : Chars) (k : K) (hR : RejectsHead isSpace (fun st => R.m st k)) :
    (Rx.bol ⬝ ws ⬝ R).m ⟨0, line, []⟩ k = R.m ⟨(line.takeWhile isSpace).length, lstripL line, []⟩ k :=
  lead' R line k fun _ c r h1 h2 => hR _ ⟨c, r, h1, h2⟩

theorem lead_kw (w : String) (hw : startsNonBlank w = true) (R : Rx) (line : Chars) (k : K) :
    (Rx.bol ⬝ ws ⬝ kw w.toList ⬝ R).m ⟨0, line, []⟩ k = match keyword? w (lstripL line) with
      | some r => R.m ⟨(line.takeWhile isSpace).length + w.length, r, []⟩ k
      | none => none := by
  rw [lead _ _ _ ((avoids_kw hw).seq R k), seq_m, kw_m w hw]

theorem drop_keyword {w : String} {line r : Chars} (hk : keyword? w (lstripL line) = some r) :
    line.drop ((line.takeWhile isSpace).length + w.length) = r := by
  rw [← List.drop_drop, drop_ind, keyword?_drop hk]

theorem idStart_test (c : Char) : idStart.test c = isIdStart c := by
  have e : (c = '_') ↔ c.toNat = 95 := by rw [← Char.toNat_inj]; rfl
  simp only [idStart, Atom.test, Item.test, List.any_cons, List.any_nil, isIdStart, Bool.or_false,
    show 'A'.toNat = 65 from rfl, show 'Z'.toNat = 90 from rfl, show 'a'.toNat = 97 from rfl, show 'z'.toNat = 122 from rfl]
  rw [Bool.eq_iff_iff]
  simp [e, Bool.or_assoc]

theorem ident?_head {s name r : Chars} (h : ident? s = some (name, r)) : ∃ c cs, s = c :: cs ∧ isWord c = true := by
  obtain ⟨c, w, rfl, hc, -, rfl⟩ := C10.ident?_some h
  exact ⟨c, w ++ r, rfl, C10.idStart_isWord hc⟩

theorem noNL_ident {l name r : Chars} (h : '\n' ∉ l) (hk : ident? l = some (name, r)) : '\n' ∉ r :=
  fun hm => h (C10.ident?_decomp hk ▸ List.mem_append_right _ hm)

theorem ident?_word {s name r : Chars} (h : ident? s = some (name, r)) : ∀ x ∈ name, isWord x = true :=
  C10.isIdent_word (C10.ident?_isIdent h)

theorem avoids_ident {p : Char → Bool} (hp : ∀ x, p x = true → isIdStart x = false) : Avoids p ident :=
  (avoids_one fun x hx => by rw [idStart_test, hp x hx]).seq _

/-- `[A-Za-z_]\w*` before a continuation that cannot start with a word character = `Scan.ident?` -/
theorem ident_det (st : St) (k : K) (hk : RejectsHead isWord k) :
    ident.m st k = match ident? st.rest with
      | some (name, r) => k ⟨st.pos + name.length, r, st.caps⟩
      | none => none := by
  obtain ⟨pos, rest, caps⟩ := st
  cases rest with
  | nil => rfl
  | cons c cs =>
    rw [ident, seq_m, one_m', step_cons, idStart_test]
    unfold ident?
    by_cases hc : isIdStart c = true
    · simp only [hc, if_true]
      rw [star_atom_det .word _ _ hk]
      simp only [skip, word_test, List.length_cons, Nat.add_assoc, Nat.add_comm 1]
    · simp only [hc, Bool.false_eq_true, if_false]

theorem cap_ident_det (i : Nat) (nm : Option String) (st : St) (k : K) (hk : RejectsHead isWord k) :
    (Rx.cap i nm ident).m st k = match ident? st.rest with
      | some (name, r) => k ⟨st.pos + name.length, r, (i, st.pos, st.pos + name.length) :: st.caps⟩
      | none => none := by
  rw [cap_m, ident_det _ _ (rejects_caps isWord k _ hk)]

theorem avoids_cap_ident (i : Nat) (nm : Option String) : Avoids isSpace (.cap i nm ident) :=
  (avoids_ident fun _ => space_not_idStart).cap i nm

theorem rejects_ident (p : Char → Bool) (hp : ∀ x, p x = true → isIdStart x = false) (R : Rx)
    (k : K) : RejectsHead p (fun st => (ident ⬝ R).m st k) :=
  ((avoids_ident hp).seq R) k

/-- `\s*` then a non-blank literal: the star takes all blanks -/
theorem ws_lit_det (e : Bool) (c : Char) (hc : isSpace c = false) (R : Rx) (st : St) (k : K) :
    (ws ⬝ Rx.one (.lit e c) ⬝ R).m st k = match lstripL st.rest with
      | x :: r => if x = c then R.m ⟨st.pos + (st.rest.takeWhile isSpace).length + 1, r, st.caps⟩ k else none
      | [] => none := by
  show (Rx.star (.one .space)).m st _ = _
  rw [star_atom_det .space _ _ (((avoids_lit e hc).seq R) k), seq_m, one_m']
  exact step_lit e c _ _

theorem word_ne {c : Char} (hc : isWord c = false) : ∀ x, isWord x = true → isSpace x = false ∧ x ≠ c :=
  fun x hx => ⟨C10.word_not_space hx, fun e => by rw [e, hc] at hx; cases hx⟩

/-- `\s*lit…` cannot start with a character that is neither blank nor the literal -/
theorem rejects_ws_lit (p : Char → Bool) (e : Bool) (c : Char) (hp : ∀ x, p x = true → isSpace x = false ∧ x ≠ c) (R : Rx) (k : K) :
    RejectsHead p (fun st => (ws ⬝ Rx.one (.lit e c) ⬝ R).m st k) :=
  (Avoids.ws_seq ((avoids_one (a := .lit e c) fun x hx => beq_eq_false_iff_ne.mpr (hp x hx).2).seq R) fun x hx => (hp x hx).1) k

/-- `\s*c\s*R` for a non-blank literal `c` and an `R` that cannot begin with a blank -/
theorem ws_lit_ws_det (e : Bool) (c : Char) (hc : isSpace c = false) (R : Rx) (hR : Avoids isSpace R) (st : St) (k : K) :
    (ws ⬝ Rx.one (.lit e c) ⬝ ws ⬝ R).m st k = match lstripL st.rest with
      | x :: r =>
        if x = c then
          R.m ⟨st.pos + (st.rest.takeWhile isSpace).length + 1 + (r.takeWhile isSpace).length, lstripL r, st.caps⟩ k
        else none
      | [] => none := by
  rw [ws_lit_det e c hc]
  cases lstripL st.rest with
  | nil => rfl
  | cons x r =>
    show (if x = c then (Rx.star (.one .space)).m _ _ else none) = _
    rw [star_atom_det .space _ _ (hR k)]; rfl

/-- `\s+` in front of something that cannot start with a blank = `Scan.ws1?` -/
theorem ws1_det (R : Rx) (st : St) (k : K) (hR : RejectsHead isSpace (fun st => R.m st k)) :
    (ws1 ⬝ R).m st k = match st.rest with
      | c :: r' => if isSpace c then R.m ⟨st.pos + 1 + (r'.takeWhile isSpace).length, lstripL r', st.caps⟩ k else none
      | [] => none :=
  plus_atom_det .space st _ hR

/-- `\s*:\s*$` on the rest of a line -/
theorem colon_tail (st : St) (k : K) (h : '\n' ∉ st.rest) :
    (ws ⬝ lit ':' ⬝ ws ⬝ Rx.eol).m st k = match lstripL st.rest with
      | ':' :: r2 => if allSpace r2 then k ⟨st.pos + st.rest.length, [], st.caps⟩ else none
      | _ => none := by
  rw [show lit ':' = Rx.one (.lit false ':') from rfl, ws_lit_det false ':' (by decide)]
  have hl := lstrip_split_length st.rest
  cases hr : lstripL st.rest with
  | nil => rfl
  | cons x r2 =>
    rw [hr, List.length_cons] at hl
    by_cases hx : x = ':'
    · subst hx
      simp only [if_true]
      rw [ws_eol_seq _ _ (noNL_lstrip_tail h hr),
        show st.pos + (List.takeWhile isSpace st.rest).length + 1 + r2.length = st.pos + st.rest.length from by omega]
    · simp only [hx, if_false]
      split
      · rename_i heq; cases heq; exact absurd rfl hx
      · rfl

/-! ## `.`-runs to the end of the line -/

theorem dot_test_of_noNL {l : List Char} (h : '\n' ∉ l) : ∀ x ∈ l, Atom.dot.test x = true :=
  fun _ hx => bne_iff_ne.mpr fun e => h (e ▸ hx)

theorem takeWhile_dot_length {l : List Char} (h : '\n' ∉ l) : (l.takeWhile Atom.dot.test).length = l.length :=
  takeWhile_length_of_all _ _ (List.all_eq_true.mpr (dot_test_of_noNL h))

/-- **`(?P<g>.+)` in front of any continuation**: the group takes the rest of the line and gives characters back from
the end until the continuation accepts -/
theorem cap_dotplus_m (i : Nat) (nm : Option String) (st : St) (k : K) (h : '\n' ∉ st.rest) :
    (Rx.cap i nm (.plus (.one .dot))).m st k = match st.rest with
      | [] => none
      | _ :: rest' =>
        backoff (fun st' => k { st' with caps := (i, st.pos, st'.pos) :: st'.caps }) ⟨st.pos + 1, rest', st.caps⟩ rest'.length := by
  obtain ⟨pos, rest, caps⟩ := st
  rw [cap_m, plus_m, one_m']
  cases rest with
  | nil => rfl
  | cons x rest' =>
    rw [step_cons, dot_test_of_noNL h x List.mem_cons_self, if_pos rfl, star_atom_backoff, takeWhile_dot_length (not_mem_tail h)]

/-- `.*$` -/
theorem dotstar_eol (st : St) (k : K) (h : '\n' ∉ st.rest) :
    (Rx.star (.one .dot)).m st (fun st' => Rx.eol.m st' k) = k ⟨st.pos + st.rest.length, [], st.caps⟩ := by
  rw [star_atom_backoff, takeWhile_dot_length h,
    backoff_det _ _ _ fun j hj => eol_none_of_ne _ _ (not_mem_drop h) (drop_ne_nil hj), adv, List.drop_length]
  rfl

/-- `(?P<g>.+)$` -/
theorem dotplus_eol (i : Nat) (nm : Option String) (st : St) (k : K) (h : '\n' ∉ st.rest) :
    (Rx.cap i nm (.plus (.one .dot)) ⬝ Rx.eol).m st k = match st.rest with
      | [] => none
      | _ :: _ => k ⟨st.pos + st.rest.length, [], (i, st.pos, st.pos + st.rest.length) :: st.caps⟩ := by
  obtain ⟨pos, rest, caps⟩ := st
  rw [seq_m, cap_dotplus_m _ _ _ _ h]
  cases rest with
  | nil => rfl
  | cons c r =>
    have hr : '\n' ∉ r := not_mem_tail h
    show backoff _ _ _ = _
    rw [backoff_det, adv, List.drop_length]
    · show k _ = _
      simp only [List.length_cons, Nat.add_assoc, Nat.add_comm 1]
    · intro j hj
      exact eol_none_of_ne _ _ (not_mem_drop hr) (drop_ne_nil hj)

/-! ## a run of blanks in front of `.+` -/

/-- `\s*` in front of a continuation that accepts as long as one of the first `n` characters is left to it (and `n`
covers the blanks): all blanks are skipped, but the last one is given back when nothing else is left -/
theorem ws_giveback (st : St) (K' : K) (v : Nat → St) (n : Nat) (hn : (st.rest.takeWhile isSpace).length ≤ n)
    (hK : ∀ j, j < n → K' (adv st j) = some (v j)) (hKn : K' (adv st n) = none) :
    ws.m st K' = if n = 0 then none else some (v (min (st.rest.takeWhile isSpace).length (n - 1))) := by
  show (Rx.star (.one .space)).m st K' = _
  rw [star_atom_backoff, space_test]
  by_cases hlt : (st.rest.takeWhile isSpace).length < n
  · rw [backoff_some _ _ _ _ (hK _ hlt), if_neg (by omega), Nat.min_eq_left (by omega)]
  · obtain rfl : (st.rest.takeWhile isSpace).length = n := by omega
    cases hn0 : (st.rest.takeWhile isSpace).length with
    | zero => rw [hn0] at hKn; exact hKn
    | succ m =>
      rw [hn0] at hK hKn
      rw [if_neg (Nat.succ_ne_zero m), backoff_first _ _ _ m (m + 1) (Nat.le_succ m) (hK m (Nat.lt_succ_self m)),
        Nat.add_sub_cancel, Nat.min_eq_right (Nat.le_succ m)]
      intro j h1 h2
      obtain rfl : j = m + 1 := by omega
      exact hKn

theorem drop_giveback_cons {a e : Chars} {x : Char} (h : lstripL a = x :: e) :
    a.drop (min (a.takeWhile isSpace).length (a.length - 1)) = x :: e := by
  have hl := lstrip_split_length a
  rw [h, List.length_cons] at hl
  rw [Nat.min_eq_left (by omega), drop_ind, h]

theorem drop_giveback_nil {a : Chars} {c : Char} (h : lstripL a = []) (hc : a.getLast? = some c) :
    a.drop (min (a.takeWhile isSpace).length (a.length - 1)) = [c] := by
  have hl := lstrip_split_length a
  rw [h, List.length_nil] at hl
  rw [Nat.min_eq_right (by omega), drop_last a c hc]

/-- `\s*(?P<g>.+)$` at the top level: the blanks are skipped, but the last one is given back when nothing else is left -/
theorem ws_dotplus_eol (i : Nat) (nm : Option String) (st : St) (h : '\n' ∉ st.rest) :
    (ws ⬝ Rx.cap i nm (.plus (.one .dot)) ⬝ Rx.eol).m st some =
      if st.rest = [] then none
      else some ⟨st.pos + st.rest.length, [],
        (i, st.pos + min (st.rest.takeWhile isSpace).length (st.rest.length - 1), st.pos + st.rest.length) :: st.caps⟩ := by
  refine (ws_giveback st _ (fun j => ⟨st.pos + st.rest.length, [], (i, st.pos + j, st.pos + st.rest.length) :: st.caps⟩)
    st.rest.length (List.takeWhile_sublist _).length_le (fun j hj => ?_) ?_).trans ?_
  · rw [dotplus_eol _ _ _ _ (not_mem_drop h)]
    cases hr : (adv st j).rest with
    | nil => exact absurd hr (drop_ne_nil hj)
    | cons c r =>
      have := congrArg List.length hr
      simp only [adv, List.length_drop, List.length_cons] at this
      simp only [adv, Option.some.injEq, St.mk.injEq, true_and, List.cons.injEq, Prod.mk.injEq, and_true, List.length_cons]
      omega
  · rw [dotplus_eol _ _ _ _ (not_mem_drop h), adv, List.drop_length]
  · simp only [List.length_eq_zero_iff]

end C06Regex
