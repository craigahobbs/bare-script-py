import BareProofs.C06Regex8Lemmas

/-!
# C06Regex9Lemmas — `_R_EXPR_NUMBER`: closed forms in front of an always-accepting continuation; re-scanning the captured text
-/

namespace C06Regex
open Rx Text RxPatterns

/-! ## the optional pieces in front of a total continuation (greedy never backs off: the rest accepts anything) -/

theorem isDigit_test : Atom.digit.test = ExprScan.isDigit := rfl

theorem st_fix (st : St) : (⟨st.pos + (st.rest.length - st.rest.length), st.rest, st.caps⟩ : St) = st := by
  cases st; simp

theorem split_digit_len (x : Chars) :
    (x.takeWhile ExprScan.isDigit).length + (x.dropWhile ExprScan.isDigit).length = x.length := by
  have := congrArg List.length (List.takeWhile_append_dropWhile (p := ExprScan.isDigit) (l := x))
  rwa [List.length_append] at this

/-- `\d+` in front of a total continuation: all digits -/
theorem digits_plus_total (st : St) (k : K) (hk : Total k) :
    (Rx.plus (.one .digit)).m st k =
      if (st.rest.takeWhile ExprScan.isDigit).isEmpty then none
      else k ⟨st.pos + (st.rest.takeWhile ExprScan.isDigit).length, st.rest.dropWhile ExprScan.isDigit, st.caps⟩ := by
  rw [plus_m, one_m']
  unfold step
  cases hr : st.rest with
  | nil => rfl
  | cons d r =>
    simp only [isDigit_test]
    by_cases hd : ExprScan.isDigit d = true
    · simp only [hd, if_true, List.takeWhile_cons, List.dropWhile_cons, List.isEmpty_cons, Bool.false_eq_true, if_false,
        List.length_cons]
      rw [digits_first _ _ hk]
      simp only [Nat.add_assoc, Nat.add_comm 1]
    · simp [hd]

/-- `(?:\.\d*)?` in front of a total continuation = `ExprScan.scanFrac` -/
theorem optFrac_total (st : St) (k : K) (hk : Total k) :
    (Rx.opt (.ncg (elit '.' ⬝ .star (.one .digit)))).m st k =
      k ⟨st.pos + (st.rest.length - (ExprScan.scanFrac st.rest).2.length), (ExprScan.scanFrac st.rest).2, st.caps⟩ := by
  rw [opt_m, ncg_m, seq_m]
  unfold elit
  rw [one_m', step_lit]
  cases hr : st.rest with
  | nil =>
    have := st_fix st; rw [hr] at this
    simp only [ExprScan.scanFrac, none_orElse]
    rw [this]
  | cons c r =>
    by_cases hc : c = '.'
    · subst hc
      simp only [if_true, ExprScan.scanFrac]
      rw [digits_first _ _ hk]
      obtain ⟨v, hv⟩ := total_some_of hk ⟨st.pos + 1 + (r.takeWhile ExprScan.isDigit).length, r.dropWhile ExprScan.isDigit, st.caps⟩
      have hl := split_digit_len r
      rw [show st.pos + (('.' :: r).length - (r.dropWhile ExprScan.isDigit).length) =
        st.pos + 1 + (r.takeWhile ExprScan.isDigit).length from by simp only [List.length_cons]; omega]
      rw [hv]; rfl
    · have := st_fix st; rw [hr] at this
      simp only [hc, if_false, ExprScan.scanFrac, none_orElse]
      rw [this]

/-- when the exponent is taken -/
def expTaken (c s : Char) (r : Chars) : Prop :=
  c = 'e' ∧ (s = '+' ∨ s = '-') ∧ (r.takeWhile ExprScan.isDigit).isEmpty = false

instance (c s : Char) (r : Chars) : Decidable (expTaken c s r) := by unfold expTaken; exact inferInstance

theorem scanExp_cons2 (c s : Char) (r : Chars) :
    ExprScan.scanExp (c :: s :: r) =
      if expTaken c s r then
        (if s = '-' then -((ExprScan.digitsVal (r.takeWhile ExprScan.isDigit) : Nat) : Int)
          else ((ExprScan.digitsVal (r.takeWhile ExprScan.isDigit) : Nat) : Int), r.dropWhile ExprScan.isDigit)
      else (0, c :: s :: r) := by
  unfold expTaken
  by_cases hc : c = 'e'
  · by_cases hs : s = '+' ∨ s = '-'
    · have hb : (decide (s = '+') || decide (s = '-')) = true := by simpa using hs
      by_cases he : (r.takeWhile ExprScan.isDigit).isEmpty = true
      · simp [ExprScan.scanExp, hc, hb, he, hs]
      · have he' : (r.takeWhile ExprScan.isDigit).isEmpty = false := by simpa using he
        simp [ExprScan.scanExp, hc, hb, he', hs]
    · have hb : (decide (s = '+') || decide (s = '-')) = false := by simpa using hs
      simp [ExprScan.scanExp, hc, hb, hs]
  · simp [ExprScan.scanExp, hc]

theorem scanExp_short (x : Chars) (h : x.length < 2) : ExprScan.scanExp x = (0, x) := by
  cases x with
  | nil => rfl
  | cons c t =>
    cases t with
    | nil => rfl
    | cons s r => simp at h; omega

/-- `(?:e[+-]\d+)?` in front of a total continuation = `ExprScan.scanExp` -/
theorem optExp_total (st : St) (k : K) (hk : Total k) :
    (Rx.opt (.ncg (lit 'e' ⬝ signCls ⬝ digits1))).m st k =
      k ⟨st.pos + (st.rest.length - (ExprScan.scanExp st.rest).2.length), (ExprScan.scanExp st.rest).2, st.caps⟩ := by
  have hfix := st_fix st
  rw [opt_m, ncg_m]
  simp only [seq_m]
  unfold lit signCls digits1
  rw [one_m', step_lit]
  cases hr : st.rest with
  | nil => rw [hr] at hfix; rw [scanExp_short [] (by simp)]; simp only [none_orElse]; rw [hfix]
  | cons c t =>
    rw [hr] at hfix
    cases t with
    | nil =>
      rw [scanExp_short [c] (by simp)]
      by_cases hc : c = 'e'
      · simp only [hc, if_true, one_m', step, none_orElse]; rw [← hc, hfix]
      · simp only [hc, if_false, none_orElse]; rw [hfix]
    | cons s r =>
      rw [scanExp_cons2]
      by_cases ht : expTaken c s r
      · obtain ⟨hce, hs, he⟩ := ht
        have hsb : (s == '+' || s == '-') = true := by simpa using hs
        subst hce
        simp only [if_true, one_m', step, sign_test, hsb]
        rw [digits_plus_total _ _ hk]
        simp only [he, Bool.false_eq_true, if_false, if_pos (show expTaken 'e' s r from ⟨rfl, hs, he⟩)]
        obtain ⟨v, hv⟩ := total_some_of hk ⟨st.pos + 1 + 1 + (r.takeWhile ExprScan.isDigit).length, r.dropWhile ExprScan.isDigit, st.caps⟩
        have hl := split_digit_len r
        rw [show st.pos + (('e' :: s :: r).length - (r.dropWhile ExprScan.isDigit).length) =
          st.pos + 1 + 1 + (r.takeWhile ExprScan.isDigit).length from by simp only [List.length_cons]; omega]
        rw [hv]; rfl
      · simp only [if_neg ht]
        rw [hfix]
        by_cases hc : c = 'e'
        · subst hc
          simp only [if_true, one_m', step, sign_test]
          by_cases hsb : (s == '+' || s == '-') = true
          · have hs : s = '+' ∨ s = '-' := by simpa using hsb
            simp only [hsb, if_true]
            rw [digits_plus_total _ _ hk]
            have he : (r.takeWhile ExprScan.isDigit).isEmpty = true := by
              cases h : (r.takeWhile ExprScan.isDigit).isEmpty with
              | true => rfl
              | false => exact absurd ⟨rfl, hs, h⟩ ht
            simp [he]
          · simp [hsb]
        · simp [hc]

theorem scanExp_len (x : Chars) : (ExprScan.scanExp x).2.length ≤ x.length := by
  have := congrArg List.length (C13.scanExp_sound true x).1
  rw [C13Bridge.scanExp_bridge]
  rw [List.length_append] at this
  dsimp only; omega

theorem total_optExp (k : K) (hk : Total k) : Total (fun st => (Rx.opt (.ncg (lit 'e' ⬝ signCls ⬝ digits1))).m st k) := by
  intro st; show ((Rx.opt _).m st k).isSome = true
  rw [optExp_total _ _ hk]; exact hk _

theorem total_optFrac (k : K) (hk : Total k) : Total (fun st => (Rx.opt (.ncg (elit '.' ⬝ .star (.one .digit)))).m st k) := by
  intro st; show ((Rx.opt _).m st k).isSome = true
  rw [optFrac_total _ _ hk]; exact hk _

theorem digits1_total (st : St) (k : K) (hk : Total k) :
    digits1.m st k =
      if (st.rest.takeWhile ExprScan.isDigit).isEmpty then none
      else k ⟨st.pos + (st.rest.takeWhile ExprScan.isDigit).length, st.rest.dropWhile ExprScan.isDigit, st.caps⟩ :=
  digits_plus_total st k hk

theorem signCls_m (st : St) (k : K) :
    signCls.m st k = match st.rest with
      | c :: r => if (c == '+' || c == '-') = true then k ⟨st.pos + 1, r, st.caps⟩ else none
      | [] => none := by
  unfold signCls
  rw [one_m']
  unfold step
  cases st.rest with
  | nil => rfl
  | cons c r => simp only [sign_test]

/-- what is left behind a number literal whose digits start the text -/
def numTail (x : Chars) : Chars := (ExprScan.scanExp (ExprScan.scanFrac (x.dropWhile ExprScan.isDigit)).2).2

theorem numTail_le (x : Chars) : (numTail x).length ≤ (x.dropWhile ExprScan.isDigit).length := by
  have h1 := scanFrac_len (x.dropWhile ExprScan.isDigit)
  have h2 := scanExp_len (ExprScan.scanFrac (x.dropWhile ExprScan.isDigit)).2
  simp only [numTail]; omega

/-- `\d+(?:\.\d*)?(?:e[+-]\d+)?` in front of a total continuation -/
theorem digitsTail_total (st : St) (k : K) (hk : Total k) :
    (digits1 ⬝ Rx.opt (.ncg (elit '.' ⬝ .star (.one .digit))) ⬝ Rx.opt (.ncg (lit 'e' ⬝ signCls ⬝ digits1))).m st k =
      if (st.rest.takeWhile ExprScan.isDigit).isEmpty then none
      else k ⟨st.pos + (st.rest.length - (numTail st.rest).length), numTail st.rest, st.caps⟩ := by
  rw [seq_m]
  have hT : Total (fun st' => (Rx.opt (.ncg (elit '.' ⬝ .star (.one .digit))) ⬝ Rx.opt (.ncg (lit 'e' ⬝ signCls ⬝ digits1))).m st' k) := by
    intro st'
    show ((_ ⬝ _).m st' k).isSome = true
    rw [seq_m]; exact total_optFrac _ (total_optExp k hk) st'
  rw [digits1_total _ _ hT]
  by_cases he : (st.rest.takeWhile ExprScan.isDigit).isEmpty = true
  · simp [he]
  · simp only [he, Bool.false_eq_true, if_false]
    rw [seq_m, optFrac_total _ _ (total_optExp k hk), optExp_total _ _ hk]
    simp only [numTail]
    have hl := split_digit_len st.rest
    have h1 := scanFrac_len (st.rest.dropWhile ExprScan.isDigit)
    have h2 := scanExp_len (ExprScan.scanFrac (st.rest.dropWhile ExprScan.isDigit)).2
    congr 2
    omega

theorem scanSign_cons (c : Char) (r : Chars) :
    ExprScan.scanSign (c :: r) = if c = '+' then (false, r) else if c = '-' then (true, r) else (false, c :: r) := rfl

/-- the whole number body `[+-]?\d+(?:\.\d*)?(?:e[+-]\d+)?` in front of a total continuation -/
theorem numBody_total (st : St) (k : K) (hk : Total k) :
    (Rx.opt signCls ⬝ digits1 ⬝ Rx.opt (.ncg (elit '.' ⬝ .star (.one .digit))) ⬝ Rx.opt (.ncg (lit 'e' ⬝ signCls ⬝ digits1))).m st k =
      if ((ExprScan.scanSign st.rest).2.takeWhile ExprScan.isDigit).isEmpty then none
      else k ⟨st.pos + (st.rest.length - (numTail (ExprScan.scanSign st.rest).2).length), numTail (ExprScan.scanSign st.rest).2, st.caps⟩ := by
  rw [seq_m, opt_m, signCls_m]
  simp only [digitsTail_total _ _ hk]
  cases hr : st.rest with
  | nil => simp [ExprScan.scanSign]
  | cons c r =>
    rw [scanSign_cons]
    have hnt : ∀ x : Chars, (numTail x).length ≤ x.length := fun x =>
      Nat.le_trans (numTail_le x) (List.dropWhile_sublist _).length_le
    by_cases hs : c = '+' ∨ c = '-'
    · have hb : (c == '+' || c == '-') = true := by simpa using hs
      have hd : ExprScan.isDigit c = false := by rcases hs with rfl | rfl <;> decide
      have h2 : (if c = '+' then (false, r) else if c = '-' then (true, r) else (false, c :: r)).2 = r := by
        rcases hs with rfl | rfl <;> rfl
      simp only [hb, if_true, List.takeWhile_cons, hd, Bool.false_eq_true, if_false, List.isEmpty_nil, orElse_none', h2]
      by_cases he : (r.takeWhile ExprScan.isDigit).isEmpty = true
      · simp [he]
      · simp only [he, Bool.false_eq_true, if_false]
        congr 2
        have := hnt r
        simp only [List.length_cons]; omega
    · obtain ⟨h1, h2⟩ := not_or.mp hs
      have hb : (c == '+' || c == '-') = false := by simp [h1, h2]
      simp only [hb, Bool.false_eq_true, if_false, h1, h2, none_orElse]

/-! ## the captured text re-scanned piece by piece

`number_regex` reads the value back from the captured text through the token (`readNumber_take`, on `C13.scanTok_sound` and
`C13.scanTok_text`).  The three lemmas below say the same of the pieces one by one, on every text: also where there is no integer
digit, hence no token. -/

theorem scanExp_rescan (x : Chars) :
    ∃ e, x = e ++ (ExprScan.scanExp x).2 ∧ ExprScan.scanExp e = ((ExprScan.scanExp x).1, []) ∧ (∀ c r, e = c :: r → c = 'e') := by
  obtain ⟨hs, hwf⟩ := C13.scanExp_sound true x
  refine ⟨NumText.expText (NumText.scanExp true x).1, ?_, ?_, ?_⟩
  · rw [C13Bridge.scanExp_bridge]; exact hs.symm
  · rw [C13Bridge.scanExp_bridge x, C13Bridge.scanExp_bridge]
    cases he : (NumText.scanExp true x).1 with
    | none => rfl
    | some e =>
      have := C13.scanExp_text (hwf e he) (TextRun.stops_nil _)
      rw [List.append_nil] at this
      rw [NumText.expText, this]
  · intro c r h
    cases he : (NumText.scanExp true x).1 with
    | none => rw [he] at h; cases h
    | some e =>
      rw [he, NumText.expText, NumText.ExpPart.text, ((hwf e he).strictE rfl).1] at h
      exact (List.cons.inj h).1.symm

theorem scanFrac_rescan (x e : Chars) (he : ∀ c r, e = c :: r → c = 'e') :
    ∃ f, x = f ++ (ExprScan.scanFrac x).2 ∧ ExprScan.scanFrac (f ++ e) = ((ExprScan.scanFrac x).1, e) ∧
      (∀ c r, f ++ e = c :: r → ExprScan.isDigit c = false) := by
  obtain ⟨hs, hwf⟩ := C13.scanFrac_sound x
  have hend : ∀ c, e.head? = some c → NumText.isDig c = false ∧ c ≠ '.' := fun c hc => by
    obtain ⟨r, rfl⟩ := List.head?_eq_some_iff.mp hc
    rw [he c r rfl]; exact ⟨by decide, by decide⟩
  refine ⟨NumText.fracText (NumText.scanFrac x).1, ?_, ?_, ?_⟩
  · rw [C13Bridge.scanFrac_bridge]; exact hs.symm
  · rw [C13Bridge.scanFrac_bridge x, C13Bridge.scanFrac_bridge, C13.scanFrac_text hwf hend]
  · intro c r h
    cases hf : (NumText.scanFrac x).1 with
    | none =>
      rw [hf] at h
      rw [C13Bridge.isDigit_eq_isDig]; exact (hend c (by rw [show e = c :: r from h]; rfl)).1
    | some fp => rw [hf] at h; cases h; decide

/-- integer digits, fraction digits, exponent of a text that starts with its digits: what `readNumber` hands to `ExprScan.decVal`.
Not the number scanner behind its blanks, `C13Bridge.numCore` (the same function as `C10.numCore`), which returns value and rest;
`numCore_eq` in `C06Regex9` writes that one with this one and `numTail`. -/
def numCore (x : Chars) : Chars × Chars × Int :=
  (x.takeWhile ExprScan.isDigit, (ExprScan.scanFrac (x.dropWhile ExprScan.isDigit)).1,
    (ExprScan.scanExp (ExprScan.scanFrac (x.dropWhile ExprScan.isDigit)).2).1)

/-- **prefix stability**: re-scanning exactly the text a number literal consumed gives the same digits and exponent -/
theorem numCore_rescan (x : Chars) : numCore (x.take (x.length - (numTail x).length)) = numCore x := by
  obtain ⟨e, he1, he2, he3⟩ := scanExp_rescan (ExprScan.scanFrac (x.dropWhile ExprScan.isDigit)).2
  obtain ⟨f, hf1, hf2, hf3⟩ := scanFrac_rescan (x.dropWhile ExprScan.isDigit) e he3
  have hx : x = (x.takeWhile ExprScan.isDigit ++ (f ++ e)) ++ numTail x := by
    have h0 := (List.takeWhile_append_dropWhile (p := ExprScan.isDigit) (l := x)).symm
    simp only [numTail, List.append_assoc]
    rw [← he1, ← hf1]; exact h0
  have htake : x.take (x.length - (numTail x).length) = x.takeWhile ExprScan.isDigit ++ (f ++ e) := by
    conv => lhs; arg 2; rw [hx]
    conv => lhs; arg 1; arg 1; rw [hx]
    exact List.take_left' (by rw [List.length_append (bs := numTail x), Nat.add_sub_cancel])
  rw [htake]
  have h3 := TextRun.stops_iff.2 hf3
  simp only [numCore, TextRun.takeWhile_append_stop (fun _ => TextRun.mem_takeWhile) h3,
    TextRun.dropWhile_append_stop (fun _ => TextRun.mem_takeWhile) h3, hf2, he2]

end C06Regex
