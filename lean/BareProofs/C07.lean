import BareProofs.C07Lemmas
import BareProofs.C18
import BareProofs.C01Parse

/-!
# C07 — lowered code is well formed: schema-valid with intact, unique jump targets

All theorems are about the recursive *spec* lowering `Lower.lowerS / lowerB / lowerElse` / `Lower.lowerProgram`
(BareModel/Lower.lean), for **all** structured programs (`SStmt`, unbounded nesting depth, any number of functions), all
values `i` of the script-wide label counter and all enclosing-loop label pairs `lp`.  The line-at-a-time mirror
`Lower.parseLines ∘ renderB` equals the spec lowering by `C01.parseLines_render` (T1 of C01) — `parsed_well_formed` at the end of
this file transfers everything to what the parser returns — and both are tied to `parse_script` by the correspondence streams of
`harness/props/C07.py` (`spec` and `mirror` of the driver op "lower").

**`WellNested` is not needed by any theorem about the spec lowering**: `lowerS none .brk` emits no statement at all, and a
nested `function` is lowered with `lp = none` like any other, so nothing can escape a scope.  `WellNested` is the hypothesis of
`C01.parseLines_render` (the parser *rejects* the other programs, `C01.parse_rejects_ill_nested`); it is shown inhabited and
equivalent to C01's (`wellNested_iff`), and is a *conclusion* of `parsed_well_formed`.

**Schema validity (remark).**  The model's `Stmt` / `Expr` types *are* the published schema (`model.py` BARE_SCRIPT_TYPES): one
constructor per union member, one field per struct member, `BinOp`/`UnOp` one constructor per enum value — every `List Stmt`
is schema-shaped by typing.  The schema has exactly two constraints that the types do not express: `optional string[len > 0]
args` (the JSON boundary omits `args` when the list is empty, so the constraint cannot be violated by a `List Name`) and
`IncludeScript[len > 0] includes`, proved below (`lower_include_nonempty`, `parseLines_include_nonempty`).  The real
`validate_script` is run on every parsed model by the `shapes` and `random` streams.
-/

namespace C07

open Lower

/-- The counter the lowering returns is `cntS/cntB/cntE` (it does not depend on `lp`, on the labels of an
enclosing `if`, or on the emitted code): one per `if` / `elif` / `while` / `for`, script-wide (a function body continues the
count of the enclosing list). -/
theorem counter_eq (lp : Option (Name × Name)) (cur done : Name) :
    (∀ s i, (lowerS lp s i).2 = cntS s i) ∧ (∀ B i, (lowerB lp B i).2 = cntB B i) ∧
      (∀ e i, (lowerElse lp cur done e i).2 = cntE e i) :=
  ⟨C01.lowerS_cnt lp, C01.lowerB_cnt lp, C01.lowerElse_cnt lp cur done⟩

theorem counter_mono : (∀ s i, i ≤ cntS s i) ∧ (∀ B i, i ≤ cntB B i) ∧ (∀ e i, i ≤ cntE e i) :=
  ⟨C01.cntS_le, C01.cntB_le, C01.cntE_le⟩

/-! ## non-vacuity: a depth-4 program (function ⊃ if/elif ⊃ while ⊃ for) with break and continue, and a second function -/

private def x : Expr := .variable (.user "x")

/-- ```
function f(a):
    if x:
        y = x
    elif x:
        while x:
            for v, i in x:
                if x:
                    continue
                else:
                    break
                endif
            endfor
            if x:
                break
            endif
            continue
        endwhile
    else:
        return x
    endif
endfunction
function g():
    for w in x:
        continue
    endfor
endfunction
while x:
    f(x)
endwhile
``` -/
def demo : List SStmt :=
  [ .func 0 (.user "f") [.user "a"] false false
      [ .ite x [.expr (some (.user "y")) x]
          (.elif x
            [ .while x
                [ .for (.user "v") (some (.user "i")) x
                    [ .ite x [.cont] (.els [.brk]) ],
                  .ite x [.brk] .none,
                  .cont ] ]
            (.els [.ret (some x)])) ],
    .func 1 (.user "g") [] false false [ .for (.user "w") none x [.cont] ],
    .while x [ .expr none (.function (.user "f") [x]) ] ]

/-- the same with raw labels and jumps, all resolved, unique and used, in two scopes -/
def demoRaw : List SStmt :=
  [ .func 0 (.user "f") [] false false [ .label (.user "top"), .while x [ .jump (.user "top") (some x) ] ],
    .label (.user "top"), .ite x [ .jump (.user "top") none ] .none ]

example : NoReserved demo ∧ WellNested demo := by decide +kernel
example : NoReserved demoRaw ∧ WellNested demoRaw := by decide +kernel
example : cntB demo 0 = 8 := by decide +kernel
example : (scopes (lowerProgram demo)).length = 3 := by decide +kernel
example : (scopes (lowerProgram demo)).map (fun sc => (labelsOf sc).length) = [2, 11, 3] := by decide +kernel

/-- a scope of lowered code is the lowering of a structured scope: of the block itself, or, with no enclosing loop, of a
function body (whose counter range lies inside the block's) -/
theorem scopes_lowerB {lp B i sc} (h : sc ∈ scopes (lowerB lp B i).1) :
    ∃ lp' b k, b ∈ sscopes B ∧ sc = (lowerB lp' b k).1 ∧ i ≤ k ∧ cntB b k ≤ cntB B i ∧
      (lp' = none ∨ lp' = lp ∧ b = B ∧ k = i) := by
  simp only [scopes, List.mem_cons] at h
  rcases h with rfl | h
  · exact ⟨lp, B, i, List.mem_cons_self, rfl, Nat.le_refl _, Nat.le_refl _, Or.inr ⟨rfl, rfl, rfl⟩⟩
  · obtain ⟨b, k, hb, rfl, h1, h2⟩ := scB lp B i sc h
    exact ⟨none, b, k, List.mem_cons_of_mem _ hb, rfl, h1, h2, Or.inl rfl⟩

theorem scopes_lowerProgram (B : List SStmt) (sc : List Stmt) (h : sc ∈ scopes (lowerProgram B)) :
    IsLowered (sscopes B) 0 (cntB B 0) sc := by
  obtain ⟨_, b, k, hb, rfl, h1, h2, rfl | ⟨rfl, -⟩⟩ := scopes_lowerB (lp := none) h <;>
    exact ⟨b, k, hb, rfl, h1, h2⟩

/-- Every label *defined* in any scope of `(lowerB lp B i).1` is either a label the user wrote in the
corresponding structured scope `b` (the block itself or a function body) or a generated name `gen k n` with
`i ≤ n < cntB B i`.  (No hypothesis.) -/
theorem lower_labels_range (lp : Option (Name × Name)) (B : List SStmt) (i : Nat) :
    ∀ sc ∈ scopes (lowerB lp B i).1, ∃ b ∈ sscopes B, ∀ l ∈ labelsOf sc, l ∈ ulB b ∨ InR l i (cntB B i) := by
  intro sc hsc
  obtain ⟨lp', b, k, hb, rfl, h1, h2, -⟩ := scopes_lowerB hsc
  exact ⟨b, hb, fun l hl => ((fragB lp' b k).range l hl).imp id (·.mono h1 h2)⟩

/-- Under `NoReserved`, every *generated* jump target of any scope of `(lowerB lp B i).1` is `gen k n`
with `i ≤ n < cntB B i` — except, in the outermost scope only, the break/continue targets that the enclosing loop `lp`
supplies. -/
theorem lower_jumps_range (lp : Option (Name × Name)) (B : List SStmt) (i : Nat) (hn : NoReserved B) :
    ∀ sc ∈ scopes (lowerB lp B i).1, ∀ t ∈ jumpsOf sc, isGen t = true →
      (sc = (lowerB lp B i).1 ∧ LpJ lp (usesContB B) t) ∨ InR t i (cntB B i) := by
  intro sc hsc t ht hg
  obtain ⟨lp', b, k, hb, rfl, h1, h2, hlp⟩ := scopes_lowerB hsc
  have hnb := hn.sscopes b hb
  rcases (fragB lp' b k).closed t ht with h | h | h | h
  · simp [ujB_user b hnb t h] at hg
  · rcases hlp with rfl | ⟨rfl, rfl, rfl⟩
    · exact absurd h LpJ.none
    · exact Or.inl ⟨rfl, h⟩
  · exact Or.inr ((((fragB lp' b k).range t h).resolve_left fun h => by simp [ulB_user b hnb t h] at hg).mono h1 h2)
  · exact h.elim

/-- Under `NoReserved`, in each scope of the lowered code the generated labels are pairwise distinct:
every one is defined exactly once.  (Siblings get disjoint counter ranges; the labels one construct emits itself have distinct
kinds: `If i` only when an `else`/`elif` follows, `Continue i` only when a `continue` binds to the `for`, `Loop i`/`Done i`
always.) -/
theorem lower_labels_nodup (lp : Option (Name × Name)) (B : List SStmt) (i : Nat) (hn : NoReserved B) :
    ∀ sc ∈ scopes (lowerB lp B i).1, ((labelsOf sc).filter isGen).Nodup := by
  intro sc hsc
  obtain ⟨lp', b, k, hb, rfl, -⟩ := scopes_lowerB hsc
  exact ndB lp' b k (hn.sscopes b hb)

/-- … and if moreover the user's own labels are pairwise distinct in each structured scope, *all* labels of each scope are. -/
theorem lower_all_labels_nodup (B : List SStmt) (hn : NoReserved B) (hu : ∀ b ∈ sscopes B, (ulB b).Nodup) :
    ∀ sc ∈ scopes (lowerProgram B), (labelsOf sc).Nodup := by
  intro sc hsc
  obtain ⟨b, k, hb, rfl, -, -⟩ := scopes_lowerProgram B sc hsc
  exact labels_nodup b k (hn.sscopes b hb) (hu b hb)

example : ∀ sc ∈ scopes (lowerProgram demo), ((labelsOf sc).filter isGen).Nodup :=
  lower_labels_nodup none demo 0 (by decide)

/-- **lower_jumps_resolved** (general form).  In each scope of `(lowerB lp B i).1`, every jump targets a raw jump target of the
user, a label supplied by the enclosing loop `lp` (outermost scope only), or a label defined **in the same scope**.
(No hypothesis: the body of a function is lowered with `lp = none`, so nothing escapes.) -/
theorem lower_jumps_resolved_gen (lp : Option (Name × Name)) (B : List SStmt) (i : Nat) :
    ∀ sc ∈ scopes (lowerB lp B i).1, ∃ b ∈ sscopes B, ∀ t ∈ jumpsOf sc,
      t ∈ ujB b ∨ (sc = (lowerB lp B i).1 ∧ LpJ lp (usesContB B) t) ∨ t ∈ labelsOf sc := by
  intro sc hsc
  obtain ⟨lp', b, k, hb, rfl, -, -, hlp⟩ := scopes_lowerB hsc
  refine ⟨b, hb, fun t ht => ?_⟩
  refine ((fragB lp' b k).closed t ht).imp id (Or.imp (fun h => ?_) (·.resolve_right id))
  rcases hlp with rfl | ⟨rfl, rfl, rfl⟩
  · exact absurd h LpJ.none
  · exact ⟨rfl, h⟩

/-- For a whole program under `NoReserved`: in each scope, every jump to a *generated* label targets
a label defined in the **same** scope, and the interpreter's label search `findLabel` succeeds on it. -/
theorem lower_jumps_resolved (B : List SStmt) (hn : NoReserved B) :
    ∀ sc ∈ scopes (lowerProgram B), ∀ t ∈ jumpsOf sc, isGen t = true →
      t ∈ labelsOf sc ∧ Machine.findLabel sc t ≠ none := by
  intro sc hsc t ht hg
  obtain ⟨b, hb, h⟩ := lower_jumps_resolved_gen none B 0 sc hsc
  have hm : t ∈ labelsOf sc := by
    rcases h t ht with h | ⟨-, h⟩ | h
    · have := ujB_user b (hn.sscopes b hb) t h; simp [this] at hg
    · exact absurd h LpJ.none
    · exact h
  obtain ⟨n, hf⟩ := findLabel_of_mem (mem_labelsOf.1 hm)
  exact ⟨hm, by simp [hf]⟩

example : ∀ sc ∈ scopes (lowerProgram demo), ∀ t ∈ jumpsOf sc, isGen t = true →
    t ∈ labelsOf sc ∧ Machine.findLabel sc t ≠ none :=
  lower_jumps_resolved demo (by decide)

/-- In each scope of `(lowerB lp B i).1`, every label is a label the user wrote or the target of at
least one jump **of the same scope** (`If`: the conditional jump of its branch; `Done` of an `if`: the re-targeted conditional
jump or a `jump Done`; `Loop`/`Done` of `while`/`for`: footer and header jumps; `Continue`: emitted exactly when a `continue`
binds to that `for` — `usesContB`).  (No hypothesis.) -/
theorem lower_labels_targeted_gen (lp : Option (Name × Name)) (B : List SStmt) (i : Nat) :
    ∀ sc ∈ scopes (lowerB lp B i).1, ∃ b ∈ sscopes B, ∀ l ∈ labelsOf sc, l ∈ ulB b ∨ l ∈ jumpsOf sc := by
  intro sc hsc
  obtain ⟨lp', b, k, hb, rfl, -⟩ := scopes_lowerB hsc
  exact ⟨b, hb, fun l hl => ((fragB lp' b k).targeted l hl).imp id (·.resolve_right id)⟩

/-- Under `NoReserved`, every *generated* label defined in a scope is the target of at least one
jump of that scope. -/
theorem lower_labels_targeted (lp : Option (Name × Name)) (B : List SStmt) (i : Nat) (hn : NoReserved B) :
    ∀ sc ∈ scopes (lowerB lp B i).1, ∀ l ∈ labelsOf sc, isGen l = true → l ∈ jumpsOf sc := by
  intro sc hsc l hl hg
  obtain ⟨b, hb, h⟩ := lower_labels_targeted_gen lp B i sc hsc
  rcases h l hl with h | h
  · have := ulB_user b (hn.sscopes b hb) l h; simp [this] at hg
  · exact h

/-- the `Continue` label of a `for` exists exactly when a `continue` binds to that loop -/
theorem for_continue_label_iff (lp v ix vals) (b : List SStmt) (i : Nat) (hn : noResB b = true) :
    lCont i ∈ labelsOf (lowerS lp (.for v ix vals b) i).1 ↔ usesContB b = true := by
  rw [mem_labelsOf, C01.lowerS_for_eq]
  simp only [List.mem_append, forHeader_label, forFooter_label]
  constructor
  · rintro (h | h | ⟨-, h⟩ | h)
    · simp [lCont, lLoop] at h
    · rcases labB _ b (i+1) _ h with h | h
      · have := ulB_user b hn _ h; simp [lCont, isGen] at this
      · simp [lCont] at h; omega
    · exact h
    · simp [lCont, lDone] at h
  · intro h; exact Or.inr (Or.inr (Or.inl (by simpa using h)))

/-- the user's raw jumps are resolved and the user's raw labels are unique and used, in the structured scope `b` -/
def RawOK (b : List SStmt) : Prop :=
  (ulB b).Nodup ∧ (∀ l ∈ ulB b, l ∈ ujB b) ∧ (∀ t ∈ ujB b, t ∈ ulB b)

instance (b : List SStmt) : Decidable (RawOK b) := by unfold RawOK; infer_instance

/-- … in every structured scope of the program (trivially true for a program without raw `label`/`jump` lines) -/
def UserLabelsOK (B : List SStmt) : Prop := ∀ b ∈ sscopes B, RawOK b

instance (B : List SStmt) : Decidable (UserLabelsOK B) := by unfold UserLabelsOK; infer_instance

/-- the user's raw jumps are resolved in their own structured scope -/
def UserJumpsResolved (B : List SStmt) : Prop := ∀ b ∈ sscopes B, ∀ t ∈ ujB b, t ∈ ulB b

instance (B : List SStmt) : Decidable (UserJumpsResolved B) := by unfold UserJumpsResolved; infer_instance

/-- no raw `label` / `jump` / `jumpif` line at all: purely structured code (`C01.NoRawB` as a Boolean, `noRawB_iff`) -/
def NoRaw (B : List SStmt) : Prop := noRawB B = true

instance (B : List SStmt) : Decidable (NoRaw B) := by unfold NoRaw; infer_instance

theorem NoRaw.noReserved {B} (h : NoRaw B) : NoReserved B := (noRawB_spec B h).2.2.1

theorem NoRaw.userLabelsOK {B} (h : NoRaw B) : UserLabelsOK B := by
  intro b hb
  have hb' : noRawB b = true := by
    simp only [sscopes, List.mem_cons] at hb
    rcases hb with rfl | hb
    · exact h
    · exact (noRawB_spec B h).2.2.2 b hb
  obtain ⟨h1, h2, -, -⟩ := noRawB_spec b hb'
  simp [RawOK, h1, h2]

theorem UserLabelsOK.jumps {B} (h : UserLabelsOK B) : UserJumpsResolved B := fun b hb => (h b hb).2.2

example : NoRaw demo := by decide +kernel
example : ¬ NoRaw demoRaw ∧ UserLabelsOK demoRaw := by decide +kernel

/-- If `B` does not use the reserved prefix and the raw jumps the user wrote are resolved in their
own scope (in particular: if `B` has no raw jump), then for **every** jump statement of **every** scope of the lowered
program the interpreter's label search succeeds: `findLabel scope target = some _` (and so does the cached search
`jumpTarget` from the empty cache each invocation starts with).  The machine yields `.err (.unknownLabel l)` only where
`jumpTarget` returns `none` (`Machine.execM`), i.e. only if `findLabel` failed (C08 `unknown_label_iff`) — so executing
parsed structured code can never raise "Unknown jump label". -/
theorem no_unknown_label_error (B : List SStmt) (hn : NoReserved B) (hu : UserJumpsResolved B) :
    ∀ sc ∈ scopes (lowerProgram B), ∀ t ∈ jumpsOf sc,
      (∃ n, Machine.findLabel sc t = some n) ∧ Machine.jumpTarget sc [] t ≠ none := by
  intro sc hsc t ht
  obtain ⟨b, k, hb, rfl, -, -⟩ := scopes_lowerProgram B sc hsc
  have hnb := hn.sscopes b hb
  obtain ⟨c, hc⟩ := mem_jumpsOf.1 ht
  have hm : Stmt.label t ∈ (lowerB none b k).1 := by
    rcases jmpB none b k t c hc with h | h | h
    · exact ulInB none b k hnb t (hu b hb t h)      -- a raw jump of the user: its label is in the same scope
    · exact absurd h LpJ.none
    · exact h
  obtain ⟨n, hf⟩ := findLabel_of_mem hm
  exact ⟨⟨n, hf⟩, by simp [Machine.jumpTarget, Machine.Cache.get?, hf]⟩

theorem no_unknown_label_error_structured (B : List SStmt) (h : NoRaw B) :
    ∀ sc ∈ scopes (lowerProgram B), ∀ t ∈ jumpsOf sc, ∃ n, Machine.findLabel sc t = some n :=
  fun sc hsc t ht => (no_unknown_label_error B h.noReserved h.userLabelsOK.jumps sc hsc t ht).1

example : ∀ sc ∈ scopes (lowerProgram demo), ∀ t ∈ jumpsOf sc, ∃ n, Machine.findLabel sc t = some n :=
  no_unknown_label_error_structured demo (by decide)

example : ∀ sc ∈ scopes (lowerProgram demoRaw), ∀ t ∈ jumpsOf sc,
    (∃ n, Machine.findLabel sc t = some n) ∧ Machine.jumpTarget sc [] t ≠ none :=
  no_unknown_label_error demoRaw (by decide) (by decide)

/-- a scope is *label-clean*: labels pairwise distinct, every label the target of a jump of the scope, every jump of the
scope targets a label of the scope (spec predicates: no redefined / unused / unknown label) -/
def ScopeClean (ss : List Stmt) : Prop :=
  (labelsOf ss).Nodup ∧ (∀ l, Lint.DefinedIn ss l → Lint.JumpsTo ss l) ∧ (∀ l, Lint.JumpsTo ss l → Lint.DefinedIn ss l)

/-- Under `NoReserved` and `UserLabelsOK` (e.g. no raw labels/jumps at all), every scope of the lowered
program is label-clean: no label is redefined, unused or unknown — as *sets*, independent of any lint implementation. -/
theorem lower_scopes_clean (B : List SStmt) (hn : NoReserved B) (hu : UserLabelsOK B) :
    ∀ sc ∈ scopes (lowerProgram B), ScopeClean sc := by
  intro sc hsc
  obtain ⟨b, k, hb, rfl, -, -⟩ := scopes_lowerProgram B sc hsc
  have hnb := hn.sscopes b hb
  obtain ⟨u1, u2, -⟩ := hu b hb
  refine ⟨labels_nodup b k hnb u1, fun l hl => ?_, fun t ⟨c, hc⟩ => ?_⟩
  · rcases tgtB none b k l hl with h | h
    · exact ujInB none b k l (u2 l h)
    · exact h
  · obtain ⟨⟨n, hf⟩, -⟩ := no_unknown_label_error B hn hu.jumps _ hsc t (mem_jumpsOf.2 ⟨c, hc⟩)
    exact mem_of_findLabel hf

def isLabelW : Lint.Warning → Bool
  | .redefLabel .. => true
  | .unusedLabel .. => true
  | .unknownLabel .. => true
  | _ => false

theorem count_labelsOf (l : Name) : ∀ ss : List Stmt, (labelsOf ss).count l = ss.countP (Lint.isLabel l)
  | [] => rfl
  | s :: r => by
      cases s <;> simp [labelsOf, Lint.isLabel, List.count_cons, List.countP_cons, count_labelsOf l r]

/-- lint of a script all of whose linted scopes (the global list and the bodies of the top-level functions) are label-clean
contains none of the three label warnings: each of them, by C18's exactness theorems, names a scope that is not clean -/
theorem lint_noLabel (P : List Stmt) (hP : ScopeClean P)
    (hF : ∀ a f args b c body, Stmt.function a f args b c body ∈ P → ScopeClean body) :
    ∀ w ∈ Lint.lint P, isLabelW w = false := by
  have hclean : ∀ sc body, C18.ScopeOf P sc body → ScopeClean body := by
    rintro sc body (⟨-, rfl⟩ | ⟨f, i, k, a, v, y, -, hi⟩)
    · exact hP
    · exact hF _ _ _ _ _ _ (List.mem_of_getElem? hi)
  intro w hw
  cases w with
  | redefLabel sc l i =>
    obtain ⟨body, hs, hr⟩ := (C18.redefinition_exact_labels P sc l i).1 hw
    have h2 := (C18.redefined_iff_defined_twice.1 body l).1 ⟨i, hr⟩
    have h1 := List.nodup_iff_count.1 (hclean sc body hs).1 l
    rw [count_labelsOf] at h1
    omega
  | unusedLabel sc l i =>
    obtain ⟨body, hs, ⟨hd, hj⟩, -⟩ := (C18.unused_label_mem_lint P sc l i).1 hw
    exact absurd ((hclean sc body hs).2.1 l hd) hj
  | unknownLabel sc l j =>
    obtain ⟨body, hs, ⟨hj, hd⟩, -⟩ := (C18.unknown_label_mem_lint P sc l j).1 hw
    exact absurd ((hclean sc body hs).2.2 l hj) hd
  | _ => rfl

theorem function_body_scope {a f args b c body} : ∀ {P : List Stmt}, Stmt.function a f args b c body ∈ P → body ∈ bodiesL P
  | [], h => by simp at h
  | s :: r, h => by
      simp only [List.mem_cons] at h
      simp only [bodiesL, List.mem_append]
      rcases h with h | h
      · subst h; left; simp [bodiesS]
      · right; exact function_body_scope h

/-- For `NoReserved` code whose raw labels/jumps (if any) are unique, used and resolved, `lint_script` of the
lowered program emits **none** of "Redefinition of [global] label", "Unused [global] label", "Unknown [global] label" —
neither for the global scope nor for any function (by C18's exactness theorems, `lint_noLabel`). -/
theorem no_label_lint (B : List SStmt) (hn : NoReserved B) (hu : UserLabelsOK B) :
    ∀ w ∈ Lint.lint (lowerProgram B), isLabelW w = false := by
  have hc := lower_scopes_clean B hn hu
  exact lint_noLabel _ (hc _ List.mem_cons_self)
    (fun a f args b c body hm => hc body (List.mem_cons_of_mem _ (function_body_scope hm)))

theorem no_label_lint_structured (B : List SStmt) (h : NoRaw B) : ∀ w ∈ Lint.lint (lowerProgram B), isLabelW w = false :=
  no_label_lint B h.noReserved h.userLabelsOK

example : ∀ w ∈ Lint.lint (lowerProgram demo), isLabelW w = false := no_label_lint_structured demo (by decide)
example : ∀ w ∈ Lint.lint (lowerProgram demoRaw), isLabelW w = false := no_label_lint demoRaw (by decide) (by decide)
-- the hypothesis matters: a raw jump to nowhere is reported
example : ∃ w ∈ Lint.lint (lowerProgram [.jump (.user "nowhere") none]), isLabelW w = true := by
  obtain ⟨j, hj⟩ := (C18.unknown_label_iff_findLabel_none .global [.jump (.user "nowhere") none] (.user "nowhere")).2
    ⟨⟨none, by simp⟩, by simp [C18.findLabel, Lint.isLabel]⟩
  refine ⟨.unknownLabel .global (.user "nowhere") j, ?_, rfl⟩
  show _ ∈ Lint.lint [.jump (.user "nowhere") none]
  simp only [Lint.lint, List.mem_append]
  exact Or.inr hj

theorem incNEL_scopes {P : List Stmt} (h : incNEL P = true) : ∀ sc ∈ scopes P, Stmt.include [] ∉ sc := by
  intro sc hsc
  simp only [scopes, List.mem_cons] at hsc
  rcases hsc with rfl | hsc
  · exact incNEL_mem _ h
  · exact incNEL_mem _ (incNEL_bodies _ h sc hsc)

/-- If the structured program has no (unrenderable) empty raw include, no scope of the lowered
program contains `include []`. -/
theorem lower_include_nonempty (B : List SStmt) (h : incOkB B = true) :
    ∀ sc ∈ scopes (lowerProgram B), Stmt.include [] ∉ sc :=
  incNEL_scopes (incB none B 0 h)

/-- The line-at-a-time parser, on **any** sequence of classified lines it accepts, never
produces `include []` in any scope (an include statement is created with one entry and only ever grows). -/
theorem parseLines_include_nonempty (ls : List Line) (P : List Stmt) (h : parseLines ls = .ok P) :
    ∀ sc ∈ scopes P, Stmt.include [] ∉ sc :=
  incNEL_scopes (parseLines_incNEL ls P h)

/-- `List Stmt` is the schema by typing (see the remark at the top of the file); of the schema's two value constraints, `args`
non-empty is enforced by the JSON boundary (`Syntax.stmtToJson` (BareModel/SyntaxJson.lean) omits `args` when the list is empty,
as `parse_script` does), and `includes` non-empty holds for the spec lowering of every renderable program and for whatever the
line-at-a-time parser accepts. -/
theorem schema_valid :
    (∀ B, incOkB B = true → ∀ sc ∈ scopes (lowerProgram B), Stmt.include [] ∉ sc) ∧
    (∀ ls P, parseLines ls = .ok P → ∀ sc ∈ scopes P, Stmt.include [] ∉ sc) :=
  ⟨lower_include_nonempty, parseLines_include_nonempty⟩

example : incOkB demo = true := by decide +kernel
example : parseLines (renderB demo) = .ok (lowerProgram demo) :=
  C01.parseLines_render demo (by decide) (by decide) (by decide)

/-! ## transfer to the line-at-a-time parser (`C01.parseLines_render`) -/

mutual
theorem wnS_eq : ∀ (s : SStmt) (a b : Bool), wnS a b s = C01.wnS a b s
  | .expr .., _, _ | .ret _, _, _ | .label _, _, _ | .jump .., _, _ | .include _, _, _ | .brk, _, _ | .cont, _, _ => rfl
  | .func _ _ _ _ _ f, _, b => congrArg (!b && ·) (wnB_eq f false true)
  | .ite _ t e, a, b => show (_ && _) = (_ && _) from congr (congrArg and (wnB_eq t a b)) (wnE_eq e a b)
  | .while _ f, _, b => wnB_eq f true b
  | .for _ _ _ f, _, b => wnB_eq f true b
theorem wnB_eq : ∀ (B : List SStmt) (a b : Bool), wnB a b B = C01.wnB a b B
  | [], _, _ => rfl
  | s :: ss, a, b => show (_ && _) = (_ && _) from congr (congrArg and (wnS_eq s a b)) (wnB_eq ss a b)
theorem wnE_eq : ∀ (e : SElse) (a b : Bool), wnE a b e = C01.wnE a b e
  | .none, _, _ => rfl
  | .els f, a, b => wnB_eq f a b
  | .elif _ t e, a, b => show (_ && _) = (_ && _) from congr (congrArg and (wnB_eq t a b)) (wnE_eq e a b)
end

/-- `C07.WellNested` is the hypothesis of `C01.parseLines_render` -/
theorem wellNested_iff (B : List SStmt) : WellNested B ↔ C01.WellNested B := by
  simp [WellNested, C01.WellNested, wnB_eq]

/-- Whatever the line-at-a-time parser (the mirror of `parse_script`: `label_defs` stack, counter,
per-function floor, in-place re-targeting, `hasContinue` flag) returns for the rendered lines of a structured program that does
not use the reserved prefix and whose raw labels/jumps (if any) are unique, used and resolved: the program was well nested, the
result *is* the recursive lowering (C01 T1), and therefore every scope of the result is label-clean, every jump of every scope
is found by `findLabel`, lint emits no label warning, and no include list is empty.  (`FidsInOrder` / `NoAdjacentIncludes` are
C01's normal-form conditions on the structured representation: function ids in source order, adjacent include nodes merged.) -/
theorem parsed_well_formed (B : List SStmt) (P : List Stmt) (hf : C01.FidsInOrder B) (hi : C01.NoAdjacentIncludes B)
    (hn : NoReserved B) (hu : UserLabelsOK B) (hP : parseLines (renderB B) = .ok P) :
    WellNested B ∧ P = lowerProgram B ∧
      (∀ sc ∈ scopes P, ScopeClean sc) ∧
      (∀ sc ∈ scopes P, ∀ t ∈ jumpsOf sc, ∃ n, Machine.findLabel sc t = some n) ∧
      (∀ w ∈ Lint.lint P, isLabelW w = false) ∧
      (∀ sc ∈ scopes P, Stmt.include [] ∉ sc) := by
  have hw : C01.WellNested B := C01.wellNested_of_parse_ok B hP
  have h1 := C01.parseLines_render B hw hf hi
  rw [h1] at hP
  cases hP
  exact ⟨(wellNested_iff B).2 hw, rfl, lower_scopes_clean B hn hu,
    fun sc hsc t ht => (no_unknown_label_error B hn hu.jumps sc hsc t ht).1,
    no_label_lint B hn hu, parseLines_include_nonempty _ _ h1⟩

/-- for well-nested purely structured code the parser succeeds and its output is well formed -/
theorem parsed_well_formed_structured (B : List SStmt) (hw : WellNested B) (hf : C01.FidsInOrder B)
    (hi : C01.NoAdjacentIncludes B) (hr : NoRaw B) :
    parseLines (renderB B) = .ok (lowerProgram B) ∧
      (∀ sc ∈ scopes (lowerProgram B), ScopeClean sc) ∧
      (∀ sc ∈ scopes (lowerProgram B), ∀ t ∈ jumpsOf sc, ∃ n, Machine.findLabel sc t = some n) := by
  have h1 := C01.parseLines_render B ((wellNested_iff B).1 hw) hf hi
  exact ⟨h1, lower_scopes_clean B hr.noReserved hr.userLabelsOK, no_unknown_label_error_structured B hr⟩

example : WellNested demo ∧ C01.FidsInOrder demo ∧ C01.NoAdjacentIncludes demo ∧ NoRaw demo := by decide +kernel
example : C01.FidsInOrder demoRaw ∧ C01.NoAdjacentIncludes demoRaw ∧ NoReserved demoRaw ∧ UserLabelsOK demoRaw := by decide +kernel

end C07
