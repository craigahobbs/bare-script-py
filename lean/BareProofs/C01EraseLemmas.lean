import BareModel.StructuredS
import BareProofs.C01Exact
import BareProofs.C04Lemmas
import BareProofs.RunRel

/-!
# C01 — T3 (ticked erasure): what `C01Erase` is stated and proved with

Environments up to generated names (`vis`, `Keep`, `StRel`, `LRel`).  The two frame lemmas `evalExpr_sim`, `runTree_sim`: code
that mentions no generated name neither sees nor touches a generated entry; they are `C09.RunRel.evalExpr_rel` / `runTree_rel`
at the relation `eraseRel`, for any pair of related call runners (`evalExpr_cfg`, `runTree_cfg` are the same walks at equality).
Both semantics in combinator form, so that each construct is a composition of a few continuations (`condK`, `loopK`, … on the
pure side, `stmtEval`, `andThen`, `loopT` on the ticked side); the iteration bound of `loopW` / `loopF` is never binding
(`bound_irrel`).  The relation `Sim` between a ticked and a pure computation, with one rule per combinator.
-/

namespace C01
open StructuredS Machine Lower Structured

variable {W : Type}

def isGen : Name → Bool
  | .gen _ _ => true
  | .user _ => false

/-- the user-visible part of an environment: entries with generated names (`__bareScript…`) removed -/
def vis (e : Env) : Env := e.filter (fun p => !isGen p.1)

theorem get?_nil (n : Name) : Env.get? [] n = none := rfl

theorem vis_get? (e : Env) (n : Name) (h : isGen n = false) : (vis e).get? n = e.get? n := by
  induction e with
  | nil => rfl
  | cons p r ih =>
    obtain ⟨k, x⟩ := p
    simp only [vis, List.filter_cons] at ih ⊢
    by_cases hk : isGen k = true
    · have : k ≠ n := by intro e; subst e; simp [h] at hk
      simp [hk, C04.get?_cons, this, ih]
    · simp only [Bool.not_eq_true] at hk
      simp only [hk, Bool.not_false, if_true, C04.get?_cons, ih]

theorem vis_set_gen (e : Env) (n : Name) (v : Value) (h : isGen n = true) : vis (e.set n v) = vis e := by
  induction e with
  | nil => simp [Env.set, vis, h]
  | cons p r ih =>
    obtain ⟨k, x⟩ := p
    simp only [Env.set]
    by_cases hk : k = n
    · subst hk; simp [vis, h]
    · have : (k == n) = false := by simp [hk]
      simp only [this, Bool.false_eq_true, if_false]
      simp only [vis, List.filter_cons] at ih ⊢
      rw [ih]

theorem vis_set_user (e : Env) (n : Name) (v : Value) (h : isGen n = false) : vis (e.set n v) = (vis e).set n v := by
  induction e with
  | nil => simp [Env.set, vis, h]
  | cons p r ih =>
    obtain ⟨k, x⟩ := p
    simp only [Env.set]
    by_cases hk : k = n
    · subst hk; simp [vis, h, Env.set]
    · have hb : (k == n) = false := by simp [hk]
      simp only [hb, Bool.false_eq_true, if_false]
      simp only [vis, List.filter_cons] at ih ⊢
      by_cases hg : isGen k = true
      · simp [hg, ih]
      · simp only [Bool.not_eq_true] at hg
        simp [hg, Env.set, hb, ih]

theorem vis_get?_eq {e e' : Env} (h : vis e = vis e') (n : Name) (hn : isGen n = false) : e.get? n = e'.get? n := by
  rw [← vis_get? e n hn, ← vis_get? e' n hn, h]

theorem vis_contains_eq {e e' : Env} (h : vis e = vis e') (n : Name) (hn : isGen n = false) :
    e.contains n = e'.contains n := by
  rw [C04.contains_eq_isSome, C04.contains_eq_isSome, vis_get?_eq h n hn]

theorem vis_set_congr {e e' : Env} (h : vis e = vis e') (n : Name) (v : Value) (hn : isGen n = false) :
    vis (e.set n v) = vis (e'.set n v) := by
  rw [vis_set_user e n v hn, vis_set_user e' n v hn, h]

/-- `i` is the label counter where a statement starts: the hidden variables of the loops around it are numbered below `i` and
must survive it, its own are numbered from `i` on -/
def Keep (i : Nat) (e e' : Env) : Prop := ∀ K k, k < i → e'.get? (.gen K k) = e.get? (.gen K k)

def KeepAll (e e' : Env) : Prop := ∀ K k, e'.get? (.gen K k) = e.get? (.gen K k)

theorem Keep.refl (i : Nat) (e : Env) : Keep i e e := fun _ _ _ => rfl
theorem KeepAll.refl (e : Env) : KeepAll e e := fun _ _ => rfl
theorem Keep.trans {i j : Nat} {a b c : Env} (h1 : Keep i a b) (h2 : Keep j b c) (hij : i ≤ j) : Keep i a c :=
  fun K k hk => (h2 K k (Nat.lt_of_lt_of_le hk hij)).trans (h1 K k hk)
theorem KeepAll.trans {a b c : Env} (h1 : KeepAll a b) (h2 : KeepAll b c) : KeepAll a c :=
  fun K k => (h2 K k).trans (h1 K k)
theorem KeepAll.keep {a b : Env} (h : KeepAll a b) (i : Nat) : Keep i a b := fun K k _ => h K k
theorem Keep.mono {i j : Nat} {a b : Env} (h : Keep j a b) (hij : i ≤ j) : Keep i a b :=
  fun K k hk => h K k (Nat.lt_of_lt_of_le hk hij)

theorem keepAll_set_user (e : Env) (n : Name) (v : Value) (hn : isGen n = false) : KeepAll e (e.set n v) := by
  intro K k
  rw [C04.get?_set]
  have : Name.gen K k ≠ n := by intro h; subst h; simp [isGen] at hn
  simp [this]

theorem keep_set_ge (i : Nat) (e : Env) (K : GK) (k : Nat) (v : Value) (hk : i ≤ k) : Keep i e (e.set (.gen K k) v) := by
  intro K' k' hlt
  rw [C04.get?_set]
  have : Name.gen K' k' ≠ Name.gen K k := by intro h; cases h; exact absurd hlt (Nat.not_lt.mpr hk)
  simp [this]

/-- machine-side state vs pure-side state: same world (log, heap, …), same user-visible globals; `count` ignored -/
def StRel (s s' : State W) : Prop := s.world = s'.world ∧ vis s.globals = vis s'.globals

def LRel : Option Env → Option Env → Prop
  | none, none => True
  | some a, some b => vis a = vis b
  | _, _ => False

theorem StRel.refl (s : State W) : StRel s s := ⟨rfl, rfl⟩
theorem LRel.refl : ∀ l : Option Env, LRel l l
  | none => trivial
  | some _ => rfl

theorem StRel.symm {s s' : State W} (h : StRel s s') : StRel s' s := ⟨h.1.symm, h.2.symm⟩

theorem LRel.symm : ∀ {l l' : Option Env}, LRel l l' → LRel l' l
  | none, none, _ => trivial
  | some _, some _, h => Eq.symm h
  | none, some _, h => h.elim
  | some _, none, h => h.elim

theorem StRel.count {s s' : State W} (h : StRel s s') (c : Nat) : StRel { s with count := c } s' := h

def KeepL (i : Nat) : Option Env → Option Env → Prop
  | none, none => True
  | some a, some b => Keep i a b
  | _, _ => False

/-- generated entries of the globals preserved: all of them inside a function (the hidden variables live in the locals),
those below `i` in global scope -/
def GKeep (l0 : Option Env) (i : Nat) (g g' : Env) : Prop :=
  match l0 with
  | none => Keep i g g'
  | some _ => KeepAll g g'

theorem KeepL.refl (i : Nat) : ∀ l : Option Env, KeepL i l l
  | none => trivial
  | some e => Keep.refl i e

theorem KeepL.trans {i j : Nat} : ∀ {a b c : Option Env}, KeepL i a b → KeepL j b c → i ≤ j → KeepL i a c
  | none, none, none, _, _, _ => trivial
  | some _, some _, some _, h1, h2, h => Keep.trans h1 h2 h
  | none, none, some _, _, h2, _ => h2.elim
  | none, some _, _, h1, _, _ => h1.elim
  | some _, none, _, h1, _, _ => h1.elim
  | some _, some _, none, _, h2, _ => h2.elim

theorem KeepL.mono {i j : Nat} : ∀ {a b : Option Env}, KeepL j a b → i ≤ j → KeepL i a b
  | none, none, _, _ => trivial
  | some _, some _, h, hij => Keep.mono h hij
  | none, some _, h, _ => h.elim
  | some _, none, h, _ => h.elim

theorem KeepL.isSome {i : Nat} : ∀ {a b : Option Env}, KeepL i a b → b.isSome = a.isSome
  | none, none, _ => rfl
  | some _, some _, _ => rfl
  | none, some _, h => h.elim
  | some _, none, h => h.elim

theorem GKeep.refl (l0 : Option Env) (i : Nat) (g : Env) : GKeep l0 i g g := by
  cases l0 <;> simp [GKeep, Keep.refl, KeepAll.refl]

theorem GKeep.of_all (l0 : Option Env) (i : Nat) {g g' : Env} (h : KeepAll g g') : GKeep l0 i g g' := by
  cases l0
  · exact h.keep i
  · exact h

theorem GKeep.trans {l0 l1 : Option Env} {i j : Nat} {a b c : Env} (h1 : GKeep l0 i a b) (h2 : GKeep l1 j b c)
    (hs : l1.isSome = l0.isSome) (hij : i ≤ j) : GKeep l0 i a c := by
  cases l0 <;> cases l1 <;> simp at hs
  · exact Keep.trans h1 h2 hij
  · exact KeepAll.trans h1 h2

theorem GKeep.mono {l0 : Option Env} {i j : Nat} {a b : Env} (h : GKeep l0 j a b) (hij : i ≤ j) : GKeep l0 i a b := by
  cases l0
  · exact Keep.mono h hij
  · exact h

theorem kstep {i : Nat} {l0 l1 l2 : Option Env} {g0 g1 g2 : Env} (hkl : KeepL i l0 l1) (hkg : GKeep l0 i g0 g1)
    (hl : KeepL i l1 l2) (hg : GKeep l1 i g1 g2) : KeepL i l0 l2 ∧ GKeep l0 i g0 g2 :=
  ⟨hkl.trans hl (Nat.le_refl i), hkg.trans hg hkl.isSome (Nat.le_refl i)⟩

theorem kall {i : Nat} {l0 : Option Env} {g0 g1 g2 : Env} (hkg : GKeep l0 i g0 g1) (hk : KeepAll g1 g2) :
    GKeep l0 i g0 g2 :=
  hkg.trans (GKeep.of_all l0 i hk) rfl (Nat.le_refl i)

def sget (l : Option Env) (g : Env) (x : Name) : Option Value :=
  match l with
  | some e => e.get? x
  | none => g.get? x

theorem lookupVar_of_sget {l : Option Env} {g : Env} {x : Name} {v : Value} (h : sget l g x = some v) :
    lookupVar l g x = v := by
  cases l with
  | none => simp only [sget] at h; simp [lookupVar, h]
  | some e => simp only [sget] at h; simp [lookupVar, C04.contains_eq_isSome, h]

/-- a generated name is never one of the keyword constants -/
theorem readVar_of_sget {l : Option Env} {g : Env} {x : Name} {v : Value} (hx : isGen x = true) (h : sget l g x = some v) :
    readVar l g x = v := by
  cases x with
  | user _ => cases hx
  | gen K k => rw [← lookupVar_of_sget h]; simp [readVar, kwNull, kwFalse, kwTrue]

theorem sget_keep {j : Nat} {l0 l : Option Env} {g0 g : Env} (hl : KeepL j l0 l) (hg : GKeep l0 j g0 g)
    (K : GK) (k : Nat) (hk : k < j) : sget l g (.gen K k) = sget l0 g0 (.gen K k) := by
  cases l0 <;> cases l <;> simp only [KeepL] at hl
  · exact hg K k hk
  · exact hl K k hk

/-! ## "for all sufficiently large fuel" -/

def Ev (P : Nat → Prop) : Prop := ∃ N, ∀ k, N ≤ k → P k

theorem Ev.of_all {P : Nat → Prop} (h : ∀ k, P k) : Ev P := ⟨0, fun k _ => h k⟩

theorem Ev.and {P Q : Nat → Prop} (h1 : Ev P) (h2 : Ev Q) : Ev (fun k => P k ∧ Q k) := by
  obtain ⟨N1, h1⟩ := h1; obtain ⟨N2, h2⟩ := h2
  exact ⟨max N1 N2, fun k hk =>
    ⟨h1 k (Nat.le_trans (Nat.le_max_left N1 N2) hk), h2 k (Nat.le_trans (Nat.le_max_right N1 N2) hk)⟩⟩

theorem Ev.mono {P Q : Nat → Prop} (h1 : Ev P) (h : ∀ k, P k → Q k) : Ev Q := by
  obtain ⟨N1, h1⟩ := h1
  exact ⟨N1, fun k hk => h k (h1 k hk)⟩

theorem Ev.step {α : Type} {S F : Nat → α} {o : α} (hS : ∀ k, S (k+1) = F k) (h : Ev fun k => F k = o) :
    Ev fun k => S k = o := by
  obtain ⟨N, h⟩ := h
  refine ⟨N+1, fun k hk => ?_⟩
  cases k with
  | zero => exact absurd hk (Nat.not_succ_le_zero N)
  | succ k' => rw [hS, h k' (Nat.le_of_succ_le_succ hk)]

theorem Ev.shift {P : Nat → Prop} (h : Ev P) (c : Nat) : Ev fun f => P (f + c) := by
  obtain ⟨N, h⟩ := h
  exact ⟨N, fun f hf => h (f + c) (Nat.le_trans hf (Nat.le_add_right f c))⟩

theorem Ev.of_shift {P : Nat → Prop} {c : Nat} (h : Ev fun f => P (f + c)) : Ev P := by
  obtain ⟨N, h⟩ := h
  refine ⟨N + c, fun f hf => ?_⟩
  have : P (f - c + c) := h (f - c) (Nat.le_sub_of_add_le hf)
  rwa [Nat.sub_add_cancel (Nat.le_trans (Nat.le_add_left c N) hf)] at this

theorem Ev.comp {α β : Type} {X : Nat → α} {x : α} {Φ : Nat → α → β} {o : β}
    (h1 : Ev fun k => X k = x) (h2 : Ev fun k => Φ k x = o) : Ev fun k => Φ k (X k) = o :=
  (h1.and h2).mono fun k ⟨a, b⟩ => (congrArg (Φ k) a).trans b

theorem Ev.congr {P Q : Nat → Prop} (h : ∀ k, P k ↔ Q k) : Ev P ↔ Ev Q :=
  exists_congr fun _ => forall_congr' fun k => imp_congr_right fun _ => h k

/-! ## frame lemma for expressions -/

mutual
/-- the expression mentions no generated name (as variable or function name) -/
def nrE : Expr → Bool
  | .number _ => true
  | .string _ => true
  | .variable n => !isGen n
  | .function n args => !isGen n && nrEs args
  | .binary _ l r => nrE l && nrE r
  | .unary _ e => nrE e
  | .group e => nrE e
def nrEs : List Expr → Bool
  | [] => true
  | a :: as => nrE a && nrEs as
end

mutual
theorem nrE_uses : ∀ e : Expr, nrE e = true → ∀ n ∈ Lint.exprUses e, isGen n = false
  | .number _, _, _, h | .string _, _, _, h => by cases h
  | .variable n, h, m, hm => by
      simp only [nrE, Bool.not_eq_true'] at h
      rw [List.mem_singleton.1 hm]; exact h
  | .function n args, h, m, hm => by
      simp only [nrE, Bool.and_eq_true, Bool.not_eq_true'] at h
      rcases List.mem_cons.1 hm with rfl | hm
      · exact h.1
      · exact nrEs_uses args h.2 m hm
  | .binary _ a b, h, m, hm => by
      simp only [nrE, Bool.and_eq_true] at h
      exact (List.mem_append.1 hm).elim (nrE_uses a h.1 m) (nrE_uses b h.2 m)
  | .unary _ a, h, m, hm => nrE_uses a h m hm
  | .group a, h, m, hm => nrE_uses a h m hm
theorem nrEs_uses : ∀ es : List Expr, nrEs es = true → ∀ n ∈ Lint.argsUses es, isGen n = false
  | [], _, _, h => by cases h
  | a :: as, h, m, hm => by
      simp only [nrEs, Bool.and_eq_true] at h
      exact (List.mem_append.1 hm).elim (nrE_uses a h.1 m) (nrEs_uses as h.2 m)
end

theorem lookupVar_rel {l l' : Option Env} {g g' : Env} (hl : LRel l l') (hg : vis g = vis g') (n : Name)
    (hn : isGen n = false) : lookupVar l g n = lookupVar l' g' n := by
  cases l <;> cases l' <;> simp only [LRel] at hl
  · simp only [lookupVar, vis_get?_eq hg n hn]
  · simp only [lookupVar, vis_get?_eq hg n hn, vis_get?_eq hl n hn, vis_contains_eq hl n hn]

theorem lookupFunc_rel (cfg : Config W) {l l' : Option Env} {g g' : Env} (hl : LRel l l') (hg : vis g = vis g') (n : Name)
    (hn : isGen n = false) : lookupFunc cfg l g n = lookupFunc cfg l' g' n := by
  cases l <;> cases l' <;> simp only [LRel] at hl
  · simp only [lookupFunc, vis_get?_eq hg n hn, vis_contains_eq hg n hn]
  · simp only [lookupFunc, vis_get?_eq hg n hn, vis_contains_eq hg n hn, vis_get?_eq hl n hn, vis_contains_eq hl n hn]

theorem readVar_rel {l l' : Option Env} {g g' : Env} (hl : LRel l l') (hg : vis g = vis g') (n : Name)
    (hn : isGen n = false) : readVar l g n = readVar l' g' n := by
  simp only [readVar, lookupVar_rel hl hg n hn]

/-- the only error the pure reading cannot produce: the statement budget (possible only when `maxStatements = L > 0`) -/
def Exceeded (L : Nat) (e : RtErr) : Prop := ∃ m, e = .exceeded m ∧ 0 < L

/-- a result `o` of one side against the results `S k` of the other at fuel `k`: unless `o` is out-of-fuel or the budget
error, `S k` is — for all sufficiently large `k` — the same kind of result with the same value / error and a related state.
Forward, `o` is the machine's and `L` its budget, and `kp` adds that a normal result keeps every generated entry of the
globals `g0` the run started from; conversely `o` is the pure side's, with `L = 0` and `kp` off -/
def OSimG (kp : Bool) (L : Nat) (g0 : Env) (o : Out W) (S : Nat → Out W) : Prop :=
  match o with
  | .oof => True
  | .ok v s => ∃ s', StRel s s' ∧ (kp = true → KeepAll g0 s.globals) ∧ Ev fun k => S k = .ok v s'
  | .err e s => Exceeded L e ∨ ∃ s', StRel s s' ∧ Ev fun k => S k = .err e s'

def ASimG (kp : Bool) (L : Nat) (g0 : Env) (o : ArgsOut W) (S : Nat → ArgsOut W) : Prop :=
  match o with
  | .oof => True
  | .ok vs s => ∃ s', StRel s s' ∧ (kp = true → KeepAll g0 s.globals) ∧ Ev fun k => S k = .ok vs s'
  | .err e s => Exceeded L e ∨ ∃ s', StRel s s' ∧ Ev fun k => S k = .err e s'

/-- the two call runners agree on related states -/
def CallSimG (kp : Bool) (L : Nat) (cv : CallFn W) (cs : Nat → CallFn W) : Prop :=
  ∀ fv args st st', StRel st st' → OSimG kp L st.globals (cv fv args st) (fun k => cs k fv args st')

/-- the forward instances -/
abbrev OSim (L : Nat) (g0 : Env) (o : Out W) (S : Nat → Out W) : Prop := OSimG true L g0 o S
abbrev ASim (L : Nat) (g0 : Env) (o : ArgsOut W) (S : Nat → ArgsOut W) : Prop := ASimG true L g0 o S
abbrev CallSim (L : Nat) (cv : CallFn W) (cs : Nat → CallFn W) : Prop := CallSimG true L cv cs

theorem OSimG.step {kp : Bool} {L : Nat} {g0 : Env} {o : Out W} {S0 S : Nat → Out W} (h : OSimG kp L g0 o S0)
    (hS : ∀ k, S (k+1) = S0 k) : OSimG kp L g0 o S := by
  cases o with
  | oof => trivial
  | err e s => exact h.imp id fun ⟨s', hs, hev⟩ => ⟨s', hs, Ev.step hS hev⟩
  | ok v s => obtain ⟨s', hs, hk, hev⟩ := h; exact ⟨s', hs, hk, Ev.step hS hev⟩

theorem OSimG.keep {L : Nat} {g0 : Env} {o : Out W} {S : Nat → Out W} {v : Value} {s : State W} (h : OSimG true L g0 o S)
    (ho : o = .ok v s) : KeepAll g0 s.globals := by
  subst ho
  obtain ⟨_, _, hk, _⟩ := h
  exact hk rfl

/-- `OSimG` / `ASimG` at any result type, which is what a `C09.RunRel` speaks of -/
def OcSimG {α : Type} (kp : Bool) (L : Nat) (g0 : Env) (o : C09.Oc α W) (S : Nat → C09.Oc α W) : Prop :=
  match o with
  | .oof => True
  | .ok a s => ∃ s', StRel s s' ∧ (kp = true → KeepAll g0 s.globals) ∧ Ev fun k => S k = .ok a s'
  | .err e s => Exceeded L e ∨ ∃ s', StRel s s' ∧ Ev fun k => S k = .err e s'

theorem OSimG.oc {kp : Bool} {L : Nat} {g0 : Env} {o : Out W} {S : Nat → Out W} :
    OSimG kp L g0 o S ↔ OcSimG kp L g0 o.oc fun k => (S k).oc := by
  cases o
  · exact exists_congr fun s' => and_congr_right' (and_congr_right' (Ev.congr fun k => C09.Out.oc_eq.symm))
  · exact or_congr_right (exists_congr fun s' => and_congr_right' (Ev.congr fun k => C09.Out.oc_eq.symm))
  · exact Iff.rfl

theorem ASimG.oc {kp : Bool} {L : Nat} {g0 : Env} {o : ArgsOut W} {S : Nat → ArgsOut W} :
    ASimG kp L g0 o S ↔ OcSimG kp L g0 o.oc fun k => (S k).oc := by
  cases o
  · exact exists_congr fun s' => and_congr_right' (and_congr_right' (Ev.congr fun k => C09.ArgsOut.oc_eq.symm))
  · exact or_congr_right (exists_congr fun s' => and_congr_right' (Ev.congr fun k => C09.ArgsOut.oc_eq.symm))
  · exact Iff.rfl

/-- a later run (started from `g1`) read from `g0`, against a family that is eventually the same -/
theorem OcSimG.transfer {α : Type} {kp : Bool} {L : Nat} {g0 g1 : Env} {o : C09.Oc α W} {S0 S : Nat → C09.Oc α W}
    (hk : kp = true → KeepAll g0 g1) (h : OcSimG kp L g1 o S0) (hx : ∀ r, (Ev fun k => S0 k = r) → Ev fun k => S k = r) :
    OcSimG kp L g0 o S := by
  cases o with
  | oof => trivial
  | err e s => exact h.imp id fun ⟨s', hs, hev⟩ => ⟨s', hs, hx _ hev⟩
  | ok v s => obtain ⟨s', hs, hk1, hev⟩ := h; exact ⟨s', hs, fun h => (hk h).trans (hk1 h), hx _ hev⟩

/-- `OcSimG` as a relation between a run of one side and the runs of the other at every fuel; the start state carries the
globals whose generated entries are tracked -/
def eraseRel (kp : Bool) (L : Nat) : C09.RunRel W Nat where
  St := StRel
  R := fun s₀ o S => OcSimG kp L s₀.globals o S
  ok := fun _ _ s' hs => ⟨s', hs, fun _ => KeepAll.refl _, Ev.of_all fun _ => rfl⟩
  err := fun _ _ s' _ hs => .inr ⟨s', hs, Ev.of_all fun _ => rfl⟩
  bind := by
    intro α β s₀ o S k k' h hk
    cases o with
    | oof => trivial
    | err e s => exact h.imp id fun ⟨s', hs, hev⟩ => ⟨s', hs, hev.mono fun i hi => by simp only [hi, C09.Oc.bind]⟩
    | ok a s =>
      obtain ⟨s', hs, hk0, hev⟩ := h
      exact (hk a s s' hs).transfer hk0 fun r hr => Ev.comp (Φ := fun i x => C09.Oc.bind x (k' i)) hev hr

theorem eraseAgree (cfg : Config W) (kp : Bool) (L : Nat) {l l' : Option Env} (hl : LRel l l') :
    C09.EvalAgree (eraseRel kp L) cfg cfg l l' fun n => isGen n = false where
  truthy := fun _ _ _ hs => by rw [hs.1]
  binop := fun _ _ _ _ _ hs => by rw [hs.1]
  neg := rfl
  var := fun n s s' hn hs => (lookupVar_rel hl hs.2 n hn).symm
  func := fun n s s' hn hs => (lookupFunc_rel cfg hl hs.2 n hn).symm

theorem CallSimG.rel {kp : Bool} {L : Nat} {cv : CallFn W} {cs : Nat → CallFn W} (hc : CallSimG kp L cv cs) :
    (eraseRel kp L).Call cv cs := fun f a s s' hs => OSimG.oc.1 (hc f a s s' hs)

section
variable (cfg : Config W) {kp : Bool} {L : Nat} {cv : CallFn W} {cs : Nat → CallFn W} (hc : CallSimG kp L cv cs)
  {l l' : Option Env} (hl : LRel l l')
include hc hl

/-- **frame lemma**: an expression that mentions no generated name evaluates, on related scopes and with related call
runners, to related results; the generated entries of the globals are untouched -/
theorem evalExpr_sim : ∀ (e : Expr) (st st' : State W), nrE e = true → StRel st st' →
    OSimG kp L st.globals (evalExpr cfg cv l e st) (fun k => evalExpr cfg (cs k) l' e st') :=
  fun e st st' hn hs =>
    OSimG.oc.2 ((eraseRel kp L).evalExpr_rel (eraseAgree cfg kp L hl) hc.rel e st st' (nrE_uses e hn) hs)

theorem evalArgs_sim : ∀ (as : List Expr) (st st' : State W), nrEs as = true → StRel st st' →
    ASimG kp L st.globals (evalArgs cfg cv l as st) (fun k => evalArgs cfg (cs k) l' as st') :=
  fun as st st' hn hs =>
    ASimG.oc.2 ((eraseRel kp L).evalArgs_rel (eraseAgree cfg kp L hl) hc.rel as st st' (nrEs_uses as hn) hs)

theorem evalIf_sim : ∀ (as : List Expr) (st st' : State W), nrEs as = true → StRel st st' →
    OSimG kp L st.globals (evalIf cfg cv l as st) (fun k => evalIf cfg (cs k) l' as st') :=
  fun as st st' hn hs =>
    OSimG.oc.2 ((eraseRel kp L).evalIf_rel (eraseAgree cfg kp L hl) hc.rel as st st' (nrEs_uses as hn) hs)
end

/-! ## frame lemma for library interaction trees -/

/-- the tree never reads or writes a generated global (`systemGlobalGet` / `systemGlobalSet` of a `__bareScript…` name) -/
inductive TreeOK : LibTree W → Prop
  | ret (out : LibOut) (w : W) : TreeOK (.ret out w)
  | call (f : Value) (args : List Value) (w : W) (k : Value → W → LibTree W) :
      (∀ v w', TreeOK (k v w')) → TreeOK (.call f args w k)
  | globalGet (n : Name) (w : W) (k : Option Value → W → LibTree W) :
      isGen n = false → (∀ ov w', TreeOK (k ov w')) → TreeOK (.globalGet n w k)
  | globalSet (n : Name) (v : Value) (w : W) (k : W → LibTree W) :
      isGen n = false → (∀ w', TreeOK (k w')) → TreeOK (.globalSet n v w k)

/-- the host's functions never touch the parser-generated variables -/
def HostNoReserved (h : Host W) : Prop :=
  (∀ name args w, TreeOK (h.lib name args w)) ∧ (∀ k args w, TreeOK (h.other k args w))

theorem TreeOK.names {t : LibTree W} (ht : TreeOK t) : C09.RunRel.TreeNames (fun n => isGen n = false) t := by
  induction ht with
  | ret o w => exact .ret o w
  | call f a w k _ ih => exact .call f a w k ih
  | globalGet n w k hn _ ih => exact .globalGet n w k hn ih
  | globalSet n v w k hn _ ih => exact .globalSet n v w k hn ih

theorem eraseTree (cfg : Config W) (kp : Bool) (L : Nat) :
    C09.RunRel.TreeAgree (eraseRel kp L) cfg cfg fun n => isGen n = false where
  sameWorld := fun _ _ hs => hs.1.symm
  debug := rfl
  logFailure := rfl
  world := fun _ _ s' w hs => ⟨{ s' with world := w }, ⟨rfl, hs.2⟩, fun _ => KeepAll.refl _, Ev.of_all fun _ => rfl⟩
  fail := fun _ _ s' w _ hs => .inr ⟨{ s' with world := w }, ⟨rfl, hs.2⟩, Ev.of_all fun _ => rfl⟩
  get := fun n _ _ hn hs => (vis_get?_eq hs.2 n hn).symm
  set := fun n v s s' w hn hs => ⟨{ s' with globals := s'.globals.set n v, world := w }, ⟨rfl, vis_set_congr hs.2 n v hn⟩,
    fun _ => keepAll_set_user s.globals n v hn, Ev.of_all fun _ => rfl⟩

theorem runTree_sim (cfg : Config W) {kp : Bool} {L : Nat} {cv : CallFn W} {cs : Nat → CallFn W} (hc : CallSimG kp L cv cs)
    {t : LibTree W} (ht : TreeOK t) : ∀ (st st' : State W), StRel st st' →
    OSimG kp L st.globals (runTree cfg cv t st) (fun k => runTree cfg (cs k) t st') :=
  fun st st' hs => OSimG.oc.2 ((eraseRel kp L).runTree_rel (eraseTree cfg kp L) hc.rel ht.names st st' hs)

/-! ## the evaluator and the library runner only look at `host`, `builtins`, `debug` of the configuration -/

theorem lookupFunc_cfg {c c' : Config W} (hh : c'.host = c.host) (hb : c'.builtins = c.builtins) (l : Option Env) (g : Env)
    (n : Name) : lookupFunc c' l g n = lookupFunc c l g n := by
  simp only [lookupFunc, hh, hb]

/-- equality of runs as a relation between runs -/
def eqRel : C09.RunRel W Unit := .diag (fun _ _ => True) (fun _ _ => trivial) (fun _ _ _ => trivial) fun _ _ => trivial

theorem call_eq (call : CallFn W) : (eqRel (W := W)).Call call fun _ => call := C09.RunRel.diag_call fun _ _ _ => trivial

section
variable {c c' : Config W} (hh : c'.host = c.host) (hb : c'.builtins = c.builtins) (call : CallFn W) (l : Option Env)
include hh hb

theorem evalExpr_cfg : ∀ (e : Expr) (st : State W), evalExpr c' call l e st = evalExpr c call l e st :=
  fun e st => C09.Out.oc_inj
    (eqRel.evalExpr_rel (.of_eq (fun _ _ h => h) hh hb l _) (call_eq call) e st st (fun _ _ => trivial) rfl).1
theorem evalArgs_cfg : ∀ (as : List Expr) (st : State W), evalArgs c' call l as st = evalArgs c call l as st :=
  fun as st => C09.ArgsOut.oc_inj
    (eqRel.evalArgs_rel (.of_eq (fun _ _ h => h) hh hb l _) (call_eq call) as st st (fun _ _ => trivial) rfl).1
theorem evalIf_cfg : ∀ (as : List Expr) (st : State W), evalIf c' call l as st = evalIf c call l as st :=
  fun as st => C09.Out.oc_inj
    (eqRel.evalIf_rel (.of_eq (fun _ _ h => h) hh hb l _) (call_eq call) as st st (fun _ _ => trivial) rfl).1
end

theorem runTree_cfg {c c' : Config W} (hh : c'.host = c.host) (hd : c'.debug = c.debug) (call : CallFn W) :
    ∀ (t : LibTree W) (st : State W), runTree c' call t st = runTree c call t st :=
  fun t st => C09.Out.oc_inj (eqRel.runTree_rel (A := fun _ => True)
    { sameWorld := fun _ _ h => by rw [h], debug := hd, logFailure := by rw [hh],
      world := fun _ _ _ _ h => by cases h; exact ⟨rfl, trivial⟩, fail := fun _ _ _ _ _ h => by cases h; exact ⟨rfl, trivial⟩,
      get := fun _ _ _ _ h => by rw [h], set := fun _ _ _ _ _ _ h => by cases h; exact ⟨rfl, trivial⟩ }
    (call_eq call) (C09.RunRel.treeNames_all t) st st rfl).1

/-- kind of the innermost enclosing loop of the same function -/
inductive LK where
  | none | whileL | forL
deriving DecidableEq, Repr

def LK.inLoop : LK → Bool
  | .none => false
  | _ => true

def ngO : Option Name → Bool
  | none => true
  | some x => !isGen x

def nrEO : Option Expr → Bool
  | none => true
  | some e => nrE e

mutual
/-- the combined checker the simulation is proved for (function bodies are checked where they are *called*: in the
tables): no raw label / jump, no include, no generated identifier, `break` only in a loop, `continue` only when the
innermost enclosing loop is a `for` -/
def okS (lk : LK) : SStmt → Bool
  | .expr n e => ngO n && nrE e
  | .ret e => nrEO e
  | .ite c t e => nrE c && okB lk t && okE lk e
  | .while c b => nrE c && okB .whileL b
  | .for v ix vals b => !isGen v && ngO ix && nrE vals && okB .forL b
  | .brk => lk.inLoop
  | .cont => decide (lk = .forL)
  | .func _ n _ _ _ _ => !isGen n
  | .label _ => false
  | .jump _ _ => false
  | .include _ => false
def okB (lk : LK) : List SStmt → Bool
  | [] => true
  | s :: ss => okS lk s && okB lk ss
def okE (lk : LK) : SElse → Bool
  | .none => true
  | .els b => okB lk b
  | .elif c t e => nrE c && okB lk t && okE lk e
end

/-- relation between the two sides after a statement that started at counter `i` from locals `l0` / globals `g0` -/
def Post (i : Nat) (l0 : Option Env) (g0 : Env) (l : Option Env) (s : State W) (l' : Option Env) (s' : State W) : Prop :=
  LRel l l' ∧ StRel s s' ∧ KeepL i l0 l ∧ GKeep l0 i g0 s.globals

theorem Post.of_keepAll {i : Nat} {l l' : Option Env} {g0 : Env} {s s' : State W} (hl : LRel l l') (hs : StRel s s')
    (hk : KeepAll g0 s.globals) : Post i l g0 l s l' s' :=
  ⟨hl, hs, KeepL.refl i l, GKeep.of_all l i hk⟩

theorem Post.weaken {i j : Nat} {l0 l1 l l' : Option Env} {g0 g1 : Env} {s s' : State W}
    (hl : KeepL i l0 l1) (hg : GKeep l0 i g0 g1) (hij : i ≤ j) (h : Post j l1 g1 l s l' s') : Post i l0 g0 l s l' s' := by
  obtain ⟨a, b, c, d⟩ := h
  exact ⟨a, b, hl.trans c hij, hg.trans d hl.isSome hij⟩

theorem assign_user {l l' : Option Env} {s s' : State W} (hl : LRel l l') (hs : StRel s s') (x : Name) (v : Value)
    (hx : isGen x = false) (i : Nat) :
    Post i l s.globals (assign l s x v).1 (assign l s x v).2 (assign l' s' x v).1 (assign l' s' x v).2 := by
  cases l <;> cases l' <;> simp only [LRel] at hl
  · exact ⟨trivial, ⟨hs.1, vis_set_congr hs.2 x v hx⟩, trivial, (keepAll_set_user _ x v hx).keep i⟩
  · exact ⟨vis_set_congr hl x v hx, hs, (keepAll_set_user _ x v hx).keep i, KeepAll.refl _⟩

theorem assign_gen {l l' : Option Env} {s s' : State W} (hl : LRel l l') (hs : StRel s s') (K : GK) (k : Nat) (v : Value)
    (i : Nat) (hk : i ≤ k) :
    Post i l s.globals (assign l s (.gen K k) v).1 (assign l s (.gen K k) v).2 l' s' := by
  cases l <;> cases l' <;> simp only [LRel] at hl
  · exact ⟨trivial, ⟨hs.1, (vis_set_gen _ _ _ rfl).trans hs.2⟩, trivial, keep_set_ge i _ K k v hk⟩
  · exact ⟨(vis_set_gen _ _ _ rfl).trans hl, hs, keep_set_ge i _ K k v hk, KeepAll.refl _⟩

theorem sget_assign_self (l : Option Env) (s : State W) (x : Name) (v : Value) :
    sget (assign l s x v).1 (assign l s x v).2.globals x = some v := by
  cases l <;> simp [assign, sget, C04.get?_set]

theorem sget_assign_ne (l : Option Env) (s : State W) (x y : Name) (v : Value) (h : y ≠ x) :
    sget (assign l s x v).1 (assign l s x v).2.globals y = sget l s.globals y := by
  cases l <;> simp [assign, sget, C04.get?_set, h]

theorem assign_isSome (l : Option Env) (s : State W) (x : Name) (v : Value) : (assign l s x v).1.isSome = l.isSome := by
  cases l <;> rfl

/-- the state after a tick -/
def tk (st : State W) : State W := { st with count := st.count + 1 }

@[simp] theorem tk_globals (st : State W) : (tk st).globals = st.globals := rfl
@[simp] theorem tk_world (st : State W) : (tk st).world = st.world := rfl
theorem tk_rel {st st' : State W} (hs : StRel st st') : StRel (tk st) st' := hs

theorem tick_unlimited (cfg : Config W) (hmax : cfg.maxStatements = 0) (f : Nat) (st : State W) (K : Nat → State W → TOut W) :
    tick cfg (f+1) st K = K f (tk st) := by
  simp [tick, hmax, tk]

/-- the machine-side definition of a structured function definition: same header, body lowered (outside any loop) with
the label counter at `i0` (the value the script-wide counter had when the parser reached the definition) -/
def lowerDef (i0 : Nat) (d : SFuncDef) : FuncDef :=
  { name := d.name, args := d.args, lastArgArray := d.lastArgArray, body := (lowerB none d.body i0).1 }

/-- the machine's function table is the lowering of the structured one; `start id` = the value of the script-wide label
counter where definition `id` was lowered -/
abbrev TablesAgree (cfg : Config W) (scfg : SConfig W) (start : FnId → Nat) : Prop :=
  ∀ id, cfg.funs id = (scfg.sfuns id).map (lowerDef (start id))

/-- `cfg` (machine) and `scfg` (pure) describe the same host, and the tables agree -/
structure Agree (cfg : Config W) (scfg : SConfig W) (start : FnId → Nat) : Prop where
  host : scfg.host = cfg.host
  builtins : scfg.builtins = cfg.builtins
  debug : scfg.debug = cfg.debug
  funs : TablesAgree cfg scfg start

/-! ## the pure semantics in combinator form -/

def exprK (n : Option Name) (l : Option Env) (r : Out W) : SOut W :=
  match r with
  | .ok v st2 =>
      match n with
      | none => .norm l st2
      | some x => .norm (assign l st2 x v).1 (assign l st2 x v).2
  | .err e s => .err e s
  | .oof => .oof

def retK (r : Out W) : SOut W :=
  match r with
  | .ok v s => .ret v s
  | .err e s => .err e s
  | .oof => .oof

def condK (host : Host W) (A B : State W → SOut W) (r : Out W) : SOut W :=
  match r with
  | .ok v s => if host.truthy v s.world then A s else B s
  | .err e s => .err e s
  | .oof => .oof

def seqK (G : Option Env → State W → SOut W) (r : SOut W) : SOut W :=
  match r with
  | .norm l s => G l s
  | o => o

/-- after a loop body: `G` = what follows a normal end or `continue` -/
def loopK (G : Option Env → State W → SOut W) (r : SOut W) : SOut W :=
  match r with
  | .norm l s => G l s
  | .cont l s => G l s
  | .brk l s => .norm l s
  | o => o

/-- result of a script function body as a call result -/
def bodyK (r : SOut W) : Out W :=
  match r with
  | .norm _ s => .ok .null s
  | .brk _ s => .ok .null s
  | .cont _ s => .ok .null s
  | .ret v s => .ok v s
  | .err e s => .err e s
  | .oof => .oof

section
variable {cfg : Config W} {scfg : SConfig W} {start : FnId → Nat} (ag : Agree cfg scfg start)
include ag

theorem evalS_eq (call : CallFn W) (l : Option Env) (e : Expr) (st : State W) :
    evalExpr scfg.toConfig call l e st = evalExpr cfg call l e st :=
  evalExpr_cfg (c := cfg) (c' := scfg.toConfig) ag.host ag.builtins call l e st

theorem lookupS_eq (l : Option Env) (g : Env) (n : Name) : lookupFunc scfg.toConfig l g n = lookupFunc cfg l g n :=
  lookupFunc_cfg (c := cfg) (c' := scfg.toConfig) ag.host ag.builtins l g n

theorem runTreeS_eq (call : CallFn W) (t : LibTree W) (st : State W) :
    runTree scfg.toConfig call t st = runTree cfg call t st :=
  runTree_cfg (c := cfg) (c' := scfg.toConfig) ag.host ag.debug call t st

theorem execSS_expr (k : Nat) (n : Option Name) (e : Expr) (l : Option Env) (st : State W) :
    execSS scfg (k+1) (.expr n e) l st = exprK n l (evalExpr cfg (callS scfg k) l e st) := by
  conv => lhs; unfold execSS
  rw [evalS_eq ag]; rfl

theorem execSS_ret (k : Nat) (e : Expr) (l : Option Env) (st : State W) :
    execSS scfg (k+1) (.ret (some e)) l st = retK (evalExpr cfg (callS scfg k) l e st) := by
  conv => lhs; unfold execSS
  rw [evalS_eq ag]; rfl

theorem execSS_ite (k : Nat) (c : Expr) (t : List SStmt) (e : SElse) (l : Option Env) (st : State W) :
    execSS scfg (k+1) (.ite c t e) l st =
      condK cfg.host (fun s => execSB scfg k t l s) (fun s => execSE scfg k e l s) (evalExpr cfg (callS scfg k) l c st) := by
  conv => lhs; unfold execSS
  rw [evalS_eq ag, ag.host]; rfl

theorem execSE_elif (k : Nat) (c : Expr) (t : List SStmt) (e : SElse) (l : Option Env) (st : State W) :
    execSE scfg (k+1) (.elif c t e) l st =
      condK cfg.host (fun s => execSB scfg k t l s) (fun s => execSE scfg k e l s) (evalExpr cfg (callS scfg k) l c st) := by
  conv => lhs; unfold execSE
  rw [evalS_eq ag, ag.host]; rfl

theorem execSS_while (k : Nat) (c : Expr) (b : List SStmt) (l : Option Env) (st : State W) :
    execSS scfg (k+1) (.while c b) l st =
      condK cfg.host (fun s => loopK (fun l1 s1 => execSS scfg k (.while c b) l1 s1) (execSB scfg k b l s))
        (fun s => .norm l s) (evalExpr cfg (callS scfg k) l c st) := by
  conv => lhs; unfold execSS
  rw [evalS_eq ag, ag.host]; rfl
end

theorem execSB_cons (scfg : SConfig W) (k : Nat) (s : SStmt) (ss : List SStmt) (l : Option Env) (st : State W) :
    execSB scfg (k+1) (s :: ss) l st = seqK (fun l1 s1 => execSB scfg k ss l1 s1) (execSS scfg k s l st) := by
  conv => lhs; unfold execSB
  rfl

/-- target of `name = e` / bare `e` -/
def assignO (l : Option Env) (st : State W) (n : Option Name) (v : Value) : Option Env × State W :=
  match n with
  | none => (l, st)
  | some x => assign l st x v

theorem assignO_some (l : Option Env) (st : State W) (x : Name) (v : Value) : assignO l st (some x) v = assign l st x v := rfl

/-! ## the ticked semantics in combinator form -/

theorem andThen_tick (cfg : Config W) (f : Nat) (st : State W) (k : Nat → State W → TOut W)
    (g : Option Env → State W → Nat → TOut W) :
    andThen (tick cfg f st k) g = tick cfg f st fun f' st1 => andThen (k f' st1) g := by
  cases f with
  | zero => rfl
  | succ f => simp only [tick]; split <;> rfl

/-- a lowered statement that evaluates an expression: a tick, the evaluation of `e`, then `K` on value, state and fuel left -/
def stmtEval (cfg : Config W) (cv : CallAt W) (e : Expr) (f : Nat) (l : Option Env) (st : State W)
    (K : Value → State W → Nat → TOut W) : TOut W :=
  tick cfg f st fun f' st1 =>
    match evalExpr cfg (cv f') l e st1 with
    | .ok v st2 => K v st2 f'
    | .err e s => .err e s
    | .oof => .oof

theorem stmtCond_eq (cfg : Config W) (cv : CallAt W) (c : Expr) (f : Nat) (l : Option Env) (st : State W)
    (K : Bool → Nat → State W → TOut W) :
    stmtCond cfg cv c f l st K = stmtEval cfg cv c f l st fun v s f' => K (cfg.host.truthy v s.world) f' s := rfl

theorem stmtExpr_andThen (cfg : Config W) (cv : CallAt W) (n : Option Name) (e : Expr) (f : Nat) (l : Option Env) (st : State W)
    (g : Option Env → State W → Nat → TOut W) :
    andThen (stmtExpr cfg cv n e f l st) g =
      stmtEval cfg cv e f l st fun v s f' => g (assignO l s n v).1 (assignO l s n v).2 f' := by
  unfold stmtExpr stmtEval; rw [andThen_tick]; congr 1; funext f' st1
  cases evalExpr cfg (cv f') l e st1 with
  | ok v st2 => cases n <;> rfl
  | err e s => rfl
  | oof => rfl

theorem stmtSkip_andThen (cfg : Config W) (f : Nat) (l : Option Env) (st : State W) (g : Option Env → State W → Nat → TOut W) :
    andThen (stmtSkip cfg f l st) g = tick cfg f st fun f' st1 => g l st1 f' := by
  unfold stmtSkip; rw [andThen_tick]; rfl

theorem stmtEval_val {cfg : Config W} {cv : CallAt W} {e : Expr} {l : Option Env} (val : State W → Value)
    (hE : ∀ f' st1, evalExpr cfg (cv f') l e st1 = .ok (val st1) st1) (f : Nat) (st : State W)
    (K : Value → State W → Nat → TOut W) :
    stmtEval cfg cv e f l st K = tick cfg f st fun f' st1 => K (val st1) st1 f' := by
  unfold stmtEval; congr 1; funext f' st1; rw [hE]

/-- the host's truth value of a boolean is the boolean (`value_boolean(True) = True`) -/
def TruthyBool (h : Host W) : Prop := ∀ b w, h.truthy (.bool b) w = b

theorem andThen_id (t : TOut W) : andThen t (fun l s f => .norm l s f) = t := by cases t <;> rfl

theorem stmtCond_notE (cfg : Config W) (htb : TruthyBool cfg.host) (cv : CallAt W) (c : Expr) (f : Nat) (l : Option Env)
    (st : State W) (K : Bool → Nat → State W → TOut W) :
    stmtCond cfg cv (notE c) f l st K = stmtCond cfg cv c f l st (fun b => K (!b)) := by
  unfold stmtCond notE
  congr 1; funext f' st1
  simp only [evalExpr]
  cases evalExpr cfg (cv f') l c st1 with
  | ok v s => simp only; rw [htb]
  | err e s => rfl
  | oof => rfl

/-! ## `evalExpr` on operands whose evaluation is known (from the clause equations of `C09Seq`) -/

/-- the call of a looked-up function value (runtime.py:224-249) -/
def callLooked (call : CallFn W) (n : Name) (r : Option Value) (vs : List Value) (st : State W) : Out W :=
  match r with
  | some .null => .err (.undefinedFunction n) st
  | some fv => call fv vs st
  | none => .err (.undefinedFunction n) st

theorem callLooked_oc (cfg : Config W) (call : CallFn W) (l : Option Env) (n : Name) (vs : List Value) (st : State W) :
    (callLooked call n (lookupFunc cfg l st.globals n) vs st).oc = C09.callNamed cfg call l n vs st := by
  unfold callLooked C09.callNamed
  cases lookupFunc cfg l st.globals n with
  | none => rfl
  | some fv => cases fv <;> rfl

section
variable (cfg : Config W) (call : CallFn W) (l : Option Env)

theorem evalExpr_variable (n : Name) (st : State W) :
    evalExpr cfg call l (.variable n) st = .ok (readVar l st.globals n) st :=
  C09.evalExpr_variable cfg call l n st

theorem evalExpr_number (q : Rat) (st : State W) : evalExpr cfg call l (.number q) st = .ok (.num q) st := by
  unfold evalExpr; rfl

theorem evalExpr_unary_ok {op : UnOp} {a : Expr} {st s1 : State W} {v : Value} (ha : evalExpr cfg call l a st = .ok v s1) :
    evalExpr cfg call l (.unary op a) st = .ok (C09.unValue cfg op v s1.world) s1 :=
  C09.Out.oc_inj (by rw [C09.evalExpr_unary, ha]; rfl)

theorem evalExpr_and_ok {a b : Expr} {st s1 : State W} {v : Value} (ha : evalExpr cfg call l a st = .ok v s1) :
    evalExpr cfg call l (.binary .and a b) st =
      if cfg.host.truthy v s1.world then evalExpr cfg call l b s1 else .ok v s1 :=
  C09.Out.oc_inj (by rw [C09.evalExpr_binary, ha, apply_ite Out.oc]; rfl)

theorem evalExpr_or_ok {a b : Expr} {st s1 : State W} {v : Value} (ha : evalExpr cfg call l a st = .ok v s1) :
    evalExpr cfg call l (.binary .or a b) st =
      if cfg.host.truthy v s1.world then .ok v s1 else evalExpr cfg call l b s1 :=
  C09.Out.oc_inj (by rw [C09.evalExpr_binary, ha, apply_ite Out.oc]; rfl)

theorem evalExpr_binary_ok {op : BinOp} (h1 : op ≠ .and) (h2 : op ≠ .or) {a b : Expr} {st s1 s2 : State W} {va vb : Value}
    (ha : evalExpr cfg call l a st = .ok va s1) (hb : evalExpr cfg call l b s1 = .ok vb s2) :
    evalExpr cfg call l (.binary op a b) st = .ok (cfg.host.binop op va vb s2.world) s2 :=
  C09.Out.oc_inj (by
    rw [C09.evalExpr_binary, ha]
    show C09.binRest cfg call l op b va s1 = _
    rw [C09.binRest_strict _ _ _ h1 h2, hb]; rfl)

theorem evalExpr_call_vars {n : Name} (h : n ≠ kwIf) (xs : List Name) (st : State W) :
    evalExpr cfg call l (.function n (xs.map .variable)) st =
      callLooked call n (lookupFunc cfg l st.globals n) (xs.map (readVar l st.globals)) st :=
  C09.Out.oc_inj (by rw [C09.evalExpr_function, if_neg h, C09.evalArgs_vars, callLooked_oc]; rfl)

/-! the two expressions the lowering of `for` emits for its footer -/

theorem evalExpr_incr (x : Name) (st : State W) :
    evalExpr cfg call l (.binary .add (.variable x) (.number 1)) st =
      .ok (cfg.host.binop .add (readVar l st.globals x) (.num 1) st.world) st :=
  evalExpr_binary_ok cfg call l (by decide) (by decide) (evalExpr_variable cfg call l x st) (evalExpr_number cfg call l 1 st)

theorem evalExpr_ltvars (x y : Name) (st : State W) :
    evalExpr cfg call l (.binary .lt (.variable x) (.variable y)) st =
      .ok (cfg.host.binop .lt (readVar l st.globals x) (readVar l st.globals y) st.world) st :=
  evalExpr_binary_ok cfg call l (by decide) (by decide) (evalExpr_variable cfg call l x st) (evalExpr_variable cfg call l y st)
end

theorem callLooked_sim {kp : Bool} {L : Nat} {cv : CallFn W} {cs : Nat → CallFn W} (hc : CallSimG kp L cv cs) (n : Name)
    (r : Option Value) (vs : List Value) {s s' : State W} (hs : StRel s s') :
    OSimG kp L s.globals (callLooked cv n r vs s) (fun k => callLooked (cs k) n r vs s') := by
  cases r with
  | none => exact Or.inr ⟨s', hs, Ev.of_all fun _ => rfl⟩
  | some fv =>
    cases fv with
    | null => exact Or.inr ⟨s', hs, Ev.of_all fun _ => rfl⟩
    | _ => exact hc _ vs s s' hs

/-! ## `for` on the pure side, in combinator form -/

/-- the index the pure side passes to `arrayGet` -/
def idxS (ix : Option Name) (c : Value) (l : Option Env) (g : Env) : Value :=
  match ix with
  | some x => readVar l g x
  | none => c

/-- after the body of a `for` iteration: increment, test, next iteration or end -/
def footerS (host : Host W) (scfg : SConfig W) (k : Nat) (v : Name) (ix : Option Name) (b : List SStmt) (a n c : Value)
    (l2 : Option Env) (st2 : State W) : SOut W :=
  match ix with
  | some xn =>
      if host.truthy (host.binop .lt
          (readVar (assign l2 st2 xn (host.binop .add (readVar l2 st2.globals xn) (.num 1) st2.world)).1
            (assign l2 st2 xn (host.binop .add (readVar l2 st2.globals xn) (.num 1) st2.world)).2.globals xn) n
          (assign l2 st2 xn (host.binop .add (readVar l2 st2.globals xn) (.num 1) st2.world)).2.world)
          (assign l2 st2 xn (host.binop .add (readVar l2 st2.globals xn) (.num 1) st2.world)).2.world
      then forS scfg k v ix b a n c (assign l2 st2 xn (host.binop .add (readVar l2 st2.globals xn) (.num 1) st2.world)).1
            (assign l2 st2 xn (host.binop .add (readVar l2 st2.globals xn) (.num 1) st2.world)).2
      else .norm (assign l2 st2 xn (host.binop .add (readVar l2 st2.globals xn) (.num 1) st2.world)).1
            (assign l2 st2 xn (host.binop .add (readVar l2 st2.globals xn) (.num 1) st2.world)).2
  | none =>
      if host.truthy (host.binop .lt (host.binop .add c (.num 1) st2.world) n st2.world) st2.world
      then forS scfg k v ix b a n (host.binop .add c (.num 1) st2.world) l2 st2
      else .norm l2 st2

/-- after `arrayGet`: bind the value variable, run the body, then the footer -/
def forIterK (host : Host W) (scfg : SConfig W) (k : Nat) (v : Name) (ix : Option Name) (b : List SStmt) (a n c : Value)
    (l : Option Env) (r : Out W) : SOut W :=
  match r with
  | .ok x st1 => loopK (footerS host scfg k v ix b a n c) (execSB scfg k b (assign l st1 v x).1 (assign l st1 v x).2)
  | .err e s => .err e s
  | .oof => .oof

/-- after `arrayLength`: skip an empty array, else initialise the index and iterate -/
def forLenK (host : Host W) (scfg : SConfig W) (k : Nat) (v : Name) (ix : Option Name) (b : List SStmt) (a : Value)
    (l : Option Env) (r : Out W) : SOut W :=
  match r with
  | .ok n st2 =>
      if host.truthy n st2.world then
        forS scfg k v ix b a n (.num 0) (assignO l st2 ix (.num 0)).1 (assignO l st2 ix (.num 0)).2
      else .norm l st2
  | .err e s => .err e s
  | .oof => .oof

/-- after the array expression -/
def forValsK (cfg : Config W) (scfg : SConfig W) (k : Nat) (v : Name) (ix : Option Name) (b : List SStmt)
    (l : Option Env) (r : Out W) : SOut W :=
  match r with
  | .ok a st1 =>
      forLenK cfg.host scfg k v ix b a l
        (callLooked (callS scfg k) fnArrayLength (lookupFunc cfg l st1.globals fnArrayLength) [a] st1)
  | .err e s => .err e s
  | .oof => .oof

section
variable {cfg : Config W} {scfg : SConfig W} {start : FnId → Nat} (ag : Agree cfg scfg start)
include ag

theorem forS_succ (k : Nat) (v : Name) (ix : Option Name) (b : List SStmt) (a n c : Value) (l : Option Env) (st : State W) :
    forS scfg (k+1) v ix b a n c l st =
      forIterK cfg.host scfg k v ix b a n c l
        (callLooked (callS scfg k) fnArrayGet (lookupFunc cfg l st.globals fnArrayGet) [a, idxS ix c l st.globals] st) := by
  cases ix <;>
  · conv => lhs; unfold forS
    rw [lookupS_eq ag, ag.host]
    generalize lookupFunc cfg l st.globals fnArrayGet = r
    cases r with
    | none => rfl
    | some fv => cases fv <;> rfl

theorem execSS_for (k : Nat) (v : Name) (ix : Option Name) (vals : Expr) (b : List SStmt) (l : Option Env) (st : State W) :
    execSS scfg (k+1) (.for v ix vals b) l st =
      forValsK cfg scfg k v ix b l (evalExpr cfg (callS scfg k) l vals st) := by
  conv => lhs; unfold execSS
  rw [evalS_eq ag]
  cases evalExpr cfg (callS scfg k) l vals st with
  | ok a st1 =>
    simp only [forValsK]
    rw [lookupS_eq ag, ag.host]
    generalize lookupFunc cfg l st1.globals fnArrayLength = r
    cases r with
    | none => rfl
    | some fv => cases ix <;> cases fv <;> rfl
  | err e s => rfl
  | oof => rfl
end

/-- the hidden variables of the `for` loop numbered `i` hold the interpreter's values -/
def ForInv (i : Nat) (ix : Option Name) (a n c : Value) (l : Option Env) (g : Env) : Prop :=
  sget l g (vValues i) = some a ∧ sget l g (vLength i) = some n ∧ (ix = none → sget l g (vIndex i) = some c)

theorem ForInv.keep {i j : Nat} {ix : Option Name} {a n c : Value} {l0 l : Option Env} {g0 g : Env}
    (h : ForInv i ix a n c l0 g0) (hl : KeepL j l0 l) (hg : GKeep l0 j g0 g) (hij : i < j) : ForInv i ix a n c l g := by
  obtain ⟨h1, h2, h3⟩ := h
  refine ⟨?_, ?_, fun hx => ?_⟩
  · rw [vValues, sget_keep hl hg _ _ hij]; exact h1
  · rw [vLength, sget_keep hl hg _ _ hij]; exact h2
  · rw [vIndex, sget_keep hl hg _ _ hij]; exact h3 hx

/-! ## the index of a `for` loop, named or hidden, treated alike: the machine keeps it in `ix.getD (vIndex i)`, the pure
side reads the named variable or carries its own value `c` (`idxS`) -/

/-- the pure side's own index after the increment to `w`: unused (and unchanged) when the source names the index -/
def nextIx (ix : Option Name) (c w : Value) : Value :=
  match ix with
  | none => w
  | some _ => c

theorem nextIx_self (ix : Option Name) (w : Value) : nextIx ix w w = w := by cases ix <;> rfl

def footerK (host : Host W) (scfg : SConfig W) (k : Nat) (v : Name) (ix : Option Name) (b : List SStmt) (a n c : Value)
    (l : Option Env) (st : State W) : SOut W :=
  if host.truthy (host.binop .lt (idxS ix c l st.globals) n st.world) st.world then forS scfg k v ix b a n c l st
  else .norm l st

theorem footerS_eq (host : Host W) (scfg : SConfig W) (k : Nat) (v : Name) (ix : Option Name) (b : List SStmt) (a n c : Value)
    (l : Option Env) (st : State W) :
    footerS host scfg k v ix b a n c l st =
      footerK host scfg k v ix b a n (nextIx ix c (host.binop .add (idxS ix c l st.globals) (.num 1) st.world))
        (assignO l st ix (host.binop .add (idxS ix c l st.globals) (.num 1) st.world)).1
        (assignO l st ix (host.binop .add (idxS ix c l st.globals) (.num 1) st.world)).2 := by
  cases ix <;> rfl

theorem ngO_some {x : Name} (h : ngO (some x) = true) : isGen x = false := by simpa [ngO] using h

theorem assign_ix {l l' : Option Env} {s s' : State W} (hl : LRel l l') (hs : StRel s s') {ix : Option Name}
    (hix : ngO ix = true) (w : Value) (i : Nat) :
    Post i l s.globals (assign l s (ix.getD (vIndex i)) w).1 (assign l s (ix.getD (vIndex i)) w).2
      (assignO l' s' ix w).1 (assignO l' s' ix w).2 := by
  cases ix with
  | none => exact assign_gen hl hs .index i w i (Nat.le_refl i)
  | some x => exact assign_user hl hs x w (ngO_some hix) i

theorem ForInv.readValues {i : Nat} {ix : Option Name} {a n c : Value} {l : Option Env} {g : Env}
    (h : ForInv i ix a n c l g) : readVar l g (vValues i) = a := readVar_of_sget rfl h.1

theorem ForInv.readLength {i : Nat} {ix : Option Name} {a n c : Value} {l : Option Env} {g : Env}
    (h : ForInv i ix a n c l g) : readVar l g (vLength i) = n := readVar_of_sget rfl h.2.1

theorem ForInv.readIx {i : Nat} {ix : Option Name} {a n c : Value} {l l' : Option Env} {g g' : Env}
    (h : ForInv i ix a n c l g) (hl : LRel l l') (hg : vis g = vis g') (hix : ngO ix = true) :
    readVar l g (ix.getD (vIndex i)) = idxS ix c l' g' := by
  cases ix with
  | none => exact readVar_of_sget rfl (h.2.2 rfl)
  | some x => exact readVar_rel hl hg x (ngO_some hix)

theorem evalExpr_length (cfg : Config W) (call : CallFn W) {i : Nat} {a : Value} {l l' : Option Env} {st st' : State W}
    (hv : sget l st.globals (vValues i) = some a) (hl : LRel l l') (hg : vis st.globals = vis st'.globals) :
    evalExpr cfg call l (.function fnArrayLength [.variable (vValues i)]) st =
      callLooked call fnArrayLength (lookupFunc cfg l' st'.globals fnArrayLength) [a] st := by
  refine (evalExpr_call_vars cfg call l (n := fnArrayLength) (by decide) [vValues i] st).trans ?_
  simp only [List.map, lookupFunc_rel cfg hl hg fnArrayLength rfl, readVar_of_sget rfl hv]

theorem ForInv.evalGet (cfg : Config W) (call : CallFn W) {i : Nat} {ix : Option Name} {a n c : Value} {l l' : Option Env}
    {st st' : State W} (h : ForInv i ix a n c l st.globals) (hl : LRel l l') (hg : vis st.globals = vis st'.globals)
    (hix : ngO ix = true) :
    evalExpr cfg call l (.function fnArrayGet [.variable (vValues i), .variable (ix.getD (vIndex i))]) st =
      callLooked call fnArrayGet (lookupFunc cfg l' st'.globals fnArrayGet) [a, idxS ix c l' st'.globals] st := by
  refine (evalExpr_call_vars cfg call l (n := fnArrayGet) (by decide) [vValues i, ix.getD (vIndex i)] st).trans ?_
  simp only [List.map, lookupFunc_rel cfg hl hg fnArrayGet rfl, h.readValues, h.readIx hl hg hix]

theorem forInv_assign_ix {i : Nat} {ix : Option Name} {a n : Value} {l : Option Env} {s : State W}
    (h1 : sget l s.globals (vValues i) = some a) (h2 : sget l s.globals (vLength i) = some n) (hix : ngO ix = true)
    (c w : Value) :
    ForInv i ix a n (nextIx ix c w) (assign l s (ix.getD (vIndex i)) w).1 (assign l s (ix.getD (vIndex i)) w).2.globals := by
  have hne : ∀ K, K ≠ GK.index → Name.gen K i ≠ ix.getD (vIndex i) := by
    intro K hK
    cases ix with
    | none => intro e; cases e; exact hK rfl
    | some x => intro e; subst e; cases ngO_some hix
  refine ⟨(sget_assign_ne l s _ _ w (hne _ (by decide))).trans h1, (sget_assign_ne l s _ _ w (hne _ (by decide))).trans h2, ?_⟩
  rintro rfl
  exact sget_assign_self l s _ w

/-- `break` ends the loop normally, `return` and errors propagate; `G` after a normal end, `C` after `continue` -/
def loopT (G C : Option Env → State W → Nat → TOut W) (r : TOut W) : TOut W :=
  match r with
  | .norm l s f => G l s f
  | .cont l s f => C l s f
  | .brk l s f => .norm l s f
  | o => o

/-! ## the loops, one iteration at a time; `loop` is whatever runs the remaining iterations -/

section
variable (cfg : Config W) (cv : CallAt W)

/-- after the body of a `while` iteration: the test at the bottom, then `loop` or `label done` -/
def wTest (c : Expr) (loop : Nat → Option Env → State W → TOut W) (f1 : Nat) (l1 : Option Env) (st1 : State W) : TOut W :=
  stmtCond cfg cv c f1 l1 st1 fun taken f2 st2 => if taken then loop f2 l1 st2 else stmtSkip cfg f2 l1 st2

/-- what a `while` iteration does with the outcome of the body (F7: `continue` skips the test) -/
def wAfter (c : Expr) (loop : Nat → Option Env → State W → TOut W) : TOut W → TOut W :=
  loopT (fun l1 st1 f1 => wTest cfg cv c loop f1 l1 st1) (fun l1 st1 f1 => loop f1 l1 st1)

theorem loopW_succ (c : Expr) (body : Nat → Option Env → State W → TOut W) (n f : Nat) (l : Option Env) (st : State W) :
    loopW cfg cv c body (n+1) f l st = wAfter cfg cv c (loopW cfg cv c body n) (body f l st) := by
  rw [loopW]; cases body f l st <;> rfl

/-- the footer of a `for` iteration: index increment, test, then `loop` or `label done` -/
def forFoot (i : Nat) (ixv : Name) (loop : Nat → Option Env → State W → TOut W)
    (l2 : Option Env) (st2 : State W) (f2 : Nat) : TOut W :=
  andThen (stmtExpr cfg cv (some ixv) (.binary .add (.variable ixv) (.number 1)) f2 l2 st2) fun l3 st3 f3 =>
    stmtCond cfg cv (.binary .lt (.variable ixv) (.variable (vLength i))) f3 l3 st3 fun taken f4 st4 =>
      if taken then loop f4 l3 st4 else stmtSkip cfg f4 l3 st4

/-- what a `for` iteration does with the outcome of the body; `label continue` (there iff `hc`) costs a tick only when
reached by falling through -/
def fAfter (hc : Bool) (footer : Option Env → State W → Nat → TOut W) : TOut W → TOut W :=
  loopT (fun l1 st1 f1 => if hc then andThen (stmtSkip cfg f1 l1 st1) footer else footer l1 st1 f1) footer

def forStep (i : Nat) (v ixv : Name) (hc : Bool) (body loop : Nat → Option Env → State W → TOut W)
    (f : Nat) (l : Option Env) (st : State W) : TOut W :=
  andThen (stmtExpr cfg cv (some v) (.function fnArrayGet [.variable (vValues i), .variable ixv]) f l st) fun l0 st0 f0 =>
    fAfter cfg hc (forFoot cfg cv i ixv loop) (body f0 l0 st0)

/-! ## the iteration bound of `loopW` / `loopF` is never binding: each iteration burns fuel -/

theorem tick_congr (f : Nat) (st : State W) (k1 k2 : Nat → State W → TOut W)
    (h : ∀ f' st1, f' < f → k1 f' st1 = k2 f' st1) : tick cfg f st k1 = tick cfg f st k2 := by
  cases f with
  | zero => rfl
  | succ f =>
    simp only [tick]; split
    · rfl
    · exact h f _ (Nat.lt_succ_self f)

theorem stmtEval_congr (e : Expr) (f : Nat) (l : Option Env) (st : State W) (K1 K2 : Value → State W → Nat → TOut W)
    (h : ∀ v s f', f' < f → K1 v s f' = K2 v s f') : stmtEval cfg cv e f l st K1 = stmtEval cfg cv e f l st K2 := by
  unfold stmtEval; apply tick_congr; intro f' st1 hlt
  cases evalExpr cfg (cv f') l e st1 with
  | ok v s => exact h _ _ _ hlt
  | err e s => rfl
  | oof => rfl

variable {cfg cv}

theorem wAfter_congr (c : Expr) {loop loop' : Nat → Option Env → State W → TOut W} {f : Nat} {r : TOut W}
    (hr : FuelOK f r) (h : ∀ f' l st, f' < f → loop f' l st = loop' f' l st) :
    wAfter cfg cv c loop r = wAfter cfg cv c loop' r := by
  cases r with
  | norm l1 st1 f1 =>
    refine stmtEval_congr cfg cv c f1 l1 st1 _ _ fun v s f2 h2 => ?_
    have hr : f1 ≤ f := hr
    simp only [h f2 l1 s (Nat.lt_of_lt_of_le h2 hr)]
  | cont l1 st1 f1 => exact h f1 l1 st1 hr
  | _ => rfl

theorem forFoot_congr (i : Nat) (ixv : Name) {loop loop' : Nat → Option Env → State W → TOut W} {f : Nat}
    (h : ∀ f' l st, f' < f → loop f' l st = loop' f' l st) (l2 : Option Env) (st2 : State W) :
    forFoot cfg cv i ixv loop l2 st2 f = forFoot cfg cv i ixv loop' l2 st2 f := by
  unfold forFoot
  rw [stmtExpr_andThen, stmtExpr_andThen]
  refine stmtEval_congr cfg cv _ f l2 st2 _ _ fun v s f3 h3 => ?_
  refine stmtEval_congr cfg cv _ f3 _ _ _ _ fun v' s' f4 h4 => ?_
  simp only [h f4 _ s' (Nat.lt_trans h4 h3)]

theorem fAfter_congr (hc : Bool) {ft ft' : Option Env → State W → Nat → TOut W} {f0 : Nat} {r : TOut W} (hr : FuelOK f0 r)
    (h : ∀ f1, f1 ≤ f0 → ∀ l1 st1, ft l1 st1 f1 = ft' l1 st1 f1) : fAfter cfg hc ft r = fAfter cfg hc ft' r := by
  cases r with
  | norm l1 st1 f1 =>
    cases hc with
    | false => exact h f1 hr l1 st1
    | true =>
      show andThen (stmtSkip cfg f1 l1 st1) ft = andThen (stmtSkip cfg f1 l1 st1) ft'
      rw [stmtSkip_andThen, stmtSkip_andThen]
      exact tick_congr cfg f1 st1 _ _ fun f2 st2 h2 => h f2 (Nat.le_trans (Nat.le_of_lt h2) hr) l1 st2
  | cont l1 st1 f1 => exact h f1 (Nat.le_of_lt hr) l1 st1
  | _ => rfl

theorem forStep_congr (i : Nat) (v ixv : Name) (hc : Bool) {body loop loop' : Nat → Option Env → State W → TOut W}
    (hb : ∀ f l st, FuelOK f (body f l st)) {f : Nat} (h : ∀ f' l st, f' < f → loop f' l st = loop' f' l st)
    (l : Option Env) (st : State W) :
    forStep cfg cv i v ixv hc body loop f l st = forStep cfg cv i v ixv hc body loop' f l st := by
  unfold forStep
  rw [stmtExpr_andThen, stmtExpr_andThen]
  refine stmtEval_congr cfg cv _ f l st _ _ fun x s f0 h0 => ?_
  exact fAfter_congr hc (hb f0 _ _) fun f1 h1 => forFoot_congr i ixv fun f' l st hf' =>
    h f' l st (Nat.lt_of_lt_of_le hf' (Nat.le_trans h1 (Nat.le_of_lt h0)))

/-- a recursion on a bound `n` whose step calls the rest only with less fuel does not depend on the bound once it
exceeds the fuel -/
theorem bound_irrel {α : Type} {L : Nat → Nat → α} {Step : (Nat → α) → Nat → α} (hL : ∀ n f, L (n+1) f = Step (L n) f)
    (hS : ∀ (loop loop' : Nat → α) f, (∀ f', f' < f → loop f' = loop' f') → Step loop f = Step loop' f) :
    ∀ f n m, f < n → f < m → L n f = L m f := by
  intro f
  induction f using Nat.strongRecOn with
  | _ f ih =>
    intro n m hn hm
    cases n with
    | zero => exact absurd hn (Nat.not_lt_zero f)
    | succ n =>
      cases m with
      | zero => exact absurd hm (Nat.not_lt_zero f)
      | succ m =>
        rw [hL, hL]
        exact hS _ _ f fun f' hf' => ih f' hf' n m (Nat.lt_of_lt_of_le hf' (Nat.le_of_lt_succ hn))
          (Nat.lt_of_lt_of_le hf' (Nat.le_of_lt_succ hm))

theorem bound_fix {α : Type} {L : Nat → Nat → α} {Step : (Nat → α) → Nat → α} (hL : ∀ n f, L (n+1) f = Step (L n) f)
    (hS : ∀ (loop loop' : Nat → α) f, (∀ f', f' < f → loop f' = loop' f') → Step loop f = Step loop' f) (f : Nat) :
    L (f+1) f = Step (fun f' => L (f'+1) f') f := by
  rw [hL]
  exact hS _ _ f fun f' hf' => bound_irrel hL hS f' f (f'+1) hf' (Nat.lt_succ_self f')

variable (cfg cv)

/-- `loopW` as the `while` statement enters it: bound = fuel + 1 -/
def loopW1 (c : Expr) (body : Nat → Option Env → State W → TOut W) (f : Nat) (l : Option Env) (st : State W) : TOut W :=
  loopW cfg cv c body (f+1) f l st

theorem loopW1_eq (c : Expr) (body : Nat → Option Env → State W → TOut W) (hb : ∀ f l st, FuelOK f (body f l st))
    (f : Nat) (l : Option Env) (st : State W) :
    loopW1 cfg cv c body f l st = wAfter cfg cv c (loopW1 cfg cv c body) (body f l st) :=
  congrFun (congrFun (bound_fix (L := fun n f => loopW cfg cv c body n f)
    (Step := fun loop f l st => wAfter cfg cv c (fun f' => loop f') (body f l st))
    (fun n f => funext fun l => funext fun st => loopW_succ cfg cv c body n f l st)
    (fun _ _ f h => funext fun l => funext fun st =>
      wAfter_congr c (hb f l st) fun f' l st hf' => congrFun (congrFun (h f' hf') l) st) f) l) st

/-- `loopF` as the `for` statement enters it -/
def loopF1 (i : Nat) (v ixv : Name) (hc : Bool) (body : Nat → Option Env → State W → TOut W) (f : Nat) (l : Option Env)
    (st : State W) : TOut W :=
  loopF cfg cv i v ixv hc body (f+1) f l st

theorem loopF1_eq (i : Nat) (v ixv : Name) (hc : Bool) (body : Nat → Option Env → State W → TOut W)
    (hb : ∀ f l st, FuelOK f (body f l st)) (f : Nat) (l : Option Env) (st : State W) :
    loopF1 cfg cv i v ixv hc body f l st = forStep cfg cv i v ixv hc body (loopF1 cfg cv i v ixv hc body) f l st :=
  congrFun (congrFun (bound_fix (L := fun n f => loopF cfg cv i v ixv hc body n f)
    (Step := fun loop f l st => forStep cfg cv i v ixv hc body (fun f' => loop f') f l st)
    (fun n f => funext fun l => funext fun st => by rw [loopF_succ]; rfl)
    (fun _ _ _ h => funext fun l => funext fun st =>
      forStep_congr i v ixv hc hb (fun f' l st hf' => congrFun (congrFun (h f' hf') l) st) l st) f) l) st
end

/-! ## a ticked outcome against a pure one -/

/-- a pure outcome read as a ticked outcome with `f` units of fuel left -/
def _root_.StructuredS.SOut.withFuel : SOut W → Nat → TOut W
  | .norm l s, f => .norm l s f
  | .brk l s, f => .brk l s f
  | .cont l s, f => .cont l s f
  | .ret v s, _ => .ret v s
  | .err e s, _ => .err e s
  | .oof, _ => .oof

/-- given enough fuel, the ticked computation `T` yields the outcome `o` and consumes exactly `c` units (nested calls
do not count: they run on a copy of the fuel, which is why "enough" is more than `c`) -/
def TConv (T : Nat → TOut W) (c : Nat) (o : SOut W) : Prop := Ev fun f => T (f + c) = o.withFuel f

/-- machine-side outcome (fuel dropped) against pure-side outcome: the same kind, related contents -/
def ORel (lk : LK) (i : Nat) (l0 : Option Env) (g0 : Env) (o o' : SOut W) : Prop :=
  match o with
  | .norm l s => ∃ l' s', o' = .norm l' s' ∧ Post i l0 g0 l s l' s'
  | .brk l s => ∃ l' s', o' = .brk l' s' ∧ lk ≠ .none ∧ Post i l0 g0 l s l' s'
  | .cont l s => ∃ l' s', o' = .cont l' s' ∧ lk = .forL ∧ Post i l0 g0 l s l' s'
  | .ret v s => ∃ s', o' = .ret v s' ∧ StRel s s' ∧ GKeep l0 i g0 s.globals
  | .err e s => ∃ s', o' = .err e s' ∧ StRel s s'
  | .oof => False

/-- forward simulation: unless the ticked outcome `t` is out of fuel or the budget error, it is some `o.withFuel f` that the
pure side `S` eventually `ORel`-matches (`TSim.of_rel`, `TSim.cases`), with `f ≤ F`: `F` is the fuel that was given, so that
what follows `t` is again below the level that covered `t` -/
def TSim (L F : Nat) (lk : LK) (i : Nat) (l0 : Option Env) (g0 : Env) (t : TOut W) (S : Nat → SOut W) : Prop :=
  match t with
  | .oof => True
  | .err e s => Exceeded L e ∨ ∃ s', StRel s s' ∧ Ev fun k => S k = .err e s'
  | .ret v s => ∃ s', StRel s s' ∧ GKeep l0 i g0 s.globals ∧ Ev fun k => S k = .ret v s'
  | .norm l s f => f ≤ F ∧ ∃ l' s', Post i l0 g0 l s l' s' ∧ Ev fun k => S k = .norm l' s'
  | .brk l s f => f ≤ F ∧ lk ≠ .none ∧ ∃ l' s', Post i l0 g0 l s l' s' ∧ Ev fun k => S k = .brk l' s'
  | .cont l s f => f ≤ F ∧ lk = .forL ∧ ∃ l' s', Post i l0 g0 l s l' s' ∧ Ev fun k => S k = .cont l' s'

/-- converse simulation: if the pure side terminates with `o'`, the ticked side converges to a related outcome -/
def CSim (lk : LK) (i : Nat) (l0 : Option Env) (g0 : Env) (T : Nat → TOut W) (o' : SOut W) : Prop :=
  o' = .oof ∨ ∃ o c, ORel lk i l0 g0 o o' ∧ TConv T c o

theorem ORel.weaken {lk : LK} {i j : Nat} {l0 l1 : Option Env} {g0 g1 : Env} {o o' : SOut W}
    (hl : KeepL i l0 l1) (hg : GKeep l0 i g0 g1) (hij : i ≤ j) (h : ORel lk j l1 g1 o o') : ORel lk i l0 g0 o o' := by
  cases o with
  | norm l s => obtain ⟨l', s', e, hp⟩ := h; exact ⟨l', s', e, hp.weaken hl hg hij⟩
  | brk l s => obtain ⟨l', s', e, hk, hp⟩ := h; exact ⟨l', s', e, hk, hp.weaken hl hg hij⟩
  | cont l s => obtain ⟨l', s', e, hk, hp⟩ := h; exact ⟨l', s', e, hk, hp.weaken hl hg hij⟩
  | ret v s => obtain ⟨s', e, hs, hk⟩ := h; exact ⟨s', e, hs, hg.trans hk hl.isSome hij⟩
  | _ => exact h

section
variable {L F : Nat} {lk : LK} {i : Nat} {l0 : Option Env} {g0 : Env}

theorem TSim.of_rel {o o' : SOut W} {f1 : Nat} {S : Nat → SOut W} (hr : ORel lk i l0 g0 o o') (hf : f1 ≤ F)
    (hev : Ev fun k => S k = o') : TSim L F lk i l0 g0 (o.withFuel f1) S := by
  cases o with
  | norm l s => obtain ⟨l', s', rfl, hp⟩ := hr; exact ⟨hf, l', s', hp, hev⟩
  | brk l s => obtain ⟨l', s', rfl, hk, hp⟩ := hr; exact ⟨hf, hk, l', s', hp, hev⟩
  | cont l s => obtain ⟨l', s', rfl, hk, hp⟩ := hr; exact ⟨hf, hk, l', s', hp, hev⟩
  | ret v s => obtain ⟨s', rfl, hs, hk⟩ := hr; exact ⟨s', hs, hk, hev⟩
  | err e s => obtain ⟨s', rfl, hs⟩ := hr; exact Or.inr ⟨s', hs, hev⟩
  | oof => exact hr.elim

theorem TSim.cases {t : TOut W} {S : Nat → SOut W} (h : TSim L F lk i l0 g0 t S) :
    t = .oof ∨ (∃ e s, t = .err e s ∧ Exceeded L e) ∨
    ∃ o o' f1, t = o.withFuel f1 ∧ f1 ≤ F ∧ ORel lk i l0 g0 o o' ∧ Ev fun k => S k = o' := by
  cases t with
  | oof => exact Or.inl rfl
  | err e s =>
    rcases h with hx | ⟨s', hs, hev⟩
    · exact Or.inr (Or.inl ⟨e, s, rfl, hx⟩)
    · exact Or.inr (Or.inr ⟨.err e s, .err e s', 0, rfl, Nat.zero_le F, ⟨s', rfl, hs⟩, hev⟩)
  | ret v s =>
    obtain ⟨s', hs, hk, hev⟩ := h
    exact Or.inr (Or.inr ⟨.ret v s, .ret v s', 0, rfl, Nat.zero_le F, ⟨s', rfl, hs, hk⟩, hev⟩)
  | norm l s f =>
    obtain ⟨hf, l', s', hp, hev⟩ := h
    exact Or.inr (Or.inr ⟨.norm l s, .norm l' s', f, rfl, hf, ⟨l', s', rfl, hp⟩, hev⟩)
  | brk l s f =>
    obtain ⟨hf, hk, l', s', hp, hev⟩ := h
    exact Or.inr (Or.inr ⟨.brk l s, .brk l' s', f, rfl, hf, ⟨l', s', rfl, hk, hp⟩, hev⟩)
  | cont l s f =>
    obtain ⟨hf, hk, l', s', hp, hev⟩ := h
    exact Or.inr (Or.inr ⟨.cont l s, .cont l' s', f, rfl, hf, ⟨l', s', rfl, hk, hp⟩, hev⟩)
end

theorem TSim.weaken {L F : Nat} {lk : LK} {i j : Nat} {l0 l1 : Option Env} {g0 g1 : Env} {t : TOut W} {S : Nat → SOut W}
    (hl : KeepL i l0 l1) (hg : GKeep l0 i g0 g1) (hij : i ≤ j) (h : TSim L F lk j l1 g1 t S) : TSim L F lk i l0 g0 t S := by
  rcases h.cases with rfl | ⟨e, s, rfl, hx⟩ | ⟨o, o', f1, rfl, hf, hr, hev⟩
  · trivial
  · exact Or.inl hx
  · exact TSim.of_rel (hr.weaken hl hg hij) hf hev

/-- replace the pure side by one that is eventually the same -/
theorem TSim.transfer {L F : Nat} {lk : LK} {i : Nat} {l0 : Option Env} {g0 : Env} {t : TOut W} {S0 S : Nat → SOut W}
    (h : TSim L F lk i l0 g0 t S0) (hx : ∀ o, (Ev fun k => S0 k = o) → Ev fun k => S k = o) : TSim L F lk i l0 g0 t S := by
  rcases h.cases with rfl | ⟨e, s, rfl, hx'⟩ | ⟨o, o', f1, rfl, hf, hr, hev⟩
  · trivial
  · exact Or.inl hx'
  · exact TSim.of_rel hr hf (hx _ hev)

theorem TSim.monoF {L F F' : Nat} {lk : LK} {i : Nat} {l0 : Option Env} {g0 : Env} {t : TOut W} {S : Nat → SOut W}
    (h : TSim L F lk i l0 g0 t S) (hF : F ≤ F') : TSim L F' lk i l0 g0 t S := by
  rcases h.cases with rfl | ⟨e, s, rfl, hx⟩ | ⟨o, o', f1, rfl, hf, hr, hev⟩
  · trivial
  · exact Or.inl hx
  · exact TSim.of_rel hr (Nat.le_trans hf hF) hev

/-- loop results (never `break` / `continue`) do not depend on the kind of the enclosing loop -/
theorem TSim.relk {L F : Nat} {lk lk' : LK} {i : Nat} {l0 : Option Env} {g0 : Env} {t : TOut W} {S : Nat → SOut W}
    (h : TSim L F lk i l0 g0 t S) (hn : NoBC t) : TSim L F lk' i l0 g0 t S := by
  cases t <;> first | exact h | exact hn.elim

/-! ## the relation `Sim` and its rules -/

/-- what the converse component of `Sim` assumes: that it is wanted (`on`); the unlimited budget (a positive one can stop the
ticked side alone); and the forward simulation of calls at *every* machine fuel, from which `Sim.eval` reads off that
evaluating a user expression on the machine side keeps the generated globals.  The last is the forward component at all
levels, which the induction on the level does not have yet: it stays an assumption until `conv_of_forward` discharges it
from `callCov_all`. -/
def Conv (on : Prop) (cfg : Config W) (scfg : SConfig W) (cv : CallAt W) : Prop :=
  on ∧ cfg.maxStatements = 0 ∧ ∀ m, CallSim cfg.maxStatements (cv m) (callS scfg)

/-- a ticked computation `T` (a function of the fuel given) against a pure computation `S` (a function of the depth), both
directions at once.  Forward: for every fuel `f < F` the outcome `T f` is matched by the pure side eventually (`TSim`).
Converse: for every depth `k < K` the ticked side converges to a match of `S k` (`CSim`).  `lk`, `i`, `l0`, `g0` are those of
`ORel` / `Post`: the kind of the enclosing loop, and the label counter and scopes the two computations start from.  One
relation, because every rule below and every construct of `C01Erase` treats the two components alike, and the converse one
rests on the forward one (`Conv`).  The call runner `cv` is arbitrary; `on := False` switches the converse component off,
which makes `eraseS` / `eraseE` (about a `cv` whose calls are only known to be simulated forward) instances of `levels`. -/
def Sim (on : Prop) (cfg : Config W) (scfg : SConfig W) (cv : CallAt W) (F K : Nat) (lk : LK) (i : Nat) (l0 : Option Env) (g0 : Env)
    (T : Nat → TOut W) (S : Nat → SOut W) : Prop :=
  (∀ f, f < F → TSim cfg.maxStatements f lk i l0 g0 (T f) S) ∧
  (Conv on cfg scfg cv → ∀ k, k < K → CSim lk i l0 g0 T (S k))

/-- calls are covered below the levels `F` (machine fuel) and `K` (pure fuel) -/
def CallCov (on : Prop) (cfg : Config W) (scfg : SConfig W) (cv : CallAt W) (F K : Nat) : Prop :=
  (∀ m, m < F → CallSim cfg.maxStatements (cv m) (callS scfg)) ∧
  (Conv on cfg scfg cv → ∀ m, m < K → CallSimG false 0 (callS scfg m) cv)

theorem CallCov.mono {on : Prop} {cfg : Config W} {scfg : SConfig W} {cv : CallAt W} {F K F' K' : Nat}
    (h : CallCov on cfg scfg cv F K) (hF : F' ≤ F) (hK : K' ≤ K) : CallCov on cfg scfg cv F' K' :=
  ⟨fun m hm => h.1 m (Nat.lt_of_lt_of_le hm hF), fun hc m hm => h.2 hc m (Nat.lt_of_lt_of_le hm hK)⟩

section Rules
variable {on : Prop} {cfg : Config W} {scfg : SConfig W} {cv : CallAt W} {F K : Nat} {lk : LK} {i : Nat} {l0 : Option Env}
  {g0 : Env}

theorem Sim.zero {T : Nat → TOut W} {S : Nat → SOut W} : Sim on cfg scfg cv 0 0 lk i l0 g0 T S :=
  ⟨fun f hf => absurd hf (Nat.not_lt_zero f), fun _ k hk => absurd hk (Nat.not_lt_zero k)⟩

theorem Sim.mono {F' K' : Nat} {T : Nat → TOut W} {S : Nat → SOut W} (h : Sim on cfg scfg cv F K lk i l0 g0 T S) (hF : F' ≤ F)
    (hK : K' ≤ K) : Sim on cfg scfg cv F' K' lk i l0 g0 T S :=
  ⟨fun f hf => h.1 f (Nat.lt_of_lt_of_le hf hF), fun hc k hk => h.2 hc k (Nat.lt_of_lt_of_le hk hK)⟩

theorem Sim.of_rel {o o' : SOut W} (h : ORel lk i l0 g0 o o') :
    Sim on cfg scfg cv F K lk i l0 g0 (fun f => o.withFuel f) (fun _ => o') :=
  ⟨fun f _ => TSim.of_rel h (Nat.le_refl f) (Ev.of_all fun _ => rfl), fun _ _ _ => Or.inr ⟨o, 0, h, Ev.of_all fun _ => rfl⟩⟩

theorem Sim.norm {l l' : Option Env} {s s' : State W} (hp : Post i l0 g0 l s l' s') :
    Sim on cfg scfg cv F K lk i l0 g0 (fun f => .norm l s f) (fun _ => .norm l' s') :=
  Sim.of_rel (o := .norm l s) ⟨l', s', rfl, hp⟩

/-- a later statement's simulation (counter `j ≥ i`, started from `l1`, `g1`) read from the start of the block -/
theorem Sim.weaken {j : Nat} {l1 : Option Env} {g1 : Env} {T : Nat → TOut W} {S : Nat → SOut W}
    (hl : KeepL i l0 l1) (hg : GKeep l0 i g0 g1) (hij : i ≤ j) (h : Sim on cfg scfg cv F K lk j l1 g1 T S) :
    Sim on cfg scfg cv F K lk i l0 g0 T S :=
  ⟨fun f hf => (h.1 f hf).weaken hl hg hij,
    fun hc k hk => (h.2 hc k hk).imp id fun ⟨o, c, hr, ht⟩ => ⟨o, c, hr.weaken hl hg hij, ht⟩⟩

theorem Sim.congrT {T T' : Nat → TOut W} {S : Nat → SOut W} (h : Sim on cfg scfg cv F K lk i l0 g0 T S)
    (he : ∀ f, T' f = T f) : Sim on cfg scfg cv F K lk i l0 g0 T' S :=
  ⟨fun f hf => by rw [he]; exact h.1 f hf,
    fun hc k hk => (h.2 hc k hk).imp id fun ⟨o, c, hr, ht⟩ => ⟨o, c, hr, ht.mono fun f hf => by rw [he, hf]⟩⟩

/-- one level of depth on the pure side -/
theorem Sim.stepS {T : Nat → TOut W} {S0 S : Nat → SOut W} (h : Sim on cfg scfg cv F K lk i l0 g0 T S0) (h0 : S 0 = .oof)
    (hS : ∀ k, S (k+1) = S0 k) : Sim on cfg scfg cv F (K+1) lk i l0 g0 T S := by
  refine ⟨fun f hf => (h.1 f hf).transfer fun _ hev => Ev.step hS hev, fun hc k hk => ?_⟩
  cases k with
  | zero => exact Or.inl h0
  | succ k => rw [hS]; exact h.2 hc k (Nat.lt_of_succ_lt_succ hk)

/-- ticks are invisible: a tick only advances the counter (or runs out of fuel, or exceeds a positive budget), and takes
one unit of fuel -/
theorem Sim.tickUp {st : State W} {k : Nat → State W → TOut W} {S : Nat → SOut W}
    (h : Sim on cfg scfg cv F K lk i l0 g0 (fun f => k f (tk st)) S) :
    Sim on cfg scfg cv (F+1) K lk i l0 g0 (fun f => tick cfg f st k) S := by
  constructor
  · intro f hf
    cases f with
    | zero => trivial
    | succ f =>
      show TSim _ _ lk i l0 g0 (tick cfg (f+1) st k) S
      simp only [tick]
      split
      · rename_i hc
        simp only [Bool.and_eq_true, decide_eq_true_eq] at hc
        exact Or.inl ⟨_, rfl, hc.1⟩
      · exact (h.1 f (Nat.lt_of_succ_lt_succ hf)).monoF (Nat.le_succ f)
  · intro hc j hj
    exact (h.2 hc j hj).imp id fun ⟨o, c, hr, ht⟩ => ⟨o, c+1, hr, ht.mono fun f hf => by
      show tick cfg (f + (c + 1)) st k = _
      rw [← Nat.add_assoc, tick_unlimited cfg hc.2.1]; exact hf⟩

/-- a tick that has no counterpart on the pure side -/
theorem Sim.tick {st : State W} {k : Nat → State W → TOut W} {S : Nat → SOut W}
    (h : Sim on cfg scfg cv F K lk i l0 g0 (fun f => k f (tk st)) S) :
    Sim on cfg scfg cv F K lk i l0 g0 (fun f => tick cfg f st k) S :=
  (Sim.tickUp h).mono (Nat.le_succ F) (Nat.le_refl K)

theorem Sim.skip {l : Option Env} {st : State W} {g : Option Env → State W → Nat → TOut W} {S : Nat → SOut W}
    (h : Sim on cfg scfg cv F K lk i l0 g0 (fun f => g l (tk st) f) S) :
    Sim on cfg scfg cv F K lk i l0 g0 (fun f => C01.andThen (stmtSkip cfg f l st) g) S :=
  (Sim.tick (k := fun f st1 => g l st1 f) h).congrT fun _ => stmtSkip_andThen ..

/-- continue both sides after a first part: `Ψ` post-processes the ticked outcome, `Γ k` the pure one -/
theorem Sim.then {lk' : LK} {j : Nat} {l1 : Option Env} {g1 : Env} {T1 : Nat → TOut W} {S1 : Nat → SOut W}
    {Ψ : TOut W → TOut W} {Γ : Nat → SOut W → SOut W} (h1 : Sim on cfg scfg cv F K lk' j l1 g1 T1 S1)
    (hΨo : Ψ .oof = .oof) (hΨe : ∀ e s, Ψ (.err e s) = .err e s) (hΓ : ∀ k, Γ k .oof = .oof)
    (h2 : ∀ o o', ORel lk' j l1 g1 o o' →
      Sim on cfg scfg cv F K lk i l0 g0 (fun f => Ψ (o.withFuel f)) (fun k => Γ k o')) :
    Sim on cfg scfg cv F K lk i l0 g0 (fun f => Ψ (T1 f)) (fun k => Γ k (S1 k)) := by
  constructor
  · intro f hf
    show TSim _ f lk i l0 g0 (Ψ (T1 f)) _
    rcases (h1.1 f hf).cases with h | ⟨e, s, h, hx⟩ | ⟨o, o', f1, h, hf1, hr, hev⟩
    · rw [h, hΨo]; trivial
    · rw [h, hΨe]; exact Or.inl hx
    · rw [h]
      exact (((h2 o o' hr).1 f1 (Nat.lt_of_le_of_lt hf1 hf)).monoF hf1).transfer fun r hr' =>
        Ev.comp (Φ := fun k x => Γ k x) hev hr'
  · intro hc k hk
    show CSim lk i l0 g0 _ (Γ k (S1 k))
    rcases h1.2 hc k hk with h | ⟨o, c, hr, ht⟩
    · rw [h, hΓ]; exact Or.inl rfl
    · refine ((h2 o (S1 k) hr).2 hc k hk).imp id fun ⟨o2, c2, hr2, ht2⟩ => ⟨o2, c + c2, hr2, ?_⟩
      -- `c2` units for the rest leave `f`; `c` more for `T1` leave `f + c2`
      exact ((ht.shift c2).and ht2).mono fun f ⟨a, b⟩ => by
        show Ψ (T1 (f + (c + c2))) = _
        rw [Nat.add_comm c c2, ← Nat.add_assoc, a]; exact b

theorem Sim.andThen {T1 : Nat → TOut W} {S1 : Nat → SOut W} {g : Option Env → State W → Nat → TOut W}
    {G : Nat → Option Env → State W → SOut W} (h1 : Sim on cfg scfg cv F K lk i l0 g0 T1 S1)
    (h2 : ∀ l s l' s', Post i l0 g0 l s l' s' →
      Sim on cfg scfg cv F K lk i l0 g0 (fun f => g l s f) (fun k => G k l' s')) :
    Sim on cfg scfg cv F K lk i l0 g0 (fun f => C01.andThen (T1 f) g) (fun k => seqK (G k) (S1 k)) := by
  refine Sim.then (Ψ := fun t => C01.andThen t g) (Γ := fun k => seqK (G k)) h1 rfl (fun _ _ => rfl) (fun _ => rfl)
    fun o o' hr => ?_
  cases o with
  | norm l s => obtain ⟨l', s', rfl, hp⟩ := hr; exact h2 l s l' s' hp
  | brk l s => have := hr; obtain ⟨l', s', rfl, -⟩ := this; exact Sim.of_rel hr
  | cont l s => have := hr; obtain ⟨l', s', rfl, -⟩ := this; exact Sim.of_rel hr
  | ret v s => have := hr; obtain ⟨s', rfl, -⟩ := this; exact Sim.of_rel hr
  | err e s => have := hr; obtain ⟨s', rfl, -⟩ := this; exact Sim.of_rel hr
  | oof => exact hr.elim

/-- the block of a branch followed by `label done` / `jump done` -/
theorem Sim.thenSkip {T : Nat → TOut W} {S : Nat → SOut W} (h : Sim on cfg scfg cv F K lk i l0 g0 T S) :
    Sim on cfg scfg cv F K lk i l0 g0 (fun f => C01.andThen (T f) fun l s f => stmtSkip cfg f l s) S := by
  refine Sim.then (Ψ := fun t => C01.andThen t fun l s f => stmtSkip cfg f l s) (Γ := fun _ o' => o') h rfl (fun _ _ => rfl)
    (fun _ => rfl) fun o o' hr => ?_
  cases o with
  | norm l s =>
    obtain ⟨l', s', rfl, hp⟩ := hr
    exact Sim.tick (k := fun f st1 => .norm l st1 f) (Sim.norm ⟨hp.1, tk_rel hp.2.1, hp.2.2.1, hp.2.2.2⟩)
  | oof => exact hr.elim
  | _ => exact Sim.of_rel hr

/-- the body (kind `lkb`, counter `i+1`, started from `l1`, `g1`) of a loop numbered `i` that was entered from `l0`, `g0` -/
theorem Sim.loopT {lkb : LK} {l1 : Option Env} {g1 : Env} {T1 : Nat → TOut W} {S1 : Nat → SOut W}
    {G C : Option Env → State W → Nat → TOut W} {H : Nat → Option Env → State W → SOut W}
    (hl : KeepL i l0 l1) (hg : GKeep l0 i g0 g1) (h1 : Sim on cfg scfg cv F K lkb (i+1) l1 g1 T1 S1)
    (hG : ∀ l s l' s', Post (i+1) l1 g1 l s l' s' →
      Sim on cfg scfg cv F K lk i l0 g0 (fun f => G l s f) (fun k => H k l' s'))
    (hC : lkb = .forL → ∀ l s l' s', Post (i+1) l1 g1 l s l' s' →
      Sim on cfg scfg cv F K lk i l0 g0 (fun f => C l s f) (fun k => H k l' s')) :
    Sim on cfg scfg cv F K lk i l0 g0 (fun f => C01.loopT G C (T1 f)) (fun k => loopK (H k) (S1 k)) := by
  have hi := Nat.le_succ i
  refine Sim.then (Ψ := C01.loopT G C) (Γ := fun k => loopK (H k)) h1 rfl (fun _ _ => rfl) (fun _ => rfl) fun o o' hr => ?_
  cases o with
  | norm l s => obtain ⟨l', s', rfl, hp⟩ := hr; exact hG l s l' s' hp
  | brk l s => obtain ⟨l', s', rfl, -, hp⟩ := hr; exact Sim.norm (hp.weaken hl hg hi)
  | cont l s => obtain ⟨l', s', rfl, hk, hp⟩ := hr; exact hC hk l s l' s' hp
  | ret v s => obtain ⟨s', rfl, hs, hk⟩ := hr; exact Sim.of_rel (o := .ret v s) ⟨s', rfl, hs, hg.trans hk hl.isSome hi⟩
  | err e s => obtain ⟨s', rfl, hs⟩ := hr; exact Sim.of_rel (o := .err e s) ⟨s', rfl, hs⟩
  | oof => exact hr.elim

/-- a lowered statement that evaluates `e`; the pure side computes `X k` (related to the value of `e` both ways) and goes
on with `Φ k` -/
theorem Sim.evalX {e : Expr} {l : Option Env} {st : State W} {gx : Env} {Kt : Value → State W → Nat → TOut W}
    {X : Nat → Out W} {Φ : Nat → Out W → SOut W}
    (hXf : ∀ f', f' < F → OSim cfg.maxStatements st.globals (evalExpr cfg (cv f') l e (tk st)) X)
    (hXc : Conv on cfg scfg cv → ∀ k, k < K →
      OSimG false 0 gx (X k) (fun m => evalExpr cfg (cv m) l e (tk st)))
    (hkeep : Conv on cfg scfg cv → ∀ m v s2, evalExpr cfg (cv m) l e (tk st) = .ok v s2 →
      KeepAll st.globals s2.globals)
    (hΦe : ∀ k er s, Φ k (.err er s) = .err er s) (hΦo : ∀ k, Φ k .oof = .oof)
    (hK : ∀ v st2 st2', StRel st2 st2' → KeepAll st.globals st2.globals →
      Sim on cfg scfg cv F K lk i l0 g0 (fun f => Kt v st2 f) (fun k => Φ k (.ok v st2'))) :
    Sim on cfg scfg cv (F+1) K lk i l0 g0 (fun f => stmtEval cfg cv e f l st Kt) (fun k => Φ k (X k)) := by
  unfold stmtEval
  refine Sim.tickUp ⟨fun f hf => ?_, fun hc k hk => ?_⟩
  · have hE := hXf f hf
    dsimp only
    generalize evalExpr cfg (cv f) l e (tk st) = r at hE ⊢
    cases r with
    | oof => trivial
    | err er s => exact hE.imp id fun ⟨s', hs2, hev⟩ => ⟨s', hs2, Ev.comp hev (Ev.of_all fun k => hΦe k er s')⟩
    | ok v st2 =>
      obtain ⟨st2', hs2, hk, hev⟩ := hE
      exact ((hK v st2 st2' hs2 (hk rfl)).1 f hf).transfer fun o ho => Ev.comp hev ho
  · have hX := hXc hc k hk
    show CSim lk i l0 g0 _ (Φ k (X k))
    generalize X k = x at hX ⊢
    cases x with
    | oof => exact Or.inl (hΦo k)
    | err er sS =>
      rcases hX with ⟨m, _, h0⟩ | ⟨sT, hs, hev⟩
      · exact absurd h0 (Nat.lt_irrefl 0)
      · rw [hΦe]
        exact Or.inr ⟨.err er sT, 0, ⟨sS, rfl, hs.symm⟩, hev.mono fun f hf => by simp only [Nat.add_zero, hf]; rfl⟩
    | ok v sS =>
      obtain ⟨sT, hs, _, hev⟩ := hX
      obtain ⟨N, hN⟩ := hev
      refine ((hK v sT sS hs.symm (hkeep hc N v sT (hN N (Nat.le_refl N)))).2 hc k hk).imp id
        fun ⟨o, c, hr, ht⟩ => ⟨o, c, hr, ?_⟩
      exact ((Ev.shift ⟨N, hN⟩ c).and ht).mono fun f ⟨a, b⟩ => by simp only [a]; exact b

/-- a lowered statement that evaluates a user expression -/
theorem Sim.eval (Hc : CallCov on cfg scfg cv F K) {e : Expr} {l l' : Option Env} {st st' : State W}
    (he : nrE e = true) (hl : LRel l l') (hs : StRel st st') {Kt : Value → State W → Nat → TOut W}
    {Φ : Nat → Out W → SOut W} (hΦe : ∀ k er s, Φ k (.err er s) = .err er s) (hΦo : ∀ k, Φ k .oof = .oof)
    (hK : ∀ v st2 st2', StRel st2 st2' → KeepAll st.globals st2.globals →
      Sim on cfg scfg cv F K lk i l0 g0 (fun f => Kt v st2 f) (fun k => Φ k (.ok v st2'))) :
    Sim on cfg scfg cv (F+1) K lk i l0 g0 (fun f => stmtEval cfg cv e f l st Kt)
      (fun k => Φ k (evalExpr cfg (callS scfg k) l' e st')) :=
  Sim.evalX (gx := st'.globals) (fun f' hlt => evalExpr_sim cfg (Hc.1 f' hlt) hl e (tk st) st' he (tk_rel hs))
    (fun hc k hk => evalExpr_sim cfg (Hc.2 hc k hk) hl.symm e st' (tk st) he (tk_rel hs).symm)
    (fun hc m _ _ h => (evalExpr_sim cfg (hc.2.2 m) (LRel.refl l) e (tk st) (tk st) he (StRel.refl _)).keep h) hΦe hΦo hK

/-- a lowered statement whose expression is known to be the call of a looked-up function: the two calls `for` emits -/
theorem Sim.evalCall (Hc : CallCov on cfg scfg cv F K) {e : Expr} {l : Option Env} {st st' : State W}
    (hs : StRel st st') {n : Name} {r : Option Value} {vs : List Value}
    (hev : ∀ m, evalExpr cfg (cv m) l e (tk st) = callLooked (cv m) n r vs (tk st)) {Kt : Value → State W → Nat → TOut W}
    {Φ : Nat → Out W → SOut W} (hΦe : ∀ k er s, Φ k (.err er s) = .err er s) (hΦo : ∀ k, Φ k .oof = .oof)
    (hK : ∀ v st2 st2', StRel st2 st2' → KeepAll st.globals st2.globals →
      Sim on cfg scfg cv F K lk i l0 g0 (fun f => Kt v st2 f) (fun k => Φ k (.ok v st2'))) :
    Sim on cfg scfg cv (F+1) K lk i l0 g0 (fun f => stmtEval cfg cv e f l st Kt)
      (fun k => Φ k (callLooked (callS scfg k) n r vs st')) :=
  Sim.evalX (gx := st'.globals) (fun f' hlt => hev f' ▸ callLooked_sim (Hc.1 f' hlt) n r vs (tk_rel hs))
    (fun hc k hk => by simp only [hev]; exact callLooked_sim (Hc.2 hc k hk) n r vs (tk_rel hs).symm)
    (fun hc m _ _ h => (callLooked_sim (hc.2.2 m) n r vs (StRel.refl (tk st))).keep (hev m ▸ h)) hΦe hΦo hK

end Rules

end C01
