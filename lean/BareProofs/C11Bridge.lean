import BareProofs.C11BridgeLemmas
import BareProofs.C09Seq
import BareProofs.C03

/-!
# C11Bridge — one value order: the C11 comparison theorems hold on the execution model

`BareProofs/C11.lean` proves the order laws for `Compare.valueCompare` over *closed* values (`Compare.PValue`).  The jump
machine (`BareModel/Machine.lean`) that C01/C03/C04/C08/C09 execute runs on the host `HostImpl.host`, whose values are
references into `World.heap` and whose comparison is the fuelled `HostImpl.valueCompare` / `HostImpl.compare?`.  This file
connects the two: `reify w v` is the closed value a heap value denotes — `none` exactly when `v` is or reaches a dangling
reference or a container that reaches itself (`reify_none_iff`) —, `compare_bridge` says that `compare?` computes
`Compare.valueCompare` on reifiable operands (its fuel `(heap.length+1)² + 2` always suffices on them), and the order laws
and the consumers (operators, `systemCompare`, `arrayIndexOf`) follow on worlds.

Both models agree with the real `value_compare` on functions / regexes / booleans / datetimes (checked by running
`/repo/src/bare_script/value.py`): two functions and two regexes compare equal (type name), `true` vs `1` is
"boolean" vs "number", a self-containing list raises `RecursionError` (`compare? = none`).
-/

namespace C11Bridge
open Machine HostImpl

/-- `x` is an element (item value) of the container `a` -/
inductive Child (w : World) : Value → Value → Prop
  | arr {r xs x} : w.arr? r = some xs → x ∈ xs → Child w (.arr r) x
  | obj {r kvs kv} : w.obj? r = some kvs → kv ∈ kvs → Child w (.obj r) kv.2

/-- `b` is reached from `a` in one or more containment steps -/
inductive Reaches (w : World) : Value → Value → Prop
  | step {a x} : Child w a x → Reaches w a x
  | trans {a x b} : Child w a x → Reaches w x b → Reaches w a b

/-- `a` itself or something reached from it -/
def ReachesEq (w : World) (a b : Value) : Prop := b = a ∨ Reaches w a b

/-- a reference without a cell of its kind -/
def Dangling (w : World) : Value → Prop
  | .arr r => w.arr? r = none
  | .obj r => w.obj? r = none
  | _ => False

theorem reaches_trans (w : World) {a b c : Value} (h1 : Reaches w a b) (h2 : Reaches w b c) : Reaches w a c := by
  induction h1 with
  | step hc => exact .trans hc h2
  | trans hc _ ih => exact .trans hc (ih h2)

theorem child_reachesEq (w : World) {a x b : Value} (hc : Child w a x) (h : ReachesEq w x b) : Reaches w a b := by
  rcases h with rfl | h
  · exact .step hc
  · exact .trans hc h

theorem child_reifyF (w : World) {a x : Value} (hc : Child w a x) {n : Nat} {p : Compare.PValue}
    (h : reifyF w (n + 1) a = some p) : ∃ q, reifyF w n x = some q := by
  cases hc with
  | arr hxs hx =>
    obtain ⟨xs', pxs, hxs', hm, _⟩ := (reifyF_arr w n _ p).mp h
    rw [hxs] at hxs'; cases hxs'
    obtain ⟨y, _, hxy⟩ := mapOpt_mem _ _ _ hm _ hx
    exact ⟨y, hxy⟩
  | obj hxs hx =>
    obtain ⟨xs', pxs, hxs', hm, _⟩ := (reifyF_obj w n _ p).mp h
    rw [hxs] at hxs'; cases hxs'
    obtain ⟨y, _, hxy⟩ := mapOpt_mem _ _ _ hm _ hx
    exact ⟨y.2, ((reifyItem_iff _ _ _).mp hxy).2⟩

theorem reifyF_none_of_reaches (w : World) {a b : Value} (h : Reaches w a b) :
    ∀ n, (∀ m < n, reifyF w m b = none) → reifyF w n a = none := by
  -- a container fails with one unit of fuel more than an element fails with
  have up : ∀ {a x : Value}, Child w a x → ∀ n, reifyF w n x = none → reifyF w (n + 1) a = none := fun hc n hx =>
    Option.eq_none_iff_forall_ne_some.mpr fun p hp => by
      obtain ⟨q, hq⟩ := child_reifyF w hc hp
      rw [hx] at hq; cases hq
  induction h with
  | step hc =>
    rintro (_ | n) hb
    · rfl
    · exact up hc n (hb n (Nat.lt_succ_self n))
  | trans hc _ ih =>
    rintro (_ | n) hb
    · rfl
    · exact up hc n (ih n fun m hm => hb m (Nat.lt_succ_of_lt hm))

/-- a container that reaches itself would reify with ever less fuel -/
theorem reifyF_none_of_reaches_self (w : World) (a : Value) (h : Reaches w a a) (n : Nat) : reifyF w n a = none := by
  induction n using Nat.strongRecOn with
  | ind n ih => exact reifyF_none_of_reaches w h n ih

theorem reifyF_none_of_dangling (w : World) {a : Value} (h : Dangling w a) : ∀ n, reifyF w n a = none
  | 0 => rfl
  | n + 1 => by cases a <;> simp only [Dangling] at h <;> simp [reifyF, h]

theorem reifyF_none_of_bad (w : World) (a : Value)
    (h : (∃ b, ReachesEq w a b ∧ Dangling w b) ∨ (∃ c, ReachesEq w a c ∧ Reaches w c c)) (n : Nat) :
    reifyF w n a = none := by
  obtain ⟨b, hab, hb⟩ : ∃ b, ReachesEq w a b ∧ ∀ n, reifyF w n b = none := by
    rcases h with ⟨b, hab, hb⟩ | ⟨c, hac, hc⟩
    · exact ⟨b, hab, reifyF_none_of_dangling w hb⟩
    · exact ⟨c, hac, reifyF_none_of_reaches_self w c hc⟩
  rcases hab with rfl | hab
  · exact hb n
  · exact reifyF_none_of_reaches w hab n fun m _ => hb m

def refIdx : Value → Nat
  | .arr r => r
  | .obj r => r
  | _ => 0

/-- a reference with a cell of its kind: the value is the one that names its cell -/
def Live (w : World) (x : Value) : Prop := cellVal w (refIdx x) = x ∧ refIdx x < w.heap.length

theorem reifyF_none_step (w : World) (n : Nat) (a : Value) (h : reifyF w (n+1) a = none) (hd : ¬ Dangling w a) :
    Live w a ∧ ∃ x, Child w a x ∧ reifyF w n x = none := by
  cases a with
  | arr r =>
    simp only [Dangling] at hd
    cases hxs : w.arr? r with
    | none => exact absurd hxs hd
    | some xs =>
      simp only [reifyF, hxs] at h
      have hm : mapOpt (reifyF w n) xs = none := by cases hm : mapOpt (reifyF w n) xs <;> simp_all
      obtain ⟨x, hx, hfx⟩ := mapOpt_none _ xs hm
      exact ⟨cellVal_arr w r xs hxs, x, .arr hxs hx, hfx⟩
  | obj r =>
    simp only [Dangling] at hd
    cases hxs : w.obj? r with
    | none => exact absurd hxs hd
    | some kvs =>
      simp only [reifyF, hxs] at h
      have hm : mapOpt (reifyItem (reifyF w n)) kvs = none := by
        cases hm : mapOpt (reifyItem (reifyF w n)) kvs <;> simp_all
      obtain ⟨kv, hkv, hfx⟩ := mapOpt_none _ kvs hm
      refine ⟨cellVal_obj w r kvs hxs, kv.2, .obj hxs hkv, ?_⟩
      simpa [reifyItem] using hfx
  | _ => simp [reifyF] at h

/-- a value that fails with fuel `n` and reaches no dangling reference starts a containment chain of `n` live containers -/
theorem chain_of_none (w : World) : ∀ (n : Nat) (a : Value), reifyF w n a = none → (∀ b, ReachesEq w a b → ¬ Dangling w b) →
    ∃ l : List Value, l.length = n ∧ (∀ x ∈ l, ReachesEq w a x ∧ Live w x) ∧ l.Pairwise (Reaches w)
  | 0, _, _, _ => ⟨[], rfl, fun x hx => by simp at hx, List.Pairwise.nil⟩
  | n+1, a, h, hd => by
    obtain ⟨hlive, x, hc, hx⟩ := reifyF_none_step w n a h (hd a (Or.inl rfl))
    obtain ⟨l, hl, hmem, hp⟩ := chain_of_none w n x hx (fun b hb => hd b (Or.inr (child_reachesEq w hc hb)))
    refine ⟨a :: l, by simp [hl], fun y hy => ?_, List.pairwise_cons.mpr ⟨fun y hy => ?_, hp⟩⟩
    · rcases List.mem_cons.mp hy with rfl | hy
      · exact ⟨Or.inl rfl, hlive⟩
      · exact ⟨Or.inr (child_reachesEq w hc (hmem y hy).1), (hmem y hy).2⟩
    · exact child_reachesEq w hc (hmem y hy).1

/-- with the standard fuel a chain of `heap.length + 1` live containers repeats a cell (pigeonhole) -/
theorem bad_of_reify_none (w : World) (a : Value) (h : reify w a = none) :
    (∃ b, ReachesEq w a b ∧ Dangling w b) ∨ (∃ c, ReachesEq w a c ∧ Reaches w c c) := by
  by_cases hd : ∃ b, ReachesEq w a b ∧ Dangling w b
  · exact Or.inl hd
  · right
    refine Classical.byContradiction fun hno => ?_
    obtain ⟨l, hl, hmem, hp⟩ := chain_of_none w _ a h (fun b hb hdb => hd ⟨b, hb, hdb⟩)
    have hnd : (l.map refIdx).Nodup := by
      refine List.pairwise_map.mpr (hp.imp_of_mem fun {x y} hx hy hxy hidx => hno ?_)
      have : x = y := by rw [← (hmem x hx).2.1, hidx, (hmem y hy).2.1]
      subst this
      exact ⟨x, (hmem x hx).1, hxy⟩
    have hsub : l.map refIdx ⊆ List.range w.heap.length := fun i hi => by
      obtain ⟨x, hx, rfl⟩ := List.mem_map.mp hi
      exact List.mem_range.mpr (hmem x hx).2.2
    have := hnd.length_le_of_subset hsub
    simp [hl] at this
    omega

/-- **the standard fuel is enough whenever any fuel is**: `reify` fails only on self-containing containers and dangling
references, never for lack of fuel -/
theorem reifyF_complete (w : World) (n : Nat) (a : Value) (p : Compare.PValue) (h : reifyF w n a = some p) :
    reify w a = some p := by
  cases hr : reify w a with
  | some q => rw [reifyF_det w a q p hr h]
  | none => rw [reifyF_none_of_bad w a (bad_of_reify_none w a hr) n] at h; cases h

/-- **Characterisation of failure.**  `reify w a = none` exactly when `a` is, or reaches, a dangling reference or a container
that reaches itself. -/
theorem reify_none_iff (w : World) (a : Value) :
    reify w a = none ↔ (∃ b, ReachesEq w a b ∧ Dangling w b) ∨ (∃ c, ReachesEq w a c ∧ Reaches w c c) :=
  ⟨bad_of_reify_none w a, fun h => reifyF_none_of_bad w a h _⟩

theorem reify_of_reifyF (w : World) (a : Value) (p : Compare.PValue) : (∃ n, reifyF w n a = some p) ↔ reify w a = some p :=
  ⟨fun ⟨n, h⟩ => reifyF_complete w n a p h, fun h => ⟨_, h⟩⟩

/-- an array reifies iff its cell exists and every element reifies (no fuel in sight) -/
theorem reify_arr (w : World) (r : Nat) (p : Compare.PValue) :
    reify w (.arr r) = some p ↔ ∃ xs pxs, w.arr? r = some xs ∧ mapOpt (reify w) xs = some pxs ∧ p = .arr pxs := by
  constructor
  · intro h
    obtain ⟨xs, pxs, hxs, hm, rfl⟩ := (reifyF_arr w _ r p).mp h
    exact ⟨xs, pxs, hxs, mapOpt_congr _ _ xs pxs (fun x _ y _ hy => reifyF_succ w _ x y hy) hm, rfl⟩
  · rintro ⟨xs, pxs, hxs, hm, rfl⟩
    exact reifyF_complete w (w.heap.length + 2) _ _ ((reifyF_arr w _ r _).mpr ⟨xs, pxs, hxs, hm, rfl⟩)

/-- an object reifies iff its cell exists and every item value reifies; keys and insertion order are kept -/
theorem reify_obj (w : World) (r : Nat) (p : Compare.PValue) :
    reify w (.obj r) = some p ↔
      ∃ kvs pkvs, w.obj? r = some kvs ∧ mapOpt (reifyItem (reify w)) kvs = some pkvs ∧ p = .obj pkvs := by
  constructor
  · intro h
    obtain ⟨xs, pxs, hxs, hm, rfl⟩ := (reifyF_obj w _ r p).mp h
    refine ⟨xs, pxs, hxs, mapOpt_congr _ _ xs pxs (fun x _ y _ hy => ?_) hm, rfl⟩
    obtain ⟨e, hv⟩ := (reifyItem_iff _ _ _).mp hy
    exact (reifyItem_iff _ _ _).mpr ⟨e, reifyF_succ w _ x.2 y.2 hv⟩
  · rintro ⟨xs, pxs, hxs, hm, rfl⟩
    exact reifyF_complete w (w.heap.length + 2) _ _ ((reifyF_obj w _ r _).mpr ⟨xs, pxs, hxs, hm, rfl⟩)

/-- scalars, functions and regexes always reify, to themselves -/
theorem reify_scalar (w : World) :
    reify w .null = some .null ∧ (∀ b, reify w (.bool b) = some (.bool b)) ∧ (∀ q, reify w (.num q) = some (.num q)) ∧
    (∀ s, reify w (.str s) = some (.str s)) ∧ (∀ t, reify w (.dt t) = some (.dt t)) ∧
    (∀ f, reify w (.fn f) = some (.fn (HostLib.encFn f))) ∧ (∀ r, reify w (.regex r) = some (.regex r)) := by
  refine ⟨?_, ?_, ?_, ?_, ?_, ?_, ?_⟩ <;> intros <;> rfl

theorem reify_typeName (w : World) (a : Value) (p : Compare.PValue) (h : reify w a = some p) :
    Compare.typeName p = HostImpl.typeName a := by
  rw [(C11.typeName_eq p).1, (typeName_rankV a).1, reifyF_rank w _ a p h]

theorem reify_not_fn (w : World) (v : Value) (pv : Compare.PValue) (hv : reify w v = some pv) (hfn : ∀ f, v ≠ .fn f) :
    ∀ id, pv ≠ .fn id := fun id e =>
  match v, (e ▸ reifyF_rank w _ v pv hv : C11.rank (.fn id) = rankV v), hfn with
  | .fn f, _, hfn => hfn f rfl

theorem reify_null_iff (w : World) (a : Value) (p : Compare.PValue) (h : reify w a = some p) : p = .null ↔ a = .null := by
  rw [← C11.rank_eq_zero, reifyF_rank w _ a p h, rankV_eq_zero]

/-- **Bridge.**  On operands that denote closed values, the comparison the machine runs (`HostImpl.compare?`: heap
references, fuel `(heap.length+1)² + 2`) *is* the comparison of the C11 model on those closed values; in particular it never
runs out of fuel. -/
theorem compare_bridge (w : World) (a b : Value) (pa pb : Compare.PValue) (ha : reify w a = some pa) (hb : reify w b = some pb) :
    compare? w a b = some (Compare.valueCompare pa pb) :=
  valueCompare_bridge w _ a pa ha _ b pb hb _ (by have := Nat.le_mul_self (w.heap.length + 1); omega)

/-- the totalised `HostImpl.compare` agrees as well -/
theorem compare_bridge' (w : World) (a b : Value) (pa pb : Compare.PValue) (ha : reify w a = some pa) (hb : reify w b = some pb) :
    HostImpl.compare w a b = Compare.valueCompare pa pb := by
  simp [HostImpl.compare, compare_bridge w a b pa pb ha hb]

/-- contrapositive: where the machine comparison does not terminate, an operand does not denote a closed value -/
theorem not_reifiable_of_compare_none (w : World) (a b : Value) (h : compare? w a b = none) :
    reify w a = none ∨ reify w b = none := by
  cases ha : reify w a with
  | none => exact Or.inl rfl
  | some pa =>
    cases hb : reify w b with
    | none => exact Or.inr rfl
    | some pb => rw [compare_bridge w a b pa pb ha hb] at h; cases h

/-- a nested array-of-objects heap: cells 2 and 3 are arrays holding an object each (the same items, inserted in a different
order) and the number 2; cell 4 is an array holding the two aliases `.arr 2`, `.arr 2` and the copy `.arr 3`;
cell 5 is an array that contains itself; cell 6 holds a dangling reference. -/
def exW : World :=
  { heap := [.obj [("b", .num 1), ("a", .str "x")], .obj [("a", .str "x"), ("b", .num 1)],
             .arr [.obj 0, .num 2], .arr [.obj 1, .num 2], .arr [.arr 2, .arr 2, .arr 3], .arr [.arr 5], .arr [.obj 9]] }

def exP0 : Compare.PValue := .arr [.obj [("b", .num 1), ("a", .str "x")], .num 2]
def exP1 : Compare.PValue := .arr [.obj [("a", .str "x"), ("b", .num 1)], .num 2]

theorem exW_reify : reify exW (.arr 2) = some exP0 ∧ reify exW (.arr 3) = some exP1 ∧
    reify exW (.arr 4) = some (.arr [exP0, exP0, exP1]) ∧ reify exW (.arr 5) = none ∧ reify exW (.arr 6) = none := by
  refine ⟨rfl, rfl, rfl, rfl, rfl⟩

theorem exP_cmp : Compare.valueCompare exP0 exP1 = 0 ∧ Compare.valueCompare exP0 (.arr [exP0, exP0, exP1]) = 1 := by
  have e1 : Compare.strCompare "a" "b" = -1 := by decide
  have e2 : Compare.strCompare "b" "a" = 1 := by decide
  have e3 : Compare.strCompare "a" "a" = 0 := by decide
  have e4 : Compare.strCompare "b" "b" = 0 := by decide
  have e5 : Compare.strCompare "x" "x" = 0 := by decide
  have e6 : Compare.strCompare "object" "array" = 1 := by decide
  constructor <;>
    simp [exP0, exP1, Compare.valueCompare, Compare.cmpList, Compare.cmpItems, Compare.sortItems, Compare.sortBy,
      Compare.insertBy, Compare.tri, Compare.typeName, *]

theorem compare_self_containing (w : World) (r : Nat) (h : w.arr? r = some [.arr r]) :
    ∀ fuel, HostImpl.valueCompare w fuel (.arr r) (.arr r) = none
  | 0 => valueCompare.eq_1 w _ _
  | fuel + 1 => by
    rw [valueCompare.eq_9, h, Option.getD_some, compareLists, compare_self_containing w r h fuel]

/-- non-vacuity of `compare_bridge`: a nested array-of-objects heap … -/
example : compare? exW (.arr 2) (.arr 3) = some (Compare.valueCompare exP0 exP1) :=
  compare_bridge exW _ _ _ _ exW_reify.1 exW_reify.2.1

/-- … and the self-containing array: neither reifiable nor comparable (Python: `RecursionError`) -/
example : reify exW (.arr 5) = none ∧ compare? exW (.arr 5) (.arr 5) = none ∧ Reaches exW (.arr 5) (.arr 5) :=
  ⟨rfl, compare_self_containing exW 5 rfl _,
    .step (.arr (xs := [.arr 5]) rfl (by simp))⟩

/-- the result is -1, 0 or 1 -/
theorem machine_cmp_range (w : World) (a b : Value) (pa pb : Compare.PValue) (ha : reify w a = some pa) (hb : reify w b = some pb) :
    compare? w a b = some (-1) ∨ compare? w a b = some 0 ∨ compare? w a b = some 1 := by
  rw [compare_bridge w a b pa pb ha hb]
  rcases C11.cmp_range pa pb with h | h | h <;> simp [h]

/-- reflexive: every reifiable value compares equal to itself (and the comparison terminates) -/
theorem machine_cmp_refl (w : World) (a : Value) (pa : Compare.PValue) (ha : reify w a = some pa) : compare? w a a = some 0 := by
  rw [compare_bridge w a a pa pa ha ha, C11.cmp_refl]

/-- antisymmetric: swapping the operands negates the result -/
theorem machine_cmp_antisymm (w : World) (a b : Value) (pa pb : Compare.PValue) (ha : reify w a = some pa)
    (hb : reify w b = some pb) : ∃ c, compare? w a b = some c ∧ compare? w b a = some (-c) :=
  ⟨_, compare_bridge w a b pa pb ha hb, by rw [compare_bridge w b a pb pa hb ha, C11.cmp_antisymm pb pa]⟩

/-- transitive (with the strict and the "equal" variants) -/
theorem machine_cmp_trans (w : World) (a b c : Value) (pa pb pc : Compare.PValue) (ha : reify w a = some pa)
    (hb : reify w b = some pb) (hc : reify w c = some pc) :
    ∃ x y z, compare? w a b = some x ∧ compare? w b c = some y ∧ compare? w a c = some z ∧
      (x ≤ 0 → y ≤ 0 → z ≤ 0) ∧ (x < 0 → y ≤ 0 → z < 0) ∧ (x ≤ 0 → y < 0 → z < 0) ∧ (x = 0 → y = 0 → z = 0) :=
  ⟨_, _, _, compare_bridge w a b pa pb ha hb, compare_bridge w b c pb pc hb hc, compare_bridge w a c pa pc ha hc,
    C11.cmp_trans pa pb pc, (C11.cmp_trans_strict pa pb pc).1, (C11.cmp_trans_strict pa pb pc).2.1,
    (C11.cmp_trans_strict pa pb pc).2.2⟩

/-- total: any two reifiable values are comparable, one way or the other -/
theorem machine_cmp_total (w : World) (a b : Value) (pa pb : Compare.PValue) (ha : reify w a = some pa) (hb : reify w b = some pb) :
    ∃ x y, compare? w a b = some x ∧ compare? w b a = some y ∧ (x ≤ 0 ∨ y ≤ 0) :=
  ⟨_, _, compare_bridge w a b pa pb ha hb, compare_bridge w b a pb pa hb ha, C11.cmp_total pa pb⟩

/-- values that denote the same closed value — two aliases of one cell, a cell and its copy, two different functions … —
compare equal, and are interchangeable as operands -/
theorem machine_alias_equal (w : World) (a a' b : Value) (pa pb : Compare.PValue) (ha : reify w a = some pa)
    (ha' : reify w a' = some pa) (hb : reify w b = some pb) :
    compare? w a a' = some 0 ∧ compare? w a b = compare? w a' b ∧ compare? w b a = compare? w b a' := by
  refine ⟨by rw [compare_bridge w a a' pa pa ha ha', C11.cmp_refl], ?_, ?_⟩
  · rw [compare_bridge w a b pa pb ha hb, compare_bridge w a' b pa pb ha' hb]
  · rw [compare_bridge w b a pb pa hb ha, compare_bridge w b a' pb pa hb ha']

/-- Heap values that the machine's own comparison finds equal (`a == a'`) — a cell and a copy of it with
the keys inserted in another order, `1` and `1.0`, any two functions — give the same result against every third value -/
theorem machine_equal_congr (w : World) (a a' b : Value) (pa pa' pb : Compare.PValue) (ha : reify w a = some pa)
    (ha' : reify w a' = some pa') (hb : reify w b = some pb) (h0 : compare? w a a' = some 0) :
    compare? w a b = compare? w a' b ∧ compare? w b a = compare? w b a' := by
  rw [compare_bridge w a a' pa pa' ha ha'] at h0
  have ⟨c1, c2⟩ := C11.cmp_congr (Option.some.inj h0) pb
  rw [compare_bridge w a b pa pb ha hb, compare_bridge w a' b pa' pb ha' hb, compare_bridge w b a pb pa hb ha,
    compare_bridge w b a' pb pa' hb ha', c1, c2]
  exact ⟨rfl, rfl⟩

/-- null orders before everything else and only null equals null — for **all** values `b` of any world (no reifiability
needed: the comparison does not enter `b`) -/
theorem machine_null_least (w : World) (b : Value) :
    compare? w .null .null = some 0 ∧
    (b ≠ .null → compare? w .null b = some (-1) ∧ compare? w b .null = some 1) ∧
    (compare? w .null b = some 0 ↔ b = .null) := by
  have h0 : compare? w .null .null = some 0 := valueCompare.eq_2 w _
  refine ⟨h0, fun hb => ⟨valueCompare.eq_3 w b _ hb, valueCompare.eq_4 w b _ hb⟩, fun h => ?_, fun e => e ▸ h0⟩
  refine Decidable.byContradiction fun hb => ?_
  rw [show compare? w .null b = some (-1) from valueCompare.eq_3 w b _ hb] at h
  cases h

/-- two non-null values of different types compare exactly as their type names compare in code-point order — for **all**
values of any world (the comparison does not enter the containers) -/
theorem machine_cross_type_by_name (w : World) (a b : Value) (ha : a ≠ .null) (hb : b ≠ .null)
    (h : HostImpl.typeName a ≠ HostImpl.typeName b) :
    compare? w a b = some (Compare.strCompare (HostImpl.typeName a) (HostImpl.typeName b)) :=
  valueCompare_cross w _ ha hb h

/-- … which, for reifiable operands, is the statement of `C11.cross_type_by_name` about their closed values -/
theorem machine_cross_type_by_name' (w : World) (a b : Value) (pa pb : Compare.PValue) (ha : reify w a = some pa)
    (hb : reify w b = some pb) (hna : a ≠ .null) (hnb : b ≠ .null) (h : HostImpl.typeName a ≠ HostImpl.typeName b) :
    compare? w a b = some (Compare.strCompare (Compare.typeName pa) (Compare.typeName pb)) ∧
    Compare.valueCompare pa pb = Compare.strCompare (Compare.typeName pa) (Compare.typeName pb) := by
  rw [reify_typeName w a pa ha, reify_typeName w b pb hb]
  refine ⟨machine_cross_type_by_name w a b hna hnb h, ?_⟩
  have := compare_bridge w a b pa pb ha hb
  rw [machine_cross_type_by_name w a b hna hnb h] at this
  exact (Option.some.inj this).symm

example : compare? exW (.arr 2) (.arr 2) = some 0 ∧ compare? exW (.arr 4) (.arr 4) = some 0 :=
  ⟨machine_cmp_refl exW _ _ exW_reify.1, machine_cmp_refl exW _ _ exW_reify.2.2.1⟩

/-- `[a, a, copy] < a = copy` in `exW`: antisymmetry and transitivity instantiated on heap values -/
example : ∃ x y z, compare? exW (.arr 4) (.arr 2) = some x ∧ compare? exW (.arr 2) (.arr 3) = some y ∧
    compare? exW (.arr 4) (.arr 3) = some z ∧ x < 0 ∧ y = 0 ∧ z < 0 := by
  have hx : Compare.valueCompare (.arr [exP0, exP0, exP1]) exP0 < 0 := by rw [C11.cmp_antisymm, exP_cmp.2]; decide
  exact ⟨_, _, _, compare_bridge exW _ _ _ _ exW_reify.2.2.1 exW_reify.1, compare_bridge exW _ _ _ _ exW_reify.1 exW_reify.2.1,
    compare_bridge exW _ _ _ _ exW_reify.2.2.1 exW_reify.2.1, hx, exP_cmp.1,
    (C11.cmp_trans_strict _ _ _).1 hx (Int.le_of_eq exP_cmp.1)⟩

/-- cell 4 of `exW` is `[a, a, copy]`: two aliases of the array cell 2 and a copy of it with the keys in another order.
The aliases are one value; the copy compares equal to them and behaves like them against the enclosing array; and any two
functions compare equal. -/
example : exW.arr? 4 = some [.arr 2, .arr 2, .arr 3] ∧ compare? exW (.arr 2) (.arr 2) = some 0 ∧
    compare? exW (.arr 2) (.arr 3) = some 0 ∧ compare? exW (.arr 2) (.arr 4) = compare? exW (.arr 3) (.arr 4) ∧
    compare? exW (.fn (.script 3)) (.fn (.lib "f")) = some 0 := by
  have e : compare? exW (.arr 2) (.arr 3) = some 0 := by
    rw [compare_bridge exW _ _ _ _ exW_reify.1 exW_reify.2.1, exP_cmp.1]
  refine ⟨rfl, (machine_alias_equal exW _ _ .null _ _ exW_reify.1 exW_reify.1 rfl).1, e,
    (machine_equal_congr exW _ _ (.arr 4) _ _ _ exW_reify.1 exW_reify.2.1 exW_reify.2.2.1 e).1, ?_⟩
  have h := compare_bridge exW (.fn (.script 3)) (.fn (.lib "f")) _ _ rfl rfl
  rw [h]; simp [Compare.valueCompare, Compare.typeName]; decide

example : (Value.obj 0) ≠ .null ∧ HostImpl.typeName (.obj 0) ≠ HostImpl.typeName (.regex 1) ∧
    compare? exW (.obj 0) (.regex 1) = some (-1) := by
  refine ⟨by simp, by decide, ?_⟩
  rw [machine_cross_type_by_name exW _ _ (by simp) (by simp) (by decide)]; decide

/-- the relational operators among the binary operators -/
def relOf : BinOp → Option Compare.RelOp
  | .eq => some .eq | .ne => some .ne | .le => some .le | .lt => some .lt | .ge => some .ge | .gt => some .gt
  | _ => none

/-- The six relational operators of the machine host are exactly the sign tests of `Compare.valueCompare` on the reified
operands — i.e. `Compare.relop`, the operator model of C11 (`C11.relops_sign`, `C11.relops_identities`). -/
theorem machine_relop (w : World) (op : BinOp) (rop : Compare.RelOp) (hop : relOf op = some rop) (a b : Value)
    (pa pb : Compare.PValue) (ha : reify w a = some pa) (hb : reify w b = some pb) :
    HostImpl.host.binop op a b w = .bool (Compare.relop rop pa pb) := by
  have h := compare_bridge w a b pa pb ha hb
  cases op <;> simp only [relOf, Option.some.injEq, reduceCtorEq] at hop <;> subst hop <;>
    simp [HostImpl.host, HostImpl.binop, h, Compare.relop]

theorem machine_relops_sign (w : World) (a b : Value) (pa pb : Compare.PValue) (ha : reify w a = some pa) (hb : reify w b = some pb) :
    binop .eq a b w = .bool (Compare.valueCompare pa pb == 0) ∧
    binop .ne a b w = .bool (Compare.valueCompare pa pb != 0) ∧
    binop .le a b w = .bool (decide (Compare.valueCompare pa pb ≤ 0)) ∧
    binop .lt a b w = .bool (decide (Compare.valueCompare pa pb < 0)) ∧
    binop .ge a b w = .bool (decide (Compare.valueCompare pa pb ≥ 0)) ∧
    binop .gt a b w = .bool (decide (Compare.valueCompare pa pb > 0)) :=
  (C03.relops_are_sign_tests w a b).1 _ (compare_bridge w a b pa pb ha hb)

/-- … hence the operator identities of C11 hold for the machine's operators on reifiable operands: `!=` is the negation of
`==`, `>` of `<=`, `<` of `>=`; `a >= b` is `b <= a`, `a > b` is `b < a`; `==` is symmetric. -/
theorem machine_relops_identities (w : World) (a b : Value) (pa pb : Compare.PValue) (ha : reify w a = some pa)
    (hb : reify w b = some pb) :
    ∃ eq ne le lt ge gt le' lt' eq' : Bool,
      binop .eq a b w = .bool eq ∧ binop .ne a b w = .bool ne ∧ binop .le a b w = .bool le ∧ binop .lt a b w = .bool lt ∧
      binop .ge a b w = .bool ge ∧ binop .gt a b w = .bool gt ∧ binop .le b a w = .bool le' ∧ binop .lt b a w = .bool lt' ∧
      binop .eq b a w = .bool eq' ∧
      ne = !eq ∧ gt = !le ∧ lt = !ge ∧ ge = le' ∧ gt = lt' ∧ eq = eq' ∧ le = (lt || eq) ∧
      lt.toNat + eq.toNat + gt.toNat = 1 := by
  have h1 := machine_relops_sign w a b pa pb ha hb
  have h2 := machine_relops_sign w b a pb pa hb ha
  have hi := C11.relops_identities pa pb
  simp only [Compare.relop] at hi
  exact ⟨_, _, _, _, _, _, _, _, _, h1.1, h1.2.1, h1.2.2.1, h1.2.2.2.1, h1.2.2.2.2.1, h1.2.2.2.2.2, h2.2.2.1, h2.2.2.2.1, h2.1,
    hi.1, hi.2.1, hi.2.2.1, hi.2.2.2.1, hi.2.2.2.2.1, hi.2.2.2.2.2.1, hi.2.2.2.2.2.2.1, hi.2.2.2.2.2.2.2⟩

/-- a relational operator is strict -/
theorem relOf_strict {op : BinOp} {rop : Compare.RelOp} (hop : relOf op = some rop) : op ≠ .and ∧ op ≠ .or :=
  by constructor <;> (rintro rfl; cases hop)

/-- The same through the evaluator: on any machine configuration whose host is `HostImpl.host`, a relational expression whose
operands evaluate to reifiable values evaluates to the sign test of `Compare.valueCompare` on their closed values (operands
evaluated left to right, the comparison made in the world the right operand leaves behind). -/
theorem machine_eval_relop (cfg : Config World) (hh : cfg.host = HostImpl.host) (call : CallFn World) (locals : Option Env)
    (op : BinOp) (rop : Compare.RelOp) (hop : relOf op = some rop) (l r : Expr) (st st1 st2 : State World) (lv rv : Value)
    (hl : evalExpr cfg call locals l st = .ok lv st1) (hr : evalExpr cfg call locals r st1 = .ok rv st2)
    (pa pb : Compare.PValue) (ha : reify st2.world lv = some pa) (hb : reify st2.world rv = some pb) :
    evalExpr cfg call locals (.binary op l r) st = .ok (.bool (Compare.relop rop pa pb)) st2 := by
  rw [C09.evalExpr_strict cfg call locals (relOf_strict hop).1 (relOf_strict hop).2 hl hr, hh, machine_relop st2.world op rop hop lv rv pa pb ha hb]

/-- a configuration and a state over `exW` with two globals: `a` = the array cell 2, `b` = its copy, cell 3 -/
def exCfg : Config World := { host := HostImpl.host, funs := fun _ => none, maxStatements := 0 }
def exSt : State World := { globals := [(.user "a", .arr 2), (.user "b", .arr 3)], world := exW, count := 0 }

theorem exSt_eval (call : CallFn World) :
    evalExpr exCfg call none (.variable (.user "a")) exSt = .ok (.arr 2) exSt ∧
    evalExpr exCfg call none (.variable (.user "b")) exSt = .ok (.arr 3) exSt := by
  constructor <;> (rw [evalExpr]; simp [kwNull, kwFalse, kwTrue, lookupVar, Env.get?, exSt])

/-- the script expression `a == b` evaluates to true, `a < b` to false: through `Machine.evalExpr` -/
example (call : CallFn World) :
    evalExpr exCfg call none (.binary .eq (.variable (.user "a")) (.variable (.user "b"))) exSt = .ok (.bool true) exSt ∧
    evalExpr exCfg call none (.binary .lt (.variable (.user "a")) (.variable (.user "b"))) exSt = .ok (.bool false) exSt := by
  have h1 := machine_eval_relop exCfg rfl call none .eq .eq rfl _ _ exSt exSt exSt _ _ (exSt_eval call).1 (exSt_eval call).2
    _ _ exW_reify.1 exW_reify.2.1
  have h2 := machine_eval_relop exCfg rfl call none .lt .lt rfl _ _ exSt exSt exSt _ _ (exSt_eval call).1 (exSt_eval call).2
    _ _ exW_reify.1 exW_reify.2.1
  simp only [Compare.relop, exP_cmp.1] at h1 h2
  exact ⟨h1, h2⟩

/-- a copy with another key order is `==`; an array is `>` an array that starts with an array ("object" > "array"); the
self-containing array is not comparable: the operator yields null (the swallowed `RecursionError`) -/
example : binop .eq (.arr 2) (.arr 3) exW = .bool true ∧ binop .gt (.arr 2) (.arr 4) exW = .bool true ∧
    binop .le (.arr 2) (.arr 4) exW = .bool false ∧ binop .eq (.arr 5) (.arr 5) exW = .null := by
  have h1 := machine_relops_sign exW _ _ _ _ exW_reify.1 exW_reify.2.1
  have h2 := machine_relops_sign exW _ _ _ _ exW_reify.1 exW_reify.2.2.1
  rw [exP_cmp.1] at h1; rw [exP_cmp.2] at h2
  refine ⟨h1.1, h2.2.2.2.2.2, h2.2.2.1, ?_⟩
  have h : compare? exW (.arr 5) (.arr 5) = none := compare_self_containing exW 5 rfl _
  simp [binop, h]

-- stated for the bare field: with arguments applied, unification would first evaluate the dispatch on the function name
theorem host_lib : HostImpl.host.lib = HostImpl.lib := rfl

theorem lib_systemCompare (w : World) (a b : Value) : HostImpl.lib "systemCompare" [a, b] w =
    (match compare? w a b with | some c => ok (.num c) w | none => fail .null w) := rfl

/-- `systemCompare(a, b)` returns `Compare.valueCompare` of the closed values, world unchanged; a missing argument is null -/
theorem machine_systemCompare (w : World) (a b : Value) (pa pb : Compare.PValue) (ha : reify w a = some pa) (hb : reify w b = some pb) :
    HostImpl.host.lib "systemCompare" [a, b] w = .ret (.ok (.num (Compare.valueCompare pa pb : Int))) w ∧
    HostImpl.host.lib "systemCompare" [a] w = .ret (.ok (.num (Compare.valueCompare pa .null : Int))) w ∧
    HostImpl.host.lib "systemCompare" [] w = .ret (.ok (.num (Compare.valueCompare .null .null : Int))) w := by
  have h2 : HostImpl.lib "systemCompare" [a] w =
      (match compare? w a .null with | some c => ok (.num c) w | none => fail .null w) := rfl
  rw [host_lib, lib_systemCompare, h2, compare_bridge w a b pa pb ha hb, compare_bridge w a .null pa .null ha rfl, Compare.valueCompare]
  exact ⟨rfl, rfl, rfl⟩

/-- … and a script that calls it gets exactly that number: through the call wrapper `Machine.callValue`, on any
configuration whose host is `HostImpl.host`, state unchanged -/
theorem machine_call_systemCompare (cfg : Config World) (hh : cfg.host = HostImpl.host) (fuel : Nat) (st : State World)
    (a b : Value) (pa pb : Compare.PValue) (ha : reify st.world a = some pa) (hb : reify st.world b = some pb) :
    callValue cfg (fuel + 1) (.fn (.lib "systemCompare")) [a, b] st = .ok (.num (Compare.valueCompare pa pb : Int)) st := by
  rw [callValue, hh, (machine_systemCompare st.world a b pa pb ha hb).1]
  rfl

example : HostImpl.host.lib "systemCompare" [.arr 2, .arr 3] exW = .ret (.ok (.num 0)) exW ∧
    HostImpl.host.lib "systemCompare" [.arr 2, .arr 4] exW = .ret (.ok (.num 1)) exW ∧
    HostImpl.host.lib "systemCompare" [.arr 5, .arr 5] exW = .ret (.fail .null) exW := by
  have h1 := (machine_systemCompare exW _ _ _ _ exW_reify.1 exW_reify.2.1).1
  have h2 := (machine_systemCompare exW _ _ _ _ exW_reify.1 exW_reify.2.2.1).1
  rw [exP_cmp.1] at h1; rw [exP_cmp.2] at h2
  refine ⟨by simpa using h1, by simpa using h2, ?_⟩
  rw [host_lib, lib_systemCompare, show compare? exW (.arr 5) (.arr 5) = none from compare_self_containing exW 5 rfl _]
  rfl

/-- the sequential search of the host = the scan of the C11 model on the closed values -/
theorem indexOfVal_bridge (w : World) (v : Value) (pv : Compare.PValue) (hv : reify w v = some pv) :
    ∀ (xs : List Value) (pxs : List Compare.PValue) (i : Nat), mapOpt (reify w) xs = some pxs →
    indexOfVal w v xs i = some (Compare.scanFrom pv i pxs)
  | [], pxs, i, h => by rw [(mapOpt_nil_iff _ pxs).mp h]; rfl
  | x :: xs, pxs, i, h => by
    obtain ⟨y, ys, h1, h2, rfl⟩ := (mapOpt_cons_iff _ x xs pxs).mp h
    simp only [indexOfVal, Compare.scanFrom, compare_bridge w x v y pv h1 hv, indexOfVal_bridge w v pv hv xs ys (i+1) h2]
    split <;> rfl

/-- `arrayIndexOf(array, value)` (value needle, search from 0) on the machine host is `Compare.arrayIndexOf` on the closed
values: `ok` with the index (or -1), except on the empty array, where the argument check `index >= len(array)` fails with
the documented failure value -1. -/
theorem machine_indexOf (w : World) (r : Nat) (v : Value) (pxs : List Compare.PValue) (pv : Compare.PValue)
    (hr : reify w (.arr r) = some (.arr pxs)) (hv : reify w v = some pv) (hfn : ∀ f, v ≠ .fn f) :
    ∃ i, Compare.arrayIndexOf pxs pv 0 = some i ∧
      HostImpl.host.lib "arrayIndexOf" [.arr r, v] w = .ret (if pxs.length = 0 then .fail (.num (-1)) else .ok (.num i)) w := by
  obtain ⟨xs, pxs', hxs, hm, hp⟩ := (reify_arr w r _).mp hr
  cases hp
  refine ⟨_, C11.arrayIndexOf_value (reify_not_fn w v pv hv hfn) pxs 0, ?_⟩
  have hlib : HostImpl.lib "arrayIndexOf" [.arr r, v] w =
      (let xs := (w.arr? r).getD []
       if xs.length == 0 then fail (.num (-1)) w
       else match indexOfVal w v xs 0 with | some r => ok (.num r) w | none => fail .null w) := by
    cases v <;> first | exact absurd rfl (hfn _) | rfl
  rw [host_lib, hlib, hxs]
  simp only [Option.getD_some, indexOfVal_bridge w v pv hv xs pxs 0 hm, beq_iff_eq, ← mapOpt_length _ xs pxs hm]
  by_cases h0 : pxs.length = 0
  · simp [h0, fail]
  · simp [h0, ok]

/-- **`arrayIndexOf` returns the first equal element**, on the machine: for an array cell whose elements are reifiable and a
reifiable needle that is not a function, the call returns the first position `k` whose element compares equal to the needle
*under the machine's own `compare?`*, and -1 when no element does. -/
theorem machine_indexOf_first (w : World) (r : Nat) (v : Value) (xs : List Value) (pxs : List Compare.PValue) (pv : Compare.PValue)
    (hxs : w.arr? r = some xs) (hr : reify w (.arr r) = some (.arr pxs)) (hv : reify w v = some pv) (hfn : ∀ f, v ≠ .fn f) :
    (xs = [] ∧ HostImpl.host.lib "arrayIndexOf" [.arr r, v] w = .ret (.fail (.num (-1))) w) ∨
    (xs ≠ [] ∧ HostImpl.host.lib "arrayIndexOf" [.arr r, v] w = .ret (.ok (.num (-1))) w ∧
      ∀ (j : Nat) x, xs[j]? = some x → ∃ c, compare? w x v = some c ∧ c ≠ 0) ∨
    (∃ (k : Nat) (x : Value), HostImpl.host.lib "arrayIndexOf" [.arr r, v] w = .ret (.ok (.num (k : Int))) w ∧
      xs[k]? = some x ∧ compare? w x v = some 0 ∧
      ∀ (j : Nat) y, j < k → xs[j]? = some y → ∃ c, compare? w y v = some c ∧ c ≠ 0) := by
  obtain ⟨xs', pxs', hxs', hm, hp⟩ := (reify_arr w r _).mp hr
  rw [hxs] at hxs'; cases hxs'; cases hp
  have hlen := mapOpt_length _ xs pxs hm
  obtain ⟨i, hi, hlib⟩ := machine_indexOf w r v pxs pv hr hv hfn
  have hcmp : ∀ (j : Nat) x, xs[j]? = some x → ∃ px, pxs[j]? = some px ∧ compare? w x v = some (Compare.valueCompare px pv) :=
    fun j x hx => by
      obtain ⟨px, hpx, hxp⟩ := mapOpt_getElem _ xs pxs hm j x hx
      exact ⟨px, hpx, compare_bridge w x v px pv hxp hv⟩
  by_cases h0 : pxs.length = 0
  · left
    exact ⟨List.eq_nil_of_length_eq_zero (by omega), by simpa [h0] using hlib⟩
  · right
    have hne : xs ≠ [] := fun h => h0 (by rw [hlen, h]; rfl)
    simp only [h0, if_false] at hlib
    rcases (C11.indexOf_first pxs pv 0).2 i hi with ⟨rfl, hall⟩ | ⟨k, px, rfl, _, hk, hk0, hbefore⟩
    · left
      refine ⟨hne, hlib, fun j x hx => ?_⟩
      obtain ⟨px, hpx, hc⟩ := hcmp j x hx
      exact ⟨_, hc, hall j px (Nat.zero_le _) hpx⟩
    · right
      obtain ⟨x, hx, hxp⟩ := mapOpt_getElem' _ xs pxs hm k px hk
      refine ⟨k, x, hlib, hx, by rw [compare_bridge w x v px pv hxp hv, hk0], fun j y hj hy => ?_⟩
      obtain ⟨py, hpy, hc⟩ := hcmp j y hy
      exact ⟨_, hc, hbefore j py (Nat.zero_le _) hj hpy⟩

/-- in `exW` cell 4 = `[a, a, copy]`: the copy `.arr 3` (same closed value, other key order, another cell) is found at 0 -/
example : HostImpl.host.lib "arrayIndexOf" [.arr 4, .arr 3] exW = .ret (.ok (.num 0)) exW := by
  obtain ⟨i, hi, h⟩ := machine_indexOf exW 4 (.arr 3) _ _ exW_reify.2.2.1 exW_reify.2.1 (by simp)
  have h01 : Compare.valueCompare exP0 (.arr [.obj [("a", .str "x"), ("b", .num 1)], .num 2]) = 0 := exP_cmp.1
  simp [Compare.arrayIndexOf, Compare.scanFrom, exP1, h01] at hi
  subst hi
  simpa using h

end C11Bridge
