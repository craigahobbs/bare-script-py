import BareModel.NumText
import BareProofs.TextRun

/-!
# C13 — numbers as text: lemmas

The clean-up `\.0*$` (`stripL`).  The literal scanner against the grammar `TokWF`: what `scanTok` returns is a well-formed token
whose text it consumed (`scanTok_sound`), and a well-formed token is read back from its text whatever `Ends`-text follows
(`scanTok_text_rest`); nothing else is used of the scanner, here or by the expression parser (`BareProofs/C13Scan.lean`).  Then
`float()` on literal text with ASCII digits, the anatomy of `repr`-shaped literals (`strip_tok`), `str(int)` (`natStr_eq`, `intTok`),
the digit loop of `int()`.
-/

namespace C13
open NumText TextRun

theorem dropWhile_none {p : Char → Bool} {a : List Char} (ha : ∀ c ∈ a, p c = false) : a.dropWhile p = a := by
  cases a with
  | nil => rfl
  | cons x xs => simp [List.dropWhile, ha x (by simp)]

theorem zerosEnd_replicate (k : Nat) : zerosEnd (List.replicate k '0') = some [] := by
  induction k with
  | zero => rfl
  | succ k ih => simp [List.replicate_succ, zerosEnd, ih]

theorem zerosEnd_replicate_nl (k : Nat) : zerosEnd (List.replicate k '0' ++ ['\n']) = some ['\n'] := by
  induction k with
  | zero => simp [zerosEnd]
  | succ k ih => simp [List.replicate_succ, zerosEnd, ih]

theorem zerosEnd_some {l r : List Char} (h : zerosEnd l = some r) :
    ∃ k, l = List.replicate k '0' ++ r ∧ (r = [] ∨ r = ['\n']) := by
  induction l with
  | nil => simp [zerosEnd] at h; subst h; exact ⟨0, by simp⟩
  | cons c cs ih =>
    unfold zerosEnd at h
    by_cases hc : c = '0'
    · simp [hc] at h
      obtain ⟨k, hk, hr⟩ := ih h
      exact ⟨k + 1, by rw [hk, hc]; simp [List.replicate_succ], hr⟩
    · simp [hc] at h
      obtain ⟨⟨h1, h2⟩, h3⟩ := h
      subst h1 h2
      exact ⟨0, by simp [← h3], Or.inr h3.symm⟩

theorem zerosEnd_none_of_bad {l : List Char} (h : ∃ c ∈ l, c ≠ '0' ∧ c ≠ '\n') : zerosEnd l = none := by
  induction l with
  | nil => simp at h
  | cons c cs ih =>
    unfold zerosEnd
    by_cases hc : c = '0'
    · simp only [hc, if_true]
      apply ih
      obtain ⟨d, hd, hd0, hdn⟩ := h
      simp at hd
      rcases hd with hd | hd
      · exact absurd (hd.trans hc) hd0
      · exact ⟨d, hd, hd0, hdn⟩
    · simp only [hc, if_false]
      by_cases hn : c = '\n' ∧ cs = []
      · obtain ⟨d, hd, hd0, hdn⟩ := h
        simp [hn.2] at hd
        exact absurd (hd.trans hn.1) hdn
      · simp [hn]

theorem stripL_no_dot {l : List Char} (h : '.' ∉ l) : stripL l = l := by
  induction l with
  | nil => rfl
  | cons c cs ih =>
    simp at h
    have hc : c ≠ '.' := fun e => h.1 e.symm
    simp [stripL, hc, ih h.2]

theorem stripL_append_no_dot {a b : List Char} (h : '.' ∉ a) : stripL (a ++ b) = a ++ stripL b := by
  induction a with
  | nil => rfl
  | cons c cs ih =>
    simp at h
    have hc : c ≠ '.' := fun e => h.1 e.symm
    simp [stripL, hc, ih h.2]

theorem stripL_dot_zeros (k : Nat) : stripL ('.' :: List.replicate k '0') = [] := by
  simp [stripL, zerosEnd_replicate]

theorem stripL_trailing_zeros {p : List Char} (h : '.' ∉ p) (k : Nat) : stripL (p ++ '.' :: List.replicate k '0') = p := by
  rw [stripL_append_no_dot h, stripL_dot_zeros]; simp

/-- after the last point there is a character other than `0`/newline: nothing is removed -/
theorem stripL_noop {pre post : List Char} {c : Char} (h0 : c ≠ '0') (hn : c ≠ '\n') (hd : c ≠ '.') (hp : '.' ∉ post) :
    stripL (pre ++ c :: post) = pre ++ c :: post := by
  induction pre with
  | nil => simp [stripL, hd, stripL_no_dot hp]
  | cons x xs ih =>
    by_cases hx : x = '.'
    · have : zerosEnd (xs ++ c :: post) = none := zerosEnd_none_of_bad ⟨c, by simp, h0, hn⟩
      simp [stripL, hx, this]
      simpa using ih
    · simp [stripL, hx]
      simpa using ih

theorem stripL_noop_general {l : List Char}
    (h : ∀ p k, l ≠ p ++ '.' :: List.replicate k '0' ∧ l ≠ p ++ '.' :: (List.replicate k '0' ++ ['\n'])) : stripL l = l := by
  induction l with
  | nil => rfl
  | cons c cs ih =>
    have ihh : stripL cs = cs := by
      apply ih
      intro p k
      have := h (c :: p) k
      simpa using this
    by_cases hc : c = '.'
    · cases hz : zerosEnd cs with
      | none => simp [stripL, hc, hz, ihh]
      | some r =>
        obtain ⟨k, hk, hr⟩ := zerosEnd_some hz
        have := h [] k
        rcases hr with hr | hr
        · subst hr; simp [hc, hk] at this
        · subst hr; simp [hc, hk] at this
    · simp [stripL, hc, ihh]

def Digs (l : List Char) : Prop := ∀ c ∈ l, isDig c = true

structure ExpWF (strict : Bool) (e : ExpPart) : Prop where
  digs : Digs e.digits
  ne : e.digits ≠ []
  strictE : strict = true → e.upper = false ∧ e.sign ≠ .none

/-- `t` is a literal of the grammar: `strict = true` the source-literal regex, `strict = false` the `strtod` decimal grammar -/
structure TokWF (strict : Bool) (t : Tok) : Prop where
  ip : Digs t.ip
  fp : ∀ fp, t.frac = some fp → Digs fp
  someDigit : t.ip ≠ [] ∨ (strict = false ∧ ∃ fp, t.frac = some fp ∧ fp ≠ [])
  exp : ∀ e, t.exp = some e → ExpWF strict e

theorem isDig_plus : isDig '+' = false := by decide
theorem isDig_minus : isDig '-' = false := by decide
theorem isDig_dot : isDig '.' = false := by decide
theorem isDig_e : isDig 'e' = false := by decide
theorem isDig_E : isDig 'E' = false := by decide

def NoSignHead (l : List Char) : Prop := ∀ c, l.head? = some c → c ≠ '+' ∧ c ≠ '-'

theorem scanSign_sound (l : List Char) : (scanSign l).1.text ++ (scanSign l).2 = l := by
  cases l with
  | nil => rfl
  | cons c cs =>
    simp only [scanSign]
    split
    · next h => rw [h]; rfl
    · split
      · next h => rw [h]; rfl
      · rfl

theorem scanSign_text (s : Sign) {rest : List Char} (h : NoSignHead rest) : scanSign (s.text ++ rest) = (s, rest) := by
  cases s with
  | plus => simp [Sign.text, scanSign]
  | minus => simp [Sign.text, scanSign]
  | none =>
    cases rest with
    | nil => simp [Sign.text, scanSign]
    | cons c t =>
      obtain ⟨h1, h2⟩ := h c rfl
      simp [Sign.text, scanSign, h1, h2]

theorem noSignHead_of_dig {c : Char} {t : List Char} (h : isDig c = true) : NoSignHead (c :: t) := by
  intro d hd; simp at hd; subst hd
  constructor
  · intro e; subst e; simp [isDig_plus] at h
  · intro e; subst e; simp [isDig_minus] at h

theorem noSignHead_nil : NoSignHead [] := by intro c h; simp at h

theorem noSignHead_digs_append {a b : List Char} (ha : Digs a) (hne : a ≠ []) : NoSignHead (a ++ b) := by
  cases a with
  | nil => exact absurd rfl hne
  | cons c t => exact noSignHead_of_dig (ha c (by simp))

theorem digs_takeWhile (l : List Char) : Digs (l.takeWhile isDig) := fun _ => mem_takeWhile

theorem scanExp_sound (strict : Bool) (l : List Char) :
    expText (scanExp strict l).1 ++ (scanExp strict l).2 = l ∧ ∀ e, (scanExp strict l).1 = some e → ExpWF strict e := by
  cases l with
  | nil => exact ⟨rfl, nofun⟩
  | cons c cs =>
    unfold scanExp
    by_cases hc : c = 'e' ∨ (c = 'E' ∧ strict = false)
    · by_cases hok : (scanSign cs).2.takeWhile isDig ≠ [] ∧ (strict = true → (scanSign cs).1 ≠ .none)
      · simp only [if_pos hc, if_pos hok]
        refine ⟨?_, fun e he => ?_⟩
        · have hE : (if decide (c = 'E') = true then 'E' else 'e') = c := by
            rcases hc with hc | hc
            · subst hc; decide
            · rw [hc.1]; decide
          simp only [expText, ExpPart.text]
          rw [hE, List.cons_append, List.append_assoc, List.takeWhile_append_dropWhile, scanSign_sound]
        · obtain rfl := Option.some.inj he
          refine ⟨digs_takeWhile _, hok.1, fun hst => ⟨?_, hok.2 hst⟩⟩
          rcases hc with hc | hc
          · subst hc; simp
          · rw [hst] at hc; simp at hc
      · simp only [if_pos hc, if_neg hok]
        exact ⟨rfl, nofun⟩
    · simp only [if_neg hc]
      exact ⟨rfl, nofun⟩

theorem scanExp_nil (strict : Bool) : scanExp strict [] = (none, []) := rfl

/-- what may follow a literal: nothing, or a character that continues none of its parts -/
def Ends (r : List Char) : Prop := ∀ c, r.head? = some c → isDig c = false ∧ c ≠ '.' ∧ c ≠ 'e' ∧ c ≠ 'E'

theorem ends_nil : Ends [] := nofun

theorem Ends.stops {r : List Char} (h : Ends r) : Stops isDig r := fun c hc => (h c hc).1

theorem scanExp_ends (strict : Bool) {r : List Char} (h : Ends r) : scanExp strict r = (none, r) := by
  cases r with
  | nil => rfl
  | cons c cs =>
    obtain ⟨-, -, h1, h2⟩ := h c rfl
    simp [scanExp, h1, h2]

theorem scanExp_text {strict : Bool} {e : ExpPart} (h : ExpWF strict e) {r : List Char} (hr : Stops isDig r) :
    scanExp strict (e.text ++ r) = (some e, r) := by
  obtain ⟨upper, sign, digits⟩ := e
  obtain ⟨hd, hne, hst⟩ := h
  simp only at hd hne hst
  have hsign : scanSign (sign.text ++ (digits ++ r)) = (sign, digits ++ r) :=
    scanSign_text sign (noSignHead_digs_append hd hne)
  have htw := takeWhile_append_stop hd hr
  have hdw := dropWhile_append_stop hd hr
  unfold scanExp ExpPart.text
  cases upper with
  | true =>
    have hs : strict = false := by
      cases strict with
      | false => rfl
      | true => have := (hst rfl).1; simp at this
    simp [hs, hsign, htw, hdw, hne]
  | false =>
    simp [hsign, htw, hdw, hne]
    intro hs
    exact (hst hs).2

theorem scanFrac_sound (l : List Char) :
    fracText (scanFrac l).1 ++ (scanFrac l).2 = l ∧ ∀ fp, (scanFrac l).1 = some fp → Digs fp := by
  cases l with
  | nil => exact ⟨rfl, nofun⟩
  | cons c cs =>
    simp only [scanFrac]
    split
    · next hc =>
      exact ⟨by simp only [fracText, hc, List.cons_append, List.takeWhile_append_dropWhile],
        fun fp h => by cases h; exact digs_takeWhile cs⟩
    · exact ⟨rfl, nofun⟩

/-- behind the integer digits and the fraction: no digit and no point -/
theorem expText_ends (e : Option ExpPart) {r : List Char} (hr : Ends r) :
    ∀ c, (expText e ++ r).head? = some c → isDig c = false ∧ c ≠ '.' := by
  cases e with
  | none => exact fun c hc => ⟨(hr c hc).1, (hr c hc).2.1⟩
  | some e =>
    intro c hc
    simp only [expText, ExpPart.text, List.cons_append, List.head?_cons, Option.some.injEq] at hc
    subst hc
    cases e.upper <;> exact ⟨by decide, by decide⟩

theorem scanFrac_text {f : Option (List Char)} (hf : ∀ fp, f = some fp → Digs fp) {r : List Char}
    (hr : ∀ c, r.head? = some c → isDig c = false ∧ c ≠ '.') : scanFrac (fracText f ++ r) = (f, r) := by
  cases f with
  | some fp =>
    have hd := hf fp rfl
    have hs : Stops isDig r := fun c hc => (hr c hc).1
    simp [fracText, scanFrac, takeWhile_append_stop hd hs, dropWhile_append_stop hd hs]
  | none =>
    cases r with
    | nil => rfl
    | cons c cs => simp [fracText, scanFrac, (hr c rfl).2]

theorem scanTok_sound {strict : Bool} {l r : List Char} {t : Tok} (h : scanTok strict l = some (t, r)) :
    l = t.text ++ r ∧ TokWF strict t := by
  unfold scanTok at h
  simp only at h
  split at h
  · cases h
  · next hbad =>
    cases h
    obtain ⟨hf1, hf2⟩ := scanFrac_sound ((scanSign l).2.dropWhile isDig)
    obtain ⟨he1, he2⟩ := scanExp_sound strict (scanFrac ((scanSign l).2.dropWhile isDig)).2
    refine ⟨?_, digs_takeWhile _, hf2, ?_, he2⟩
    · simp only [Tok.text, List.append_assoc]
      rw [he1, hf1, List.takeWhile_append_dropWhile, scanSign_sound]
    · by_cases hip : (scanSign l).2.takeWhile isDig = []
      · have hb : ¬ (strict = true ∨ (scanFrac ((scanSign l).2.dropWhile isDig)).1.getD [] = []) := fun hh => hbad ⟨hip, hh⟩
        refine .inr ⟨?_, ?_⟩
        · cases strict with
          | false => rfl
          | true => exact absurd (Or.inl rfl) hb
        cases hf : (scanFrac ((scanSign l).2.dropWhile isDig)).1 with
        | none => exact absurd (Or.inr (by rw [hf]; rfl)) hb
        | some fp => exact ⟨fp, rfl, fun hfp => hb (Or.inr (by rw [hf, hfp]; rfl))⟩
      · exact .inl hip

theorem body_head {strict : Bool} {t : Tok} (h : TokWF strict t) :
    ∃ c r, t.ip ++ (fracText t.frac ++ expText t.exp) = c :: r ∧ (isDig c = true ∨ (strict = false ∧ c = '.')) := by
  cases hi : t.ip with
  | cons c r => exact ⟨c, _, rfl, Or.inl (h.ip c (by simp [hi]))⟩
  | nil =>
    rcases h.someDigit with hip | ⟨hs, fp, hfp, _⟩
    · exact absurd hi hip
    · exact ⟨'.', fp ++ expText t.exp, by simp [hfp, fracText], Or.inr ⟨hs, rfl⟩⟩

theorem noSignHead_body {strict : Bool} {t : Tok} (h : TokWF strict t) :
    NoSignHead (t.ip ++ (fracText t.frac ++ expText t.exp)) := by
  obtain ⟨c, r, e, hc⟩ := body_head h
  rw [e]
  rcases hc with hc | ⟨_, rfl⟩
  · exact noSignHead_of_dig hc
  · intro d hd; cases hd; decide

theorem text_head_dig {t : Tok} (h : TokWF true t) (hs : t.sign = .none) : ∃ c r, t.text = c :: r ∧ isDig c = true := by
  obtain ⟨c, r, e, hc⟩ := body_head h
  exact ⟨c, r, by simp [Tok.text, hs, Sign.text, e], hc.resolve_right (by simp)⟩

/-- a well-formed literal is exactly what the scanner reads back from its text, whatever `Ends`-text follows -/
theorem scanTok_text_rest {strict : Bool} {t : Tok} (h : TokWF strict t) {r : List Char} (hr : Ends r) :
    scanTok strict (t.text ++ r) = some (t, r) := by
  obtain ⟨sign, ip, frac, exp⟩ := t
  have hb := noSignHead_body h
  obtain ⟨c0, r0, e0, -⟩ := body_head h
  simp only at hb e0
  have hsign : scanSign (sign.text ++ (ip ++ (fracText frac ++ (expText exp ++ r)))) =
      (sign, ip ++ (fracText frac ++ (expText exp ++ r))) := by
    refine scanSign_text sign fun c hc => hb c ?_
    have e1 : ip ++ (fracText frac ++ (expText exp ++ r)) = c0 :: (r0 ++ r) := by
      rw [← List.append_assoc (fracText frac), ← List.append_assoc ip, e0]; rfl
    rw [e1] at hc; rw [e0]; exact hc
  have hE := expText_ends exp hr
  have hfs : Stops isDig (fracText frac ++ (expText exp ++ r)) := by
    cases frac with
    | some fp => exact stops_cons isDig_dot
    | none => exact fun c hc => (hE c hc).1
  have hex : scanExp strict (expText exp ++ r) = (exp, r) := by
    cases exp with
    | none => exact scanExp_ends strict hr
    | some e => exact scanExp_text (h.exp e rfl) hr.stops
  unfold scanTok Tok.text
  simp only [List.append_assoc, hsign, takeWhile_append_stop h.ip hfs, dropWhile_append_stop h.ip hfs, scanFrac_text h.fp hE, hex]
  have hgood : ¬ (ip = [] ∧ (strict = true ∨ frac.getD [] = [])) := by
    rintro ⟨h1, h2⟩
    rcases h.someDigit with hh | ⟨hs, fp, hfp, hne⟩
    · exact hh h1
    · rcases h2 with h2 | h2
      · simp [hs] at h2
      · simp only at hfp; subst hfp; exact hne (by simpa using h2)
  simp [hgood]

theorem scanTok_text {strict : Bool} {t : Tok} (h : TokWF strict t) : scanTok strict t.text = some (t, []) := by
  simpa using scanTok_text_rest h ends_nil

theorem natOf_zeros (k : Nat) : natOf (List.replicate k '0') = 0 := by
  rw [natOf, foldl_pos_eq_ofDigitChars fun c hc => by rw [List.eq_of_mem_replicate hc]; decide,
    Nat.ofDigitChars_replicate_zero, Nat.mul_zero]

theorem fracVal_zeros (k : Nat) : fracVal (some (List.replicate k '0')) = 0 := by
  simp only [fracVal, natOf_zeros]
  grind

theorem fracVal_none : fracVal none = 0 := rfl

theorem val_drop_zero_frac (sign : Sign) (ip : List Char) (k : Nat) (exp : Option ExpPart) :
    Tok.val ⟨sign, ip, some (List.replicate k '0'), exp⟩ = Tok.val ⟨sign, ip, none, exp⟩ := by
  simp only [Tok.val, fracVal_zeros, fracVal_none]

/-- characters a decimal literal with ASCII digits is made of -/
def numChar (c : Char) : Bool := isAsciiDigit c || c == '+' || c == '-' || c == '.' || c == 'e' || c == 'E'

def AsciiDigs (l : List Char) : Prop := ∀ c ∈ l, isAsciiDigit c = true

structure TokAscii (t : Tok) : Prop where
  ip : AsciiDigs t.ip
  fp : ∀ fp, t.frac = some fp → AsciiDigs fp
  ex : ∀ e, t.exp = some e → AsciiDigs e.digits

theorem isDig_of_ascii {c : Char} (h : isAsciiDigit c = true) : isDig c = true := by
  simp [isDig, decDigit?, h]

theorem ascii_of_isDig {c : Char} (h : isDig c = true) (ha : c.toNat < 128) : isAsciiDigit c = true := by
  unfold isDig decDigit? at h
  by_cases h1 : isAsciiDigit c = true
  · exact h1
  · simp [h1, ha] at h

theorem digs_of_ascii {l : List Char} (h : AsciiDigs l) : Digs l := fun c hc => isDig_of_ascii (h c hc)

theorem numChar_of_ascii {c : Char} (h : isAsciiDigit c = true) : numChar c = true := by simp [numChar, h]

def numChars : List Char := ['0', '1', '2', '3', '4', '5', '6', '7', '8', '9', '+', '-', '.', 'e', 'E']

theorem numChar_mem {c : Char} (h : numChar c = true) : c ∈ numChars := by
  simp only [numChar, isAsciiDigit, Bool.or_eq_true, beq_iff_eq, decide_eq_true_eq] at h
  rcases h with ((((h | h) | h) | h) | h) | h
  · have := (by decide : ∀ d, d < 10 → Char.ofNat (48 + d) ∈ numChars) (c.toNat - 48) (by omega)
    rwa [show 48 + (c.toNat - 48) = c.toNat by omega, Char.ofNat_toNat] at this
  all_goals (subst h; decide)

/-- what `float()` needs of such a character: ASCII, not stripped, not a digit-group underscore -/
theorem numChar_plain {c : Char} (h : numChar c = true) : c.toNat < 128 ∧ isPySpace c = false ∧ c ≠ '_' :=
  (by decide : ∀ c ∈ numChars, c.toNat < 128 ∧ isPySpace c = false ∧ c ≠ '_') c (numChar_mem h)

theorem numChar_not_reSpace {c : Char} (h : numChar c = true) : isReSpace c = false :=
  (by decide : ∀ c ∈ numChars, isReSpace c = false) c (numChar_mem h)

theorem mem_text {t : Tok} {c : Char} (h : c ∈ t.text) :
    c ∈ ['+', '-', '.', 'e', 'E'] ∨ c ∈ t.ip ∨ (∃ fp, t.frac = some fp ∧ c ∈ fp) ∨ ∃ e, t.exp = some e ∧ c ∈ e.digits := by
  have hsign : ∀ s : Sign, ∀ c ∈ s.text, c ∈ ['+', '-', '.', 'e', 'E'] := by intro s; cases s <;> simp [Sign.text]
  obtain ⟨sign, ip, frac, exp⟩ := t
  simp only [Tok.text, List.mem_append] at h
  rcases h with h | h | h | h
  · exact .inl (hsign _ c h)
  · exact .inr (.inl h)
  · cases frac with
    | none => cases h
    | some fp =>
      rcases List.mem_cons.mp h with rfl | h
      · left; decide
      · exact .inr (.inr (.inl ⟨fp, rfl, h⟩))
  · cases exp with
    | none => cases h
    | some e =>
      simp only [expText, ExpPart.text, List.mem_cons, List.mem_append] at h
      rcases h with rfl | h | h
      · left; cases e.upper <;> decide
      · exact .inl (hsign _ c h)
      · exact .inr (.inr (.inr ⟨e, rfl, h⟩))

theorem numChars_text {t : Tok} (h : TokAscii t) : ∀ c ∈ t.text, numChar c = true := by
  intro c hc
  rcases mem_text hc with hc | hc | ⟨fp, hf, hc⟩ | ⟨e, he, hc⟩
  · exact (by decide : ∀ c ∈ ['+', '-', '.', 'e', 'E'], numChar c = true) c hc
  · exact numChar_of_ascii (h.ip c hc)
  · exact numChar_of_ascii (h.fp fp hf c hc)
  · exact numChar_of_ascii (h.ex e he c hc)

theorem pyTransform_ascii {l : List Char} (h : ∀ c ∈ l, c.toNat < 128) : pyTransform l = some l := by
  induction l with
  | nil => rfl
  | cons c cs ih =>
    have hc := h c (by simp)
    simp [pyTransform, hc, ih (fun d hd => h d (by simp [hd]))]

theorem trimPy_no_space {l : List Char} (h : ∀ c ∈ l, isPySpace c = false) : trimPy l = l := by
  unfold trimPy
  rw [dropWhile_none h, dropWhile_none (fun c hc => h c (by simpa using hc))]
  simp

theorem dropUnderscores_none {l : List Char} (h : ∀ c ∈ l, c ≠ '_') (prev : Char) (hp : prev ≠ '_') :
    dropUnderscores prev l = some l := by
  induction l generalizing prev with
  | nil => simp [dropUnderscores, hp]
  | cons c cs ih =>
    have hc := h c (by simp)
    simp [dropUnderscores, hc, hp, ih (fun d hd => h d (by simp [hd])) c hc]

theorem lowerAscii_of_numChar {c : Char} (h : isDig c = true ∨ c = '.') : lowerAscii c ≠ 'i' ∧ lowerAscii c ≠ 'n' := by
  have hlow : lowerAscii c = c := by
    unfold lowerAscii
    by_cases hu : 65 ≤ c.toNat ∧ c.toNat ≤ 90
    · exfalso
      rcases h with h | h
      · have := ascii_of_isDig h (by omega)
        simp [isAsciiDigit] at this; omega
      · subst h; revert hu; decide
    · simp [hu]
  rw [hlow]
  constructor
  · intro e; subst e; revert h; decide
  · intro e; subst e; revert h; decide

theorem parseInfNan_text {strict : Bool} {t : Tok} (h : TokWF strict t) : parseInfNan t.text = none := by
  have hsign := scanSign_text t.sign (noSignHead_body h)
  unfold parseInfNan
  simp only [Tok.text, hsign]
  obtain ⟨c, r, hcr, hc⟩ := body_head h
  obtain ⟨hi, hn⟩ := lowerAscii_of_numChar (hc.imp id And.right)
  rw [hcr]
  simp [hi, hn]

/-- On the text of a literal with ASCII digits `float()` sees exactly that literal. -/
theorem floatText_text {t : Tok} (hs : TokWF false t) (ha : TokAscii t) :
    floatText (String.ofList t.text) = some (.fin t.val) := by
  have hn := fun c hc => numChar_plain (numChars_text ha c hc)
  have h1 : pyTransform t.text = some t.text := pyTransform_ascii (fun c hc => (hn c hc).1)
  have h2 : trimPy t.text = t.text := trimPy_no_space (fun c hc => (hn c hc).2.1)
  have h3 : dropUnderscores (Char.ofNat 0) t.text = some t.text :=
    dropUnderscores_none (fun c hc => (hn c hc).2.2) _ (by decide)
  simp [floatText, floatBody, String.toList_ofList, h1, h2, h3, floatLitOfBody, parseInfNan_text hs, scanTok_text hs]

theorem tokWF_weaken {t : Tok} (h : TokWF true t) : TokWF false t := by
  refine ⟨h.ip, h.fp, ?_, ?_⟩
  · rcases h.someDigit with hh | ⟨hh, _⟩
    · exact Or.inl hh
    · simp at hh
  · intro e he
    have := h.exp e he
    exact ⟨this.digs, this.ne, by simp⟩

theorem decValL_text {t : Tok} (h : TokWF false t) : decValL t.text = some t.val := by
  simp [decValL, scanTok_text h]

theorem repr_tok {l : List Char} (h : isReprL l = true) : ∃ t, l = t.text ∧ TokWF false t ∧ t.reprShape = true := by
  unfold isReprL at h
  cases hs : scanTok false l with
  | none => simp [hs] at h
  | some p =>
    obtain ⟨t, r⟩ := p
    cases r with
    | cons c cs => simp [hs] at h
    | nil =>
      simp [hs] at h
      obtain ⟨h1, h2⟩ := scanTok_sound hs
      exact ⟨t, by simpa using h1, h2, h⟩

theorem allAscii_iff {l : List Char} : allAscii l = true ↔ AsciiDigs l := by
  simp [allAscii, AsciiDigs, List.all_eq_true]

structure ReprFacts (t : Tok) : Prop where
  noPlus : t.sign ≠ .plus
  ip : AsciiDigs t.ip
  ipNe : t.ip ≠ []
  fp : ∀ fp, t.frac = some fp → AsciiDigs fp ∧ fp ≠ []
  fixed : t.exp = none → t.frac ≠ none
  sci : ∀ e, t.exp = some e → t.ip.length = 1 ∧ e.upper = false ∧ e.sign ≠ .none ∧ AsciiDigs e.digits ∧ 2 ≤ e.digits.length

theorem reprFacts {t : Tok} (h : t.reprShape = true) : ReprFacts t := by
  obtain ⟨sign, ip, frac, exp⟩ := t
  simp only [Tok.reprShape, Bool.and_eq_true, bne_iff_ne, ne_eq, allAscii_iff] at h
  obtain ⟨⟨⟨⟨h1, h2⟩, h3⟩, h4⟩, h5⟩ := h
  refine ⟨h1, h2, h3, ?_, ?_, ?_⟩
  · intro fp hfp
    simp only at hfp; subst hfp
    simpa [allAscii_iff] using h4
  · intro he; simp only at he; subst he; simpa using h5
  · intro e he
    simp only at he; subst he
    simpa [allAscii_iff, and_assoc] using h5

theorem dot_not_ascii {l : List Char} (h : AsciiDigs l) : '.' ∉ l := by
  intro hm; have := h _ hm; revert this; decide

theorem dot_not_sign (s : Sign) : '.' ∉ s.text := by cases s <;> simp [Sign.text]

theorem ascii_ne {c : Char} (h : isAsciiDigit c = true) : c ≠ '\n' ∧ c ≠ '.' := by
  constructor <;> (intro e; subst e; revert h; decide)

theorem tokAscii_of_repr {t : Tok} (f : ReprFacts t) : TokAscii t :=
  ⟨f.ip, fun fp h => (f.fp fp h).1, fun e h => (f.sci e h).2.2.2.1⟩

/-- The clean-up on a `repr`-shaped literal: the result is again a literal, with the same value; it is either the same literal
or (no exponent, all-zero fraction) the literal without its fraction. -/
theorem strip_tok {t : Tok} (hw : TokWF false t) (hr : t.reprShape = true) :
    ∃ t', stripL t.text = t'.text ∧ TokWF true t' ∧ TokAscii t' ∧ t'.val = t.val ∧ t'.sign = t.sign ∧
      (t' = t ∨ (t.exp = none ∧ t'.frac = none ∧ ∃ k, t.frac = some (List.replicate k '0'))) := by
  have f := reprFacts hr
  obtain ⟨sign, ip, frac, exp⟩ := t
  have hip : Digs ip := digs_of_ascii f.ip
  cases exp with
  | some e =>
    obtain ⟨_, hup, hsg, hed, hel⟩ := f.sci e rfl
    refine ⟨⟨sign, ip, frac, some e⟩, ?_, ?_, tokAscii_of_repr f, rfl, rfl, Or.inl rfl⟩
    · have htext : Tok.text ⟨sign, ip, frac, some e⟩ = (sign.text ++ (ip ++ fracText frac)) ++ 'e' :: (e.sign.text ++ e.digits) := by
        simp [Tok.text, expText, ExpPart.text, hup]
      rw [htext]
      apply stripL_noop (by decide) (by decide) (by decide)
      simp only [List.mem_append, not_or]
      exact ⟨dot_not_sign _, dot_not_ascii hed⟩
    · refine ⟨hip, fun fp h => digs_of_ascii (f.fp fp h).1, Or.inl f.ipNe, ?_⟩
      intro e' he'
      simp only [Option.some.injEq] at he'; subst he'
      exact ⟨digs_of_ascii hed, by intro h0; simp [h0] at hel, fun _ => ⟨hup, hsg⟩⟩
  | none =>
    cases frac with
    | none => exact absurd rfl (f.fixed rfl)
    | some fp =>
      obtain ⟨hfa, hfne⟩ := f.fp fp rfl
      by_cases hnz : ∃ c ∈ fp, c ≠ '0'
      · obtain ⟨c, hc, hc0⟩ := hnz
        obtain ⟨a, b, hab⟩ := List.append_of_mem hc
        refine ⟨⟨sign, ip, some fp, none⟩, ?_, ?_, tokAscii_of_repr f, rfl, rfl, Or.inl rfl⟩
        · have htext : Tok.text ⟨sign, ip, some fp, none⟩ = (sign.text ++ (ip ++ '.' :: a)) ++ c :: b := by
            simp [Tok.text, expText, fracText, hab]
          rw [htext]
          have hca := hfa c hc
          apply stripL_noop hc0 (ascii_ne hca).1 (ascii_ne hca).2
          apply dot_not_ascii
          intro d hd; exact hfa d (by simp [hab, hd])
        · exact ⟨hip, fun fp' h => by simp at h; subst h; exact digs_of_ascii hfa, Or.inl f.ipNe, by simp⟩
      · have hrep : fp = List.replicate fp.length '0' :=
          List.eq_replicate_iff.mpr ⟨rfl, fun c hc => Decidable.not_not.mp fun hc0 => hnz ⟨c, hc, hc0⟩⟩
        refine ⟨⟨sign, ip, none, none⟩, ?_, ?_, ⟨f.ip, by simp, by simp⟩, ?_, rfl, Or.inr ⟨rfl, rfl, fp.length, by rw [← hrep]⟩⟩
        · have htext : Tok.text ⟨sign, ip, some fp, none⟩ = (sign.text ++ ip) ++ '.' :: List.replicate fp.length '0' := by
            rw [← hrep]; simp [Tok.text, expText, fracText]
          rw [htext, stripL_trailing_zeros]
          · simp [Tok.text, expText, fracText]
          · simp only [List.mem_append, not_or]; exact ⟨dot_not_sign _, dot_not_ascii f.ip⟩
        · exact ⟨hip, by simp, Or.inl f.ipNe, by simp⟩
        · rw [hrep]; exact (val_drop_zero_frac sign ip fp.length none).symm

theorem strip_repr {s : String} (h : IsRepr s) :
    ∃ t t', s.toList = t.text ∧ TokWF false t ∧ ReprFacts t ∧ decVal s = some t.val ∧
      stripDotZeros s = String.ofList t'.text ∧ TokWF true t' ∧ TokAscii t' ∧ t'.val = t.val ∧ t'.sign = t.sign := by
  obtain ⟨t, hl, hw, hr⟩ := repr_tok h
  obtain ⟨t', hs, hw', ha', hv, hsg, _⟩ := strip_tok hw hr
  exact ⟨t, t', hl, hw, reprFacts hr, by simp only [decVal, hl, decValL_text hw], by simp only [stripDotZeros, hl, hs],
    hw', ha', hv, hsg⟩

theorem digVal_digitChar : ∀ d, d < 10 → digVal (Char.ofNat (48 + d)) = d := by decide

theorem ascii_digitChar : ∀ d, d < 10 → isAsciiDigit (Char.ofNat (48 + d)) = true := by decide

theorem digVal_ascii (c : Char) (h1 : 48 ≤ c.toNat) (h2 : c.toNat ≤ 57) : digVal c = c.toNat - 48 := by
  simp [digVal, decDigit?, isAsciiDigit, h1, h2]

theorem natStrAux_eq : ∀ (fuel n : Nat) (acc : List Char), natStrAux fuel n acc = Nat.toDigitsCore 10 fuel n acc
  | 0, _, _ => rfl
  | fuel + 1, n, acc => by
    have hd := (by decide : ∀ d, d < 10 → Nat.digitChar d = Char.ofNat (48 + d)) (n % 10) (Nat.mod_lt _ (by decide))
    simp only [Nat.toDigitsCore, natStrAux, hd]
    by_cases h : n < 10
    · simp [h, Nat.div_eq_of_lt h]
    · have : n / 10 ≠ 0 := by omega
      simp only [h, this, if_false]
      exact natStrAux_eq fuel (n / 10) _

/-- the model's own printer of naturals is core's; what is to be known of its output is known of `Nat.toDigits` -/
theorem natStr_eq (n : Nat) : natStr n = Nat.toDigits 10 n := natStrAux_eq _ _ _

theorem natOf_natStr (n : Nat) : natOf (natStr n) = n := natStr_eq n ▸ foldl_pos_toDigits digVal_ascii n

theorem ascii_natStr (n : Nat) : AsciiDigs (natStr n) := fun _ hc =>
  decide_eq_true (toNat_of_mem_toDigits (natStr_eq n ▸ hc))

theorem natStr_ne_nil (n : Nat) : natStr n ≠ [] := natStr_eq n ▸ Nat.toDigits_ne_nil

/-- `str(n)` taken apart -/
def intTok (n : Int) : Tok := ⟨if n < 0 then .minus else .none, natStr n.natAbs, none, none⟩

theorem intTok_text (n : Int) : (valueStringNum (.int n)).toList = (intTok n).text := by
  by_cases hn : n < 0 <;>
    simp [valueStringNum, intStr, intStrL, intTok, hn, String.toList_ofList, Tok.text, Sign.text, fracText, expText]

theorem intTok_wf (strict : Bool) (n : Int) : TokWF strict (intTok n) :=
  ⟨digs_of_ascii (ascii_natStr _), by simp [intTok], Or.inl (natStr_ne_nil _), by simp [intTok]⟩

theorem intTok_ascii (n : Int) : TokAscii (intTok n) := ⟨ascii_natStr _, by simp [intTok], by simp [intTok]⟩

theorem intTok_val (n : Int) : (intTok n).val = n := by
  simp only [Tok.val, intTok, signVal, fracVal, expVal, natOf_natStr]
  by_cases hn : n < 0
  · rw [show n = - (n.natAbs : Int) by omega]
    simp [Rat.intCast_neg, Rat.intCast_natCast]
    grind
  · rw [show n = (n.natAbs : Int) by omega]
    simp [Rat.intCast_natCast]
    grind

/-- digits below the base, single underscores allowed between two digits -/
inductive IntBody (base : Nat) : List Char → List Nat → Prop
  | one (c : Char) (d : Nat) : intDigit? c = some d → d < base → IntBody base [c] [d]
  | dig (c : Char) (d : Nat) (rest : List Char) (ds : List Nat) :
      intDigit? c = some d → d < base → IntBody base rest ds → IntBody base (c :: rest) (d :: ds)
  | sep (c : Char) (d : Nat) (rest : List Char) (ds : List Nat) :
      intDigit? c = some d → d < base → IntBody base rest ds → IntBody base (c :: '_' :: rest) (d :: ds)

theorem intDigit_us : intDigit? '_' = none := by decide

theorem intScan_sound (base : Nat) : ∀ (l : List Char) (prev : Char) (ds : List Nat), intScan base prev l = some ds →
    (if l.head? = some '_' then prev ≠ '_' ∧ IntBody base l.tail ds
     else (l = [] ∧ ds = [] ∧ prev ≠ '_') ∨ IntBody base l ds) := by
  intro l
  induction l with
  | nil =>
    intro prev ds h
    simp [intScan] at h
    simp [h.1, h.2]
  | cons c cs ih =>
    intro prev ds h
    unfold intScan at h
    by_cases hc : c = '_'
    · subst hc
      simp only [if_true] at h
      by_cases hp : prev = '_'
      · simp [hp] at h
      · simp only [hp, if_false] at h
        have := ih '_' ds h
        simp only [List.head?_cons, if_true, List.tail_cons]
        refine ⟨hp, ?_⟩
        by_cases hh : cs.head? = some '_'
        · simp [hh] at this
        · simp only [hh, if_false] at this
          rcases this with ⟨_, _, h3⟩ | h3
          · exact absurd rfl h3
          · exact h3
    · simp only [hc, if_false] at h
      have hhead : ¬ ((c :: cs).head? = some '_') := by simp [hc]
      simp only [hhead, if_false]
      right
      cases hd : intDigit? c with
      | none => simp [hd] at h
      | some d =>
        simp only [hd] at h
        by_cases hlt : d < base
        · simp only [hlt, if_true] at h
          cases hr : intScan base c cs with
          | none => simp [hr] at h
          | some ds' =>
            simp [hr] at h
            subst h
            have := ih c ds' hr
            by_cases hh : cs.head? = some '_'
            · simp only [hh, if_true] at this
              cases cs with
              | nil => simp at hh
              | cons x xs =>
                simp at hh; subst hh
                exact IntBody.sep c d xs ds' hd hlt this.2
            · simp only [hh, if_false] at this
              rcases this with ⟨h1, h2, _⟩ | h3
              · subst h1 h2; exact IntBody.one c d hd hlt
              · exact IntBody.dig c d cs ds' hd hlt h3
        · simp [hlt] at h

end C13
