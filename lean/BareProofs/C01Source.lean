import BareProofs.C01SourceLemmas
import BareProofs.C06Lemmas
import BareProofs.C01
import BareModel.Print

/-!
# C01 from source text: `parse_script` of the printed program is the recursive lowering

The chain T1–T4 of C01 starts from *classified* lines (`Lower.renderB B : List Line`).  This module starts from the
**text**: `PrintScript.printScript pr B` is the source text of the structured program `B` (the canonical spelling of
every line, joined by line feeds; `pr` prints expressions) and the text-level parser model `Parser.parseScript`
(`Text.scriptLines` → `Scan.classify` = the regex cascade of parser.py → `Lower.stepLine` → end-of-input checks) is
shown to return exactly `Lower.lowerProgram B` (`parseScript_print`; composed with T2: `source_then_run`).

Three steps: (a) the cascade reads every printed line back as the line it was printed from (`classify_printLine`,
parametric in expression parser and printer); (b) the line layer: plain lines joined by line feeds are their own logical
lines (`scriptLines_intercalate`, with `scriptLines_print` as instance); (c) the statement loop on plain lines of text
that classify as the lines of a list does what the line-at-a-time algorithm does on the list (`parseScript_texts`,
`parseScript_texts_error`), with printed lines, indented or not, as instances (`parseScript_printLines`,
`parseScript_printIndented`).  `BareProofs/C01SourceInst.lean` instantiates `pr` with `Print.printExpr`.
-/

namespace C01
open Text Scan PrintScript Lower Parser Machine Structured

theorem classifyL_printLineL (parse : String → Except ParseErr Expr) (pe : Expr → Chars) (l : Line)
    (hok : LineOK pe l = true) (hp : ∀ e ∈ exprs l, parse (String.ofList (pe e)) = .ok e) :
    classifyL parse (printLineL pe l) = .ok l := by
  have hn := lineOK_names hok
  have he := lineOK_exprs hok
  have hsp := lineOK_special hok
  -- a line without indentation whose shape is known
  have one : ∀ {s : Chars} {sh : Shape}, shapeS s = sh → lstripL s = s → Scan.shape s = sh :=
    fun h hs => (C10.shape_eq_shapeS hs).trans h
  -- a keyword alone on its line
  have kw : ∀ (i : Nat) {k : String} {sh : Shape}, C10.beforeLabel[i]? = some ([k], kwOnly? k sh) →
      Scan.shape k.toList = sh := fun i k sh hi => by
    have h := C10.shapeS_kwOnly i hi (ws := []) rfl
    have hs := C10.lstripL_ident (C10.beforeLabel_ident hi k (.head _)) []
    rw [List.append_nil] at h hs
    exact one h hs
  cases l with
  | assign n e => exact classifyL_assign parse pe (hn n (.head _)) (he e (.head _)) (hp e (.head _))
  | funcBegin n args laa a => exact classifyL_func parse pe laa a (hn n (.head _)) fun x hx => hn x (.tail _ hx)
  | ifBegin c =>
    have := classifyL_header parse pe ⟨"if", .ifBegin, .ifBegin⟩ (.head _) (he c (.head _)) (hp c (.head _))
    rwa [← toList_append_blank] at this
  | elif c =>
    have := classifyL_header parse pe ⟨"elif", .elif, .elif⟩ (.tail _ (.head _)) (he c (.head _)) (hp c (.head _))
    rwa [← toList_append_blank] at this
  | whileBegin c =>
    have := classifyL_header parse pe ⟨"while", .whileBegin, .whileBegin⟩ (.tail _ (.tail _ (.head _))) (he c (.head _))
      (hp c (.head _))
    rwa [← toList_append_blank] at this
  | forBegin v i e =>
    exact classifyL_for parse pe (hn v (.head _)) (fun x hx => hn x (.tail _ (Option.mem_toList.mpr hx))) (he e (.head _))
      (hp e (.head _))
  | funcEnd => show classifyL parse "endfunction".toList = _; unfold classifyL; rw [kw 1 rfl]
  | else_ =>
    show classifyL parse "else:".toList = _
    unfold classifyL; rw [show Scan.shape "else:".toList = .else_ by decide +kernel]
  | endif => show classifyL parse "endif".toList = _; unfold classifyL; rw [kw 5 rfl]
  | endwhile => show classifyL parse "endwhile".toList = _; unfold classifyL; rw [kw 7 rfl]
  | endfor => show classifyL parse "endfor".toList = _; unfold classifyL; rw [kw 9 rfl]
  | break_ => show classifyL parse "break".toList = _; unfold classifyL; rw [kw 10 rfl]
  | continue_ => show classifyL parse "continue".toList = _; unfold classifyL; rw [kw 11 rfl]
  | label n =>
    have hi := nameOK_ident (hn n (.head _))
    show classifyL parse (nameL n ++ [':']) = _
    unfold classifyL
    rw [one (C10.shapeS_label hi (by simpa using hsp) (w2 := []) rfl) (C10.lstripL_ident hi _)]
    show Except.ok (Line.label (nameOf (nameL n))) = _
    rw [nameOf_nameL (hn n (.head _))]
  | jump n c =>
    have hi := nameOK_ident (hn n (.head _))
    cases c with
    | none =>
      have := C10.classifyL_jump parse (ind := []) (w1 := [' ']) (w2 := []) rfl allSpace_blank (by simp) hi rfl
      rw [nameOf_nameL (hn n (.head _))] at this
      show classifyL parse ("jump ".toList ++ nameL n) = _
      rw [show "jump ".toList = "jump".toList ++ [' '] by decide +kernel]
      simpa only [List.nil_append, List.append_nil, List.append_assoc] using this
    | some c =>
      have := C10.frame_ok (C10.frame_jumpif (ind := []) (w0 := [' ']) (w1 := [' ']) (w2 := []) rfl allSpace_blank
        allSpace_blank (by simp) hi rfl) parse (by simpa using (starts_of_textOK (he c (.head _))).2.2.2) (hp c (.head _))
      rw [nameOf_nameL (hn n (.head _))] at this
      show classifyL parse ("jumpif (".toList ++ (pe c ++ (')' :: ' ' :: nameL n))) = _
      rw [show "jumpif (".toList = "jumpif".toList ++ [' ', '('] by decide +kernel]
      simpa only [List.nil_append, List.append_nil, List.append_assoc, List.cons_append] using this
  | ret e =>
    cases e with
    | none =>
      have h := C10.shapeS_return_bare (ws := []) rfl
      rw [List.append_nil] at h
      show classifyL parse "return".toList = _
      unfold classifyL; rw [one h rfl]
    | some e =>
      have := C10.frame_ok (C10.frame_return (ind := []) (w1 := [' ']) rfl allSpace_blank (by simp)) parse
        (starts_of_textOK (he e (.head _))).2.2.1 (hp e (.head _))
      show classifyL parse ("return ".toList ++ pe e) = _
      rw [show "return ".toList = "return".toList ++ [' '] by decide +kernel]
      simpa only [List.nil_append, List.append_nil, List.append_assoc] using this
  | «include» url sys =>
    cases sys with
    | false =>
      obtain ⟨q1, q3⟩ := escapeUrl_spec url.toList
      have := C10.classifyL_include parse (ind := []) (w1 := [' ']) (w2 := []) (escapeUrl url.toList) rfl allSpace_blank
        (by simp) q1 rfl
      rw [q3, String.ofList_toList] at this
      show classifyL parse ("include '".toList ++ (escapeUrl url.toList ++ ['\''])) = _
      rw [show "include '".toList = "include".toList ++ [' ', '\''] by decide +kernel]
      simpa only [List.nil_append, List.append_assoc, List.cons_append] using this
    | true =>
      have hu : ∀ a ∈ url.toList, a ≠ '>' := by
        have : ¬'\n' ∈ url.toList ∧ ¬'>' ∈ url.toList := by simpa using hsp
        exact fun a ha e => this.2 (e ▸ ha)
      have := C10.classifyL_include_system parse (ind := []) (w1 := [' ']) (w2 := []) url.toList rfl allSpace_blank (by simp)
        hu rfl
      rw [String.ofList_toList] at this
      show classifyL parse ("include <".toList ++ (url.toList ++ ['>'])) = _
      rw [show "include <".toList = "include".toList ++ [' ', '<'] by decide +kernel]
      simpa only [List.nil_append, List.append_assoc, List.cons_append] using this
  | exprStmt e =>
    -- a call `f(…)`: whatever `f` is, the closing parenthesis at the end rules out `jumpif(…) name`
    have hc : CallTextOK (pe e) = true := hsp
    simp only [CallTextOK, Bool.and_eq_true, beq_iff_eq] at hc
    obtain ⟨⟨hid, hp1⟩, hl⟩ := hc
    show classifyL parse (pe e) = _
    have hsplit : pe e = (pe e).takeWhile isWord ++ (pe e).dropWhile isWord := (List.takeWhile_append_dropWhile).symm
    cases hd : (pe e).dropWhile isWord with
    | nil => rw [hd] at hp1; simp at hp1
    | cons c rest =>
      rw [hd] at hp1 hsplit
      obtain rfl : c = '(' := by simpa using hp1
      have hj : rest.getLast? = some ')' := by
        rw [hsplit] at hl
        cases rest with
        | nil => simp at hl
        | cons a r => simpa [List.getLast?_append, List.getLast?_cons_cons] using hl
      have hsh : Scan.shape (pe e) = .exprStmt :=
        one (by rw [hsplit]; exact C10.shapeS_ident_paren rest hid fun _ => hj) (by rw [hsplit]; exact C10.lstripL_ident hid _)
      unfold classifyL; rw [hsh]
      show (parse (String.ofList (pe e))).map Line.exprStmt = _
      rw [hp e (.head _)]; rfl

/-- **(a) `classify_printLine`**: the statement regex cascade (mirror of parser.py:69-400) classifies the canonical
spelling of a line as that line — for every line kind (assignment, function begin/end, if/elif/else/endif,
while/endwhile, for/endfor, break, continue, label, jump, jumpif, return, both include forms, call statement),
parametric in the expression parser and printer. -/
theorem classify_printLine (parse : String → Except ParseErr Expr) (pr : Expr → String) (l : Line)
    (hok : LineOK (fun e => (pr e).toList) l = true) (hp : ∀ e ∈ exprs l, parse (pr e) = .ok e) :
    Scan.classify parse (printLine pr l) = .ok l := by
  unfold Scan.classify printLine
  rw [String.toList_ofList]
  exact classifyL_printLineL parse _ l hok (fun e he => by simpa using hp e he)

theorem intercalate_eq_joinNl : ∀ ls : List Chars, List.intercalate ['\n'] ls = joinNl ls
  | [] => rfl
  | [l] => by simp [List.intercalate, List.intersperse, joinNl]
  | l :: m :: ls => by
      have ih := intercalate_eq_joinNl (m :: ls)
      simp only [List.intercalate, List.intersperse, List.flatten_cons] at ih ⊢
      rw [ih]; simp [joinNl]

/-- the physical lines of `joinNl ls` are `ls` (a text without lines is one empty physical line) -/
theorem splitLinesL_joinNl : ∀ (ls : List Chars), (∀ l ∈ ls, '\n' ∉ l ∧ l.getLast? ≠ some '\r') →
    splitLinesL (joinNl ls) = if ls = [] then [[]] else ls
  | [], _ => rfl
  | [l], h => by simpa [joinNl] using C10.split_no_nl (h l (by simp)).1
  | l :: m :: ls, h => by
      have ih := splitLinesL_joinNl (m :: ls) (fun x hx => h x (List.mem_cons_of_mem _ hx))
      have hl := h l (by simp)
      simp only [joinNl, reduceCtorEq, if_false] at ih ⊢
      rw [C10.split_append_lf _ _ hl.2, C10.split_no_nl hl.1, ih]; rfl

/-- a line the line layer hands on as it stands: not blank, not a comment, no continuation, no line break inside or
at its end -/
structure PlainLine (t : Chars) : Prop where
  noComment : isCommentL t = false
  noCont : contBody? t = none
  noNl : '\n' ∉ t
  noCr : t.getLast? ≠ some '\r'

/-- blanks, then a line with a good first and last character and no line feed (the blanks: an indentation) -/
theorem plainLine_indent {ws t : Chars} (hw : allSpace ws = true) (hwn : '\n' ∉ ws) (hh : headGood t = true)
    (hl : lastGood t = true) (hn : '\n' ∉ t) : PlainLine (ws ++ t) := by
  have hl' := lastGood_append ws hl
  unfold lastGood at hl'
  cases hd : (ws ++ t).getLast? with
  | none => rw [hd] at hl'; cases hl'
  | some d =>
    rw [hd] at hl'
    simp only [Option.any_some, Bool.and_eq_true, Bool.not_eq_true', bne_iff_ne, ne_eq] at hl'
    obtain ⟨t0, ht0⟩ := List.getLast?_eq_some_iff.mp hd
    refine ⟨?_, ?_, noNl_append hwn hn, ?_⟩
    · cases t with
      | nil => cases hh
      | cons c r =>
        simp only [headGood, List.head?_cons, Option.any_some, Bool.and_eq_true, Bool.not_eq_true', bne_iff_ne, ne_eq] at hh
        simp [isCommentL, C10.lstrip_append_ws _ hw, C10.lstripL_cons_ns hh.1 r, hh.2]
    · unfold contBody?
      rw [ht0, reverse_dropWhile_snoc_ns t0 hl'.1]
      split
      · rename_i r he; cases he; exact absurd rfl hl'.2
      · rfl
    · intro e; rw [hd] at e; cases e; exact absurd hl'.1 (by decide)

theorem logicalLinesL_joinNl (ls : List Chars) (h : ∀ l ∈ ls, PlainLine l) :
    logicalLinesL (splitLinesL (joinNl ls)) = (C06.numbered 0 ls, none) := by
  rw [splitLinesL_joinNl ls (fun l hl => ⟨(h l hl).noNl, (h l hl).noCr⟩)]
  by_cases he : ls = []
  · subst he; rfl
  · rw [if_neg he]
    exact C06.loopL_plain ls 0 0 (fun c hc => ⟨(h c hc).noComment, (h c hc).noCont⟩)

/-- (b) for any plain lines: the logical lines of the text that joins them by line feeds are these lines, with the
indices `0 … n-1`, and there is no dangling continuation -/
theorem scriptLines_intercalate (ts : List String) (h : ∀ t ∈ ts, PlainLine t.toList) :
    Text.scriptLines ["\n".intercalate ts] = (C06.numbered 0 ts, none) := by
  rw [C10.scriptLines_eq]
  have h0 : splitChunksL (["\n".intercalate ts].map String.toList) = splitLinesL (joinNl (ts.map String.toList)) := by
    simp [splitChunksL, String.toList_intercalate, intercalate_eq_joinNl]
  have h1 := logicalLinesL_joinNl (ts.map String.toList) (by
    intro t ht
    obtain ⟨l, hl, rfl⟩ := List.mem_map.mp ht
    exact h l hl)
  simp only [h0, h1, Option.map_none]
  rw [C06.numbered_map, List.map_map]
  simp [Function.comp_def]

theorem printLines_toList (pr : Expr → String) (ls : List Line) :
    (printLines pr ls).toList = joinNl (ls.map (printLineL fun e => (pr e).toList)) := by
  unfold printLines
  rw [String.toList_intercalate, List.map_map]
  have : (String.toList ∘ printLine pr) = printLineL fun e => (pr e).toList := by
    funext l; simp [printLine]
  rw [this]
  exact intercalate_eq_joinNl _

theorem plainLine_printLine {pr : Expr → String} {l : Line} (h : LineOK (fun e => (pr e).toList) l = true)
    {ws : Chars} (hw : allSpace ws = true) (hwn : '\n' ∉ ws) : PlainLine (ws ++ (printLine pr l).toList) := by
  obtain ⟨h1, h2, h3⟩ := printLineL_text _ l h
  rw [printLine, String.toList_ofList]
  exact plainLine_indent hw hwn h1 h2 h3

/-- **(b) `scriptLines_print`**: the logical lines of the printed text are exactly the printed lines, with the indices
`0 … n-1`, and there is no dangling continuation.  (No hypothesis about blank lines, comments or backslashes: a printed
line starts with a non-blank other than `#` and ends with a non-blank other than `\` by construction, given `LineOK`.) -/
theorem scriptLines_print (pr : Expr → String) (ls : List Line)
    (hok : ∀ l ∈ ls, LineOK (fun e => (pr e).toList) l = true) :
    Text.scriptLines [printLines pr ls] = (C06.numbered 0 (ls.map (printLine pr)), none) := by
  refine scriptLines_intercalate _ fun t ht => ?_
  obtain ⟨l, hl, rfl⟩ := List.mem_map.mp ht
  have := plainLine_printLine (hok l hl) (ws := []) rfl (by simp)
  rwa [List.nil_append] at this

/-- lines of text that classify as the lines of a list: the statement loop follows the line-at-a-time algorithm on the
list, step by step (`C06.stepLogical_classified`); a rejected line is reported with the text of the lowering error -/
theorem stepAll_classified {α : Type} (start : Nat) (text : α → String) (line : α → Line) :
    ∀ (xs : List α) (i : Nat) (s : St), (∀ x ∈ xs, Scan.classify ExprParse.parseExpr (text x) = .ok (line x)) →
    match parseLinesFrom s.1 (xs.map line) with
    | .ok ps' => ∃ wh', stepAll start s (C06.numbered i (xs.map text)) = .ok (ps', wh')
    | .error e => ∃ pe, stepAll start s (C06.numbered i (xs.map text)) = .error pe ∧ pe.error = e.text
  | [], _, s, _ => ⟨s.2, rfl⟩
  | x :: xs, i, s, hc => by
      have h1 := C06.stepLogical_classified (start := start) (s := s) (ix := i) (hc x (by simp))
      simp only [List.map_cons, parseLinesFrom, C06.numbered, stepAll, h1]
      cases stepLine s.1 (line x) with
      | error e => exact ⟨_, rfl, C06.structural_error ..⟩
      | ok ps1 => exact stepAll_classified start text line xs (i + 1) (ps1, _) fun y hy => hc y (List.mem_cons_of_mem _ hy)

theorem finishAll_of_finish {start : Nat} {ps' : PState} {wh' : Where} {P : List Stmt} (h : finish ps' = .ok P) :
    finishAll start (ps', wh') none = .ok P := by
  unfold finish at h
  unfold finishAll
  cases hd : ps'.defs with
  | cons d ds => rw [hd] at h; cases h
  | nil =>
    rw [hd] at h
    cases hf : ps'.func with
    | some f => rw [hf] at h; cases h
    | none => rw [hf] at h; simpa using h

/-- … and when `finish` rejects -/
theorem finishAll_of_finish_error {start : Nat} {s : St} {e : LowerErr} (h : finish s.1 = .error e) :
    ∃ pe, finishAll start s none = .error pe ∧ pe.error = e.text := by
  obtain ⟨⟨stmts, func, defs, idx, nf⟩, wdefs, wfunc⟩ := s
  cases defs with
  | cons d ds => cases h; cases wdefs <;> exact ⟨_, rfl, rfl⟩
  | nil =>
    cases func with
    | none => cases h
    | some f => cases h; cases wfunc <;> exact ⟨_, rfl, rfl⟩

section texts
variable {α : Type} (xs : List α) (text : α → String) (line : α → Line)
  (hpl : ∀ x ∈ xs, PlainLine (text x).toList)
  (hcl : ∀ x ∈ xs, Scan.classify ExprParse.parseExpr (text x) = .ok (line x))
include hpl hcl

/-- **plain lines of text that classify as the lines of an accepted list**: the text-level parser on the joined text
returns what the line-at-a-time algorithm returns on the classified lines (any start line number) -/
theorem parseScript_texts {P : List Stmt} (hP : parseLines (xs.map line) = .ok P) (start : Nat) :
    parseScript ["\n".intercalate (xs.map text)] start = .ok P := by
  unfold parseLines at hP
  have hst := stepAll_classified start text line xs 0 (PState.init, {}) hcl
  cases hs : parseLinesFrom PState.init (xs.map line) with
  | error e => rw [hs] at hP; cases hP
  | ok ps' =>
    rw [hs] at hP hst
    obtain ⟨wh', h1⟩ := hst
    unfold parseScript
    simp only [scriptLines_intercalate _ (List.forall_mem_map.mpr hpl), h1]
    exact finishAll_of_finish hP

/-- … and a rejected list is rejected with the same error text -/
theorem parseScript_texts_error {e : LowerErr} (hE : parseLines (xs.map line) = .error e) (start : Nat) :
    ∃ pe, parseScript ["\n".intercalate (xs.map text)] start = .error pe ∧ pe.error = e.text := by
  unfold parseLines at hE
  unfold parseScript
  rw [scriptLines_intercalate _ (List.forall_mem_map.mpr hpl)]
  have hst := stepAll_classified start text line xs 0 (PState.init, {}) hcl
  cases hs : parseLinesFrom PState.init (xs.map line) with
  | error e' =>
    rw [hs] at hE hst
    cases hE
    obtain ⟨pe, h1, h2⟩ := hst
    exact ⟨pe, by simp only [h1], h2⟩
  | ok ps' =>
    rw [hs] at hE hst
    obtain ⟨wh', h1⟩ := hst
    simp only [h1]
    exact finishAll_of_finish_error hE

end texts

/-- the hypotheses about the expression printer, for a list of lines: the decidable side condition of every line and
the round trip of every expression through the expression parser -/
structure LinesPrintable (pr : Expr → String) (ls : List Line) : Prop where
  ok : ∀ l ∈ ls, LineOK (fun e => (pr e).toList) l = true
  roundTrip : ∀ l ∈ ls, ∀ e ∈ exprs l, ExprParse.parseExpr (pr e) = .ok e

theorem LinesPrintable.classify {pr : Expr → String} {ls : List Line} (h : LinesPrintable pr ls) :
    ∀ l ∈ ls, Scan.classify ExprParse.parseExpr (printLine pr l) = .ok l :=
  fun l hl => classify_printLine _ pr l (h.ok l hl) (h.roundTrip l hl)

theorem LinesPrintable.plain {pr : Expr → String} {ls : List Line} (h : LinesPrintable pr ls) :
    ∀ l ∈ ls, PlainLine (printLine pr l).toList := fun l hl => by
  have := plainLine_printLine (h.ok l hl) (ws := []) rfl (by simp)
  rwa [List.nil_append] at this

/-- **any accepted list of classified lines**: the text-level parser on the printed text returns what the
line-at-a-time algorithm returns on the classified lines (any start line number). -/
theorem parseScript_printLines (pr : Expr → String) (ls : List Line) (h : LinesPrintable pr ls) {P : List Stmt}
    (hP : parseLines ls = .ok P) (start : Nat := 1) : parseScript [printLines pr ls] start = .ok P :=
  parseScript_texts ls (printLine pr) id h.plain h.classify (by rwa [List.map_id]) start

/-- **any rejected list of classified lines** is rejected by the text-level parser with the same error text -/
theorem parseScript_printLines_error (pr : Expr → String) (ls : List Line) (h : LinesPrintable pr ls) {e : LowerErr}
    (hE : parseLines ls = .error e) (start : Nat := 1) :
    ∃ pe, parseScript [printLines pr ls] start = .error pe ∧ pe.error = e.text :=
  parseScript_texts_error ls (printLine pr) id h.plain h.classify (by rwa [List.map_id]) start

theorem LinesPrintable.append {pr : Expr → String} {a b : List Line} (ha : LinesPrintable pr a)
    (hb : LinesPrintable pr b) : LinesPrintable pr (a ++ b) :=
  ⟨fun l hl => (List.mem_append.mp hl).elim (ha.ok l) (hb.ok l),
   fun l hl => (List.mem_append.mp hl).elim (ha.roundTrip l) (hb.roundTrip l)⟩

/-- the hypotheses about the expression printer, for a structured program -/
def ProgRoundTrips (pr : Expr → String) (B : List SStmt) : Prop :=
  ∀ l ∈ renderB B, ∀ e ∈ exprs l, ExprParse.parseExpr (pr e) = .ok e

theorem linesPrintable_of_prog {pr : Expr → String} {B : List SStmt} (hp : ProgPrintable pr B = true)
    (hr : ProgRoundTrips pr B) : LinesPrintable pr (renderB B) :=
  ⟨by simpa [ProgPrintable, List.all_eq_true] using hp, hr⟩

theorem renderB_append (B C : List SStmt) : renderB (B ++ C) = renderB B ++ renderB C := by
  induction B with
  | nil => rfl
  | cons s B ih => simp [renderB, ih]

/-- **(c) `parseScript_print` — C01 from source text.**  For every structured program `B` (any nesting depth, any
length) that is well nested, has its function definitions numbered in source order and no adjacent include nodes (as in
`C01.parseLines_render`), and whose lines are printable: the text-level parser model — physical lines, comments and
continuations, the regex cascade, expression parsing, the stack algorithm, the end-of-input checks — applied to the
source text `printScript pr B` returns exactly the recursive lowering of `B`. -/
theorem parseScript_print (pr : Expr → String) (B : List SStmt) (hw : WellNested B) (hf : FidsInOrder B)
    (hi : NoAdjacentIncludes B) (hp : ProgPrintable pr B = true) (hr : ProgRoundTrips pr B) (start : Nat := 1) :
    parseScript [printScript pr B] start = .ok (lowerProgram B) :=
  parseScript_printLines pr (renderB B) (linesPrintable_of_prog hp hr) (parseLines_render B hw hf hi) start

/-- … and an ill-nested program is rejected, from its text -/
theorem parseScript_print_rejects (pr : Expr → String) (B : List SStmt) (hw : ¬ WellNested B)
    (hp : ProgPrintable pr B = true) (hr : ProgRoundTrips pr B) (start : Nat := 1) :
    ∃ pe, parseScript [printScript pr B] start = .error pe := by
  obtain ⟨e, he⟩ := parse_rejects_ill_nested B hw
  obtain ⟨pe, h1, -⟩ := parseScript_printLines_error pr (renderB B) (linesPrintable_of_prog hp hr) he start
  exact ⟨pe, h1⟩

variable {W : Type} (cfg : Config W) (base : Option String)

/-- **`source_then_run` — C01 (machine level) from source text**: parsing the *text* of a structured program succeeds,
and executing the parsed model from a fresh counter equals the (ticked) structured run of the source
(`C01.parse_then_run` with `Parser.parseScript [printScript pr B]` in place of `parseLines (renderB B)`). -/
theorem source_then_run (pr : Expr → String) (B : List SStmt) (hw : WellNested B) (hf : FidsInOrder B)
    (hi : NoAdjacentIncludes B) (hr : NoRawB B) (hp : ProgPrintable pr B = true) (hrt : ProgRoundTrips pr B)
    (fuel : Nat) (st : State W) :
    ∃ P, parseScript [printScript pr B] = .ok P ∧
      execute₀ cfg fuel P base st =
        toRes (execTB cfg (callValue₀ cfg) (execIncludes₀ cfg) false B 0 fuel none base { st with count := 0 }) :=
  ⟨lowerProgram B, parseScript_print pr B hw hf hi hp hrt, execute₀_lowered cfg base B hr fuel st⟩

/-- an indentation: blanks, no line feed -/
def IndentOK (ws : Chars) : Prop := allSpace ws = true ∧ '\n' ∉ ws

/-- the text of classified lines, each behind its own indentation -/
def printIndented (pr : Expr → String) (items : List (String × Line)) : String :=
  "\n".intercalate (items.map fun p => p.1 ++ printLine pr p.2)

/-- **indentation does not matter**: every line of the printed text may stand behind any blanks (other than a line
feed); the parser returns the same model.  `SkipsLeadingBlanks ExprParse.parseExpr` (the expression parser skips blanks
in front of an expression *statement*; all other statement kinds strip the indentation themselves) is
`C10.parseExpr_skips_leading_blanks`. -/
theorem parseScript_printIndented (hsk : C10.SkipsLeadingBlanks ExprParse.parseExpr) (pr : Expr → String)
    (items : List (String × Line)) (hind : ∀ p ∈ items, IndentOK p.1.toList)
    (h : LinesPrintable pr (items.map Prod.snd)) {P : List Stmt} (hP : parseLines (items.map Prod.snd) = .ok P)
    (start : Nat := 1) : parseScript [printIndented pr items] start = .ok P := by
  refine parseScript_texts items (fun p => p.1 ++ printLine pr p.2) Prod.snd ?_ ?_ hP start
  · intro p hp
    rw [String.toList_append]
    exact plainLine_printLine (h.ok p.2 (List.mem_map_of_mem hp)) (hind p hp).1 (hind p hp).2
  · -- an indented line classifies as the line itself does, up to the column of an error
    intro p hp
    have hc0 := h.classify p.2 (List.mem_map_of_mem hp)
    unfold Scan.classify at hc0 ⊢
    have := C10.classifyL_leading_ws ExprParse.parseExpr hsk (printLine pr p.2).toList (hind p hp).1
    rw [String.toList_append]
    rw [hc0] at this
    cases hr : classifyL ExprParse.parseExpr (p.1.toList ++ (printLine pr p.2).toList) with
    | ok x => rw [hr] at this; simp only [C10.EqUpToColumn] at this; rw [this]
    | error x => rw [hr] at this; simp [C10.EqUpToColumn] at this

/-- indentation by nesting depth: `n` blanks per level -/
def depthOf : List Line → Nat → List (Nat × Line)
  | [], _ => []
  | l :: ls, d =>
    match l with
    | .funcBegin .. | .ifBegin _ | .whileBegin _ | .forBegin .. => (d, l) :: depthOf ls (d + 1)
    | .funcEnd | .endif | .endwhile | .endfor => (d - 1, l) :: depthOf ls (d - 1)
    | .elif _ | .else_ => (d - 1, l) :: depthOf ls d
    | _ => (d, l) :: depthOf ls d

theorem depthOf_snd : ∀ (ls : List Line) (d : Nat), (depthOf ls d).map Prod.snd = ls
  | [], _ => rfl
  | l :: ls, d => by
      unfold depthOf
      split <;> simp only [List.map_cons, depthOf_snd ls]

/-- the usual layout: every block body indented by `n` more blanks -/
def printPretty (pr : Expr → String) (n : Nat) (B : List SStmt) : String :=
  printIndented pr ((depthOf (renderB B) 0).map fun p => (String.ofList (List.replicate (n * p.1) ' '), p.2))

theorem parseScript_printPretty (hsk : C10.SkipsLeadingBlanks ExprParse.parseExpr) (pr : Expr → String) (n : Nat)
    (B : List SStmt) (hw : WellNested B) (hf : FidsInOrder B) (hi : NoAdjacentIncludes B)
    (hp : ProgPrintable pr B = true) (hr : ProgRoundTrips pr B) (start : Nat := 1) :
    parseScript [printPretty pr n B] start = .ok (lowerProgram B) := by
  have hsnd : ((depthOf (renderB B) 0).map fun p => (String.ofList (List.replicate (n * p.1) ' '), p.2)).map Prod.snd = renderB B := by
    rw [List.map_map]; exact depthOf_snd (renderB B) 0
  refine parseScript_printIndented hsk pr _ ?_ (by rw [hsnd]; exact linesPrintable_of_prog hp hr)
    (by rw [hsnd]; exact parseLines_render B hw hf hi) start
  intro p hp'
  obtain ⟨q, -, rfl⟩ := List.mem_map.mp hp'
  simp only [String.toList_ofList]
  exact ⟨by simp [allSpace, show isSpace ' ' = true from by decide],
    fun hm => absurd (List.eq_of_mem_replicate hm) (by decide)⟩

mutual
/-- structural equality of expression trees, as a Boolean (`Expr` is a nested inductive: no derived `DecidableEq`) -/
def exprBEq : Expr → Expr → Bool
  | .number a, .number b => decide (a = b)
  | .string a, .string b => decide (a = b)
  | .variable a, .variable b => decide (a = b)
  | .function f as, .function g bs => decide (f = g) && argsBEq as bs
  | .binary o a b, .binary p c d => decide (o = p) && exprBEq a c && exprBEq b d
  | .unary o a, .unary p b => decide (o = p) && exprBEq a b
  | .group a, .group b => exprBEq a b
  | _, _ => false
def argsBEq : List Expr → List Expr → Bool
  | [], [] => true
  | a :: as, b :: bs => exprBEq a b && argsBEq as bs
  | _, _ => false
end

mutual
theorem exprBEq_sound : ∀ (a b : Expr), exprBEq a b = true → a = b
  | .number a, b, h => by cases b <;> simp_all [exprBEq]
  | .string a, b, h => by cases b <;> simp_all [exprBEq]
  | .variable a, b, h => by cases b <;> simp_all [exprBEq]
  | .function f as, b, h => by
      cases b with
      | function g bs =>
        simp only [exprBEq, Bool.and_eq_true, decide_eq_true_eq] at h
        rw [h.1, argsBEq_sound as bs h.2]
      | _ => simp [exprBEq] at h
  | .binary o a b, e, h => by
      cases e with
      | binary p c d =>
        simp only [exprBEq, Bool.and_eq_true, decide_eq_true_eq] at h
        rw [h.1.1, exprBEq_sound a c h.1.2, exprBEq_sound b d h.2]
      | _ => simp [exprBEq] at h
  | .unary o a, e, h => by
      cases e with
      | unary p b =>
        simp only [exprBEq, Bool.and_eq_true, decide_eq_true_eq] at h
        rw [h.1, exprBEq_sound a b h.2]
      | _ => simp [exprBEq] at h
  | .group a, e, h => by
      cases e with
      | group b => rw [exprBEq_sound a b (by simpa only [exprBEq] using h)]
      | _ => simp [exprBEq] at h
theorem argsBEq_sound : ∀ (as bs : List Expr), argsBEq as bs = true → as = bs
  | [], [], _ => rfl
  | a :: as, b :: bs, h => by
      simp only [argsBEq, Bool.and_eq_true] at h
      rw [exprBEq_sound a b h.1, argsBEq_sound as bs h.2]
  | [], _ :: _, h | _ :: _, [], h => by simp [argsBEq] at h
end

/-- the expression `e` survives `parse ∘ pr`, as a Boolean -/
def roundTripB (parse : String → Except ParseErr Expr) (pr : Expr → String) (e : Expr) : Bool :=
  match parse (pr e) with
  | .ok e' => exprBEq e' e
  | .error _ => false

theorem roundTripB_sound {parse : String → Except ParseErr Expr} {pr : Expr → String} {e : Expr}
    (h : roundTripB parse pr e = true) : parse (pr e) = .ok e := by
  unfold roundTripB at h
  split at h
  · rename_i e' he; rw [he, exprBEq_sound e' e h]
  · cases h

/-! Examples: the hypotheses are inhabited (expression printer: `Print.printExpr`).  The round trip of the expressions of
`SourceDemo.prog`, and with it (c) on that program, is in BareProofs/C01SourceInst.lean, where it follows from
`C02.parse_print`. -/

namespace SourceDemo

def v (s : String) : Expr := .variable (.user s)
def num (n : Nat) : Expr := .number n

/-- one line of every kind (the two `for` forms, `jump`/`jumpif`, both `return`s, both `include`s — the quoted URL
contains a quote and a backslash —, a label, a call statement, an `async` variadic function header) -/
def lines : List Line :=
  [ .assign (.user "total") (.binary .add (v "total") (num 1)),
    .funcBegin (.user "walk") [.user "xs", .user "k"] true true, .funcBegin (.user "noArgs") [] false false, .funcEnd,
    .ifBegin (.binary .eq (v "k") (.string "a:b")), .elif (.unary .not (v "k")), .else_, .endif,
    .whileBegin (.binary .lt (v "k") (num 10)), .endwhile,
    .forBegin (.user "x") none (v "xs"), .forBegin (.user "x") (some (.user "ix")) (.function (.user "arrayNew") [num 1, num 2]),
    .endfor, .break_, .continue_,
    .label (.user "top"), .jump (.user "top") none, .jump (.user "top") (some (.group (.binary .gt (v "k") (num 0)))),
    .ret none, .ret (some (.unary .neg (v "k"))),
    .include "a'b\\c.bare" false, .include "lib/unittest.bare" true,
    .exprStmt (.function (.user "systemLog") [.binary .add (.string "k = ") (v "k")]) ]

/-- a program with includes, an async variadic function containing a nested `if`/`elif`/`else`, a `while` with
`break`, a `for` with an index variable and `continue`, `return` with and without a value, call statements; and a
global loop -/
def prog : List SStmt :=
  [ .include [⟨"a'b\\c.bare", false⟩, ⟨"lib.bare", true⟩],
    .expr (some (.user "n")) (num 0),
    .func 0 (.user "walk") [.user "xs", .user "k"] true true
      [ .ite (.binary .gt (v "k") (num 1)) [.ret (some (v "k"))]
          (.elif (.function (.user "arrayLength") [v "xs"])
            [ .while (.binary .lt (v "k") (num 10))
                [ .for (.user "x") (some (.user "ix")) (v "xs")
                    [ .ite (v "x") [.cont] (.elif (.binary .eq (v "ix") (num 2)) [.brk] .none),
                      .expr (some (.user "k")) (.binary .add (v "k") (.binary .mul (v "x") (num 2))) ],
                  .ite (.binary .gt (v "k") (num 5)) [.brk]
                    (.els [.expr none (.function (.user "systemLog") [.binary .add (.string "k=") (v "k")])]) ] ]
            (.els [.ret none])),
        .ret (some (.unary .neg (.group (.binary .sub (v "k") (num 1))))) ],
    .while (.unary .not (v "n"))
      [ .expr none (.function (.user "walk") [.function (.user "arrayNew") [num 1, num 2], v "n"]),
        .ite (v "n") [.brk] .none ] ]

/-- the same program with a `break` outside of any loop -/
def illNested : List SStmt := prog ++ [.brk]

theorem lines_ok : ∀ l ∈ lines, LineOK (fun e => (Print.printExpr e).toList) l = true := by decide +kernel
theorem lines_roundTrip : ∀ l ∈ lines, ∀ e ∈ exprs l, ExprParse.parseExpr (Print.printExpr e) = .ok e := by
  have : (lines.all fun l => (exprs l).all (roundTripB ExprParse.parseExpr Print.printExpr)) = true := by decide +kernel
  simp only [List.all_eq_true] at this
  exact fun l hl e he => roundTripB_sound (this l hl e he)

theorem prog_printable : ProgPrintable Print.printExpr prog = true := by decide +kernel
theorem prog_structure : WellNested prog ∧ FidsInOrder prog ∧ NoAdjacentIncludes prog := by decide
theorem prog_noRaw : NoRawB prog := by simp [prog, NoRawB, NoRawS, NoRawE]

end SourceDemo

open SourceDemo in
/-- (a) every line of `SourceDemo.lines` is read back from its text -/
example : ∀ l ∈ lines, Scan.classify ExprParse.parseExpr (printLine Print.printExpr l) = .ok l :=
  fun l hl => classify_printLine _ _ l (lines_ok l hl) (lines_roundTrip l hl)

/-- what the texts look like -/
example : (SourceDemo.lines.map (printLine Print.printExpr)).take 6 =
    ["total = total + 1", "async function walk(xs, k...):", "function noArgs():", "endfunction", "if k == 'a:b':",
     "elif !k:"] := by decide +kernel
example : printLine Print.printExpr (.include "a'b\\c.bare" false) = "include 'a\\'b\\\\c.bare'" := by decide +kernel
example : printLine Print.printExpr (.jump (.user "top") (some (.group (.binary .gt (SourceDemo.v "k") (SourceDemo.num 0))))) =
    "jumpif ((k > 0)) top" := by decide +kernel

/-- why the side conditions are there: without them the cascade reads another statement -/
example : Scan.shape "else:".toList = .else_ ∧                                   -- a label named `else`
    Scan.shape "if = 1".toList = .assign "if".toList 5 "1".toList ∧              -- assignment comes first
    Scan.shape "a == b".toList = .assign "a".toList 3 "= b".toList ∧             -- an expression statement that is not a call
    Scan.shape "jumpif(a) b".toList = .jump "b".toList (some (7, "a".toList)) := by decide_lit

open SourceDemo in
/-- (b) the logical lines of the program text: 33 lines numbered 0 … 32, no dangling continuation -/
example : Text.scriptLines [printScript Print.printExpr prog] =
    (C06.numbered 0 ((renderB prog).map (printLine Print.printExpr)), none) ∧ (renderB prog).length = 33 :=
  ⟨scriptLines_print _ _ (by simpa [ProgPrintable, List.all_eq_true] using prog_printable), by decide⟩

end C01
