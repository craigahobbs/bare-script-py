import BareProofs.C06Regex
import BareProofs.C06Regex2Lemmas

/-!
# C06Regex2 — line continuation, `return`, `if / elif / while`, `for`: hand-written scanner = first backtracking match of the
pattern AST

Continues `BareProofs/C06Regex.lean` (same conventions: lines without `'\n'`; the scanner applied as `Scan.shape` applies it).
-/

namespace C06Regex
open Rx Text Scan RxPatterns

/-! ## line continuation -/

/-- **`\\\s*$`** with `re.search` (what `_R_SCRIPT_CONTINUATION.sub('', line)` removes): `Text.contBody?` is the text before
the leftmost match. -/
theorem continuation_regex (line : Chars) (hnl : '\n' ∉ line) : contBody? line = rxContBody line := by
  unfold rxContBody search
  cases hc : contBody? line with
  | none =>
    rw [searchFrom_none]
    · rfl
    · intro i hi
      cases hd : line.drop i with
      | nil => rfl
      | cons x r =>
        rw [Nat.zero_add, cont_matchFrom_cons _ _ _ (hd ▸ not_mem_drop hnl)]
        refine if_neg fun hx => ?_
        rw [← List.take_append_drop i line, hd, hx.1, contBody?_of_decomp _ _ hx.2] at hc
        cases hc
  | some body =>
    obtain ⟨w, hw, e⟩ := C10.contBody?_some_decomp hc
    subst e
    have hd : (body ++ '\\' :: w).drop body.length = '\\' :: w := List.drop_left
    rw [searchFrom_first continuation ⟨(body ++ '\\' :: w).length, [], []⟩ body.length _ 0 (by simp)]
    · simp only [Nat.zero_add, Option.map_some, List.take_left]
    · intro i hi
      cases hb : body.drop i with
      | nil => exact absurd hb (drop_ne_nil hi)
      | cons x r =>
        have hdi : (body ++ '\\' :: w).drop i = x :: (r ++ '\\' :: w) := by
          rw [List.drop_append_of_le_length (Nat.le_of_lt hi), hb]; rfl
        rw [hdi, cont_matchFrom_cons _ _ _ (hdi ▸ not_mem_drop hnl)]
        refine if_neg fun hx => ?_
        have := List.all_eq_true.mp hx.2 '\\' (List.mem_append_right _ List.mem_cons_self)
        exact absurd this (by decide)
    · rw [hd, cont_matchFrom_cons _ _ _ (hd ▸ not_mem_drop hnl), if_pos ⟨rfl, hw⟩]
      simp only [Nat.zero_add, List.length_append]

/-! ## `return` -/

/-- **`^(?P<return>\s*return(?:\s+(?P<expr>\S.*))?)\s*$`** -/
theorem return_regex (line : Chars) (hnl : '\n' ∉ line) : onLine return? line = rxReturn line := by
  have hret : startsNonBlank "return" = true := by decide +kernel
  unfold onLine rxReturn matchAt matchFrom return_ return?
  rw [lead_cap _ _ _ _ _ _ ((avoids_kw hret).seq _), seq_m, kw_m "return" hret]
  cases hk : keyword? "return" (lstripL line) with
  | none => rfl
  | some r =>
    have hd := drop_keyword hk
    simp only []
    rw [return_tail _ _ (noNL_keyword (noNL_lstrip hnl) hk)]
    cases ha : allSpace r with
    | true => rfl
    | false =>
      simp only [Bool.false_eq_true, if_false]
      cases r with
      | nil => cases ha
      | cons c r' =>
        by_cases hc : isSpace c = true
        · simp only [hc, if_true]
          cases he : lstripL (c :: r') with
          | nil => rw [allSpace_of_lstrip_nil he] at ha; cases ha
          | cons x e =>
            -- the group `return` is the whole line, the expression is its end
            have hle : (x :: e).length ≤ (lstripL line).length := by
              have h1 := C10.keyword?_length hk
              have h2 := lstrip_split_length (c :: r')
              rw [he] at h2; omega
            have htot := length_of_drop line (c :: r') _ hd (List.cons_ne_nil c r')
            have hg2 := slice_suffix line (c :: r') _ _ hd (List.takeWhile_sublist isSpace).length_le
            rw [drop_ind, he] at hg2
            simp only [htot] at hg2 ⊢
            simp only [Option.bind_some, St.group, St.span, List.lookup, beq_self_eq_true, show (2 == 1) = false from rfl,
              Option.map_some, hg2, Shape.shift, off_shift line _ hle]
            simp only [slice, List.drop_zero, Nat.sub_zero, List.take_length]
        · simp only [hc, Bool.false_eq_true, if_false]; rfl

example : '\n' ∉ "  return  a + b ".toList ∧
    rxReturn "  return  a + b ".toList = some (.ret (some (10, "a + b ".toList))) := by decide_lit
example : rxReturn "return \t".toList = some (.ret none) ∧ rxReturn "returnx".toList = none := by decide_lit

/-! ## `if` / `elif` / `while` -/

theorem kwExprColon_rx (w : String) (mk : Nat → Chars → Shape) (hw : startsNonBlank w = true)
    (hmk : ∀ n e k, (mk n e).shift k = mk (n + k) e) (line : Chars) (hnl : '\n' ∉ line) :
    onLine (kwExprColon? w mk) line = rxKwExprColon w mk line := by
  unfold onLine rxKwExprColon matchAt matchFrom RxPatterns.kwExprColon kwExprColon?
  rw [lead_kw w hw]
  cases hk : keyword? w (lstripL line) with
  | none => rfl
  | some r =>
    simp only []
    rw [exprColon_rx _ _ _ _ _ (noNL_keyword (noNL_lstrip hnl) hk)]
    cases he : exprColon? r with
    | none => rfl
    | some ne =>
      obtain ⟨n, e⟩ := ne
      obtain ⟨tl, htl⟩ := exprColon?_drop he
      have hg : slice line ((line.takeWhile isSpace).length + w.length + n,
          (line.takeWhile isSpace).length + w.length + n + e.length) = e :=
        slice_prefix line _ _ e tl (by rw [← List.drop_drop, drop_keyword hk, htl]) rfl
      simp only [Option.map_some, Option.bind_some, St.span, List.lookup, beq_self_eq_true, hg, hmk, lstrip_length]
      rw [Nat.add_right_comm, Nat.add_comm w.length]

/-- **`^\s*kw\s+(?P<expr>.+)\s*:\s*$`**: the expression ends before the LAST colon that is followed by blanks only. -/
theorem kwExprColon_regex (w : String) (mk : Nat → Chars → Shape) (c : Char) (cs : List Char) (hw : w.toList = c :: cs)
    (hc : isSpace c = false) (hmk : ∀ n e k, (mk n e).shift k = mk (n + k) e) (line : Chars) (hnl : '\n' ∉ line) :
    onLine (kwExprColon? w mk) line = rxKwExprColon w mk line :=
  kwExprColon_rx w mk (startsNonBlank_of hw hc) hmk line hnl

theorem if_regex (line : Chars) (hnl : '\n' ∉ line) :
    onLine (kwExprColon? "if" .ifBegin) line = rxKwExprColon "if" .ifBegin line :=
  kwExprColon_rx "if" .ifBegin (by decide +kernel) (fun _ _ _ => rfl) line hnl

theorem elif_regex (line : Chars) (hnl : '\n' ∉ line) :
    onLine (kwExprColon? "elif" .elif) line = rxKwExprColon "elif" .elif line :=
  kwExprColon_rx "elif" .elif (by decide +kernel) (fun _ _ _ => rfl) line hnl

theorem while_regex (line : Chars) (hnl : '\n' ∉ line) :
    onLine (kwExprColon? "while" .whileBegin) line = rxKwExprColon "while" .whileBegin line :=
  kwExprColon_rx "while" .whileBegin (by decide +kernel) (fun _ _ _ => rfl) line hnl

example : '\n' ∉ " if  a ? b : c :  ".toList ∧
    rxKwExprColon "if" .ifBegin " if  a ? b : c :  ".toList = some (.ifBegin 5 "a ? b : c ".toList) := by decide_lit
example : rxKwExprColon "while" .whileBegin "while   :".toList = some (.whileBegin 7 [' ']) ∧
    rxKwExprColon "while" .whileBegin "while :".toList = none := by decide_lit

/-! ## `for` -/

theorem for_read (line value : Chars) (index : Option Chars) (p : Nat) (rest : Chars) (caps : List (Nat × Nat × Nat))
    (hd : line.drop p = rest) (hnl : '\n' ∉ rest) (hsl : rest.length ≤ (lstripL line).length)
    (h1 : (caps.lookup 1).map (slice line) = some value) (h2 : (caps.lookup 2).map (slice line) = index) :
    (forTail.m ⟨p, rest, caps⟩ some).bind
        (fun st => (st.group line 1).bind fun value => (st.span 3).map fun ab =>
          Shape.forBegin value (st.group line 2) ab.1 (slice line ab)) =
      (match ws1? rest with
        | none => none
        | some r =>
          match keyword? "in" r with
          | none => none
          | some r =>
            match exprColon? r with
            | some (n, e) => some (Shape.forBegin value index ((lstripL line).length - r.length + n) e)
            | none => none).map (Shape.shift (line.length - (lstripL line).length)) := by
  rw [for_tail _ _ _ hnl]
  cases hw : ws1? rest with
  | none => rfl
  | some r =>
    simp only []
    cases hkw : keyword? "in" r with
    | none => rfl
    | some r' =>
      simp only []
      cases he : exprColon? r' with
      | none => rfl
      | some ne =>
        obtain ⟨n, e⟩ := ne
        obtain ⟨pre1, e1⟩ := ws1?_suffix hw
        obtain ⟨pre2, e2⟩ := keyword?_suffix hkw
        have hsuf : rest = (pre1 ++ pre2) ++ r' := by rw [e1, e2, List.append_assoc]
        have hle : r'.length ≤ rest.length := by rw [hsuf, List.length_append]; exact Nat.le_add_left _ _
        have htot := length_of_drop line rest p hd (fun e0 => by rw [e0] at hw; cases hw)
        obtain ⟨tl, htl⟩ := exprColon?_drop he
        have hg : slice line (p + rest.length - r'.length + n, p + rest.length - r'.length + n + e.length) = e :=
          slice_prefix line _ _ e tl (by
            rw [show p + rest.length - r'.length + n = p + ((rest.length - r'.length) + n) from by omega,
              ← List.drop_drop, hd, ← List.drop_drop, drop_of_suffix hsuf, htl]) rfl
        cases hl1 : caps.lookup 1 with
        | none => rw [hl1] at h1; cases h1
        | some ab =>
          rw [hl1] at h1
          simp only [Option.bind_some, St.group, St.span, List.lookup, show (1 == 3) = false from rfl,
            show (2 == 3) = false from rfl, beq_self_eq_true, Option.map_some, hg, Shape.shift, hl1, h2,
            Option.some.inj h1]
          rw [Nat.add_right_comm, off_shift line r' (Nat.le_trans hle hsl), htot]

theorem ws1_in_comma (rA r1 : Chars) (h : lstripL rA = ',' :: r1) : ∀ r, ws1? rA = some r → keyword? "in" r = none := by
  intro r hr
  cases rA with
  | nil => cases hr
  | cons c r0 =>
    by_cases hc : isSpace c = true
    · simp only [ws1?, hc, if_true, Option.some.injEq] at hr
      have : lstripL r0 = ',' :: r1 := by rwa [lstripL, List.dropWhile_cons, hc] at h
      rw [← hr, this]; rfl
    · simp [ws1?, hc] at hr

theorem forTail_avoids_word : Avoids isWord forTail :=
  ((avoids_one (a := .space) fun _ hx => C10.word_not_space hx).plus).seq _

theorem forTail_comma (st : St) (r1 : Chars) (h : lstripL st.rest = ',' :: r1) : forTail.m st some = none := by
  have hin : startsNonBlank "in" = true := by decide +kernel
  rw [forTail, ws1_det _ _ _ ((avoids_kw hin).seq _ _)]
  cases hr : st.rest with
  | nil => rfl
  | cons c r0 =>
    by_cases hc : isSpace c = true
    · have : lstripL r0 = ',' :: r1 := by rwa [hr, lstripL, List.dropWhile_cons, hc] at h
      simp only [hc, if_true]
      rw [seq_m, kw_m "in" hin]
      simp only [this]; rfl
    · simp only [hc, Bool.false_eq_true, if_false]

/-- **`^\s*for\s+(?P<value>[A-Za-z_]\w*)(?:\s*,\s*(?P<index>[A-Za-z_]\w*))?\s+in\s+(?P<values>.+)\s*:\s*$`** -/
theorem for_regex (line : Chars) (hnl : '\n' ∉ line) : onLine for? line = rxFor line := by
  unfold onLine rxFor matchAt matchFrom forBegin for?
  rw [lead_kw "for" (by decide +kernel)]
  have hl1 := lstrip_split_length line
  cases hk : keyword? "for" (lstripL line) with
  | none => rfl
  | some r0 =>
    have hr0 : '\n' ∉ r0 := noNL_keyword (noNL_lstrip hnl) hk
    have hlen0 := C10.keyword?_length hk
    have hd0 := drop_keyword hk
    simp only []
    rw [ws1_det _ _ _ ((avoids_cap_ident _ _).seq _ _)]
    cases r0 with
    | nil => rfl
    | cons c r0' =>
      have hr0' : '\n' ∉ r0' := not_mem_tail hr0
      by_cases hc : isSpace c = true
      · rw [show ws1? (c :: r0') = some (lstripL r0') from by simp only [ws1?, hc, if_true]]
        simp only [hc, if_true]
        have hl2 := lstrip_split_length r0'
        have hd1 : line.drop ((line.takeWhile isSpace).length + "for".length + 1 + (r0'.takeWhile isSpace).length) = lstripL r0' :=
          drop_ws (drop_add_of_drop line [c] r0' _ hd0)
        -- behind the first identifier: an optional `, index`, then `forTail`, neither of which begins with a word character
        rw [seq_m, cap_ident_det _ _ _ _ (by
          unfold lit
          exact Avoids.opt_seq (Avoids.ws_seq ((avoids_lit false (by decide)).seq _) fun _ hx => C10.word_not_space hx).ncg
            forTail_avoids_word some)]
        cases hi : ident? (lstripL r0') with
        | none => rfl
        | some vr =>
          obtain ⟨value, rA⟩ := vr
          have hrA : '\n' ∉ rA := noNL_ident (noNL_lstrip hr0') hi
          have hsp := C10.ident?_decomp hi
          have hlA := congrArg List.length hsp
          rw [List.length_append] at hlA
          have hdA := drop_add_of_drop line value rA _ (hd1.trans hsp)
          have hg1 := slice_prefix line _ _ value rA (hd1.trans hsp) rfl
          have hslA : rA.length ≤ (lstripL line).length := by simp only [List.length_cons] at hlen0; omega
          simp only []
          rw [seq_m, for_index _ _ (by exact forTail_avoids_word some) (by exact fun r1 h => forTail_comma _ r1 h)]
          simp only []
          have hlA2 := lstrip_split_length rA
          cases hcm : lstripL rA with
          | nil =>
            exact (for_read line value none _ rA _ hdA hrA hslA (by simp [List.lookup, hg1]) rfl).symm
          | cons x r1 =>
            by_cases hx : x = ','
            · subst hx
              simp only [if_true]
              cases hix : ident? (lstripL r1) with
              | none =>
                simp only []
                cases hw : ws1? rA with
                | none => rfl
                | some r => simp only [ws1_in_comma rA r1 hcm r hw]; rfl
              | some ir =>
                obtain ⟨ix, r2⟩ := ir
                have hr1 : '\n' ∉ r1 := noNL_lstrip_tail hrA hcm
                have hsp2 := C10.ident?_decomp hix
                have hlB := congrArg List.length hsp2
                have hlB2 := lstrip_split_length r1
                rw [hcm] at hlA2
                simp only [List.length_append, List.length_cons] at hlB hlA2
                have hdB : line.drop ((line.takeWhile isSpace).length + "for".length + 1 + (r0'.takeWhile isSpace).length + value.length +
                    (rA.takeWhile isSpace).length + 1 + (r1.takeWhile isSpace).length) = lstripL r1 :=
                  drop_ws (drop_ws_char hdA hcm)
                have hdC := drop_add_of_drop line ix r2 _ (hdB.trans hsp2)
                have hg2 := slice_prefix line _ _ ix r2 (hdB.trans hsp2) rfl
                simp only []
                exact (for_read line value (some ix) _ r2 _ hdC (noNL_ident (noNL_lstrip hr1) hix) (by omega)
                  (by simp [List.lookup, hg1]) (by simp [List.lookup, hg2])).symm
            · have := head_ne hx r1
              simp only [hx, if_false]
              exact (for_read line value none _ rA _ hdA hrA hslA (by simp [List.lookup, hg1]) rfl).symm
      · simp [hc, ws1?]

example : '\n' ∉ " for v , i in  a : b :".toList ∧
    rxFor " for v , i in  a : b :".toList = some (.forBegin ['v'] (some ['i']) 15 "a : b ".toList) := by decide_lit
example : rxFor "for v in x:".toList = some (.forBegin ['v'] none 9 ['x']) ∧ rxFor "for v, in x:".toList = none := by decide_lit

/-! ## the cascade, with the patterns of this module -/

/-- `Scan.shape` = the regex cascade of parser.py (`RxPatterns.rxShape`: every test by `Rx.matchAt` on the pattern AST, in the
order of `parse_script`) — given that scanner and pattern agree on the line for `function`, `jump` / `jumpif` and the two
`include` forms. -/
theorem shape_is_cascade_partial2 (line : Chars) (hnl : '\n' ∉ line)
    (hFunction : onLine funcBegin? line = rxFunction line)
    (hJump : onLine jump? line = rxJump line)
    (hInclude : onLine include? line = rxInclude line) :
    shape line = rxShape line :=
  shape_is_cascade_partial line hnl hFunction (if_regex line hnl) (elif_regex line hnl) (while_regex line hnl)
    (for_regex line hnl) hJump (return_regex line hnl) hInclude

end C06Regex
