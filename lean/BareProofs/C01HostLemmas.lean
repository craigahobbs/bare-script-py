import BareProofs.C01Erase
import BareProofs.RunRelMachine

/-!
# Hosts that expose `systemGlobalGet` / `systemGlobalSet`: tree surgery, and the simulation it induces

`C01.ticked_erasure` / `parse_exec_structured` assume `HostNoReserved host`: no library interaction tree ever issues a
`globalGet` / `globalSet` request for a parser-generated name.  A host that exposes `systemGlobalGet` / `systemGlobalSet`
cannot satisfy it (`systemGlobalGet('__bareScriptValues0')`).  `sanitize h` answers such a read `none` and drops such a write;
`guard h` ends the library call with the runtime error `reservedMsg`, which nothing in the machine catches: the whole run
ends with it.  Both satisfy the law and leave a `TreeOK` tree literally unchanged.

`machine_g` / `pure_g`: a run with the guarded host *equals* the run with the real host, and the run with the sanitised one,
or it ends with that error.  `TreeSim tg t` (`tg` may stop with `reservedMsg` where `t` goes on) is carried through the
library trees (`runTree_g`); "equal, or ended with that error" is a relation between runs with a rule for `bind`
(`guardRel`), so the evaluator and the cache-free machine respect it (`C09.RunRel.evalExpr_rel`, `C09.MachAgree.machine_rel`);
the pure source-level reading is walked here (`pure_g`).
-/

namespace C01
open StructuredS Machine Lower Structured

variable {W : Type}

/-- the message of the runtime error with which a guarded host answers a request for a reserved global -/
def reservedMsg : String := "reserved __bareScript global requested by a library function"

/-- every `globalGet n` with a generated `n` is answered `none` without reading, every `globalSet n` with a generated `n`
is dropped -/
def sanT : LibTree W → LibTree W
  | .ret o w => .ret o w
  | .call f args w k => .call f args w fun v w' => sanT (k v w')
  | .globalGet n w k => if isGen n then sanT (k none w) else .globalGet n w fun ov w' => sanT (k ov w')
  | .globalSet n v w k => if isGen n then sanT (k w) else .globalSet n v w fun w' => sanT (k w')

/-- a request for a generated name ends the library call with the runtime error `reservedMsg` -/
def guardT : LibTree W → LibTree W
  | .ret o w => .ret o w
  | .call f args w k => .call f args w fun v w' => guardT (k v w')
  | .globalGet n w k => if isGen n then .ret (.rt reservedMsg) w else .globalGet n w fun ov w' => guardT (k ov w')
  | .globalSet n v w k => if isGen n then .ret (.rt reservedMsg) w else .globalSet n v w fun w' => guardT (k w')

/-- the host whose library functions cannot see or change the parser-generated globals -/
def sanitize (h : Host W) : Host W :=
  { h with lib := fun name args w => sanT (h.lib name args w), other := fun k args w => sanT (h.other k args w) }

/-- the host whose library functions fail (fatally) when they ask for a parser-generated global -/
def guard (h : Host W) : Host W :=
  { h with lib := fun name args w => guardT (h.lib name args w), other := fun k args w => guardT (h.other k args w) }

def guardCfg (cfg : Config W) : Config W := { cfg with host := guard cfg.host }
def sanCfg (cfg : Config W) : Config W := { cfg with host := sanitize cfg.host }
def guardS (scfg : SConfig W) : SConfig W := { scfg with host := guard scfg.host }
def sanS (scfg : SConfig W) : SConfig W := { scfg with host := sanitize scfg.host }

/-- **the run named a reserved global**: the (guarded) run ended with the guard's runtime error -/
def touchesReserved : Res W → Bool
  | .err (.host m) _ => m == reservedMsg
  | _ => false

def touchesReservedO : Out W → Bool
  | .err (.host m) _ => m == reservedMsg
  | _ => false

theorem treeOK_sanT : ∀ t : LibTree W, TreeOK (sanT t)
  | .ret o w => TreeOK.ret o w
  | .call f args w k => TreeOK.call _ _ _ _ fun v w' => treeOK_sanT (k v w')
  | .globalGet n w k => by
      simp only [sanT]
      split
      · exact treeOK_sanT (k none w)
      · rename_i h
        exact TreeOK.globalGet _ _ _ (by simpa using h) fun ov w' => treeOK_sanT (k ov w')
  | .globalSet n v w k => by
      simp only [sanT]
      split
      · exact treeOK_sanT (k w)
      · rename_i h
        exact TreeOK.globalSet _ _ _ _ (by simpa using h) fun w' => treeOK_sanT (k w')

theorem treeOK_guardT : ∀ t : LibTree W, TreeOK (guardT t)
  | .ret o w => TreeOK.ret o w
  | .call f args w k => TreeOK.call _ _ _ _ fun v w' => treeOK_guardT (k v w')
  | .globalGet n w k => by
      simp only [guardT]
      split
      · exact TreeOK.ret _ _
      · rename_i h
        exact TreeOK.globalGet _ _ _ (by simpa using h) fun ov w' => treeOK_guardT (k ov w')
  | .globalSet n v w k => by
      simp only [guardT]
      split
      · exact TreeOK.ret _ _
      · rename_i h
        exact TreeOK.globalSet _ _ _ _ (by simpa using h) fun w' => treeOK_guardT (k w')

theorem sanT_of_treeOK {t : LibTree W} (ht : TreeOK t) : sanT t = t := by
  induction ht with
  | ret o w => rfl
  | call f args w k _ ih => simp only [sanT]; congr 1; funext v w'; exact ih v w'
  | globalGet n w k hn _ ih => simp only [sanT, hn, Bool.false_eq_true, if_false]; congr 1; funext v w'; exact ih v w'
  | globalSet n v w k hn _ ih => simp only [sanT, hn, Bool.false_eq_true, if_false]; congr 1; funext w'; exact ih w'

theorem guardT_of_treeOK {t : LibTree W} (ht : TreeOK t) : guardT t = t := by
  induction ht with
  | ret o w => rfl
  | call f args w k _ ih => simp only [guardT]; congr 1; funext v w'; exact ih v w'
  | globalGet n w k hn _ ih => simp only [guardT, hn, Bool.false_eq_true, if_false]; congr 1; funext v w'; exact ih v w'
  | globalSet n v w k hn _ ih => simp only [guardT, hn, Bool.false_eq_true, if_false]; congr 1; funext w'; exact ih w'

/-- `tg` is `t`, except that `tg` may end with the error `reservedMsg` where `t` goes on (in any way) -/
inductive TreeSim : LibTree W → LibTree W → Prop
  | ret (o : LibOut) (w : W) : TreeSim (.ret o w) (.ret o w)
  | call (f : Value) (args : List Value) (w : W) (kg k : Value → W → LibTree W) :
      (∀ v w', TreeSim (kg v w') (k v w')) → TreeSim (.call f args w kg) (.call f args w k)
  | globalGet (n : Name) (w : W) (kg k : Option Value → W → LibTree W) :
      (∀ ov w', TreeSim (kg ov w') (k ov w')) → TreeSim (.globalGet n w kg) (.globalGet n w k)
  | globalSet (n : Name) (v : Value) (w : W) (kg k : W → LibTree W) :
      (∀ w', TreeSim (kg w') (k w')) → TreeSim (.globalSet n v w kg) (.globalSet n v w k)
  | abort (w : W) (t : LibTree W) : TreeSim (.ret (.rt reservedMsg) w) t

theorem TreeSim.refl : ∀ t : LibTree W, TreeSim t t
  | .ret o w => .ret o w
  | .call _ _ _ k => .call _ _ _ _ _ fun v w' => TreeSim.refl (k v w')
  | .globalGet _ _ k => .globalGet _ _ _ _ fun ov w' => TreeSim.refl (k ov w')
  | .globalSet _ _ _ k => .globalSet _ _ _ _ _ fun w' => TreeSim.refl (k w')

theorem treeSim_guard_self : ∀ t : LibTree W, TreeSim (guardT t) t
  | .ret o w => .ret o w
  | .call f args w k => .call _ _ _ _ _ fun v w' => treeSim_guard_self (k v w')
  | .globalGet n w k => by
      simp only [guardT]
      split
      · exact .abort _ _
      · exact .globalGet _ _ _ _ fun ov w' => treeSim_guard_self (k ov w')
  | .globalSet n v w k => by
      simp only [guardT]
      split
      · exact .abort _ _
      · exact .globalSet _ _ _ _ _ fun w' => treeSim_guard_self (k w')

theorem treeSim_guard_san : ∀ t : LibTree W, TreeSim (guardT t) (sanT t)
  | .ret o w => .ret o w
  | .call f args w k => .call _ _ _ _ _ fun v w' => treeSim_guard_san (k v w')
  | .globalGet n w k => by
      simp only [guardT, sanT]
      split
      · exact .abort _ _
      · exact .globalGet _ _ _ _ fun ov w' => treeSim_guard_san (k ov w')
  | .globalSet n v w k => by
      simp only [guardT, sanT]
      split
      · exact .abort _ _
      · exact .globalSet _ _ _ _ _ fun w' => treeSim_guard_san (k w')

structure HostSim (hg h : Host W) : Prop where
  truthy : hg.truthy = h.truthy
  binop : hg.binop = h.binop
  neg : hg.neg = h.neg
  notCallable : hg.notCallable = h.notCallable
  logFailure : hg.logFailure = h.logFailure
  newArray : hg.newArray = h.newArray
  builtin : hg.builtin = h.builtin
  lib : ∀ name args w, TreeSim (hg.lib name args w) (h.lib name args w)
  other : ∀ k args w, TreeSim (hg.other k args w) (h.other k args w)

structure CfgSim (cg c : Config W) : Prop where
  host : HostSim cg.host c.host
  funs : cg.funs = c.funs
  maxStatements : cg.maxStatements = c.maxStatements
  builtins : cg.builtins = c.builtins
  debug : cg.debug = c.debug
  resolve : cg.resolve = c.resolve
  fetch : cg.fetch = c.fetch

structure SCfgSim (sg s : SConfig W) : Prop where
  host : HostSim sg.host s.host
  sfuns : sg.sfuns = s.sfuns
  builtins : sg.builtins = s.builtins
  debug : sg.debug = s.debug

theorem SCfgSim.toConfig {sg s : SConfig W} (h : SCfgSim sg s) : CfgSim sg.toConfig s.toConfig :=
  ⟨h.host, rfl, rfl, h.builtins, h.debug, rfl, rfl⟩

theorem hostSim_guard_self (h : Host W) : HostSim (guard h) h :=
  ⟨rfl, rfl, rfl, rfl, rfl, rfl, rfl, fun _ _ _ => treeSim_guard_self _, fun _ _ _ => treeSim_guard_self _⟩

theorem hostSim_guard_san (h : Host W) : HostSim (guard h) (sanitize h) :=
  ⟨rfl, rfl, rfl, rfl, rfl, rfl, rfl, fun _ _ _ => treeSim_guard_san _, fun _ _ _ => treeSim_guard_san _⟩

def OutG (og o : Out W) : Prop := og = o ∨ ∃ s, og = .err (.host reservedMsg) s
def ArgsG (og o : ArgsOut W) : Prop := og = o ∨ ∃ s, og = .err (.host reservedMsg) s
def ResG (rg r : Res W) : Prop := rg = r ∨ ∃ s, rg = .err (.host reservedMsg) s
def SOutG (og o : SOut W) : Prop := og = o ∨ ∃ s, og = .err (.host reservedMsg) s
def OcG {α : Type} (og o : C09.Oc α W) : Prop := og = o ∨ ∃ s, og = .err (.host reservedMsg) s

def CallG (callg call : CallFn W) : Prop := ∀ f args s, OutG (callg f args s) (call f args s)

/-- the relations are one, `xg = x ∨ ∃ s, xg = ea s` with `ea` the guard's error in the result type at hand; a function
that passes that error on (`C09.resOut`, `exprK`, `retK`, `bodyK`, `toResS`, …) carries one into another -/
theorem guardG_map {α β : Type} {ea : State W → α} {eb : State W → β} (K : α → β) (hK : ∀ s, K (ea s) = eb s) {xg x : α}
    (h : xg = x ∨ ∃ s, xg = ea s) : K xg = K x ∨ ∃ s, K xg = eb s :=
  h.elim (fun e => .inl (e ▸ rfl)) fun ⟨s, e⟩ => .inr ⟨s, e ▸ hK s⟩

theorem OutG.oc {og o : Out W} : OutG og o ↔ OcG og.oc o.oc :=
  or_congr C09.Out.oc_eq.symm (exists_congr fun _ => C09.Out.oc_eq.symm)

theorem ArgsG.oc {og o : ArgsOut W} : ArgsG og o ↔ OcG og.oc o.oc :=
  or_congr C09.ArgsOut.oc_eq.symm (exists_congr fun _ => C09.ArgsOut.oc_eq.symm)

theorem ResG.oc {rg r : Res W} : ResG rg r ↔ OcG rg.oc r.oc :=
  or_congr C09.Res.oc_eq.symm (exists_congr fun _ => C09.Res.oc_eq.symm)

theorem OcG.bind {α β : Type} {og o : C09.Oc α W} (h : OcG og o) {kg k : α → State W → C09.Oc β W}
    (hk : ∀ a s, OcG (kg a s) (k a s)) : OcG (og.bind kg) (o.bind k) := by
  rcases h with rfl | ⟨s, rfl⟩
  · cases og with
    | ok a s => exact hk a s
    | err e s | oof => exact .inl rfl
  · exact .inr ⟨s, rfl⟩

/-- "equal, or the left run ended with the guard's error" as a relation between runs: related states are equal -/
def guardRel : C09.RunRel W Unit where
  St := fun s s' => s' = s
  R := fun _ og S => OcG og (S ())
  ok := fun _ _ _ hs => .inl (hs ▸ rfl)
  err := fun _ _ _ _ hs => .inl (hs ▸ rfl)
  bind := fun h hk => h.bind fun a s => hk a s s rfl

theorem callG_rel {callg call : CallFn W} (hcall : CallG callg call) : (guardRel (W := W)).Call callg fun _ => call :=
  fun f a s s' hs => by cases hs; exact OutG.oc.1 (hcall f a s)

theorem callG_of {callg call : CallFn W} (h : (guardRel (W := W)).Call callg fun _ => call) : CallG callg call :=
  fun f a s => OutG.oc.2 (h f a s s rfl)

theorem lookupFunc_g {cg c : Config W} (hh : HostSim cg.host c.host) (hb : cg.builtins = c.builtins) (l : Option Env) (g : Env)
    (n : Name) : lookupFunc cg l g n = lookupFunc c l g n := by
  simp only [lookupFunc, hh.builtin, hb]

section
variable {cg c : Config W} (hh : HostSim cg.host c.host) (hb : cg.builtins = c.builtins)
  {callg call : CallFn W} (hcall : CallG callg call) (l : Option Env)
include hh hb hcall

omit hcall in
theorem guardAgree : C09.EvalAgree (guardRel (W := W)) cg c l l fun _ => True where
  truthy := fun _ _ _ hs => by rw [hs, hh.truthy]
  binop := fun _ _ _ _ _ hs => by rw [hs, hh.binop]
  neg := hh.neg.symm
  var := fun _ _ _ _ hs => by rw [hs]
  func := fun _ _ _ _ hs => by rw [hs, lookupFunc_g hh hb]

theorem evalExpr_g : ∀ (e : Expr) (st : State W), OutG (evalExpr cg callg l e st) (evalExpr c call l e st) :=
  fun e st => OutG.oc.2 (guardRel.evalExpr_rel (guardAgree hh hb l) (callG_rel hcall) e st st (fun _ _ => trivial) rfl)

theorem evalArgs_g : ∀ (as : List Expr) (st : State W), ArgsG (evalArgs cg callg l as st) (evalArgs c call l as st) :=
  fun as st => ArgsG.oc.2 (guardRel.evalArgs_rel (guardAgree hh hb l) (callG_rel hcall) as st st (fun _ _ => trivial) rfl)

theorem evalIf_g : ∀ (as : List Expr) (st : State W), OutG (evalIf cg callg l as st) (evalIf c call l as st) :=
  fun as st => OutG.oc.2 (guardRel.evalIf_rel (guardAgree hh hb l) (callG_rel hcall) as st st (fun _ _ => trivial) rfl)
end

theorem runTree_g {cg c : Config W} (hh : HostSim cg.host c.host) (hd : cg.debug = c.debug) {callg call : CallFn W}
    (hcall : CallG callg call) {tg t : LibTree W} (ht : TreeSim tg t) :
    ∀ st : State W, OutG (runTree cg callg tg st) (runTree c call t st) := by
  induction ht with
  | ret o w =>
    intro st
    cases o <;> simp only [runTree, hd, hh.logFailure] <;> exact Or.inl rfl
  | call f args w kg k _ ih =>
    intro st
    rw [OutG.oc, C09.runTree_call, C09.runTree_call]
    exact (OutG.oc.1 (hcall f args _)).bind fun v s => OutG.oc.1 (ih v s.world s)
  | globalGet n w kg k _ ih => intro st; simp only [runTree]; exact ih _ _ _
  | globalSet n v w kg k _ ih => intro st; simp only [runTree]; exact ih _ _
  | abort w t => intro st; simp only [runTree]; exact Or.inr ⟨_, rfl⟩

theorem guardMach {cg c : Config W} (hc : CfgSim cg c) : C09.MachAgree guardRel cg c where
  eq := fun _ _ h => h
  funs := hc.funs.symm
  builtins := hc.builtins.symm
  resolve := hc.resolve.symm
  fetch := hc.fetch.symm
  truthy := hc.host.truthy.symm
  binop := hc.host.binop.symm
  neg := hc.host.neg.symm
  builtin := hc.host.builtin.symm
  notCallable := hc.host.notCallable.symm
  newArray := hc.host.newArray.symm
  oof := fun _ => .inl rfl
  tick := fun s _ => .inl (by rw [C09.tickOc, C09.tickOc, C09.overBudget, C09.overBudget, hc.maxStatements])
  enter := fun _ _ _ _ => .inl rfl
  typeError := fun _ _ _ => .inl rfl
  setGlobals := fun _ _ _ => .inl rfl
  lib := fun h name args s _ => OutG.oc.1 (runTree_g hc.host hc.debug (callG_of h) (hc.host.lib name args s.world) s)
  other := fun h k args s _ => OutG.oc.1 (runTree_g hc.host hc.debug (callG_of h) (hc.host.other k args s.world) s)

/-- **the generic simulation, machine side**: with configurations that differ by `TreeSim` only, the run of `cg` equals the
run of `c` or ends with the `reservedMsg` error -/
theorem machine_g {cg c : Config W} (hc : CfgSim cg c) : ∀ fuel : Nat,
    CallG (callValue₀ cg fuel) (callValue₀ c fuel) ∧
    (∀ P l base pc st, ResG (execM₀ cg fuel P l base pc st) (execM₀ c fuel P l base pc st)) ∧
    (∀ base incs st, ResG (execIncludes₀ cg fuel base incs st) (execIncludes₀ c fuel base incs st)) := fun fuel =>
  have ⟨hC, hE, hI⟩ := (guardMach hc).machine_rel fuel fuel (.inl rfl)
  ⟨fun f a s => OutG.oc.2 (hC f a s rfl), fun P l base pc st => ResG.oc.2 (hE P l base pc st rfl),
    fun base incs st => ResG.oc.2 (hI base incs st rfl)⟩

theorem callS_script_none (scfg : SConfig W) (k : Nat) (id : FnId) (args : List Value) (st : State W)
    (h : scfg.sfuns id = none) : callS scfg (k+1) (.fn (.script id)) args st =
      .ok .null { st with world := scfg.host.notCallable (.fn (.script id)) st.world } := by
  rw [callS]; simp only [h]

theorem callS_nonfn (scfg : SConfig W) (k : Nat) (v : Value) (args : List Value) (st : State W) (h : ∀ fn, v ≠ .fn fn) :
    callS scfg (k+1) v args st = .ok .null { st with world := scfg.host.notCallable v st.world } := by
  rw [callS.eq_def]
  cases v with
  | fn fn => exact absurd rfl (h fn)
  | _ => rfl

/-- a machine configuration that `Agree`s with a structured one (only used to reach the combinator forms of `execSS`) -/
def cfgOf (scfg : SConfig W) : Config W :=
  { scfg.toConfig with funs := fun id => (scfg.sfuns id).map (lowerDef 0) }

theorem agree_cfgOf (scfg : SConfig W) : Agree (cfgOf scfg) scfg (fun _ => 0) := ⟨rfl, rfl, rfl, fun _ => rfl⟩

theorem callLooked_g {callg call : CallFn W} (hc : CallG callg call) (n : Name) (r : Option Value) (vs : List Value)
    (s : State W) : OutG (callLooked callg n r vs s) (callLooked call n r vs s) := by
  cases r with
  | none => exact Or.inl rfl
  | some fv =>
    cases fv with
    | null => exact Or.inl rfl
    | _ => exact hc _ vs s

theorem condK_g {hg h : Host W} (hh : HostSim hg h) {Ag A Bg B : State W → SOut W} (hA : ∀ s, SOutG (Ag s) (A s))
    (hB : ∀ s, SOutG (Bg s) (B s)) {og o : Out W} (ho : OutG og o) : SOutG (condK hg Ag Bg og) (condK h A B o) := by
  rcases ho with rfl | ⟨s, rfl⟩
  · cases og with
    | ok v s =>
      simp only [condK, hh.truthy]
      split
      · exact hA s
      · exact hB s
    | err e s | oof => exact Or.inl rfl
  · exact Or.inr ⟨s, rfl⟩

theorem seqK_g {Gg G : Option Env → State W → SOut W} (hG : ∀ l s, SOutG (Gg l s) (G l s)) {og o : SOut W} (ho : SOutG og o) :
    SOutG (seqK Gg og) (seqK G o) := by
  rcases ho with rfl | ⟨s, rfl⟩
  · cases og <;> first | exact hG _ _ | exact Or.inl rfl
  · exact Or.inr ⟨s, rfl⟩

theorem loopK_g {Gg G : Option Env → State W → SOut W} (hG : ∀ l s, SOutG (Gg l s) (G l s)) {og o : SOut W} (ho : SOutG og o) :
    SOutG (loopK Gg og) (loopK G o) := by
  rcases ho with rfl | ⟨s, rfl⟩
  · cases og <;> first | exact hG _ _ | exact Or.inl rfl
  · exact Or.inr ⟨s, rfl⟩

section
variable {sg s : SConfig W} {hg h : Host W} (hh : HostSim hg h) (k : Nat)
  (ihF : ∀ v ix b a n c l st, SOutG (forS sg k v ix b a n c l st) (forS s k v ix b a n c l st))
include hh ihF

theorem footerS_g (v : Name) (ix : Option Name) (b : List SStmt) (a n c : Value) (l2 : Option Env) (st2 : State W) :
    SOutG (footerS hg sg k v ix b a n c l2 st2) (footerS h s k v ix b a n c l2 st2) := by
  cases ix with
  | none | some xn =>
    simp only [footerS, hh.truthy, hh.binop]
    split
    · exact ihF _ _ _ _ _ _ _ _
    · exact Or.inl rfl

theorem forIterK_g (ihB : ∀ B l st, SOutG (execSB sg k B l st) (execSB s k B l st)) (v : Name) (ix : Option Name)
    (b : List SStmt) (a n c : Value) (l : Option Env) {og o : Out W} (ho : OutG og o) :
    SOutG (forIterK hg sg k v ix b a n c l og) (forIterK h s k v ix b a n c l o) := by
  rcases ho with rfl | ⟨s', rfl⟩
  · cases og with
    | ok x st1 =>
      simp only [forIterK]
      exact loopK_g (fun l2 st2 => footerS_g hh k ihF v ix b a n c l2 st2) (ihB _ _ _)
    | err e s | oof => exact Or.inl rfl
  · exact Or.inr ⟨s', rfl⟩

theorem forLenK_g (v : Name) (ix : Option Name) (b : List SStmt) (a : Value) (l : Option Env) {og o : Out W}
    (ho : OutG og o) : SOutG (forLenK hg sg k v ix b a l og) (forLenK h s k v ix b a l o) := by
  rcases ho with rfl | ⟨s', rfl⟩
  · cases og with
    | ok n st2 =>
      simp only [forLenK, hh.truthy]
      split
      · exact ihF _ _ _ _ _ _ _ _
      · exact Or.inl rfl
    | err e s | oof => exact Or.inl rfl
  · exact Or.inr ⟨s', rfl⟩
end

/-- **the generic simulation, pure side** -/
theorem pure_g {sg s : SConfig W} (hs : SCfgSim sg s) : ∀ k : Nat,
    CallG (callS sg k) (callS s k) ∧
    (∀ x l st, SOutG (execSS sg k x l st) (execSS s k x l st)) ∧
    (∀ B l st, SOutG (execSB sg k B l st) (execSB s k B l st)) ∧
    (∀ e l st, SOutG (execSE sg k e l st) (execSE s k e l st)) ∧
    (∀ v ix b a n c l st, SOutG (forS sg k v ix b a n c l st) (forS s k v ix b a n c l st)) := by
  have hh : HostSim (cfgOf sg).host (cfgOf s).host := hs.host
  have hb : (cfgOf sg).builtins = (cfgOf s).builtins := hs.builtins
  intro k
  induction k with
  | zero =>
    refine ⟨fun f args st => ?_, fun x l st => ?_, fun B l st => ?_, fun e l st => ?_, fun v ix b a n c l st => ?_⟩
    · rw [callS, callS]; exact Or.inl rfl
    · rw [execSS, execSS]; exact Or.inl rfl
    · rw [execSB, execSB]; exact Or.inl rfl
    · rw [execSE, execSE]; exact Or.inl rfl
    · rw [forS, forS]; exact Or.inl rfl
  | succ k ih =>
    obtain ⟨ihc, ihS, ihB, ihE, ihF⟩ := ih
    have hev : ∀ l e st, OutG (evalExpr (cfgOf sg) (callS sg k) l e st) (evalExpr (cfgOf s) (callS s k) l e st) :=
      fun l e st => evalExpr_g hh hb ihc l e st
    refine ⟨fun f args st => ?_, fun x l st => ?_, fun B l st => ?_, fun e l st => ?_, fun v ix b a n c l st => ?_⟩
    · cases f with
      | fn fn =>
        cases fn with
        | script id =>
          cases hd : s.sfuns id with
          | none =>
            rw [callS_script_none sg k id args st (by rw [hs.sfuns, hd]), callS_script_none s k id args st hd, hs.host.notCallable]
            exact Or.inl rfl
          | some d =>
            rw [callS_script (agree_cfgOf sg) k id args st d (by rw [hs.sfuns, hd]), callS_script (agree_cfgOf s) k id args st d hd,
              C09.bindArgs_congr hh.newArray]
            exact guardG_map bodyK (fun _ => rfl) (ihB _ _ _)
        | lib name =>
          rw [callS, callS]
          exact runTree_g hs.toConfig.host hs.toConfig.debug ihc (hs.host.lib name args st.world) st
        | other j =>
          rw [callS, callS]
          exact runTree_g hs.toConfig.host hs.toConfig.debug ihc (hs.host.other j args st.world) st
      | _ =>
        rw [callS_nonfn sg k _ args st (by intro fn h; cases h), callS_nonfn s k _ args st (by intro fn h; cases h),
          hs.host.notCallable]
        exact Or.inl rfl
    · cases x with
      | expr n e =>
        rw [execSS_expr (agree_cfgOf sg), execSS_expr (agree_cfgOf s)]
        exact guardG_map (exprK n l) (fun _ => rfl) (hev l e st)
      | ret e =>
        cases e with
        | none => rw [execSS, execSS]; exact Or.inl rfl
        | some e => rw [execSS_ret (agree_cfgOf sg), execSS_ret (agree_cfgOf s)]; exact guardG_map retK (fun _ => rfl) (hev l e st)
      | ite cnd t e =>
        rw [execSS_ite (agree_cfgOf sg), execSS_ite (agree_cfgOf s)]
        exact condK_g hh (fun s' => ihB t l s') (fun s' => ihE e l s') (hev l cnd st)
      | «while» cnd b =>
        rw [execSS_while (agree_cfgOf sg), execSS_while (agree_cfgOf s)]
        exact condK_g hh (fun s' => loopK_g (fun l1 s1 => ihS _ l1 s1) (ihB b l s')) (fun s' => Or.inl rfl) (hev l cnd st)
      | «for» v ix vals b =>
        rw [execSS_for (agree_cfgOf sg), execSS_for (agree_cfgOf s)]
        rcases hev l vals st with h | ⟨s', h⟩
        · rw [h]
          cases evalExpr (cfgOf s) (callS s k) l vals st with
          | ok a st1 =>
            simp only [forValsK]
            rw [lookupFunc_g hh hb]
            exact forLenK_g hh k ihF v ix b a l (callLooked_g ihc _ _ _ _)
          | err e s' | oof => exact Or.inl rfl
        · rw [h]; exact Or.inr ⟨s', rfl⟩
      | _ => rw [execSS, execSS]; exact Or.inl rfl
    · cases B with
      | nil => rw [execSB, execSB]; exact Or.inl rfl
      | cons x xs =>
        rw [execSB_cons, execSB_cons]
        exact seqK_g (fun l1 s1 => ihB xs l1 s1) (ihS x l st)
    · cases e with
      | none => rw [execSE, execSE]; exact Or.inl rfl
      | els b => rw [execSE, execSE]; exact ihB b l st
      | elif cnd t e =>
        rw [execSE_elif (agree_cfgOf sg), execSE_elif (agree_cfgOf s)]
        exact condK_g hh (fun s' => ihB t l s') (fun s' => ihE e l s') (hev l cnd st)
    · rw [forS_succ (agree_cfgOf sg), forS_succ (agree_cfgOf s), lookupFunc_g hh hb]
      exact forIterK_g hh k ihF ihB v ix b a n c l (callLooked_g ihc _ _ _ _)

end C01
