import BareProofs.C19Agg
import BareProofs.C19Join
import BareProofs.C19Csv

/-!
# C19 — data functions implement their relational meaning; CSV typing round-trips

All theorems are about the mirror layer of `BareModel/Data.lean` (data.py / library.py) and hold for **all** tables: any
number of rows and fields, any closed values.  Expression evaluation is the parameter `eval`/`ev` (property C03).
-/

namespace C19
open Compare Data

/-- **dataFilter keeps exactly the rows whose expression value is truthy, in order** (the rows themselves: the result is
`List.filter` of the input). -/
theorem filter_spec (ev : Row → PValue) (data : Table) :
    filterData (fun r => some (ev r)) data = some (data.filter (fun r => truthy (ev r))) := by
  have hk : keeps (fun r => some (ev r)) = fun r => truthy (ev r) := rfl
  simp [filterData, filterLoop_eq, hk]

/-- … for a partial evaluator: the call raises iff the evaluation raises on some row; otherwise it is the filter. -/
theorem filter_raises_iff (eval : Row → Option PValue) (data : Table) :
    (filterData eval data = none ↔ ∃ r ∈ data, eval r = none) ∧
    ((∀ r ∈ data, eval r ≠ none) → filterData eval data = some (data.filter (keeps eval))) := by
  simp only [filterData, filterLoop_eq, List.nil_append, ite_eq_right_iff, reduceCtorEq, imp_false, List.all_eq_true, ne_eq,
    Option.isSome_iff_ne_none, ite_eq_left_iff]
  exact ⟨by simp, fun h h' => absurd h h'⟩

example : filterData (fun r => some (rowGet "a" r)) [[("a", .num 1)], [("a", .null)], [("b", .num 2)], [("a", .str "x"), ("b", .null)], [("a", .num 0)]] =
    some [[("a", .num 1)], [("a", .str "x"), ("b", .null)]] := by decide +kernel

example : filterData (fun r => if rowGet "a" r = .null then none else some (rowGet "a" r)) [[("a", .num 1)], [("a", .null)]] = none := by
  decide +kernel

/-- **dataCalculatedField sets the expression value on every row** (same rows, updated: `row[field] = value`). -/
theorem calc_spec (field : String) (ev : Row → PValue) (data : Table) :
    calcField field (fun r => some (ev r)) data = (data.map (fun r => rowSet field (ev r) r), true) :=
  calcField_total field ev data

/-- what `row[field] = value` does to a row: the field now has the value, every other field keeps its value, the field
order is unchanged with a new field at the end, and keys stay pairwise different. -/
theorem calc_sets_field (field : String) (v : PValue) (r : Row) :
    rowGet field (rowSet field v r) = v ∧ (∀ k, k ≠ field → rowGet k (rowSet field v r) = rowGet k r) ∧
    (rowSet field v r).map (·.1) = (if rowHas field r then r.map (·.1) else r.map (·.1) ++ [field]) ∧
    ((r.map (·.1)).Nodup → ((rowSet field v r).map (·.1)).Nodup) :=
  ⟨rowGet_rowSet_same field v r, fun k hk => rowGet_rowSet_other field k v r hk, rowSet_keys field v r, rowSet_nodup field v r⟩

/-- when the evaluation raises at some row, the call raises after having updated exactly the rows before it (the update is
in place). -/
theorem calc_raise_partial_update (field : String) (eval : Row → Option PValue) (data : Table) :
    ((calcField field eval data).2 = true ↔ ∀ r ∈ data, eval r ≠ none) ∧
    (∀ pre row post, data = pre ++ row :: post → (∀ r ∈ pre, eval r ≠ none) → eval row = none →
      calcField field eval data = (pre.map (fun r => rowSet field ((eval r).getD .null) r) ++ row :: post, false)) :=
  ⟨by simp [calcField_eq, Option.isSome_iff_ne_none], fun pre row post hd hp hn => by
    have hp' : ∀ r ∈ pre, (eval r).isSome = true := fun r hr => Option.isSome_iff_ne_none.mpr (hp r hr)
    rw [hd, calcField_eq, List.takeWhile_append_of_pos hp', List.dropWhile_append_of_pos hp']
    simp [hn]⟩

example : calcField "a2" (fun r => some (rowGet "a" r)) [[("a", .num 1), ("a2", .str "old"), ("a3", .null)], [("a", .null)]] =
    ([[("a", .num 1), ("a2", .num 1), ("a3", .null)], [("a", .null), ("a2", .null)]], true) := by decide +kernel

/-- **dataSort returns the rows stably ordered by the given keys and directions**: for `sorts` entries of the modelled
shape, the result is ordered w.r.t. the lexicographic multi-key comparator (each key ascending or descending, a missing
field is null), is a permutation of the input, keeps the relative order of rows that compare equal, and is the only list
with these three properties (so *any* stable sort — CPython's timsort — returns it). -/
theorem sort_spec (sorts : List PValue) (ss : List (String × Bool)) (h : sorts.mapM sortSpec = some ss) (data : Table) :
    sortData sorts data = some (dataSort ss data) ∧
    C11.Sorted (sortDataFn ss) (dataSort ss data) ∧ (dataSort ss data).Perm data ∧
    (∀ r, (dataSort ss data).filter (C11.eqv (sortDataFn ss) r) = data.filter (C11.eqv (sortDataFn ss) r)) ∧
    (∀ ys, C11.Sorted (sortDataFn ss) ys → (∀ r, ys.filter (C11.eqv (sortDataFn ss) r) = data.filter (C11.eqv (sortDataFn ss) r)) →
      ys = dataSort ss data) := by
  refine ⟨by simp [sortData, h], C11.dataSort_spec ss data⟩

/-- how a `sorts` entry is read: `[field]` is ascending, `[field, flag]` descending iff the flag is truthy *for Python*
(the empty object is falsy here although `value_boolean` calls it true). -/
theorem sort_entry (f : String) (d : PValue) (rest : List PValue) :
    sortSpec (.arr [.str f]) = some (f, false) ∧ sortSpec (.arr (.str f :: d :: rest)) = some (f, pyTruthy d) ∧
    pyTruthy (.obj []) = false ∧ truthy (.obj []) = true ∧ sortSpec (.arr []) = none := by
  simp [sortSpec, pyTruthy, truthy]

example : sortData [.arr [.str "a", .bool true], .arr [.str "b"]]
    [[("a", .num 1), ("b", .num 2)], [("a", .num 2)], [("b", .num 1), ("a", .num 1)], [("a", .num 2), ("c", .null)]] =
    some [[("a", .num 2)], [("a", .num 2), ("c", .null)], [("b", .num 1), ("a", .num 1)], [("a", .num 1), ("b", .num 2)]] := by
  decide +kernel

/-- **The bucket key is faithful**: on the value fragment of the property (null, booleans, numbers — `1` and `1.0` are one
number —, strings, datetimes, arrays and objects of those, recursively) two values get the same `_bucket_key` exactly when
`value_compare` calls them equal — which happens only for values of the same type. -/
theorem bucket_key_faithful (a b : PValue) (ha : IsData a = true) (hb : IsData b = true) :
    (bucketKey a = bucketKey b ↔ valueCompare a b = 0) ∧ (valueCompare a b = 0 → typeName a = typeName b) := by
  simp only [IsData, Bool.and_eq_true] at ha hb
  exact ⟨faithful a ha.2 b hb.2, typeName_eq_of_cmp_zero⟩

/-- rows whose values are data values -/
def RowData (r : Row) : Prop := ∀ p ∈ r, IsData.noOpaque p.2 = true

theorem rowGet_noOpaque (f : String) : ∀ r : Row, RowData r → IsData.noOpaque (rowGet f r) = true
  | [], _ => rfl
  | (k, v) :: rest, h => by
    by_cases e : k = f
    · simpa [rowGet, e] using h (k, v) List.mem_cons_self
    · simpa [rowGet, e] using rowGet_noOpaque f rest (fun p hp => h p (List.mem_cons_of_mem _ hp))

theorem noOpaqueList_map (r : Row) (h : RowData r) (fs : List String) : IsData.noOpaqueList (fs.map (fun f => rowGet f r)) = true :=
  (noOpaqueList_iff _).mpr fun _ hx => by
    obtain ⟨f, _, rfl⟩ := List.mem_map.mp hx
    exact rowGet_noOpaque f r h

/-- … lifted to category keys: two rows fall into the same bucket of `dataTop`/`dataAggregate` exactly when their lists of
category values compare equal (position by position equal values of equal types).  Strings containing JSON punctuation
(`a.0,` vs `a,`), `1` vs `'1'` vs `true`, a datetime vs its ISO text are all kept apart: the key is structural, not text. -/
theorem key_text_faithful (fields : List String) (r r' : Row) (h : RowData r) (h' : RowData r') :
    catKey (some fields) r = catKey (some fields) r' ↔
      valueCompare (.arr (fields.map (fun f => rowGet f r))) (.arr (fields.map (fun f => rowGet f r'))) = 0 := by
  simp only [catKey, Option.map_some, Option.some.injEq]
  exact faithful _ (by simpa [IsData.noOpaque] using noOpaqueList_map r h fields) _ (by simpa [IsData.noOpaque] using noOpaqueList_map r' h' fields)

example : bucketKey (.str "a.0,") ≠ bucketKey (.str "a,") ∧ bucketKey (.num 1) ≠ bucketKey (.str "1") ∧
    bucketKey (.num 1) ≠ bucketKey (.bool true) ∧ bucketKey (.dt 63713433600000000) ≠ bucketKey (.str "2020-01-01T00:00:00+00:00") ∧
    bucketKey (.obj [("x", .num 1), ("y", .arr [.null])]) = bucketKey (.obj [("y", .arr [.null]), ("x", .num 1)]) ∧
    IsData (.obj [("x", .num 1), ("y", .arr [.null])]) = true := by decide +kernel

/-- **Bucketing is grouping**: filling a dict of lists keyed by `keyOf` row by row gives one entry per distinct key in
first-appearance order, each with its rows in original order. -/
theorem bucketRows_eq_groupSpec {κ α : Type} [DecidableEq κ] (keyOf : α → κ) (rows : List α) :
    bucketRows keyOf rows = (dedup (rows.map keyOf)).map (fun k => (k, rows.filter (fun r => keyOf r = k))) :=
  bucketRows_groupSpec keyOf rows

theorem take_min_length {α : Type} (n : Nat) (l : List α) : l.take (min n l.length) = l.take n := by
  rw [List.take_eq_take_iff]
  omega

/-- **dataTop keeps the first `n` rows of each category**, categories in first-appearance order, rows in original order; `n`
arrives as a number that must be integral and ≥ 1 (else the argument is rejected: null), and is used as `int(count)`. -/
theorem top_spec (data : Table) (count : Rat) (fields : Option (List String)) :
    dataTop data count fields =
      if ((pyInt count : Int) : Rat) = count ∧ 1 ≤ count then some (topSpec data (pyInt count).toNat fields) else none := by
  unfold dataTop topData topSpec
  rw [bucketRows_groupSpec]
  simp only [take_min_length]

/-- an integral float count is its integer: `int(2.0) = 2` -/
theorem pyInt_int (n : Int) : pyInt (n : Rat) = n := by
  simp [pyInt, Rat.num_intCast, Rat.den_intCast]

/-- … per category: for any row `r`, the rows of the result that are in `r`'s category are exactly the first `n` rows of the
data that are in `r`'s category. -/
theorem top_first_n_of_each_category (data : Table) (n : Nat) (fields : Option (List String)) (r : Row) :
    (topSpec data n fields).filter (fun x => catKey fields x = catKey fields r) =
      (data.filter (fun x => catKey fields x = catKey fields r)).take n :=
  groupSpec_flatMap_filter (catKey fields) (·.take n) (fun _ _ => List.mem_of_mem_take) List.take_nil data _

example : dataTop [[("a", .num 1), ("b", .num 1)], [("a", .str "1"), ("b", .num 2)], [("a", .num 1), ("b", .num 3)], [("a", .num 1), ("b", .num 4)],
      [("b", .num 5)], [("a", .null), ("b", .num 6)], [("a", .str "1"), ("b", .num 7)]] 2 (some ["a"]) =
    some [[("a", .num 1), ("b", .num 1)], [("a", .num 1), ("b", .num 3)], [("a", .str "1"), ("b", .num 2)], [("a", .str "1"), ("b", .num 7)],
      [("b", .num 5)], [("a", .null), ("b", .num 6)]] ∧
    dataTop [[("a", .num 1)]] (3 / 2) none = none ∧ dataTop [[("a", .num 1)]] 0 none = none := by decide +kernel

/-- **dataAggregate partitions the rows by category values and computes the functions over the non-null measure values**:
for a valid aggregation whose output names are pairwise different and differ from the category fields, the two-pass mirror
(`aggregate_data`: lists collected inside the aggregate rows, then replaced) equals the specification: one row per distinct
category (first-appearance order) = the category fields of the category's first row followed by one cell per measure, the
cell being null when the category has no non-null value and the function over the non-null values otherwise; the first
failing cell (in row, then measure order) makes the whole call fail.  An invalid aggregation raises. -/
theorem aggregate_spec (F : HostFloat) (data : Table) (agg : Aggregation) :
    (agg.valid = true → agg.WF = true → aggregateData F data agg = aggregateSpec F data agg) ∧
    (agg.valid = false → aggregateData F data agg = .raised) :=
  ⟨aggregateData_eq_spec F data agg, fun h => by simp [aggregateData, h]⟩

/-- the category fields of a new aggregate row hold the row's category values -/
theorem aggNewRow_get (row : Row) : ∀ (cats : List String) (acc : Row) (c : String),
    (c ∈ cats ∨ (c ∈ acc.map (·.1) ∧ rowGet c acc = rowGet c row)) →
    rowGet c (cats.foldl (fun r c => rowSet c (rowGet c row) r) acc) = rowGet c row
  | [], _, _, h => h.elim (fun h => nomatch h) (·.2)
  | c' :: cats, acc, c, h => by
    refine aggNewRow_get row cats _ c ?_
    by_cases e : c = c'
    · subst e
      exact .inr ⟨(mem_rowSet_keys ..).mpr (.inr rfl), rowGet_rowSet_same ..⟩
    · rcases h with h | h
      · exact .inl ((List.mem_cons.mp h).resolve_left e)
      · exact .inr ⟨(mem_rowSet_keys ..).mpr (.inl h.1), (rowGet_rowSet_other _ _ _ _ e).trans h.2⟩

/-- … consequences of `aggregate_spec` for a successful call: there is exactly one output row per distinct category, in
first-appearance order; the `i`-th output row starts with the category fields taken from the first row of the `i`-th category
(each category field holds that row's value) and continues with the measure cells computed from that category's rows. -/
theorem aggregate_partition (F : HostFloat) (data : Table) (agg : Aggregation) (hv : agg.valid = true) (hwf : agg.WF = true)
    (out : Table) (h : aggregateData F data agg = .ok out) :
    out.length = (dedup (data.map (catKey agg.categories))).length ∧
    (∀ (i : Nat) (g : Option Key × List Row), (groupSpec (catKey agg.categories) data)[i]? = some g →
      ∃ cells, out[i]? = some (aggNewRow agg.categories (g.2.headD []) ++ cells) ∧
        Res.mapM (fun (m : Measure) => (aggCell F m.fn ((g.2.map (rowGet m.field)).filter (fun v => v ≠ .null))).map (fun v => (m.out, v)))
          agg.measures = .ok cells ∧
        cells.map (·.1) = agg.measures.map Measure.out) ∧
    (∀ cats row c, agg.categories = some cats → c ∈ cats → rowGet c (aggNewRow agg.categories row) = rowGet c row) := by
  rw [aggregateData_eq_spec F data agg hv hwf] at h
  unfold aggregateSpec at h
  refine ⟨?_, fun i g hg => ?_, fun cats row c hc hm => ?_⟩
  · have := Res.mapM_length _ _ _ h
    simpa [groupSpec] using this
  · obtain ⟨b, hb, hf⟩ := Res.mapM_get _ _ _ h i g hg
    obtain ⟨cells, hc, rfl⟩ := Res.map_eq_ok.mp hf
    exact ⟨cells, hb, hc, mapM_cells_names (fun m => aggCell F m.fn ((g.2.map (rowGet m.field)).filter (fun v => v ≠ .null))) _ _ hc⟩
  · simp only [aggNewRow, hc, Option.getD_some]
    exact aggNewRow_get row cats [] c (.inl hm)

/-- **count** = the number of non-null measure values (null when there is none). -/
theorem agg_count (F : HostFloat) (vs : List PValue) :
    aggCell F .count vs = .ok (if vs = [] then .null else .num (vs.length : Rat)) := by
  cases vs <;> simp [aggCell, aggApply]

theorem numsOf_nums : ∀ qs : List Rat, numsOf (qs.map PValue.num) = some qs
  | [] => rfl
  | q :: qs => by
    have := numsOf_nums qs
    simp only [numsOf] at this ⊢
    simp [List.mapM_cons, numOf, this]

/-- **sum / average / stddev** over number values are the defining formulas on the exact rational values: the sum
(`math.fsum`: the exact sum rounded once), the sum divided by the count, and the square root of the mean squared deviation
from the mean — all through the host's float conversion `F` (not modelled); when `F` is exact on the value at hand (the
exactly-representable case) the cell *is* the rational sum, the rational mean, resp. the rational whose square is the variance.  `_partial` on float rounding: `F.round`/`F.sqrt` are
assumptions about `statistics.mean`/`pstdev`, sampled by the correspondence. -/
theorem agg_sum_average_stddev (F : HostFloat) (qs : List Rat) (hne : qs ≠ []) :
    aggCell F .sum (qs.map .num) = .ok (.num (F.round (ratSum qs))) ∧
    (F.round (ratSum qs) = ratSum qs → aggCell F .sum (qs.map .num) = .ok (.num (ratSum qs))) ∧
    aggCell F .average (qs.map .num) = .ok (.num (F.round (ratSum qs / qs.length))) ∧
    aggCell F .stddev (qs.map .num) = .ok (.num (F.sqrt (ratPVariance qs))) ∧
    (F.round (ratMean qs) = ratMean qs → aggCell F .average (qs.map .num) = .ok (.num (ratMean qs))) ∧
    (∀ s, 0 ≤ s → s * s = ratPVariance qs → F.sqrt (s * s) = s → aggCell F .stddev (qs.map .num) = .ok (.num s)) := by
  have he : (qs.map PValue.num).isEmpty = false := by cases qs <;> simp at hne ⊢
  refine ⟨?_, fun h => ?_, ?_, ?_, fun h => ?_, fun s _ hs hF => ?_⟩ <;>
    simp only [aggCell, he, Bool.false_eq_true, if_false, aggApply, numsOf_nums, ratMean]
  · rw [h]
  · rw [← ratMean, h]
  · rw [← hs, hF]

example : ratSum [1, 2, 3, 6] = 12 ∧ ratMean [1, 2, 3, 6] = 3 ∧ ratPVariance [1, 2, 3, 6] = 7 / 2 ∧ ratPVariance [1, 3] = 1 * 1 := by
  decide +kernel

/-- the three classes of scalars Python can order among themselves -/
def Comparable (S : PValue → Prop) : Prop := ∀ a b, S a → S b → pyGt a b = .ok (decide (valueCompare a b > 0))

theorem comparable_num : Comparable (fun v => ∃ q, v = .num q) := by
  rintro _ _ ⟨x, rfl⟩ ⟨y, rfl⟩
  simp only [pyGt, numOf, Res.ok.injEq, decide_eq_decide]
  exact (C11.num_cmp x y).2.2.symm

theorem comparable_str : Comparable (fun v => ∃ s, v = .str s) := by
  rintro _ _ ⟨x, rfl⟩ ⟨y, rfl⟩
  simp [pyGt, numOf, valueCompare]

theorem comparable_dt : Comparable (fun v => ∃ t, v = .dt t) := by
  rintro _ _ ⟨x, rfl⟩ ⟨y, rfl⟩
  simp only [pyGt, numOf, valueCompare, tri, Res.ok.injEq, decide_eq_decide, decide_eq_true_eq]
  split
  · omega
  · split <;> omega

theorem pyMaxGo_pick {S : PValue → Prop} (hS : Comparable S) : ∀ (xs : List PValue) (cur : PValue), S cur → (∀ x ∈ xs, S x) →
    pyMaxGo cur xs = .ok (C11.pick valueCompare cur xs)
  | [], _, _, _ => rfl
  | x :: xs, cur, hc, hx => by
    have h1 := hS x cur (hx x List.mem_cons_self) hc
    simp only [pyMaxGo, h1, Res.bind_ok, C11.pick, List.foldl_cons]
    by_cases hg : valueCompare x cur > 0
    · simpa [hg, C11.pick] using pyMaxGo_pick hS xs x (hx x List.mem_cons_self) (fun y hy => hx y (List.mem_cons_of_mem _ hy))
    · simpa [hg, C11.pick] using pyMaxGo_pick hS xs cur hc (fun y hy => hx y (List.mem_cons_of_mem _ hy))

theorem pyMinGo_pick {S : PValue → Prop} (hS : Comparable S) : ∀ (xs : List PValue) (cur : PValue), S cur → (∀ x ∈ xs, S x) →
    pyMinGo cur xs = .ok (C11.pick (fun a b => valueCompare b a) cur xs)
  | [], _, _, _ => rfl
  | x :: xs, cur, hc, hx => by
    have h1 := hS cur x hc (hx x List.mem_cons_self)
    simp only [pyMinGo, h1, Res.bind_ok, C11.pick, List.foldl_cons]
    by_cases hg : valueCompare cur x > 0
    · simpa [hg, C11.pick] using pyMinGo_pick hS xs x (hx x List.mem_cons_self) (fun y hy => hx y (List.mem_cons_of_mem _ hy))
    · simpa [hg, C11.pick] using pyMinGo_pick hS xs cur hc (fun y hy => hx y (List.mem_cons_of_mem _ hy))

/-- all numbers, all strings, or all datetimes -/
def Homogeneous (vs : List PValue) : Prop :=
  (∀ v ∈ vs, ∃ q, v = .num q) ∨ (∀ v ∈ vs, ∃ s, v = .str s) ∨ (∀ v ∈ vs, ∃ t, v = .dt t)

/-- **min / max** over values of one orderable type (Python's `min`/`max`, not `value_compare`) agree with the
`value_compare` order: the result is `mathMax`/`mathMin` of the values — by C11 `min_max_spec` the first greatest / first
least value w.r.t. `value_compare`. -/
theorem agg_min_max_homogeneous (F : HostFloat) (v : PValue) (rest : List PValue) (h : Homogeneous (v :: rest)) :
    aggCell F .max (v :: rest) = .ok (mathMax (v :: rest)) ∧ aggCell F .min (v :: rest) = .ok (mathMin (v :: rest)) := by
  have hmax : mathMax (v :: rest) = C11.pick valueCompare v rest := by
    simp only [mathMax, List.foldl_cons, maxStep, if_true]; exact C11.foldl_maxStep v rest
  have hmin : mathMin (v :: rest) = C11.pick (fun a b => valueCompare b a) v rest := by
    simp only [mathMin, List.foldl_cons, minStep, if_true]; exact C11.foldl_minStep v rest
  obtain ⟨S, hS, hall⟩ : ∃ S, Comparable S ∧ ∀ x ∈ v :: rest, S x :=
    h.elim (fun h => ⟨_, comparable_num, h⟩) fun h => h.elim (fun h => ⟨_, comparable_str, h⟩) fun h => ⟨_, comparable_dt, h⟩
  have hv := hall v List.mem_cons_self
  have hr := fun x hx => hall x (List.mem_cons_of_mem _ hx)
  simp only [aggCell, List.isEmpty_cons, Bool.false_eq_true, if_false, aggApply, hmax, hmin]
  exact ⟨pyMaxGo_pick hS rest v hv hr, pyMinGo_pick hS rest v hv hr⟩

example : aggCell ⟨id, id⟩ .max [.num 1, .num 3, .num 2, .num 3] = .ok (.num 3) ∧ aggCell ⟨id, id⟩ .min [.str "b", .str "a"] = .ok (.str "a") ∧
    aggCell ⟨id, id⟩ .min [] = .ok .null ∧ Homogeneous [.num 1, .num 3] := by
  refine ⟨by decide +kernel, by decide +kernel, by decide +kernel, .inl ?_⟩
  intro v hv; simp at hv; rcases hv with rfl | rfl <;> exact ⟨_, rfl⟩

/-- the class of a scalar for Python's ordering: numbers and booleans together, strings, datetimes -/
def cmpClass : PValue → Nat
  | .num _ => 0
  | .bool _ => 0
  | .str _ => 1
  | .dt _ => 2
  | _ => 3

theorem scalar_cases {a : PValue} (h : isScalar a = true ∧ a ≠ .null) :
    (∃ x, a = .bool x) ∨ (∃ x, a = .num x) ∨ (∃ x, a = .str x) ∨ (∃ x, a = .dt x) := by
  cases a <;> simp_all [isScalar]

theorem pyGt_class (a b : PValue) (ha : isScalar a = true ∧ a ≠ .null) (hb : isScalar b = true ∧ b ≠ .null) :
    (cmpClass a = cmpClass b → ∃ g, pyGt a b = .ok g) ∧ (cmpClass a ≠ cmpClass b → pyGt a b = .raised) := by
  rcases scalar_cases ha with ⟨x, rfl⟩ | ⟨x, rfl⟩ | ⟨x, rfl⟩ | ⟨x, rfl⟩ <;>
    rcases scalar_cases hb with ⟨y, rfl⟩ | ⟨y, rfl⟩ | ⟨y, rfl⟩ | ⟨y, rfl⟩ <;>
    simp [pyGt, numOf, cmpClass, isScalar]

theorem pyMaxGo_mixed (v : PValue) : ∀ (rest : List PValue) (cur : PValue), (isScalar cur = true ∧ cur ≠ .null) → cmpClass cur = cmpClass v →
    (∀ w ∈ rest, isScalar w = true ∧ w ≠ .null) → (∃ w ∈ rest, cmpClass w ≠ cmpClass v) →
    pyMaxGo cur rest = .raised ∧ pyMinGo cur rest = .raised
  | [], _, _, _, _, h => by simp at h
  | x :: xs, cur, hc, hcv, hs, hm => by
    have hx := hs x List.mem_cons_self
    by_cases hcl : cmpClass x = cmpClass cur
    · obtain ⟨g, hg⟩ := (pyGt_class x cur hx hc).1 hcl
      obtain ⟨g', hg'⟩ := (pyGt_class cur x hc hx).1 hcl.symm
      have hrest : ∃ w ∈ xs, cmpClass w ≠ cmpClass v := by
        obtain ⟨w, hw, hne⟩ := hm
        rcases List.mem_cons.mp hw with e | e
        · subst e; exact absurd (hcl.trans hcv) hne
        · exact ⟨w, e, hne⟩
      have hs' : ∀ w ∈ xs, isScalar w = true ∧ w ≠ .null := fun w hw => hs w (List.mem_cons_of_mem _ hw)
      have ih : ∀ b : Bool, pyMaxGo (if b then x else cur) xs = .raised ∧ pyMinGo (if b then x else cur) xs = .raised := fun b => by
        cases b
        · exact pyMaxGo_mixed v xs cur hc hcv hs' hrest
        · exact pyMaxGo_mixed v xs x hx (hcl.trans hcv) hs' hrest
      simp only [pyMaxGo, pyMinGo, hg, hg', Res.bind_ok]
      exact ⟨(ih g).1, (ih g').2⟩
    · have h1 := (pyGt_class x cur hx hc).2 hcl
      have h2 := (pyGt_class cur x hc hx).2 (fun e => hcl e.symm)
      simp [pyMaxGo, pyMinGo, h1, h2]

/-- **mixed types fail**: `sum`, `average` and `stddev` raise as soon as one non-null value is not a number (or boolean, which
Python counts as 0/1); `min` and `max` raise when the non-null values are scalars of two different orderable classes
(number/boolean, string, datetime).  The library wrapper turns the raised exception into a null result for the whole call. -/
theorem agg_mixed_types_fail (F : HostFloat) (v : PValue) (rest : List PValue) :
    ((∃ w ∈ v :: rest, numOf w = none) →
      aggCell F .sum (v :: rest) = .raised ∧ aggCell F .average (v :: rest) = .raised ∧ aggCell F .stddev (v :: rest) = .raised) ∧
    ((∀ w ∈ v :: rest, isScalar w = true ∧ w ≠ .null) → (∃ w ∈ rest, cmpClass w ≠ cmpClass v) →
      aggCell F .max (v :: rest) = .raised ∧ aggCell F .min (v :: rest) = .raised) := by
  constructor
  · rintro ⟨w, hw, hn⟩
    have : numsOf (v :: rest) = none := by
      have key : ∀ l : List PValue, w ∈ l → numsOf l = none := by
        intro l
        induction l with
        | nil => intro h; simp at h
        | cons x xs ih =>
          intro h
          simp only [numsOf, List.mapM_cons] at ih ⊢
          rcases List.mem_cons.mp h with e | e
          · subst e; simp [hn]
          · cases numOf x <;> simp [ih e]
      exact key _ hw
    simp [aggCell, aggApply, this]
  · intro hs hm
    have := pyMaxGo_mixed v rest v (hs v List.mem_cons_self) rfl (fun w hw => hs w (List.mem_cons_of_mem _ hw)) hm
    simp [aggCell, aggApply, this.1, this.2]

example : aggregateData ⟨id, id⟩
    [[("k", .str "a.0,"), ("m", .num 1)], [("k", .str "a,"), ("m", .num 5)], [("k", .str "a.0,"), ("m", .null)], [("k", .str "a.0,"), ("m", .num 3)],
     [("m", .num 7)], [("k", .null), ("m", .str "x")]]
    { categories := some ["k"], measures := [⟨"m", .count, some "n"⟩, ⟨"m", .sum, none⟩, ⟨"z", .max, none⟩] } =
    .raised ∧
  aggregateData ⟨id, id⟩
    [[("k", .str "a.0,"), ("m", .num 1)], [("k", .str "a,"), ("m", .num 5)], [("k", .str "a.0,"), ("m", .null)], [("k", .str "a.0,"), ("m", .num 3)],
     [("m", .num 7)], [("k", .null), ("m", .null)]]
    { categories := some ["k"], measures := [⟨"m", .count, some "n"⟩, ⟨"m", .average, none⟩, ⟨"z", .max, none⟩] } =
    .ok [[("k", .str "a.0,"), ("n", .num 2), ("m", .num 2), ("z", .null)], [("k", .str "a,"), ("n", .num 1), ("m", .num 5), ("z", .null)],
         [("k", .null), ("n", .num 1), ("m", .num 7), ("z", .null)]] := by decide +kernel

/-- **The renaming of right fields**: `right_names` maps exactly the right field names, in order; a right field keeps its name
unless a left field has it, and otherwise becomes `name2`, `name3`, … — the first of these that is neither a left nor a right
field name; the search never fails (pigeonhole: the fuel of the mirror suffices). -/
theorem right_names_spec (leftData rightData : Table) :
    ∃ names, rightNames leftData rightData = some names ∧ names.map (·.1) = fieldNames rightData ∧
      ∀ p ∈ names, IsJoinedName (fieldNames leftData) (fieldNames rightData) p.1 p.2 := by
  simpa [rightNames] using rightNamesLoop_ok (fieldNames leftData) (fieldNames rightData) (fieldNames rightData) [] (by simp) (by simp)

/-- **dataJoin pairs each left row with exactly the right rows whose key is equal**, left rows in order, partners in right
order; each pair is the left row followed by the right fields under their joined names.  A left row without partner is kept
iff `isLeftJoin` is **false** — this is what data.py:218 does and `test_join_data_left` pins (the doc comment of the flag
says the opposite). -/
theorem join_spec (kl kr : Row → PValue) (leftData rightData : Table) (isLeftJoin : Bool) :
    ∃ names, rightNames leftData rightData = some names ∧
      joinData (fun r => some (kl r)) (fun r => some (kr r)) leftData rightData isLeftJoin =
        some (joinSpec kl kr (mergeRow (renameOf names)) (!isLeftJoin) leftData rightData) := by
  obtain ⟨names, hn, hk, _⟩ := right_names_spec leftData rightData
  refine ⟨names, hn, ?_⟩
  have hnames : ∀ r ∈ rightData, ∀ p ∈ r, p.1 ∈ names.map (·.1) := fun r hr p hp =>
    hk ▸ (mem_fieldNames p.1 rightData).mpr ⟨r, hr, List.mem_map_of_mem hp⟩
  have hb : bucketRowsM (fun r => some (kr r)) rightData [] = some (groupSpec (fun r => bucketKey (kr r)) rightData) := by
    rw [bucketRowsM_total, ← bucketRows_groupSpec]; rfl
  simp only [joinData, hn, hb]
  rw [joinLoop_total kl kr names rightData isLeftJoin hnames leftData [], joinSpec_eq]
  simp

/-- … where "key is equal" means: equal values of the same type (for data values). -/
theorem join_pairs_equal_values (kl kr : Row → PValue) (merge : Row → Row → Row) (keep : Bool) (leftData rightData : Table)
    (hl : ∀ l ∈ leftData, IsData.noOpaque (kl l) = true) (hr : ∀ r ∈ rightData, IsData.noOpaque (kr r) = true) :
    joinSpec kl kr merge keep leftData rightData =
      leftData.flatMap (fun l =>
        let partners := rightData.filter (fun r => valueCompare (kr r) (kl l) = 0)
        if partners.isEmpty then (if keep then [l] else []) else partners.map (merge l)) := by
  unfold joinSpec
  refine flatMap_congr (fun l hl' => ?_)
  have : rightData.filter (fun r => decide (bucketKey (kr r) = bucketKey (kl l))) = rightData.filter (fun r => decide (valueCompare (kr r) (kl l) = 0)) := by
    refine List.filter_congr (fun r hr' => ?_)
    have := faithful (kr r) (hr r hr') (kl l) (hl l hl')
    simp [this]
  simp only [this]

/-- **dataJoin never overwrites a left field**: the joined row *extends* the left row — every left field keeps its position
and value — and no joined name of a right field is a left field name of any row. -/
theorem join_never_overwrites_left (leftData rightData : Table) (names : List (String × String))
    (hn : rightNames leftData rightData = some names) (l r : Row) (hl : l ∈ leftData) (hr : r ∈ rightData) :
    (∃ ext, mergeRow (renameOf names) l r = l ++ ext) ∧
    (∀ k ∈ l.map (·.1), rowGet k (mergeRow (renameOf names) l r) = rowGet k l) ∧
    (∀ p ∈ names, p.2 ∉ fieldNames leftData) ∧ joinRow names l r = some (mergeRow (renameOf names) l r) := by
  obtain ⟨names', hn', hk, hj⟩ := right_names_spec leftData rightData
  rw [hn] at hn'; cases hn'
  have hnot : ∀ p ∈ names, p.2 ∉ fieldNames leftData := fun p hp => IsJoinedName.not_left (hj p hp)
  have hfield : ∀ p ∈ r, p.1 ∈ names.map (·.1) := fun p hp => hk ▸ (mem_fieldNames p.1 rightData).mpr ⟨r, hr, List.mem_map_of_mem hp⟩
  have hren : ∀ p ∈ r, renameOf names p.1 ∉ l.map (·.1) := by
    intro p hp hin
    obtain ⟨u, hu⟩ := bucketLookup_some_of_mem p.1 names (hfield p hp)
    have hmem := bucketLookup_mem p.1 u names hu
    have : renameOf names p.1 = u := by simp [renameOf, hu]
    rw [this] at hin
    exact hnot (p.1, u) hmem ((mem_fieldNames u leftData).mpr ⟨l, hl, hin⟩)
  obtain ⟨ext, hext⟩ := mergeRow_prefix (renameOf names) l r [] hren
  rw [List.append_nil] at hext
  exact ⟨⟨ext, hext⟩, fun k hk' => by rw [hext, rowGet_append_left k l ext hk'], hnot, joinRow_eq names r l hfield⟩

/-- an evaluation that raises on some right or left row makes the whole call raise. -/
theorem join_raises (evalL evalR : Row → Option PValue) (leftData rightData : Table) (isLeftJoin : Bool)
    (h : (∃ r ∈ rightData, evalR r = none) ∨ (∃ l ∈ leftData, evalL l = none)) :
    joinData evalL evalR leftData rightData isLeftJoin = none := by
  obtain ⟨names, hn, _⟩ := right_names_spec leftData rightData
  simp only [joinData, hn]
  rcases h with h | h
  · rw [bucketRowsM_none evalR rightData [] h]
  · cases bucketRowsM evalR rightData [] with
    | none => rfl
    | some bs => exact joinLoop_none evalL names bs isLeftJoin leftData [] h

/-- non-vacuity: colliding names on both sides (`a`, `a2`, `a3`), duplicate keys, null keys, `1` vs `'1'`, both flag values -/
example :
    rightNames [[("a", .num 1), ("a2", .str "x")], [("a", .null), ("b", .num 0)]] [[("a", .num 1), ("a2", .num 5), ("a3", .bool true)], [("b", .null)]] =
      some [("a", "a4"), ("a2", "a22"), ("a3", "a3"), ("b", "b2")] ∧
    joinData (fun r => some (rowGet "a" r)) (fun r => some (rowGet "a" r))
      [[("a", .num 1), ("a2", .str "x")], [("a", .null), ("b", .num 0)], [("a", .str "1")], [("a", .num 1)]]
      [[("a", .num 1), ("a2", .num 5), ("a3", .bool true)], [("a", .num 1), ("b", .null)], [("a", .num 2)]] false =
      some [[("a", .num 1), ("a2", .str "x"), ("a4", .num 1), ("a22", .num 5), ("a3", .bool true)],
            [("a", .num 1), ("a2", .str "x"), ("a4", .num 1), ("b2", .null)],
            [("a", .null), ("b", .num 0)], [("a", .str "1")],
            [("a", .num 1), ("a4", .num 1), ("a22", .num 5), ("a3", .bool true)], [("a", .num 1), ("a4", .num 1), ("b2", .null)]] ∧
    joinData (fun r => some (rowGet "a" r)) (fun r => some (rowGet "a" r))
      [[("a", .num 1)], [("a", .null)]] [[("a", .num 1), ("c", .num 9)]] true = some [[("a", .num 1), ("a2", .num 1), ("c", .num 9)]] := by
  decide +kernel

/-- observation (not part of the property): the renaming need not be injective — with enough left fields two right fields
can be sent to the same joined name (`a` → `a12` because `a2 … a11` are taken, `a1` → `a12`); the later one then overwrites
the earlier *right* field.  Left fields are never affected. -/
example : rightNames [[("a", .null), ("a1", .null), ("a2", .null), ("a3", .null), ("a4", .null), ("a5", .null), ("a6", .null), ("a7", .null),
      ("a8", .null), ("a9", .null), ("a10", .null), ("a11", .null)]] [[("a", .num 1), ("a1", .num 2)]] = some [("a", "a12"), ("a1", "a12")] := by
  decide +kernel

inductive ColKind where
  | number | boolean | datetime | string

def ColKind.fieldType : ColKind → FieldType
  | .number => .number | .boolean => .boolean | .datetime => .datetime | .string => .string

/-- the side conditions of the round trip, per column kind; `pv` is the value the cell must parse to -/
def CellOK (kind : ColKind) (offL offU : Int → Int) (nullText : String) (x : CsvVal) (pv : PValue) : Prop :=
  match x with
  | .null => pv = .null
  | .bool b => kind = .boolean ∧ pv = .bool b
  | .num (.int z) => kind = .number ∧ pv = .num z ∧ -NumText.overflowBound < (z : Rat) ∧ (z : Rat) < NumText.overflowBound ∧
      parseDatetime offU (csvText nullText offL x) = none
  | .num (.float r) => kind = .number ∧ ∃ q, pv = .num q ∧ NumText.IsRepr r ∧ NumText.decVal r = some q ∧
      -NumText.overflowBound < q ∧ q < NumText.overflowBound ∧ parseDatetime offU (csvText nullText offL x) = none
  | .dt t => kind = .datetime ∧ pv = .dt (Datetime.toLocalMs t * 1000) ∧ t.Valid ∧
      offL (Datetime.toLocalMs t) % 60 = 0 ∧ -86400 < offL (Datetime.toLocalMs t) ∧ offL (Datetime.toLocalMs t) < 86400 ∧
      offU (Datetime.toLocalMs t - offL (Datetime.toLocalMs t) * 1000) = offL (Datetime.toLocalMs t) ∧
      (Datetime.ofLocalMs (Datetime.toLocalMs t - offL (Datetime.toLocalMs t) * 1000)).isSome = true
  | .str s => kind = .string ∧ pv = .str s ∧ s ≠ "null"

theorem parseNumber_facts : parseNumber "" = none ∧ parseNumber "null" = none ∧ parseNumber "true" = none ∧ parseNumber "false" = none := by
  decide +kernel

/-- type detection and conversion of one canonical cell text -/
theorem cell_roundtrip (kind : ColKind) (offL offU : Int → Int) (nullText : String) (hnull : nullText = "" ∨ nullText = "null")
    (f : String) (x : CsvVal) (pv : PValue) (h : CellOK kind offL offU nullText x pv) :
    let c := csvText nullText offL x
    let t : FieldType := kind.fieldType
    (x = .null → detectType true offU (.str c) = some none) ∧
    (x ≠ .null → kind ≠ .string → detectType true offU (.str c) = some (some t)) ∧
    ((kind = .string → x = .null → nullText = "null") → convertCell true offU f t (.str c) = .ok pv) := by
  intro c t
  obtain ⟨p1, p2, p3, p4⟩ := parseNumber_facts
  cases x with
  | null =>
    simp only [CellOK] at h
    subst h
    refine ⟨fun _ => ?_, fun hx => absurd rfl hx, fun hs => ?_⟩
    · rcases hnull with e | e <;> simp [c, csvText, e, detectType]
    · rcases hnull with e | e
      · cases kind
        · simp [c, t, ColKind.fieldType, csvText, e, convertCell]
        · simp [c, t, ColKind.fieldType, csvText, e, convertCell]
        · simp [c, t, ColKind.fieldType, csvText, e, convertCell]
        · rw [e] at hs; exact absurd (hs rfl rfl) (by decide)
      · simp [c, csvText, e, convertCell]
  | bool b =>
    simp only [CellOK] at h
    obtain ⟨hk, hp⟩ := h
    subst hk; subst hp
    refine ⟨fun hx => (by cases hx), fun _ _ => ?_, fun _ => ?_⟩
    · cases b <;> simp [c, t, ColKind.fieldType, csvText, detectType, parseDatetime_true, parseDatetime_false]
    · cases b <;> simp [c, t, ColKind.fieldType, csvText, convertCell]
  | num n =>
    have key : ∀ q, kind = .number → pv = .num q → parseNumber c = some (.num q) → parseDatetime offU c = none →
        (detectType true offU (.str c) = some (some .number)) ∧ convertCell true offU f .number (.str c) = .ok pv := by
      intro q _ hp hn hd
      have h1 : c ≠ "" := fun e => by rw [e, p1] at hn; cases hn
      have h2 : c ≠ "null" := fun e => by rw [e, p2] at hn; cases hn
      have h3 : c ≠ "true" := fun e => by rw [e, p3] at hn; cases hn
      have h4 : c ≠ "false" := fun e => by rw [e, p4] at hn; cases hn
      subst hp
      constructor
      · simp [detectType, h1, h2, h3, h4, hd, hn]
      · simp [convertCell, h1, h2, hn]
    cases n with
    | int z =>
      simp only [CellOK] at h
      obtain ⟨hk, hp, hlo, hhi, hd⟩ := h
      have := key z hk hp (by simpa [c, csvText] using parseNumber_int z hlo hhi) hd
      subst hk
      exact ⟨fun hx => (by cases hx), fun _ _ => this.1, fun _ => this.2⟩
    | float r =>
      simp only [CellOK] at h
      obtain ⟨hk, q, hp, hr, hq, hlo, hhi, hd⟩ := h
      have := key q hk hp (by simpa [c, csvText] using parseNumber_float r q hr hq hlo hhi) hd
      subst hk
      exact ⟨fun hx => (by cases hx), fun _ _ => this.1, fun _ => this.2⟩
  | dt d =>
    simp only [CellOK] at h
    obtain ⟨hk, hp, hv, hmin, hlo, hhi, hex, hutc⟩ := h
    subst hk; subst hp
    have hparse : parseDatetime offU c = some (.dt (Datetime.toLocalMs d * 1000)) := by
      simp [c, csvText, parseDatetime, String.toList_ofList, iso_roundtrip offL offU d hv hmin hlo hhi hex hutc]
    have h1 : c ≠ "" := fun e => by rw [e, parseDatetime_empty] at hparse; cases hparse
    have h2 : c ≠ "null" := fun e => by rw [e, parseDatetime_null] at hparse; cases hparse
    refine ⟨fun hx => (by cases hx), fun _ _ => ?_, fun _ => ?_⟩
    · simp [t, ColKind.fieldType, detectType, h1, h2, hparse]
    · simp [t, ColKind.fieldType, convertCell, h1, h2, hparse]
  | str s =>
    simp only [CellOK] at h
    obtain ⟨hk, hp, hs⟩ := h
    subst hk; subst hp
    refine ⟨fun hx => (by cases hx), fun _ hne => absurd rfl hne, fun _ => ?_⟩
    simp [c, t, ColKind.fieldType, csvText, convertCell, hs]

/-- every cell of a column of one kind converts under the column's detected type; a string column may write its nulls only
as `null` -/
theorem column_convert_of (kind : ColKind) (offL offU : Int → Int) (nullText : String) (hnull : nullText = "" ∨ nullText = "null")
    (f : String) (xs : List CsvVal) (pv : CsvVal → PValue)
    (hcells : ∀ x ∈ xs, CellOK kind offL offU nullText x (pv x))
    (hsome : kind = .string ∨ nullText = "null" ∨ ∃ x ∈ xs, x ≠ .null)
    (hstr : kind = .string → (nullText = "null" ∨ ∀ x ∈ xs, x ≠ .null) ∧ colType offU (xs.map (csvText nullText offL)) = .string) :
    ∀ x ∈ xs, convertCell true offU f (colType offU (xs.map (csvText nullText offL))) (.str (csvText nullText offL x)) = .ok (pv x) := by
  have hcell := fun x hx => cell_roundtrip kind offL offU nullText hnull f x (pv x) (hcells x hx)
  by_cases hk : kind = .string
  · obtain ⟨hn, hc⟩ := hstr hk
    intro x hx
    rw [hc]
    simpa [hk, ColKind.fieldType] using (hcell x hx).2.2 fun _ hxn => hn.elim id fun hall => absurd hxn (hall x hx)
  · have hdet : ∀ c ∈ xs.map (csvText nullText offL),
        detectType true offU (.str c) = some none ∨ detectType true offU (.str c) = some (some kind.fieldType) := by
      intro c hc
      obtain ⟨x, hx, rfl⟩ := List.mem_map.mp hc
      by_cases hxn : x = .null
      · exact .inl ((hcell x hx).1 hxn)
      · exact .inr ((hcell x hx).2.1 hxn hk)
    by_cases hex : ∃ x ∈ xs, x ≠ CsvVal.null
    · obtain ⟨x0, hx0, hne⟩ := hex
      rw [colType_of_all offU _ _ hdet (.inl ⟨_, List.mem_map_of_mem hx0, (hcell x0 hx0).2.1 hne hk⟩)]
      exact fun x hx => (hcell x hx).2.2 fun e => absurd e hk
    · -- every cell is null, written `null`: the column is typed string, and `null` converts to null under every type
      have hnt : nullText = "null" := (hsome.resolve_left hk).resolve_right hex
      have hallnull : ∀ x ∈ xs, x = CsvVal.null := fun x hx => Classical.byContradiction fun hne => hex ⟨x, hx, hne⟩
      rw [colType_of_all offU .string _ (fun c hc => by
        obtain ⟨x, hx, rfl⟩ := List.mem_map.mp hc
        exact .inl ((hcell x hx).1 (hallnull x hx))) (.inr rfl)]
      intro x hx
      obtain rfl := hallnull x hx
      rw [show pv CsvVal.null = .null from hcells _ hx]
      simp [csvText, hnt, convertCell]

theorem _root_.C19CsvText.column_convert (kind : ColKind) (offL offU : Int → Int) (nullText : String) (hnull : nullText = "" ∨ nullText = "null")
    (f : String) (xs : List CsvVal) (pv : CsvVal → PValue)
    (hcells : ∀ x ∈ xs, CellOK kind offL offU nullText x (pv x))
    (hsome : kind = .string ∨ nullText = "null" ∨ ∃ x ∈ xs, x ≠ .null)
    (hstr : kind = .string → nullText = "null" ∧ colType offU (xs.map (csvText nullText offL)) = .string) :
    ∀ x ∈ xs, convertCell true offU f (colType offU (xs.map (csvText nullText offL))) (.str (csvText nullText offL x)) = .ok (pv x) :=
  column_convert_of kind offL offU nullText hnull f xs pv hcells hsome fun hk => ⟨.inl (hstr hk).1, (hstr hk).2⟩

/-- **CSV typing round trip (`_partial`)**: a column holding the canonical texts of values of ONE type — numbers
(`value_string`: `str(int)`, or `repr(float)` without a trailing `.0`), booleans (`true`/`false`), datetimes (the ISO text
`datetimeISOFormat` produces) or strings — with nulls written as `nullText` (`""` or `"null"`), parses back to exactly those
values.  Side conditions (all needed; the correspondence exhibits each failure when dropped):
* per cell `CellOK`: an `int` lies inside the double range; a `float` is given by its `repr` text under C13's assumptions
  A1/A2 (`IsRepr`, the text denotes `q`, no overflow); a number text is not an ISO datetime (always true of `value_string`
  output: `C19CsvText.parseDatetime_int`, `parseDatetime_float`; a hypothesis here); a datetime satisfies the hypotheses of C16 `iso_roundtrip_partial` (valid
  fields, whole-minute offset, existing local time, UTC instant in range); a string value is not `"null"`;
* a typed (non-string) column written with `nullText = ""` contains at least one non-null value (a column of empty cells
  only is a column of empty strings);
* a string column writes nulls as `"null"`, and its first cell that is neither empty nor `"null"` is not parseable as a
  datetime, boolean or number (`hstr`: the column's detected type is string).
What is missing for the unqualified statement: the theorem starts from the cells of one column (`csv.DictReader`
splitting/quoting and several columns: `C19CsvText.csv_text_roundtrip`); `repr`/`float()`/`astimezone()` are assumptions. -/
theorem csv_typing_roundtrip_partial (kind : ColKind) (offL offU : Int → Int) (nullText : String) (hnull : nullText = "" ∨ nullText = "null")
    (f : String) (xs : List CsvVal) (pv : CsvVal → PValue)
    (hcells : ∀ x ∈ xs, CellOK kind offL offU nullText x (pv x))
    (hsome : kind = .string ∨ nullText = "null" ∨ ∃ x ∈ xs, x ≠ .null)
    (hstr : kind = .string → nullText = "null" ∧ colType offU (xs.map (csvText nullText offL)) = .string) :
    validateData true offU (xs.map (fun x => [(f, PValue.str (csvText nullText offL x))])) = .ok (xs.map (fun x => [(f, pv x)])) :=
  validate_one_column (csvText nullText offL) pv offU f xs (C19CsvText.column_convert kind offL offU nullText hnull f xs pv hcells hsome hstr)

/-- **Date-like text is kept as a string**: `2024-02-30`, `2024-13-01` and `2024-01-01T25:00:00Z` are not datetimes in any
zone (invalid calendar values parse to null, they do not raise), so a cell holding one is typed string and the parse goes
on: `dataParseCSV('a,b', '2024-02-30,1')` is `[{a: '2024-02-30', b: 1}]` (finding F10: it used to abort). -/
theorem datelike_kept_string (offU : Int → Int) :
    parseDatetime offU "2024-02-30" = none ∧ parseDatetime offU "2024-13-01" = none ∧ parseDatetime offU "2024-01-01T25:00:00Z" = none ∧
    detectType true offU (.str "2024-02-30") = some (some .string) ∧
    validateData true offU [[("a", .str "2024-02-30"), ("b", .str "1")]] = .ok [[("a", .str "2024-02-30"), ("b", .num 1)]] ∧
    validateData true offU [[("a", .str "2024-02-29")], [("a", .str "2024-02-30")]] matches .error ⟨"a", .datetime, .str "2024-02-30"⟩ := by
  have h1 : parseDatetime offU "2024-02-30" = none := parseDatetime_none offU _ (by decide_lit)
  have h2 : parseNumber "2024-02-30" = none := by decide +kernel
  have h3 : parseDatetime offU "1" = none := parseDatetime_none offU _ (by decide_lit)
  have h4 : parseNumber "1" = some (.num 1) := by decide +kernel
  have h5 : parseDatetime offU "2024-02-29" = some (.dt 63844761600000000) := by
    rw [parseDatetime, isoParse_date offU _ (by decide_lit)]
    decide +kernel
  refine ⟨h1, parseDatetime_none offU _ (by decide_lit), parseDatetime_none offU _ (by decide_lit), ?_, ?_, ?_⟩
  · simp [detectType, h1, h2]
  · simp [validateData, detectTypes, detectCell, detectType, typesGet, typesSet, bucketLookup, convertRows, convertRow, convertCell,
      h1, h2, h3, h4, Except.map]
  · simp [validateData, detectTypes, detectCell, detectType, typesGet, typesSet, bucketLookup, convertRows, convertRow, convertCell,
      h1, h5, Except.map]

/-- the values the example columns must parse to -/
def exampleValue : CsvVal → PValue
  | .null => .null
  | .bool b => .bool b
  | .num (.int z) => .num z
  | .num (.float _) => .num (3 / 20000000)
  | .dt t => .dt (Datetime.toLocalMs t * 1000)
  | .str s => .str s

/-- non-vacuity of the round trip (the hypotheses are inhabited): a number column of ints and a float `repr` with nulls written
as empty cells, a datetime column in a UTC+05:45 zone with nulls written as `null`, a string column with a comma, a quote, an
empty string and date-like text -/
example :
    validateData true (fun _ => 0)
      ([CsvVal.num (.int 17), .null, .num (.float "1.5e-07"), .num (.int (-2))].map (fun x => [("n", PValue.str (csvText "" (fun _ => 0) x))])) =
      .ok [[("n", .num 17)], [("n", .null)], [("n", .num (3 / 20000000))], [("n", .num (-2))]] ∧
    validateData true (fun _ => 20700)
      ([CsvVal.dt ⟨2024, 2, 29, 1, 2, 3, 45⟩, .null].map (fun x => [("d", PValue.str (csvText "null" (fun _ => 20700) x))])) =
      .ok [[("d", .dt (Datetime.toLocalMs ⟨2024, 2, 29, 1, 2, 3, 45⟩ * 1000))], [("d", .null)]] ∧
    validateData true (fun _ => 0)
      ([CsvVal.str "2024-02-30", .str "a,b", .null, .str "", .str "say \"hi\"", .str "1"].map (fun x => [("s", PValue.str (csvText "null" (fun _ => 0) x))])) =
      .ok [[("s", .str "2024-02-30")], [("s", .str "a,b")], [("s", .null)], [("s", .str "")], [("s", .str "say \"hi\"")], [("s", .str "1")]] ∧
    csvText "" (fun _ => 20700) (.dt ⟨2024, 2, 29, 1, 2, 3, 45⟩) = "2024-02-29T01:02:03.045+05:45" := by
  refine ⟨?_, ?_, ?_, by decide +kernel⟩
  · refine csv_typing_roundtrip_partial .number (fun _ => 0) (fun _ => 0) "" (.inl rfl) "n" _ exampleValue ?_ (.inr (.inr ⟨.num (.int 17), by simp, by simp⟩))
      (fun h => by cases h)
    intro x hx
    simp only [List.mem_cons, List.not_mem_nil, or_false] at hx
    rcases hx with rfl | rfl | rfl | rfl
    · exact ⟨rfl, rfl, by decide +kernel, by decide +kernel, by decide +kernel⟩
    · rfl
    · exact ⟨rfl, 3 / 20000000, rfl, by decide +kernel, by decide +kernel, by decide +kernel, by decide +kernel, by decide +kernel⟩
    · exact ⟨rfl, rfl, by decide +kernel, by decide +kernel, by decide +kernel⟩
  · refine csv_typing_roundtrip_partial .datetime (fun _ => 20700) (fun _ => 20700) "null" (.inr rfl) "d" _ exampleValue ?_ (.inr (.inl rfl))
      (fun h => by cases h)
    intro x hx
    simp only [List.mem_cons, List.not_mem_nil, or_false] at hx
    rcases hx with rfl | rfl
    · exact ⟨rfl, rfl, by decide +kernel, by decide +kernel, by decide +kernel, by decide +kernel, rfl, by decide +kernel⟩
    · rfl
  · refine csv_typing_roundtrip_partial .string (fun _ => 0) (fun _ => 0) "null" (.inr rfl) "s" _ exampleValue ?_ (.inl rfl)
      (fun _ => ⟨rfl, ?_⟩)
    · intro x hx
      simp only [List.mem_cons, List.not_mem_nil, or_false] at hx
      rcases hx with rfl | rfl | rfl | rfl | rfl | rfl
      · exact ⟨rfl, rfl, by decide⟩
      · exact ⟨rfl, rfl, by decide⟩
      · rfl
      · exact ⟨rfl, rfl, by decide⟩
      · exact ⟨rfl, rfl, by decide⟩
      · exact ⟨rfl, rfl, by decide⟩
    · simp [colType, firstType, csvText, (datelike_kept_string _).2.2.2.1]

end C19
