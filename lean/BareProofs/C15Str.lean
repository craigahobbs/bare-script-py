import BareModel.Lib

/-!
# C15 — contracts of the string primitives: `find` is the least match, `split` and `join` are inverse,
`replace` is `split` + `join`
-/

namespace C15
open Lib

/-- `sep.join(parts)` -/
def joinWith (sep : List Char) : List (List Char) → List Char
  | [] => []
  | [x] => x
  | x :: y :: rest => x ++ sep ++ joinWith sep (y :: rest)

theorem splitAux_ne_nil (sep : List Char) : ∀ (s : List Char) (skip : Nat) (cur : List Char), splitAux sep s skip cur ≠ []
  | [], _, _ => by simp [splitAux]
  | _ :: cs, skip + 1, cur => by simp only [splitAux]; exact splitAux_ne_nil sep cs skip cur
  | c :: cs, 0, cur => by
    simp only [splitAux]
    split
    · simp
    · exact splitAux_ne_nil sep cs 0 (c :: cur)

theorem joinWith_cons (sep x : List Char) (l : List (List Char)) (hl : l ≠ []) :
    joinWith sep (x :: l) = x ++ sep ++ joinWith sep l := by
  cases l with
  | nil => exact absurd rfl hl
  | cons y r => rfl

/-- invariant of the splitting loop: joining what it produces with any text `new` gives the text read so far plus the unread rest
with `old` replaced by `new`; `split_join` is its case `new = old` -/
theorem replaceAux_split (old new : List Char) : ∀ (s : List Char) (skip : Nat) (cur : List Char),
    joinWith new (splitAux old s skip cur) = cur.reverse ++ replaceAux old new s skip
  | [], skip, cur => by simp [splitAux, joinWith, replaceAux]
  | c :: cs, skip + 1, cur => by
    simp only [splitAux, replaceAux]
    exact replaceAux_split old new cs skip cur
  | c :: cs, 0, cur => by
    simp only [splitAux, replaceAux]
    split
    · rw [joinWith_cons _ _ _ (splitAux_ne_nil old cs _ _), replaceAux_split old new cs (old.length - 1) []]
      simp
    · rw [replaceAux_split old new cs 0 (c :: cur)]
      simp

theorem replaceAux_self (sep : List Char) (hsep : sep ≠ []) : ∀ (s : List Char) (skip : Nat),
    replaceAux sep sep s skip = s.drop skip
  | [], skip => by simp [replaceAux]
  | c :: cs, skip + 1 => by
    simp only [replaceAux, List.drop_succ_cons]
    exact replaceAux_self sep hsep cs skip
  | c :: cs, 0 => by
    simp only [replaceAux, List.drop_zero]
    split
    · rename_i hp
      obtain ⟨a, t, rfl⟩ := List.exists_cons_of_ne_nil hsep
      have h := List.prefix_iff_eq_append.mp (List.isPrefixOf_iff_prefix.mp hp)
      rw [replaceAux_self (a :: t) hsep cs ((a :: t).length - 1)]
      simpa using h
    · rw [replaceAux_self sep hsep cs 0, List.drop_zero]

/-- **split / join.** For a non-empty separator, joining the pieces of `s.split(sep)` with `sep` gives back `s`
(`stringSplit` followed by `arrayJoin` with the same separator is the identity). -/
theorem split_join (s sep : List Char) (hsep : sep ≠ []) : joinWith sep (pySplit s sep) = s := by
  unfold pySplit
  rw [replaceAux_split sep sep s 0 [], replaceAux_self sep hsep]
  rfl

/-- **replace = split + join.** For a non-empty `old`, `s.replace(old, new) = new.join(s.split(old))`. -/
theorem replace_split_join (s old new : List Char) (hold : old ≠ []) :
    pyReplace s old new = joinWith new (pySplit s old) := by
  unfold pyReplace pySplit
  have : old.isEmpty = false := by cases old <;> simp_all
  rw [this, replaceAux_split old new s 0 []]
  simp

/-! ## `find` -/

theorem isPrefixOf_nil (sub : List Char) : sub.isPrefixOf [] = sub.isEmpty := by cases sub <;> rfl

/-- **find is the least match.** If `findFrom sub s i = some j` then `j = i + k` where `k` is the least offset at which `sub`
occurs in `s`; if it is `none`, `sub` occurs at no offset. (`stringIndexOf` calls it on `s.drop start` with `i = start`.) -/
theorem findFrom_spec (sub : List Char) : ∀ (s : List Char) (i : Nat),
    (∀ j, findFrom sub s i = some j → ∃ k, j = i + k ∧ k ≤ s.length ∧ sub.isPrefixOf (s.drop k) = true ∧
        ∀ k', k' < k → sub.isPrefixOf (s.drop k') = false) ∧
    (findFrom sub s i = none → ∀ k, k ≤ s.length → sub.isPrefixOf (s.drop k) = false) := by
  intro s i
  fun_induction findFrom sub s i with
  | case1 i he =>
    exact ⟨fun j hj => ⟨0, by cases hj; rfl, Nat.le_refl _, by rwa [List.drop_zero, isPrefixOf_nil], nofun⟩, nofun⟩
  | case2 i he =>
    refine ⟨nofun, fun _ k hk => ?_⟩
    rw [List.drop_nil, isPrefixOf_nil]
    exact Bool.eq_false_iff.mpr he
  | case3 c cs i hp =>
    exact ⟨fun j hj => ⟨0, by cases hj; rfl, Nat.zero_le _, hp, nofun⟩, nofun⟩
  | case4 c cs i hp ih =>
    obtain ⟨ih1, ih2⟩ := ih
    refine ⟨fun j hj => ?_, fun hn k hk => ?_⟩
    · obtain ⟨k, rfl, hk2, hk3, hk4⟩ := ih1 j hj
      refine ⟨k + 1, by omega, Nat.succ_le_succ hk2, hk3, fun k' hk' => ?_⟩
      cases k' with
      | zero => exact Bool.eq_false_iff.mpr hp
      | succ k' => exact hk4 k' (Nat.lt_of_succ_lt_succ hk')
    · cases k with
      | zero => exact Bool.eq_false_iff.mpr hp
      | succ k => exact ih2 hn k (Nat.le_of_succ_le_succ hk)

/-- **rfind is the greatest match.** -/
theorem lastMatch_spec (sub : List Char) : ∀ (s : List Char) (i : Nat),
    (∀ j, lastMatch sub s i = some j → ∃ k, j = i + k ∧ k ≤ s.length ∧ sub.isPrefixOf (s.drop k) = true ∧
        ∀ k', k < k' → k' ≤ s.length → sub.isPrefixOf (s.drop k') = false) ∧
    (lastMatch sub s i = none → ∀ k, k ≤ s.length → sub.isPrefixOf (s.drop k) = false) := by
  intro s i
  fun_induction lastMatch sub s i with
  | case1 i he =>
    refine ⟨fun j hj => ⟨0, by cases hj; rfl, Nat.le_refl _, by rwa [List.drop_zero, isPrefixOf_nil], ?_⟩, nofun⟩
    intro k' h1 h2
    exact absurd (Nat.lt_of_lt_of_le h1 h2) (Nat.lt_irrefl _)
  | case2 i he =>
    refine ⟨nofun, fun _ k hk => ?_⟩
    rw [List.drop_nil, isPrefixOf_nil]
    exact Bool.eq_false_iff.mpr he
  | case3 c cs i j' hj' ih =>
    refine ⟨fun j hj => ?_, nofun⟩
    cases hj
    obtain ⟨k, rfl, hk2, hk3, hk4⟩ := ih.1 j' hj'
    refine ⟨k + 1, by omega, Nat.succ_le_succ hk2, hk3, fun k' h1 h2 => ?_⟩
    cases k' with
    | zero => omega
    | succ k' => exact hk4 k' (Nat.lt_of_succ_lt_succ h1) (Nat.le_of_succ_le_succ h2)
  | case4 c cs i hnone hp ih =>
    refine ⟨fun j hj => ⟨0, by cases hj; rfl, Nat.zero_le _, hp, fun k' h1 h2 => ?_⟩, nofun⟩
    cases k' with
    | zero => omega
    | succ k' => exact ih.2 hnone k' (Nat.le_of_succ_le_succ h2)
  | case5 c cs i hnone hp ih =>
    refine ⟨nofun, fun _ k hk => ?_⟩
    cases k with
    | zero => exact Bool.eq_false_iff.mpr hp
    | succ k => exact ih.2 hnone k (Nat.le_of_succ_le_succ hk)
/-! ### non-vacuity -/

example : pySplit ['a', ',', 'b', ',', ',', 'c'] [','] = [['a'], ['b'], [], ['c']] := by decide +kernel
example : joinWith [','] (pySplit ['a', ',', 'b', ',', ',', 'c'] [',']) = ['a', ',', 'b', ',', ',', 'c'] := by decide +kernel
example : pyReplace ['a', 'b', 'a', 'b', 'a'] ['a', 'b'] ['x'] = ['x', 'x', 'a'] := by decide +kernel
example : findFrom ['b', 'c'] ['a', 'b', 'c', 'b', 'c'] 0 = some 1 := by decide +kernel
example : lastMatch ['b', 'c'] ['a', 'b', 'c', 'b', 'c'] 0 = some 3 := by decide +kernel

end C15
