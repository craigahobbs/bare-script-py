import BareProofs.C07SchemaLemmas
import BareProofs.C07SchemaInv
import BareProofs.C07SchemaRead
import BareProofs.C07

/-!
# C07Schema — the published schema, regenerated from the code, and "parse output validates" / "schema-valid = representable"

(extension of C07 "every model returned by `parse_script` satisfies the published BareScript schema" and of the quantifier of C08
"any schema-valid BareScript model")

* `Gen.schema` (BareModel/Gen/Schema.lean) is `bare_script.model.BARE_SCRIPT_TYPES`, regenerated on every check run.
* `Schema.validate` (BareModel/Schema.lean) is `schema_markdown.validate_type`: `none` = raises, `some j'` = the validated,
  transformed copy (members in schema order, strings coerced — see the header of that file for the conventions, in particular
  how numbers are written in `PJson`).
* `Schema.scriptJ` is the JSON the boundary writes for a `List Stmt`; it is the structurally recursive twin of the harness-only
  `partial def Syntax.scriptToJson` (`partial` definitions are opaque to the kernel, so no theorem can be *about* `scriptToJson`;
  the two are compared by `#guard` on the demo program below and on every case of the driver op `schema_script`).
  **All theorems here are about `scriptJ`.**

Theorems (all for every statement list / every JSON document, no bound on size or depth):

* `toJson_validates`        `wfL P → validate Gen.schema "BareScript" (scriptJ P) = some (scriptW P)` — the boundary's JSON of every
                             statement list without an empty include list validates, and the validated copy is `scriptW P`;
                             `toJson_valid` is the Boolean corollary.  `wfL` is necessary: `include_nil_invalid`.
* `parsed_validates`        `parseLines ls = .ok P → valid Gen.schema "BareScript" (scriptJ P) = true` — composition with
                             `C07.schema_valid` (everything the model of `parse_script`'s statement builder returns);
  `lowered_validates`       the same for the spec lowering of every structured program without an empty include.
* `valid_is_representable`  `validate Gen.schema "BareScript" j = some j'` ⇒ the validated copy `j'` *reads* (`scriptOf`) as a
                             statement list `P` (well-formed, identifiers canonical, function ids in source order), `scriptJ P`
                             validates, and its validated copy equals `j'` up to optional members at their defaults
                             (`dropD`: a `false` flag, an empty `args`) — member order is taken care of by the validator itself,
                             whose copy is in schema order, as in Python.  `valid_set_eq_stmt_set` packages both directions:
                             {validated copies} = {`scriptW P`} modulo `dropD`.
* `read_write`              `scriptOf (scriptW P) = some (zeroL P)` for canonical identifiers: reading inverts writing (function
                             ids are not part of the schema), so the correspondence between validated copies (up to defaults) and
                             statement lists (up to function ids) is one-to-one; `readScript_scriptJ`: write, validate, read back
                             = `renumber`.
* `scriptJ_renumber` …      (C07SchemaRead.lean) `renumber` (function ids in source order from 0, as `progen.canon_script` numbers
                             them) changes nothing but the ids; the ids it assigns are `0, 1, …, n-1` in pre-order (`fids_renumber`).

Not proved here: that the statement lists `parseLines` returns have canonical identifiers (`namesL`; true — source identifiers go
through `Name.ofString`, generated ones are `gen k n` — but `Name.ofString (gen k n).render = gen k n` needs the `Nat` decimal
round trip, which no lemma of the project provides yet), so `readScript_scriptJ` is not composed with `parsed_validates`.

What `valid_is_representable` means for C08: a *schema-valid* document is not always a model the runtime can execute as it stands
— `validate_type` also accepts `""` for any struct / array and numeric or boolean *strings* for `float` / `bool`
(`coercions_accepted` below) — but its **validated copy** always is, and that copy is `scriptJ P` for a `P : List Stmt` up to
member order and defaulted optional members.  So "for any schema-valid model" = "for any `List Stmt`" holds for models that went
through `validate_script` (or were built without those coercions), which is what the C08 harness generates.
-/

namespace C07Schema
open Schema PJson Gen Lower

/-- For every statement list `P` with no empty include list (in `P` and, recursively, in function bodies),
`validate_type(BARE_SCRIPT_TYPES, 'BareScript', ·)` accepts the JSON the boundary writes for `P` and returns `scriptW P` (the same
members in schema order). -/
theorem toJson_validates (P : List Stmt) (h : wfL P = true) : validate Gen.schema "BareScript" (scriptJ P) = some (scriptW P) :=
  val_scriptJ P h

theorem toJson_valid (P : List Stmt) (h : wfL P = true) : valid Gen.schema "BareScript" (scriptJ P) = true := by
  simp [valid, toJson_validates P h]

/-- expressions, on their own (`validate_expression`) -/
theorem exprToJson_validates (e : Expr) : validate Gen.schema "Expression" (exprJ e) = some (exprW e) := val_exprJ e

/-- the hypothesis of `toJson_validates` is needed: an empty include list is what the schema's `len > 0` rejects -/
theorem include_nil_invalid : valid Gen.schema "BareScript" (scriptJ [.include []]) = false := by decide +kernel

/-! ### the demo: every statement kind, every expression kind, every optional member present and absent -/

def demoExpr : Expr :=
  .binary .add (.number (mkRat 3 2))
    (.function (.user "f") [.variable (.user "x"), .unary .neg (.group (.string "s")), .function (.user "g") []])

def demoProg : List Stmt :=
  [ .expr (some (.user "y")) demoExpr, .expr none (.unary .not (.variable (.user "z"))),
    .jump (.user "l") (some demoExpr), .jump (.user "l") none, .ret none, .ret (some demoExpr), .label (.user "l"),
    .function 0 (.user "f") [.user "a", .user "b"] true true [.ret (some demoExpr), .function 1 (.user "h") [.user "c"] false true []],
    .function 2 (.user "g") [] false false [],
    .include [⟨"a.bare", true⟩, ⟨"b", false⟩] ]

example : wfL demoProg = true := by decide
example : namesL demoProg = true := by decide +kernel
example : validate Gen.schema "BareScript" (scriptJ demoProg) = some (scriptW demoProg) := toJson_validates demoProg (by decide)
/-- the same by evaluation of the validator in the kernel (nothing but `Schema.val` and the generated table is used) -/
example : validate Gen.schema "BareScript" (scriptJ demoProg) = some (scriptW demoProg) := by rfl
example : valid Gen.schema "BareScript" (scriptJ demoProg) = true := toJson_valid _ (by decide)
/-- parser-generated identifiers are rendered in their canonical spelling (`__bareScriptIf0` …) -/
example : valid Gen.schema "BareScript" (scriptJ [.jump (.gen .ifL 0) (some (.variable (.gen .values 3))), .label (.gen .ifL 0)]) =
    true := toJson_valid _ (by decide)

/-! `scriptJ` and the harness-only `partial def Syntax.scriptToJson` write the same JSON (evaluated, not proved: `partial`
definitions are opaque to the kernel; the driver op `schema_script` repeats this on every case, answer member `twin`) -/
#guard (Syntax.scriptToJson demoProg).render == (scriptJ demoProg).render
#guard (Syntax.exprToJson demoExpr).render == (exprJ demoExpr).render

/-! ### five hand-made invalid documents (each also rejected by the real `validate_script`) -/

set_option exponentiation.threshold 2000 in
/-- unknown member: `{"statements": [{"return": {"expr": {"number": 1}, "bogus": true}}]}` -/
example : valid Gen.schema "BareScript"
    (mk [("statements", .arr [mk [("return", mk [("expr", mk [("number", .num 1)]), ("bogus", .bool true)])]])]) = false := by decide +kernel
/-- two union members: `{"statements": [{"label": "a", "return": {}}]}` -/
example : valid Gen.schema "BareScript" (mk [("statements", .arr [mk [("label", .str "a"), ("return", mk [])]])]) = false := by decide +kernel
/-- empty `args`: `{"statements": [{"function": {"name": "f", "args": [], "statements": []}}]}` -/
example : valid Gen.schema "BareScript"
    (mk [("statements", .arr [mk [("function", mk [("name", .str "f"), ("args", .arr []), ("statements", .arr [])])]])]) = false := by
  decide +kernel
/-- wrong built-in type: `{"statements": [{"label": 5}]}` -/
example : valid Gen.schema "BareScript" (mk [("statements", .arr [mk [("label", .num 5)]])]) = false := by decide +kernel
/-- missing required member: `{"statements": [{"jump": {}}]}` -/
example : valid Gen.schema "BareScript" (mk [("statements", .arr [mk [("jump", mk [])]])]) = false := by decide +kernel
set_option exponentiation.threshold 2000 in
/-- … and the same documents repaired are accepted -/
example : valid Gen.schema "BareScript"
    (mk [("statements", .arr [mk [("return", mk [("expr", mk [("number", .num 1)])])], mk [("label", .str "a")],
      mk [("function", mk [("name", .str "f"), ("args", .arr [.str "a"]), ("statements", .arr [])])],
      mk [("jump", mk [("label", .str "a")])]])]) = true := by decide +kernel

/-- what `validate_type` accepts beyond the plain shape (each checked against the real function): `""` for a struct or an array,
`"true"` / `"false"` for a bool, an int for a float; the validated copy has them coerced -/
theorem coercions_accepted :
    validate Gen.schema "BareScript" (mk [("statements", .str "")]) = some (mk [("statements", .arr [])]) ∧
    validate Gen.schema "BareScript" (mk [("statements", .arr [mk [("return", .str "")]])]) =
      some (mk [("statements", .arr [mk [("return", mk [])]])]) ∧
    validate Gen.schema "BareScript"
        (mk [("statements", .arr [mk [("function", mk [("statements", .str ""), ("async", .str "true"), ("name", .str "f")])]])]) =
      some (mk [("statements", .arr [mk [("function", mk [("async", .bool true), ("name", .str "f"), ("statements", .arr [])])]])]) ∧
    validate Gen.schema "Expression" (mk [("number", .bool true)]) = none := by
  refine ⟨by rfl, by rfl, by rfl, by rfl⟩

set_option exponentiation.threshold 2000 in
/-- an int where a float is expected is accepted (and becomes the float) -/
example : validate Gen.schema "Expression" (mk [("number", .num 12)]) = some (mk [("number", .arr [.num 12, .num 1])]) := by rfl

/-! a numeric string where a float is expected is accepted when `float()` parses it to a finite value (evaluated: the text grammar
`NumText.numberParseFloat` goes through `String` primitives the kernel does not unfold); a JSON float literal is a float -/
#guard validate Gen.schema "Expression" (mk [("number", .str " 1_0e2 ")]) == some (mk [("number", .arr [.num 1000, .num 1])])
#guard validate Gen.schema "Expression" (mk [("number", .str "inf")]) == none
#guard validate Gen.schema "Expression" (mk [("number", .str "12abc")]) == none
#guard validate Gen.schema "Expression" (mk [("number", .raw "1.5e1")]) == some (mk [("number", .arr [.num 15, .num 1])])
#guard validate Gen.schema "Expression" (mk [("number", .arr [.num 6, .num 4])]) == some (mk [("number", .arr [.num 3, .num 2])])

mutual
theorem wfS_of_scopes : ∀ s : Stmt, s ≠ .include [] → (∀ sc ∈ C07.bodiesS s, Stmt.include [] ∉ sc) → wfS s = true
  | .expr _ _, _, _ => rfl
  | .jump _ _, _, _ => rfl
  | .ret _, _, _ => rfl
  | .label _, _, _ => rfl
  | .include [], h, _ => absurd rfl h
  | .include (_ :: _), _, _ => rfl
  | .function _ _ _ _ _ body, _, hb => by
      simp only [wfS]
      exact wfL_of_scopes body (hb body (by simp [C07.bodiesS])) (fun sc hsc => hb sc (by simp [C07.bodiesS, hsc]))
theorem wfL_of_scopes : ∀ ss : List Stmt, Stmt.include [] ∉ ss → (∀ sc ∈ C07.bodiesL ss, Stmt.include [] ∉ sc) → wfL ss = true
  | [], _, _ => rfl
  | s :: r, hs, hb => by
      simp only [wfL, Bool.and_eq_true]
      exact ⟨wfS_of_scopes s (fun h => hs (h ▸ List.mem_cons_self)) (fun sc hsc => hb sc (by simp [C07.bodiesL, hsc])),
        wfL_of_scopes r (fun h => hs (List.mem_cons_of_mem _ h)) (fun sc hsc => hb sc (by simp [C07.bodiesL, hsc]))⟩
end

/-- the form in which `C07.schema_valid` states "no empty include list" implies the decidable `wfL` -/
theorem wfL_of_no_empty_include (P : List Stmt) (h : ∀ sc ∈ C07.scopes P, Stmt.include [] ∉ sc) : wfL P = true :=
  wfL_of_scopes P (h P (by simp [C07.scopes])) (fun sc hsc => h sc (by simp [C07.scopes, hsc]))

/-- Whatever the line-at-a-time statement builder of `parse_script` (mirror `Lower.parseLines`) returns, on
any sequence of classified lines, validates against the published schema (`C07.schema_valid` + `toJson_validates`). -/
theorem parsed_validates (ls : List Line) (P : List Stmt) (h : parseLines ls = .ok P) :
    validate Gen.schema "BareScript" (scriptJ P) = some (scriptW P) :=
  toJson_validates P (wfL_of_no_empty_include P (C07.schema_valid.2 ls P h))

theorem parsed_valid (ls : List Line) (P : List Stmt) (h : parseLines ls = .ok P) :
    valid Gen.schema "BareScript" (scriptJ P) = true :=
  toJson_valid P (wfL_of_no_empty_include P (C07.schema_valid.2 ls P h))

/-- the same for the recursive spec lowering of every structured program without an (unrenderable) empty raw include -/
theorem lowered_validates (B : List SStmt) (h : C07.incOkB B = true) :
    validate Gen.schema "BareScript" (scriptJ (lowerProgram B)) = some (scriptW (lowerProgram B)) :=
  toJson_validates _ (wfL_of_no_empty_include _ (C07.schema_valid.1 B h))

example : parseLines (renderB C07.demo) = .ok (lowerProgram C07.demo) :=
  C01.parseLines_render C07.demo (by decide) (by decide) (by decide)
example : valid Gen.schema "BareScript" (scriptJ (lowerProgram C07.demo)) = true := by
  simp only [valid, lowered_validates C07.demo (by decide), Option.isSome_some]
example : C07.incOkB C07.demo = true := by decide

/-- If `validate_type(BARE_SCRIPT_TYPES, 'BareScript', j)` succeeds with the validated copy `j'`, then
`readScript` (= read the validated copy, number the function definitions in source order) yields a statement list `P` such that
* `P` is well formed for the boundary (`wfL`), its identifiers are canonical (`namesL`), its function ids are `0 … n-1` in source order;
* the boundary's JSON of `P` validates, and its validated copy `scriptW P` equals `j'` once optional members that are at their
  defaults (a `false` flag, an empty `args`) are dropped on both sides.
Member order needs no separate treatment: the validated copy is in schema order (as Python's is). -/
theorem valid_is_representable (j j' : PJson) (h : validate Gen.schema "BareScript" j = some j') :
    ∃ P, readScript Gen.schema j = some P ∧ wfL P = true ∧ namesL P = true ∧ fidsL P = List.range (fidsL P).length ∧
      validate Gen.schema "BareScript" (scriptJ P) = some (scriptW P) ∧ dropD (scriptW P) = dropD j' := by
  obtain ⟨P0, hP, hw, hn, hd⟩ := script_repr h
  have hfid := fids_renumber P0
  refine ⟨renumber P0, by simp [readScript, h, hP], by rw [wfL_renumber]; exact hw, by rw [namesL_renumber]; exact hn, ?_,
    toJson_validates _ (by rw [wfL_renumber]; exact hw), by rw [scriptW_renumber]; exact hd⟩
  rw [hfid, List.length_range]

/-- a hand-written schema-valid document: members out of schema order, a defaulted flag spelled out, `"true"` for a bool, `""` for
a struct, an int for a float, a function call without `args` -/
def demoDoc : PJson :=
  mk [("statements", .arr [
    mk [("function", mk [("statements", .arr [mk [("return", .str "")]]), ("lastArgArray", .bool false), ("name", .str "f"),
      ("async", .str "true")])],
    mk [("expr", mk [("expr", mk [("function", mk [("name", .str "g")])])])],
    mk [("jump", mk [("expr", mk [("number", .num 12)]), ("label", .str "L")])]])]

set_option exponentiation.threshold 2000 in
example : validate Gen.schema "BareScript" demoDoc = some (mk [("statements", .arr [
    mk [("function", mk [("async", .bool true), ("name", .str "f"), ("lastArgArray", .bool false),
      ("statements", .arr [mk [("return", mk [])]])])],
    mk [("expr", mk [("expr", mk [("function", mk [("name", .str "g")])])])],
    mk [("jump", mk [("label", .str "L"), ("expr", mk [("number", .arr [.num 12, .num 1])])])]])]) := by rfl

set_option exponentiation.threshold 2000 in
example : readScript Gen.schema demoDoc = some [.function 0 (.user "f") [] false true [.ret none],
    .expr none (.function (.user "g") []), .jump (.user "L") (some (.number 12))] := by rfl

theorem valid_is_representable' (j : PJson) (h : valid Gen.schema "BareScript" j = true) :
    ∃ j' P, validate Gen.schema "BareScript" j = some j' ∧ readScript Gen.schema j = some P ∧ wfL P = true ∧
      valid Gen.schema "BareScript" (scriptJ P) = true ∧ dropD (scriptW P) = dropD j' := by
  simp only [valid, Option.isSome_iff_exists] at h
  obtain ⟨j', hj⟩ := h
  obtain ⟨P, h1, h2, _, _, h5, h6⟩ := valid_is_representable j j' hj
  exact ⟨j', P, hj, h1, h2, by simp [valid, h5], h6⟩

/-- Reading the validated copy of a statement list with canonical identifiers gives the list back (function ids
are not part of the schema: they come back as 0, and `readScript` renumbers them). -/
theorem read_write (P : List Stmt) (h : namesL P = true) : scriptOf (scriptW P) = some (zeroL P) := scriptOf_scriptW P h

example : scriptOf (scriptW demoProg) = some (zeroL demoProg) := read_write demoProg (by decide +kernel)

/-- writing, validating and reading back a well-formed statement list with canonical identifiers changes nothing but the function ids,
which come back numbered in source order -/
theorem readScript_scriptJ (P : List Stmt) (hw : wfL P = true) (hn : namesL P = true) :
    readScript Gen.schema (scriptJ P) = some (renumber P) := by
  have hr : renumber (zeroL P) = renumber P := renumber_zeroL P
  simp [readScript, toJson_validates P hw, read_write P hn, hr]

/-- **valid_set_eq_stmt_set** ("any schema-valid model" and "any `List Stmt`" are the same set): a JSON value is, up to defaulted
optional members, the validated copy of some schema-valid document iff it is, up to the same, the validated JSON of a
statement list without empty include lists. -/
theorem valid_set_eq_stmt_set (D : PJson) :
    (∃ j j', validate Gen.schema "BareScript" j = some j' ∧ dropD j' = D) ↔ (∃ P, wfL P = true ∧ dropD (scriptW P) = D) := by
  constructor
  · rintro ⟨j, j', h, rfl⟩
    obtain ⟨P, _, hw, _, _, _, hd⟩ := valid_is_representable j j' h
    exact ⟨P, hw, hd⟩
  · rintro ⟨P, hw, rfl⟩
    exact ⟨scriptJ P, scriptW P, toJson_validates P hw, rfl⟩

end C07Schema
