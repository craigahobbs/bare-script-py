import BareProofs.C11Bridge
import BareProofs.HostLibLemmas

/-!
# C11Bridge, second host — `HostLib.hostLib` (world `LWorld` = `Lib.Heap` + log + partials)

`HostLib.hostLib` evaluates operators, `systemCompare` and the value-needle `arrayIndexOf` fallback with HostImpl's code on the
projection `LWorld.toImpl` (`Lib` cells converted by the isomorphism `ofLib`/`toLib`, `HostLib.ofLib_toLib`).  A value of
an `LWorld` therefore denotes the closed value `reifyL w v = reify w.toImpl v`, and the theorems of `C11Bridge` transfer.
`Lib` does not model `systemCompare`: the fallback is HostImpl's tree, lifted; the world is handed back unchanged.
-/

namespace C11Bridge
open Machine HostImpl HostLib

/-- the closed value a value of an `LWorld` denotes -/
def reifyL (w : LWorld) (v : Value) : Option Compare.PValue := reify w.toImpl v

theorem hostLib_lib : hostLib.lib = HostLib.lib := rfl

theorem hostLib_compare_bridge (w : LWorld) (a b : Value) (pa pb : Compare.PValue) (ha : reifyL w a = some pa)
    (hb : reifyL w b = some pb) : HostImpl.compare? w.toImpl a b = some (Compare.valueCompare pa pb) :=
  compare_bridge w.toImpl a b pa pb ha hb

/-- the relational operators of the second host are the sign tests of `Compare.valueCompare` on the denoted closed values -/
theorem hostLib_relop (w : LWorld) (op : BinOp) (rop : Compare.RelOp) (hop : relOf op = some rop) (a b : Value)
    (pa pb : Compare.PValue) (ha : reifyL w a = some pa) (hb : reifyL w b = some pb) :
    hostLib.binop op a b w = .bool (Compare.relop rop pa pb) :=
  machine_relop w.toImpl op rop hop a b pa pb ha hb

theorem hostLib_relops_sign (w : LWorld) (a b : Value) (pa pb : Compare.PValue) (ha : reifyL w a = some pa)
    (hb : reifyL w b = some pb) :
    hostLib.binop .eq a b w = .bool (Compare.valueCompare pa pb == 0) ∧
    hostLib.binop .ne a b w = .bool (Compare.valueCompare pa pb != 0) ∧
    hostLib.binop .le a b w = .bool (decide (Compare.valueCompare pa pb ≤ 0)) ∧
    hostLib.binop .lt a b w = .bool (decide (Compare.valueCompare pa pb < 0)) ∧
    hostLib.binop .ge a b w = .bool (decide (Compare.valueCompare pa pb ≥ 0)) ∧
    hostLib.binop .gt a b w = .bool (decide (Compare.valueCompare pa pb > 0)) :=
  machine_relops_sign w.toImpl a b pa pb ha hb

/-- … through the evaluator, on any configuration whose host is `hostLib` -/
theorem hostLib_eval_relop (cfg : Config LWorld) (hh : cfg.host = hostLib) (call : CallFn LWorld) (locals : Option Env)
    (op : BinOp) (rop : Compare.RelOp) (hop : relOf op = some rop) (l r : Expr) (st st1 st2 : State LWorld) (lv rv : Value)
    (hl : evalExpr cfg call locals l st = .ok lv st1) (hr : evalExpr cfg call locals r st1 = .ok rv st2)
    (pa pb : Compare.PValue) (ha : reifyL st2.world lv = some pa) (hb : reifyL st2.world rv = some pb) :
    evalExpr cfg call locals (.binary op l r) st = .ok (.bool (Compare.relop rop pa pb)) st2 := by
  rw [C09.evalExpr_strict cfg call locals (relOf_strict hop).1 (relOf_strict hop).2 hl hr, hh, hostLib_relop st2.world op rop hop lv rv pa pb ha hb]

/-- `systemCompare(a, b)` on the second host: `Compare.valueCompare` of the denoted closed values, world unchanged -/
theorem hostLib_systemCompare (w : LWorld) (a b : Value) (pa pb : Compare.PValue) (ha : reifyL w a = some pa)
    (hb : reifyL w b = some pb) :
    hostLib.lib "systemCompare" [a, b] w = .ret (.ok (.num (Compare.valueCompare pa pb : Int))) w := by
  have h := (machine_systemCompare w.toImpl a b pa pb ha hb).1
  rw [host_lib] at h
  rw [lib_keeps_noBody (by decide) (by decide), h, lift, putBack_toImpl]

theorem hostLib_call_systemCompare (cfg : Config LWorld) (hh : cfg.host = hostLib) (fuel : Nat) (st : State LWorld)
    (a b : Value) (pa pb : Compare.PValue) (ha : reifyL st.world a = some pa) (hb : reifyL st.world b = some pb) :
    callValue cfg (fuel + 1) (.fn (.lib "systemCompare")) [a, b] st = .ok (.num (Compare.valueCompare pa pb : Int)) st := by
  rw [callValue, hh, hostLib_systemCompare st.world a b pa pb ha hb]
  rfl

/-- the world of the `C11Bridge` examples, as an `LWorld` -/
def exLW : LWorld := LWorld.ofImpl exW

theorem exLW_reify : reifyL exLW (.arr 2) = some exP0 ∧ reifyL exLW (.arr 3) = some exP1 ∧
    reifyL exLW (.arr 4) = some (.arr [exP0, exP0, exP1]) ∧ reifyL exLW (.arr 5) = none := by
  have : exLW.toImpl = exW := rfl
  simp only [reifyL, this]
  exact ⟨exW_reify.1, exW_reify.2.1, exW_reify.2.2.1, exW_reify.2.2.2.1⟩

example : hostLib.binop .eq (.arr 2) (.arr 3) exLW = .bool true ∧ hostLib.binop .gt (.arr 2) (.arr 4) exLW = .bool true ∧
    hostLib.lib "systemCompare" [.arr 2, .arr 4] exLW = .ret (.ok (.num 1)) exLW := by
  have h1 := hostLib_relops_sign exLW _ _ _ _ exLW_reify.1 exLW_reify.2.1
  have h2 := hostLib_relops_sign exLW _ _ _ _ exLW_reify.1 exLW_reify.2.2.1
  have h3 := hostLib_systemCompare exLW _ _ _ _ exLW_reify.1 exLW_reify.2.2.1
  rw [exP_cmp.1] at h1; rw [exP_cmp.2] at h2 h3
  exact ⟨h1.1, h2.2.2.2.2.2, by simpa using h3⟩

end C11Bridge
