import BareModel.Parser
import BareProofs.C06Lemmas
import BareProofs.C06Caret

/-!
# C06 — the parser is total and its diagnostics point at the offending source

About the assembled model of `parse_script` (`Parser.parseScript chunks start`, `BareModel/Parser.lean`: physical lines →
logical lines → regex cascade → expression parser → lowering step → end-of-input checks), for **all** inputs (any
number and length of chunks / lines, any nesting depth): totality (`parse_total`); where an error points and of what kind
it is (`parse_error`, read as `error_position` and `error_kinds`; `first_error_wins`); what acceptance means
(`no_open_block_accepted`, `accounts_for_every_line`); how line numbers move with the start number and with lines put in
front (`start_line_offsets`, `prepend_shifts_line_partial`, `prepend_statements_shift`).  The formatted message with its
caret is in `C06Caret.lean`.
-/

namespace C06
open Text Scan Lower Parser

/-! Examples and `prepend_statements_shift` are stated with `errOf` (the error of a result, if any) because the success
type `List Stmt` has no `DecidableEq`. -/

theorem errOf_eq_none {α : Type} {r : Except ParserError α} : errOf r = none ↔ ∃ m, r = .ok m := by
  cases r with
  | ok m => exact ⟨fun _ => ⟨m, rfl⟩, fun _ => rfl⟩
  | error e => exact ⟨nofun, nofun⟩

/-- a property of the value of a concrete computation that succeeds, by evaluating it once.  (A `match` in `h` would be
unfolded by the kernel when it compares `h` with what was evaluated, and `r` evaluated a second time.) -/
theorem exists_ok_of_decide {ε α : Type} {r : Except ε α} {P : α → Prop} [DecidablePred P]
    (h : r.toOption.any (fun a => decide (P a)) = true) : ∃ a, r = .ok a ∧ P a := by
  cases r with
  | ok a => exact ⟨a, rfl, of_decide_eq_true h⟩
  | error e => cases h

/-- **parse_total**: for every input `parse_script` returns a model or raises a `BareScriptParserError` — in the model
this is the typing of `parseScript` (a total function into `Except ParserError (List Stmt)`; every `raise` of the code
is a `ParserError` value, there is no other failure value). -/
theorem parse_total : ∀ (chunks : List String) (start : Nat),
    (∃ m, parseScript chunks start = .ok m) ∨ (∃ e, parseScript chunks start = .error e) := by
  intro chunks start
  cases parseScript chunks start with
  | ok m => exact .inl ⟨m, rfl⟩
  | error e => exact .inr ⟨e, rfl⟩

example : (∃ m, parseScript ["x = 1", "if x:", "  y = 2", "endif"] 1 = .ok m) := by
  refine errOf_eq_none.mp ?_
  rw [parseScript_eq_parseFrom, C10.scriptLines_eq]
  simp only [List.map_cons, List.map_nil]
  decide_lit

theorem scriptLines_dangling {chunks : List String} {d : Text.LineErr} (h : (Text.scriptLines chunks).2 = some d) :
    d.error = Text.unterminated ∧ d.column = d.line.length + 1 := by
  unfold Text.scriptLines Text.logicalLinesCore at h
  obtain ⟨x, _, rfl⟩ := Option.map_eq_some_iff.mp h
  exact ⟨rfl, by simp [Text.LineErr.ofDangling]⟩

/-- every error is classified once: it is reported at a logical line of the input with a column inside it, and is an
expression error or a block-structure error in column 1; or it is the dangling continuation at the end of the input -/
theorem parse_error {chunks : List String} {start : Nat} {e : ParserError} (h : parseScript chunks start = .error e) :
    (GoodPos start (Text.scriptLines chunks).1 e ∧ (ExprMsg e.error ∨ e.column = 1)) ∨
    ∃ d, (Text.scriptLines chunks).2 = some d ∧ e = ⟨Text.unterminated, d.line, d.line.length + 1, start + d.ixLine⟩ := by
  obtain ⟨hok, herr⟩ := stepAll_ind (start := start) (ll := (Text.scriptLines chunks).1)
    (P := fun s => Sync s ∧ Pos start (Text.scriptLines chunks).1 s)
    (fun _ hm _ _ hp hs => ⟨stepLogical_sync hp.1 hs, stepLogical_pos hm hp.2 hs⟩)
    (fun _ hm _ _ hp he => stepLogical_error hm hp.2 he) ⟨sync_init, pos_init _ _⟩
  rw [parseScript_eq_parseFrom] at h
  unfold parseFrom at h
  split at h
  · cases h; exact .inl (herr _ ‹_›)
  · obtain ⟨hs, hp⟩ := hok _ ‹_›
    obtain ⟨hg, hc⟩ | ⟨d, hd, rfl⟩ := finishAll_error hs hp h
    · exact .inl ⟨hg, .inr hc⟩
    · obtain ⟨h1, h2⟩ := scriptLines_dangling hd
      exact .inr ⟨d, hd, by rw [h1, h2]⟩

/-- **error_position**: every `BareScriptParserError` raised by `parse_script` carries

* the number `start_line_number + ix` and the text of a logical line `(ix, line)` of the input (`ix` = index of its
  first physical line, `line` = the joined text), and a column with `1 ≤ column ≤ len(line) + 1`
  (`len + 1` = "at the end of the line"), **or**
* for an input that ends inside a continued line: number and joined text of that unfinished line, the column
  `len(line) + 1` and the text "Unterminated line continuation".

All eight statement kinds with an expression (assignment, `if`, `elif`, `while`, `for`, `jumpif`, `return`, expression
statement) are covered by the column bound; block-structure errors have column 1 and report either the current line or
the line that opened the unclosed block (`Missing end…`). -/
theorem error_position (chunks : List String) (start : Nat) (e : ParserError)
    (h : parseScript chunks start = .error e) :
    (∃ ix line, (ix, line) ∈ (Text.scriptLines chunks).1 ∧
        e.lineNumber = start + ix ∧ e.line = line ∧ 1 ≤ e.column ∧ e.column ≤ line.length + 1) ∨
    (∃ d, (Text.scriptLines chunks).2 = some d ∧ e.error = Text.unterminated ∧
        e.lineNumber = start + d.ixLine ∧ e.line = d.line ∧ e.column = d.line.length + 1) := by
  obtain ⟨hg, _⟩ | ⟨d, hd, rfl⟩ := parse_error h
  · exact .inl hg
  · exact .inr ⟨d, hd, rfl, rfl, rfl, rfl⟩

/-- `if a +:` → Syntax error, line 1, column 7: the expression `a +` starts at offset 3 of the line and the expression
parser stops at its end (column 4 of the expression).  The hypotheses of `error_position` are inhabited by an expression
error inside an `if`, at the right offset inside the *line* (F5). -/
example : errOf (parseScript ["if a +:"] 1) = some ⟨"Syntax error", "if a +:", 7, 1⟩ := by
  -- the logical lines are computed on the characters of the literals (`C10.scriptLines_eq`): the kernel runs the UTF-8 coder once per
  -- logical line, not on every literal and again on every physical line
  rw [parseScript_eq_parseFrom, C10.scriptLines_eq]
  simp only [List.map_cons, List.map_nil]
  decide_lit

/-- a missing `endif` is reported at the line of the `if` (line 2: a comment line comes first) -/
example : errOf (parseScript ["# c", "if a:", "  x = 1", ""] 1) = some ⟨"Missing endif statement", "if a:", 1, 2⟩ := by
  rw [parseScript_eq_parseFrom, C10.scriptLines_eq]
  simp only [List.map_cons, List.map_nil]
  decide_lit

/-- a dangling continuation: joined text, column `len + 1`, number of the first physical line of the unfinished line -/
example : errOf (parseScript ["y = 0", "x = 1 + \\", "  2 \\"] 1) =
    some ⟨"Unterminated line continuation", "x = 1 + 2", 10, 2⟩ := by
  rw [parseScript_eq_parseFrom, C10.scriptLines_eq]
  simp only [List.map_cons, List.map_nil]
  decide_lit

/-- one chunk with several physical lines, a continued line with the error in its second part, `start = 10` -/
example : errOf (parseScript ["a = 1\nwhile a < \\\n   3 +:\n  a = 2\nendwhile"] 10) =
    some ⟨"Syntax error", "while a < 3 +:", 14, 11⟩ := by
  rw [parseScript_eq_parseFrom, C10.scriptLines_eq]
  simp only [List.map_cons, List.map_nil]
  decide_lit

/-- `endfunction` with an open block reports the block's opening line -/
example : errOf (parseScript ["function f():", "for x in y:", "endfunction"] 1) =
    some ⟨"Missing endfor statement", "for x in y:", 1, 2⟩ := by
  rw [parseScript_eq_parseFrom, C10.scriptLines_eq]
  simp only [List.map_cons, List.map_nil]
  decide_lit

/-- **error_kinds**: every error is an expression error (`Syntax error` / `Unmatched parenthesis`, column as in
`error_position`), a dangling continuation, or a block-structure error — and those always have column 1. -/
theorem error_kinds (chunks : List String) (start : Nat) (e : ParserError) (h : parseScript chunks start = .error e) :
    e.error = "Syntax error" ∨ e.error = "Unmatched parenthesis" ∨ e.error = Text.unterminated ∨ e.column = 1 := by
  obtain ⟨_, (h1 | h1) | h1⟩ | ⟨d, _, rfl⟩ := parse_error h
  · exact .inl h1
  · exact .inr (.inl h1)
  · exact .inr (.inr (.inr h1))
  · exact .inr (.inr (.inl rfl))

example : errOf (parseScript ["x = 1", "  else:"] 1) = some ⟨"No matching if statement", "  else:", 1, 2⟩ := by
  rw [parseScript_eq_parseFrom, C10.scriptLines_eq]
  simp only [List.map_cons, List.map_nil]
  decide_lit

/-- **first_error_wins**: if the logical lines before `(ix, line)` are processed without error and `(ix, line)` fails,
that failure is the result — whatever follows. -/
theorem first_error_wins (start : Nat) : ∀ (before after : List (Nat × String)) (s s' : St) (ix : Nat) (line : String)
    (e : ParserError), stepAll start s before = .ok s' → stepLogical start s' ix line = .error e →
    stepAll start s (before ++ (ix, line) :: after) = .error e :=
  fun before after s s' ix line e h1 h2 => by
    rw [stepAll_append, h1]
    simp only [stepAll, h2]

/-- **no_open_block_accepted** (+ `ok_is_stmts`): if `parse_script` returns a model then all logical lines were
processed without error up to a final state in which the block stack is empty and no function is open, no continuation
was pending at the end of the input, and the model is the statement list of that state. -/
theorem no_open_block_accepted (chunks : List String) (start : Nat) (m : List Stmt)
    (h : parseScript chunks start = .ok m) :
    ∃ s : St, stepAll start (PState.init, {}) (Text.scriptLines chunks).1 = .ok s ∧
      s.1.defs = [] ∧ s.1.func = none ∧ (Text.scriptLines chunks).2 = none ∧ m = s.1.stmts := by
  rw [parseScript_eq_parseFrom] at h
  unfold parseFrom at h
  split at h
  · cases h
  · obtain ⟨h1, h2, h3, h4⟩ := finishAll_ok h
    exact ⟨_, ‹_›, h2, h3, h1, h4⟩

theorem ok_is_stmts (chunks : List String) (start : Nat) (m : List Stmt) (h : parseScript chunks start = .ok m) :
    ∃ s : St, stepAll start (PState.init, {}) (Text.scriptLines chunks).1 = .ok s ∧ m = s.1.stmts := by
  obtain ⟨s, h1, _, _, _, h5⟩ := no_open_block_accepted chunks start m h
  exact ⟨s, h1, h5⟩

/-- conversely (the three end-of-input tests are the only ones): open block, open function and a pending continuation
are each rejected -/
theorem open_block_rejected (chunks : List String) (start : Nat) (s : St)
    (h : stepAll start (PState.init, {}) (Text.scriptLines chunks).1 = .ok s)
    (hopen : s.1.defs ≠ [] ∨ s.1.func ≠ none ∨ (Text.scriptLines chunks).2 ≠ none) :
    ∃ e, parseScript chunks start = .error e := by
  cases hr : parseScript chunks start with
  | error e => exact ⟨e, rfl⟩
  | ok m =>
    obtain ⟨s', h1, h2, h3, h4, _⟩ := no_open_block_accepted chunks start m hr
    rw [h] at h1
    cases h1
    rcases hopen with ho | ho | ho
    · exact absurd h2 ho
    · exact absurd h3 ho
    · exact absurd h4 ho

example : errOf (parseScript ["function f():", "  return 1"] 1) =
    some ⟨"Missing endfunction statement", "function f():", 1, 1⟩ := by
  rw [parseScript_eq_parseFrom, C10.scriptLines_eq]
  simp only [List.map_cons, List.map_nil]
  decide_lit
example : errOf (parseScript ["while a:", "if b:", "endif"] 5) = some ⟨"Missing endwhile statement", "while a:", 1, 5⟩ := by
  rw [parseScript_eq_parseFrom, C10.scriptLines_eq]
  simp only [List.map_cons, List.map_nil]
  decide_lit
example : errOf (parseScript ["function f():", "  if a:", "    return 1", "  endif", "endfunction", "fn()"] 1) = none := by
  rw [parseScript_eq_parseFrom, C10.scriptLines_eq]
  simp only [List.map_cons, List.map_nil]
  decide_lit

/-- a run of the line loop in which every logical line is consumed by exactly one classified statement kind `cl` whose
lowering step succeeded with one of the documented effects -/
inductive Run (start : Nat) : St → List (Nat × String) → St → Prop
  | nil (s : St) : Run start s [] s
  | cons {s s' s'' : St} {ix : Nat} {line : String} {rest : List (Nat × String)} (cl : Line)
      (hstep : stepLogical start s ix line = .ok s')
      (hclass : Scan.classify ExprParse.parseExpr line = .ok cl)
      (hlower : stepLine s.1 cl = .ok s'.1)
      (heffect : LineEffect s.1 s'.1)
      (hblock : BlockChange s.1 s'.1 cl)
      (hrest : Run start s' rest s'') : Run start s ((ix, line) :: rest) s''

theorem stepAll_run (start : Nat) : ∀ (ll : List (Nat × String)) (s s' : St), stepAll start s ll = .ok s' →
    Run start s ll s'
  | [], s, s', h => by simp only [stepAll, Except.ok.injEq] at h; subst h; exact .nil s
  | (ix, line) :: rest, s, s', h => by
      simp only [stepAll] at h
      split at h
      · rename_i s1 h1
        obtain ⟨cl, ps1, hc, hl, rfl⟩ := stepLogical_ok h1
        exact .cons cl h1 hc hl (stepLine_ok hl).2 (stepLine_ok hl).1 (stepAll_run start rest _ s' h)
      · cases h

/-- **accounts_for_every_line**: when `parse_script` returns a model, *every* logical line of the input (every
non-blank, non-comment physical line, continued lines joined) was consumed, in order, by exactly one branch of the
statement cascade (`classify … = ok cl`), its lowering step succeeded, and it had one of the documented effects
(`LineEffect`: appended at least one statement to the current statement list / opened a function / closed a function,
appending its `function` statement to the script / was merged into the preceding `include` statement).  No line is
skipped: `Run` has exactly one step per element of `(scriptLines chunks).1`. -/
theorem accounts_for_every_line (chunks : List String) (start : Nat) (m : List Stmt)
    (h : parseScript chunks start = .ok m) :
    ∃ s : St, Run start (PState.init, {}) (Text.scriptLines chunks).1 s ∧ m = s.1.stmts := by
  obtain ⟨s, h1, h2⟩ := ok_is_stmts chunks start m h
  exact ⟨s, stepAll_run start _ _ _ h1, h2⟩

/-- the per-line fact behind it: a successful lowering step has a documented effect … -/
theorem line_has_effect (ps ps' : PState) (l : Line) (h : stepLine ps l = .ok ps') : LineEffect ps ps' :=
  (stepLine_ok h).2

/-- … and block lines move the block stack as documented: `if`/`while`/`for` push one entry, `endif`/`endwhile`/`endfor`
pop one, `elif`/`else` replace the top entry, `continue` changes one entry in place (its `hasContinue` flag), every other
line leaves the stack unchanged. -/
theorem block_lines_move_the_stack (ps ps' : PState) (l : Line) (h : stepLine ps l = .ok ps') : BlockChange ps ps' l :=
  (stepLine_ok h).1

theorem LineEffect.stmts_length_le {ps ps' : PState} (h : LineEffect ps ps') : ps.stmts.length ≤ ps'.stmts.length := by
  -- the current list is `stmts` itself unless a function is open, and then `stmts` does not change
  have key : ps'.func.isSome = ps.func.isSome → (ps.func.isSome = true → ps'.stmts = ps.stmts) →
      ps.cur.length ≤ ps'.cur.length → ps.stmts.length ≤ ps'.stmts.length := by
    intro hf hs hl
    cases h1 : ps.func with
    | some f => rw [hs (by rw [h1]; rfl)]; exact Nat.le_refl _
    | none =>
      cases h2 : ps'.func with
      | some f => rw [h1, h2] at hf; cases hf
      | none => rwa [PState.cur, PState.cur, h1, h2] at hl
  cases h with
  | funcOpened _ _ hs => rw [hs]; exact Nat.le_refl _
  | funcClosed f _ _ hs => rw [hs, List.length_append]; exact Nat.le_add_right ..
  | grew hf hs h => exact key hf hs (Nat.le_of_lt h)
  | includeMerged pre incs inc hf hs h h' => exact key hf hs (by rw [h, h']; simp)

/-- the statement count never decreases along a run: nothing that was emitted is dropped later -/
theorem LineEffect.stmts_monotone {ps ps' : PState} (h : LineEffect ps ps') :
    ps.stmts.length ≤ ps'.stmts.length ∨ (ps.func = none ∧ ps'.func.isSome = true ∧ ps'.stmts = ps.stmts) :=
  .inl h.stmts_length_le

/-- non-vacuity: the four effects on concrete lines -/
example : ∃ s, stepAll 1 (PState.init, {}) (Text.scriptLines ["include 'a.bare'", "include <b.bare>", "function f():",
      "  x = 1", "endfunction"]).1 = .ok s ∧ s.1.stmts.length = 2 := by
  refine exists_ok_of_decide ?_
  rw [C10.scriptLines_eq]
  simp only [List.map_cons, List.map_nil]
  decide_lit

/-- **start_line_offsets**: `parse_script(text, start + d)` has the outcome of `parse_script(text, start)` with every
reported line number increased by `d` — same model on success, same error text, line text and column on failure. -/
theorem start_line_offsets (chunks : List String) (start d : Nat) :
    parseScript chunks (start + d) = shiftR d (parseScript chunks start) :=
  parseFrom_shift start d PState.init {} _ _

example : errOf (parseScript ["x = (1"] 1) = some ⟨"Unmatched parenthesis", "x = (1", 5, 1⟩ ∧
    errOf (parseScript ["x = (1"] (1 + 41)) = some ⟨"Unmatched parenthesis", "x = (1", 5, 42⟩ := by
  rw [parseScript_eq_parseFrom, C10.scriptLines_eq]
  simp only [List.map_cons, List.map_nil]
  decide_lit

/-- chunks in front that are processed without error and leave no continuation pending: the parser goes on from the
state they lead to, counting the remaining lines from where they end -/
theorem parseScript_append (pre lines : List String) (start : Nat) {s : St} (h : (Text.scriptLines pre).2 = none)
    (hs : stepAll start (PState.init, {}) (Text.scriptLines pre).1 = .ok s) :
    parseScript (pre ++ lines) start =
      parseFrom (start + (pre.flatMap Text.splitLines).length) s (Text.scriptLines lines).1 (Text.scriptLines lines).2 := by
  rw [parseScript_eq_parseFrom, scriptLines_append pre lines h, parseFrom, stepAll_append, hs, ← parseFrom,
    parseFrom_reindex _ _ _ (stepAll_sync _ _ _ _ sync_init hs)]

/-- putting comment / blank physical lines in front is the same as starting the line count later -/
theorem prepend_is_start_offset (pre lines : List String) (start : Nat)
    (hpre : ∀ l ∈ pre.flatMap Text.splitLines, Text.isComment l = true) :
    parseScript (pre ++ lines) start = parseScript lines (start + (pre.flatMap Text.splitLines).length) := by
  have h0 := scriptLines_comments hpre
  exact parseScript_append pre lines start (by rw [h0]) (by rw [h0]; rfl)

/-- **prepend_shifts_line_partial**: chunks put in front of a script, all of whose physical lines are comments or blank
(`Text.isComment`, the pattern `^\s*(?:#.*)?$`), leave the outcome unchanged except that every reported line number is
increased by the number of physical lines put in front: same model on success; on failure the same error text, line
text and column.

`_partial`: DESIGN §9 also lists "simple valid statement" lines as prefix.  Such a prefix changes the emitted statements
(and the recorded jump positions of `if` entries), so that half is not an equation of outcomes; it is the separate
theorem `prepend_statements_shift` below (equation of the *errors*). -/
theorem prepend_shifts_line_partial (pre lines : List String) (start : Nat)
    (hpre : ∀ l ∈ pre.flatMap Text.splitLines, Text.isComment l = true) :
    parseScript (pre ++ lines) start = shiftR (pre.flatMap Text.splitLines).length (parseScript lines start) := by
  rw [prepend_is_start_offset pre lines start hpre, start_line_offsets]

/-- the same for chunks that are single physical lines (no line feed inside): the shift is the number of chunks -/
theorem prepend_shifts_line_single (pre lines : List String) (start : Nat)
    (hnl : ∀ l ∈ pre, '\n' ∉ l.toList) (hpre : ∀ l ∈ pre, Text.isComment l = true) :
    parseScript (pre ++ lines) start = shiftR pre.length (parseScript lines start) := by
  have := prepend_shifts_line_partial pre lines start (by rwa [flatMap_splitLines hnl])
  rwa [flatMap_splitLines hnl] at this

theorem errOf_shiftR {α : Type} (d : Nat) (r : Except ParserError α) : errOf (shiftR d r) = (errOf r).map (shiftE d) := by
  cases r <;> rfl

/-- **prepend_statements_shift** (the "simple valid statement" half of DESIGN's `prepend_shifts_line`): chunks put in
front that are *simple valid statements* (`SimpleLine`: one physical line, not a comment, no continuation backslash,
classified without error as assignment / expression statement / label / jump / return) do not change whether the
script is rejected, and if it is, the error has the same text, line text and column, and its line number is increased by
the number of lines put in front.  (The accepted model differs, of course: it starts with the new statements.) -/
theorem prepend_statements_shift (pre lines : List String) (start : Nat) (hpre : ∀ p ∈ pre, SimpleLine p) :
    errOf (parseScript (pre ++ lines) start) = (errOf (parseScript lines start)).map (shiftE pre.length) := by
  have h0 := scriptLines_plain fun p hp => ⟨(hpre p hp).notComment, (hpre p hp).noCont, (hpre p hp).noNl⟩
  obtain ⟨psP, h1, h2⟩ := stepAll_simple start (numbered 0 pre) PState.init {}
    (fun x hx => hpre _ (numbered_mem _ _ _ hx)) sync_init
  -- run the prefix, forget its statements, move the start number back
  rw [parseScript_append pre lines start (by rw [h0]) (by rw [h0]; exact h1), flatMap_splitLines fun p hp => (hpre p hp).noNl,
    parseFrom_sim0 _ _ h2, ← parseScript_eq_parseFrom, start_line_offsets, errOf_shiftR]

theorem prepend_statements_acceptance (pre lines : List String) (start : Nat) (hpre : ∀ p ∈ pre, SimpleLine p) :
    (∃ m, parseScript (pre ++ lines) start = .ok m) ↔ (∃ m, parseScript lines start = .ok m) := by
  rw [← errOf_eq_none, ← errOf_eq_none, prepend_statements_shift pre lines start hpre, Option.map_eq_none_iff]

/-- non-vacuity: three comment/blank lines in front of a script with an error in its second line -/
example :
    (∀ l ∈ ["# header", "", "   \t"], '\n' ∉ l.toList) ∧ (∀ l ∈ ["# header", "", "   \t"], Text.isComment l = true) ∧
    errOf (parseScript ["a = 1", "b = a +"] 1) = some ⟨"Syntax error", "b = a +", 8, 2⟩ ∧
    errOf (parseScript (["# header", "", "   \t"] ++ ["a = 1", "b = a +"]) 1) = some ⟨"Syntax error", "b = a +", 8, 5⟩ := by
  decide +kernel

/-- the line `zz = 1` and the line `fn(zz, 2)` are simple valid statements -/
theorem simple_examples : SimpleLine "zz = 1" ∧ SimpleLine "fn(zz, 2)" := by
  exact ⟨⟨by decide +kernel, by decide +kernel, by decide +kernel, exists_ok_of_decide (by decide +kernel)⟩,
    ⟨by decide +kernel, by decide +kernel, by decide +kernel, exists_ok_of_decide (by decide +kernel)⟩⟩

/-- non-vacuity of `prepend_statements_shift`: two statements in front of a script with an unclosed `while` -/
example : errOf (parseScript ["while a:", "b = 1"] 1) = some ⟨"Missing endwhile statement", "while a:", 1, 1⟩ ∧
    errOf (parseScript (["zz = 1", "fn(zz, 2)"] ++ ["while a:", "b = 1"]) 1) =
      some ⟨"Missing endwhile statement", "while a:", 1, 3⟩ := by
  refine (and_iff_left_of_imp fun h => ?_).2 ?_
  · rw [prepend_statements_shift _ _ _ (by simp [simple_examples]), h]; rfl
  · rw [parseScript_eq_parseFrom, C10.scriptLines_eq]
    simp only [List.map_cons, List.map_nil]
    decide_lit

end C06
