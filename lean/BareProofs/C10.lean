import BareProofs.C10Lemmas

/-!
# C10 — source layout does not change the parsed program

Everything `parse_script` does before a statement reaches the lowering is modelled in `BareModel/Text.lean` (physical
lines, comment test, continuation, the line loop) and `BareModel/Scan.lean` (the statement regex cascade).  The theorems
below are for **all** texts / line lists (no bound on sizes):

* (`BareProofs/C10Pins.lean`: `patterns_pinned` — the regex sources the recognisers were written for are the ones in
  parser.py *now*; kept in a module of its own so that a changed pattern breaks that obligation only)
* `splitLines_no_newline`      physical lines never contain a line feed
* `split_join`, `crlf_eq_lf`, `crlf_eq_lf_text`   LF, CRLF or any mixture of terminators: same physical lines
* `split_chunks_exact`, `chunking_irrelevant`     cutting the text into chunks at line terminators (the terminator is
                               consumed by the cut): same physical lines, hence same logical lines *and indices*
* `chunking_keepends_irrelevant` readlines-style chunks (each keeps its `\n`): one extra empty line per chunk — a blank
                               line is a comment, so the logical line texts are the same (indices shift)
* `mirror_eq_spec_lines`       the line loop = "drop comment/blank lines, join maximal backslash runs"
* `comment_blank_insertion`    two line lists with the same non-comment lines have the same logical line texts
                               (insertion/removal anywhere, also between the parts of a continued line)
* `comment_insertion_shift`    inserting one comment/blank line at position `p` moves exactly the indices `≥ p` by one
* `continuation_join`          `A \` newline `B`  ≡  `rstrip(A) + " " + strip(B)` written on one line
* `logical_lines_compositional` the loop is compositional at every point where no continuation is pending
* `leading_ws_irrelevant_shape`, `leading_ws_irrelevant`   indentation does not change the statement kind / captured
                               groups (offsets move by the indentation); for `classify` under the stated hypothesis on
                               the expression parser (it is a parameter)
* `trailing_ws_irrelevant_partial`  trailing blanks: the keyword-only statements, `else:`, `if/elif/while` headers and
                               `return` (F22), per recogniser (every kind of line: `shape_append_ws` in `C10Ws.lean`);
                               `keyword_line_layout` at the level of `shape`
-/

namespace C10
open Text Scan

/-! ## physical lines -/

/-- Physical lines never contain a line feed (so `.`/`$` of the statement patterns see no `\n`). -/
theorem splitLines_no_newline (t : Chars) : ∀ l ∈ splitLinesL t, '\n' ∉ l := by
  fun_induction splitLinesL t with
  | case1 => simp
  | case2 rest ih => intro l hl; simp at hl; rcases hl with rfl | hl; simp; exact ih l hl
  | case3 rest ih => intro l hl; simp at hl; rcases hl with rfl | hl; simp; exact ih l hl
  | case4 c rest hc _ ih =>
    intro l hl
    rcases mem_consHead hl with ⟨l', rfl, h | rfl⟩ | h
    · intro hm; simp at hm; rcases hm with e | hm
      · exact hc e.symm
      · exact ih l' h hm
    · intro hm; simp at hm; exact hc hm.symm
    · exact ih l h

example : splitLinesL "a\r\nb\n\rc\r\r\n".toList = ["a".toList, "b".toList, "\rc\r".toList, []] := by decide_lit

/-- a text: lines with their terminators (`true` = CRLF, `false` = LF), then the unterminated last line -/
def joinEols : List (Chars × Bool) → Chars → Chars
  | [], last => last
  | (l, crlf) :: rest, last => l ++ (if crlf then ['\r', '\n'] else ['\n']) ++ joinEols rest last

/-- Splitting recovers the lines, whatever mixture of LF and CRLF terminates them.  (A line that ends with `\r` in front
of a bare LF would read as CRLF: excluded, as it must be.) -/
theorem split_join (ls : List (Chars × Bool)) (last : Chars)
    (h : ∀ p ∈ ls, '\n' ∉ p.1 ∧ (p.2 = false → p.1.getLast? ≠ some '\r')) (hl : '\n' ∉ last) :
    splitLinesL (joinEols ls last) = ls.map Prod.fst ++ [last] := by
  induction ls with
  | nil => simpa [joinEols] using split_no_nl hl
  | cons p ps ih =>
    have hp := h p (by simp)
    rw [joinEols, split_append_eol _ _ _ hp.2, split_no_nl hp.1, ih fun q hq => h q (List.mem_cons_of_mem _ hq)]
    rfl

/-- **LF versus CRLF**: the same lines terminated by CRLF or by LF give the same physical lines. -/
theorem crlf_eq_lf (ls : List Chars) (last : Chars) (h : ∀ l ∈ ls, '\n' ∉ l ∧ l.getLast? ≠ some '\r') (hl : '\n' ∉ last) :
    splitLinesL (joinEols (ls.map (·, true)) last) = splitLinesL (joinEols (ls.map (·, false)) last) := by
  rw [split_join _ _ (by simpa using fun l hl' => (h l hl').1) hl,
      split_join _ _ (by simpa using fun l hl' => h l hl') hl]
  simp [Function.comp_def]

example : splitLinesL (joinEols [("a = 1".toList, true), ("b = 2".toList, false)] "c".toList)
    = ["a = 1".toList, "b = 2".toList, "c".toList] := by decide_lit

def crlfToLf : Chars → Chars
  | [] => []
  | '\r' :: '\n' :: rest => '\n' :: crlfToLf rest
  | c :: rest => c :: crlfToLf rest

/-- no `\r\r\n` in the text (a line ending in `\r` terminated by CRLF cannot be written with LF terminators) -/
def noCRCRLF : Chars → Bool
  | [] => true
  | '\r' :: '\r' :: '\n' :: _ => false
  | _ :: rest => noCRCRLF rest

theorem noCRCRLF_tail {c : Char} {rest : Chars} (h : noCRCRLF (c :: rest) = true) : noCRCRLF rest = true := by
  unfold noCRCRLF at h
  split at h
  · next heq => simp at heq
  · simp at h
  · next heq => simp at heq; obtain ⟨_, rfl⟩ := heq; exact h

theorem head_crlfToLf {rest : Chars} (h : (crlfToLf rest).head? = some '\n') :
    rest.head? = some '\n' ∨ ∃ r, rest = '\r' :: '\n' :: r := by
  unfold crlfToLf at h
  split at h
  · simp at h
  · exact .inr ⟨_, rfl⟩
  · simp at h; simp [h]

/-- **LF versus CRLF**, on the text: converting every CRLF of any text to LF keeps the physical lines. -/
theorem crlf_eq_lf_text (t : Chars) (h : noCRCRLF t = true) : splitLinesL (crlfToLf t) = splitLinesL t := by
  fun_induction crlfToLf t with
  | case1 => rfl
  | case2 rest ih =>
    have h1 := noCRCRLF_tail (noCRCRLF_tail h)
    simp [splitLinesL, ih h1]
  | case3 c rest hcr ih =>
    have h1 := noCRCRLF_tail h
    rw [splitLinesL_cons, splitLinesL_cons (rest := rest), ih h1]
    by_cases hc : c = '\n'
    · simp [hc]
    · have n1 : ¬ (c = '\r' ∧ rest.head? = some '\n') := fun ⟨e1, e2⟩ => by
        obtain ⟨xs, rfl⟩ := List.head?_eq_some_iff.mp e2
        exact hcr xs e1 rfl
      have n2 : ¬ (c = '\r' ∧ (crlfToLf rest).head? = some '\n') := by
        rintro ⟨e1, e2⟩
        rcases head_crlfToLf e2 with e3 | ⟨r, e3⟩
        · exact n1 ⟨e1, e3⟩
        · subst e1; subst e3; simp [noCRCRLF] at h
      simp [hc, n1, n2]

example : noCRCRLF "a\r\n\r\nb\rc\r\n".toList = true ∧
    crlfToLf "a\r\n\r\nb\rc\r\n".toList = "a\n\nb\rc\n".toList := by decide_lit
/-- the side condition is needed -/
example : splitLinesL (crlfToLf "x\r\r\n".toList) ≠ splitLinesL "x\r\r\n".toList := by decide_lit

/-! ## chunks -/

/-- a text cut at line terminators: first chunk, then (the terminator consumed by the cut was CRLF?, next chunk) … -/
def joinCuts : Chars → List (Bool × Chars) → Chars
  | c, [] => c
  | c, (crlf, d) :: rest => c ++ (if crlf then ['\r', '\n'] else ['\n']) ++ joinCuts d rest

/-- a chunk in front of an LF cut does not end with `\r` (otherwise the cut went through the middle of a CRLF) -/
def cutsOK : Chars → List (Bool × Chars) → Bool
  | _, [] => true
  | c, (crlf, d) :: rest => (crlf || c.getLast? != some '\r') && cutsOK d rest

/-- **Chunking**: splitting each chunk separately and concatenating (parser.py:31-32) gives exactly the physical lines of
the whole text (parser.py:29) — for any number of cuts, any chunk contents (chunks may hold many lines). -/
theorem split_chunks_exact (c : Chars) (cs : List (Bool × Chars)) (h : cutsOK c cs = true) :
    splitChunksL (c :: cs.map Prod.snd) = splitLinesL (joinCuts c cs) := by
  induction cs generalizing c with
  | nil => simp [splitChunksL, joinCuts]
  | cons x xs ih =>
    simp only [cutsOK, Bool.and_eq_true, Bool.or_eq_true, bne_iff_ne] at h
    rw [joinCuts, split_append_eol c _ x.1 fun e => h.1.resolve_left (by simp [e]), ← ih x.2 h.2]
    simp [splitChunksL]

theorem chunking_irrelevant (c : Chars) (cs : List (Bool × Chars)) (h : cutsOK c cs = true) :
    logicalLinesL (splitChunksL (c :: cs.map Prod.snd)) = logicalLinesL (splitLinesL (joinCuts c cs)) := by
  rw [split_chunks_exact c cs h]

example : cutsOK "a = 1 + \\\r\n  2".toList [(true, "# c\nb = 3".toList), (false, "c = 4".toList)] = true ∧
    logicalLinesL (splitChunksL ["a = 1 + \\\r\n  2".toList, "# c\nb = 3".toList, "c = 4".toList]) =
      ([(0, "a = 1 + 2".toList), (3, "b = 3".toList), (4, "c = 4".toList)], none) := by decide_lit

/-- the non-comment physical lines, in order -/
def keptTexts (ls : List Chars) : List Chars := ls.filter (fun l => !isCommentL l)

theorem keptTexts_append (a b : List Chars) : keptTexts (a ++ b) = keptTexts a ++ keptTexts b := by
  simp [keptTexts]

/-- readlines-style chunks (each chunk keeps its final LF; `chunks` are given without it): the physical lines differ
from those of the concatenated text only by empty lines -/
theorem keepends_kept (chunks : List Chars) (last : Chars) :
    keptTexts (splitChunksL (chunks.map (· ++ ['\n']) ++ [last])) =
      keptTexts (splitLinesL ((chunks.map (· ++ ['\n'])).flatten ++ last)) := by
  induction chunks with
  | nil => simp [splitChunksL]
  | cons a rest ih =>
    obtain ⟨X, h1, h2⟩ := split_snoc_nl a
    have e : ((a :: rest).map (· ++ ['\n'])).flatten ++ last = a ++ '\n' :: ((rest.map (· ++ ['\n'])).flatten ++ last) := by
      simp
    rw [e, h2]
    simp only [splitChunksL, List.map_cons, List.cons_append, List.flatMap_cons] at ih ⊢
    rw [h1, keptTexts_append, keptTexts_append, keptTexts_append, ih]
    simp [keptTexts, isCommentL, lstripL]

/-! ## the line loop -/

/-- **Mirror = specification**: the loop of parser.py:42-67/402-405 (pending `line_continuation`, `ix_line` bookkeeping,
comment skip inside a continuation, `.rstrip()` for the first part and `.strip()` for the others, the dangling test)
computes: drop comment/blank physical lines, then join maximal backslash runs; index = first physical line. -/
theorem mirror_eq_spec_lines (lines : List Chars) : logicalLinesL lines = logicalLinesSpecL lines := by
  unfold logicalLinesL logicalLinesSpecL
  rw [loopL_eq_loopK]
  exact loopK_eq_spec (kept 0 lines) [] (by simp)

theorem mirror_eq_spec_lines_string (lines : List String) : logicalLines lines = logicalLinesSpec lines := by
  unfold logicalLines logicalLinesCore logicalLinesSpec
  rw [mirror_eq_spec_lines]
  generalize logicalLinesSpecL (lines.map String.toList) = r
  obtain ⟨a, b⟩ := r
  cases b <;> rfl

example : logicalLinesSpecL ["x = f(1, \\ ".toList, "".toList, "  # why".toList, "    2) ".toList, "y \\".toList] =
    ([(0, "x = f(1, 2)".toList)], some (4, "y".toList)) := by decide_lit

/-- **Comment / blank insertion**: line lists with the same non-comment lines (so: comment and blank lines inserted or
removed anywhere, including between the parts of a continued line) have the same logical line texts and the same
dangling text. -/
theorem comment_blank_insertion (ls ls' : List Chars) (h : keptTexts ls' = keptTexts ls) :
    texts (logicalLinesL ls') = texts (logicalLinesL ls) := by
  unfold logicalLinesL
  rw [loopL_eq_loopK, loopL_eq_loopK]
  apply loopK_texts
  rw [kept_map_snd, kept_map_snd]; exact h

example : keptTexts ["# c".toList, "a = 1 + \\".toList, "".toList, "#\\".toList, " 2".toList, "  ".toList] =
    keptTexts ["a = 1 + \\".toList, " 2".toList] := by decide_lit

theorem chunking_keepends_irrelevant (chunks : List Chars) (last : Chars) :
    texts (logicalLinesL (splitChunksL (chunks.map (· ++ ['\n']) ++ [last]))) =
      texts (logicalLinesL (splitLinesL ((chunks.map (· ++ ['\n'])).flatten ++ last))) :=
  comment_blank_insertion _ _ (keepends_kept chunks last)

example : splitChunksL (["a = 1".toList, "b = 2".toList].map (· ++ ['\n']) ++ ["c".toList]) =
    ["a = 1".toList, [], "b = 2".toList, [], "c".toList] := by decide_lit

def insertAt (p : Nat) (c : Chars) (ls : List Chars) : List Chars := ls.take p ++ c :: ls.drop p

/-- **… and shifts indices as expected**: a comment/blank line inserted at position `p` leaves every logical line in
place and adds one to exactly the indices `≥ p` (a continued line whose first part is before `p` keeps its index even
when the insertion is between its parts). -/
theorem comment_insertion_shift (p : Nat) (c : Chars) (ls : List Chars) (hc : isCommentL c = true) (hp : p ≤ ls.length) :
    logicalLinesL (insertAt p c ls) = reindex (fun i => if i < p then i else i + 1) (logicalLinesL ls) := by
  unfold logicalLinesL insertAt
  rw [loopL_eq_loopK, loopL_eq_loopK]
  have hk : kept 0 (ls.take p ++ c :: ls.drop p) =
      (kept 0 ls).map (fun x => ((fun i => if i < p then i else i + 1) x.1, x.2)) := by
    conv => rhs; rw [← List.take_append_drop p ls]
    rw [kept_append, kept_append, List.map_append]
    have hlen : (ls.take p).length = p := by simp [hp]
    congr 1
    · symm; rw [List.map_congr_left, List.map_id']
      intro x hx
      have := kept_bounds _ 0 x hx
      rw [hlen] at this
      have h2 : x.1 < p := by omega
      simp [h2]
    · simp only [kept, hc, if_true, hlen, Nat.zero_add]
      rw [kept_shift 1 _ p, List.map_congr_left]
      intro x hx
      have := kept_bounds _ p x hx
      have : ¬ x.1 < p := by omega
      simp [this]
  rw [hk]
  have := loopK_reindex (fun i => if i < p then i else i + 1) (kept 0 ls) [] 0
  rw [← this]
  exact loopK_nil_ix _ _ _

example : logicalLinesL (insertAt 1 "# note".toList ["a = 1 + \\".toList, "2".toList, "b".toList]) =
    ([(0, "a = 1 + 2".toList), (3, "b".toList)], none) ∧
    logicalLinesL ["a = 1 + \\".toList, "2".toList, "b".toList] =
    ([(0, "a = 1 + 2".toList), (2, "b".toList)], none) := by decide_lit

/-- **Continuation**: at any point where no continuation is pending (loop state `cont = []`, any index `i`, any
following lines), the two physical lines `A \` and `B` yield the one logical line `rstrip(A) + " " + strip(B)` with the
index of the first, exactly as if that text had been written on one physical line; the following lines are processed
identically, one index further. -/
theorem continuation_join (i ix : Nat) (A' A B : Chars) (rest : List Chars)
    (hA : isCommentL A' = false) (hc : contBody? A' = some A) (hB : isCommentL B = false) (hBc : contBody? B = none) :
    loopL i (A' :: B :: rest) [] ix = emit (i, joined A B) (loopL (i + 2) rest [] i) ∧
    loopL i (joined A B :: rest) [] ix = emit (i, joined A B) (loopL (i + 1) rest [] i) ∧
    loopL (i + 2) rest [] i = reindex (· + 1) (loopL (i + 1) rest [] i) := by
  obtain ⟨hJ, hJc⟩ := joined_plain hA hc hB hBc
  refine ⟨?_, ?_, ?_⟩
  · simp [loopL, hA, hc, hB, hBc, joinSp, joined]
  · simp [loopL, hJ, hJc]
  · rw [loopL_eq_loopK, loopL_eq_loopK, kept_shift 1 rest (i + 1), loopK_nil_ix _ i (i + 1),
      ← loopK_reindex (· + 1) _ [] i, loopK_nil_ix _ (i + 1) ((· + 1) i)]

example : contBody? "  a = f(1, \\  ".toList = some "  a = f(1, ".toList ∧
    joined "  a = f(1, ".toList "\t 2)  ".toList = "  a = f(1, 2)".toList := by decide_lit

/-- **Compositionality**: when the lines `pre` end with no continuation pending, the logical lines of `pre ++ post` are
those of `pre` followed by those of `post` (indices moved by `pre.length`). -/
theorem logical_lines_compositional (pre post : List Chars) (h : (logicalLinesL pre).2 = none) :
    logicalLinesL (pre ++ post) =
      ((logicalLinesL pre).1 ++ (reindex (· + pre.length) (logicalLinesL post)).1,
       (reindex (· + pre.length) (logicalLinesL post)).2) := by
  unfold logicalLinesL at h ⊢
  rw [loopL_eq_loopK] at h
  rw [loopL_eq_loopK, loopL_eq_loopK, loopL_eq_loopK, kept_append, loopK_append_clean _ _ _ _ h]
  have : loopK (kept (0 + pre.length) post) [] 0 = reindex (· + pre.length) (loopK (kept 0 post) [] 0) := by
    rw [kept_shift pre.length post 0, ← loopK_reindex (· + pre.length) _ [] 0]
    exact loopK_nil_ix _ _ _
  rw [this]

/-! ## the `String` interface -/

theorem scriptLines_eq (chunks : List String) :
    scriptLines chunks =
      (let r := logicalLinesL (splitChunksL (chunks.map String.toList))
       (r.1.map (fun x => (x.1, String.ofList x.2)), r.2.map LineErr.ofDangling)) := by
  unfold scriptLines logicalLinesCore
  have : (chunks.flatMap splitLines).map String.toList = splitChunksL (chunks.map String.toList) := by
    unfold splitChunksL splitLines
    induction chunks with
    | nil => rfl
    | cons c cs ih => simp [List.flatMap_cons, ih, Function.comp_def]
  rw [this]

/-- chunking at the `String` interface: chunks `c₀, c₁, …` cut at terminators give the logical lines (texts, indices,
dangling error) of the whole text -/
theorem scriptLines_chunks (c : Chars) (cs : List (Bool × Chars)) (h : cutsOK c cs = true) :
    scriptLines ((c :: cs.map Prod.snd).map String.ofList) = scriptLines [String.ofList (joinCuts c cs)] := by
  rw [scriptLines_eq, scriptLines_eq]
  have e1 : ((c :: cs.map Prod.snd).map String.ofList).map String.toList = c :: cs.map Prod.snd := by
    simp [Function.comp_def]
  have e2 : ([String.ofList (joinCuts c cs)]).map String.toList = [joinCuts c cs] := by simp
  rw [e1, e2, split_chunks_exact c cs h]
  simp [splitChunksL]

/-! ## the statement cascade -/

/-- **Indentation** does not change which statement pattern matches nor its groups; `match.start(expr)` moves by the
number of blanks put in front. -/
theorem leading_ws_irrelevant_shape (ws l : Chars) (h : allSpace ws = true) : shape (ws ++ l) = (shape l).shift ws.length :=
  shape_leading_ws l h

/-- … lifted through `classify`: for every statement kind that is not an expression statement, with NO assumption about
the expression parser (it receives the same text): same classified line, an error column moves by the indentation. -/
theorem leading_ws_irrelevant_stmt (parseExpr : String → Except ParseErr Expr) (ws l : Chars) (h : allSpace ws = true)
    (hs : shape l ≠ .exprStmt) : classifyL parseExpr (ws ++ l) = shiftErr ws.length (classifyL parseExpr l) :=
  classifyL_leading_ws_stmt parseExpr l h hs

/-- … and for every line, up to the error column, for every expression parser that skips leading blanks
(`SkipsLeadingBlanks`; `classify` is parametric in the expression parser, the hypothesis is about that parameter). -/
theorem leading_ws_irrelevant (parseExpr : String → Except ParseErr Expr) (hpe : SkipsLeadingBlanks parseExpr)
    (ws l : Chars) (h : allSpace ws = true) :
    EqUpToColumn (classifyL parseExpr (ws ++ l)) (classifyL parseExpr l) :=
  classifyL_leading_ws parseExpr hpe l h

/-- the hypothesis is inhabited (a parser that strips blanks and accepts only the variable `x`) -/
example : SkipsLeadingBlanks (fun s => if lstripL s.toList = ['x'] then .ok (.variable (.user "x")) else .error ⟨"Syntax error", 1⟩) := by
  intro ws s h
  simp only [String.toList_ofList, lstrip_append_ws s h]
  split <;> simp [EqUpToColumn]

example : shape "\t  if x > 1 :  ".toList = .ifBegin 6 "x > 1 ".toList ∧ shape "if x > 1 :  ".toList = .ifBegin 3 "x > 1 ".toList := by decide_lit
example : allSpace "\t 　".toList = true := by decide_lit

/-- **Trailing blanks** (`_partial`).  Full statement: for every line `l` and blanks `ws`, `shape (l ++ ws)` is `shape l`
with `ws` appended to an expression text that runs to the end of the line (assignment, return).  That statement is
FALSE as it stands for `l = "a ="` (`a =` is an expression statement, `a = ` an assignment of the expression `' '`; both are
syntax errors, at different columns).  Proved here, per recogniser of the cascade, for all texts: the six keyword-only
statements, `else:`, the `if`/`elif`/`while` headers, and `return` (bare `return` stays bare whatever follows — F22).
The statement for every kind of line, with that one exclusion, is `shape_append_ws` in `BareProofs/C10Ws.lean`. -/
theorem trailing_ws_irrelevant_partial (s ws : Chars) (h : allSpace ws = true) :
    (∀ kw ∈ ["endfunction", "endif", "endwhile", "endfor", "break", "continue"], ∀ sh,
        kwOnly? kw sh (s ++ ws) = kwOnly? kw sh s) ∧
    else? (s ++ ws) = else? s ∧
    (∀ kw ∈ ["if", "elif", "while"], ∀ mk, kwExprColon? kw mk (s ++ ws) = kwExprColon? kw mk s) ∧
    return? (s ++ ws) = (return? s).map (addTrail ws) := by
  have nosp : ∀ {l : List String}, (∀ kw ∈ l, kw ∈ stmtKeywords) → ∀ kw ∈ l, ∀ k ∈ kw.toList, isSpace k = false :=
    fun hl kw hkw => isIdent_noSpace (stmtKeywords_ident kw (hl kw hkw))
  exact ⟨fun kw hkw sh => kwOnly?_append_ws kw sh s ws (nosp (by decide) kw hkw) h, else?_append_ws s ws h,
    fun kw hkw mk => kwExprColon?_append_ws kw mk s ws (nosp (by decide) kw hkw) h, return?_append_ws s ws h⟩

/-- the one-word statements: any indentation, any trailing blanks, same `shape` -/
def keywordLines : List (String × Shape) :=
  [("endfunction", .funcEnd), ("endif", .endif), ("endwhile", .endwhile), ("endfor", .endfor), ("break", .break_),
   ("continue", .continue_), ("return", .ret none)]

/-- **Layout of keyword lines** (includes the F22 regression: `return` followed by any number of blanks is a bare return). -/
theorem keyword_line_layout (ind ws : Chars) (hi : allSpace ind = true) (hw : allSpace ws = true) :
    ∀ p ∈ keywordLines, shape (ind ++ (p.1.toList ++ ws)) = p.2 := by
  have line : ∀ {kw : String} {sh : Shape}, isIdent kw.toList = true → shapeS (kw.toList ++ ws) = sh →
      sh.shift ind.length = sh → shape (ind ++ (kw.toList ++ ws)) = sh := by
    intro kw sh hid hs hsh
    rw [shape_of_shapeS (lstripL_ident hid _) ind hi, hs, hsh]
  have alone : ∀ (i : Nat) {kw : String} {sh : Shape}, beforeLabel[i]? = some ([kw], kwOnly? kw sh) →
      sh.shift ind.length = sh → shape (ind ++ (kw.toList ++ ws)) = sh :=
    fun i _ _ hi => line (beforeLabel_ident hi _ (.head _)) (shapeS_kwOnly i hi hw)
  intro p hp
  simp only [keywordLines, List.mem_cons, List.not_mem_nil, or_false] at hp
  rcases hp with rfl | rfl | rfl | rfl | rfl | rfl | rfl
  · exact alone 1 rfl rfl
  · exact alone 5 rfl rfl
  · exact alone 7 rfl rfl
  · exact alone 9 rfl rfl
  · exact alone 10 rfl rfl
  · exact alone 11 rfl rfl
  · exact line (by decide) (shapeS_return_bare hw) rfl

example : shape "\t return \t  ".toList = .ret none ∧ shape "return  1 ".toList = .ret (some (8, "1 ".toList)) ∧
    shape "  endwhile ".toList = .endwhile ∧ return? "return 1".toList = some (.ret (some (7, "1".toList))) ∧
    return? ("return 1".toList ++ "  ".toList) = some (.ret (some (7, "1  ".toList))) := by decide_lit

/-- the classifier on one line of every kind (the cascade order matters: `a == b` is an assignment of `= b`) -/
example :
    shape "a == b".toList = .assign "a".toList 3 "= b".toList ∧
    shape "async function f(a, b...) :".toList = .funcBegin "f".toList ["a".toList, "b".toList] true true ∧
    shape "for x , i in y :".toList = .forBegin "x".toList (some "i".toList) 13 "y ".toList ∧
    shape "jumpif (a) ) b".toList = .jump "b".toList (some (8, "a) ".toList)) ∧
    shape "include 'it\\'s'".toList = .include "it's".toList false ∧
    shape "if :".toList = .label "if".toList ∧ shape "if   :".toList = .ifBegin 4 " ".toList ∧
    shape "f(x)".toList = .exprStmt := by decide_lit

end C10
