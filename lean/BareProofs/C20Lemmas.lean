import BareModel.Diff

/-!
# C20 — the loops of `BareModel.Diff`

`outer_body`, `outer_left_done`, `outer_right_done` are the equations of one pass of the main loop `outer`, every `arraySlice`
inside its range.  `outer_step` reads a pass as a step of a diff: it emits a piece that `Covers` the lines between two states
and goes on, or ends having covered the rest; `outer_spec`, `outer_isSome`, `outer_mono` are inductions on the fuel over it.
-/

namespace C20
open Diff

set_option linter.unusedSectionVars false

variable {α : Type} [DecidableEq α]

@[simp] theorem leftOf_nil : leftOf ([] : List (Block α)) = [] := rfl
@[simp] theorem rightOf_nil : rightOf ([] : List (Block α)) = [] := rfl

theorem leftOf_append (a b : List (Block α)) : leftOf (a ++ b) = leftOf a ++ leftOf b := by
  simp [leftOf]

theorem rightOf_append (a b : List (Block α)) : rightOf (a ++ b) = rightOf a ++ rightOf b := by
  simp [rightOf]

theorem leftOf_cons (b : Block α) (bs : List (Block α)) :
    leftOf (b :: bs) = (if b.kind = .add then [] else b.lines) ++ leftOf bs := by
  cases b with | mk k ls => cases k <;> simp [leftOf]

theorem rightOf_cons (b : Block α) (bs : List (Block α)) :
    rightOf (b :: bs) = (if b.kind = .remove then [] else b.lines) ++ rightOf bs := by
  cases b with | mk k ls => cases k <;> simp [rightOf]

/-- length of the longest common prefix -/
def commonLen : List α → List α → Nat
  | x :: xs, y :: ys => if x = y then commonLen xs ys + 1 else 0
  | _, _ => 0

theorem identLoop_eq (xs ys : List α) (i j : Nat) (acc : List α) :
    identLoop xs ys i j acc
      = (acc ++ xs.take (commonLen xs ys), i + commonLen xs ys, j + commonLen xs ys) := by
  induction xs generalizing ys i j acc with
  | nil => simp [identLoop, commonLen]
  | cons x xs ih =>
    cases ys with
    | nil => simp [identLoop, commonLen]
    | cons y ys =>
      by_cases h : x = y
      · subst h
        simp only [identLoop, commonLen, if_true, ih]
        simp [List.take_succ_cons, Nat.add_assoc, Nat.add_comm 1]
      · simp [identLoop, commonLen, h]

theorem take_commonLen (xs ys : List α) : xs.take (commonLen xs ys) = ys.take (commonLen xs ys) := by
  induction xs generalizing ys with
  | nil => simp [commonLen]
  | cons x xs ih =>
    cases ys with
    | nil => simp [commonLen]
    | cons y ys =>
      simp only [commonLen]; split
      · rename_i h; subst h; simp [ih ys]
      · simp

theorem commonLen_le_left (xs ys : List α) : commonLen xs ys ≤ xs.length := by
  induction xs generalizing ys with
  | nil => simp [commonLen]
  | cons x xs ih =>
    cases ys with
    | nil => simp [commonLen]
    | cons y ys =>
      simp only [commonLen]; split
      · exact Nat.succ_le_succ (ih ys)
      · exact Nat.zero_le _

theorem commonLen_le_right (xs ys : List α) : commonLen xs ys ≤ ys.length := by
  have h := congrArg List.length (take_commonLen xs ys)
  rw [List.length_take, List.length_take, Nat.min_eq_left (commonLen_le_left xs ys)] at h
  omega

theorem commonLen_self (xs : List α) : commonLen xs xs = xs.length := by
  induction xs with
  | nil => rfl
  | cons x xs ih => simp [commonLen, ih]

theorem scanRight_some {x : α} {ys : List α} {j jt : Nat} (h : scanRight x ys j = some jt) :
    j ≤ jt ∧ jt < j + ys.length ∧ ys[jt - j]? = some x := by
  induction ys generalizing j with
  | nil => simp [scanRight] at h
  | cons y ys ih =>
    simp only [scanRight] at h
    split at h
    · rename_i e; subst e; cases h; simp
    · have ⟨h1, h2, h3⟩ := ih h
      refine ⟨by omega, by simp; omega, ?_⟩
      have : jt - j = (jt - (j + 1)) + 1 := by omega
      rw [this]; simpa using h3

theorem scanLeft_some {rj xs : List α} {j i it jt : Nat} (h : scanLeft rj j xs i = some (it, jt)) :
    i ≤ it ∧ it < i + xs.length ∧ j ≤ jt ∧ jt < j + rj.length ∧ xs[it - i]? = rj[jt - j]? := by
  induction xs generalizing i with
  | nil => simp [scanLeft] at h
  | cons x xs ih =>
    simp only [scanLeft] at h
    split at h
    · rename_i jt' hr
      cases h
      have ⟨h1, h2, h3⟩ := scanRight_some hr
      exact ⟨Nat.le_refl _, by simp, h1, h2, by simp [h3]⟩
    · have ⟨h1, h2, h3, h4, h5⟩ := ih h
      refine ⟨by omega, by simp; omega, h3, h4, ?_⟩
      have : it - i = (it - (i + 1)) + 1 := by omega
      rw [this]; simpa using h5

/-- a look-ahead match found right after the identical-lines loop stopped is not at the current position -/
theorem scan_progress {xs ys : List α} {i j it jt : Nat} (hn : commonLen xs ys = 0)
    (hs : scanLeft ys j xs i = some (it, jt)) : i + j < it + jt := by
  have ⟨a1, a2, a3, a4, a5⟩ := scanLeft_some hs
  rcases Nat.lt_or_ge (i + j) (it + jt) with c | c
  · exact c
  · rw [show it - i = 0 by omega, show jt - j = 0 by omega] at a5
    cases xs with
    | nil => simp at a2; omega
    | cons x xs =>
      cases ys with
      | nil => simp at a4; omega
      | cons y ys =>
        obtain rfl : x = y := by simpa using a5
        rw [commonLen, if_pos rfl] at hn
        exact absurd hn (Nat.succ_ne_zero _)

theorem slice_to_end {a : List α} {s : Nat} (h : s ≤ a.length) : slice a s none = some (a.drop s) := by
  simp [slice, Nat.not_lt.mpr h]

theorem slice_between {a : List α} {s e : Nat} (he : e ≤ a.length) (hs : s ≤ e) :
    slice a s (some e) = some ((a.take e).drop s) := by
  have : ¬ (s > a.length ∨ e > a.length) := by omega
  simp [slice, this]

theorem slice_append {a : List α} {s e e' : Nat} (h1 : s ≤ e) (h2 : e ≤ e') :
    (a.take e').drop s = (a.take e).drop s ++ (a.take e').drop e := by
  rw [List.drop_take, List.drop_take, List.drop_take, show e' - s = (e - s) + (e' - e) by omega, List.take_add,
    List.drop_drop, show s + (e - s) = e by omega]

theorem slice_self (a : List α) (s : Nat) : (a.take s).drop s = [] := by
  rw [List.drop_take, Nat.sub_self, List.take_zero]

theorem take_drop_ne_nil {a : List α} {s n : Nat} (hn : 0 < n) (hs : s < a.length) : (a.drop s).take n ≠ [] := by
  intro h
  have := congrArg List.length h
  rw [List.length_take, List.length_drop, List.length_nil] at this
  omega

theorem slice_ne_nil {a : List α} {s e : Nat} (he : e ≤ a.length) (hs : s < e) : (a.take e).drop s ≠ [] := by
  rw [List.drop_take]
  exact take_drop_ne_nil (by omega) (by omega)

@[simp] theorem pushIf_false (k : Kind) (s : Option (List α)) : pushIf false k s = some [] := rfl
@[simp] theorem pushIf_true (k : Kind) (ls : List α) : pushIf true k (some ls) = some [⟨k, ls⟩] := rfl

theorem pushIf_decide (c : Prop) [Decidable c] (k : Kind) (ls : List α) :
    pushIf (decide c) k (some ls) = some (if c then [⟨k, ls⟩] else []) := by
  by_cases h : c <;> simp [h]

/-- the cleaned-up pass through the loop body when both sides still have lines -/
def bodyStep (L R : List α) (f i j : Nat) : Option (List (Block α)) :=
  let n := commonLen (L.drop i) (R.drop j)
  if 0 < n then
    (outer L R f false (i + n) (j + n)).map (fun rest => ⟨.identical, (L.drop i).take n⟩ :: rest)
  else
    match scanLeft (R.drop j) j (L.drop i) i with
    | none => (outer L R f false L.length R.length).map
        (fun rest => [⟨.remove, L.drop i⟩, ⟨.add, R.drop j⟩] ++ rest)
    | some (it, jt) => (outer L R f true it jt).map (fun rest =>
        (if i < it then [⟨.remove, (L.take it).drop i⟩] else [])
          ++ (if j < jt then [⟨.add, (R.take jt).drop j⟩] else []) ++ rest)

theorem ite_lt_of_le {a b : Nat} (h : a ≤ b) : (if a < b then b else a) = b := by split <;> omega

theorem outer_body (L R : List α) (f : Nat) (test : Bool) (i j : Nat) (hi : i < L.length) (hj : j < R.length) :
    outer L R (f + 1) test i j = bodyStep L R f i j := by
  have h1 : ¬ (L.length ≤ i) := by omega
  have h2 : ¬ (R.length ≤ j) := by omega
  simp only [outer, identLoop_eq, List.nil_append, bodyStep, hi, hj, decide_true, Bool.or_self, Bool.not_true,
    Bool.and_false, ge_iff_le, h1, h2, if_false, Bool.false_eq_true]
  by_cases hn : commonLen (L.drop i) (R.drop j) = 0
  · simp only [hn, List.take_zero, Nat.add_zero, ne_eq, not_true_eq_false, if_false, Nat.lt_irrefl]
    cases hs : scanLeft (R.drop j) j (L.drop i) i with
    | none =>
      simp only [slice_to_end (Nat.le_of_lt hi), slice_to_end (Nat.le_of_lt hj), pushIf_decide, hi, hj, if_true,
        Option.bind_some]
      rfl
    | some p =>
      obtain ⟨it, jt⟩ := p
      have ⟨a1, a2, a3, a4, _⟩ := scanLeft_some hs
      rw [List.length_drop] at a2 a4
      simp only [gt_iff_lt, slice_between (show it ≤ L.length by omega) a1,
        slice_between (show jt ≤ R.length by omega) a3, ite_lt_of_le a1, ite_lt_of_le a3, pushIf_decide,
        Option.bind_some]
  · simp [take_drop_ne_nil (Nat.pos_of_ne_zero hn) hi, Nat.pos_of_ne_zero hn]

theorem outer_left_done (L R : List α) (f : Nat) (test : Bool) (i j : Nat) (hi : L.length ≤ i) (hj : j ≤ R.length) :
    outer L R (f + 1) test i j = some (if j < R.length then [⟨.add, R.drop j⟩] else []) := by
  have h1 : ¬ (i < L.length) := by omega
  by_cases c : j < R.length
  · simp [outer, h1, c, hi, slice_to_end hj]
  · cases test <;> simp [outer, h1, c, hi]

theorem outer_right_done (L R : List α) (f : Nat) (test : Bool) (i j : Nat) (hi : i < L.length) (hj : R.length ≤ j) :
    outer L R (f + 1) test i j = some [⟨.remove, L.drop i⟩] := by
  have h1 : ¬ (L.length ≤ i) := by omega
  have h2 : ¬ (j < R.length) := by omega
  simp [outer, h1, h2, hi, hj, slice_to_end (Nat.le_of_lt hi)]

/-- `bs` is a stretch of a diff: non-empty blocks whose left lines are `L[i:i']` and whose right lines are `R[j:j']` -/
structure Covers (L R : List α) (i j i' j' : Nat) (bs : List (Block α)) : Prop where
  le_left : i ≤ i'
  le_right : j ≤ j'
  left : leftOf bs = (L.take i').drop i
  right : rightOf bs = (R.take j').drop j
  nonempty : ∀ b ∈ bs, b.lines ≠ []

section Covers
variable {L R : List α} {i j i' j' i'' j'' : Nat}

theorem Covers.nil : Covers L R i j i j [] :=
  ⟨Nat.le_refl _, Nat.le_refl _, (slice_self L i).symm, (slice_self R j).symm, nofun⟩

theorem Covers.append {a b : List (Block α)} (ha : Covers L R i j i' j' a) (hb : Covers L R i' j' i'' j'' b) :
    Covers L R i j i'' j'' (a ++ b) where
  le_left := Nat.le_trans ha.le_left hb.le_left
  le_right := Nat.le_trans ha.le_right hb.le_right
  left := by rw [leftOf_append, ha.left, hb.left, ← slice_append ha.le_left hb.le_left]
  right := by rw [rightOf_append, ha.right, hb.right, ← slice_append ha.le_right hb.le_right]
  nonempty := fun x hx => (List.mem_append.mp hx).elim (ha.nonempty x) (hb.nonempty x)

theorem Covers.remove (h : i ≤ i') (h' : i' ≤ L.length) :
    Covers L R i j i' j (if i < i' then [⟨.remove, (L.take i').drop i⟩] else []) := by
  split
  · next c =>
    exact ⟨h, Nat.le_refl _, by simp [leftOf_cons], by simp [rightOf_cons],
      by simpa using slice_ne_nil h' c⟩
  · next c =>
    obtain rfl : i = i' := by omega
    exact Covers.nil

theorem Covers.add (h : j ≤ j') (h' : j' ≤ R.length) :
    Covers L R i j i j' (if j < j' then [⟨.add, (R.take j').drop j⟩] else []) := by
  split
  · next c =>
    exact ⟨Nat.le_refl _, h, by simp [leftOf_cons], by simp [rightOf_cons],
      by simpa using slice_ne_nil h' c⟩
  · next c =>
    obtain rfl : j = j' := by omega
    exact Covers.nil

end Covers

/-- one pass from a state in range: the loop ends having covered the rest, or emits a piece and goes on from a later state -/
theorem outer_step (L R : List α) (test : Bool) (i j : Nat) (hi : i ≤ L.length) (hj : j ≤ R.length) :
    (∃ bs, (∀ f, outer L R (f + 1) test i j = some bs) ∧ Covers L R i j L.length R.length bs) ∨
    ∃ pre test' i' j', (∀ f, outer L R (f + 1) test i j = (outer L R f test' i' j').map (pre ++ ·)) ∧
      i' ≤ L.length ∧ j' ≤ R.length ∧ i + j < i' + j' ∧ Covers L R i j i' j' pre := by
  have toEndL := Covers.remove (R := R) (j := j) hi (Nat.le_refl L.length)
  have toEndR := fun i => Covers.add (L := L) (i := i) hj (Nat.le_refl R.length)
  rw [List.take_length] at toEndL toEndR
  by_cases ci : i < L.length
  · rw [if_pos ci] at toEndL
    by_cases cj : j < R.length
    · right
      have hl := commonLen_le_left (L.drop i) (R.drop j)
      have hr := commonLen_le_right (L.drop i) (R.drop j)
      rw [List.length_drop] at hl hr
      have body := fun f => outer_body L R f test i j ci cj
      unfold bodyStep at body
      by_cases hn : 0 < commonLen (L.drop i) (R.drop j)
      · simp only [hn, if_true] at body
        exact ⟨[⟨.identical, (L.drop i).take _⟩], false, _, _, body, by omega, by omega, by omega,
          by omega, by omega, by simp [leftOf_cons, List.drop_take],
          by simpa [rightOf_cons, List.drop_take] using take_commonLen _ _, by simpa using take_drop_ne_nil hn ci⟩
      · simp only [hn, if_false] at body
        cases hs : scanLeft (R.drop j) j (L.drop i) i with
        | none =>
          simp only [hs] at body
          have c := toEndL.append (toEndR L.length)
          rw [if_pos cj] at c
          exact ⟨_, false, _, _, body, Nat.le_refl _, Nat.le_refl _, by omega, c⟩
        | some p =>
          obtain ⟨it, jt⟩ := p
          simp only [hs] at body
          have ⟨a1, a2, a3, a4, _⟩ := scanLeft_some hs
          rw [List.length_drop] at a2 a4
          exact ⟨_, true, it, jt, body, by omega, by omega, scan_progress (by omega) hs,
            (Covers.remove a1 (by omega)).append (Covers.add a3 (by omega))⟩
    · left
      obtain rfl : j = R.length := by omega
      exact ⟨_, fun f => outer_right_done L R f test i _ ci (Nat.le_refl _), toEndL.append Covers.nil⟩
  · left
    obtain rfl : i = L.length := by omega
    exact ⟨_, fun f => outer_left_done L R f test _ j (Nat.le_refl _) hj, toEndR _⟩

theorem outer_covers (L R : List α) : ∀ (f : Nat) (test : Bool) (i j : Nat) (bs : List (Block α)),
    i ≤ L.length → j ≤ R.length → outer L R f test i j = some bs → Covers L R i j L.length R.length bs := by
  intro f
  induction f with
  | zero => intro _ _ _ _ _ _ h; simp [outer] at h
  | succ f ih =>
    intro test i j bs hi hj h
    rcases outer_step L R test i j hi hj with ⟨bs', e, c⟩ | ⟨pre, test', i', j', e, hi', hj', _, c⟩
    · rw [e f] at h
      exact Option.some.inj h ▸ c
    · rw [e f, Option.map_eq_some_iff] at h
      obtain ⟨rest, hrest, rfl⟩ := h
      exact c.append (ih _ _ _ _ hi' hj' hrest)

theorem outer_spec (L R : List α) : ∀ (f : Nat) (test : Bool) (i j : Nat) (bs : List (Block α)),
    i ≤ L.length → j ≤ R.length → outer L R f test i j = some bs →
    leftOf bs = L.drop i ∧ rightOf bs = R.drop j ∧ ∀ b ∈ bs, b.lines ≠ [] := by
  intro f test i j bs hi hj h
  have c := outer_covers L R f test i j bs hi hj h
  exact ⟨by rw [c.left, List.take_length], by rw [c.right, List.take_length], c.nonempty⟩

/-- enough fuel: one unit per line still to be consumed, plus one for the pass that ends the loop -/
theorem outer_isSome (L R : List α) : ∀ (f : Nat) (test : Bool) (i j : Nat),
    i ≤ L.length → j ≤ R.length → (L.length - i) + (R.length - j) + 1 ≤ f →
    (outer L R f test i j).isSome := by
  intro f
  induction f with
  | zero => intro _ _ _ _ _ h; omega
  | succ f ih =>
    intro test i j hi hj hf
    rcases outer_step L R test i j hi hj with ⟨bs, e, _⟩ | ⟨pre, test', i', j', e, hi', hj', hlt, _⟩
    · rw [e f]; rfl
    · rw [e f, Option.isSome_map]
      exact ih _ _ _ hi' hj' (by omega)

theorem outer_mono (L R : List α) : ∀ (f : Nat) (test : Bool) (i j : Nat) (bs : List (Block α)),
    i ≤ L.length → j ≤ R.length → outer L R f test i j = some bs → outer L R (f + 1) test i j = some bs := by
  intro f
  induction f with
  | zero => intro _ _ _ _ _ _ h; simp [outer] at h
  | succ f ih =>
    intro test i j bs hi hj h
    rcases outer_step L R test i j hi hj with ⟨bs', e, _⟩ | ⟨pre, test', i', j', e, hi', hj', _, _⟩
    · rw [e] at h ⊢; exact h
    · rw [e f, Option.map_eq_some_iff] at h
      obtain ⟨rest, hrest, rfl⟩ := h
      rw [e, ih _ _ _ _ hi' hj' hrest]; rfl

theorem outer_mono_le (L R : List α) {f g : Nat} (hfg : f ≤ g) (test : Bool) (i j : Nat) (bs : List (Block α))
    (hi : i ≤ L.length) (hj : j ≤ R.length) (h : outer L R f test i j = some bs) : outer L R g test i j = some bs := by
  induction hfg with
  | refl => exact h
  | step _ ih => exact outer_mono L R _ test i j bs hi hj ih

end C20
