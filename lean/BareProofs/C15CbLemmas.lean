import BareModel.LibCb
import BareProofs.C11Lemmas

/-!
# C15Cb — lemmas: the sorting computation `LibCb.pySort` (CPython's `count_run` + `binarysort`) run purely

Binary search on an ordered prefix finds the place where the linear stable insertion `Compare.insertBy` inserts (`bsearch_eval`,
`insertBy_split`), so binary insertion sort is `foldl insertBy` (`binarySort_eval`); `count_run` returns an ordered or strictly
descending run (`extendRun_eval`); together: for a total preorder `pySort` is `Compare.sortBy` (`pySort_eval`).  Independently of the
answers, every list the algorithm ever holds is a permutation of the input (`pySort_allPerm`).
-/

namespace C15Cb
open LibCb Compare C11

variable {α β γ : Type}

/-! ## the `Ask` monad -/

theorem eval_bind (lt : α → α → Bool) (a : Ask α β) (f : β → Ask α γ) :
    (a.bind f).eval lt = (f (a.eval lt)).eval lt := by
  induction a with
  | done b => rfl
  | ask cur x y k ih => simp only [Ask.bind, Ask.eval, ih]

theorem questions_bind (lt : α → α → Bool) (a : Ask α β) (f : β → Ask α γ) :
    (a.bind f).questions lt = a.questions lt ++ (f (a.eval lt)).questions lt := by
  induction a with
  | done b => rfl
  | ask cur x y k ih => simp only [Ask.bind, Ask.eval, Ask.questions, ih, List.cons_append]

/-! ## binary search = linear stable insertion on a split list -/

/-- `A` = the elements the pivot is NOT below, `B` = the elements it is below -/
theorem bsearch_eval (lt : α → α → Bool) (cur : List α) (x : α) (A B : List α)
    (hA : ∀ y ∈ A, lt x y = false) (hB : ∀ y ∈ B, lt x y = true) :
    ∀ (fuel l r : Nat), l ≤ A.length → A.length ≤ r → r ≤ (A ++ B).length → r - l < fuel →
      (bsearch cur x (A ++ B) fuel l r).eval lt = A.length := by
  intro fuel
  induction fuel with
  | zero => intro l r _ _ _ h; omega
  | succ fuel ih =>
    intro l r hl hr hlen hf
    unfold bsearch
    by_cases hlr : l < r
    · -- the probe `m` lies in `[l, r)`: both halves are shorter
      obtain ⟨m, hm, hlm, hmr⟩ : ∃ m, l + (r - l) / 2 = m ∧ l ≤ m ∧ m < r :=
        ⟨_, rfl, Nat.le_add_right _ _, by have := Nat.div_lt_self (Nat.sub_pos_of_lt hlr) (Nat.lt_succ_self 1); omega⟩
      have hleft : m - l < fuel := Nat.lt_of_lt_of_le (Nat.sub_lt_sub_right hlm hmr) (Nat.le_of_lt_succ hf)
      have hright : r - (m + 1) < fuel :=
        Nat.lt_of_lt_of_le (Nat.sub_lt_sub_left hlr (Nat.lt_succ_of_le hlm)) (Nat.le_of_lt_succ hf)
      simp only [hlr, if_true, hm]
      rw [List.getElem?_eq_getElem (Nat.lt_of_lt_of_le hmr hlen)]
      simp only [Ask.eval]
      by_cases hpa : m < A.length
      · rw [List.getElem_append_left hpa, hA _ (List.getElem_mem _)]
        simp only [Bool.false_eq_true, if_false]
        exact ih _ _ hpa hr hlen hright
      · rw [List.getElem_append_right (Nat.le_of_not_lt hpa), hB _ (List.getElem_mem _)]
        simp only [if_true]
        exact ih _ _ hl (Nat.le_of_not_lt hpa) (Nat.le_trans (Nat.le_of_lt hmr) hlen) hleft
    · simp only [hlr, if_false, Ask.eval]; omega

theorem insertBy_split (lt : α → α → Bool) (x : α) : ∀ (A B : List α),
    (∀ y ∈ A, lt x y = false) → (∀ y ∈ B, lt x y = true) → insertBy lt x (A ++ B) = A ++ x :: B
  | [], [], _, _ => rfl
  | [], b :: B, _, hB => by simp [insertBy, hB b (by simp)]
  | a :: A, B, hA, hB => by
    have := insertBy_split lt x A B (fun y hy => hA y (by simp [hy])) hB
    simp [insertBy, hA a (by simp), this]

theorem insertAt_split (x : α) (A B : List α) : insertAt (A ++ B) A.length x = A ++ x :: B := by
  simp [insertAt]

section Pre
variable {c : α → α → Int}

/-- an ordered list splits at the pivot -/
theorem sorted_split (h : IsPre c) (x : α) : ∀ l : List α, Sorted c l →
    ∃ A B, l = A ++ B ∧ (∀ y ∈ A, ltOf c x y = false) ∧ (∀ y ∈ B, ltOf c x y = true)
  | [], _ => ⟨[], [], rfl, by simp, by simp⟩
  | y :: ys, hs => by
    have ⟨hy, hys⟩ := List.pairwise_cons.mp hs
    by_cases hxy : c x y < 0
    · refine ⟨[], y :: ys, rfl, by simp, fun z hz => ?_⟩
      rcases List.mem_cons.mp hz with rfl | hz
      · simp [ltOf, hxy]
      · have := h.lt_le hxy (hy z hz); simp [ltOf, this]
    · obtain ⟨A, B, e, hA, hB⟩ := sorted_split h x ys hys
      refine ⟨y :: A, B, by simp [e], fun z hz => ?_, hB⟩
      rcases List.mem_cons.mp hz with rfl | hz
      · simp [ltOf, hxy]
      · exact hA z hz

theorem binarySort_eval (h : IsPre c) : ∀ (rest sorted : List α), Sorted c sorted →
    (binarySort sorted rest).eval (ltOf c) = rest.foldl (fun acc x => insertBy (ltOf c) x acc) sorted
  | [], _, _ => rfl
  | x :: rest, sorted, hs => by
    obtain ⟨A, B, e, hA, hB⟩ := sorted_split h x sorted hs
    have hb := bsearch_eval (ltOf c) (sorted ++ x :: rest) x A B hA hB ((A ++ B).length + 1) 0 (A ++ B).length
      (by omega) (by simp) (by omega) (by omega)
    unfold binarySort
    rw [eval_bind]
    subst e
    have hins := insertBy_split (ltOf c) x A B hA hB
    rw [hb, insertAt_split, List.foldl_cons, hins]
    exact binarySort_eval h rest _ (hins ▸ insertBy_sorted h x (A ++ B) hs)

/-! ## `count_run` -/

/-- what `count_run` keeps between neighbours of the (reversed) run: strictly below for a descending run, not above otherwise -/
def RunRel (c : α → α → Int) (d : Bool) (a b : α) : Prop := if d then c a b < 0 else c b a ≤ 0

theorem runRel_iff (h : IsPre c) (d : Bool) (x p : α) : ((ltOf c x p == d) = true) ↔ RunRel c d x p := by
  have := h.antisymm x p
  cases d <;> simp [RunRel, ltOf] <;> omega

theorem runRel_trans (h : IsPre c) (d : Bool) {x p z : α} (h1 : RunRel c d x p) (h2 : RunRel c d p z) : RunRel c d x z := by
  cases d
  · simp only [RunRel, Bool.false_eq_true, if_false] at *; exact h.trans _ _ _ h2 h1
  · simp only [RunRel, if_true] at *; exact h.lt_le h1 (Int.le_of_lt h2)

theorem extendRun_eval (h : IsPre c) (cur : List α) (d : Bool) : ∀ (rest rrun : List α), rrun ≠ [] →
    rrun.Pairwise (RunRel c d) →
    ((extendRun cur d rrun rest).eval (ltOf c)).1.Pairwise (RunRel c d) ∧
    ((extendRun cur d rrun rest).eval (ltOf c)).1.reverse ++ ((extendRun cur d rrun rest).eval (ltOf c)).2 = rrun.reverse ++ rest
  | [], rrun, _, hp => by cases rrun <;> simp [extendRun, Ask.eval, hp]
  | x :: rest, [], hne, _ => absurd rfl hne
  | x :: rest, prev :: rr, _, hp => by
    unfold extendRun
    simp only [Ask.eval]
    by_cases hb : (ltOf c x prev == d) = true
    · simp only [hb, if_true]
      have hr : RunRel c d x prev := (runRel_iff h d x prev).mp hb
      have hp' : (x :: prev :: rr).Pairwise (RunRel c d) := by
        refine List.pairwise_cons.mpr ⟨fun z hz => ?_, hp⟩
        rcases List.mem_cons.mp hz with rfl | hz
        · exact hr
        · exact runRel_trans h d hr ((List.pairwise_cons.mp hp).1 z hz)
      have := extendRun_eval h cur d rest (x :: prev :: rr) (by simp) hp'
      refine ⟨this.1, ?_⟩
      rw [this.2]; simp
    · simp only [hb, Bool.false_eq_true, if_false, Ask.eval]
      exact ⟨hp, trivial⟩

/-! ## the whole sort -/

theorem sortBy_of_sorted (h : IsPre c) (l : List α) (hs : Sorted c l) : sortBy (ltOf c) l = l :=
  (sorted_stable_unique h l _ hs (sortBy_sorted h l) (fun a => (sortBy_stable h l a).symm)).symm

/-- a strictly ordered list has at most one element in every equivalence class -/
theorem filter_strict (h : IsPre c) (a : α) : ∀ l : List α, l.Pairwise (fun x y => c x y < 0) → (l.filter (eqv c a)).length ≤ 1
  | [], _ => by simp
  | x :: l, hp => by
    have ⟨hx, hl⟩ := List.pairwise_cons.mp hp
    by_cases hxa : c x a = 0
    · have hnil : l.filter (eqv c a) = [] := by
        refine List.filter_eq_nil_iff.mpr (fun z hz hza => ?_)
        have hza : c z a = 0 := by simpa [eqv] using hza
        have haz : c a z = 0 := by have := h.antisymm a z; omega
        have := h.eq_eq hxa haz
        have := hx z hz
        omega
      simp [eqv, hxa, hnil]
    · have := filter_strict h a l hl
      simp [eqv, hxa, this]

theorem reverse_of_length_le_one : ∀ l : List α, l.length ≤ 1 → l.reverse = l
  | [], _ => rfl
  | [_], _ => rfl
  | _ :: _ :: _, h => by simp at h

theorem sortBy_reverse_strict (h : IsPre c) (l : List α) (hs : l.Pairwise (fun x y => c x y < 0)) :
    sortBy (ltOf c) l.reverse = l := by
  have hsorted : Sorted c l := hs.imp (fun hab => Int.le_of_lt hab)
  refine (sorted_stable_unique h l _ hsorted (sortBy_sorted h _) (fun a => ?_)).symm
  rw [sortBy_stable h l.reverse a, List.filter_reverse, reverse_of_length_le_one _ (filter_strict h a l hs)]

/-- **The CPython algorithm computes the stable insertion sort.**  For every comparator that is a total preorder (reflexive,
antisymmetric in sign, transitive), `count_run` + `binarysort` run with `x < y := c x y < 0` return `Compare.sortBy`, i.e.
(`C11.sortBy_spec`) the unique ordered permutation in which equal elements keep their order. -/
theorem pySort_eval (h : IsPre c) : ∀ xs : List α, (pySort xs).eval (ltOf c) = sortBy (ltOf c) xs
  | [] => rfl
  | [x] => rfl
  | x0 :: x1 :: tl => by
    unfold pySort
    simp only [Ask.eval]
    rw [eval_bind]
    generalize hd : ltOf c x1 x0 = d
    have hinit : [x1, x0].Pairwise (RunRel c d) := by
      refine List.pairwise_cons.mpr ⟨fun z hz => ?_, by simp⟩
      have hz : z = x0 := by simpa using hz
      subst hz
      exact (runRel_iff h d x1 z).mp (by simp [hd])
    obtain ⟨hp, he⟩ := extendRun_eval h (x0 :: x1 :: tl) d tl [x1, x0] (by simp) hinit
    generalize (extendRun (x0 :: x1 :: tl) d [x1, x0] tl).eval (ltOf c) = p at hp he
    have hxs : x0 :: x1 :: tl = p.1.reverse ++ p.2 := by rw [he]; simp
    rw [hxs]
    cases d
    · -- non-descending run
      have hs : Sorted c p.1.reverse :=
        List.pairwise_reverse.mpr (hp.imp (fun hab => by simpa [RunRel] using hab))
      simp only [Bool.false_eq_true, if_false]
      rw [binarySort_eval h p.2 _ hs, sortBy, List.foldl_append]
      have := sortBy_of_sorted h _ hs
      rw [sortBy] at this
      rw [this]
    · -- strictly descending run, reversed
      have hs' : p.1.Pairwise (fun x y => c x y < 0) := hp.imp (fun hab => by simpa [RunRel] using hab)
      have hs : Sorted c p.1 := hs'.imp (fun hab => Int.le_of_lt hab)
      simp only [if_true]
      rw [binarySort_eval h p.2 _ hs, sortBy, List.foldl_append]
      have := sortBy_reverse_strict h _ hs'
      rw [sortBy] at this
      rw [this]

end Pre

/-! ## every list the algorithm holds is a permutation of the input (any answers) -/

/-- every `cur` of every question and every result satisfies `P` -/
inductive AllP (P : List α → Prop) : Ask α (List α) → Prop where
  | done {ys : List α} : P ys → AllP P (.done ys)
  | ask {cur : List α} {x y : α} {k : Bool → Ask α (List α)} : P cur → (∀ b, AllP P (k b)) → AllP P (.ask cur x y k)

/-- the questions of `a` all carry a `cur` satisfying `P`, and every possible result satisfies `Q` -/
inductive CurP {β : Type} (P : List α → Prop) (Q : β → Prop) : Ask α β → Prop where
  | done {b : β} : Q b → CurP P Q (.done b)
  | ask {cur : List α} {x y : α} {k : Bool → Ask α β} : P cur → (∀ b, CurP P Q (k b)) → CurP P Q (.ask cur x y k)

theorem allP_bind {β : Type} (P : List α → Prop) (Q : β → Prop) (a : Ask α β) (f : β → Ask α (List α)) (ha : CurP P Q a)
    (hf : ∀ b, Q b → AllP P (f b)) : AllP P (a.bind f) := by
  induction a with
  | done b =>
    cases ha with
    | done hq => exact hf b hq
  | ask cur x y k ih =>
    cases ha with
    | ask hc hk => exact .ask hc (fun b => ih b (hk b))

theorem bsearch_curP (P : List α → Prop) (cur : List α) (hc : P cur) (x : α) (sorted : List α) :
    ∀ fuel l r, CurP P (fun _ => True) (bsearch cur x sorted fuel l r) := by
  intro fuel
  induction fuel with
  | zero => intro l r; exact .done trivial
  | succ fuel ih =>
    intro l r
    unfold bsearch
    dsimp only
    split
    · split
      · exact .ask hc (fun b => by cases b <;> simp [ih])
      · exact .done trivial
    · exact .done trivial

theorem insertAt_perm (l : List α) (i : Nat) (x : α) : (insertAt l i x).Perm (x :: l) := by
  unfold insertAt
  have h1 : (l.take i ++ x :: l.drop i).Perm (x :: (l.take i ++ l.drop i)) := List.perm_middle
  rwa [List.take_append_drop] at h1

theorem binarySort_allPerm (xs : List α) : ∀ (rest sorted : List α), (sorted ++ rest).Perm xs →
    AllP (fun l => l.Perm xs) (binarySort sorted rest)
  | [], sorted, hp => .done (by simpa using hp)
  | x :: rest, sorted, hp => by
    unfold binarySort
    refine allP_bind _ _ _ _ (bsearch_curP (fun l => l.Perm xs) _ hp _ _ _ _ _) (fun l _ => ?_)
    refine binarySort_allPerm xs rest _ ?_
    refine List.Perm.trans ?_ hp
    have := (insertAt_perm sorted l x).append_right rest
    refine this.trans ?_
    simpa using (List.perm_middle (l₁ := sorted) (l₂ := rest) (a := x)).symm

/-- the pair `count_run` returns re-assembles to its input, whatever the answers -/
theorem extendRun_curP (P : List α → Prop) (cur : List α) (hc : P cur) (d : Bool) (whole : List α) :
    ∀ (rest rrun : List α), rrun.reverse ++ rest = whole →
      CurP P (fun p : List α × List α => p.1.reverse ++ p.2 = whole) (extendRun cur d rrun rest)
  | [], rrun, he => by cases rrun <;> exact .done he
  | x :: rest, [], he => .done he
  | x :: rest, prev :: rr, he => by
    unfold extendRun
    refine .ask hc (fun b => ?_)
    split
    · exact extendRun_curP P cur hc d whole rest _ (by rw [← he]; simp)
    · exact .done he

/-- **whatever the comparator answers** (inconsistent, effectful, …), every list CPython would put back into the array when a
comparison raises, and the final result, is a permutation of the original contents -/
theorem pySort_allPerm : ∀ xs : List α, AllP (fun l => l.Perm xs) (pySort xs)
  | [] => .done (List.Perm.refl _)
  | [x] => .done (List.Perm.refl _)
  | x0 :: x1 :: tl => by
    unfold pySort
    refine .ask (List.Perm.refl _) (fun d => ?_)
    refine allP_bind _ _ _ _ (extendRun_curP (fun l => l.Perm (x0 :: x1 :: tl)) _ (List.Perm.refl _) d (x0 :: x1 :: tl) tl [x1, x0] (by simp)) (fun p hp => ?_)
    cases d
    · simp only [Bool.false_eq_true, if_false]
      exact binarySort_allPerm _ _ _ (by rw [hp])
    · simp only [if_true]
      refine binarySort_allPerm _ _ _ ?_
      rw [← hp]
      exact (List.reverse_perm p.1).symm.append_right p.2

end C15Cb
