import BareProofs.C15MoreSort
import BareProofs.C15MoreText

/-!
# C15More — acyclic well-formed heaps: the fuel `|heap| + 1` always suffices

A heap is *ranked* when some rank function strictly decreases from every container to the containers it holds (and those are
allocated, with the right kind): this is "acyclic and without dangling references", the only heaps a script can build without
storing a container into itself.  No bound on the rank is assumed; `denseRank` renumbers any rank into `0 .. |heap|-1`.

On such a heap every value reads back as a tree (`readable_of_ranked`), so `arraySort(array)` is never `unmodelled`, and the JSON walk
never reports a cycle (`toJ_not_cyc_of_ranked`): both are `Ranked.walk`, the induction along the rank, for `reify` and for `toJ`.
-/

namespace C15More
open Lib LibMore Compare

/-- a held value is allocated (with the kind its tag says) and ranks strictly below its holder -/
def ChildOK (h : Heap) (ρ : Nat → Nat) (r : Nat) : Value → Prop
  | .arr r' => (getArr h r').isSome = true ∧ ρ r' < ρ r
  | .obj r' => (getObj h r').isSome = true ∧ ρ r' < ρ r
  | _ => True

/-- **acyclic, no dangling references**: the rank strictly decreases from a container to every container it holds -/
def Ranked (h : Heap) (ρ : Nat → Nat) : Prop :=
  (∀ r xs, getArr h r = some xs → ∀ v ∈ xs, ChildOK h ρ r v) ∧
  (∀ r kvs, getObj h r = some kvs → ∀ p ∈ kvs, ChildOK h ρ r p.2)

/-- a value handed to the library: its reference, if it is one, is allocated with the right kind -/
def TopOK (h : Heap) : Value → Prop
  | .arr r => (getArr h r).isSome = true
  | .obj r => (getObj h r).isSome = true
  | _ => True

/-- the number of cells that rank strictly below `r` -/
def denseRank (h : Heap) (ρ : Nat → Nat) (r : Nat) : Nat :=
  ((List.range h.length).filter (fun x => decide (ρ x < ρ r))).length

theorem filter_length_lt {α} (p q : α → Bool) (hpq : ∀ x, p x = true → q x = true) (l : List α) (a : α) (ha : a ∈ l)
    (hq : q a = true) (hp : p a = false) : (l.filter p).length < (l.filter q).length := by
  have e : l.filter p = (l.filter q).filter p := by
    rw [List.filter_filter]
    exact List.filter_congr fun x _ => by cases h : p x <;> simp [hpq x, h]
  rw [e]
  exact List.length_filter_lt_length_iff_exists.mpr ⟨a, List.mem_filter.mpr ⟨ha, hq⟩, by simp [hp]⟩

theorem denseRank_lt_length (h : Heap) (ρ : Nat → Nat) (r : Nat) (hr : r < h.length) : denseRank h ρ r < h.length := by
  have := (List.length_filter_lt_length_iff_exists (p := fun x => decide (ρ x < ρ r))).mpr
    ⟨r, List.mem_range.mpr hr, by simp⟩
  rwa [List.length_range] at this

theorem denseRank_lt (h : Heap) (ρ : Nat → Nat) (a b : Nat) (ha : a < h.length) (hab : ρ a < ρ b) :
    denseRank h ρ a < denseRank h ρ b :=
  filter_length_lt _ _ (fun x hx => by simp only [decide_eq_true_eq] at hx ⊢; omega) (List.range h.length) a
    (List.mem_range.mpr ha) (by simpa using hab) (by simp)

/-- any rank can be replaced by one that is bounded by the number of cells -/
theorem ranked_dense {h : Heap} {ρ : Nat → Nat} (hρ : Ranked h ρ) : Ranked h (denseRank h ρ) := by
  refine ⟨fun r xs hx v hv => ?_, fun r kvs hx p hp => ?_⟩
  · have := hρ.1 r xs hx v hv
    cases v <;> simp only [ChildOK] at this ⊢
    · exact ⟨this.1, denseRank_lt h ρ _ _ (C15.getArr_lt this.1) this.2⟩
    · exact ⟨this.1, denseRank_lt h ρ _ _ (C15.getObj_lt this.1) this.2⟩
  · have := hρ.2 r kvs hx p hp
    cases hv : p.2 <;> rw [hv] at this <;> simp only [ChildOK] at this ⊢
    · exact ⟨this.1, denseRank_lt h ρ _ _ (C15.getArr_lt this.1) this.2⟩
    · exact ⟨this.1, denseRank_lt h ρ _ _ (C15.getObj_lt this.1) this.2⟩

/-- the fuel a value needs, in terms of a rank -/
def rk (ρ : Nat → Nat) : Value → Nat
  | .arr r => ρ r + 1
  | .obj r => ρ r + 1
  | _ => 0

theorem child_top_rk {h : Heap} {ρ : Nat → Nat} {r : Nat} {v : Value} (hc : ChildOK h ρ r v) : TopOK h v ∧ rk ρ v ≤ ρ r := by
  cases v <;> simp only [ChildOK] at hc <;> simp only [TopOK, rk] <;> first | exact ⟨trivial, Nat.zero_le _⟩ | exact ⟨hc.1, hc.2⟩

theorem rk_le_length {h : Heap} {ρ : Nat → Nat} {v : Value} (ht : TopOK h v) : rk (denseRank h ρ) v ≤ h.length := by
  cases v <;> simp only [TopOK] at ht <;> simp only [rk] <;> first | exact Nat.zero_le _ | skip
  · exact denseRank_lt_length h ρ _ (C15.getArr_lt ht)
  · exact denseRank_lt_length h ρ _ (C15.getObj_lt ht)

/-- on a ranked heap a walk that spends one unit of fuel per level of nesting has enough of it with `|heap| + 1`: what holds of the held
values with fuel `n` holds of the container with fuel `n + 1`, and the fuel a value needs is the dense rank of its cell -/
theorem Ranked.walk {h : Heap} {ρ : Nat → Nat} (hρ : Ranked h ρ) {P : Nat → Value → Prop}
    (leaf : ∀ n v, (∀ r, v ≠ .arr r) → (∀ r, v ≠ .obj r) → P (n + 1) v)
    (arr : ∀ n r xs, getArr h r = some xs → (∀ x ∈ xs, P n x) → P (n + 1) (.arr r))
    (obj : ∀ n r kvs, getObj h r = some kvs → (∀ p ∈ kvs, P n p.2) → P (n + 1) (.obj r))
    (v : Value) (ht : TopOK h v) : P (h.length + 1) v := by
  have hd := ranked_dense hρ
  have go : ∀ (k : Nat) (v : Value), TopOK h v → rk (denseRank h ρ) v ≤ k → P (k + 1) v := by
    intro k
    induction k with
    | zero =>
      intro v _ hr
      cases v with
      | arr _ | obj _ => simp [rk] at hr
      | _ => exact leaf 0 _ nofun nofun
    | succ k ih =>
      intro v ht hr
      cases v with
      | arr r =>
        obtain ⟨xs, hx⟩ := Option.isSome_iff_exists.mp ht
        refine arr _ r xs hx fun x hxm => ?_
        obtain ⟨h1, h2⟩ := child_top_rk (hd.1 r xs hx x hxm)
        exact ih x h1 (by simp only [rk] at hr; omega)
      | obj r =>
        obtain ⟨kvs, hx⟩ := Option.isSome_iff_exists.mp ht
        refine obj _ r kvs hx fun p hp => ?_
        obtain ⟨h1, h2⟩ := child_top_rk (hd.2 r kvs hx p hp)
        exact ih p.2 h1 (by simp only [rk] at hr; omega)
      | _ => exact leaf _ _ nofun nofun
  exact go h.length v ht (rk_le_length ht)

theorem mapM_isSome {α β} (f : α → Option β) : ∀ (xs : List α), (∀ x ∈ xs, (f x).isSome = true) → (xs.mapM f).isSome = true
  | [], _ => rfl
  | x :: xs, hx => by
    obtain ⟨y, hy⟩ := Option.isSome_iff_exists.mp (hx x (by simp))
    obtain ⟨ys, hys⟩ := Option.isSome_iff_exists.mp (mapM_isSome f xs fun z hz => hx z (by simp [hz]))
    rw [List.mapM_cons, hy, hys]; rfl

/-- **readable_of_ranked.** On an acyclic heap without dangling references whose objects have unique keys, every value (whose own
reference is allocated) reads back as a tree with the fuel the library comparison uses — however deep the nesting. -/
theorem readable_of_ranked (h : Heap) (ρ : Nat → Nat) (hρ : Ranked h ρ) (hk : KeysUnique h) (v : Value) (ht : TopOK h v) :
    Readable h v = true := by
  refine hρ.walk (P := fun n v => (reify n h v).isSome = true) (fun n v ha ho => ?_) (fun n r xs hx ih => ?_)
    (fun n r kvs hx ih => ?_) v ht
  · cases v <;> first | rfl | exact absurd rfl (ha _) | exact absurd rfl (ho _)
  · rw [reify_arr, hx, Option.bind_some, Option.isSome_map]
    exact mapM_isSome _ xs ih
  · rw [reify_obj, hx, Option.bind_some, if_pos (hk r kvs hx), Option.isSome_map]
    exact mapM_isSome _ kvs fun p hp => by rw [Option.isSome_map]; exact ih p hp

/-- the elements of an allocated array of a ranked heap are readable -/
theorem elements_readable (h : Heap) (ρ : Nat → Nat) (hρ : Ranked h ρ) (hk : KeysUnique h) (r : Nat) (xs : List Value)
    (hx : getArr h r = some xs) : ∀ x ∈ xs, Readable h x = true :=
  fun x hxm => readable_of_ranked h ρ hρ hk x (child_top_rk (hρ.1 r xs hx x hxm)).1

/-- **arraySort_modelled_of_ranked.** On such a heap `arraySort(array)` of an allocated array is modelled for every oracle, with the
contract of `arraySort_contract` (ordered stable permutation = the C11 sort of the denoted trees). -/
theorem arraySort_modelled_of_ranked (T : TextFns) (h : Heap) (ρ : Nat → Nat) (hρ : Ranked h ρ) (hk : KeysUnique h) (r : Nat)
    (xs : List Value) (hx : getArr h r = some xs) :
    libMore T "arraySort" [.arr r] h = (.ok (.arr r), h.set r (.arr (sortV h xs))) ∧
    (sortV h xs).Perm xs ∧ (sortV h xs).Pairwise (fun x y => cmpD h x y ≤ 0) ∧
    (sortV h xs).map (tree h) = Compare.arraySort (xs.map (tree h)) :=
  arraySort_contract T h r xs hx (elements_readable h ρ hρ hk r xs hx) [] (Or.inl rfl)

theorem mapT_not_cyc {α β} (f : α → TRes β) : ∀ (xs : List α), (∀ x ∈ xs, f x ≠ .cyc) → mapT f xs ≠ .cyc
  | [], _ => by simp [mapT]
  | x :: xs, hx => by
    have h1 := hx x (by simp)
    have h2 := mapT_not_cyc f xs (fun z hz => hx z (by simp [hz]))
    unfold mapT
    cases hf : f x with
    | ok y => cases hr : mapT f xs <;> simp_all
    | cyc => exact absurd hf h1
    | unk => simp

theorem TRes.map_ne_cyc {α β} (f : α → β) (t : TRes α) (h : t ≠ .cyc) : t.map f ≠ .cyc := by
  cases t <;> simp_all [TRes.map]

theorem mapKV_eq_mapT {β} (f : Value → TRes β) : ∀ kvs : List (String × Value),
    mapKV f kvs = mapT (fun p => (f p.2).map fun y => (p.1.toList, y)) kvs
  | [] => rfl
  | (k, v) :: kvs => by
    rw [mapKV, mapT, mapKV_eq_mapT f kvs]
    cases f v <;> first | rfl | (cases mapT _ kvs <;> rfl)

/-- **toJ_not_cyc_of_ranked.** On an acyclic heap the JSON walk with fuel `|heap| + 1` never runs out of fuel: `stringNew` and
`arrayJoin` answer `fail null` for "circular reference" only when the heap is not ranked, i.e. really contains a cycle. -/
theorem toJ_not_cyc_of_ranked (T : TextFns) (h : Heap) (ρ : Nat → Nat) (hρ : Ranked h ρ) (v : Value) (ht : TopOK h v) :
    toJ T (h.length + 1) h v ≠ .cyc ∧ jsonText T h v ≠ .cyc := by
  have h1 : toJ T (h.length + 1) h v ≠ .cyc := by
    refine hρ.walk (P := fun n v => toJ T n h v ≠ .cyc) (fun n v ha ho => ?_) (fun n r xs hx ih => ?_)
      (fun n r kvs hx ih => ?_) v ht
    · unfold toJ
      cases v with
      | arr r => exact absurd rfl (ha _)
      | obj r => exact absurd rfl (ho _)
      | num q => simp only; split <;> cases T.num q <;> simp [optT, TRes.map]
      | dt ms => simp only; cases T.dt ms <;> simp [optT, TRes.map]
      | _ => simp
    · unfold toJ; simp only [hx]; exact TRes.map_ne_cyc _ _ (mapT_not_cyc _ xs ih)
    · unfold toJ; simp only [hx]; exact TRes.map_ne_cyc _ _ (mapKV_eq_mapT .. ▸ mapT_not_cyc _ kvs fun p hp => TRes.map_ne_cyc _ _ (ih p hp))
  exact ⟨h1, TRes.map_ne_cyc _ _ h1⟩

/-- non-vacuity: a heap whose *later* cells are held by *earlier* ones and vice versa (no monotone allocation order), ranked by
an unbounded rank -/
example : Ranked [.arr [.arr 2, .obj 1], .obj [("k", .arr 2)], .arr [numN 1]] (fun r => if r = 0 then 50 else if r = 1 then 7 else 3) := by
  refine ⟨fun r xs hx v hv => ?_, fun r kvs hx p hp => ?_⟩
  · match r, hx with
    | 0, hx =>
      simp [getArr] at hx; subst hx
      simp at hv
      rcases hv with rfl | rfl <;> simp [ChildOK, getArr, getObj]
    | 1, hx => simp [getArr] at hx
    | 2, hx =>
      simp [getArr] at hx; subst hx
      simp at hv; subst hv; simp [ChildOK, numN]
    | n + 3, hx => simp [getArr] at hx
  · match r, hx with
    | 0, hx => simp [getObj] at hx
    | 1, hx =>
      simp [getObj] at hx; subst hx
      simp at hp; subst hp; simp [ChildOK, getArr]
    | 2, hx => simp [getObj] at hx
    | n + 3, hx => simp [getObj] at hx

end C15More
