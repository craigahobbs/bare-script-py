import BareProofs.C01Source
import BareProofs.C02Print
import BareProofs.C10Ws

/-!
# C01 from source text, with the concrete expression printer

`C01.parseScript_print` (BareProofs/C01Source.lean) is parametric in the expression printer `pr`; here `pr` is
`Print.printExpr` (BareModel/Print.lean), whose round trip through `ExprParse.parseExpr` is `C02.parse_print`
(BareProofs/C02Print.lean) for every tree of the class `C02.Printable`.  The remaining hypothesis is one decidable
predicate on the structured program, `SourcePrintable`:

* every expression of the program is `C02.Printable` (`PrintScript.ProgExprsOK Print.printable`), and
* `PrintScript.ProgPrintable Print.printExpr`: identifiers are identifiers, expression *statements* are calls, no
  expression text contains a line feed (a string literal may: `Print.printExpr` prints it verbatim) or starts/ends
  with a character the line layer would misread, include URLs have no line feed (and no `>` in the `<…>` form), no label
  is named `else`.
-/

namespace C01
open Text Scan PrintScript Lower Parser Machine Structured

/-- the decidable hypothesis of `parseScript_printExpr` -/
def SourcePrintable (B : List SStmt) : Bool :=
  ProgPrintable Print.printExpr B && ProgExprsOK Print.printable B

theorem progRoundTrips_printExpr {B : List SStmt} (h : ProgExprsOK Print.printable B = true) :
    ProgRoundTrips Print.printExpr B := by
  simp only [ProgExprsOK, List.all_eq_true] at h
  exact fun l hl e he => C02.parse_print e (h l hl e he)

/-- **C01 from source text, concrete printer**: for every structured program `B` (any depth, any length) that is well
nested, has its functions numbered in source order, no adjacent include nodes, and is `SourcePrintable`, the
text-level parser model applied to the source text of `B` — expressions printed by `Print.printExpr` — returns exactly
the recursive lowering of `B`.  No hypothesis about the expression parser is left. -/
theorem parseScript_printExpr (B : List SStmt) (hw : WellNested B) (hf : FidsInOrder B) (hi : NoAdjacentIncludes B)
    (hp : SourcePrintable B = true) (start : Nat := 1) :
    parseScript [printScript Print.printExpr B] start = .ok (lowerProgram B) := by
  simp only [SourcePrintable, Bool.and_eq_true] at hp
  exact parseScript_print _ B hw hf hi hp.1 (progRoundTrips_printExpr hp.2) start

/-- an ill-nested program is rejected, from its text -/
theorem parseScript_printExpr_rejects (B : List SStmt) (hw : ¬ WellNested B) (hp : SourcePrintable B = true)
    (start : Nat := 1) : ∃ pe, parseScript [printScript Print.printExpr B] start = .error pe := by
  simp only [SourcePrintable, Bool.and_eq_true] at hp
  exact parseScript_print_rejects _ B hw hp.1 (progRoundTrips_printExpr hp.2) start

theorem source_then_run_printExpr {W : Type} (cfg : Config W) (base : Option String) (B : List SStmt)
    (hw : WellNested B) (hf : FidsInOrder B) (hi : NoAdjacentIncludes B) (hr : NoRawB B)
    (hp : SourcePrintable B = true) (fuel : Nat) (st : State W) :
    ∃ P, parseScript [printScript Print.printExpr B] = .ok P ∧
      execute₀ cfg fuel P base st =
        toRes (execTB cfg (callValue₀ cfg) (execIncludes₀ cfg) false B 0 fuel none base { st with count := 0 }) := by
  simp only [SourcePrintable, Bool.and_eq_true] at hp
  exact source_then_run cfg base _ B hw hf hi hr hp.1 (progRoundTrips_printExpr hp.2) fuel st

/-- **C01 from indented source text**: the usual layout (`n` blanks per nesting level) of the same program parses to
the same lowering — `C10.parseExpr_skips_leading_blanks` discharges the hypothesis about the expression parser. -/
theorem parseScript_printPretty_printExpr (n : Nat) (B : List SStmt) (hw : WellNested B) (hf : FidsInOrder B)
    (hi : NoAdjacentIncludes B) (hp : SourcePrintable B = true) (start : Nat := 1) :
    parseScript [printPretty Print.printExpr n B] start = .ok (lowerProgram B) := by
  simp only [SourcePrintable, Bool.and_eq_true] at hp
  exact parseScript_printPretty C10.parseExpr_skips_leading_blanks _ n B hw hf hi hp.1 (progRoundTrips_printExpr hp.2) start

namespace SourceDemo

theorem prog_exprsOK : ProgExprsOK Print.printable prog = true := by decide +kernel

theorem prog_roundTrips : ProgRoundTrips Print.printExpr prog := progRoundTrips_printExpr prog_exprsOK

theorem prog_sourcePrintable : SourcePrintable prog = true := by
  rw [SourcePrintable, prog_printable, prog_exprsOK]; rfl

end SourceDemo

open SourceDemo in
/-- (c) the text of `SourceDemo.prog` parses to its lowering -/
example : parseScript [printScript Print.printExpr prog] = .ok (lowerProgram prog) :=
  parseScript_print _ prog prog_structure.1 prog_structure.2.1 prog_structure.2.2 prog_printable prog_roundTrips

open SourceDemo in
/-- the indented layout (4 blanks per level) of the same program: its first lines, and it parses to the same lowering -/
example : (((depthOf (renderB prog) 0).map fun p => String.ofList (List.replicate (4 * p.1) ' ') ++ printLine Print.printExpr p.2).take 8 =
    ["include 'a\\'b\\\\c.bare'", "include <lib.bare>", "n = 0", "async function walk(xs, k...):", "    if k > 1:",
     "        return k", "    elif arrayLength(xs):", "        while k < 10:"]) ∧
    (C10.SkipsLeadingBlanks ExprParse.parseExpr →
      parseScript [printPretty Print.printExpr 4 prog] = .ok (lowerProgram prog)) :=
  ⟨by decide +kernel, fun hsk => parseScript_printPretty hsk _ 4 prog prog_structure.1 prog_structure.2.1 prog_structure.2.2
    prog_printable prog_roundTrips⟩

open SourceDemo in
/-- … and the ill-nested variant is rejected with the parser's message -/
example : ∃ pe, parseScript [printScript Print.printExpr illNested] = .error pe ∧
    pe.error = "Break statement outside of loop" := by
  -- the lines of `prog`, then `break`: a line without names or expressions
  have hl : LinesPrintable Print.printExpr (renderB illNested) := by
    rw [illNested, renderB_append]
    exact (linesPrintable_of_prog prog_printable prog_roundTrips).append
      ⟨fun l hl => by cases List.mem_singleton.mp hl; rfl, fun l hl e he => by cases List.mem_singleton.mp hl; cases he⟩
  exact parseScript_printLines_error Print.printExpr (renderB illNested) hl (e := .breakOutside) rfl

open SourceDemo in
/-- `source_then_run` on the demo program, for any host configuration, fuel and state -/
example {W : Type} (cfg : Config W) (base : Option String) (fuel : Nat) (st : State W) :
    ∃ P, parseScript [printScript Print.printExpr prog] = .ok P ∧
      execute₀ cfg fuel P base st =
        toRes (execTB cfg (callValue₀ cfg) (execIncludes₀ cfg) false prog 0 fuel none base { st with count := 0 }) :=
  source_then_run cfg base _ prog prog_structure.1 prog_structure.2.1 prog_structure.2.2 prog_noRaw prog_printable
    prog_roundTrips fuel st

example : parseScript [printPretty Print.printExpr 4 SourceDemo.prog] = .ok (lowerProgram SourceDemo.prog) :=
  parseScript_printPretty_printExpr 4 _ SourceDemo.prog_structure.1 SourceDemo.prog_structure.2.1
    SourceDemo.prog_structure.2.2 SourceDemo.prog_sourcePrintable

/-- the hypotheses are inhabited by `SourceDemo.prog` (function, nested if/elif/else, while with break, for with index
and continue, returns, includes, call statements) -/
example : SourcePrintable SourceDemo.prog = true := SourceDemo.prog_sourcePrintable

example : parseScript [printScript Print.printExpr SourceDemo.prog] = .ok (lowerProgram SourceDemo.prog) :=
  parseScript_printExpr _ SourceDemo.prog_structure.1 SourceDemo.prog_structure.2.1 SourceDemo.prog_structure.2.2
    SourceDemo.prog_sourcePrintable

/-- what excludes a program: a string literal with a line feed, an expression statement that is not a call -/
example : SourcePrintable [.expr (some (.user "s")) (.string "a\nb")] = false ∧
    SourcePrintable [.expr none (.binary .eq (.variable (.user "a")) (.variable (.user "b")))] = false ∧
    SourcePrintable [.label (.user "else")] = false := by decide +kernel

end C01
