import BareModel.Parser
import BareProofs.C02
import BareProofs.C10
import BareProofs.C01ParseLemmas

/-!
# C06 — the layers of the parser model, one at a time

The regex cascade (every captured expression group lies inside the line, `shape_offsets`, hence the column of an
expression error does, `classify_error_column`); the lowering step by line kind (`stepLine_ok`) and on the abstraction
that decides acceptance (`Abs`, `astep`, `stepLine_abs`); one logical line with its pieces named (`stepLogical_eq`); the
position stack `Where`, which moves together with the block stack (`Sync`) and only holds positions of lines of the input
(`Pos`); the line loop (`stepAll_ind`) and the parser started in any state (`parseFrom`), with the changes it cannot
observe: the start number (`parseFrom_shift`), the line indices (`parseFrom_reindex`), the statements built so far
(`parseFrom_sim0`); chunks put in front of a script (`scriptLines_append`, `stepAll_simple`).
-/

namespace C06
open Text Scan Lower Parser

/-- every captured expression group `(off, e)` lies inside a line of length `n` -/
def Bounded (n : Nat) : Shape → Prop
  | .assign _ off e => off + e.length ≤ n
  | .ifBegin off e => off + e.length ≤ n
  | .elif off e => off + e.length ≤ n
  | .whileBegin off e => off + e.length ≤ n
  | .forBegin _ _ off e => off + e.length ≤ n
  | .jump _ (some (off, e)) => off + e.length ≤ n
  | .ret (some (off, e)) => off + e.length ≤ n
  | _ => True

theorem add_shift_le {off l n : Nat} (k : Nat) (h : off + l ≤ n) : off + k + l ≤ n + k := by omega

theorem Bounded.shift {n k : Nat} {sh : Shape} (h : Bounded n sh) : Bounded (n + k) (sh.shift k) := by
  cases sh with
  | assign | ifBegin | elif | whileBegin | forBegin => exact add_shift_le k h
  | jump _ g | ret g =>
    cases g with
    | none => trivial
    | some g => exact add_shift_le k h
  | _ => trivial

/-! The recognisers are nested matches, most with one successful path.  `repeat' split at h` walks all paths, `cases h`
discards the failing ones; what each step of the successful path consumed is then read off its equation. -/

theorem ws1?_length {l r : Chars} (h : ws1? l = some r) : r.length < l.length := by
  unfold ws1? at h
  repeat' split at h
  all_goals cases h
  exact Nat.lt_succ_of_le (C10.lstrip_length_le _)

theorem assign?_bounded {s : Chars} {sh : Shape} (h : assign? s = some sh) : Bounded s.length sh := by
  unfold assign? at h
  split at h
  · rename_i name r1 hid
    have h1 := C10.ident?_length hid
    have h2 := C10.lstrip_length_le r1
    split at h
    · rename_i r3 hr3
      rw [hr3] at h2
      simp only [List.length_cons] at h2
      have h3 := C10.lstrip_length_le r3
      split at h
      · cases h; simp only [Bounded, List.length_cons, List.length_nil]; omega
      · cases h
      · cases h; simp only [Bounded]; omega
    · cases h
  · cases h

theorem exprColon?_bounded {r : Chars} {n : Nat} {e : Chars} (h : exprColon? r = some (n, e)) :
    n + e.length < r.length := by
  unfold exprColon? at h
  split at h
  · rename_i revBefore hrev
    have h1 := C10.dropWhile_length_le isSpace r.reverse
    rw [hrev] at h1
    simp only [List.length_cons, List.length_reverse] at h1
    have h2 : (revBefore.reverse.takeWhile isSpace).length + (revBefore.reverse.dropWhile isSpace).length
        = revBefore.length := by
      rw [← List.length_append, List.takeWhile_append_dropWhile, List.length_reverse]
    simp only at h
    split at h
    · cases h
    · rename_i hd _
      split at h
      · simp only [Option.some.injEq, Prod.mk.injEq] at h
        obtain ⟨rfl, rfl⟩ := h
        rw [hd] at h2
        simp only [List.length_cons, List.length_nil] at *; omega
      · cases h
    · simp only [Option.some.injEq, Prod.mk.injEq] at h
      obtain ⟨rfl, rfl⟩ := h
      omega
  · cases h

theorem kwExprColon?_bounded {kw : String} {mk : Nat → Chars → Shape} {s : Chars} {sh : Shape}
    (hmk : ∀ off e, off + e.length ≤ s.length → Bounded s.length (mk off e))
    (h : kwExprColon? kw mk s = some sh) : Bounded s.length sh := by
  unfold kwExprColon? at h
  repeat' split at h
  all_goals cases h
  have := C10.keyword?_length ‹_›
  have := exprColon?_bounded ‹_›
  exact hmk _ _ (by omega)

theorem kwOnly?_bounded {kw : String} {sh0 : Shape} {s : Chars} {sh : Shape} (h0 : ∀ n, Bounded n sh0)
    (h : kwOnly? kw sh0 s = some sh) : Bounded s.length sh := by
  unfold kwOnly? at h
  repeat' split at h
  all_goals cases h
  exact h0 _

theorem forIdx_length (r : Chars) : (C10.forIdx r).2.length ≤ r.length := by
  unfold C10.forIdx
  split
  · rename_i r1 hl
    have h0 := C10.lstrip_length_le r
    rw [hl] at h0
    simp only [List.length_cons] at h0
    split
    · rename_i ix r2 hid
      have := C10.ident?_length hid
      have := C10.lstrip_length_le r1
      simp only; omega
    · simp
  · simp

theorem for?_bounded {s : Chars} {sh : Shape} (h : for? s = some sh) : Bounded s.length sh := by
  rw [C10.for?_eq] at h
  simp only [Option.bind_eq_some_iff, C10.forTail, Option.map_eq_some_iff] at h
  obtain ⟨r0, h0, r1, h1, ⟨value, r2⟩, h2, r3, h3, r4, h4, ⟨n, e⟩, h5, rfl⟩ := h
  dsimp only at h3 ⊢
  have := C10.keyword?_length h0
  have := ws1?_length h1
  have := C10.ident?_length h2
  have := forIdx_length r2
  have := ws1?_length h3
  have := C10.keyword?_length h4
  have := exprColon?_bounded h5
  show _ - _ + _ + _ ≤ _
  omega

theorem splitLastParen_length {r e tail : Chars} (h : splitLastParen r = some (e, tail)) : e.length < r.length := by
  unfold splitLastParen at h
  simp only at h
  split at h <;> cases h
  rename_i hd
  have := C10.dropWhile_length_le (fun c => c != ')') r.reverse
  rwa [hd, List.length_reverse, List.length_cons, ← List.length_reverse] at this

theorem jump?_bounded {s : Chars} {sh : Shape} (h : jump? s = some sh) : Bounded s.length sh := by
  unfold jump? at h
  split at h
  · cases h
  · rename_i r hk
    have l0 := C10.keyword?_length hk
    split at h
    · cases h; simp [Bounded]
    · split at h
      · cases h
      · rename_i r1 hk1
        have l1 := C10.keyword?_length hk1
        have l2 := C10.lstrip_length_le r1
        split at h
        · rename_i r2 hr2
          rw [hr2] at l2
          simp only [List.length_cons] at l2
          split at h
          · rename_i e tail hsp
            have l3 := splitLastParen_length hsp
            split at h
            · cases h
            · split at h
              · cases h; simp only [Bounded]; omega
              · cases h
          · cases h
        · cases h

theorem return?_bounded {s : Chars} {sh : Shape} (h : return? s = some sh) : Bounded s.length sh := by
  unfold return? at h
  split at h
  · cases h
  · rename_i r hk
    have l0 := C10.keyword?_length hk
    split at h
    · cases h; simp [Bounded]
    · split at h
      · rename_i c cs _
        split at h
        · cases h
          have := C10.lstrip_length_le (c :: cs)
          simp only [Bounded]; omega
        · cases h
      · cases h

theorem funcBegin?_bounded {s : Chars} {sh : Shape} (h : funcBegin? s = some sh) : Bounded s.length sh := by
  rw [C10.funcBegin?_eq] at h
  simp only [Option.bind_eq_some_iff] at h
  obtain ⟨_, _, _, _, _, _, _, _, h⟩ := h
  unfold C10.fnClose at h
  repeat' split at h
  all_goals cases h
  all_goals trivial

theorem else?_bounded {s : Chars} {sh : Shape} (h : else? s = some sh) : Bounded s.length sh := by
  unfold else? at h
  repeat' split at h
  all_goals cases h
  all_goals trivial

theorem label?_bounded {s : Chars} {sh : Shape} (h : label? s = some sh) : Bounded s.length sh := by
  unfold label? at h
  repeat' split at h
  all_goals cases h
  all_goals trivial

theorem include?_bounded {s : Chars} {sh : Shape} (h : include? s = some sh) : Bounded s.length sh := by
  unfold include? at h
  simp only at h
  repeat' split at h
  all_goals cases h
  all_goals trivial

theorem orElse_bounded {n : Nat} {a b : Option Shape} (ha : ∀ sh, a = some sh → Bounded n sh)
    (hb : ∀ sh, b = some sh → Bounded n sh) : ∀ sh, (a <|> b) = some sh → Bounded n sh := by
  cases a with
  | none => exact hb
  | some _ => exact ha

theorem getD_bounded {n : Nat} {o : Option Shape} (h : ∀ sh, o = some sh → Bounded n sh) :
    Bounded n (o.getD .exprStmt) := by
  cases o with
  | none => trivial
  | some sh => exact h sh rfl

theorem shapeS_bounded (s : Chars) : Bounded s.length (shapeS s) :=
  getD_bounded <|
    orElse_bounded (fun _ => assign?_bounded) <|
    orElse_bounded (fun _ => funcBegin?_bounded) <|
    orElse_bounded (fun _ => kwOnly?_bounded fun _ => trivial) <|
    orElse_bounded (fun _ => kwExprColon?_bounded fun _ _ h => h) <|
    orElse_bounded (fun _ => kwExprColon?_bounded fun _ _ h => h) <|
    orElse_bounded (fun _ => else?_bounded) <|
    orElse_bounded (fun _ => kwOnly?_bounded fun _ => trivial) <|
    orElse_bounded (fun _ => kwExprColon?_bounded fun _ _ h => h) <|
    orElse_bounded (fun _ => kwOnly?_bounded fun _ => trivial) <|
    orElse_bounded (fun _ => for?_bounded) <|
    orElse_bounded (fun _ => kwOnly?_bounded fun _ => trivial) <|
    orElse_bounded (fun _ => kwOnly?_bounded fun _ => trivial) <|
    orElse_bounded (fun _ => kwOnly?_bounded fun _ => trivial) <|
    orElse_bounded (fun _ => label?_bounded) <|
    orElse_bounded (fun _ => jump?_bounded) <|
    orElse_bounded (fun _ => return?_bounded) fun _ => include?_bounded

/-- every expression group captured by the statement patterns is a piece of the line:
`match.start(group) + len(group) ≤ len(line)` -/
theorem shape_offsets (line : Chars) : Bounded line.length (shape line) := by
  unfold shape
  have h1 := shapeS_bounded (lstripL line)
  have h2 := C10.lstrip_length_le line
  have := h1.shift (k := line.length - (lstripL line).length)
  have e : (lstripL line).length + (line.length - (lstripL line).length) = line.length := by omega
  rwa [e] at this

def ExprMsg (m : String) : Prop := m = "Syntax error" ∨ m = "Unmatched parenthesis"

/-- what `C02.reject_is_parser_error` says about an expression parser -/
def GoodErrors (pexp : String → Except ParseErr Expr) : Prop :=
  ∀ s pe, pexp s = .error pe → ExprMsg pe.error ∧ 1 ≤ pe.column ∧ pe.column ≤ s.length + 1

theorem parseExpr_goodErrors : GoodErrors ExprParse.parseExpr := by
  intro s pe h
  have := C02.reject_is_parser_error s pe h
  exact ⟨this.1, this.2.2⟩

theorem map_error {ε α β : Type} {f : α → β} {r : Except ε α} {e : ε} (h : r.map f = .error e) : r = .error e := by
  cases r with
  | ok a => cases h
  | error e' => cases h; rfl

theorem ex_error {pexp : String → Except ParseErr Expr} (hg : GoodErrors pexp) {α : Type} {n off : Nat} {e : Chars}
    {f : Expr → α} {pe : ParseErr} (hb : off + e.length ≤ n)
    (h : (shiftErr off (pexp (String.ofList e))).map f = .error pe) :
    ExprMsg pe.error ∧ 1 ≤ pe.column ∧ pe.column ≤ n + 1 := by
  cases hp : pexp (String.ofList e) with
  | ok x => rw [hp] at h; cases h
  | error pe0 =>
    rw [hp] at h
    cases h
    have := hg _ _ hp
    rw [String.length_ofList] at this
    exact ⟨this.1, by show 1 ≤ pe0.column + off; omega, by show pe0.column + off ≤ n + 1; omega⟩

theorem classifyL_error_column {pexp : String → Except ParseErr Expr} (hg : GoodErrors pexp) (line : Chars)
    (pe : ParseErr) (h : classifyL pexp line = .error pe) :
    ExprMsg pe.error ∧ 1 ≤ pe.column ∧ pe.column ≤ line.length + 1 := by
  have hb := shape_offsets line
  unfold classifyL at h
  generalize shape line = sh at h hb
  cases sh with
  | assign | ifBegin | elif | whileBegin | forBegin => exact ex_error hg hb h
  | jump _ g | ret g =>
    cases g with
    | none => cases h
    | some g => exact ex_error hg hb h
  | exprStmt =>
    have := hg _ _ (map_error h)
    rwa [String.length_ofList] at this
  | _ => cases h

/-- an error of the line classifier (always an expression error) carries one of the two
expression error texts and a column inside the line (`len + 1` = end of line) — all eight statement kinds with an
expression. -/
theorem classify_error_column (line : String) (pe : ParseErr)
    (h : Scan.classify ExprParse.parseExpr line = .error pe) :
    ExprMsg pe.error ∧ 1 ≤ pe.column ∧ pe.column ≤ line.length + 1 := by
  have := classifyL_error_column parseExpr_goodErrors line.toList pe h
  simpa only [String.length_toList] using this

@[simp] theorem setCur_defs (s : PState) (ss : List Stmt) : (s.setCur ss).defs = s.defs := by
  unfold PState.setCur; split <;> rfl
@[simp] theorem setCur_cur (s : PState) (ss : List Stmt) : (s.setCur ss).cur = ss := by
  obtain ⟨a, f, c, d, e⟩ := s
  cases f <;> rfl
@[simp] theorem setCur_func_isSome (s : PState) (ss : List Stmt) : (s.setCur ss).func.isSome = s.func.isSome := by
  unfold PState.setCur; split <;> simp_all
theorem setCur_stmts {s : PState} (h : s.func.isSome = true) (ss : List Stmt) : (s.setCur ss).stmts = s.stmts := by
  obtain ⟨a, f, c, d, e⟩ := s
  cases f with
  | none => cases h
  | some f => rfl
theorem emit_stmts {s : PState} (h : s.func.isSome = true) (ss : List Stmt) : (s.emit ss).stmts = s.stmts :=
  setCur_stmts h _
@[simp] theorem emit_defs (s : PState) (ss : List Stmt) : (s.emit ss).defs = s.defs := by simp [PState.emit]
@[simp] theorem emit_cur (s : PState) (ss : List Stmt) : (s.emit ss).cur = s.cur ++ ss := by simp [PState.emit]
@[simp] theorem emit_func_isSome (s : PState) (ss : List Stmt) : (s.emit ss).func.isSome = s.func.isSome := by
  simp [PState.emit]

@[simp] theorem mk_cur (s1 : PState) (d : List LabelDef) (i n : Nat) :
    (PState.mk s1.stmts s1.func d i n).cur = s1.cur := rfl

theorem eq_dropLast_append {α} (l : List α) (a : α) (h : l.getLast? = some a) : l = l.dropLast ++ [a] := by
  obtain ⟨t, rfl⟩ := List.getLast?_eq_some_iff.mp h
  simp

theorem retarget_length (ss : List Stmt) (a : Nat) (l : Name) : (retarget ss a l).length = ss.length := by
  unfold retarget; split <;> simp

theorem scopeDefs_prefix (s : PState) : ∃ t, s.defs = s.scopeDefs ++ t :=
  ⟨s.defs.drop (s.defs.length - s.floor), by simp [PState.scopeDefs]⟩

theorem scopeDefs_cons {ps : PState} {d : LabelDef} {r : List LabelDef} (h : ps.scopeDefs = d :: r) :
    ps.defs = d :: ps.defs.tail := by
  obtain ⟨t, ht⟩ := scopeDefs_prefix ps
  rw [h] at ht
  rw [ht]; rfl

/-- what one line sees of the block stack (`tag`, below) is not changed by a `continue` inside a `for`, which sets
the `hasContinue` flag of the loop's entry in place -/
theorem continue_defs {ps : PState} {pre post : List LabelDef} {i : Nat} {ixv : Name} {hc : Bool} {f : LabelDef → α}
    (h : findLoop ps.scopeDefs = some (pre, .forD i ixv hc, post)) (hf : f (.forD i ixv true) = f (.forD i ixv hc)) :
    (pre ++ [LabelDef.forD i ixv true] ++ ps.defs.drop (pre.length + 1)).map f = ps.defs.map f := by
  obtain ⟨t, ht⟩ := scopeDefs_prefix ps
  rw [(C01.findLoop_spec _ h).1] at ht
  rw [ht]
  simp [hf]

/-- how one line changes the block stack `label_defs` -/
def BlockChange (ps ps' : PState) : Line → Prop
  | .ifBegin _ | .whileBegin _ | .forBegin .. => ∃ d, ps'.defs = d :: ps.defs
  | .endif | .endwhile | .endfor => ∃ d, ps.defs = d :: ps'.defs
  | .elif _ | .else_ => ∃ d d' t, ps.defs = d :: t ∧ ps'.defs = d' :: t
  | .continue_ => ps'.defs.length = ps.defs.length
  | _ => ps'.defs = ps.defs

theorem BlockChange.length {ps ps' : PState} {l : Line} (h : BlockChange ps ps' l) :
    ps'.defs.length = ps.defs.length + 1 ∨ ps'.defs.length + 1 = ps.defs.length ∨ ps'.defs.length = ps.defs.length := by
  cases l with
  | ifBegin | whileBegin | forBegin => obtain ⟨d, hd⟩ := h; exact .inl (congrArg List.length hd)
  | endif | endwhile | endfor => obtain ⟨d, hd⟩ := h; exact .inr (.inl (congrArg List.length hd).symm)
  | elif | else_ => obtain ⟨d, d', t, h1, h2⟩ := h; exact .inr (.inr (by rw [h1, h2]; rfl))
  | continue_ => exact .inr (.inr h)
  | _ => exact .inr (.inr (congrArg List.length h))

/-- the documented effects of one source line on the parser state -/
inductive LineEffect (ps ps' : PState) : Prop
  /-- at least one statement was appended to the current statement list (all block lines are of this kind) -/
  | grew (hf : ps'.func.isSome = ps.func.isSome) (hs : ps.func.isSome = true → ps'.stmts = ps.stmts)
      (h : ps.cur.length < ps'.cur.length)
  | funcOpened (h : ps.func = none) (h' : ps'.func.isSome = true) (hs : ps'.stmts = ps.stmts)
  | funcClosed (f : OpenFunc) (h : ps.func = some f) (h' : ps'.func = none)
      (hs : ps'.stmts = ps.stmts ++ [.function f.fid f.name f.args f.lastArgArray f.isAsync f.body])
  | includeMerged (pre : List Stmt) (incs : List IncludeScript) (inc : IncludeScript)
      (hf : ps'.func.isSome = ps.func.isSome) (hs : ps.func.isSome = true → ps'.stmts = ps.stmts)
      (h : ps.cur = pre ++ [.include incs]) (h' : ps'.cur = pre ++ [.include (incs ++ [inc])])

/-- a step that replaces the current statement list by a longer one and otherwise changes `defs` and `idx` at most -/
theorem LineEffect.of_setCur {ps ps' : PState} {ss : List Stmt} (hs : ps'.stmts = (ps.setCur ss).stmts)
    (hf : ps'.func = (ps.setCur ss).func) (h : ps.cur.length < ss.length) : LineEffect ps ps' := by
  have hc : ps'.cur = ss := by rw [PState.cur, hs, hf]; exact setCur_cur ..
  exact .grew (by rw [hf]; exact setCur_func_isSome ..) (fun hsome => by rw [hs]; exact setCur_stmts hsome _)
    (by rw [hc]; exact h)

theorem stepLine_ok {ps ps' : PState} {l : Line} (h : stepLine ps l = .ok ps') :
    BlockChange ps ps' l ∧ LineEffect ps ps' := by
  cases l with
  | assign | exprStmt | label | jump | ret => cases h; exact ⟨emit_defs .., .of_setCur rfl rfl (by simp)⟩
  | ifBegin | whileBegin | forBegin => cases h; exact ⟨⟨_, rfl⟩, .of_setCur rfl rfl (by simp [forHeader])⟩
  | «include» url sys =>
    simp only [stepLine] at h
    split at h <;> cases h
    · exact ⟨setCur_defs .., .includeMerged ps.cur.dropLast _ ⟨url, sys⟩ (setCur_func_isSome ..)
        (fun hsome => setCur_stmts hsome _) (eq_dropLast_append _ _ ‹_›) (setCur_cur ..)⟩
    · exact ⟨emit_defs .., .of_setCur rfl rfl (by simp)⟩
  | funcBegin =>
    simp only [stepLine] at h
    split at h <;> cases h
    exact ⟨rfl, .funcOpened ‹_› rfl rfl⟩
  | funcEnd =>
    simp only [stepLine] at h
    repeat' split at h
    all_goals cases h
    exact ⟨rfl, .funcClosed _ ‹_› rfl rfl⟩
  | elif | else_ =>
    simp only [stepLine] at h
    repeat' split at h
    all_goals cases h
    all_goals exact ⟨⟨_, _, _, scopeDefs_cons ‹_›, rfl⟩, .of_setCur rfl rfl (by simp)⟩
  | endif | endwhile | endfor =>
    simp only [stepLine] at h
    repeat' split at h
    all_goals cases h
    all_goals exact ⟨⟨_, scopeDefs_cons ‹_›⟩, .of_setCur rfl rfl (by simp [retarget_length, forFooter])⟩
  | break_ =>
    simp only [stepLine] at h
    split at h <;> cases h <;> exact ⟨emit_defs .., .of_setCur rfl rfl (by simp)⟩
  | continue_ =>
    simp only [stepLine] at h
    split at h <;> cases h
    · exact ⟨congrArg _ (emit_defs ..), .of_setCur rfl rfl (by simp)⟩
    · refine ⟨?_, .of_setCur rfl rfl (by simp)⟩
      have := congrArg List.length (continue_defs (f := fun _ => ()) ‹_› rfl)
      rwa [List.length_map, List.length_map] at this

/-- the `BareScriptParserError` of a block-structure error: `Missing end…` raised by `endfunction` reports the line
that opened the innermost open block, everything else the current line; always column 1 -/
def structural (wh : Where) (line : String) (ln : Nat) (e : LowerErr) : ParserError :=
  match e with
  | .missingEnd _ =>
      match wh.defs with
      | (dl, dn) :: _ => ⟨e.text, dl, 1, dn⟩
      | [] => ⟨e.text, line, 1, ln⟩
  | _ => ⟨e.text, line, 1, ln⟩

/-- the position stack after a successful lowering step `ps → ps'` of the line `(line, ln)` -/
def whereStep (ps ps' : PState) (wh : Where) (line : String) (ln : Nat) : Where :=
  { defs :=
      if ps'.defs.length = ps.defs.length + 1 then (line, ln) :: wh.defs
      else if ps'.defs.length + 1 = ps.defs.length then wh.defs.tail
      else wh.defs,
    func :=
      match ps.func, ps'.func with
      | none, some _ => some (line, ln)
      | _, none => none
      | some _, some _ => wh.func }

/-- the step of the position stack looks only at the heights of the block stack and at whether a function is open -/
theorem whereStep_eq (ps ps' : PState) (wh : Where) (line : String) (ln : Nat) :
    whereStep ps ps' wh line ln =
      { defs := if ps'.defs.length = ps.defs.length + 1 then (line, ln) :: wh.defs
                else if ps'.defs.length + 1 = ps.defs.length then wh.defs.tail else wh.defs,
        func := if ps'.func.isSome then (if ps.func.isSome then wh.func else some (line, ln)) else none } := by
  unfold whereStep
  cases ps.func <;> cases ps'.func <;> rfl

/-- the block-structure test an `elif` line undergoes before its expression is parsed -/
def preCheck (s : St) (line : String) (ln : Nat) : Except ParserError Unit :=
  match Scan.shape line.toList with
  | .elif _ _ =>
      match stepLine s.1 (.elif dummyExpr) with
      | .error e => .error (structural s.2 line ln e)
      | .ok _ => .ok ()
  | _ => .ok ()

theorem stepLogical_eq (start : Nat) (s : St) (ix : Nat) (line : String) :
    stepLogical start s ix line =
      match preCheck s line (start + ix) with
      | .error e => .error e
      | .ok () =>
        match Scan.classify ExprParse.parseExpr line with
        | .error pe => .error ⟨pe.error, line, pe.column, start + ix⟩
        | .ok cl =>
          match stepLine s.1 cl with
          | .error e => .error (structural s.2 line (start + ix) e)
          | .ok ps' => .ok (ps', whereStep s.1 ps' s.2 line (start + ix)) := by
  -- unfolded first: closing this by `rfl` alone leaves the unfolding to the unifier, which is slow
  unfold stepLogical preCheck structural whereStep
  rfl

theorem stepLogical_ok {start : Nat} {s s' : St} {ix : Nat} {line : String} (h : stepLogical start s ix line = .ok s') :
    ∃ cl ps', Scan.classify ExprParse.parseExpr line = .ok cl ∧ stepLine s.1 cl = .ok ps' ∧
      s' = (ps', whereStep s.1 ps' s.2 line (start + ix)) := by
  rw [stepLogical_eq] at h
  split at h
  · cases h
  · split at h
    · cases h
    · split at h <;> cases h
      exact ⟨_, _, ‹_›, ‹_›, rfl⟩

theorem stepLogical_err {start : Nat} {s : St} {ix : Nat} {line : String} {e : ParserError}
    (h : stepLogical start s ix line = .error e) :
    (∃ pe, Scan.classify ExprParse.parseExpr line = .error pe ∧ e = ⟨pe.error, line, pe.column, start + ix⟩) ∨
    ∃ le, e = structural s.2 line (start + ix) le := by
  rw [stepLogical_eq] at h
  split at h
  · cases h
    rename_i hpre
    unfold preCheck at hpre
    repeat' split at hpre
    all_goals cases hpre
    exact .inr ⟨_, rfl⟩
  · split at h
    · cases h; exact .inl ⟨_, ‹_›, rfl⟩
    · split at h <;> cases h
      exact .inr ⟨_, rfl⟩

/-- a recorded position is that of a logical line of `ll` -/
def IsPos (start : Nat) (ll : List (Nat × String)) (x : String × Nat) : Prop :=
  ∃ ix line, (ix, line) ∈ ll ∧ x = (line, start + ix)

/-- the two stacks have the same height, a function position is recorded exactly when a function is open -/
structure Sync (s : St) : Prop where
  len : s.2.defs.length = s.1.defs.length
  fsome : s.2.func.isSome = s.1.func.isSome

structure Pos (start : Nat) (ll : List (Nat × String)) (s : St) : Prop where
  defs : ∀ x ∈ s.2.defs, IsPos start ll x
  func : ∀ x, s.2.func = some x → IsPos start ll x

theorem sync_init : Sync (PState.init, {}) := ⟨rfl, rfl⟩
theorem pos_init (start : Nat) (ll : List (Nat × String)) : Pos start ll (PState.init, {}) :=
  ⟨fun x hx => (by cases hx), fun x hx => (by cases hx)⟩

theorem whereStep_sync {ps ps' : PState} {wh : Where} {cl : Line} (line : String) (ln : Nat)
    (hs : Sync (ps, wh)) (h : stepLine ps cl = .ok ps') : Sync (ps', whereStep ps ps' wh line ln) := by
  have hl := (stepLine_ok h).1.length
  obtain ⟨h1, h2⟩ := hs
  simp only at h1 h2
  rw [whereStep_eq]
  constructor
  · dsimp only
    split
    · simp only [List.length_cons]; omega
    · split
      · simp only [List.length_tail]; omega
      · omega
  · dsimp only
    cases ps'.func.isSome
    · rfl
    · cases hb : ps.func.isSome
      · rfl
      · exact h2.trans hb

theorem whereStep_pos {start : Nat} {ll : List (Nat × String)} {ps ps' : PState} {wh : Where} {ix : Nat} {line : String}
    (hmem : (ix, line) ∈ ll) (hp : Pos start ll (ps, wh)) : Pos start ll (ps', whereStep ps ps' wh line (start + ix)) := by
  have hcur : IsPos start ll (line, start + ix) := ⟨ix, line, hmem, rfl⟩
  constructor
  · intro x hx
    simp only [whereStep] at hx
    split at hx
    · rcases List.mem_cons.mp hx with rfl | hx
      · exact hcur
      · exact hp.defs x hx
    · split at hx
      · exact hp.defs x (List.mem_of_mem_tail hx)
      · exact hp.defs x hx
  · intro x hx
    simp only [whereStep] at hx
    split at hx
    · cases hx; exact hcur
    · cases hx
    · exact hp.func x hx

theorem stepLogical_sync {start : Nat} {s s' : St} {ix : Nat} {line : String} (hs : Sync s)
    (h : stepLogical start s ix line = .ok s') : Sync s' := by
  obtain ⟨cl, ps', _, h2, rfl⟩ := stepLogical_ok h
  exact whereStep_sync line _ hs h2

theorem stepLogical_pos {start : Nat} {ll : List (Nat × String)} {s s' : St} {ix : Nat} {line : String}
    (hmem : (ix, line) ∈ ll) (hp : Pos start ll s) (h : stepLogical start s ix line = .ok s') : Pos start ll s' := by
  obtain ⟨cl, ps', _, _, rfl⟩ := stepLogical_ok h
  exact whereStep_pos hmem hp

/-- the error carries the number and text of a logical line of `ll` and a column inside it -/
def GoodPos (start : Nat) (ll : List (Nat × String)) (e : ParserError) : Prop :=
  ∃ ix line, (ix, line) ∈ ll ∧ e.lineNumber = start + ix ∧ e.line = line ∧ 1 ≤ e.column ∧ e.column ≤ line.length + 1

theorem IsPos.good {start : Nat} {ll : List (Nat × String)} {line : String} {ln : Nat} (h : IsPos start ll (line, ln))
    (t : String) : GoodPos start ll ⟨t, line, 1, ln⟩ := by
  obtain ⟨ix, _, hm, he⟩ := h
  cases he
  exact ⟨ix, line, hm, rfl, rfl, Nat.le_refl 1, Nat.le_add_left ..⟩

theorem structural_error (wh : Where) (line : String) (ln : Nat) (e : LowerErr) :
    (structural wh line ln e).error = e.text := by
  unfold structural; split <;> (try split) <;> rfl

theorem structural_column (wh : Where) (line : String) (ln : Nat) (e : LowerErr) :
    (structural wh line ln e).column = 1 := by
  unfold structural
  repeat' split
  all_goals rfl

theorem structural_good {start : Nat} {ll : List (Nat × String)} {s : St} {ix : Nat} {line : String}
    (hmem : (ix, line) ∈ ll) (hp : Pos start ll s) (e : LowerErr) :
    GoodPos start ll (structural s.2 line (start + ix) e) := by
  have hcur : IsPos start ll (line, start + ix) := ⟨ix, line, hmem, rfl⟩
  unfold structural
  split
  · split
    · exact (hp.defs _ (by rw [‹s.2.defs = _›]; exact .head _)).good _
    · exact hcur.good _
  · exact hcur.good _

/-- errors of one line: the reported position is the current line or the recorded opening line of a block, the
column is inside that line; the error is an expression error (one of the two texts of `parse_expression`) or a
block-structure error, which has column 1 -/
theorem stepLogical_error {start : Nat} {ll : List (Nat × String)} {s : St} {ix : Nat} {line : String} {e : ParserError}
    (hmem : (ix, line) ∈ ll) (hp : Pos start ll s) (h : stepLogical start s ix line = .error e) :
    GoodPos start ll e ∧ (ExprMsg e.error ∨ e.column = 1) := by
  obtain ⟨pe, hpe, rfl⟩ | ⟨le, rfl⟩ := stepLogical_err h
  · have := classify_error_column line pe hpe
    exact ⟨⟨ix, line, hmem, rfl, rfl, this.2⟩, .inl this.1⟩
  · exact ⟨structural_good hmem hp le, .inr (structural_column ..)⟩

theorem finishAll_error {start : Nat} {ll : List (Nat × String)} {s : St} {dg : Option Text.LineErr} {e : ParserError}
    (hs : Sync s) (hp : Pos start ll s) (h : finishAll start s dg = .error e) :
    (GoodPos start ll e ∧ e.column = 1) ∨ ∃ d, dg = some d ∧ e = ⟨d.error, d.line, d.column, start + d.ixLine⟩ := by
  unfold finishAll at h
  split at h
  · cases h; exact .inr ⟨_, rfl, rfl⟩
  · split at h
    · cases h; exact .inl ⟨(hp.defs _ (by rw [‹s.2.defs = _›]; exact .head _)).good _, rfl⟩
    · have := hs.len
      rw [‹s.1.defs = _›, ‹s.2.defs = _›] at this
      cases this
    · split at h
      · cases h; exact .inl ⟨(hp.func _ ‹_›).good _, rfl⟩
      · have := hs.fsome
        rw [‹s.1.func = _›, ‹s.2.func = _›] at this
        cases this
      · cases h

theorem finishAll_ok {start : Nat} {s : St} {dg : Option Text.LineErr} {m : List Stmt}
    (h : finishAll start s dg = .ok m) : dg = none ∧ s.1.defs = [] ∧ s.1.func = none ∧ m = s.1.stmts := by
  unfold finishAll at h
  repeat' split at h
  all_goals cases h
  exact ⟨rfl, ‹_›, ‹_›, rfl⟩

/-- induction along the loop: `P` holds of the state as long as the lines succeed, and `Q` of the error of the first
line that fails -/
theorem stepAll_ind {start : Nat} {P : St → Prop} {Q : ParserError → Prop} : ∀ {ll : List (Nat × String)} {s : St},
    (∀ x ∈ ll, ∀ s s', P s → stepLogical start s x.1 x.2 = .ok s' → P s') →
    (∀ x ∈ ll, ∀ s e, P s → stepLogical start s x.1 x.2 = .error e → Q e) → P s →
    (∀ s', stepAll start s ll = .ok s' → P s') ∧ ∀ e, stepAll start s ll = .error e → Q e
  | [], s, _, _, hs => ⟨fun _ h => (by cases h; exact hs), fun _ h => (by cases h)⟩
  | (ix, line) :: rest, s, hok, herr, hs => by
      simp only [stepAll]
      cases h1 : stepLogical start s ix line with
      | error e => exact ⟨fun _ h => (by cases h), fun _ h => (by cases h; exact herr _ (.head _) s e hs h1)⟩
      | ok s1 =>
        exact stepAll_ind (fun x hx => hok x (.tail _ hx)) (fun x hx => herr x (.tail _ hx))
          (hok _ (.head _) s s1 hs h1)

theorem stepAll_sync (start : Nat) : ∀ (ll : List (Nat × String)) (s s' : St), Sync s →
    stepAll start s ll = .ok s' → Sync s' :=
  fun _ _ s' hs => (stepAll_ind (Q := fun _ => True) (fun _ _ _ _ hs => stepLogical_sync hs)
    (fun _ _ _ _ _ _ => trivial) hs).1 s'

theorem stepAll_append (start : Nat) : ∀ (a b : List (Nat × String)) (s : St),
    stepAll start s (a ++ b) = match stepAll start s a with
      | .ok s' => stepAll start s' b
      | .error e => .error e
  | [], _, _ => rfl
  | (ix, line) :: rest, b, s => by
      simp only [List.cons_append, stepAll]
      cases stepLogical start s ix line with
      | error e => rfl
      | ok s' => exact stepAll_append start rest b s'

/-- the parser started in an arbitrary state -/
def parseFrom (start : Nat) (s : St) (ll : List (Nat × String)) (dg : Option Text.LineErr) :
    Except ParserError (List Stmt) :=
  match stepAll start s ll with
  | .error e => .error e
  | .ok s' => finishAll start s' dg

theorem parseScript_eq_parseFrom (chunks : List String) (start : Nat) :
    parseScript chunks start = parseFrom start (PState.init, {}) (Text.scriptLines chunks).1 (Text.scriptLines chunks).2 := rfl

def shiftE (d : Nat) (e : ParserError) : ParserError := { e with lineNumber := e.lineNumber + d }

def shiftW (d : Nat) (wh : Where) : Where :=
  { defs := wh.defs.map (fun x => (x.1, x.2 + d)), func := wh.func.map (fun x => (x.1, x.2 + d)) }

/-- add `d` to the line number of an error result; a success is unchanged -/
def shiftR {α : Type} (d : Nat) : Except ParserError α → Except ParserError α
  | .ok a => .ok a
  | .error e => .error (shiftE d e)

def shiftS (d : Nat) : Except ParserError St → Except ParserError St
  | .ok s => .ok (s.1, shiftW d s.2)
  | .error e => .error (shiftE d e)

theorem structural_shift (d : Nat) (wh : Where) (line : String) (ln : Nat) (e : LowerErr) :
    structural (shiftW d wh) line (ln + d) e = shiftE d (structural wh line ln e) := by
  obtain ⟨defs, func⟩ := wh
  cases e <;> first | rfl | (cases defs <;> rfl)

theorem whereStep_shift (d : Nat) (ps ps' : PState) (wh : Where) (line : String) (ln : Nat) :
    whereStep ps ps' (shiftW d wh) line (ln + d) = shiftW d (whereStep ps ps' wh line ln) := by
  obtain ⟨defs, func⟩ := wh
  simp only [whereStep, shiftW]
  congr 1
  · split
    · simp
    · split
      · simp
      · rfl
  · split <;> simp

theorem preCheck_shift (d : Nat) (ps : PState) (wh : Where) (line : String) (ln : Nat) :
    preCheck (ps, shiftW d wh) line (ln + d) = shiftR d (preCheck (ps, wh) line ln) := by
  unfold preCheck
  split
  · simp only
    split
    · simp only [structural_shift, shiftR]
    · rfl
  · rfl

theorem stepLogical_shift (start d : Nat) (ps : PState) (wh : Where) (ix : Nat) (line : String) :
    stepLogical (start + d) (ps, shiftW d wh) ix line = shiftS d (stepLogical start (ps, wh) ix line) := by
  rw [stepLogical_eq, stepLogical_eq, Nat.add_right_comm start d ix, preCheck_shift]
  cases preCheck (ps, wh) line (start + ix) with
  | error e => rfl
  | ok u =>
    simp only [shiftR]
    cases Scan.classify ExprParse.parseExpr line with
    | error pe => rfl
    | ok cl =>
      simp only
      cases stepLine ps cl with
      | error e => simp only [structural_shift, shiftS]
      | ok ps' => simp only [whereStep_shift, shiftS]

theorem stepAll_shift (start d : Nat) : ∀ (ll : List (Nat × String)) (ps : PState) (wh : Where),
    stepAll (start + d) (ps, shiftW d wh) ll = shiftS d (stepAll start (ps, wh) ll)
  | [], _, _ => rfl
  | (ix, line) :: rest, ps, wh => by
      simp only [stepAll, stepLogical_shift]
      cases stepLogical start (ps, wh) ix line with
      | error e => rfl
      | ok s' => exact stepAll_shift start d rest s'.1 s'.2

theorem finishAll_shift (start d : Nat) (ps : PState) (wh : Where) (dg : Option Text.LineErr) :
    finishAll (start + d) (ps, shiftW d wh) dg = shiftR d (finishAll start (ps, wh) dg) := by
  obtain ⟨wdefs, wfunc⟩ := wh
  cases dg with
  | some x => simp only [finishAll, shiftR, shiftE, Nat.add_right_comm start d]
  | none =>
    simp only [finishAll, shiftW]
    cases hd : ps.defs with
    | cons a as => cases wdefs <;> rfl
    | nil =>
      simp only
      cases hf : ps.func with
      | none => rfl
      | some f => cases wfunc <;> rfl

theorem parseFrom_shift (start d : Nat) (ps : PState) (wh : Where) (ll : List (Nat × String))
    (dg : Option Text.LineErr) :
    parseFrom (start + d) (ps, shiftW d wh) ll dg = shiftR d (parseFrom start (ps, wh) ll dg) := by
  unfold parseFrom
  rw [stepAll_shift]
  cases stepAll start (ps, wh) ll with
  | error e => rfl
  | ok s => exact finishAll_shift start d s.1 s.2 dg

/-! re-indexing the logical lines is moving the start line number -/

def addIx (k : Nat) (e : Text.LineErr) : Text.LineErr := { e with ixLine := e.ixLine + k }

theorem stepLogical_reindex (start k : Nat) (s : St) (ix : Nat) (line : String) :
    stepLogical start s (ix + k) line = stepLogical (start + k) s ix line := by
  rw [stepLogical_eq, stepLogical_eq, Nat.add_left_comm, Nat.add_comm ix, Nat.add_assoc]

theorem stepAll_reindex (start k : Nat) : ∀ (ll : List (Nat × String)) (s : St),
    stepAll start s (ll.map (fun x => (x.1 + k, x.2))) = stepAll (start + k) s ll
  | [], _ => rfl
  | (ix, line) :: rest, s => by
      simp only [List.map_cons, stepAll, stepLogical_reindex]
      cases stepLogical (start + k) s ix line with
      | error e => rfl
      | ok s' => exact stepAll_reindex start k rest s'

/-- with the two stacks at the same height only a dangling continuation makes the end-of-input test mention `start` -/
theorem finishAll_reindex (start k : Nat) (s : St) (hs : Sync s) (dg : Option Text.LineErr) :
    finishAll start s (dg.map (addIx k)) = finishAll (start + k) s dg := by
  obtain ⟨ps, wdefs, wfunc⟩ := s
  obtain ⟨h1, h2⟩ := hs
  simp only at h1 h2
  cases dg with
  | some x => simp only [finishAll, Option.map_some, addIx, Nat.add_assoc, Nat.add_comm k]
  | none =>
    simp only [finishAll, Option.map_none]
    cases hd : ps.defs with
    | cons a as =>
      cases wdefs with
      | nil => rw [hd] at h1; cases h1
      | cons b bs => rfl
    | nil =>
      simp only
      cases hf : ps.func with
      | none => rfl
      | some f =>
        cases wfunc with
        | none => rw [hf] at h2; cases h2
        | some g => rfl

theorem parseFrom_reindex (start k : Nat) (s : St) (hs : Sync s) (ll : List (Nat × String)) (dg : Option Text.LineErr) :
    parseFrom start s (ll.map (fun x => (x.1 + k, x.2))) (dg.map (addIx k)) = parseFrom (start + k) s ll dg := by
  unfold parseFrom
  rw [stepAll_reindex]
  cases h : stepAll (start + k) s ll with
  | error e => rfl
  | ok s' => exact finishAll_reindex start k s' (stepAll_sync _ _ _ _ hs h) dg

theorem loopL_comments : ∀ (cs : List Chars) (i ix : Nat), (∀ c ∈ cs, isCommentL c = true) → loopL i cs [] ix = ([], none)
  | [], _, _, _ => rfl
  | c :: rest, i, ix, h => by
      have hc : isCommentL c = true := h c (by simp)
      simp only [loopL, hc, if_true]
      exact loopL_comments rest (i + 1) ix (fun c' hc' => h c' (List.mem_cons_of_mem _ hc'))

/-- `(i, l₀), (i+1, l₁), …` -/
def numbered {α : Type} : Nat → List α → List (Nat × α)
  | _, [] => []
  | i, c :: r => (i, c) :: numbered (i + 1) r

theorem numbered_map {α β : Type} (f : α → β) : ∀ (i : Nat) (l : List α),
    (numbered i l).map (fun x => (x.1, f x.2)) = numbered i (l.map f)
  | _, [] => rfl
  | i, c :: r => by simp [numbered, numbered_map f (i + 1) r]

theorem numbered_mem {α : Type} : ∀ (i : Nat) (l : List α) (x : Nat × α), x ∈ numbered i l → x.2 ∈ l
  | _, [], _, h => by cases h
  | i, c :: r, x, h => by
      simp only [numbered, List.mem_cons] at h
      rcases h with rfl | h
      · simp
      · exact List.mem_cons_of_mem _ (numbered_mem (i + 1) r x h)

theorem loopL_plain : ∀ (cs : List Chars) (i ix : Nat), (∀ c ∈ cs, isCommentL c = false ∧ contBody? c = none) →
    loopL i cs [] ix = (numbered i cs, none)
  | [], _, _, _ => rfl
  | c :: rest, i, ix, h => by
      obtain ⟨h1, h2⟩ := h c (by simp)
      have ih := loopL_plain rest (i + 1) i (fun c' hc' => h c' (List.mem_cons_of_mem _ hc'))
      simp [loopL, h1, h2, ih, emit, numbered]

theorem scriptLines_append (pre lines : List String) (h : (Text.scriptLines pre).2 = none) :
    Text.scriptLines (pre ++ lines) =
      ((Text.scriptLines pre).1 ++
        (Text.scriptLines lines).1.map (fun x => (x.1 + (pre.flatMap Text.splitLines).length, x.2)),
       (Text.scriptLines lines).2.map (addIx (pre.flatMap Text.splitLines).length)) := by
  unfold Text.scriptLines Text.logicalLinesCore at h ⊢
  rw [Option.map_eq_none_iff] at h
  rw [List.flatMap_append, List.map_append, C10.logical_lines_compositional _ _ h]
  simp only [C10.reindex, List.map_append, List.map_map, Option.map_map, List.length_map]
  rfl

theorem scriptLines_comments {pre : List String} (hpre : ∀ l ∈ pre.flatMap Text.splitLines, Text.isComment l = true) :
    Text.scriptLines pre = ([], none) := by
  unfold Text.scriptLines Text.logicalLinesCore logicalLinesL
  rw [loopL_comments _ 0 0 fun c hc => by obtain ⟨l, hl, rfl⟩ := List.mem_map.mp hc; exact hpre l hl]
  rfl

theorem flatMap_splitLines {pre : List String} (h : ∀ p ∈ pre, '\n' ∉ p.toList) : pre.flatMap Text.splitLines = pre := by
  induction pre with
  | nil => rfl
  | cons p rest ih =>
    rw [List.flatMap_cons, ih fun l hl => h l (.tail _ hl), Text.splitLines, C10.split_no_nl (h p (.head _))]
    simp

theorem scriptLines_plain {pre : List String}
    (hpre : ∀ p ∈ pre, Text.isComment p = false ∧ contBody? p.toList = none ∧ '\n' ∉ p.toList) :
    Text.scriptLines pre = (numbered 0 pre, none) := by
  unfold Text.scriptLines Text.logicalLinesCore logicalLinesL
  rw [flatMap_splitLines fun p hp => (hpre p hp).2.2,
    loopL_plain _ 0 0 fun c hc => by obtain ⟨p, hp, rfl⟩ := List.mem_map.mp hc; exact ⟨(hpre p hp).1, (hpre p hp).2.1⟩]
  simp [numbered_map]

/-! What acceptance and error reporting depend on: an abstraction of the parser state.  Used for
`prepend_statements_shift`: statements put in front change the statement lists (and the jump positions recorded in `if`
entries) but not the abstraction, and two states with the same abstraction accept / reject the same lines with the same
errors. -/

/-- what the block-structure tests of the lowering look at in a stack entry -/
inductive Tag where
  | ifT (hasElse : Bool) | whileT | forT
deriving DecidableEq, Repr

def tag : LabelDef → Tag
  | .ifD _ _ _ h => .ifT h
  | .whileD .. => .whileT
  | .forD .. => .forT

def Tag.kind : Tag → String
  | .ifT _ => "if" | .whileT => "while" | .forT => "for"

theorem tag_kind (d : LabelDef) : (tag d).kind = d.kind := by cases d <;> rfl

/-- the part of the parser state that decides acceptance and the error text: is a function open, its stack floor, the
kinds of the open blocks -/
structure Abs where
  inFunc : Bool
  floor : Nat
  tags : List Tag
deriving DecidableEq, Repr

def abs (ps : PState) : Abs := ⟨ps.func.isSome, ps.floor, ps.defs.map tag⟩

def Abs.scope (a : Abs) : List Tag := a.tags.take (a.tags.length - a.floor)

def hasLoop : List Tag → Bool
  | [] => false
  | .ifT _ :: r => hasLoop r
  | _ :: _ => true

def headKind : List Tag → String
  | t :: _ => t.kind
  | [] => (default : LabelDef).kind

/-- the lowering step on the abstraction -/
def astep (a : Abs) : Line → Except LowerErr Abs
  | .assign .. | .exprStmt _ | .label _ | .jump .. | .ret _ | .include .. => .ok a
  | .funcBegin .. => if a.inFunc then .error .nestedFunction else .ok ⟨true, a.tags.length, a.tags⟩
  | .funcEnd =>
      if a.inFunc then
        if a.tags.length > a.floor then .error (.missingEnd (headKind a.tags)) else .ok ⟨false, 0, a.tags⟩
      else .error .noMatchingFunction
  | .ifBegin _ => .ok { a with tags := .ifT false :: a.tags }
  | .elif _ =>
      match a.scope with
      | .ifT h :: _ => if h then .error .elifAfterElse else .ok { a with tags := .ifT false :: a.tags.tail }
      | _ => .error .noMatchingIf
  | .else_ =>
      match a.scope with
      | .ifT h :: _ => if h then .error .multipleElse else .ok { a with tags := .ifT true :: a.tags.tail }
      | _ => .error .noMatchingIf
  | .endif =>
      match a.scope with
      | .ifT _ :: _ => .ok { a with tags := a.tags.tail }
      | _ => .error .noMatchingIf
  | .whileBegin _ => .ok { a with tags := .whileT :: a.tags }
  | .endwhile =>
      match a.scope with
      | .whileT :: _ => .ok { a with tags := a.tags.tail }
      | _ => .error .noMatchingWhile
  | .forBegin .. => .ok { a with tags := .forT :: a.tags }
  | .endfor =>
      match a.scope with
      | .forT :: _ => .ok { a with tags := a.tags.tail }
      | _ => .error .noMatchingFor
  | .break_ => if hasLoop a.scope then .ok a else .error .breakOutside
  | .continue_ => if hasLoop a.scope then .ok a else .error .continueOutside

theorem abs_scope (ps : PState) : (abs ps).scope = ps.scopeDefs.map tag := by
  simp [Abs.scope, abs, PState.scopeDefs, List.map_take]

@[simp] theorem setCur_floor (s : PState) (ss : List Stmt) : (s.setCur ss).floor = s.floor := by
  obtain ⟨a, f, c, d, e⟩ := s
  cases f <;> rfl
@[simp] theorem emit_floor (s : PState) (ss : List Stmt) : (s.emit ss).floor = s.floor := setCur_floor _ _

@[simp] theorem abs_setCur (s : PState) (ss : List Stmt) : abs (s.setCur ss) = abs s := by simp [abs]
@[simp] theorem abs_emit (s : PState) (ss : List Stmt) : abs (s.emit ss) = abs s := by simp [abs]

theorem abs_mk (s1 : PState) (d : List LabelDef) (i n : Nat) :
    abs (PState.mk s1.stmts s1.func d i n) = ⟨s1.func.isSome, s1.floor, d.map tag⟩ := rfl

/-- `abs_mk` in the form that meets `astep (abs s1)` -/
theorem abs_with (s1 : PState) (d : List LabelDef) (i n : Nat) :
    abs (PState.mk s1.stmts s1.func d i n) = ⟨(abs s1).inFunc, (abs s1).floor, d.map tag⟩ := rfl

theorem abs_tags (ps : PState) : (abs ps).tags = ps.defs.map tag := rfl

theorem findLoop_hasLoop : ∀ ds : List LabelDef, (findLoop ds).isSome = hasLoop (ds.map tag)
  | [] => rfl
  | .ifD .. :: rest => by simp [findLoop, hasLoop, tag, findLoop_hasLoop rest]
  | .whileD .. :: rest => by simp [findLoop, hasLoop, tag]
  | .forD .. :: rest => by simp [findLoop, hasLoop, tag]

theorem headKind_map (ds : List LabelDef) : headKind (ds.map tag) = ds.head!.kind := by
  cases ds with
  | nil => rfl
  | cons d r => simp [headKind, tag_kind, List.head!]

theorem stepLine_abs (ps : PState) (l : Line) : (stepLine ps l).map abs = astep (abs ps) l := by
  cases l with
  | assign | exprStmt | label | jump | ret => exact congrArg Except.ok (abs_emit ..)
  | «include» =>
    simp only [stepLine, astep]
    split <;> simp [Except.map]
  | funcBegin =>
    simp only [stepLine, astep]
    cases hf : ps.func <;> simp [abs, hf, Except.map, PState.floor]
  | funcEnd =>
    simp only [stepLine, astep]
    cases hf : ps.func with
    | none => simp [abs, hf, Except.map]
    | some f =>
      have e1 : (abs ps).inFunc = true := by simp [abs, hf]
      have e2 : (abs ps).floor = f.floor := by simp [abs, PState.floor, hf]
      have e3 : (abs ps).tags.length = ps.defs.length := by simp [abs]
      simp only [e1, e2, e3, if_true]
      split
      · simp [Except.map, abs_tags, headKind_map]
      · simp [Except.map, abs, PState.floor]
  | ifBegin | whileBegin | forBegin => simp [stepLine, astep, Except.map, abs_with, abs_tags, tag]
  | elif | else_ | endif | endwhile | endfor =>
    simp only [stepLine, astep, abs_scope]
    rcases ps.scopeDefs with _ | ⟨d, _⟩
    · rfl
    · rcases d with ⟨_, _, _, _ | _⟩ | _ | _ <;> simp [Except.map, abs_with, abs_tags, tag]
  | break_ =>
    simp only [stepLine, astep, abs_scope, ← findLoop_hasLoop]
    cases hfind : findLoop ps.scopeDefs with
    | none => rfl
    | some x =>
      obtain ⟨pre, d, post⟩ := x
      cases d with
      | ifD => exact (C01.findLoop_spec _ hfind).2.elim
      | _ => exact congrArg Except.ok (abs_emit ..)
  | continue_ =>
    simp only [stepLine, astep, abs_scope, ← findLoop_hasLoop]
    cases hfind : findLoop ps.scopeDefs with
    | none => rfl
    | some x =>
      obtain ⟨pre, d, post⟩ := x
      cases d with
      | ifD => exact (C01.findLoop_spec _ hfind).2.elim
      | whileD => exact congrArg Except.ok (abs_emit ..)
      | forD =>
        -- the `hasContinue` flag set in the loop's entry is not part of its tag
        exact congrArg Except.ok ((abs_with ..).trans (by rw [abs_emit, continue_defs hfind rfl]; rfl))

def errOf {α : Type} : Except ParserError α → Option ParserError
  | .error e => some e
  | .ok _ => none

theorem stepLine_abs_error {ps1 ps2 : PState} (h : abs ps1 = abs ps2) {l : Line} {e : LowerErr}
    (h1 : stepLine ps1 l = .error e) : stepLine ps2 l = .error e := by
  have := stepLine_abs ps2 l
  rw [← h, ← stepLine_abs, h1] at this
  exact map_error this

theorem stepLine_abs_ok {ps1 ps2 ps1' : PState} (h : abs ps1 = abs ps2) {l : Line}
    (h1 : stepLine ps1 l = .ok ps1') : ∃ ps2', stepLine ps2 l = .ok ps2' ∧ abs ps1' = abs ps2' := by
  have := stepLine_abs ps2 l
  rw [← h, ← stepLine_abs, h1] at this
  cases h2 : stepLine ps2 l with
  | error e2 => rw [h2] at this; cases this
  | ok x => rw [h2] at this; exact ⟨x, rfl, (Except.ok.inj this).symm⟩

theorem abs_defs_length {ps1 ps2 : PState} (h : abs ps1 = abs ps2) : ps1.defs.length = ps2.defs.length := by
  have := congrArg (fun a => a.tags.length) h
  simpa [abs] using this

theorem abs_func_isSome {ps1 ps2 : PState} (h : abs ps1 = abs ps2) : ps1.func.isSome = ps2.func.isSome :=
  congrArg Abs.inFunc h

theorem whereStep_abs {ps1 ps2 ps1' ps2' : PState} (h : abs ps1 = abs ps2) (h' : abs ps1' = abs ps2') (wh : Where)
    (line : String) (ln : Nat) : whereStep ps1 ps1' wh line ln = whereStep ps2 ps2' wh line ln := by
  rw [whereStep_eq, whereStep_eq, abs_defs_length h, abs_defs_length h', abs_func_isSome h, abs_func_isSome h']

/-- agreement of two results of the line loop: same error, or states with the same abstraction and the same recorded
positions -/
inductive Sim0 : Except ParserError St → Except ParserError St → Prop
  | error (e : ParserError) : Sim0 (.error e) (.error e)
  | ok {ps1 ps2 : PState} (h : abs ps1 = abs ps2) (wh : Where) : Sim0 (.ok (ps1, wh)) (.ok (ps2, wh))

theorem preCheck_abs {ps1 ps2 : PState} (h : abs ps1 = abs ps2) (wh : Where) (line : String) (ln : Nat) :
    preCheck (ps1, wh) line ln = preCheck (ps2, wh) line ln := by
  unfold preCheck
  split
  · simp only
    cases h1 : stepLine ps1 (.elif dummyExpr) with
    | error e => rw [stepLine_abs_error h h1]
    | ok x => obtain ⟨y, hy, _⟩ := stepLine_abs_ok h h1; rw [hy]
  · rfl

theorem stepLogical_sim0 {ps1 ps2 : PState} (h : abs ps1 = abs ps2) (start : Nat) (wh : Where) (ix : Nat) (line : String) :
    Sim0 (stepLogical start (ps1, wh) ix line) (stepLogical start (ps2, wh) ix line) := by
  rw [stepLogical_eq, stepLogical_eq, preCheck_abs h]
  cases preCheck (ps2, wh) line (start + ix) with
  | error e => exact .error e
  | ok u =>
    cases Scan.classify ExprParse.parseExpr line with
    | error pe => exact .error _
    | ok cl =>
      simp only
      cases h1 : stepLine ps1 cl with
      | error e => rw [stepLine_abs_error h h1]; exact .error _
      | ok x =>
        obtain ⟨y, hy, hxy⟩ := stepLine_abs_ok h h1
        rw [hy]
        simp only [whereStep_abs h hxy]
        exact .ok hxy _

theorem stepAll_sim0 (start : Nat) : ∀ (ll : List (Nat × String)) {ps1 ps2 : PState} (wh : Where), abs ps1 = abs ps2 →
    Sim0 (stepAll start (ps1, wh) ll) (stepAll start (ps2, wh) ll)
  | [], _, _, wh, h => .ok h wh
  | (ix, line) :: rest, ps1, ps2, wh, h => by
      have := stepLogical_sim0 h start wh ix line
      simp only [stepAll]
      generalize stepLogical start (ps1, wh) ix line = r1 at this ⊢
      generalize stepLogical start (ps2, wh) ix line = r2 at this ⊢
      cases this with
      | error e => exact .error e
      | ok h' wh' => exact stepAll_sim0 start rest wh' h'

theorem finishAll_sim0 (start : Nat) {ps1 ps2 : PState} (wh : Where) (h : abs ps1 = abs ps2) (dg : Option Text.LineErr) :
    errOf (finishAll start (ps1, wh) dg) = errOf (finishAll start (ps2, wh) dg) := by
  have ht : ps1.defs.map tag = ps2.defs.map tag := congrArg Abs.tags h
  have hf := abs_func_isSome h
  cases dg with
  | some d => rfl
  | none =>
    simp only [finishAll]
    cases hd1 : ps1.defs with
    | cons a as =>
      cases hd2 : ps2.defs with
      | nil => rw [hd1, hd2] at ht; cases ht
      | cons b bs =>
        rw [hd1, hd2] at ht
        have hk : a.kind = b.kind := by rw [← tag_kind, ← tag_kind, (List.cons.inj ht).1]
        cases wh.defs <;> simp only [hk]
    | nil =>
      cases hd2 : ps2.defs with
      | cons b bs => rw [hd1, hd2] at ht; cases ht
      | nil =>
        simp only
        cases hf1 : ps1.func <;> cases hf2 : ps2.func
        · rfl
        · rw [hf1, hf2] at hf; cases hf
        · rw [hf1, hf2] at hf; cases hf
        · cases wh.func <;> rfl

theorem parseFrom_sim0 (start : Nat) {ps1 ps2 : PState} (wh : Where) (h : abs ps1 = abs ps2)
    (ll : List (Nat × String)) (dg : Option Text.LineErr) :
    errOf (parseFrom start (ps1, wh) ll dg) = errOf (parseFrom start (ps2, wh) ll dg) := by
  have := stepAll_sim0 start ll wh h
  unfold parseFrom
  generalize stepAll start (ps1, wh) ll = r1 at this ⊢
  generalize stepAll start (ps2, wh) ll = r2 at this ⊢
  cases this with
  | error e => rfl
  | ok h' wh' => exact finishAll_sim0 start wh' h' dg

/-- the statement kinds that only append one statement to the current list -/
def IsEmit : Line → Bool
  | .assign .. | .exprStmt _ | .label _ | .jump .. | .ret _ => true
  | _ => false

theorem stepLine_emit {cl : Line} (h : IsEmit cl = true) (ps : PState) : ∃ ss, stepLine ps cl = .ok (ps.emit ss) := by
  cases cl <;> simp [IsEmit] at h <;> exact ⟨_, rfl⟩

/-- a *simple valid statement* chunk: one physical line, not a comment, no continuation backslash, that classifies
(without error) as an assignment, expression statement, label, jump or return -/
structure SimpleLine (p : String) : Prop where
  notComment : Text.isComment p = false
  noCont : Text.contBody? p.toList = none
  noNl : '\n' ∉ p.toList
  emits : ∃ cl, Scan.classify ExprParse.parseExpr p = .ok cl ∧ IsEmit cl = true

/-- whether an `elif` line is accepted does not depend on its expression (both steps are the same step of `astep`) -/
theorem stepLine_elif_abs (ps : PState) (c d : Expr) :
    (stepLine ps (.elif c)).map abs = (stepLine ps (.elif d)).map abs := by
  rw [stepLine_abs, stepLine_abs]; rfl

/-- on a line that classifies, one logical line is the lowering step: the block-structure test that an `elif` line
undergoes before its expression is parsed (`preCheck`, with a dummy expression) fails exactly when the step itself
fails, with the same error -/
theorem stepLogical_classified {start : Nat} {s : St} {ix : Nat} {line : String} {cl : Line}
    (hc : Scan.classify ExprParse.parseExpr line = .ok cl) :
    stepLogical start s ix line =
      match stepLine s.1 cl with
      | .error e => .error (structural s.2 line (start + ix) e)
      | .ok ps' => .ok (ps', whereStep s.1 ps' s.2 line (start + ix)) := by
  have hpre : preCheck s line (start + ix) = .ok () ∨ ∃ e, stepLine s.1 cl = .error e ∧
      preCheck s line (start + ix) = .error (structural s.2 line (start + ix) e) := by
    unfold preCheck
    split
    · rename_i off e hsh
      obtain ⟨c, rfl⟩ : ∃ c, cl = .elif c := by
        unfold Scan.classify classifyL at hc
        simp only [hsh] at hc
        cases hp : ExprParse.parseExpr (String.ofList e) with
        | error x => rw [hp] at hc; cases hc
        | ok x => rw [hp] at hc; cases hc; exact ⟨x, rfl⟩
      have hab := stepLine_elif_abs s.1 dummyExpr c
      cases hd : stepLine s.1 (.elif dummyExpr) with
      | ok x => exact .inl rfl
      | error e1 => rw [hd] at hab; exact .inr ⟨e1, map_error hab.symm, rfl⟩
    · exact .inl rfl
  rcases hpre with h | ⟨e, h1, h2⟩
  · rw [stepLogical_eq, h, hc]
  · rw [stepLogical_eq, h2, h1]

theorem whereStep_emit {ps : PState} {wh : Where} (hs : Sync (ps, wh)) (ss : List Stmt) (line : String) (ln : Nat) :
    whereStep ps (ps.emit ss) wh line ln = wh := by
  have h2 : wh.func.isSome = ps.func.isSome := hs.fsome
  rw [whereStep_eq, emit_defs, emit_func_isSome, if_neg (Nat.ne_of_lt (Nat.lt_succ_self _)), if_neg (Nat.succ_ne_self _),
    ← h2]
  obtain ⟨wd, _ | wf⟩ := wh <;> rfl

theorem stepLogical_simple {p : String} (hp : SimpleLine p) (start : Nat) {ps : PState} {wh : Where} (hs : Sync (ps, wh))
    (ix : Nat) : ∃ ss, stepLogical start (ps, wh) ix p = .ok (ps.emit ss, wh) := by
  obtain ⟨cl, hc, he⟩ := hp.emits
  obtain ⟨ss, hss⟩ := stepLine_emit he ps
  exact ⟨ss, by rw [stepLogical_classified hc]; simp only [hss, whereStep_emit hs]⟩

theorem stepAll_simple (start : Nat) : ∀ (pl : List (Nat × String)) (ps : PState) (wh : Where),
    (∀ x ∈ pl, SimpleLine x.2) → Sync (ps, wh) →
    ∃ ps', stepAll start (ps, wh) pl = .ok (ps', wh) ∧ abs ps' = abs ps
  | [], ps, wh, _, _ => ⟨ps, rfl, rfl⟩
  | (ix, p) :: rest, ps, wh, h, hs => by
      obtain ⟨ss, hss⟩ := stepLogical_simple (h _ (.head _)) start hs ix
      obtain ⟨ps', h1, h2⟩ := stepAll_simple start rest (ps.emit ss) wh (fun x hx => h x (.tail _ hx))
        (stepLogical_sync hs hss)
      exact ⟨ps', by simp only [stepAll, hss, h1], by rw [h2, abs_emit]⟩

end C06
