import BareProofs.C06Regex2
import BareProofs.C06Regex3Lemmas

/-!
# C06Regex3 — `jump` / `jumpif`
-/

namespace C06Regex
open Rx Text Scan RxPatterns

/-- where the groups of a `jumpif` line stand: the expression `e` at `P`, `)`, then the label; the column of the expression
as parser.py computes it (`len(jump) - len(expr) - 1`) is where `e` starts -/
theorem jumpif_groups (line : Chars) (P : Nat) (e after name : Chars) (hd : line.drop P = e ++ ')' :: after)
    (hw : wsNameEnd? after = some name) :
    slice line (P + e.length + 1 + nameOff after, P + e.length + 1 + nameOff after + name.length) = name ∧
    slice line (P, P + e.length) = e ∧
    (slice line (0, P + e.length + 1)).length - e.length - 1 = line.length - (e ++ ')' :: after).length := by
  obtain ⟨tl, htl⟩ := wsNameEnd?_drop hw
  have hda : line.drop (P + e.length + 1) = after := by
    have := drop_add_of_drop line (e ++ [')']) after P (by rw [hd, List.append_assoc]; rfl)
    rwa [List.length_append, List.length_singleton, ← Nat.add_assoc] at this
  refine ⟨slice_prefix line _ _ name tl (by rw [← List.drop_drop, hda, htl]) rfl, slice_prefix line _ _ e _ hd rfl, ?_⟩
  have htot := length_of_drop line _ P hd (by simp)
  simp only [slice, List.drop_zero, Nat.sub_zero, List.length_take, List.length_append, List.length_cons] at htot ⊢
  omega

/-- **`^(?P<jump>\s*(?:jump|jumpif\s*\((?P<expr>.+)\)))\s+(?P<name>[A-Za-z_]\w*)\s*$`**: the alternative `jump` first; in the
second one the expression ends before the LAST `)` of the line. -/
theorem jump_regex (line : Chars) (hnl : '\n' ∉ line) : onLine jump? line = rxJump line := by
  have hj : startsNonBlank "jump" = true := by decide +kernel
  have hji : startsNonBlank "jumpif" = true := by decide +kernel
  unfold onLine rxJump matchAt matchFrom RxPatterns.jump jump?
  rw [lead_cap _ _ _ _ _ _ ((avoids_kw hj).alt ((avoids_kw hji).seq _)).ncg]
  change _ = ((Rx.ncg _).m _ jumpK).bind _
  rw [ncg_m, alt_m, kw_m "jump" hj, seq_m, kw_m "jumpif" hji, show "jumpif" = "jump" ++ "if" from by simp, keyword?_append]
  cases hk : keyword? "jump" (lstripL line) with
  | none => rfl
  | some r =>
    have hr : '\n' ∉ r := noNL_keyword (noNL_lstrip hnl) hk
    have hd := drop_keyword hk
    simp only [Option.bind_some]
    rw [show jumpK ⟨(line.takeWhile isSpace).length + "jump".length, r, []⟩ =
      (ws1 ⬝ Rx.cap 3 (some "name") ident ⬝ ws ⬝ Rx.eol).m ⟨(line.takeWhile isSpace).length + "jump".length, r,
        [(1, 0, (line.takeWhile isSpace).length + "jump".length)]⟩ some from rfl, name_tail _ _ _ hr]
    cases hw : wsNameEnd? r with
    | some name =>
      obtain ⟨tl, htl⟩ := wsNameEnd?_drop hw
      have hg := slice_prefix line ((line.takeWhile isSpace).length + "jump".length + nameOff r) _ name tl
        (by rw [← List.drop_drop, hd, htl]) rfl
      simp only [some_orElse, Option.bind_some, St.group, St.span, List.lookup, beq_self_eq_true, show (1 == 3) = false from rfl,
        Option.map_some, hg, Shape.shift]
      rfl
    | none =>
      simp only []
      cases hki : keyword? "if" r with
      | none => rfl
      | some rI =>
        have hrI : '\n' ∉ rI := noNL_keyword hr hki
        have hlen := C10.keyword?_length hk
        have hlenI := C10.keyword?_length hki
        have hdI : line.drop ((line.takeWhile isSpace).length + ("jump" ++ "if").length) = rI := by
          rw [String.length_append, ← Nat.add_assoc, ← List.drop_drop, hd, keyword?_drop hki]
        rw [none_orElse]
        simp only []
        rw [elit, ws_lit_det true '(' (by decide)]
        have hlI := lstrip_split_length rI
        cases hls : lstripL rI with
        | nil => rfl
        | cons x r2 =>
          by_cases hx : x = '('
          · subst hx
            rw [hls, List.length_cons] at hlI
            have hd2 := drop_ws_char hdI hls
            simp only [if_true]
            rw [paren_rx _ r2 (noNL_lstrip_tail hrI hls)]
            cases hsp : splitLastParen r2 with
            | none => rfl
            | some ea =>
              obtain ⟨e, after⟩ := ea
              obtain ⟨e2, _⟩ := splitLastParen_some hsp
              cases e with
              | nil => rfl
              | cons y e' =>
                simp only [List.isEmpty_cons, Bool.false_eq_true, if_false, reduceCtorEq]
                cases hwa : wsNameEnd? after with
                | none => rfl
                | some name =>
                  obtain ⟨hg3, hg2, hoff⟩ := jumpif_groups line _ (y :: e') after name (hd2.trans e2) hwa
                  simp only [Option.bind_some, St.group, St.span, List.lookup, beq_self_eq_true, show (1 == 3) = false from rfl,
                    show (2 == 3) = false from rfl, show (2 == 1) = false from rfl, Option.map_some, hg3, hg2, hoff, Shape.shift,
                    ← e2, off_shift line r2 (by omega)]
          · have := head_ne hx r2
            simp only [hx, if_false]
            rfl

example : '\n' ∉ "  jumpif (a) (b)  lbl ".toList ∧
    rxJump "  jumpif (a) (b)  lbl ".toList = some (.jump "lbl".toList (some (10, "a) (b".toList))) := by decide_lit
example : rxJump " jump  lbl".toList = some (.jump "lbl".toList none) ∧ rxJump "jumpif () l".toList = none := by decide_lit

/-! ## the cascade, with the patterns of this module -/

/-- `Scan.shape` = the regex cascade of parser.py (`RxPatterns.rxShape`) — given that scanner and pattern agree on the line
for `function` and the two `include` forms. -/
theorem shape_is_cascade_partial3 (line : Chars) (hnl : '\n' ∉ line)
    (hFunction : onLine funcBegin? line = rxFunction line)
    (hInclude : onLine include? line = rxInclude line) :
    shape line = rxShape line :=
  shape_is_cascade_partial2 line hnl hFunction (jump_regex line hnl) hInclude

end C06Regex
