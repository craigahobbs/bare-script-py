import BareProofs.C01SynLemmas
import BareModel.HostLib
import BareProofs.HostLibBridge
import Std.Data.String.ToNat

/-!
# C01 on the concrete hosts

`HostImpl.host` and `HostLib.hostLib` — the hosts the drivers run and that are compared with the real library — expose
`systemGlobalGet` / `systemGlobalSet`, so `systemGlobalGet('__bareScriptValues0')` reads a hidden `for` variable and the host
law `HostNoReserved` of `C01.ticked_erasure` / `C01.parse_exec_structured` fails for them (`hostImpl_not_noReserved`,
`hostLib_not_noReserved`).  The property itself only speaks about code that does not use the reserved names.

* **The run-level theorem.**  `guard h` (`C01HostLemmas`) is the instrumented host: a request for a reserved global ends the
  whole run with the runtime error `reservedMsg`.  `guard_execM₀` (and `_callValue₀`, `_execute₀`, `_execute`, `_runT₀`,
  `_runS`): unless the guarded run ends with that error, the run with the real host and the run with `sanitize h` are both
  *equal* to it.  So `touchesReserved (guarded run) = false` is the semantic statement "no library call of this run names a
  reserved global".  It is decidable (evaluate the guarded run) and necessary: `Demo.touching_program_differs`, a `ProgOK`
  program that peeks at `__bareScriptIndex0` through `systemGlobalGet`, logs `0 1` on the machine and `null null` in the
  source-level reading.
* `ticked_erasure_guarded`, `parse_exec_structured_guarded`, `parse_exec_structured_budget_guarded`: the C01 end-to-end
  statements for **every** host with `TruthyBool` and without `HostNoReserved`: each direction asks that the (guarded) run it
  starts from touches no reserved global, and concludes about the **real** host on both sides.  They are the C01 theorems at
  `guard h`, which satisfies the law, carried back to `h` by the run-level theorem.  `…_hostImpl`, `…_hostLib`: the instances.
* Which calls of the concrete hosts name a reserved global: `systemGlobalGet` / `systemGlobalSet` with a first argument
  that spells a generated name (`namesReserved`), and no other (`hostImpl_lib_treeOK`, `hostLib_lib_treeOK`; by `Shape.treeOK` from
  their `HostShape`).  A host without the two functions (`withoutGlobals`) satisfies the law outright.

The concrete runs in the examples are evaluated by the kernel (`decide +kernel`) on `HostK.hostK` / `HostK.hostLibK`, copies of
the two hosts that the kernel can run, proved equal to them.  The condition on program text and start state that implies the
run-level one is in `C01Syn`.
-/

namespace C01
open StructuredS Machine Lower Structured

variable {W : Type}

theorem hostNoReserved_sanitize (h : Host W) : HostNoReserved (sanitize h) :=
  ⟨fun _ _ _ => treeOK_sanT _, fun _ _ _ => treeOK_sanT _⟩

theorem hostNoReserved_guard (h : Host W) : HostNoReserved (guard h) :=
  ⟨fun _ _ _ => treeOK_guardT _, fun _ _ _ => treeOK_guardT _⟩

theorem truthyBool_sanitize (h : Host W) : TruthyBool (sanitize h) ↔ TruthyBool h := Iff.rfl
theorem truthyBool_guard (h : Host W) : TruthyBool (guard h) ↔ TruthyBool h := Iff.rfl

theorem sanitize_truthy (h : Host W) : (sanitize h).truthy = h.truthy := rfl
theorem sanitize_binop (h : Host W) : (sanitize h).binop = h.binop := rfl
theorem sanitize_neg (h : Host W) : (sanitize h).neg = h.neg := rfl
theorem sanitize_notCallable (h : Host W) : (sanitize h).notCallable = h.notCallable := rfl
theorem sanitize_logFailure (h : Host W) : (sanitize h).logFailure = h.logFailure := rfl
theorem sanitize_newArray (h : Host W) : (sanitize h).newArray = h.newArray := rfl
theorem sanitize_builtin (h : Host W) : (sanitize h).builtin = h.builtin := rfl
theorem sanitize_lib (h : Host W) (name : String) (args : List Value) (w : W) :
    (sanitize h).lib name args w = sanT (h.lib name args w) := rfl
theorem sanitize_other (h : Host W) (k : Nat) (args : List Value) (w : W) :
    (sanitize h).other k args w = sanT (h.other k args w) := rfl

theorem sanitize_of_noReserved (h : Host W) (hh : HostNoReserved h) : sanitize h = h := by
  cases h
  simp only [sanitize, Host.mk.injEq, true_and, and_true]
  exact ⟨funext fun n => funext fun a => funext fun w => sanT_of_treeOK (hh.1 n a w),
    funext fun n => funext fun a => funext fun w => sanT_of_treeOK (hh.2 n a w)⟩

theorem cfgSim_guard_self (cfg : Config W) : CfgSim (guardCfg cfg) cfg := ⟨hostSim_guard_self _, rfl, rfl, rfl, rfl, rfl, rfl⟩
theorem cfgSim_guard_san (cfg : Config W) : CfgSim (guardCfg cfg) (sanCfg cfg) := ⟨hostSim_guard_san _, rfl, rfl, rfl, rfl, rfl, rfl⟩
theorem scfgSim_guard_self (scfg : SConfig W) : SCfgSim (guardS scfg) scfg := ⟨hostSim_guard_self _, rfl, rfl, rfl⟩
theorem scfgSim_guard_san (scfg : SConfig W) : SCfgSim (guardS scfg) (sanS scfg) := ⟨hostSim_guard_san _, rfl, rfl, rfl⟩

theorem ResG.eq_of_untouched {rg r : Res W} (h : ResG rg r) (hu : touchesReserved rg = false) : r = rg := by
  rcases h with rfl | ⟨s, rfl⟩
  · rfl
  · simp [touchesReserved] at hu

theorem OutG.eq_of_untouched {og o : Out W} (h : OutG og o) (hu : touchesReservedO og = false) : o = og := by
  rcases h with rfl | ⟨s, rfl⟩
  · rfl
  · simp [touchesReservedO] at hu

/-- `ResRel` relates an error only to the same error -/
theorem ResRel.touches {r r' : Res W} (h : ResRel r r') : touchesReserved r' = touchesReserved r := by
  cases r <;> cases r' <;> simp only [ResRel] at h <;> try (first | rfl | exact h.elim)
  rename_i e _ e' _
  obtain ⟨rfl, _⟩ := h
  cases e <;> rfl

section Run
variable (cfg : Config W)

/-- **Main theorem, statement level.**  For every host, fuel, statement list, locals, include base, program counter and
state: if the run with the guarded host does not end with the guard's error — no library call of this run names a reserved
global — then the run with the real host and the run with the sanitised host are both *equal* to it (same result, same
final globals, world and statement counter, same out-of-fuel behaviour). -/
theorem guard_execM₀ (fuel : Nat) (P : List Stmt) (l : Option Env) (base : Option String) (pc : Nat) (st : State W)
    (hu : touchesReserved (execM₀ (guardCfg cfg) fuel P l base pc st) = false) :
    execM₀ cfg fuel P l base pc st = execM₀ (guardCfg cfg) fuel P l base pc st ∧
    execM₀ (sanCfg cfg) fuel P l base pc st = execM₀ (guardCfg cfg) fuel P l base pc st :=
  ⟨((machine_g (cfgSim_guard_self cfg) fuel).2.1 P l base pc st).eq_of_untouched hu,
   ((machine_g (cfgSim_guard_san cfg) fuel).2.1 P l base pc st).eq_of_untouched hu⟩

theorem guard_callValue₀ (fuel : Nat) (f : Value) (args : List Value) (st : State W)
    (hu : touchesReservedO (callValue₀ (guardCfg cfg) fuel f args st) = false) :
    callValue₀ cfg fuel f args st = callValue₀ (guardCfg cfg) fuel f args st ∧
    callValue₀ (sanCfg cfg) fuel f args st = callValue₀ (guardCfg cfg) fuel f args st :=
  ⟨((machine_g (cfgSim_guard_self cfg) fuel).1 f args st).eq_of_untouched hu,
   ((machine_g (cfgSim_guard_san cfg) fuel).1 f args st).eq_of_untouched hu⟩

theorem guard_execute₀ (fuel : Nat) (P : List Stmt) (base : Option String) (st : State W)
    (hu : touchesReserved (execute₀ (guardCfg cfg) fuel P base st) = false) :
    execute₀ cfg fuel P base st = execute₀ (guardCfg cfg) fuel P base st ∧
    execute₀ (sanCfg cfg) fuel P base st = execute₀ (guardCfg cfg) fuel P base st :=
  guard_execM₀ cfg fuel P none base 0 _ hu

/-- `execute_script` on the real, label-caching machine -/
theorem guard_execute (fuel : Nat) (P : List Stmt) (base : Option String) (st : State W)
    (hu : touchesReserved (execute (guardCfg cfg) fuel P base st) = false) :
    execute cfg fuel P base st = execute (guardCfg cfg) fuel P base st ∧
    execute (sanCfg cfg) fuel P base st = execute (guardCfg cfg) fuel P base st := by
  simp only [C08.execute_eq] at hu ⊢
  exact guard_execute₀ cfg fuel P base st hu

/-- **a run with the real host equals the run with `sanitize h` as long as no library call names a reserved global** -/
theorem real_eq_sanitized_execute (fuel : Nat) (P : List Stmt) (base : Option String) (st : State W)
    (hu : touchesReserved (execute (guardCfg cfg) fuel P base st) = false) :
    execute cfg fuel P base st = execute (sanCfg cfg) fuel P base st := by
  obtain ⟨h1, h2⟩ := guard_execute cfg fuel P base st hu
  rw [h1, h2]

theorem real_eq_sanitized_execM₀ (fuel : Nat) (P : List Stmt) (l : Option Env) (base : Option String) (pc : Nat) (st : State W)
    (hu : touchesReserved (execM₀ (guardCfg cfg) fuel P l base pc st) = false) :
    execM₀ cfg fuel P l base pc st = execM₀ (sanCfg cfg) fuel P l base pc st := by
  obtain ⟨h1, h2⟩ := guard_execM₀ cfg fuel P l base pc st hu
  rw [h1, h2]

/-- without the side condition: the guarded run is the real run, or the guard's error -/
theorem guard_execute_dichotomy (fuel : Nat) (P : List Stmt) (base : Option String) (st : State W) :
    execute (guardCfg cfg) fuel P base st = execute cfg fuel P base st ∨
    touchesReserved (execute (guardCfg cfg) fuel P base st) = true := by
  simp only [C08.execute_eq]
  rcases (machine_g (cfgSim_guard_self cfg) fuel).2.1 P none base 0 { st with count := 0 } with h | ⟨s, h⟩
  · exact Or.inl h
  · refine Or.inr ?_
    show touchesReserved (execM₀ (guardCfg cfg) fuel P none base 0 { st with count := 0 }) = true
    rw [h]; simp [touchesReserved]

/-- the ticked structured reading of a program without raw labels / jumps (through T2) -/
theorem guard_runT₀ (B : List SStmt) (hraw : NoRawB B) (fuel : Nat) (base : Option String) (st : State W)
    (hu : touchesReserved (runT₀ (guardCfg cfg) fuel B base st) = false) :
    runT₀ cfg fuel B base st = runT₀ (guardCfg cfg) fuel B base st ∧
    runT₀ (sanCfg cfg) fuel B base st = runT₀ (guardCfg cfg) fuel B base st := by
  have e : ∀ c : Config W, runT₀ c fuel B base st = execM₀ c fuel (lowerB none B 0).1 none base 0 st :=
    fun c => (run_body_eq c base B 0 hraw fuel none st).symm
  simp only [e] at hu ⊢
  exact guard_execM₀ cfg fuel _ none base 0 st hu

end Run

theorem guard_runS (scfg : SConfig W) (k : Nat) (B : List SStmt) (st : State W)
    (hu : touchesReserved (runS (guardS scfg) k B st) = false) :
    runS scfg k B st = runS (guardS scfg) k B st ∧ runS (sanS scfg) k B st = runS (guardS scfg) k B st := by
  simp only [runS_eq] at hu ⊢
  exact ⟨ResG.eq_of_untouched (guardG_map toResS (fun _ => rfl) ((pure_g (scfgSim_guard_self scfg) k).2.2.1 B none st)) hu,
    ResG.eq_of_untouched (guardG_map toResS (fun _ => rfl) ((pure_g (scfgSim_guard_san scfg) k).2.2.1 B none st)) hu⟩

section Guarded
variable {cfg : Config W} {scfg : SConfig W} {start : FnId → Nat} (ag : Agree cfg scfg start)
  (htb : TruthyBool cfg.host) (htab : TablesOK scfg)

theorem agree_guard (ag : Agree cfg scfg start) : Agree (guardCfg cfg) (guardS scfg) start :=
  ⟨congrArg guard ag.host, ag.builtins, ag.debug, ag.funs⟩

include ag htb htab

/-- **T3 `ticked_erasure` without `HostNoReserved`** (unlimited budget).  For every host with `TruthyBool`:
* if the guarded ticked run terminates without touching a reserved global, it *is* the real ticked run, and the pure run
  — with the **real** host — terminates for every sufficiently large fuel with the same kind of outcome, the same value /
  error, the same world and user-visible globals;
* if the guarded pure run terminates without touching a reserved global, it *is* the real pure run, and the real ticked run
  terminates for every sufficiently large fuel with such a result. -/
theorem ticked_erasure_guarded (hmax : cfg.maxStatements = 0) (B : List SStmt) (hB : ProgOK B) (base : Option String)
    (st st' : State W) (hs : StRel st st') :
    (∀ fuel, runT₀ (guardCfg cfg) fuel B base st ≠ .oof → touchesReserved (runT₀ (guardCfg cfg) fuel B base st) = false →
      runT₀ cfg fuel B base st = runT₀ (guardCfg cfg) fuel B base st ∧
      ∃ r', ResRel (runT₀ cfg fuel B base st) r' ∧ ∃ N, ∀ k, N ≤ k → runS scfg k B st' = r') ∧
    (∀ k, runS (guardS scfg) k B st' ≠ .oof → touchesReserved (runS (guardS scfg) k B st') = false →
      runS scfg k B st' = runS (guardS scfg) k B st' ∧
      ∃ r, ResRel r (runS scfg k B st') ∧ ∃ N, ∀ f, N ≤ f → runT₀ cfg f B base st = r) := by
  have h := ticked_erasure (agree_guard ag) ((truthyBool_guard _).2 htb) (hostNoReserved_guard _) (scfg := guardS scfg) htab
    hmax B hB base st st' hs
  refine ⟨fun fuel hne hu => ?_, fun k hne hu => ?_⟩
  · have e := (guard_runT₀ cfg B hB.noRaw fuel base st hu).1
    obtain ⟨r', hr, N, hN⟩ := h.1 fuel hne
    have hu' : touchesReserved r' = false := by rw [hr.touches]; exact hu
    refine ⟨e, r', by rw [e]; exact hr, N, fun k hk => ?_⟩
    have hk' := hN k hk
    rw [(guard_runS scfg k B st' (by rw [hk']; exact hu')).1, hk']
  · have e := (guard_runS scfg k B st' hu).1
    obtain ⟨r, hr, N, hN⟩ := h.2 k hne
    have hu' : touchesReserved r = false := by rw [← hr.touches]; exact hu
    refine ⟨e, r, by rw [e]; exact hr, N, fun f hf => ?_⟩
    have hf' := hN f hf
    rw [(guard_runT₀ cfg B hB.noRaw f base st (by rw [hf']; exact hu')).1, hf']

/-- **T4 `parse_exec_structured` without `HostNoReserved`** (unlimited budget).  For every host with `TruthyBool` and every
structured program `B` with `ProgOK`: the lines a user writes for `B` parse to a statement list `P`, and
* whenever `execute_script` with the guarded host terminates on `P` without touching a reserved global, that run *is* the
  run with the real host, and the pure source-level reading `execS B` **with the real host** terminates (every sufficiently
  large fuel) with the same kind of outcome, the same returned value / runtime error, the same world (log, heap, …) and the
  same user-visible globals;
* conversely, whenever the guarded pure run terminates without touching a reserved global, it is the real pure run and the
  real machine terminates (every sufficiently large fuel) with such a result. -/
theorem parse_exec_structured_guarded (hmax : cfg.maxStatements = 0) (B : List SStmt) (hB : ProgOK B) (hfid : FidsInOrder B)
    (base : Option String) (st st' : State W) (hs : StRel st st') :
    ∃ P, parseLines (renderB B) = .ok P ∧
      (∀ fuel, execute (guardCfg cfg) fuel P base st ≠ .oof → touchesReserved (execute (guardCfg cfg) fuel P base st) = false →
        execute cfg fuel P base st = execute (guardCfg cfg) fuel P base st ∧
        ∃ r', ResRel (execute cfg fuel P base st) r' ∧ ∃ N, ∀ k, N ≤ k → runS scfg k B st' = r') ∧
      (∀ k, runS (guardS scfg) k B st' ≠ .oof → touchesReserved (runS (guardS scfg) k B st') = false →
        runS scfg k B st' = runS (guardS scfg) k B st' ∧
        ∃ r, ResRel r (runS scfg k B st') ∧ ∃ N, ∀ f, N ≤ f → execute cfg f P base st = r) := by
  obtain ⟨hP, hE⟩ := execute_parse_eq_runT₀ cfg B hB hfid
  refine ⟨_, hP, ?_⟩
  simp only [hE, (execute_parse_eq_runT₀ (guardCfg cfg) B hB hfid).2]
  exact ticked_erasure_guarded ag htb htab hmax B hB base { st with count := 0 } st' hs

/-- **T4 with a statement budget, without `HostNoReserved`**: as long as the guarded machine run is neither stopped by the
budget nor touches a reserved global -/
theorem parse_exec_structured_budget_guarded (B : List SStmt) (hB : ProgOK B) (hfid : FidsInOrder B)
    (fuel : Nat) (base : Option String) (st st' : State W) (hs : StRel st st') :
    ∃ P, parseLines (renderB B) = .ok P ∧
      (execute (guardCfg cfg) fuel P base st ≠ .oof → (∀ m s, execute (guardCfg cfg) fuel P base st ≠ .err (.exceeded m) s) →
        touchesReserved (execute (guardCfg cfg) fuel P base st) = false →
        execute cfg fuel P base st = execute (guardCfg cfg) fuel P base st ∧
        ∃ r', ResRel (execute cfg fuel P base st) r' ∧ ∃ N, ∀ k, N ≤ k → runS scfg k B st' = r') := by
  obtain ⟨P, hP, h⟩ := parse_exec_structured_budget (agree_guard ag) ((truthyBool_guard _).2 htb) (hostNoReserved_guard _)
    (scfg := guardS scfg) htab B hB hfid fuel base st st' hs
  refine ⟨P, hP, fun hne hbud hu => ?_⟩
  have e := (guard_execute cfg fuel P base st hu).1
  obtain ⟨r', hr, N, hN⟩ := h hne hbud
  have hu' : touchesReserved r' = false := by rw [hr.touches]; exact hu
  refine ⟨e, r', by rw [e]; exact hr, N, fun k hk => ?_⟩
  have hk' := hN k hk
  rw [(guard_runS scfg k B st' (by rw [hk']; exact hu')).1, hk']

end Guarded

/-- the call is `systemGlobalGet` / `systemGlobalSet` and its first argument is a string that spells a parser-generated
name (`__bareScriptValues0`, …) -/
def namesReserved (name : String) (args : List Value) : Bool :=
  (name == "systemGlobalGet" || name == "systemGlobalSet") &&
    match args with
    | .str s :: _ => isGen (Name.ofString s)
    | _ => false

/-- a shape is `TreeOK` unless the call names a reserved global -/
theorem _root_.HostShape.Shape.treeOK {W : Type} {V : HostShape.View W} {fn : FnVal} {args : List Value} {w0 w : W}
    {t : LibTree W} (h : HostShape.Shape V fn args w0 w t)
    (hr : ∀ name, fn = .lib name → namesReserved name args = false) : TreeOK t := by
  induction h with
  | ret | newPartial => exact .ret _ _
  | each _ _ _ _ ih => exact .call _ _ _ _ ih
  | apply => exact .call _ _ _ _ fun _ _ => .ret _ _
  | globalGet _ hn ha =>
    have := hr _ hn
    subst ha
    exact .globalGet _ _ _ (by simpa [namesReserved] using this) fun _ _ => .ret _ _
  | globalSet _ hn ha =>
    have := hr _ hn
    subst ha
    exact .globalSet _ _ _ _ (by simpa [namesReserved] using this) fun _ => .ret _ _

/-- **`HostImpl`: every library tree is `TreeOK` unless the call names a reserved global** -/
theorem hostImpl_lib_treeOK (name : String) (args : List Value) (w : HostImpl.World) (h : namesReserved name args = false) :
    TreeOK (HostImpl.host.lib name args w) := (C09.implShape.lib name args w).treeOK fun _ hn => FnVal.lib.inj hn ▸ h

theorem hostImpl_other_treeOK (k : Nat) (args : List Value) (w : HostImpl.World) : TreeOK (HostImpl.host.other k args w) :=
  (C09.implShape.other k args w).treeOK nofun

/-- on every call that does not name a reserved global, `sanitize HostImpl.host` has literally the tree of `HostImpl.host` -/
theorem sanitize_hostImpl_lib (name : String) (args : List Value) (w : HostImpl.World) (h : namesReserved name args = false) :
    (sanitize HostImpl.host).lib name args w = HostImpl.host.lib name args w :=
  sanT_of_treeOK (hostImpl_lib_treeOK name args w h)

theorem sanitize_hostImpl_other (k : Nat) (args : List Value) (w : HostImpl.World) :
    (sanitize HostImpl.host).other k args w = HostImpl.host.other k args w :=
  sanT_of_treeOK (hostImpl_other_treeOK k args w)

theorem hostImpl_lib_get (s : String) (w : HostImpl.World) : HostImpl.lib "systemGlobalGet" [.str s] w =
    .globalGet (Name.ofString s) w (fun v w1 => HostImpl.ok (v.getD .null) w1) := rfl

/-- … and on a call that does, the reserved read is answered "unbound" (the default, or null), the write is dropped, and the
guarded host stops with its error -/
example (s : String) (hs : isGen (Name.ofString s) = true) (w : HostImpl.World) :
    namesReserved "systemGlobalGet" [.str s, .num 7] = true ∧
    (sanitize HostImpl.host).lib "systemGlobalGet" [.str s, .num 7] w = .ret (.ok (.num 7)) w ∧
    (sanitize HostImpl.host).lib "systemGlobalSet" [.str s, .num 7] w = .ret (.ok (.num 7)) w ∧
    (guard HostImpl.host).lib "systemGlobalGet" [.str s] w = .ret (.rt reservedMsg) w := by
  have h1 : HostImpl.lib "systemGlobalGet" [.str s, .num 7] w =
      .globalGet (Name.ofString s) w (fun v w1 => HostImpl.ok (v.getD (.num 7)) w1) := rfl
  have h2 : HostImpl.lib "systemGlobalSet" [.str s, .num 7] w =
      .globalSet (Name.ofString s) (.num 7) w (fun w1 => HostImpl.ok (.num 7) w1) := rfl
  refine ⟨by simp [namesReserved, hs], ?_, ?_, ?_⟩
  · show sanT (HostImpl.lib "systemGlobalGet" [.str s, .num 7] w) = _
    rw [h1]; simp only [sanT, hs, if_true]; rfl
  · show sanT (HostImpl.lib "systemGlobalSet" [.str s, .num 7] w) = _
    rw [h2]; simp only [sanT, hs, if_true]; rfl
  · show guardT (HostImpl.lib "systemGlobalGet" [.str s] w) = _
    rw [hostImpl_lib_get]; simp only [guardT, hs, if_true]

/-- **`HostLib`: every library tree is `TreeOK` unless the call names a reserved global** -/
theorem hostLib_lib_treeOK (name : String) (args : List Value) (w : HostLib.LWorld) (h : namesReserved name args = false) :
    TreeOK (HostLib.hostLib.lib name args w) := (HostLib.libShape.lib name args w).treeOK fun _ hn => FnVal.lib.inj hn ▸ h

theorem hostLib_other_treeOK (k : Nat) (args : List Value) (w : HostLib.LWorld) : TreeOK (HostLib.hostLib.other k args w) :=
  (HostLib.libShape.other k args w).treeOK nofun

theorem sanitize_hostLib_lib (name : String) (args : List Value) (w : HostLib.LWorld) (h : namesReserved name args = false) :
    (sanitize HostLib.hostLib).lib name args w = HostLib.hostLib.lib name args w :=
  sanT_of_treeOK (hostLib_lib_treeOK name args w h)

theorem sanitize_hostLib_other (k : Nat) (args : List Value) (w : HostLib.LWorld) :
    (sanitize HostLib.hostLib).other k args w = HostLib.hostLib.other k args w :=
  sanT_of_treeOK (hostLib_other_treeOK k args w)

/-- the host law of `HostImpl` (for `HostLib`: `HostLib.hostLib_truthyBool`) -/
theorem hostImpl_truthyBool : TruthyBool HostImpl.host := fun _ _ => rfl

/-- `h` without `systemGlobalGet` / `systemGlobalSet`: the two names answer as an unknown function does (`fail null`) -/
def withoutGlobals {W : Type} (h : Host W) : Host W :=
  { h with lib := fun name args w =>
      if name == "systemGlobalGet" || name == "systemGlobalSet" then .ret (.fail .null) w else h.lib name args w }

theorem namesReserved_of_not_global {name : String} (args : List Value)
    (h : (name == "systemGlobalGet" || name == "systemGlobalSet") = false) : namesReserved name args = false := by
  simp only [namesReserved, h, Bool.false_and]

theorem withoutGlobals_noReserved {W : Type} {h : Host W}
    (hlib : ∀ name args w, namesReserved name args = false → TreeOK (h.lib name args w))
    (hother : ∀ k args w, TreeOK (h.other k args w)) : HostNoReserved (withoutGlobals h) := by
  refine ⟨fun name args w => ?_, hother⟩
  show TreeOK (if name == "systemGlobalGet" || name == "systemGlobalSet" then _ else _)
  split
  · exact TreeOK.ret _ _
  · rename_i hn
    exact hlib name args w (namesReserved_of_not_global args (by simpa using hn))

theorem hostImpl_withoutGlobals_noReserved : HostNoReserved (withoutGlobals HostImpl.host) :=
  withoutGlobals_noReserved hostImpl_lib_treeOK hostImpl_other_treeOK

theorem hostLib_withoutGlobals_noReserved : HostNoReserved (withoutGlobals HostLib.hostLib) :=
  withoutGlobals_noReserved hostLib_lib_treeOK hostLib_other_treeOK

theorem withoutGlobals_truthyBool {W : Type} (h : Host W) : TruthyBool (withoutGlobals h) ↔ TruthyBool h := Iff.rfl

theorem withoutGlobals_lib {W : Type} (h : Host W) (name : String) (args : List Value) (w : W)
    (hn : (name == "systemGlobalGet" || name == "systemGlobalSet") = false) :
    (withoutGlobals h).lib name args w = h.lib name args w := by
  simp only [withoutGlobals, hn, Bool.false_eq_true, if_false]

section HostImplInstances
variable {cfg : Config HostImpl.World} {scfg : SConfig HostImpl.World} {start : FnId → Nat} (ag : Agree cfg scfg start)
  (hh : cfg.host = HostImpl.host) (htab : TablesOK scfg)
include ag hh htab

/-- **T4 for the driver host `HostImpl.host`** (all 18 library functions, `systemGlobalGet` / `systemGlobalSet` included):
no host law is left as a hypothesis; each direction asks that the run it starts from touches no reserved global. -/
theorem parse_exec_structured_hostImpl (hmax : cfg.maxStatements = 0) (B : List SStmt) (hB : ProgOK B) (hfid : FidsInOrder B)
    (base : Option String) (st st' : State HostImpl.World) (hs : StRel st st') :
    ∃ P, parseLines (renderB B) = .ok P ∧
      (∀ fuel, execute (guardCfg cfg) fuel P base st ≠ .oof → touchesReserved (execute (guardCfg cfg) fuel P base st) = false →
        execute cfg fuel P base st = execute (guardCfg cfg) fuel P base st ∧
        ∃ r', ResRel (execute cfg fuel P base st) r' ∧ ∃ N, ∀ k, N ≤ k → runS scfg k B st' = r') ∧
      (∀ k, runS (guardS scfg) k B st' ≠ .oof → touchesReserved (runS (guardS scfg) k B st') = false →
        runS scfg k B st' = runS (guardS scfg) k B st' ∧
        ∃ r, ResRel r (runS scfg k B st') ∧ ∃ N, ∀ f, N ≤ f → execute cfg f P base st = r) :=
  parse_exec_structured_guarded ag (hh ▸ hostImpl_truthyBool) htab hmax B hB hfid base st st' hs

/-- **T3 for `HostImpl.host`** -/
theorem ticked_erasure_hostImpl (hmax : cfg.maxStatements = 0) (B : List SStmt) (hB : ProgOK B) (base : Option String)
    (st st' : State HostImpl.World) (hs : StRel st st') :
    (∀ fuel, runT₀ (guardCfg cfg) fuel B base st ≠ .oof → touchesReserved (runT₀ (guardCfg cfg) fuel B base st) = false →
      runT₀ cfg fuel B base st = runT₀ (guardCfg cfg) fuel B base st ∧
      ∃ r', ResRel (runT₀ cfg fuel B base st) r' ∧ ∃ N, ∀ k, N ≤ k → runS scfg k B st' = r') ∧
    (∀ k, runS (guardS scfg) k B st' ≠ .oof → touchesReserved (runS (guardS scfg) k B st') = false →
      runS scfg k B st' = runS (guardS scfg) k B st' ∧
      ∃ r, ResRel r (runS scfg k B st') ∧ ∃ N, ∀ f, N ≤ f → runT₀ cfg f B base st = r) :=
  ticked_erasure_guarded ag (hh ▸ hostImpl_truthyBool) htab hmax B hB base st st' hs

/-- **T4 with a statement budget for `HostImpl.host`** -/
theorem parse_exec_structured_budget_hostImpl (B : List SStmt) (hB : ProgOK B) (hfid : FidsInOrder B)
    (fuel : Nat) (base : Option String) (st st' : State HostImpl.World) (hs : StRel st st') :
    ∃ P, parseLines (renderB B) = .ok P ∧
      (execute (guardCfg cfg) fuel P base st ≠ .oof → (∀ m s, execute (guardCfg cfg) fuel P base st ≠ .err (.exceeded m) s) →
        touchesReserved (execute (guardCfg cfg) fuel P base st) = false →
        execute cfg fuel P base st = execute (guardCfg cfg) fuel P base st ∧
        ∃ r', ResRel (execute cfg fuel P base st) r' ∧ ∃ N, ∀ k, N ≤ k → runS scfg k B st' = r') :=
  parse_exec_structured_budget_guarded ag (hh ▸ hostImpl_truthyBool) htab B hB hfid fuel base st st' hs

end HostImplInstances

section HostLibInstances
variable {cfg : Config HostLib.LWorld} {scfg : SConfig HostLib.LWorld} {start : FnId → Nat} (ag : Agree cfg scfg start)
  (hh : cfg.host = HostLib.hostLib) (htab : TablesOK scfg)
include ag hh htab

/-- **T4 for `HostLib.hostLib`** — the host whose library *is* the verified C15 model `Lib` (40 functions over `Lib.Heap`)
plus HostImpl's `system*` functions -/
theorem parse_exec_structured_hostLib (hmax : cfg.maxStatements = 0) (B : List SStmt) (hB : ProgOK B) (hfid : FidsInOrder B)
    (base : Option String) (st st' : State HostLib.LWorld) (hs : StRel st st') :
    ∃ P, parseLines (renderB B) = .ok P ∧
      (∀ fuel, execute (guardCfg cfg) fuel P base st ≠ .oof → touchesReserved (execute (guardCfg cfg) fuel P base st) = false →
        execute cfg fuel P base st = execute (guardCfg cfg) fuel P base st ∧
        ∃ r', ResRel (execute cfg fuel P base st) r' ∧ ∃ N, ∀ k, N ≤ k → runS scfg k B st' = r') ∧
      (∀ k, runS (guardS scfg) k B st' ≠ .oof → touchesReserved (runS (guardS scfg) k B st') = false →
        runS scfg k B st' = runS (guardS scfg) k B st' ∧
        ∃ r, ResRel r (runS scfg k B st') ∧ ∃ N, ∀ f, N ≤ f → execute cfg f P base st = r) :=
  parse_exec_structured_guarded ag (hh ▸ HostLib.hostLib_truthyBool) htab hmax B hB hfid base st st' hs

/-- **T3 for `HostLib.hostLib`** -/
theorem ticked_erasure_hostLib (hmax : cfg.maxStatements = 0) (B : List SStmt) (hB : ProgOK B) (base : Option String)
    (st st' : State HostLib.LWorld) (hs : StRel st st') :
    (∀ fuel, runT₀ (guardCfg cfg) fuel B base st ≠ .oof → touchesReserved (runT₀ (guardCfg cfg) fuel B base st) = false →
      runT₀ cfg fuel B base st = runT₀ (guardCfg cfg) fuel B base st ∧
      ∃ r', ResRel (runT₀ cfg fuel B base st) r' ∧ ∃ N, ∀ k, N ≤ k → runS scfg k B st' = r') ∧
    (∀ k, runS (guardS scfg) k B st' ≠ .oof → touchesReserved (runS (guardS scfg) k B st') = false →
      runS scfg k B st' = runS (guardS scfg) k B st' ∧
      ∃ r, ResRel r (runS scfg k B st') ∧ ∃ N, ∀ f, N ≤ f → runT₀ cfg f B base st = r) :=
  ticked_erasure_guarded ag (hh ▸ HostLib.hostLib_truthyBool) htab hmax B hB base st st' hs

/-- **T4 with a statement budget for `HostLib.hostLib`** -/
theorem parse_exec_structured_budget_hostLib (B : List SStmt) (hB : ProgOK B) (hfid : FidsInOrder B)
    (fuel : Nat) (base : Option String) (st st' : State HostLib.LWorld) (hs : StRel st st') :
    ∃ P, parseLines (renderB B) = .ok P ∧
      (execute (guardCfg cfg) fuel P base st ≠ .oof → (∀ m s, execute (guardCfg cfg) fuel P base st ≠ .err (.exceeded m) s) →
        touchesReserved (execute (guardCfg cfg) fuel P base st) = false →
        execute cfg fuel P base st = execute (guardCfg cfg) fuel P base st ∧
        ∃ r', ResRel (execute cfg fuel P base st) r' ∧ ∃ N, ∀ k, N ≤ k → runS scfg k B st' = r') :=
  parse_exec_structured_budget_guarded ag (hh ▸ HostLib.hostLib_truthyBool) htab B hB hfid fuel base st st' hs

end HostLibInstances

/-- **T4, no condition on the run**, for HostImpl without `systemGlobalGet` / `systemGlobalSet` (the syntactic sufficient
condition "the host does not expose the two functions"): the original theorem applies as it stands -/
theorem parse_exec_structured_hostImpl_noGlobals {cfg : Config HostImpl.World} {scfg : SConfig HostImpl.World}
    {start : FnId → Nat} (ag : Agree cfg scfg start) (hh : cfg.host = withoutGlobals HostImpl.host) (htab : TablesOK scfg)
    (hmax : cfg.maxStatements = 0) (B : List SStmt) (hB : ProgOK B) (hfid : FidsInOrder B)
    (base : Option String) (st st' : State HostImpl.World) (hs : StRel st st') :
    ∃ P, parseLines (renderB B) = .ok P ∧
      (∀ fuel, execute cfg fuel P base st ≠ .oof →
        ∃ r', ResRel (execute cfg fuel P base st) r' ∧ ∃ N, ∀ k, N ≤ k → runS scfg k B st' = r') ∧
      (∀ k, runS scfg k B st' ≠ .oof →
        ∃ r, ResRel r (runS scfg k B st') ∧ ∃ N, ∀ f, N ≤ f → execute cfg f P base st = r) :=
  parse_exec_structured ag (hh ▸ (withoutGlobals_truthyBool _).2 hostImpl_truthyBool) (hh ▸ hostImpl_withoutGlobals_noReserved)
    htab hmax B hB hfid base st st' hs

/-- the same for HostLib without the two functions -/
theorem parse_exec_structured_hostLib_noGlobals {cfg : Config HostLib.LWorld} {scfg : SConfig HostLib.LWorld}
    {start : FnId → Nat} (ag : Agree cfg scfg start) (hh : cfg.host = withoutGlobals HostLib.hostLib) (htab : TablesOK scfg)
    (hmax : cfg.maxStatements = 0) (B : List SStmt) (hB : ProgOK B) (hfid : FidsInOrder B)
    (base : Option String) (st st' : State HostLib.LWorld) (hs : StRel st st') :
    ∃ P, parseLines (renderB B) = .ok P ∧
      (∀ fuel, execute cfg fuel P base st ≠ .oof →
        ∃ r', ResRel (execute cfg fuel P base st) r' ∧ ∃ N, ∀ k, N ≤ k → runS scfg k B st' = r') ∧
      (∀ k, runS scfg k B st' ≠ .oof →
        ∃ r, ResRel r (runS scfg k B st') ∧ ∃ N, ∀ f, N ≤ f → execute cfg f P base st = r) :=
  parse_exec_structured ag (hh ▸ (withoutGlobals_truthyBool _).2 HostLib.hostLib_truthyBool)
    (hh ▸ hostLib_withoutGlobals_noReserved) htab hmax B hB hfid base st st' hs

end C01

/-! ## kernel-evaluable copies of the concrete hosts

`HostImpl.valueCompare` is defined by well-founded recursion (mutual, the list helpers call back at the same fuel), which the
kernel does not unfold; `valueCompareK` is the same function by structural recursion, `hostK` / `hostLibK` the hosts with
it (`hostLibK` also with `libLK`), **proved equal** to `HostImpl.host` / `HostLib.hostLib`.  They are used only to *evaluate*
concrete runs (`decide +kernel`) in the examples below. -/

namespace C01.HostK
open Machine HostImpl

def cmpListK (cmp : Value → Value → Option Int) : List Value → List Value → Option Int
  | [], [] => some 0
  | [], _ :: _ => some (-1)
  | _ :: _, [] => some 1
  | x :: xs, y :: ys =>
    match cmp x y with
    | none => none
    | some c => if c != 0 then some c else cmpListK cmp xs ys

def cmpItemsK (cmp : Value → Value → Option Int) : List (String × Value) → List (String × Value) → Option Int
  | [], [] => some 0
  | [], _ :: _ => some (-1)
  | _ :: _, [] => some 1
  | x :: xs, y :: ys =>
    let k := cmpOrd x.1 y.1
    if k != 0 then some k else
      match cmp x.2 y.2 with
      | none => none
      | some c => if c != 0 then some c else cmpItemsK cmp xs ys

def valueCompareK (w : World) : Nat → Value → Value → Option Int
  | 0, _, _ => none
  | fuel+1, a, b =>
    match a, b with
    | .null, .null => some 0
    | .null, _ => some (-1)
    | _, .null => some 1
    | .str x, .str y => some (cmpOrd x y)
    | .bool x, .bool y => some (cmpOrd (boolNat x) (boolNat y))
    | .num x, .num y => some (if x < y then -1 else if x = y then 0 else 1)
    | .dt x, .dt y => some (cmpOrd x y)
    | .arr x, .arr y => cmpListK (valueCompareK w fuel) ((w.arr? x).getD []) ((w.arr? y).getD [])
    | .obj x, .obj y => cmpItemsK (valueCompareK w fuel) (sortKeys ((w.obj? x).getD [])) (sortKeys ((w.obj? y).getD []))
    | a, b => some (cmpOrd (typeName a) (typeName b))

theorem lists_eq (w : World) (fuel : Nat) (ih : ∀ a b, valueCompare w fuel a b = valueCompareK w fuel a b) :
    ∀ xs ys, compareLists w fuel xs ys = cmpListK (valueCompareK w fuel) xs ys
  | [], [] | [], _ :: _ | _ :: _, [] => by rw [compareLists, cmpListK]
  | x :: xs, y :: ys => by rw [compareLists, cmpListK, ih, lists_eq w fuel ih xs ys]; rfl

theorem items_eq (w : World) (fuel : Nat) (ih : ∀ a b, valueCompare w fuel a b = valueCompareK w fuel a b) :
    ∀ xs ys, compareItems w fuel xs ys = cmpItemsK (valueCompareK w fuel) xs ys
  | [], [] | [], _ :: _ | _ :: _, [] => by rw [compareItems, cmpItemsK]
  | x :: xs, y :: ys => by rw [compareItems, cmpItemsK, ih, items_eq w fuel ih xs ys]; rfl

theorem valueCompare_eq (w : World) : ∀ fuel a b, valueCompare w fuel a b = valueCompareK w fuel a b := by
  intro fuel
  induction fuel with
  | zero => intro a b; rw [valueCompare, valueCompareK]
  | succ fuel ih =>
    intro a b
    rw [valueCompare.eq_def, valueCompareK.eq_def]
    simp only [lists_eq w fuel ih, items_eq w fuel ih]
    rfl

def compareK? (w : World) (a b : Value) : Option Int :=
  valueCompareK w ((w.heap.length + 1) * (w.heap.length + 1) + 2) a b

theorem compare?_eq (w : World) (a b : Value) : compare? w a b = compareK? w a b := valueCompare_eq w _ a b

/-- `HostImpl.binop` with `compare?` replaced by `compareK?` -/
def binopK (op : BinOp) (a b : Value) (w : World) : Value :=
  match op with
  | .eq => match compareK? w a b with | some c => .bool (c == 0) | none => .null
  | .ne => match compareK? w a b with | some c => .bool (c != 0) | none => .null
  | .le => match compareK? w a b with | some c => .bool (c ≤ 0) | none => .null
  | .lt => match compareK? w a b with | some c => .bool (c < 0) | none => .null
  | .ge => match compareK? w a b with | some c => .bool (c ≥ 0) | none => .null
  | .gt => match compareK? w a b with | some c => .bool (c > 0) | none => .null
  | op => binop op a b w

theorem binop_eq : binop = binopK := by
  funext op a b w
  cases op <;> first | rfl | (simp only [binop, binopK, compare?_eq] <;> rfl)

def hostK : Host World := { HostImpl.host with binop := binopK }

theorem host_eq : HostImpl.host = hostK := by
  show HostImpl.host = { HostImpl.host with binop := binopK }
  rw [← binop_eq]; rfl

def sysNames : List String := ["systemLog", "systemGlobalGet", "systemGlobalSet"]

theorem sysNames_keeps : ∀ f ∈ sysNames, f ∈ HostLib.hostKeeps ∧ f ≠ "arrayIndexOf" := by decide

/-- `HostLib.lib` that goes to HostImpl's tree for `sysNames` at once: looking such a name up in the tables of `Lib`, only to
find nothing, is most of what evaluating a call of it costs -/
def libLK (name : String) (args : List Value) (w : HostLib.LWorld) : LibTree HostLib.LWorld :=
  if name ∈ sysNames then HostLib.lift (HostImpl.lib name args w.toImpl) w.heap else HostLib.lib name args w

theorem libLK_eq : HostLib.hostLib.lib = libLK := by
  funext name args w
  unfold libLK
  split
  · next h =>
    obtain ⟨hk, hne⟩ := sysNames_keeps name h
    exact HostLib.lib_keeps_noBody hk hne args w
  · rfl

def hostLibK : Host HostLib.LWorld :=
  { HostLib.hostLib with binop := fun op a b w => binopK op a b w.toImpl, lib := libLK }

theorem hostLib_eq : HostLib.hostLib = hostLibK := by
  show HostLib.hostLib = { HostLib.hostLib with binop := fun op a b w => binopK op a b w.toImpl, lib := libLK }
  rw [← binop_eq, ← libLK_eq]; rfl

end C01.HostK

namespace C01.Demo
open StructuredS Machine Lower Structured

private def u (s : String) : Name := .user s
private def var (s : String) : Expr := .variable (u s)
private def call (f : String) (args : List Expr) : Expr := .function (u f) args

/-- `function f(n): acc = 0; for x in arrayNew(1, 2, 3): acc = acc + x; return acc + n` -/
def fBody : List SStmt := [
  .expr (some (u "acc")) (.number 0),
  .for (u "x") none (call "arrayNew" [.number 1, .number 2, .number 3]) [
    .expr (some (u "acc")) (.binary .add (var "acc") (var "x")) ],
  .ret (some (.binary .add (var "acc") (var "n"))) ]

def fDef : SFuncDef := { name := u "f", args := [u "n"], lastArgArray := false, body := fBody }

/-- `function f …; for y, i in arrayNew(10, 20): systemLog(y + f(i)); systemGlobalSet('g', 5); systemLog(systemGlobalGet('g'))`
— a `for` with an index variable at global scope (its hidden `__bareScriptValues0 / Length0` are **globals**), a call of a
script function that runs a `for` of its own, `systemLog`, and `systemGlobalSet` / `systemGlobalGet` of an ordinary name -/
def prog : List SStmt := [
  .func 0 (u "f") [u "n"] false false fBody,
  .for (u "y") (some (u "i")) (call "arrayNew" [.number 10, .number 20]) [
    .expr none (call "systemLog" [.binary .add (var "y") (call "f" [var "i"])]) ],
  .expr none (call "systemGlobalSet" [.string "g", .number 5]),
  .expr none (call "systemLog" [call "systemGlobalGet" [.string "g"]]) ]

def sfuns : FnId → Option SFuncDef := fun id => if id = 0 then some fDef else none

theorem progOK : ProgOK prog :=
  ⟨by simp [prog, fBody, NoRawB, NoRawS], by decide, by decide, by decide, by decide⟩

theorem funcOK (id : FnId) (d : SFuncDef) (hd : sfuns id = some d) : FuncOK d := by
  simp only [sfuns] at hd
  split at hd
  · cases hd
    exact ⟨by simp [fDef, fBody, NoRawB, NoRawS], by decide, by decide, by decide, by decide, by decide⟩
  · cases hd

def world? {W : Type} : Res W → Option W
  | .done s => some s.world
  | .ret _ s => some s.world
  | .err _ s => some s.world
  | .oof => none

theorem world?_of_resRel {W : Type} {r r' : Res W} (h : ResRel r r') : world? r = world? r' := by
  cases r <;> cases r' <;> simp only [ResRel] at h <;> first | exact h.elim | skip
  · exact congrArg some h.1
  · exact congrArg some h.2.1
  · exact congrArg some h.2.1

theorem ne_oof_of_world? {W α : Type} {f : W → α} {r : Res W} {a : α} (h : (world? r).map f = some a) : r ≠ .oof := by
  rintro rfl; cases h

/-- what the two directions of the C01 theorems say about the world reached: stated for an arbitrary result `r₀` and
family of runs, because a hypothesis `ResRel (a closed run) r` is evaluated by the elaborator each time it is mentioned -/
theorem world?_eventually {W : Type} {r₀ : Res W} {run : Nat → Res W}
    (h : ∃ r, ResRel r r₀ ∧ ∃ N, ∀ f, N ≤ f → run f = r) : ∃ N, ∀ f, N ≤ f → world? (run f) = world? r₀ := by
  obtain ⟨r, hr, N, hN⟩ := h
  exact ⟨N, fun f hf => by rw [hN f hf, world?_of_resRel hr]⟩

theorem world?_eventually' {W : Type} {r₀ : Res W} {run : Nat → Res W}
    (h : ∃ r', ResRel r₀ r' ∧ ∃ N, ∀ k, N ≤ k → run k = r') : ∃ N, ∀ k, N ≤ k → world? (run k) = world? r₀ := by
  obtain ⟨r', hr, N, hN⟩ := h
  exact ⟨N, fun k hk => by rw [hN k hk, world?_of_resRel hr]⟩

def implSCfg : SConfig HostImpl.World := { host := HostImpl.host, sfuns := sfuns }
def implCfg : Config HostImpl.World :=
  { host := HostImpl.host, funs := fun id => (sfuns id).map (lowerDef 0), maxStatements := 0 }
theorem impl_agree : Agree implCfg implSCfg (fun _ => 0) := ⟨rfl, rfl, rfl, fun _ => rfl⟩

/-- all 18 library functions bound under their names, empty heap and log -/
def implSt0 : State HostImpl.World :=
  { globals := HostImpl.libNames.map (fun n => (u n, Value.fn (.lib n))), world := {}, count := 0 }

def logI (r : Res HostImpl.World) : Option (List String) := (world? r).map (·.log)

/-- the guarded configurations over the kernel-evaluable copy of the host -/
def implSCfgGK : SConfig HostImpl.World := { host := guard HostK.hostK, sfuns := sfuns }
def implCfgGK : Config HostImpl.World :=
  { host := guard HostK.hostK, funs := fun id => (sfuns id).map (lowerDef 0), maxStatements := 0 }
theorem guardS_impl : guardS implSCfg = implSCfgGK :=
  congrArg (fun h => ({ host := guard h, sfuns := sfuns } : SConfig HostImpl.World)) HostK.host_eq
theorem guardCfg_impl : guardCfg implCfg = implCfgGK :=
  congrArg (fun h => ({ host := guard h, funs := fun id => (sfuns id).map (lowerDef 0), maxStatements := 0 } :
    Config HostImpl.World)) HostK.host_eq

/-- the hypotheses of the HostImpl theorems are inhabited -/
example (base : Option String) (st' : State HostImpl.World) (hs : StRel implSt0 st') :=
  parse_exec_structured_hostImpl impl_agree rfl funcOK rfl prog progOK (by decide) base implSt0 st' hs
example (base : Option String) (st' : State HostImpl.World) (hs : StRel implSt0 st') :=
  ticked_erasure_hostImpl impl_agree rfl funcOK rfl prog progOK base implSt0 st' hs

/-- the guarded pure reading touches no reserved global and logs `16 27 5` (evaluated by the kernel) … -/
theorem impl_pure_run : logI (runS (guardS implSCfg) 100 prog implSt0) = some ["16", "27", "5"] ∧
    touchesReserved (runS (guardS implSCfg) 100 prog implSt0) = false := by
  rw [guardS_impl]; decide +kernel

/-- … **hence so does `execute_script` on the parsed text with the real `HostImpl.host`** (label cache, hidden `for`
globals, statement counter and all) for every sufficiently large fuel: by the theorem, not by running the machine -/
example : ∃ P, parseLines (renderB prog) = .ok P ∧
    ∃ N, ∀ f, N ≤ f → logI (execute implCfg f P none implSt0) = some ["16", "27", "5"] := by
  obtain ⟨P, hP, _, hconv⟩ := parse_exec_structured_hostImpl impl_agree rfl funcOK rfl prog progOK (by decide) none
    implSt0 implSt0 (StRel.refl _)
  obtain ⟨e, h⟩ := hconv 100 (ne_oof_of_world? impl_pure_run.1) impl_pure_run.2
  obtain ⟨N, hN⟩ := world?_eventually h
  exact ⟨P, hP, N, fun f hf => by rw [logI, hN f hf, e]; exact impl_pure_run.1⟩

/-- the guarded machine run of the lowered program (evaluated by the kernel): same log, no reserved global touched -/
theorem impl_machine_run : logI (execute (guardCfg implCfg) 300 (lowerProgram prog) none implSt0) = some ["16", "27", "5"] ∧
    touchesReserved (execute (guardCfg implCfg) 300 (lowerProgram prog) none implSt0) = false := by
  rw [guardCfg_impl]; decide +kernel

/-- forward direction: from that machine run, the pure source-level reading **with the real host** logs the same for every
sufficiently large fuel, and the real machine run is the guarded one -/
example : (∃ N, ∀ k, N ≤ k → logI (runS implSCfg k prog implSt0) = some ["16", "27", "5"]) ∧
    execute implCfg 300 (lowerProgram prog) none implSt0 = execute (sanCfg implCfg) 300 (lowerProgram prog) none implSt0 := by
  obtain ⟨P, hP, hfwd, _⟩ := parse_exec_structured_hostImpl impl_agree rfl funcOK rfl prog progOK (by decide) none
    implSt0 implSt0 (StRel.refl _)
  have hP' := parseLines_render prog progOK.wellNested (by decide) (incB_of_noInclude prog progOK.noInclude)
  rw [hP'] at hP
  cases hP
  obtain ⟨e, h⟩ := hfwd 300 (ne_oof_of_world? impl_machine_run.1) impl_machine_run.2
  obtain ⟨N, hN⟩ := world?_eventually' h
  exact ⟨⟨N, fun k hk => by rw [logI, hN k hk, e]; exact impl_machine_run.1⟩,
    real_eq_sanitized_execute implCfg 300 _ none implSt0 impl_machine_run.2⟩

def libSCfg : SConfig HostLib.LWorld := { host := HostLib.hostLib, sfuns := sfuns }
def libCfg : Config HostLib.LWorld :=
  { host := HostLib.hostLib, funs := fun id => (sfuns id).map (lowerDef 0), maxStatements := 0 }
theorem lib_agree : Agree libCfg libSCfg (fun _ => 0) := ⟨rfl, rfl, rfl, fun _ => rfl⟩

/-- every function `Lib` has a body for and HostImpl's `system*` functions bound under their names -/
def libSt0 : State HostLib.LWorld :=
  { globals := HostLib.libNames.map (fun n => (u n, Value.fn (.lib n))), world := {}, count := 0 }

def logL (r : Res HostLib.LWorld) : Option (List String) := (world? r).map (·.log)

def libSCfgGK : SConfig HostLib.LWorld := { host := guard HostK.hostLibK, sfuns := sfuns }
theorem guardS_lib : guardS libSCfg = libSCfgGK :=
  congrArg (fun h => ({ host := guard h, sfuns := sfuns } : SConfig HostLib.LWorld)) HostK.hostLib_eq

example (base : Option String) (st' : State HostLib.LWorld) (hs : StRel libSt0 st') :=
  parse_exec_structured_hostLib lib_agree rfl funcOK rfl prog progOK (by decide) base libSt0 st' hs
example (base : Option String) (st' : State HostLib.LWorld) (hs : StRel libSt0 st') :=
  ticked_erasure_hostLib lib_agree rfl funcOK rfl prog progOK base libSt0 st' hs

theorem lib_pure_run : logL (runS (guardS libSCfg) 100 prog libSt0) = some ["16", "27", "5"] ∧
    touchesReserved (runS (guardS libSCfg) 100 prog libSt0) = false := by
  rw [guardS_lib]; decide +kernel

/-- the same program on the machine whose `arrayNew` / `arrayLength` / `arrayGet` are the verified C15 model `Lib` -/
example : ∃ P, parseLines (renderB prog) = .ok P ∧
    ∃ N, ∀ f, N ≤ f → logL (execute libCfg f P none libSt0) = some ["16", "27", "5"] := by
  obtain ⟨P, hP, _, hconv⟩ := parse_exec_structured_hostLib lib_agree rfl funcOK rfl prog progOK (by decide) none
    libSt0 libSt0 (StRel.refl _)
  obtain ⟨e, h⟩ := hconv 100 (ne_oof_of_world? lib_pure_run.1) lib_pure_run.2
  obtain ⟨N, hN⟩ := world?_eventually h
  exact ⟨P, hP, N, fun f hf => by rw [logL, hN f hf, e]; exact lib_pure_run.1⟩

def implCfgNG : Config HostImpl.World :=
  { host := withoutGlobals HostImpl.host, funs := fun id => (sfuns id).map (lowerDef 0), maxStatements := 0 }
def implSCfgNG : SConfig HostImpl.World := { host := withoutGlobals HostImpl.host, sfuns := sfuns }

example (base : Option String) (st' : State HostImpl.World) (hs : StRel implSt0 st') :=
  parse_exec_structured_hostImpl_noGlobals (cfg := implCfgNG) (scfg := implSCfgNG) (start := fun _ => 0)
    ⟨rfl, rfl, rfl, fun _ => rfl⟩ rfl funcOK rfl prog progOK (by decide) base implSt0 st' hs

def libCfgNG : Config HostLib.LWorld :=
  { host := withoutGlobals HostLib.hostLib, funs := fun id => (sfuns id).map (lowerDef 0), maxStatements := 0 }
def libSCfgNG : SConfig HostLib.LWorld := { host := withoutGlobals HostLib.hostLib, sfuns := sfuns }

example (base : Option String) (st' : State HostLib.LWorld) (hs : StRel libSt0 st') :=
  parse_exec_structured_hostLib_noGlobals (cfg := libCfgNG) (scfg := libSCfgNG) (start := fun _ => 0)
    ⟨rfl, rfl, rfl, fun _ => rfl⟩ rfl funcOK rfl prog progOK (by decide) base libSt0 st' hs

end C01.Demo

namespace C01
open StructuredS Machine Lower Structured

theorem toNat?_zero : (String.ofList ['0']).toNat? = some 0 := by
  have : String.ofList ['0'] = Nat.repr 0 := by decide +kernel
  rw [this, Nat.toNat?_repr]

/-- the spelling `__bareScriptIndex0` is the generated name `gen index 0` -/
theorem ofString_index0 : Name.ofString "__bareScriptIndex0" = .gen .index 0 := by
  have h : canonDigits ['0'] = some 0 := by
    simp only [canonDigits]
    rw [if_neg (by decide), if_neg (by decide)]
    exact toNat?_zero
  unfold Name.ofString
  simp only []
  rw [if_pos (by decide +kernel)]
  have h2 : List.drop reservedPrefix.toList.length "__bareScriptIndex0".toList = ['I','n','d','e','x','0'] := by
    decide +kernel
  rw [h2]
  simp [GK.all, List.findSome?, GK.text, h]

theorem hostImpl_lib_get_index0 (w : HostImpl.World) :
    HostImpl.lib "systemGlobalGet" [.str "__bareScriptIndex0"] w =
      .globalGet (.gen .index 0) w (fun v w1 => HostImpl.ok (v.getD .null) w1) := by
  rw [hostImpl_lib_get, ofString_index0]

/-- **`HostImpl.host` does not satisfy `HostNoReserved`** (so `C01.parse_exec_structured` itself says nothing about it) -/
theorem hostImpl_not_noReserved : ¬ HostNoReserved HostImpl.host := by
  intro h
  have h1 := h.1 "systemGlobalGet" [.str "__bareScriptIndex0"] {}
  have h3 : HostImpl.host.lib "systemGlobalGet" [.str "__bareScriptIndex0"] {} = _ := hostImpl_lib_get_index0 {}
  rw [h3] at h1
  cases h1 with
  | globalGet _ _ _ hn _ => cases hn

/-- **nor does `HostLib.hostLib`**: `Lib` has no `systemGlobalGet`, so the call falls through to HostImpl's tree -/
theorem hostLib_not_noReserved : ¬ HostNoReserved HostLib.hostLib := by
  intro h
  have h1 := h.1 "systemGlobalGet" [.str "__bareScriptIndex0"] {}
  rw [HostLib.lib_keeps_noBody (by decide) (by decide), hostImpl_lib_get_index0] at h1
  cases h1 with
  | globalGet _ _ _ hn _ => cases hn

namespace Demo

/-- `hostK` with the one library call the kernel cannot evaluate (`Name.ofString` of a reserved spelling uses
`String.toNat?`) tabulated; equal to `HostImpl.host` -/
def libK2 (name : String) (args : List Value) (w : HostImpl.World) : LibTree HostImpl.World :=
  if name = "systemGlobalGet" ∧ args = [.str "__bareScriptIndex0"] then
    .globalGet (.gen .index 0) w (fun v w1 => HostImpl.ok (v.getD .null) w1)
  else HostImpl.lib name args w

theorem libK2_eq : HostImpl.lib = libK2 := by
  funext name args w
  unfold libK2
  split
  · rename_i h
    obtain ⟨rfl, rfl⟩ := h
    exact hostImpl_lib_get_index0 w
  · rfl

def hostK2 : Host HostImpl.World := { HostImpl.host with binop := HostK.binopK, lib := libK2 }

theorem host_eq2 : HostImpl.host = hostK2 := by
  show HostImpl.host = { HostImpl.host with binop := HostK.binopK, lib := libK2 }
  rw [← HostK.binop_eq, ← libK2_eq]; rfl

/-- `for x in arrayNew(7, 8): systemLog(systemGlobalGet('__bareScriptIndex0'))` — no reserved *identifier* occurs (the name
is inside a string), so `ProgOK` holds -/
def peekProg : List SStmt := [
  .for (u "x") none (call "arrayNew" [.number 7, .number 8]) [
    .expr none (call "systemLog" [call "systemGlobalGet" [.string "__bareScriptIndex0"]]) ] ]

theorem peek_progOK : ProgOK peekProg :=
  ⟨by simp [peekProg, NoRawB, NoRawS], by decide, by decide, by decide, by decide⟩

def peekCfg (h : Host HostImpl.World) : Config HostImpl.World := { host := h, funs := fun _ => none, maxStatements := 0 }
def peekSCfg (h : Host HostImpl.World) : SConfig HostImpl.World := { host := h, sfuns := fun _ => none }

/-- **`touching_program_differs`**: on the real `HostImpl.host` the machine (on the lowered program) logs the hidden loop
index `0 1`, the source-level reading — which has no hidden variables — logs `null null`: the conclusion of
`parse_exec_structured` fails for this `ProgOK` program, so *some* condition excluding it is necessary.  The guarded run
reports it (`touchesReserved = true`), and on the sanitised host machine and source-level reading agree again. -/
theorem touching_program_differs :
    logI (execute (peekCfg HostImpl.host) 300 (lowerProgram peekProg) none implSt0) = some ["0", "1"] ∧
    logI (runS (peekSCfg HostImpl.host) 100 peekProg implSt0) = some ["null", "null"] ∧
    touchesReserved (execute (guardCfg (peekCfg HostImpl.host)) 300 (lowerProgram peekProg) none implSt0) = true ∧
    touchesReserved (runS (guardS (peekSCfg HostImpl.host)) 100 peekProg implSt0) = true ∧
    logI (execute (sanCfg (peekCfg HostImpl.host)) 300 (lowerProgram peekProg) none implSt0) = some ["null", "null"] ∧
    logI (runS (sanS (peekSCfg HostImpl.host)) 100 peekProg implSt0) = some ["null", "null"] := by
  rw [host_eq2]
  decide +kernel

def implCfgB (max : Nat) : Config HostImpl.World :=
  { host := HostImpl.host, funs := fun id => (sfuns id).map (lowerDef 0), maxStatements := max }
def libCfgB (max : Nat) : Config HostLib.LWorld :=
  { host := HostLib.hostLib, funs := fun id => (sfuns id).map (lowerDef 0), maxStatements := max }

example (max fuel : Nat) (base : Option String) (st' : State HostImpl.World) (hs : StRel implSt0 st') :=
  parse_exec_structured_budget_hostImpl (cfg := implCfgB max) (scfg := implSCfg) (start := fun _ => 0)
    ⟨rfl, rfl, rfl, fun _ => rfl⟩ rfl funcOK prog progOK (by decide) fuel base implSt0 st' hs

example (max fuel : Nat) (base : Option String) (st' : State HostLib.LWorld) (hs : StRel libSt0 st') :=
  parse_exec_structured_budget_hostLib (cfg := libCfgB max) (scfg := libSCfg) (start := fun _ => 0)
    ⟨rfl, rfl, rfl, fun _ => rfl⟩ rfl funcOK prog progOK (by decide) fuel base libSt0 st' hs

/-- the generic theorem on the toy host of `C01Erase` as well (any host with `TruthyBool`) -/
example (base : Option String) (st' : State Tiny.TW) (hs : StRel Tiny.st0 st') :=
  parse_exec_structured_guarded Tiny.nv_agree Tiny.host_truthyBool Tiny.nv_tablesOK rfl Tiny.nvProg Tiny.nv_progOK (by decide)
    base Tiny.st0 st' hs

end Demo
end C01
