import BareModel.ErrorMsg

/-!
# C06 — the caret of a parser error message stands under the offending character

`BareScriptParserError.__init__` (parser.py:669-701) shows the error line — elided to a window of 120 characters with
`'... '` / `' ...'` markers when it is longer — and under it a row of `line_column - 1` blanks and a `^`.
`caret_under_same_char`: for every line and every column `1 ≤ column ≤ len + 1` the character of the *displayed* line
above the caret is the character `line[column - 1]` of the *original* line; for `column = len + 1` (error at the end of
the text) the caret stands just past the end of the displayed text.  All three elision cases, any line length.
-/

namespace C06
open ErrorMsg

theorem getElem?_prefix4 (l : List Char) (k : Nat) : (linePrefix ++ l)[4 + k]? = l[k]? := by
  rw [List.getElem?_append_right (Nat.le_add_right 4 k)]
  exact congrArg (l[·]?) (Nat.add_sub_cancel_left ..)

/-- `displayL` with the `int` arithmetic of the elision done: a short line is shown as it is; with the error in the
first 60 characters the head of the line is shown; with the error in the last 60 characters or at the end the tail
(caret at `column - (len - 124)`); otherwise a window of 120 characters with the error at its 61st, caret at 65 -/
theorem displayL_eq (line : List Char) (column : Nat) (h1 : 1 ≤ column) :
    displayL line column =
      if line.length ≤ 120 then (line, (column : Int))
      else if column ≤ 60 then (line.take 120 ++ lineSuffix, (column : Int))
      else if line.length < column + 59 then
        (linePrefix ++ line.drop (line.length - 120), ((column + 124 - line.length : Nat) : Int))
      else (linePrefix ++ (line.drop (column - 61)).take 120 ++ lineSuffix, ((65 : Nat) : Int)) := by
  have hp : (linePrefix.length : Int) = 4 := by decide
  unfold displayL
  simp only [lineLengthMax, hp]
  by_cases hlen : line.length ≤ 120
  · rw [if_neg (by omega), if_pos hlen]
  · rw [if_pos (by omega), if_neg hlen]
    by_cases hl : column ≤ 60
    · rw [if_pos (by omega), if_pos hl]
    · rw [if_neg (by omega), if_neg hl]
      by_cases hr : line.length < column + 59
      · rw [if_pos (by omega), if_pos hr]
        congr 1; omega
      · have e1 : ((column : Int) - 1 - ((120 / 2 : Nat) : Int)).toNat = column - 61 := by omega
        rw [if_neg (by omega), if_neg hr, e1]
        congr 1; omega

theorem toNat_pred (k : Nat) : ((k : Int) - 1).toNat = k - 1 := by omega

theorem caret_under_same_char (line : List Char) (column : Nat) (h1 : 1 ≤ column) (h2 : column ≤ line.length + 1) :
    1 ≤ (displayL line column).2 ∧
    (displayL line column).1[((displayL line column).2 - 1).toNat]? = line[column - 1]? := by
  rw [displayL_eq line column h1]
  split
  · exact ⟨Int.ofNat_le.mpr h1, by rw [toNat_pred]⟩
  · split
    · dsimp only
      rw [toNat_pred, List.getElem?_append_left (by rw [List.length_take]; omega), List.getElem?_take_of_lt (by omega)]
      exact ⟨Int.ofNat_le.mpr h1, rfl⟩
    · split
      · dsimp only
        obtain ⟨e0, e, e'⟩ : 1 ≤ column + 124 - line.length ∧
            column + 124 - line.length - 1 = 4 + (column - 1 - (line.length - 120)) ∧
            line.length - 120 + (column - 1 - (line.length - 120)) = column - 1 := by omega
        rw [toNat_pred, e, getElem?_prefix4, List.getElem?_drop, e']
        exact ⟨Int.ofNat_le.mpr e0, rfl⟩
      · dsimp only
        obtain ⟨hk, e'⟩ : 60 < min 120 (line.length - (column - 61)) ∧ column - 61 + 60 = column - 1 := by omega
        rw [toNat_pred, List.append_assoc, getElem?_prefix4 _ 60,
          List.getElem?_append_left (by rwa [List.length_take, List.length_drop]),
          List.getElem?_take_of_lt (by decide), List.getElem?_drop, e']
        exact ⟨by decide, rfl⟩

/-- the caret row: `line_column - 1` blanks, then `^` — the caret is the character number `line_column` of its row -/
theorem caret_row (c : Int) (h : 1 ≤ c) : (caretLineL c)[(c - 1).toNat]? = some '^' ∧ (caretLineL c).length = c.toNat := by
  unfold caretLineL
  constructor
  · rw [List.getElem?_append_right (by simp)]; simp
  · simp; omega

/-- the caret never leaves the displayed text by more than one position -/
theorem caret_in_range (line : List Char) (column : Nat) (h1 : 1 ≤ column) (h2 : column ≤ line.length + 1) :
    1 ≤ (displayL line column).2 ∧ (displayL line column).2 ≤ (displayL line column).1.length + 1 := by
  have hp : linePrefix.length = 4 := by decide
  have hs : lineSuffix.length = 4 := by decide
  rw [displayL_eq line column h1]
  split
  · dsimp only; omega
  · split
    · simp only [List.length_append, List.length_take, hs]; omega
    · split
      · simp only [List.length_append, List.length_drop, hp]; omega
      · simp only [List.length_append, List.length_take, List.length_drop, hp, hs]; omega

/-- non-vacuity: a 300-character line, error in the middle / at the very end -/
example :
    let line := (List.range 300).map (fun i => Char.ofNat (48 + i % 75))
    (displayL line 150).1.length = 128 ∧ (displayL line 150).2 = 65 ∧ (displayL line 150).1[64]? = line[149]? ∧
    (displayL line 301).1.length = 124 ∧ (displayL line 301).2 = 125 ∧ (displayL line 301).1[124]? = none ∧
    (displayL line 7).1.length = 124 ∧ (displayL line 7).2 = 7 := by decide +kernel

end C06
