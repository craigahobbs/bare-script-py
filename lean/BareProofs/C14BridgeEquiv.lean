import BareProofs.C14BridgeLemmas

/-!
# C14Bridge — the equality of C14 (`Json.Equiv`: same canonical form) is the equality of C11 (`valueCompare = 0`)

* `equiv_of_cmp_zero`     closed values that compare equal have `Json.Equiv` JSON values (all values, no hypothesis): `==` values
                          print the same JSON text
* `cmp_zero_of_equiv`     conversely on *plain* values (`Plain`: no function, regex or datetime — which `value_json` collapses
                          into the string `<function>` / `null` / a string — and integral numbers only, HostImpl's text for
                          other numbers being a truncated expansion): equal canonical JSON ⇒ `valueCompare = 0`
-/

namespace C14Bridge
open Compare

theorem cmpList_zero {γ : Type} (F : PValue → γ) : ∀ (xs ys : List PValue), cmpList xs ys = 0 →
    (∀ x ∈ xs, ∀ y, valueCompare x y = 0 → F x = F y) → xs.map F = ys.map F
  | [], [], _, _ => rfl
  | [], _ :: _, h, _ => by simp [cmpList] at h
  | _ :: _, [], h, _ => by simp [cmpList] at h
  | x :: xs, y :: ys, h, H => by
    simp only [cmpList, bne_iff_ne, ne_eq] at h
    by_cases h0 : valueCompare x y = 0
    · simp only [h0, not_true_eq_false, if_false] at h
      simp only [List.map_cons, H x (by simp) y h0, cmpList_zero F xs ys h (fun x' hx' => H x' (by simp [hx']))]
    · simp only [h0, not_false_eq_true, if_true] at h

theorem cmpItems_zero {γ : Type} (F : PValue → γ) : ∀ (xs ys : List (String × PValue)), cmpItems xs ys = 0 →
    (∀ p ∈ xs, ∀ y, valueCompare p.2 y = 0 → F p.2 = F y) →
    xs.map (fun kv => (kv.1.toList, F kv.2)) = ys.map (fun kv => (kv.1.toList, F kv.2))
  | [], [], _, _ => rfl
  | [], _ :: _, h, _ => by simp [cmpItems] at h
  | _ :: _, [], h, _ => by simp [cmpItems] at h
  | (k1, v1) :: xs, (k2, v2) :: ys, h, H => by
    simp only [cmpItems, bne_iff_ne, ne_eq] at h
    by_cases hk : strCompare k1 k2 = 0
    · simp only [hk, not_true_eq_false, if_false] at h
      by_cases h0 : valueCompare v1 v2 = 0
      · simp only [h0, not_true_eq_false, if_false] at h
        have ek := (C11.str_cmp_zero_iff k1 k2).mp hk
        simp only [List.map_cons, ek, H (k1, v1) (by simp) v2 h0,
          cmpItems_zero F xs ys h (fun p hp => H p (by simp [hp]))]
      · simp only [h0, not_false_eq_true, if_true] at h
    · simp only [hk, not_false_eq_true, if_true] at h

/-- A function of closed values that is computed from its values on the elements of an array, resp. on the key-sorted items
of an object, and that does not look inside functions and regexes, takes one value on values that compare equal. -/
theorem congr_of_cmp_zero {γ : Type} (F : PValue → γ) (A : List γ → γ) (O : List (Json.Str × γ) → γ)
    (hfn : ∀ x y, F (.fn x) = F (.fn y)) (hre : ∀ x y, F (.regex x) = F (.regex y)) (harr : ∀ xs, F (.arr xs) = A (xs.map F))
    (hobj : ∀ kvs, F (.obj kvs) = O ((sortItems kvs).map fun kv => (kv.1.toList, F kv.2))) (a : PValue) :
    ∀ b, valueCompare a b = 0 → F a = F b := by
  induction a using C11.pvalInd with (intro b h; have hr := C11.rank_eq_of_cmp_zero h; cases b <;> simp [C11.rank] at hr)
  | null => rfl
  | bool x => rw [(C11.bool_cmp_zero x _).mp h]
  | num x => rw [(C11.num_cmp x _).2.1.mp h]
  | str x => rw [(C11.str_cmp_zero_iff x _).mp (by rwa [valueCompare] at h)]
  | dt x => rw [(C11.dt_cmp_zero x _).mp h]
  | fn x => exact hfn _ _
  | regex x => exact hre _ _
  | arr xs ih =>
    rw [valueCompare] at h
    rw [harr, harr, cmpList_zero F xs _ h ih]
  | obj kvs ih =>
    rw [valueCompare] at h
    rw [hobj, hobj, cmpItems_zero F _ _ h fun p hp => ih p ((sortItems_perm kvs).mem_iff.mp hp)]

theorem norm_arr (xs : List PValue) : Json.norm (toJson (.arr xs)) = .arr (xs.map fun x => Json.norm (toJson x)) := by
  rw [toJson, C14.norm_arr, toJsonList_eq, List.map_map]; rfl

theorem norm_obj (kvs : List (String × PValue)) :
    Json.norm (toJson (.obj kvs)) = .obj ((sortItems kvs).map fun kv => (kv.1.toList, Json.norm (toJson kv.2))) := by
  rw [toJson, C14.norm_obj, toJsonItems_eq, sortKeys_map_sortItems (fun kv : String × PValue => (kv.1.toList, toJson kv.2)) (fun _ => rfl),
    List.map_map]
  rfl

/-- values the comparison finds equal have the same canonical JSON value (hence the same JSON text) -/
theorem equiv_of_cmp_zero : ∀ a b : PValue, valueCompare a b = 0 → Json.norm (toJson a) = Json.norm (toJson b) :=
  congr_of_cmp_zero (fun p => Json.norm (toJson p)) .arr .obj (fun _ _ => rfl) (fun _ _ => rfl) norm_arr norm_obj

/-- values the comparison finds equal have the same compact JSON text (at every nesting level) … -/
theorem enc_eq_of_cmp_zero : ∀ (a b : PValue), valueCompare a b = 0 → ∀ lvl, enc lvl a = enc lvl b := fun a b h =>
  congrFun (congr_of_cmp_zero (fun p lvl => enc lvl p) (fun fs lvl => C14.block 0 lvl '[' ']' (fs.map (· (lvl+1))))
    (fun ms lvl => C14.block 0 lvl '{' '}' (ms.map fun m => Json.member 0 (m.1, m.2 (lvl+1))))
    (fun _ _ => rfl) (fun _ _ => rfl) (fun xs => funext fun lvl => by rw [enc_arr, List.map_map]; rfl)
    (fun kvs => funext fun lvl => by rw [enc_obj, List.map_map]; rfl) a b h)

mutual
/-- no function, regex or datetime anywhere, and every number integral -/
def Plain : PValue → Bool
  | .num q => q.den == 1
  | .dt _ => false
  | .fn _ => false
  | .regex _ => false
  | .arr xs => PlainList xs
  | .obj kvs => PlainItems kvs
  | _ => true
def PlainList : List PValue → Bool
  | [] => true
  | x :: xs => Plain x && PlainList xs
def PlainItems : List (String × PValue) → Bool
  | [] => true
  | (_, v) :: rest => Plain v && PlainItems rest
end

theorem plainList_mem : ∀ (xs : List PValue), PlainList xs = true → ∀ x ∈ xs, Plain x = true
  | [], _, _, h => by simp at h
  | y :: ys, hp, x, h => by
    simp only [PlainList, Bool.and_eq_true] at hp
    rcases List.mem_cons.mp h with rfl | h
    · exact hp.1
    · exact plainList_mem ys hp.2 x h

theorem plainItems_mem : ∀ (kvs : List (String × PValue)), PlainItems kvs = true → ∀ p ∈ kvs, Plain p.2 = true
  | [], _, _, h => by simp at h
  | (k, v) :: rest, hp, p, h => by
    simp only [PlainItems, Bool.and_eq_true] at hp
    rcases List.mem_cons.mp h with rfl | h
    · exact hp.1
    · exact plainItems_mem rest hp.2 p h

/-- the type of the plain value a canonical JSON value was made from, as `C11.rank` counts types -/
def jrank : Json.JValue → Nat
  | .null => 0 | .arr _ => 1 | .bool _ => 2 | .num _ => 5 | .obj _ => 6 | .str _ => 8

/-- on plain values, the same canonical JSON value means the comparison finds them equal: `norm ∘ toJson` is a canonical key
(`C11.key_faithful`), tagged by `jrank` -/
theorem cmp_zero_of_equiv : ∀ a b : PValue, Plain a = true → Plain b = true →
    Json.norm (toJson a) = Json.norm (toJson b) → valueCompare a b = 0 := fun a b ha hb =>
  (C11.key_faithful (fun v => Plain v = true) (fun p => Json.norm (toJson p)) jrank String.toList .arr .obj
    plainList_mem plainItems_mem (fun a ha => by cases a <;> first | rfl | exact nomatch ha)
    norm_arr (fun _ _ => Json.JValue.arr.inj) norm_obj (fun _ _ => Json.JValue.obj.inj) (fun _ _ => String.toList_inj.mp)
    (fun _ _ _ _ => Json.JValue.bool.inj)
    (fun x y hx hy e => by
      have hx : x.den = 1 := by simpa [Plain] using hx
      have hy : y.den = 1 := by simpa [Plain] using hy
      have hn : x.num = y.num := by simpa [toJson, Json.norm, numJ, hx, hy, Json.normNum] using e
      exact Rat.ext hn (by rw [hx, hy]))
    (fun _ _ _ _ e => String.toList_inj.mp (Json.JValue.str.inj e))
    (fun _ _ h => nomatch h) (fun _ _ h => nomatch h) (fun _ _ h => nomatch h) a b ha hb).mp

end C14Bridge
