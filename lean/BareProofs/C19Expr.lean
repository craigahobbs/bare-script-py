import BareProofs.C19ExprLemmas
import BareProofs.C02Print

/-!
# C19Expr — dataFilter / dataCalculatedField / dataJoin evaluate their expression TEXT with the modelled parser and evaluator

`BareProofs/C19.lean` (`filter_spec`, `calc_spec`, `join_spec`) takes the per-row evaluator as an abstract PURE parameter.  Here the
evaluator is `ExprParse.parseExpr` followed by `Machine.evalExpr` (model: `BareModel/DataExpr.lean`), for EVERY table, expression
text, `variables` object, machine state, host, function table, statement budget and fuel.
-/

namespace C19Expr
open Machine DataExpr

variable {W : Type}

/-- **filter_expr_spec.**  `dataFilter(data, text, variables)`: the text is parsed once; the rows are evaluated in order in ONE machine
state (globals overridden by the variables, the row as locals, built-ins on); the result is the rows whose value is truthy — in the
world right after the row's own evaluation —, in order; the state after the call is the state after the last evaluation with the
caller's globals put back when there are variables.  A runtime error in row `k` ends the call with the state reached. -/
theorem filter_expr_spec (C : Ctx W) (text : String) (vars : Option VRow) (data : VTable) (st : State W) :
    dataFilter C text vars data st =
      match ExprParse.parseExpr text with
      | .error pe => .parseErr pe
      | .ok e =>
        match runRows (evalRow C e) data (enter vars st) with
        | .ok vs st' => .ok (keepRows C.cfg.host.truthy data vs) (leave vars st st')
        | .err er _ st' => .err er data (leave vars st st')
        | .keyErr s => .keyErr (leave vars st s)
        | .oof => .oof := by
  unfold dataFilter
  cases ExprParse.parseExpr text with
  | error pe => rfl
  | ok e =>
    simp only [filterCore, filterLoop_spec]
    cases runRows (evalRow C e) data (enter vars st) <;> rfl

/-- … the result consists of rows of the input, in their order (the same row objects), and every row was evaluated -/
theorem filter_same_rows (C : Ctx W) (text : String) (vars : Option VRow) (data res : VTable) (st st' : State W)
    (h : dataFilter C text vars data st = .ok res st') :
    res.Sublist data ∧ ∃ e vs s1, ExprParse.parseExpr text = .ok e ∧ runRows (evalRow C e) data (enter vars st) = .ok vs s1 ∧
      vs.length = data.length ∧ res = keepRows C.cfg.host.truthy data vs := by
  rw [filter_expr_spec] at h
  cases hp : ExprParse.parseExpr text with
  | error pe => rw [hp] at h; cases h
  | ok e =>
    rw [hp] at h
    simp only at h
    have hl := runRows_lenOk (evalRow C e) data (enter vars st)
    cases hr : runRows (evalRow C e) data (enter vars st) with
    | ok vs s1 =>
      rw [hr] at h hl
      simp only at h hl
      cases h
      exact ⟨keepRows_sublist _ _ _, e, vs, s1, rfl, hr, hl, rfl⟩
    | _ => rw [hr] at h; cases h

/-- **calc_expr_spec.**  `dataCalculatedField(data, field, text, variables)`: every row gets `row[field] = ` its own value, the rows
evaluated in order in one state; on a runtime error in row `k` the first `k` rows are updated and the others are not (`setRows`
updates exactly the evaluated prefix). -/
theorem calc_expr_spec (C : Ctx W) (field text : String) (vars : Option VRow) (data : VTable) (st : State W) :
    dataCalculatedField C field text vars data st =
      match ExprParse.parseExpr text with
      | .error pe => .parseErr pe
      | .ok e =>
        match runRows (evalRow C e) data (enter vars st) with
        | .ok vs st' => .ok (setRows field data vs) (leave vars st st')
        | .err er vs st' => .err er (setRows field data vs) (leave vars st st')
        | .keyErr s => .keyErr (leave vars st s)
        | .oof => .oof := by
  unfold dataCalculatedField
  cases ExprParse.parseExpr text with
  | error pe => rfl
  | ok e =>
    simp only [calcCore, calcLoop_spec]
    cases runRows (evalRow C e) data (enter vars st) <;> rfl

/-- the rows after a completed `dataCalculatedField`: as many as before, row `i` is `rowSet field vᵢ rowᵢ` -/
theorem setRows_full (field : String) : ∀ (rows : VTable) (vs : List (Value × W)), vs.length = rows.length →
    setRows field rows vs = List.zipWith (fun r v => rowSet field v.1 r) rows vs
  | [], [], _ => rfl
  | r :: rows, v :: vs, h => by simp [setRows, setRows_full field rows vs (by simpa using h)]
  | [], _ :: _, h => by simp at h
  | _ :: _, [], h => by simp at h

/-- **join_expr_spec.**  `dataJoin`: both texts are parsed (the join expression first); the RIGHT rows are evaluated first, then the
LEFT rows, all in one state; the result pairs each left row, in order, with the right rows whose bucket key (`Data.Key`: equal values
of the same type) equals its own, in right order, under the joined names; a left row without partner is kept iff NOT `isLeftJoin`
(as the code has it). -/
theorem join_expr_spec (C : Ctx W) (eL eR : Expr) (isLeftJoin : Bool) (vars : Option VRow) (L R : VTable) (st : State W) :
    ∃ names, joinNames L R = some names ∧
    joinCore C eL eR isLeftJoin vars L R st =
      match runKeys (evalRow C eR) C.key R (enter vars st) with
      | .ok kR st1 =>
        match runKeys (evalRow C eL) C.key L st1 with
        | .ok kL st2 => .ok (joinPairs (joinRow names) (!isLeftJoin) (L.zip kL) (R.zip kR)) (leave vars st st2)
        | .err er _ st2 => .err er L (leave vars st st2)
        | .keyErr s => .keyErr (leave vars st s)
        | .oof => .oof
      | .err er _ st1 => .err er L (leave vars st st1)
      | .keyErr s => .keyErr (leave vars st s)
      | .oof => .oof := by
  obtain ⟨names, hn, -, -⟩ := C19.right_names_spec (L.map eraseRow) (R.map eraseRow)
  refine ⟨names, hn, ?_⟩
  have hn' : joinNames L R = some names := hn
  simp only [joinCore, hn', bucketLoop_spec, joinLoop_spec]
  cases runKeys (evalRow C eR) C.key R (enter vars st) with
  | ok kR st1 =>
    simp only [LOut.map]
    cases runKeys (evalRow C eL) C.key L st1 with
    | ok kL st2 =>
      simp only [List.nil_append, joinPairs]
      congr 1
      exact C19.flatMap_congr (fun l _ => joinOneB_fold names isLeftJoin (R.zip kR) l)
    | _ => rfl
  | _ => rfl

/-- `dataJoin` at text level: parse the join expression, then the right expression if given, then `joinCore` -/
theorem join_expr_text (C : Ctx W) (textL : String) (textR : Option String) (isLeftJoin : Bool) (vars : Option VRow) (L R : VTable)
    (st : State W) (eL eR : Expr) (hL : ExprParse.parseExpr textL = .ok eL)
    (hR : match textR with | none => eR = eL | some t => ExprParse.parseExpr t = .ok eR) :
    dataJoin C textL textR isLeftJoin vars L R st = joinCore C eL eR isLeftJoin vars L R st := by
  cases textR with
  | none => simp only at hR; subst hR; simp [dataJoin, hL]
  | some t => simp only at hR; simp [dataJoin, hL, hR]

/-- **joinNames_total**: the joined names exist for every pair of tables, cover every right field (so `renameOf` never falls back),
and none of them is a left field name — `dataJoin` never overwrites a left field -/
theorem joinNames_total (L R : VTable) :
    ∃ names, joinNames L R = some names ∧ (∀ r ∈ R, ∀ p ∈ r, p.1 ∈ names.map (·.1)) ∧
      (∀ p ∈ names, ∀ l ∈ L, p.2 ∉ l.map (·.1)) := by
  obtain ⟨names, hn, hk, hj⟩ := C19.right_names_spec (L.map eraseRow) (R.map eraseRow)
  refine ⟨names, hn, ?_, ?_⟩
  · intro r hr p hp
    rw [hk]
    refine (C19.mem_fieldNames p.1 _).mpr ⟨eraseRow r, List.mem_map_of_mem hr, ?_⟩
    simp only [eraseRow, List.map_map, List.mem_map]
    exact ⟨p, hp, rfl⟩
  · intro p hp l hl hin
    have := C19.IsJoinedName.not_left (hj p hp)
    refine this ((C19.mem_fieldNames p.2 _).mpr ⟨eraseRow l, List.mem_map_of_mem hl, ?_⟩)
    simpa [eraseRow, List.map_map] using hin

/-- **filter_expr_pure.**  For a call-free expression (decidable: `Lint.isPointless`) the call has no effect at all — state, counter,
log unchanged — and the result is `List.filter` with the row's pure value: the shape of `C19.filter_spec`. -/
theorem filter_expr_pure (C : Ctx W) (text : String) (e : Expr) (hp : ExprParse.parseExpr text = .ok e) (h : Lint.isPointless e = true)
    (vars : Option VRow) (data : VTable) (st : State W) :
    dataFilter C text vars data st =
      .ok (data.filter (fun r => C.cfg.host.truthy (pureVal C e r (enter vars st)) st.world)) st := by
  rw [filter_expr_spec, hp]
  simp only
  rw [runRows_pure (evalRow C e) (fun r => pureVal C e r (enter vars st)) (enter vars st) (fun row => evalRow_pure C e h row _)]
  simp only [keepRows_map, leave_enter]
  cases vars <;> rfl

/-- **calc_expr_pure.**  … the result is `List.map (row ↦ rowSet field (value row) row)`: the shape of `C19.calc_spec`. -/
theorem calc_expr_pure (C : Ctx W) (field text : String) (e : Expr) (hp : ExprParse.parseExpr text = .ok e) (h : Lint.isPointless e = true)
    (vars : Option VRow) (data : VTable) (st : State W) :
    dataCalculatedField C field text vars data st =
      .ok (data.map (fun r => rowSet field (pureVal C e r (enter vars st)) r)) st := by
  rw [calc_expr_spec, hp]
  simp only
  rw [runRows_pure (evalRow C e) (fun r => pureVal C e r (enter vars st)) (enter vars st) (fun row => evalRow_pure C e h row _)]
  simp only [setRows_map, leave_enter]

theorem zip_map_self {α β : Type} (f : α → β) : ∀ l : List α, l.zip (l.map f) = l.map (fun a => (a, f a))
  | [] => rfl
  | a :: l => by simp [zip_map_self f l]

/-- **join_expr_pure.**  … with call-free key expressions whose values have bucket keys (`kL`, `kR`: no self-containing container),
the result is the relational join `joinPairs` of the rows annotated with their keys: the shape of `C19.join_spec` / `Data.joinSpec`. -/
theorem join_expr_pure (C : Ctx W) (eL eR : Expr) (hL : Lint.isPointless eL = true) (hR : Lint.isPointless eR = true)
    (isLeftJoin : Bool) (vars : Option VRow) (L R : VTable) (st : State W) (kL kR : VRow → Data.Key)
    (hkL : ∀ l ∈ L, C.key st.world (pureVal C eL l (enter vars st)) = some (kL l))
    (hkR : ∀ r ∈ R, C.key st.world (pureVal C eR r (enter vars st)) = some (kR r)) :
    ∃ names, joinNames L R = some names ∧
      joinCore C eL eR isLeftJoin vars L R st =
        .ok (joinPairs (joinRow names) (!isLeftJoin) (L.map fun l => (l, kL l)) (R.map fun r => (r, kR r))) st := by
  obtain ⟨names, hn, hj⟩ := join_expr_spec C eL eR isLeftJoin vars L R st
  refine ⟨names, hn, ?_⟩
  have hw : (enter vars st).world = st.world := by cases vars <;> rfl
  rw [hj, runKeys_pure (evalRow C eR) C.key (fun r => pureVal C eR r (enter vars st)) kR (enter vars st)
    (fun row => evalRow_pure C eR hR row _) R (by rw [hw]; exact hkR)]
  simp only
  rw [runKeys_pure (evalRow C eL) C.key (fun r => pureVal C eL r (enter vars st)) kL (enter vars st)
    (fun row => evalRow_pure C eL hL row _) L (by rw [hw]; exact hkL)]
  simp only [leave_enter, zip_map_self]

/-- closed scalar values as machine values (containers, functions and regexes of `PValue` have no image: `null`) -/
def embedV : Compare.PValue → Value
  | .null => .null
  | .bool b => .bool b
  | .num q => .num q
  | .str s => .str s
  | .dt t => .dt t
  | _ => .null

def embedRow (r : Data.Row) : VRow := r.map fun p => (p.1, embedV p.2)

/-- **filter_expr_pure_data.**  The model with an abstract evaluator instantiated: for every table of closed values `T` and every call-free
expression text, `dataFilter` on (the machine image of) `T` returns the image of what `Data.filterData eval T` returns — hence
`C19.filter_spec` applies —, where `eval row` is the truth value of the expression's machine value on that row. -/
theorem filter_expr_pure_data (C : Ctx W) (text : String) (e : Expr) (hp : ExprParse.parseExpr text = .ok e) (h : Lint.isPointless e = true)
    (vars : Option VRow) (T : Data.Table) (st : State W) :
    ∃ (eval : Data.Row → Compare.PValue) (res : Data.Table),
      Data.filterData (fun r => some (eval r)) T = some res ∧ res = T.filter (fun r => Data.truthy (eval r)) ∧
      (∀ r, eval r = .bool (C.cfg.host.truthy (pureVal C e (embedRow r) (enter vars st)) st.world)) ∧
      dataFilter C text vars (T.map embedRow) st = .ok (res.map embedRow) st := by
  refine ⟨fun r => .bool (C.cfg.host.truthy (pureVal C e (embedRow r) (enter vars st)) st.world), _, C19.filter_spec _ T, rfl,
    fun _ => rfl, ?_⟩
  rw [filter_expr_pure C text e hp h]
  simp [List.filter_map, Data.truthy, Function.comp_def]

/-- **row_is_locals.**  A field of the row is the value of the variable of that name, whatever the globals and the variables hold;
a name the row does not have falls back to the (merged) globals, `null` if unbound.  (The three keywords are not variables.) -/
theorem row_is_locals (C : Ctx W) (row : VRow) (k : String) (st : State W)
    (hkw : Name.ofString k ≠ kwNull ∧ Name.ofString k ≠ kwFalse ∧ Name.ofString k ≠ kwTrue) :
    (∀ v, rowGet? k row = some v → evalRow C (.variable (Name.ofString k)) row st = .ok v st) ∧
    (rowGet? k row = none →
      evalRow C (.variable (Name.ofString k)) row st = .ok ((st.globals.get? (Name.ofString k)).getD .null) st) := by
  obtain ⟨h1, h2, h3, h4⟩ := C04.lookup_order (rowEnv row) st.globals (Name.ofString k)
  have hev : evalRow C (.variable (Name.ofString k)) row st = .ok (lookupVar (some (rowEnv row)) st.globals (Name.ofString k)) st := by
    rw [evalRow, C09.evalExpr_variable, C09.varValue, if_neg hkw.1, if_neg hkw.2.1, if_neg hkw.2.2]
  refine ⟨fun v hv => ?_, fun hn => ?_⟩
  · rw [hev, h1 v (by rw [rowEnv_get?]; exact hv)]
  · rw [hev, h2 (by rw [rowEnv_get?]; exact hn)]
    cases hg : st.globals.get? (Name.ofString k) with
    | some v => rw [h3 v hg]; rfl
    | none => rw [h4 hg]; rfl

/-- **variables_shadow_globals.**  In the evaluation state the value of a name is the LAST entry of `variables` with that name, and
the caller's global only if `variables` has none. -/
theorem variables_shadow_globals (vs : VRow) (st : State W) (n : Name) :
    (enter (some vs) st).globals.get? n =
      ((rowEnv vs).reverse.find? (·.1 == n)).elim (st.globals.get? n) (fun p => some p.2) :=
  mergeVars_get? n vs st.globals

/-- **row_is_locals_func.**  The function of a call: the row's field of that name if there is one (even `max`), else the (merged)
global, else — at the top level of the data expression, where built-ins are on — the expression built-in. -/
theorem row_is_locals_func (C : Ctx W) (row : VRow) (k : String) (g : Env) :
    let cfg : Config W := { C.cfg with builtins := true }
    (∀ v, rowGet? k row = some v → lookupFunc cfg (some (rowEnv row)) g (Name.ofString k) = some v) ∧
    (rowGet? k row = none → ∀ v, g.get? (Name.ofString k) = some v → lookupFunc cfg (some (rowEnv row)) g (Name.ofString k) = some v) ∧
    (rowGet? k row = none → g.get? (Name.ofString k) = none →
      lookupFunc cfg (some (rowEnv row)) g (Name.ofString k) = (C.cfg.host.builtin (Name.ofString k)).map Value.fn) := by
  intro cfg
  obtain ⟨h1, h2, h3, h4, -⟩ := C04.lookup_order_func cfg (rowEnv row) g (Name.ofString k)
  refine ⟨fun v hv => h1 v (by rw [rowEnv_get?]; exact hv), fun hn v hg => ?_, fun hn hg => ?_⟩
  · rw [h2 (by rw [rowEnv_get?]; exact hn)]; exact h3 v hg
  · rw [h2 (by rw [rowEnv_get?]; exact hn)]; exact h4 hg rfl

/-- **data_expr_parse_error.**  A text the parser rejects makes each data function fail with exactly that parser error — the outcome
carries no state: nothing was evaluated, logged, counted or written (`join`: also when only the right text is rejected, and the join
text's error wins when both are). -/
theorem data_expr_parse_error (C : Ctx W) (text : String) (pe : ParseErr) (h : ExprParse.parseExpr text = .error pe)
    (vars : Option VRow) (data right : VTable) (st : State W) :
    dataFilter C text vars data st = .parseErr pe ∧
    (∀ field, dataCalculatedField C field text vars data st = .parseErr pe) ∧
    (∀ textR flag, dataJoin C text textR flag vars data right st = .parseErr pe) ∧
    (∀ textL eL flag, ExprParse.parseExpr textL = .ok eL → dataJoin C textL (some text) flag vars data right st = .parseErr pe) := by
  refine ⟨by simp [dataFilter, h], fun _ => by simp [dataCalculatedField, h], fun _ _ => by simp [dataJoin, h], fun textL eL _ hL => ?_⟩
  simp [dataJoin, hL, h]

/-- the counter facts of an outcome, relative to the state the call started in (`L` = `maxStatements`, 0 = unlimited) -/
def CountOk (L : Nat) (st : State W) : DOut W → Prop
  | .ok _ s' => st.count ≤ s'.count ∧ (C09.Pre L st → C09.Pre L s')
  | .err e _ s' => st.count ≤ s'.count ∧ (C09.Pre L st → C09.ErrOk L e s')
  | .keyErr s' => st.count ≤ s'.count ∧ (C09.Pre L st → C09.Pre L s')
  | .parseErr _ => True
  | .oof => True

/-- the state an outcome carries -/
def DOut.state? : DOut W → Option (State W)
  | .ok _ s => some s
  | .err _ _ s => some s
  | .keyErr s => some s
  | _ => none

theorem leave_some_globals (vs : VRow) (st s1 : State W) : (leave (some vs) st s1).globals = st.globals := rfl

/-- how a call ends: the counter facts, and with a `variables` object the caller's globals -/
def Ends (L : Nat) (vars : Option VRow) (st : State W) (out : DOut W) : Prop :=
  CountOk L st out ∧ ∀ s', vars.isSome = true → DOut.state? out = some s' → s'.globals = st.globals

theorem ends_ok {L : Nat} {vars : Option VRow} {st s1 : State W} (data : VTable)
    (h : C09.Good (C09.Ext.triv W) L (enter vars st) (.ok s1)) :
    Ends L vars st (.ok data (leave vars st s1)) ∧ Ends L vars st (.keyErr (leave vars st s1)) := by
  cases vars <;> exact ⟨⟨⟨h.1.1, h.2⟩, fun _ hv hs => by cases hv <;> cases hs <;> rfl⟩,
    ⟨⟨h.1.1, h.2⟩, fun _ hv hs => by cases hv <;> cases hs <;> rfl⟩⟩

theorem ends_err {L : Nat} {vars : Option VRow} {st s1 : State W} {e : RtErr} (data : VTable)
    (h : C09.Good (C09.Ext.triv W) L (enter vars st) (.err e s1)) : Ends L vars st (.err e data (leave vars st s1)) := by
  cases vars with
  | none => exact ⟨⟨h.1.1, h.2⟩, fun _ hv => nomatch hv⟩
  | some vs => cases e <;> exact ⟨⟨h.1.1, h.2⟩, fun _ _ hs => by cases hs; rfl⟩

theorem ends_rows (C : Ctx W) (e : Expr) (vars : Option VRow) (data : VTable) (st : State W)
    (f g : List (Value × W) → VTable) :
    Ends C.cfg.maxStatements vars st
      (match runRows (evalRow C e) data (enter vars st) with
       | .ok vs st' => .ok (f vs) (leave vars st st')
       | .err er vs st' => .err er (g vs) (leave vars st st')
       | .keyErr s => .keyErr (leave vars st s)
       | .oof => .oof) := by
  have hg := runRows_good C.cfg.maxStatements (evalRow C e) (evalRow_good C e) data (enter vars st)
  cases hr : runRows (evalRow C e) data (enter vars st) with
  | oof => exact ⟨trivial, fun _ _ hs => nomatch hs⟩
  | ok vs s1 => rw [hr] at hg; exact (ends_ok _ hg).1
  | err er vs s1 => rw [hr] at hg; exact ends_err _ hg
  | keyErr s => rw [hr] at hg; exact (ends_ok [] hg).2

theorem ends_join (C : Ctx W) (eL eR : Expr) (flag : Bool) (vars : Option VRow) (data right : VTable) (st : State W) :
    Ends C.cfg.maxStatements vars st (joinCore C eL eR flag vars data right st) := by
  obtain ⟨names, -, hj⟩ := join_expr_spec C eL eR flag vars data right st
  rw [hj]
  have h1 := runKeys_good C.cfg.maxStatements (evalRow C eR) (evalRow_good C eR) C.key right (enter vars st)
  cases hr : runKeys (evalRow C eR) C.key right (enter vars st) with
  | oof => exact ⟨trivial, fun _ _ hs => nomatch hs⟩
  | err er ks s1 => rw [hr] at h1; exact ends_err _ h1
  | keyErr s => rw [hr] at h1; exact (ends_ok [] h1).2
  | ok kR s1 =>
    rw [hr] at h1
    have h2 := runKeys_good C.cfg.maxStatements (evalRow C eL) (evalRow_good C eL) C.key data s1
    dsimp only
    cases hl : runKeys (evalRow C eL) C.key data s1 with
    | oof => exact ⟨trivial, fun _ _ hs => nomatch hs⟩
    | err er ks s2 => rw [hl] at h2; exact ends_err _ (C09.Good.trans h1 h2)
    | keyErr s => rw [hl] at h2; exact (ends_ok [] (C09.Good.trans h1 h2)).2
    | ok kL s2 => rw [hl] at h2; exact (ends_ok _ (C09.Good.trans h1 h2)).1

theorem ends_all (C : Ctx W) (text : String) (vars : Option VRow) (data right : VTable) (st : State W) :
    Ends C.cfg.maxStatements vars st (dataFilter C text vars data st) ∧
    (∀ field, Ends C.cfg.maxStatements vars st (dataCalculatedField C field text vars data st)) ∧
    (∀ textR flag, Ends C.cfg.maxStatements vars st (dataJoin C text textR flag vars data right st)) := by
  have hp : ∀ pe, Ends C.cfg.maxStatements vars st (.parseErr pe) := fun _ => ⟨trivial, fun _ _ hs => nomatch hs⟩
  refine ⟨?_, fun field => ?_, fun textR flag => ?_⟩
  · rw [filter_expr_spec]
    cases ExprParse.parseExpr text with
    | error pe => exact hp pe
    | ok e => exact ends_rows C e vars data st _ (fun _ => data)
  · rw [calc_expr_spec]
    cases ExprParse.parseExpr text with
    | error pe => exact hp pe
    | ok e => exact ends_rows C e vars data st _ _
  · unfold dataJoin
    cases ExprParse.parseExpr text with
    | error pe => exact hp pe
    | ok eL =>
      cases textR with
      | none => exact ends_join C eL eL flag vars data right st
      | some t =>
        dsimp only
        cases ExprParse.parseExpr t with
        | error pe => exact hp pe
        | ok eR => exact ends_join C eL eR flag vars data right st

/-- **data_expr_counts.**  Across a call of any of the three data functions — whatever the expression calls: script functions, library
functions with call-backs — the statement counter never decreases (the statements run by script functions the expression called are
counted, and with `variables` the count is carried back to the caller: `leave`); under a positive budget `L` a call that starts
within the budget ends within it, and the budget error is raised with the counter at exactly `L + 1` (ties to C09). -/
theorem data_expr_counts (C : Ctx W) (text : String) (vars : Option VRow) (data right : VTable) (st : State W) :
    CountOk C.cfg.maxStatements st (dataFilter C text vars data st) ∧
    (∀ field, CountOk C.cfg.maxStatements st (dataCalculatedField C field text vars data st)) ∧
    (∀ textR flag, CountOk C.cfg.maxStatements st (dataJoin C text textR flag vars data right st)) :=
  have h := ends_all C text vars data right st
  ⟨h.1.1, fun field => (h.2.1 field).1, fun textR flag => (h.2.2 textR flag).1⟩

/-- **data_expr_globals.**  With a `variables` object the caller's globals are exactly what they were, however the call ends: global
writes made during the evaluation (`systemGlobalSet`, assignments in script functions) went to the merged copy.  (Without
`variables` the globals after the call are those of the fold's final state: `filter_expr_spec` &c. with `leave none`.) -/
theorem data_expr_globals (C : Ctx W) (text : String) (vs : VRow) (data right : VTable) (st : State W) :
    (∀ s', DOut.state? (dataFilter C text (some vs) data st) = some s' → s'.globals = st.globals) ∧
    (∀ field s', DOut.state? (dataCalculatedField C field text (some vs) data st) = some s' → s'.globals = st.globals) ∧
    (∀ textR flag s', DOut.state? (dataJoin C text textR flag (some vs) data right st) = some s' → s'.globals = st.globals) :=
  have h := ends_all C text (some vs) data right st
  ⟨fun s' => h.1.2 s' rfl, fun field s' => (h.2.1 field).2 s' rfl, fun textR flag s' => (h.2.2 textR flag).2 s' rfl⟩

/-- **filter_print_roundtrip.**  For every printable tree `e` (`C02.Printable`, decidable; any depth, operators, calls, names, strings):
`dataFilter rows (printExpr e)` filters by `evalExpr e` — and so by the fold of `filter_expr_spec` with that very tree. -/
theorem filter_print_roundtrip (C : Ctx W) (e : Expr) (h : C02.Printable e) (vars : Option VRow) (data : VTable) (st : State W) :
    dataFilter C (Print.printExpr e) vars data st = filterCore C e vars data st := by
  simp [dataFilter, C02.parse_print e h]

theorem calc_print_roundtrip (C : Ctx W) (field : String) (e : Expr) (h : C02.Printable e) (vars : Option VRow) (data : VTable) (st : State W) :
    dataCalculatedField C field (Print.printExpr e) vars data st = calcCore C field e vars data st := by
  simp [dataCalculatedField, C02.parse_print e h]

theorem join_print_roundtrip (C : Ctx W) (eL eR : Expr) (hL : C02.Printable eL) (hR : C02.Printable eR) (flag : Bool) (vars : Option VRow)
    (L R : VTable) (st : State W) :
    dataJoin C (Print.printExpr eL) (some (Print.printExpr eR)) flag vars L R st = joinCore C eL eR flag vars L R st ∧
    dataJoin C (Print.printExpr eL) none flag vars L R st = joinCore C eL eL flag vars L R st := by
  simp [dataJoin, C02.parse_print eL hL, C02.parse_print eR hR]

section Examples
open HostImpl

def exC : Ctx World := { cfg := { host := X.host, funs := fun _ => none, maxStatements := 100 }, fuel := 10, key := X.key }
def exSt : State World := { globals := [(.user "lim", .num 1), (.user "a", .num 100)], world := {}, count := 7 }
def exData : VTable := [[("a", .num 3), ("b", .str "x")], [("b", .str "y")], [("a", .num 0)], [("a", .num 2), ("len", .num 5)]]
/-- `a > lim` -/
def exE : Expr := .binary .gt (.variable (.user "a")) (.variable (.user "lim"))

/-- the hypotheses are inhabited: a call-free, printable tree; its text parses -/
example : Lint.isPointless exE = true := rfl
example : C02.Printable exE := by decide +kernel
example : Print.printExpr exE = "a > lim" := by kernel_rfl
example : ExprParse.parseExpr "a > lim" = .ok exE := by kernel_rfl
/-- … and a text the parser rejects -/
example : ExprParse.parseExpr "a > " = .error ⟨"Syntax error", 4⟩ := by kernel_rfl

/-- the row's `a` shadows the global `a = 100`; the row without `a` falls back to the global; a variable `a = 0` shadows the global
(rows are identified by their number of fields) -/
example : (match dataFilter exC "a" none exData exSt with | .ok res _ => List.map List.length res | _ => []) = [2, 1, 2] := by decide +kernel
example : (match dataFilter exC "a" (some [("a", .num 0)]) exData exSt with | .ok res _ => List.map List.length res | _ => []) = [2, 2] := by
  decide +kernel
/-- a field named `len` is the function of `len(…)` on that row (calling the number 5 gives null); elsewhere the built-in -/
example : (match dataCalculatedField exC "m" "len(b)" none exData exSt with
    | .ok res _ => List.map (rowGet? "m") res | _ => []) = [some (.num 1), some (.num 1), some (.num 0), some .null] := by decide +kernel
example : (match dataFilter exC "nope(a)" none exData exSt with | .err e _ s => some (e, s.count) | _ => none) =
    some (.undefinedFunction (.user "nope"), 7) := by kernel_rfl

end Examples

end C19Expr
