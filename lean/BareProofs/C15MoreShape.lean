import BareModel.LibMore
import BareProofs.C15Lemmas

/-!
# C15More — the shape of a validated argument list

`validate h ms args = some va` gives, for the documented signatures, a list `va` of exactly the shape the bodies match on
(`[.one (.arr r), .one (.num q)]`, …): the fall-through branches `| _, _ => .unmodelled` of the bodies are unreachable, and a number
validated against an index model (integral, `≥ 0`) is `ofNat n`.
Generic statement `validate_pats` (any list of *regular* argument models), then `docSigAll_regular` (all documented signatures
are regular, by evaluation).
-/

namespace C15More
open Lib LibMore

/-- what a validated argument looks like -/
inductive Pat where
  | A   -- `.one (.arr _)`
  | O   -- `.one (.obj _)`
  | S   -- `.one (.str _)`
  | I   -- `.one (.num (ofNat _))`: an index
  | V   -- `.one _`
  | M   -- `.many _`
  | IN  -- `.one .null` or an index
  | FN  -- `.one .null` or `.one (.fn _)`
deriving DecidableEq, Repr

/-- an integral number `≥ 0` -/
def isNatQ (q : Rat) : Bool := isIntegral q && decide (0 ≤ q.num)

theorem natQ {q : Rat} (h : isNatQ q = true) : ∃ n : Nat, q = ofNat n := by
  simp only [isNatQ, isIntegral, Bool.and_eq_true, beq_iff_eq, decide_eq_true_eq] at h
  exact ⟨q.num.toNat, Rat.ext (by show q.num = ((q.num.toNat : Nat) : Int); omega) h.1⟩

def Pat.ok : Pat → VArg → Bool
  | .A, .one (.arr _) => true
  | .O, .one (.obj _) => true
  | .S, .one (.str _) => true
  | .I, .one (.num q) => isNatQ q
  | .V, .one _ => true
  | .M, .many _ => true
  | .IN, .one .null => true
  | .IN, .one (.num q) => isNatQ q
  | .FN, .one .null => true
  | .FN, .one (.fn _) => true
  | _, _ => false

def patsOK : List Pat → List VArg → Bool
  | [], [] => true
  | p :: ps, x :: xs => p.ok x && patsOK ps xs
  | _, _ => false

/-- an index model: integral, `≥ 0`, and so is its default -/
def isIdx (m : Gen.ArgModel) : Bool :=
  m.integer && m.gte == some 0 &&
  match m.default.bind parseDefault with
  | none => true
  | some d => Pat.ok .I (.one d)

/-- the pattern an argument model guarantees -/
def patOf (m : Gen.ArgModel) : Pat :=
  if m.lastArgArray then .M
  else match m.type with
    | none => .V
    | some t =>
      if t == "array" then .A else if t == "object" then .O else if t == "string" then .S
      else if t == "number" then (if isIdx m then (if m.nullable then .IN else .I) else .V)
      else if t == "function" then .FN
      else .V

/-- the argument models for which `patOf` is guaranteed: containers and strings are required (no default, not nullable), a number's
default is a number, a function has no default and may be null -/
def Regular (m : Gen.ArgModel) : Bool :=
  m.lastArgArray ||
  match m.type with
  | none => true
  | some t =>
    if t == "array" || t == "object" || t == "string" then m.default.isNone && !m.nullable
    else if t == "number" then
      (match m.default.bind parseDefault with
      | none => true
      | some d => isNum d)
    else if t == "function" then m.default.isNone && m.nullable
    else t != "boolean"

/-- the arguments of a pattern, handed to a continuation: `Pat.K .A Q` is `∃ r, Q (.one (.arr r))` -/
def Pat.K : Pat → (VArg → Prop) → Prop
  | .A, Q => ∃ r, Q (.one (.arr r))
  | .O, Q => ∃ r, Q (.one (.obj r))
  | .S, Q => ∃ s, Q (.one (.str s))
  | .I, Q => ∃ n : Nat, Q (.one (.num (Lib.ofNat n)))
  | .V, Q => ∃ v, Q (.one v)
  | .M, Q => ∃ vs, Q (.many vs)
  | .IN, Q => Q (.one .null) ∨ ∃ n : Nat, Q (.one (.num (Lib.ofNat n)))
  | .FN, Q => Q (.one .null) ∨ ∃ i, Q (.one (.fn i))

theorem Pat.K_of_ok {p : Pat} {x : VArg} {Q : VArg → Prop} (h : p.ok x = true) (hQ : Q x) : p.K Q := by
  cases p <;> cases x with
  | one v =>
    cases v <;> simp only [Pat.ok, Bool.false_eq_true] at h <;> simp only [Pat.K] <;>
      first | exact ⟨_, hQ⟩ | exact .inl hQ | exact .inr ⟨_, hQ⟩ | skip
    -- left: a number under `.I` or `.IN`
    all_goals obtain ⟨n, rfl⟩ := natQ h; first | exact ⟨n, hQ⟩ | exact .inr ⟨n, hQ⟩
  | many vs => simp only [Pat.ok, Bool.false_eq_true] at h <;> exact ⟨_, hQ⟩

/-- the argument lists of a shape, by their entries: `ShapedK [.A, .I] K` is `∃ r n, K [.one (.arr r), .one (.num (ofNat n))]` -/
def ShapedK : List Pat → (List VArg → Prop) → Prop
  | [], K => K []
  | p :: ps, K => p.K fun x => ShapedK ps fun xs => K (x :: xs)

/-- `patsOK` in the form `rintro` takes apart -/
def Shaped (ps : List Pat) (va : List VArg) : Prop := ShapedK ps fun xs => va = xs

theorem shapedK : ∀ (ps : List Pat) (xs : List VArg) (K : List VArg → Prop), patsOK ps xs = true → K xs → ShapedK ps K
  | [], [], _, _, hK => hK
  | [], _ :: _, _, h, _ => by simp [patsOK] at h
  | _ :: _, [], _, h, _ => by simp [patsOK] at h
  | p :: ps, x :: xs, K, h, hK => by
    simp only [patsOK, Bool.and_eq_true] at h
    exact Pat.K_of_ok h.1 (shapedK ps xs _ h.2 hK)

theorem shaped {ps : List Pat} {va : List VArg} (h : patsOK ps va = true) : Shaped ps va := shapedK ps va _ h rfl

theorem ok_V_one (v : Value) : Pat.ok .V (.one v) = true := by cases v <;> rfl

theorem typeBad_false {t : String} {a : Value} (h : typeBad t a = false) :
    ((t == "number") = true → isNum a = true) ∧ ((t == "string") = true → isStr a = true) ∧
    ((t == "array") = true → isArr a = true) ∧ ((t == "object") = true → isObj a = true) ∧
    ((t == "function") = true → isFn a = true) := by
  simp only [typeBad, Bool.or_eq_false_iff, Bool.and_eq_false_imp, Bool.not_eq_eq_eq_not, Bool.not_false] at h
  exact ⟨h.1.1.1.1.1.1, h.1.1.1.1.1.2, h.1.1.1.1.2, h.1.1.1.2, h.2⟩

theorem checkArg_inv {h : Heap} {m : Gen.ArgModel} {t : String} {a v : Value} (ht : m.type = some t)
    (hb : (t == "boolean") = false) (hc : checkArg h m a = some v) :
    v = a ∧ ((a = .null ∧ m.nullable = true) ∨
      (typeBad t a = false ∧ ∀ q, a = .num q → (t == "number") = true → numBad m q = false)) := by
  unfold checkArg at hc
  simp only [ht, hb, Bool.false_eq_true, if_false] at hc
  cases a with
  | null =>
    simp only at hc
    split at hc
    · exact ⟨(Option.some.inj hc).symm, .inl ⟨rfl, ‹_›⟩⟩
    · cases hc
  | num q =>
    simp only at hc
    split at hc
    · cases hc
    · split at hc
      · cases hc
      · rename_i hnb
        refine ⟨(Option.some.inj hc).symm, .inr ⟨Bool.eq_false_iff.mpr ‹_›, fun q' hq hn => ?_⟩⟩
        cases hq
        simpa [hn] using hnb
  | _ =>
    simp only at hc
    split at hc
    · cases hc
    · exact ⟨(Option.some.inj hc).symm, .inr ⟨Bool.eq_false_iff.mpr ‹_›, nofun⟩⟩

theorem one_pat {m : Gen.ArgModel} {t : String} {v : Value} (hr : Regular m = true) (hl : m.lastArgArray = false)
    (ht : m.type = some t)
    (hv : m.default.bind parseDefault = some v ∨ (v = .null ∧ m.nullable = true) ∨
      (typeBad t v = false ∧ ∀ q, v = .num q → (t == "number") = true → numBad m q = false)) :
    (patOf m).ok (.one v) = true := by
  -- a required argument (no default, not nullable) passed the type test
  have req : m.default = none ∧ m.nullable = false → typeBad t v = false := by
    rintro ⟨hd, hn⟩
    rcases hv with hd' | ⟨_, hn'⟩ | hty
    · rw [hd] at hd'; cases hd'
    · rw [hn] at hn'; cases hn'
    · exact hty.1
  unfold Regular at hr
  unfold patOf
  simp only [hl, ht, Bool.false_or, Bool.false_eq_true, if_false] at hr ⊢
  by_cases h1 : (t == "array") = true
  · simp only [h1, Bool.true_or, if_true, Bool.and_eq_true, Option.isNone_iff_eq_none, Bool.not_eq_true'] at hr ⊢
    have := (typeBad_false (req hr)).2.2.1 h1
    cases v <;> first | rfl | cases this
  by_cases h2 : (t == "object") = true
  · simp only [h1, h2, Bool.true_or, Bool.or_true, if_true, Bool.and_eq_true, Option.isNone_iff_eq_none, Bool.not_eq_true',
      Bool.false_eq_true, if_false] at hr ⊢
    have := (typeBad_false (req hr)).2.2.2.1 h2
    cases v <;> first | rfl | cases this
  by_cases h3 : (t == "string") = true
  · simp only [h1, h2, h3, Bool.or_true, if_true, Bool.and_eq_true, Option.isNone_iff_eq_none, Bool.not_eq_true',
      Bool.false_eq_true, if_false] at hr ⊢
    have := (typeBad_false (req hr)).2.1 h3
    cases v <;> first | rfl | cases this
  simp only [h1, h2, h3, Bool.or_false, Bool.false_eq_true, if_false] at hr ⊢
  by_cases h4 : (t == "number") = true
  · simp only [h4, if_true] at hr ⊢
    by_cases hi : isIdx m = true
    · rw [if_pos hi]
      -- an index is also a nullable index
      have hIN : ∀ w, Pat.ok .I (.one w) = true → (if m.nullable = true then Pat.IN else Pat.I).ok (.one w) = true := by
        intro w hw
        split
        · cases w <;> first | exact hw | cases hw
        · exact hw
      simp only [isIdx, Bool.and_eq_true, beq_iff_eq] at hi
      rcases hv with hd | ⟨rfl, hn⟩ | ⟨hty, hnb⟩
      · rw [hd] at hi
        exact hIN v hi.2
      · rw [hn]; rfl
      · have := (typeBad_false hty).1 h4
        cases v <;> first | cases this | skip
        rename_i q
        -- the number passed the tests `integer` and `gte 0`
        have hq := hnb q rfl h4
        simp only [numBad, hi.1.1, hi.1.2, boundBad, Bool.true_and, Bool.or_eq_false_iff, Bool.not_eq_false'] at hq
        refine hIN _ (show isNatQ q = true from ?_)
        simp only [isNatQ, Bool.and_eq_true, decide_eq_true_eq]
        exact ⟨hq.1.1.1.1, by simpa [rle, Rat.ofInt] using hq.2⟩
    · rw [if_neg hi]; exact ok_V_one v
  simp only [h4, Bool.false_eq_true, if_false] at hr ⊢
  by_cases h5 : (t == "function") = true
  · simp only [h5, if_true, Bool.and_eq_true, Option.isNone_iff_eq_none] at hr ⊢
    rcases hv with hd | ⟨rfl, _⟩ | hty
    · rw [hr.1] at hd; cases hd
    · rfl
    · have := (typeBad_false hty.1).2.2.2.2 h5
      cases v <;> first | rfl | cases this
  simp only [h5, Bool.false_eq_true, if_false]
  exact ok_V_one v

theorem patOf_boolean {m : Gen.ArgModel} (hl : m.lastArgArray = false) (ht : m.type = some "boolean") : patOf m = .V := by
  unfold patOf
  simp only [hl, ht, Bool.false_eq_true, if_false]
  rfl

theorem checkArg_pat {h : Heap} {m : Gen.ArgModel} (hr : Regular m = true) (hl : m.lastArgArray = false) {a v : Value}
    (hc : checkArg h m a = some v) : (patOf m).ok (.one v) = true := by
  cases ht : m.type with
  | none => unfold patOf; simp only [hl, ht, Bool.false_eq_true, if_false]; exact ok_V_one v
  | some t =>
    by_cases hb : (t == "boolean") = true
    · obtain rfl : t = "boolean" := by simpa using hb
      rw [patOf_boolean hl ht]; exact ok_V_one v
    · obtain ⟨rfl, hv⟩ := checkArg_inv ht (by simpa using hb) hc
      exact one_pat hr hl ht (.inr hv)

theorem missingArg_pat {m : Gen.ArgModel} (hr : Regular m = true) {x : VArg} (hm : missingArg m = some x) :
    (patOf m).ok x = true := by
  rcases C15.missingArg_inv hm with ⟨hl, rfl⟩ | ⟨hl, v, rfl, hv⟩
  · unfold patOf
    rw [if_pos hl]
    rfl
  · cases ht : m.type with
    | none => unfold patOf; simp only [hl, ht, Bool.false_eq_true, if_false]; exact ok_V_one v
    | some t =>
      rcases hv with hd | ⟨hb, -⟩ | ⟨rfl, hn⟩
      · exact one_pat hr hl ht (.inl hd)
      · rw [patOf_boolean hl hb]; exact ok_V_one v
      · rcases hn with hn | hn
        · rw [ht] at hn; cases hn
        · exact one_pat hr hl ht (.inr (.inl ⟨rfl, hn⟩))

/-- **validated shape.** A validated argument list has one entry per argument model, of the pattern the model guarantees. -/
theorem validate_pats (h : Heap) : ∀ (ms : List Gen.ArgModel) (args : List Value) (va : List VArg),
    ms.all Regular = true → validate h ms args = some va → patsOK (ms.map patOf) va = true
  | [], [], va, _, hv => by simp only [validate, Option.some.injEq] at hv; subst hv; rfl
  | [], _ :: _, va, _, hv => by simp [validate] at hv
  | m :: ms, args, va, hr, hv => by
    simp only [List.all_cons, Bool.and_eq_true] at hr
    obtain ⟨x, rest, args', rfl, hrest, hx⟩ := C15.validate_cons hv
    simp only [List.map_cons, patsOK, Bool.and_eq_true]
    refine ⟨?_, validate_pats h ms args' rest hr.2 hrest⟩
    rcases hx with ⟨_, _, hm⟩ | ⟨hl, _, _, _, _, rfl⟩ | ⟨hl, _, _, _, hc, rfl⟩
    · exact missingArg_pat hr.1 hm
    · simp [patOf, hl, Pat.ok]
    · exact checkArg_pat hr.1 hl hc

/-- every documented signature consists of regular argument models -/
theorem docSigAll_regular : ∀ p ∈ docSigAll, p.2.all Regular = true := by decide +kernel

end C15More
