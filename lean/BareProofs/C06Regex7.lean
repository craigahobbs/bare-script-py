import BareProofs.C06Regex6
import BareProofs.C06Regex7Lemmas

/-!
# C06Regex7 — the expression token scanners of `ExprScan` ARE the `_R_EXPR_*` patterns; `parse_expression` is regex driven

For each token scanner: `scanner t = parser.py's reading of (Rx.matchAt <pinned AST> t)`, for ALL texts `t` (these patterns use
neither `.` nor `$`: a `'\n'` is an ordinary `\s` character, no side condition).
-/

namespace C06Regex
open Rx Text RxPatterns

/-! ## operators -/

/-- does every alternative start with a non-blank? -/
def headsNonSpace {α : Type} (L : List (List Char × α)) : Bool :=
  L.all fun x => match x.1 with | y :: _ => !isSpace y | [] => false

theorem firstAlt_space {α : Type} : ∀ (L : List (List Char × α)), headsNonSpace L = true → ∀ (c : Char) (r : List Char),
    isSpace c = true → ExprScan.firstAlt L (c :: r) = none
  | [], _, c, r, _ => rfl
  | (p, a) :: rest, h, c, r, hc => by
    simp only [headsNonSpace, List.all_cons, Bool.and_eq_true] at h
    rw [ExprScan.firstAlt]
    cases p with
    | nil => simp at h
    | cons y ys =>
      have hy : ¬ y = c := fun e => by
        have := h.1; simp only [] at this; rw [e, hc] at this; simp at this
      simp only [ExprScan.stripPrefix?, hy, if_false]
      exact firstAlt_space rest h.2 c r hc

/-- **operator tokens** `^\s*(alt₁|alt₂|…)` of literal alternatives: `ExprScan.firstAlt` on the text without its leading blanks
= the engine on the AST + `match.group(1)` read through `read` -/
theorem opToken {α : Type} (a0 : (Bool × Char) × List (Bool × Char) × α) (rest : List ((Bool × Char) × List (Bool × Char) × α))
    (read : Chars → Option α) (hread : ∀ x ∈ plainAlts (a0 :: rest), read x.1 = some x.2)
    (hns : headsNonSpace (plainAlts (a0 :: rest)) = true) (t : Chars) :
    ExprScan.firstAlt (plainAlts (a0 :: rest)) (ExprScan.skipWs t) =
      ((Rx.bol ⬝ ws ⬝ Rx.cap 1 none (altsLit a0 rest)).m ⟨0, t, []⟩ some).bind fun st =>
        (st.group t 1).bind fun g => (read g).map (·, st.rest) := by
  have hk : ∀ (p : Nat) (s : St), ((fun st' : St => some (⟨st'.pos, st'.rest, (1, p, st'.pos) :: st'.caps⟩ : St)) s).isSome = true :=
    fun _ _ => rfl
  rw [skipWs_eq, lead]
  · rw [cap_m, altsLit_m _ (hk _)]
    simp only []
    cases hf : ExprScan.firstAlt (plainAlts (a0 :: rest)) (lstripL t) with
    | none => rfl
    | some ar =>
      obtain ⟨a, r⟩ := ar
      obtain ⟨p, hp, e⟩ := C02.firstAlt_spec _ _ _ _ hf
      have hl := congrArg List.length e
      simp only [List.length_append] at hl
      have hg : slice t ((t.takeWhile isSpace).length, (t.takeWhile isSpace).length + ((lstripL t).length - r.length)) = p :=
        slice_prefix t _ _ p r (by rw [drop_ind]; exact e) (by omega)
      simp [St.group, St.span, List.lookup, hg, hread (p, a) hp]
  · intro st ⟨c, r, hr, hc⟩
    show (Rx.cap 1 none (altsLit a0 rest)).m st some = none
    rw [cap_m, altsLit_m _ (hk _), hr, firstAlt_space _ hns c r hc]

def binOpLits : ((Bool × Char) × List (Bool × Char) × BinOp) × List ((Bool × Char) × List (Bool × Char) × BinOp) :=
  (((true, '*'), [(true, '*')], .pow),
   [((true, '*'), [], .mul), ((true, '/'), [], .div), ((false, '%'), [], .mod), ((true, '+'), [], .add), ((false, '-'), [], .sub),
    ((false, '<'), [(false, '=')], .le), ((false, '<'), [], .lt), ((false, '>'), [(false, '=')], .ge), ((false, '>'), [], .gt),
    ((false, '='), [(false, '=')], .eq), ((false, '!'), [(false, '=')], .ne), ((false, '&'), [(false, '&')], .and),
    ((true, '|'), [(true, '|')], .or)])

def unOpLits : ((Bool × Char) × List (Bool × Char) × UnOp) × List ((Bool × Char) × List (Bool × Char) × UnOp) :=
  (((false, '!'), [], .not), [((false, '-'), [], .neg)])

/-- `UnOp` of its text -/
def unOpOfText (g : Chars) : Option UnOp := [UnOp.not, UnOp.neg].find? (fun o => o.text == String.ofList g)

/-- `_R_EXPR_BINARY_OP.match(text)`: `group(1)` → operator, `text[len(group(0)):]` -/
def rxScanBinOp (t : Chars) : Option (BinOp × Chars) :=
  (matchAt exprBinaryOp t).bind fun st => (st.group t 1).bind fun g => (BinOp.ofText (String.ofList g)).map (·, st.rest)

/-- `_R_EXPR_UNARY_OP.match(text)` -/
def rxScanUnaryOp (t : Chars) : Option (UnOp × Chars) :=
  (matchAt exprUnaryOp t).bind fun st => (st.group t 1).bind fun g => (unOpOfText g).map (·, st.rest)

/-- **`_R_EXPR_BINARY_OP`** `^\s*(\*\*|\*|\/|%|\+|-|<=|<|>=|>|==|!=|&&|\|\|)` -/
theorem binOp_regex (t : Chars) : ExprScan.scanBinOp t = rxScanBinOp t := by
  have hast : exprBinaryOp = Rx.bol ⬝ ws ⬝ Rx.cap 1 none (altsLit binOpLits.1 binOpLits.2) := rfl
  have hplain : plainAlts (binOpLits.1 :: binOpLits.2) = ExprScan.binOpAlts := rfl
  unfold ExprScan.scanBinOp rxScanBinOp matchAt matchFrom
  rw [hast, ← hplain]
  exact opToken _ _ (fun g => BinOp.ofText (String.ofList g)) (by decide +kernel) (by decide +kernel) t

/-- **`_R_EXPR_UNARY_OP`** `^\s*(!|-)` -/
theorem unaryOp_regex (t : Chars) : ExprScan.scanUnaryOp t = rxScanUnaryOp t := by
  have hast : exprUnaryOp = Rx.bol ⬝ ws ⬝ Rx.cap 1 none (altsLit unOpLits.1 unOpLits.2) := rfl
  have hplain : plainAlts (unOpLits.1 :: unOpLits.2) = ExprScan.unOpAlts := rfl
  unfold ExprScan.scanUnaryOp rxScanUnaryOp matchAt matchFrom
  rw [hast, ← hplain]
  exact opToken _ _ unOpOfText (by decide +kernel) (by decide +kernel) t

/-! ## single-character tokens -/

/-- `^\s*c` for a non-blank literal: rest of the text -/
theorem charToken (e : Bool) (c : Char) (hc : isSpace c = false) (t : Chars) :
    ExprScan.scanChar c t = ((Rx.bol ⬝ ws ⬝ Rx.one (.lit e c)).m ⟨0, t, []⟩ some).map (·.rest) := by
  unfold ExprScan.scanChar
  rw [skipWs_eq, lead _ _ _ (avoids_lit e hc some), one_m', step_lit]
  cases lstripL t with
  | nil => rfl
  | cons x r => by_cases hx : x = c <;> simp [hx]

def rxScanGroupOpen (t : Chars) : Option Chars := (matchAt exprGroupOpen t).map (·.rest)
def rxScanClose (t : Chars) : Option Chars := (matchAt exprClose t).map (·.rest)
def rxScanComma (t : Chars) : Option Chars := (matchAt exprFunctionSeparator t).map (·.rest)

/-- **`_R_EXPR_GROUP_OPEN`** `^\s*\(` -/
theorem groupOpen_regex (t : Chars) : ExprScan.scanGroupOpen t = rxScanGroupOpen t :=
  charToken true '(' (by decide) t
/-- **`_R_EXPR_GROUP_CLOSE` / `_R_EXPR_FUNCTION_CLOSE`** `^\s*\)` -/
theorem close_regex (t : Chars) : ExprScan.scanClose t = rxScanClose t := charToken true ')' (by decide) t
/-- **`_R_EXPR_FUNCTION_SEPARATOR`** `^\s*,` -/
theorem comma_regex (t : Chars) : ExprScan.scanComma t = rxScanComma t := charToken false ',' (by decide) t

/-! ## identifiers -/

def rxScanVariable (t : Chars) : Option (Chars × Chars) :=
  (matchAt exprVariable t).bind fun st => (st.group t 1).map (·, st.rest)

def rxScanFuncOpen (t : Chars) : Option (Chars × Chars) :=
  (matchAt exprFunctionOpen t).bind fun st => (st.group t 1).map (·, st.rest)

theorem scanVariable_eq (t : Chars) : ExprScan.scanVariable t = Scan.ident? (lstripL t) := by
  unfold ExprScan.scanVariable
  rw [skipWs_eq, exIdStart_eq, exIsWord_eq]
  rfl

theorem scanFuncOpen_eq (t : Chars) :
    ExprScan.scanFuncOpen t = (Scan.ident? (lstripL t)).bind fun nr =>
      match lstripL nr.2 with
      | d :: r2 => if d = '(' then some (nr.1, r2) else none
      | [] => none := by
  rw [C02.scanFuncOpen_eq, scanVariable_eq]
  congr 1; funext nr
  unfold ExprScan.scanChar
  rw [skipWs_eq]
  cases lstripL nr.2 with
  | nil => rfl
  | cons d r2 => by_cases hd : d = '(' <;> simp [hd]

/-- **`_R_EXPR_VARIABLE`** `^\s*([A-Za-z_]\w*)` -/
theorem variable_regex (t : Chars) : ExprScan.scanVariable t = rxScanVariable t := by
  unfold rxScanVariable matchAt matchFrom exprVariable
  rw [scanVariable_eq, lead _ _ _ (avoids_cap_ident _ _ _), cap_m,
    ident_first _ _ (fun _ => rfl)]
  cases hi : Scan.ident? (lstripL t) with
  | none => rfl
  | some nr =>
    have hg := slice_prefix t (t.takeWhile isSpace).length _ nr.1 nr.2 (by rw [drop_ind]; exact C10.ident?_decomp hi) rfl
    simp [St.group, St.span, List.lookup, hg]

/-- **`_R_EXPR_FUNCTION_OPEN`** `^\s*([A-Za-z_]\w*)\s*\(` -/
theorem funcOpen_regex (t : Chars) : ExprScan.scanFuncOpen t = rxScanFuncOpen t := by
  unfold rxScanFuncOpen matchAt matchFrom exprFunctionOpen elit
  rw [scanFuncOpen_eq, lead _ _ _ ((avoids_cap_ident _ _).seq _ _), seq_m,
    cap_ident_det _ _ _ _ (rejects_ws_lit_end isWord true '(' (word_ne (by decide)) _)]
  cases hi : Scan.ident? (lstripL t) with
  | none => rfl
  | some nr =>
    have hg := slice_prefix t (t.takeWhile isSpace).length _ nr.1 nr.2 (by rw [drop_ind]; exact C10.ident?_decomp hi) rfl
    simp only [Option.bind_some]
    rw [ws_lit_end true '(' (by decide)]
    simp only []
    cases lstripL nr.2 with
    | nil => rfl
    | cons d r2 =>
      by_cases hd : d = '('
      · simp [hd, St.group, St.span, List.lookup, hg]
      · simp [hd]

/-! ## the expression parser, parametric in its token scanners -/

/-- the token scanners `ExprParse` calls -/
structure Scanners where
  binOp : Chars → Option (BinOp × Chars)
  unaryOp : Chars → Option (UnOp × Chars)
  groupOpen : Chars → Option Chars
  close : Chars → Option Chars
  comma : Chars → Option Chars
  funcOpen : Chars → Option (Chars × Chars)
  number : Chars → Option (Rat × Chars)
  string : Char → Chars → Option (Chars × Chars)
  var : Chars → Option (Chars × Chars)
  varEx : Chars → Option (Chars × Chars)

open ExprParse in
/-- `ExprParse.chainLoop` (the text of `ExprParse.lean`) over `S` -/
def chainLoopW (S : Scanners) (pu : List Char → Res (Expr × List Char)) : Nat → Expr → List Char → Res (Expr × List Char)
  | 0, l, t =>
    match S.binOp t with
    | none => .ok (l, t)
    | some _ => .error (fuelMsg, t)
  | n + 1, l, t =>
    match S.binOp t with
    | none => .ok (l, t)
    | some (op, rt) =>
      match pu rt with
      | .error e => .error e
      | .ok (r, nt) => chainLoopW S pu n (insR l op r) nt

open ExprParse in
def binaryWithW (S : Scanners) (pu : List Char → Res (Expr × List Char)) (n : Nat) (text : List Char) : Res (Expr × List Char) :=
  match pu text with
  | .error e => .error e
  | .ok (l, t) => chainLoopW S pu n l t

open ExprParse in
def argsLoopW (S : Scanners) (pb : List Char → Res (Expr × List Char)) : Nat → List Expr → List Char → Res (List Expr × List Char)
  | 0, _, t => .error (fuelMsg, t)
  | n + 1, args, t =>
    match S.close t with
    | some r => .ok (args, r)
    | none =>
      match (if args.isEmpty then some t else S.comma t) with
      | none => .error ("Syntax error", t)
      | some t1 =>
        match pb t1 with
        | .error e => .error e
        | .ok (a, nt) => argsLoopW S pb n (args ++ [a]) nt

open ExprParse in
def parseAtomW (S : Scanners) (text : List Char) : Res (Expr × List Char) :=
  match S.number text with
  | some (q, r) => .ok (.number q, r)
  | none =>
  match S.string '\'' text with
  | some (s, r) => .ok (.string (String.ofList s), r)
  | none =>
  match S.string '"' text with
  | some (s, r) => .ok (.string (String.ofList s), r)
  | none =>
  match S.var text with
  | some (n, r) => .ok (.variable (Name.ofString (String.ofList n)), r)
  | none =>
  match S.varEx text with
  | some (n, r) => .ok (.variable (Name.ofString (String.ofList n)), r)
  | none => .error ("Syntax error", text)

open ExprParse in
def parseUnaryW (S : Scanners) : Nat → List Char → Res (Expr × List Char)
  | 0, text =>
    if (S.groupOpen text).isSome || (S.unaryOp text).isSome || (S.funcOpen text).isSome then .error (fuelMsg, text)
    else parseAtomW S text
  | fuel + 1, text =>
    match S.groupOpen text with
    | some gt =>
      match binaryWithW S (parseUnaryW S fuel) fuel gt with
      | .error e => .error e
      | .ok (e, nt) =>
        match S.close nt with
        | none => .error ("Unmatched parenthesis", text)
        | some r => .ok (.group e, r)
    | none =>
    match S.unaryOp text with
    | some (op, ut) =>
      match parseUnaryW S fuel ut with
      | .error e => .error e
      | .ok (e, nt) => .ok (.unary op e, nt)
    | none =>
    match S.funcOpen text with
    | some (name, argText) =>
      match argsLoopW S (binaryWithW S (parseUnaryW S fuel) fuel) fuel [] argText with
      | .error e => .error e
      | .ok (args, r) => .ok (.function (Name.ofString (String.ofList name)) args, r)
    | none => parseAtomW S text

open ExprParse in
/-- `ExprParse.parseExprL` over `S` (the final `next_text.strip()` test is not a regex and stays) -/
def parseExprLW (S : Scanners) (cs : List Char) : Except ParseErr Expr :=
  match binaryWithW S (parseUnaryW S cs.length) cs.length cs with
  | .ok (e, nt) => if (ExprScan.skipWs nt).isEmpty then .ok e else .error ⟨"Syntax error", cs.length - nt.length + 1⟩
  | .error (msg, line) => .error ⟨msg, cs.length - line.length + 1⟩

/-- the hand-written scanners of `ExprScan` -/
def exS : Scanners :=
  ⟨ExprScan.scanBinOp, ExprScan.scanUnaryOp, ExprScan.scanGroupOpen, ExprScan.scanClose, ExprScan.scanComma, ExprScan.scanFuncOpen,
   ExprScan.scanNumber, ExprScan.scanString, ExprScan.scanVariable, ExprScan.scanVariableEx⟩

theorem chainLoopW_ex (pu : List Char → ExprParse.Res (Expr × List Char)) : ∀ (n : Nat) (l : Expr) (t : List Char),
    chainLoopW exS pu n l t = ExprParse.chainLoop pu n l t
  | 0, l, t => rfl
  | n + 1, l, t => by
    rw [chainLoopW, ExprParse.chainLoop]
    simp only [chainLoopW_ex pu n]
    rfl

theorem binaryWithW_ex (pu : List Char → ExprParse.Res (Expr × List Char)) (n : Nat) (text : List Char) :
    binaryWithW exS pu n text = ExprParse.binaryWith pu n text := by
  unfold binaryWithW ExprParse.binaryWith
  simp only [chainLoopW_ex]
  rfl

theorem argsLoopW_ex (pb : List Char → ExprParse.Res (Expr × List Char)) : ∀ (n : Nat) (args : List Expr) (t : List Char),
    argsLoopW exS pb n args t = ExprParse.argsLoop pb n args t
  | 0, args, t => rfl
  | n + 1, args, t => by
    rw [argsLoopW, ExprParse.argsLoop]
    simp only [argsLoopW_ex pb n]
    rfl

theorem parseAtomW_ex (text : List Char) : parseAtomW exS text = ExprParse.parseAtom text := rfl

theorem parseUnaryW_ex : ∀ (fuel : Nat) (text : List Char), parseUnaryW exS fuel text = ExprParse.parseUnary fuel text
  | 0, text => rfl
  | fuel + 1, text => by
    have ih : parseUnaryW exS fuel = ExprParse.parseUnary fuel := funext (parseUnaryW_ex fuel)
    rw [parseUnaryW, ExprParse.parseUnary, ih]
    simp only [binaryWithW_ex, argsLoopW_ex, parseAtomW_ex,
      show (binaryWithW exS (ExprParse.parseUnary fuel) fuel) = ExprParse.binaryWith (ExprParse.parseUnary fuel) fuel from
        funext (binaryWithW_ex _ _)]
    rfl

theorem parseExprLW_ex (cs : List Char) : parseExprLW exS cs = ExprParse.parseExprL cs := by
  unfold parseExprLW ExprParse.parseExprL ExprParse.parseBinary
  rw [show parseUnaryW exS cs.length = ExprParse.parseUnary cs.length from funext (parseUnaryW_ex _), binaryWithW_ex]
  rfl

/-! ## `parse_expression`, regex driven -/

/-- the token scanners by the engine on the pinned `_R_EXPR_*` ASTs — for the tokens with a proved theorem (operators, group open /
close, comma, function open, variable); `number`, the two string forms and the bracketed variable are here still the
hand-written scanners of `ExprScan` -/
def rxS : Scanners :=
  ⟨rxScanBinOp, rxScanUnaryOp, rxScanGroupOpen, rxScanClose, rxScanComma, rxScanFuncOpen,
   ExprScan.scanNumber, ExprScan.scanString, rxScanVariable, ExprScan.scanVariableEx⟩

theorem exS_eq_rxS : exS = rxS := by
  unfold exS rxS
  rw [show ExprScan.scanBinOp = rxScanBinOp from funext binOp_regex, show ExprScan.scanUnaryOp = rxScanUnaryOp from funext unaryOp_regex,
    show ExprScan.scanGroupOpen = rxScanGroupOpen from funext groupOpen_regex, show ExprScan.scanClose = rxScanClose from funext close_regex,
    show ExprScan.scanComma = rxScanComma from funext comma_regex, show ExprScan.scanFuncOpen = rxScanFuncOpen from funext funcOpen_regex,
    show ExprScan.scanVariable = rxScanVariable from funext variable_regex]

/-- `parse_expression` with the proved token scanners replaced by the engine -/
def rxParseExpr (s : String) : Except ParseErr Expr := parseExprLW rxS s.toList

/-- `ExprParse.parseExpr` = the same parser with the operator, parenthesis, comma, function-open and variable tokens computed by
the backtracking engine on the pinned ASTs — for ALL texts.

`number`, `'…'`, `"…"` and `[…]` follow in `C06Regex8` / `C06Regex9` (`parseExpr_is_regex_driven`). -/
theorem parseExpr_is_regex_driven_partial (s : String) : ExprParse.parseExpr s = rxParseExpr s := by
  unfold ExprParse.parseExpr rxParseExpr
  rw [← parseExprLW_ex, exS_eq_rxS]

/-- `rxParseScript` with the expression parser as a parameter -/
def rxParseScriptWith (pe : String → Except ParseErr Expr) (chunks : List String) (start : Nat := 1) :
    Except Parser.ParserError (List Stmt) :=
  let ll := rxScriptLines chunks
  match stepAllWith rxShape (fun l => rxClassifyL pe l.toList) start (Lower.PState.init, {}) ll.1 with
  | .error e => .error e
  | .ok s => Parser.finishAll start s ll.2

/-- **`parse_script` is regex driven down to the tokens proved so far**: every text / statement scanner AND the operator,
parenthesis, comma, function-open and variable token scanners of `parse_expression` are the engine on the pinned ASTs; for all
inputs, no side condition.  (`_partial`: number, strings and bracketed names here still use the hand-written token scanners.) -/
theorem parseScript_fully_regex_driven_partial (chunks : List String) (start : Nat) :
    Parser.parseScript chunks start = rxParseScriptWith rxParseExpr chunks start := by
  rw [parseScript_is_regex_driven, ← show ExprParse.parseExpr = rxParseExpr from funext parseExpr_is_regex_driven_partial]
  rfl

end C06Regex
