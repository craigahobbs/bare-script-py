import BareModel.HostDiff
import BareProofs.C08

/-!
# C20Prog — the statement list of `diffLines`

`Gen.diffBare` is regenerated from the working tree on every check run (`harness/extract.py: gen_diffbare`): it is what the real
`parse_script` returns for the shipped `include/diff.bare`.  This file records the lowered body of `diffLines` the program-level
proof (`BareProofs/C20Prog.lean`) was written against, as equations between stretches of it and the statements written out —
each is `rfl` against the generated term; no label occurs twice, so `Machine.findLabel` finds each where a stretch shows it
(`label_at`).  Any change of the parsed program (other than comments and layout, which are not part of the model, and the string
literals handed to `schemaParse`, see `T4`) makes this module fail to compile, and the property check then falls back to searching
for a concrete failing input.
-/

namespace C20Prog
open Machine HostDiff

/-- the body of the first function statement of a list -/
def bodyOf : List Stmt → List Stmt
  | .function _ _ _ _ _ b :: _ => b
  | _ :: r => bodyOf r
  | [] => []

/-- the lowered body of `diffLines` as the real parser produced it -/
def B : List Stmt := bodyOf Gen.diffBare

/-- the `FuncDef` the machine's function table holds for it -/
def diffFD : FuncDef := { name := .user "diffLines", args := [.user "left", .user "right"], lastArgArray := false, body := B }

theorem diffCfg_funs : diffCfg.funs 0 = some diffFD := rfl

theorem B_length : B.length = 105 := by decide +kernel

theorem T_length : Gen.diffBare.length = 7 := by decide +kernel
theorem T0 : Gen.diffBare[0]? = some (.jump (.gen .done 0)
    (some (.unary .not (.function (.user "systemGlobalGet") [(.string "diffSentinel")])))) := rfl
theorem T1 : Gen.diffBare[1]? = some (.ret none) := rfl
theorem T2 : Gen.diffBare[2]? = some (.label (.gen .done 0)) := rfl
theorem T3 : Gen.diffBare[3]? = some (.expr (some (.user "diffSentinel")) (.variable (.user "true"))) := rfl

def allStrings : List Expr → Bool
  | [] => true
  | .string _ :: r => allStrings r
  | _ :: _ => false

/-- statement 4 is `diffTypes = schemaParse('…', …)`, all arguments string literals (the documentation model of the result type;
`schemaParse` is not modelled: the call evaluates to null) -/
theorem T4 : ∃ args, Gen.diffBare[4]? = some (.expr (some (.user "diffTypes")) (.function (.user "schemaParse") args)) ∧
    allStrings args = true :=
  ⟨_, rfl, rfl⟩
theorem T5 : Gen.diffBare[5]? = some (.function 0 (.user "diffLines") [.user "left", .user "right"] false false B) := rfl
theorem T6 : Gen.diffBare[6]? = some (.expr (some (.user "diffRegexLineSplit")) (.function (.user "regexNew")
    [(.binary .add (.binary .add (.function (.user "stringFromCharCode") [(.number (13 : Rat))]) (.string "?"))
      (.function (.user "stringFromCharCode") [(.number (10 : Rat))]))])) := rfl
theorem labDone0 : findLabel Gen.diffBare (.gen .done 0) = some 2 := by decide +kernel

/- the body of `diffLines`: statements 1–16 (for `left`) and 17–32 (for `right`) are `splitStmts`, the rest four stretches -/

/-- the code of one `if systemType(X) == 'array': LINES = arrayNew(); for PART in X: arrayExtend(LINES, regexSplit(re, PART))
else: LINES = regexSplit(re, X)` block, lowered -/
def splitStmts (X LINES PART VALS LEN IDX labIf labDoneA labLoop labDoneN : Name) : List Stmt := [
    .jump labIf (some (.unary .not (.binary .eq (.function (.user "systemType") [.variable X]) (.string "array")))),
    .expr (some LINES) (.function (.user "arrayNew") []),
    .expr (some VALS) (.variable X),
    .expr (some LEN) (.function (.user "arrayLength") [.variable VALS]),
    .jump labDoneN (some (.unary .not (.variable LEN))),
    .expr (some IDX) (.number (0 : Rat)),
    .label labLoop,
    .expr (some PART) (.function (.user "arrayGet") [.variable VALS, .variable IDX]),
    .expr none (.function (.user "arrayExtend") [.variable LINES,
              .function (.user "regexSplit") [.variable (.user "diffRegexLineSplit"), .variable PART]]),
    .expr (some IDX) (.binary .add (.variable IDX) (.number (1 : Rat))),
    .jump labLoop (some (.binary .lt (.variable IDX) (.variable LEN))),
    .label labDoneN,
    .jump labDoneA none,
    .label labIf,
    .expr (some LINES) (.function (.user "regexSplit") [.variable (.user "diffRegexLineSplit"), .variable X]),
    .label labDoneA]

theorem stmt_at {P c : List Stmt} {pc n : Nat} (hc : (P.drop pc).take n = c) (k : Nat) {s : Stmt} (h : c[k]? = some s) :
    P[pc + k]? = some s := by
  rw [← hc, List.getElem?_take] at h
  split at h
  · rwa [List.getElem?_drop] at h
  · cases h

theorem B0 : B[0]? = some (.expr (some (.user "diffs")) (.function (.user "arrayNew") [])) := rfl

theorem codeL : (B.drop 1).take 16 = splitStmts (.user "left") (.user "leftLines") (.user "leftPart") (.gen .values 2)
    (.gen .length 2) (.gen .index 2) (.gen .ifL 1) (.gen .done 1) (.gen .loop 2) (.gen .done 2) := rfl

theorem codeR : (B.drop 17).take 16 = splitStmts (.user "right") (.user "rightLines") (.user "rightPart") (.gen .values 4)
    (.gen .length 4) (.gen .index 4) (.gen .ifL 3) (.gen .done 3) (.gen .loop 4) (.gen .done 4) := rfl

theorem code33 : (B.drop 33).take 17 = [
    .expr (some (.user "ixLeft")) (.number (0 : Rat)),
    .expr (some (.user "ixRight")) (.number (0 : Rat)),
    .expr (some (.user "leftLength")) (.function (.user "arrayLength") [(.variable (.user "leftLines"))]),
    .expr (some (.user "rightLength")) (.function (.user "arrayLength") [(.variable (.user "rightLines"))]),
    .jump (.gen .done 5) (some (.unary .not (.binary .or (.binary .lt (.variable (.user "ixLeft")) (.variable (.user "leftLength"))) (.binary .lt (.variable (.user "ixRight")) (.variable (.user "rightLength")))))),
    .label (.gen .loop 5),
    .jump (.gen .done 6) (some (.unary .not (.binary .ge (.variable (.user "ixLeft")) (.variable (.user "leftLength"))))),
    .jump (.gen .done 7) (some (.unary .not (.binary .lt (.variable (.user "ixRight")) (.variable (.user "rightLength"))))),
    .expr none (.function (.user "arrayPush") [(.variable (.user "diffs")), (.function (.user "objectNew") [(.string "type"), (.string "Add"), (.string "lines"), (.function (.user "arraySlice") [(.variable (.user "rightLines")), (.variable (.user "ixRight"))])])]),
    .label (.gen .done 7),
    .jump (.gen .done 5) none,
    .label (.gen .done 6),
    .jump (.gen .done 8) (some (.unary .not (.binary .ge (.variable (.user "ixRight")) (.variable (.user "rightLength"))))),
    .jump (.gen .done 9) (some (.unary .not (.binary .lt (.variable (.user "ixLeft")) (.variable (.user "leftLength"))))),
    .expr none (.function (.user "arrayPush") [(.variable (.user "diffs")), (.function (.user "objectNew") [(.string "type"), (.string "Remove"), (.string "lines"), (.function (.user "arraySlice") [(.variable (.user "leftLines")), (.variable (.user "ixLeft"))])])]),
    .label (.gen .done 9),
    .jump (.gen .done 5) none] := rfl

theorem code50 : (B.drop 50).take 12 = [
    .label (.gen .done 8),
    .expr (some (.user "identicalLines")) (.function (.user "arrayNew") []),
    .jump (.gen .done 10) (some (.unary .not (.binary .and (.binary .and (.binary .lt (.variable (.user "ixLeft")) (.variable (.user "leftLength"))) (.binary .lt (.variable (.user "ixRight")) (.variable (.user "rightLength")))) (.binary .eq (.function (.user "arrayGet") [(.variable (.user "leftLines")), (.variable (.user "ixLeft"))]) (.function (.user "arrayGet") [(.variable (.user "rightLines")), (.variable (.user "ixRight"))]))))),
    .label (.gen .loop 10),
    .expr none (.function (.user "arrayPush") [(.variable (.user "identicalLines")), (.function (.user "arrayGet") [(.variable (.user "leftLines")), (.variable (.user "ixLeft"))])]),
    .expr (some (.user "ixLeft")) (.binary .add (.variable (.user "ixLeft")) (.number (1 : Rat))),
    .expr (some (.user "ixRight")) (.binary .add (.variable (.user "ixRight")) (.number (1 : Rat))),
    .jump (.gen .loop 10) (some (.binary .and (.binary .and (.binary .lt (.variable (.user "ixLeft")) (.variable (.user "leftLength"))) (.binary .lt (.variable (.user "ixRight")) (.variable (.user "rightLength")))) (.binary .eq (.function (.user "arrayGet") [(.variable (.user "leftLines")), (.variable (.user "ixLeft"))]) (.function (.user "arrayGet") [(.variable (.user "rightLines")), (.variable (.user "ixRight"))])))),
    .label (.gen .done 10),
    .jump (.gen .done 11) (some (.unary .not (.variable (.user "identicalLines")))),
    .expr none (.function (.user "arrayPush") [(.variable (.user "diffs")), (.function (.user "objectNew") [(.string "type"), (.string "Identical"), (.string "lines"), (.variable (.user "identicalLines"))])]),
    .jump (.gen .loop 5) none] := rfl

theorem code62 : (B.drop 62).take 21 = [
    .label (.gen .done 11),
    .expr (some (.user "foundMatch")) (.variable (.user "False")),
    .expr (some (.user "ixLeftTmp")) (.variable (.user "ixLeft")),
    .jump (.gen .done 12) (some (.unary .not (.binary .lt (.variable (.user "ixLeftTmp")) (.variable (.user "leftLength"))))),
    .label (.gen .loop 12),
    .expr (some (.user "ixRightTmp")) (.variable (.user "ixRight")),
    .jump (.gen .done 13) (some (.unary .not (.binary .lt (.variable (.user "ixRightTmp")) (.variable (.user "rightLength"))))),
    .label (.gen .loop 13),
    .jump (.gen .done 14) (some (.unary .not (.binary .eq (.function (.user "arrayGet") [(.variable (.user "leftLines")), (.variable (.user "ixLeftTmp"))]) (.function (.user "arrayGet") [(.variable (.user "rightLines")), (.variable (.user "ixRightTmp"))])))),
    .expr (some (.user "foundMatch")) (.variable (.user "true")),
    .jump (.gen .done 13) none,
    .label (.gen .done 14),
    .expr (some (.user "ixRightTmp")) (.binary .add (.variable (.user "ixRightTmp")) (.number (1 : Rat))),
    .jump (.gen .loop 13) (some (.binary .lt (.variable (.user "ixRightTmp")) (.variable (.user "rightLength")))),
    .label (.gen .done 13),
    .jump (.gen .done 15) (some (.unary .not (.variable (.user "foundMatch")))),
    .jump (.gen .done 12) none,
    .label (.gen .done 15),
    .expr (some (.user "ixLeftTmp")) (.binary .add (.variable (.user "ixLeftTmp")) (.number (1 : Rat))),
    .jump (.gen .loop 12) (some (.binary .lt (.variable (.user "ixLeftTmp")) (.variable (.user "leftLength")))),
    .label (.gen .done 12)] := rfl

theorem code83 : (B.drop 83).take 22 = [
    .jump (.gen .done 16) (some (.unary .not (.unary .not (.variable (.user "foundMatch"))))),
    .jump (.gen .done 17) (some (.unary .not (.binary .lt (.variable (.user "ixLeft")) (.variable (.user "leftLength"))))),
    .expr none (.function (.user "arrayPush") [(.variable (.user "diffs")), (.function (.user "objectNew") [(.string "type"), (.string "Remove"), (.string "lines"), (.function (.user "arraySlice") [(.variable (.user "leftLines")), (.variable (.user "ixLeft"))])])]),
    .expr (some (.user "ixLeft")) (.variable (.user "leftLength")),
    .label (.gen .done 17),
    .jump (.gen .done 18) (some (.unary .not (.binary .lt (.variable (.user "ixRight")) (.variable (.user "rightLength"))))),
    .expr none (.function (.user "arrayPush") [(.variable (.user "diffs")), (.function (.user "objectNew") [(.string "type"), (.string "Add"), (.string "lines"), (.function (.user "arraySlice") [(.variable (.user "rightLines")), (.variable (.user "ixRight"))])])]),
    .expr (some (.user "ixRight")) (.variable (.user "rightLength")),
    .label (.gen .done 18),
    .jump (.gen .loop 5) none,
    .label (.gen .done 16),
    .jump (.gen .done 19) (some (.unary .not (.binary .gt (.variable (.user "ixLeftTmp")) (.variable (.user "ixLeft"))))),
    .expr none (.function (.user "arrayPush") [(.variable (.user "diffs")), (.function (.user "objectNew") [(.string "type"), (.string "Remove"), (.string "lines"), (.function (.user "arraySlice") [(.variable (.user "leftLines")), (.variable (.user "ixLeft")), (.variable (.user "ixLeftTmp"))])])]),
    .expr (some (.user "ixLeft")) (.variable (.user "ixLeftTmp")),
    .label (.gen .done 19),
    .jump (.gen .done 20) (some (.unary .not (.binary .gt (.variable (.user "ixRightTmp")) (.variable (.user "ixRight"))))),
    .expr none (.function (.user "arrayPush") [(.variable (.user "diffs")), (.function (.user "objectNew") [(.string "type"), (.string "Add"), (.string "lines"), (.function (.user "arraySlice") [(.variable (.user "rightLines")), (.variable (.user "ixRight")), (.variable (.user "ixRightTmp"))])])]),
    .expr (some (.user "ixRight")) (.variable (.user "ixRightTmp")),
    .label (.gen .done 20),
    .jump (.gen .loop 5) (some (.binary .or (.binary .lt (.variable (.user "ixLeft")) (.variable (.user "leftLength"))) (.binary .lt (.variable (.user "ixRight")) (.variable (.user "rightLength"))))),
    .label (.gen .done 5),
    .ret (some (.variable (.user "diffs")))] := rfl

theorem B44 : B[44]? = some (.label (.gen .done 6)) := stmt_at code33 11 rfl
theorem B50 : B[50]? = some (.label (.gen .done 8)) := stmt_at code50 0 rfl
theorem B62 : B[62]? = some (.label (.gen .done 11)) := stmt_at code62 0 rfl
theorem B73 : B[73]? = some (.label (.gen .done 14)) := stmt_at code62 11 rfl
theorem B79 : B[79]? = some (.label (.gen .done 15)) := stmt_at code62 17 rfl
theorem B93 : B[93]? = some (.label (.gen .done 16)) := stmt_at code83 10 rfl

/-! ## label positions (`findLabel` = first label of that name) -/

def labelOf : Stmt → Option Name
  | .label l => some l
  | _ => none

theorem B_labels_nodup : (B.filterMap labelOf).Nodup := by decide +kernel

/-- no label occurs twice in `B`, so `findLabel` finds a label where the code has it -/
theorem label_at {t : Nat} {lab : Name} (h : B[t]? = some (.label lab)) : findLabel B lab = some t := by
  rw [C08.findLabel_some_iff]
  refine ⟨h, fun j hj hj' => ?_⟩
  obtain ⟨ht, et⟩ := List.getElem?_eq_some_iff.mp h
  obtain ⟨_, ej⟩ := List.getElem?_eq_some_iff.mp hj'
  exact List.pairwise_iff_getElem.mp (List.pairwise_filterMap.mp B_labels_nodup) j t (Nat.lt_trans hj ht) ht hj
    lab (by rw [ej]; rfl) lab (by rw [et]; rfl) rfl

theorem labLoop5 : findLabel B (.gen .loop 5) = some 38 := label_at (stmt_at code33 5 rfl)
theorem labDone7 : findLabel B (.gen .done 7) = some 42 := label_at (stmt_at code33 9 rfl)
theorem labDone6 : findLabel B (.gen .done 6) = some 44 := label_at (stmt_at code33 11 rfl)
theorem labDone9 : findLabel B (.gen .done 9) = some 48 := label_at (stmt_at code33 15 rfl)
theorem labDone8 : findLabel B (.gen .done 8) = some 50 := label_at (stmt_at code50 0 rfl)
theorem labLoop10 : findLabel B (.gen .loop 10) = some 53 := label_at (stmt_at code50 3 rfl)
theorem labDone10 : findLabel B (.gen .done 10) = some 58 := label_at (stmt_at code50 8 rfl)
theorem labDone11 : findLabel B (.gen .done 11) = some 62 := label_at (stmt_at code62 0 rfl)
theorem labLoop12 : findLabel B (.gen .loop 12) = some 66 := label_at (stmt_at code62 4 rfl)
theorem labLoop13 : findLabel B (.gen .loop 13) = some 69 := label_at (stmt_at code62 7 rfl)
theorem labDone14 : findLabel B (.gen .done 14) = some 73 := label_at (stmt_at code62 11 rfl)
theorem labDone13 : findLabel B (.gen .done 13) = some 76 := label_at (stmt_at code62 14 rfl)
theorem labDone15 : findLabel B (.gen .done 15) = some 79 := label_at (stmt_at code62 17 rfl)
theorem labDone12 : findLabel B (.gen .done 12) = some 82 := label_at (stmt_at code62 20 rfl)
theorem labDone17 : findLabel B (.gen .done 17) = some 87 := label_at (stmt_at code83 4 rfl)
theorem labDone18 : findLabel B (.gen .done 18) = some 91 := label_at (stmt_at code83 8 rfl)
theorem labDone16 : findLabel B (.gen .done 16) = some 93 := label_at (stmt_at code83 10 rfl)
theorem labDone19 : findLabel B (.gen .done 19) = some 97 := label_at (stmt_at code83 14 rfl)
theorem labDone20 : findLabel B (.gen .done 20) = some 101 := label_at (stmt_at code83 18 rfl)
theorem labDone5 : findLabel B (.gen .done 5) = some 103 := label_at (stmt_at code83 20 rfl)

end C20Prog
