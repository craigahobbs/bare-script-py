import BareProofs.C06Regex3
import BareProofs.C06Regex4Lemmas

/-!
# C06Regex4 — `include`
-/

namespace C06Regex
open Rx Text Scan RxPatterns

/-- **`^\s*include\s+(?P<delim>\')(?P<url>(?:\\\'|[^\'])*)\'\s*$` or `^\s*include\s+(?P<delim><)(?P<url>[^>]*)>\s*$`**, the
quoted url through `_R_EXPR_STRING_ESCAPE.sub('\\1', url)`. -/
theorem include_regex (line : Chars) (hnl : '\n' ∉ line) : onLine include? line = rxInclude line := by
  have hinc : startsNonBlank "include" = true := by decide +kernel
  unfold onLine rxInclude matchAt matchFrom include_ includeSystem include?
  rw [lead_kw "include" hinc, lead_kw "include" hinc]
  cases hk : keyword? "include" (lstripL line) with
  | none => rfl
  | some r =>
    have hr : '\n' ∉ r := noNL_keyword (noNL_lstrip hnl) hk
    simp only []
    unfold elit lit
    rw [delim_prefix true '\'' (by decide), delim_prefix false '<' (by decide)]
    cases hw : ws1? r with
    | none => rfl
    | some xt =>
      cases xt with
      | nil => rfl
      | cons x t =>
        have hdx := ws1?_drop hw
        have ht : '\n' ∉ t := not_mem_tail (hdx ▸ not_mem_drop hr)
        have hdt : line.drop ((line.takeWhile isSpace).length + "include".length + nameOff r + 1) = t := by
          rw [← List.drop_drop, ← List.drop_drop, drop_keyword hk, hdx]; rfl
        simp only []
        by_cases h1 : x = '\''
        · subst h1
          simp only [if_true, show ¬ ('\'' = '<') from by decide, if_false, Option.bind_none, orElse_none']
          have hq := fun q caps => quoted_tail q t caps ht
          unfold quoteB elit at hq
          rw [hq]
          cases hD : t.reverse.dropWhile isSpace with
          | nil => rw [quoteEnd_none_of_rev (fun br h => by rw [hD] at h; cases h)]; rfl
          | cons y br =>
            by_cases hy : y = '\''
            · subst hy
              obtain ⟨tr, htr, e⟩ := decomp_of_rstrip_cons hD
              simp only []
              generalize br.reverse = body at e
              subst e
              rw [quoteEnd_decomp tr htr]
              cases hb : quotesEscaped body with
              | false => rfl
              | true =>
                simp only [if_true, Option.map_some, Option.bind_some, St.group, St.span, List.lookup, beq_self_eq_true,
                  slice_prefix line _ _ body ('\'' :: tr) hdt rfl, sub1_esc, Shape.shift]
            · have := head_ne hy br
              rw [quoteEnd_none_of_rev (fun br' h => by rw [hD] at h; exact this br' h)]
              simp only []
              rfl
        · by_cases h2 : x = '<'
          · subst h2
            simp only [h1, if_false, if_true, Option.bind_none, none_orElse]
            have hsys := fun q caps => system_tail q t caps ht
            unfold lit at hsys
            rw [hsys]
            have hsplit := List.takeWhile_append_dropWhile (p := (· != '>')) (l := t)
            cases hdw : t.dropWhile (· != '>') with
            | nil => rfl
            | cons g tail =>
              rw [hdw] at hsplit
              simp only []
              cases ha : allSpace tail with
              | false => rfl
              | true =>
                simp only [if_true, Option.bind_some, St.group, St.span, List.lookup, beq_self_eq_true, Option.map_some, Shape.shift,
                  slice_prefix line _ _ (t.takeWhile (· != '>')) (g :: tail) (hdt.trans hsplit.symm) rfl]
          · have hne1 : ∀ t', some (x :: t) = some ('\'' :: t') → False := fun t' h => h1 (List.cons.inj (Option.some.inj h)).1
            have hne2 : ∀ t', some (x :: t) = some ('<' :: t') → False := fun t' h => h2 (List.cons.inj (Option.some.inj h)).1
            simp only [h1, h2, if_false]
            rfl

example : '\n' ∉ " include  'it\\'s\\\\'  ".toList ∧
    rxInclude " include  'it\\'s\\\\'  ".toList = some (.include "it's\\".toList false) := by decide_lit
example : rxInclude "include <a.bare> ".toList = some (.include "a.bare".toList true) ∧ rxInclude "include 'a' 'b'".toList = none := by decide_lit

/-! ## the cascade, with the patterns of this module -/

/-- `Scan.shape` = the regex cascade of parser.py (`RxPatterns.rxShape`) — given that scanner and pattern agree on the line
for `_R_SCRIPT_FUNCTION_BEGIN`. -/
theorem shape_is_cascade_partial4 (line : Chars) (hnl : '\n' ∉ line)
    (hFunction : onLine funcBegin? line = rxFunction line) :
    shape line = rxShape line :=
  shape_is_cascade_partial3 line hnl hFunction (include_regex line hnl)

end C06Regex
