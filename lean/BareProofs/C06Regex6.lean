import BareProofs.C06Regex6Lemmas
import BareModel.Parser

/-!
# C06Regex6 — `parse_script` is regex driven: `Parser.parseScript = rxParseScript`, for all inputs, no side condition

`rxParseScript` is `Parser.parseScript` with EVERY hand-written text / statement scanner replaced by the backtracking engine
`Rx.m` on the ASTs of `RxPatterns` (rendering pinned to the sources regenerated from parser.py: `C06Regex.sources_pinned`):

* physical lines: `RxPatterns.split lineSplit` (`_R_SCRIPT_LINE_SPLIT.split`, `\r?\n`) instead of `Text.splitLinesL`;
* comment / blank test: `rxComment` (`_R_SCRIPT_COMMENT.match`) instead of `Text.isCommentL`;
* continuation: `rxContBody` (`_R_SCRIPT_CONTINUATION.search`) instead of `Text.contBody?`;
* statement cascade: `rxShape` / `rxClassifyL` (the 18 `_R_SCRIPT_*` statement patterns in the order of `parse_script`, the groups read
  as parser.py reads them) instead of `Scan.shape` / `Scan.classify`;

the expression parser (`ExprParse.parseExpr`), the lowering (`Lower.stepLine`), the line loop and the end-of-input checks are kept
as they are.  The side condition `'\n' ∉ line` of the per-line theorems is discharged by construction (`splitLines_no_newline`,
`loopL_noNL`).

What remains trusted after this theorem: that CPython's `re` computes `Rx.m` on this fragment (tied by the stream `rx-engine`:
every pattern × adversarial texts, all group spans), the expression token scanners of `ExprScan` (tied to `_R_EXPR_*` by the
differential streams of C02 / C06 and by `rx-engine` for the ASTs), and the frozen Unicode class tables `\s`, `\w`, `\d`
(compared with `re` for every code point on every run).
-/

namespace C06Regex
open Rx Text Scan RxPatterns Lower

/-! ## the line loop, parametric in the two tests -/

/-- `Text.loopL` with the comment test and the continuation test as parameters (the text of `Text.lean`) -/
def loopLWith (isC : Chars → Bool) (cb : Chars → Option Chars) : Nat → List Chars → List Chars → Nat → LLOut
  | _, [], cont, ixLine => ([], if cont.isEmpty then none else some (ixLine, joinSp cont))
  | i, part :: rest, cont, ixLine =>
    if isC part then loopLWith isC cb (i + 1) rest cont ixLine
    else
      let isContinued := !cont.isEmpty
      let ixLine := if isContinued then ixLine else i
      match cb part with
      | some nc => loopLWith isC cb (i + 1) rest (cont ++ [if isContinued then stripL nc else rstripL nc]) ixLine
      | none =>
        if isContinued then emit (ixLine, joinSp (cont ++ [stripL part])) (loopLWith isC cb (i + 1) rest [] ixLine)
        else emit (ixLine, part) (loopLWith isC cb (i + 1) rest [] ixLine)

theorem loopL_eq_With : ∀ (lines : List Chars) (i : Nat) (cont : List Chars) (ix : Nat),
    loopL i lines cont ix = loopLWith isCommentL contBody? i lines cont ix
  | [], i, cont, ix => by rw [loopL, loopLWith]
  | part :: rest, i, cont, ix => by
    rw [loopL, loopLWith]
    simp only [loopL_eq_With rest]
    rfl

theorem loopLWith_congr (isC isC' : Chars → Bool) (cb cb' : Chars → Option Chars) :
    ∀ (lines : List Chars) (i : Nat) (cont : List Chars) (ix : Nat), (∀ l ∈ lines, isC l = isC' l ∧ cb l = cb' l) →
      loopLWith isC cb i lines cont ix = loopLWith isC' cb' i lines cont ix
  | [], i, cont, ix, _ => by rw [loopLWith, loopLWith]
  | part :: rest, i, cont, ix, h => by
    have hp := h part (by simp)
    have hr : ∀ l ∈ rest, isC l = isC' l ∧ cb l = cb' l := fun l hm => h l (List.mem_cons_of_mem _ hm)
    rw [loopLWith, loopLWith, hp.1, hp.2]
    simp only [loopLWith_congr isC isC' cb cb' rest _ _ _ hr]

/-- **the comment test and the continuation test of the line loop are the two regexes** (on lines without `'\n'`) -/
theorem loopL_regex (lines : List Chars) (h : ∀ l ∈ lines, '\n' ∉ l) (i : Nat) (cont : List Chars) (ix : Nat) :
    loopL i lines cont ix = loopLWith rxComment rxContBody i lines cont ix := by
  rw [loopL_eq_With]
  exact loopLWith_congr _ _ _ _ lines i cont ix (fun l hm => ⟨comment_regex l (h l hm), continuation_regex l (h l hm)⟩)

/-! ## the text layer by the engine -/

/-- `_R_SCRIPT_LINE_SPLIT.split(text)` by the engine -/
def rxSplitLines (text : String) : List String := (split lineSplit text.toList).map String.ofList

theorem splitLines_eq_rx (text : String) : splitLines text = rxSplitLines text := by
  unfold splitLines rxSplitLines; rw [splitLines_regex]

/-- every line `_R_SCRIPT_LINE_SPLIT.split` produces is free of `'\n'`: the side condition of the per-line theorems holds by
construction -/
theorem rxSplit_noNL (t : Chars) : ∀ l ∈ split lineSplit t, '\n' ∉ l := by
  rw [← splitLines_regex]; exact C10.splitLines_no_newline t

/-- `Text.scriptLines` with `split`, comment and continuation by the engine -/
def rxScriptLines (chunks : List String) : List (Nat × String) × Option LineErr :=
  let r := loopLWith rxComment rxContBody 0 ((chunks.flatMap rxSplitLines).map String.toList) [] 0
  (r.1.map (fun x => (x.1, String.ofList x.2)), r.2.map LineErr.ofDangling)

theorem phys_noNL (chunks : List String) : ∀ l ∈ (chunks.flatMap splitLines).map String.toList, '\n' ∉ l := by
  intro l hl
  simp only [List.mem_map, List.mem_flatMap] at hl
  obtain ⟨s, ⟨t, _, hs⟩, rfl⟩ := hl
  unfold splitLines at hs
  simp only [List.mem_map] at hs
  obtain ⟨cs, hcs, rfl⟩ := hs
  rw [String.toList_ofList]
  exact C10.splitLines_no_newline _ cs hcs

/-- **physical lines, comment skipping and continuation joining are regex driven** — for every chunk list -/
theorem scriptLines_regex (chunks : List String) : scriptLines chunks = rxScriptLines chunks := by
  unfold scriptLines logicalLinesCore logicalLinesL rxScriptLines
  rw [loopL_regex _ (phys_noNL chunks)]
  simp only [show (fun t => splitLines t) = rxSplitLines from funext splitLines_eq_rx]

/-- every logical line handed to the statement cascade is free of `'\n'` -/
theorem scriptLines_noNL (chunks : List String) : ∀ x ∈ (scriptLines chunks).1, '\n' ∉ x.2.toList := by
  intro x hx
  unfold scriptLines logicalLinesCore logicalLinesL at hx
  simp only [List.mem_map] at hx
  obtain ⟨y, hy, rfl⟩ := hx
  rw [String.toList_ofList]
  exact loopL_noNL _ _ _ _ (phys_noNL chunks) (by simp) y hy

/-! ## the statement step, parametric in the classifier -/

/-- `Parser.stepLogical` with the cascade (`shape`) and the classifier (`classify parseExpr`) as parameters (the text of
`Parser.lean`) -/
def stepLogicalWith (shapeF : Chars → Shape) (classF : String → Except ParseErr Line)
    (start : Nat) (s : Parser.St) (ix : Nat) (line : String) : Except Parser.ParserError Parser.St :=
  let ps := s.1
  let wh := s.2
  let ln := start + ix
  let structural (e : LowerErr) : Parser.ParserError :=
    match e with
    | .missingEnd _ =>
        match wh.defs with
        | (dl, dn) :: _ => ⟨e.text, dl, 1, dn⟩
        | [] => ⟨e.text, line, 1, ln⟩
    | _ => ⟨e.text, line, 1, ln⟩
  let pre : Except Parser.ParserError Unit :=
    match shapeF line.toList with
    | .elif _ _ =>
        match stepLine ps (.elif Parser.dummyExpr) with
        | .error e => .error (structural e)
        | .ok _ => .ok ()
    | _ => .ok ()
  match pre with
  | .error e => .error e
  | .ok () =>
    match classF line with
    | .error pe => .error ⟨pe.error, line, pe.column, ln⟩
    | .ok cl =>
      match stepLine ps cl with
      | .error e => .error (structural e)
      | .ok ps' =>
        let defs' :=
          if ps'.defs.length = ps.defs.length + 1 then (line, ln) :: wh.defs
          else if ps'.defs.length + 1 = ps.defs.length then wh.defs.tail
          else wh.defs
        let func' :=
          match ps.func, ps'.func with
          | none, some _ => some (line, ln)
          | _, none => none
          | some _, some _ => wh.func
        .ok (ps', { defs := defs', func := func' })

theorem stepLogical_eq_With (start : Nat) (s : Parser.St) (ix : Nat) (line : String) :
    Parser.stepLogical start s ix line = stepLogicalWith shape (classify ExprParse.parseExpr) start s ix line := by
  -- unfolding both sides first lets `rfl` compare two bodies of the same text instead of searching through the constants
  unfold Parser.stepLogical stepLogicalWith
  rfl

theorem stepLogicalWith_congr (f f' : Chars → Shape) (g g' : String → Except ParseErr Line) (start : Nat) (s : Parser.St) (ix : Nat)
    (line : String) (h1 : f line.toList = f' line.toList) (h2 : g line = g' line) :
    stepLogicalWith f g start s ix line = stepLogicalWith f' g' start s ix line := by
  unfold stepLogicalWith
  rw [h1, h2]

def stepAllWith (shapeF : Chars → Shape) (classF : String → Except ParseErr Line) (start : Nat) :
    Parser.St → List (Nat × String) → Except Parser.ParserError Parser.St
  | s, [] => .ok s
  | s, (ix, line) :: rest =>
      match stepLogicalWith shapeF classF start s ix line with
      | .ok s' => stepAllWith shapeF classF start s' rest
      | .error e => .error e

theorem stepAll_eq_With (start : Nat) : ∀ (ls : List (Nat × String)) (s : Parser.St),
    Parser.stepAll start s ls = stepAllWith shape (classify ExprParse.parseExpr) start s ls
  | [], s => rfl
  | (ix, line) :: rest, s => by
    rw [Parser.stepAll, stepAllWith, stepLogical_eq_With]
    cases stepLogicalWith shape (classify ExprParse.parseExpr) start s ix line with
    | ok s' => exact stepAll_eq_With start rest s'
    | error e => rfl

theorem stepAllWith_congr (f f' : Chars → Shape) (g g' : String → Except ParseErr Line) (start : Nat) :
    ∀ (ls : List (Nat × String)) (s : Parser.St), (∀ x ∈ ls, f x.2.toList = f' x.2.toList ∧ g x.2 = g' x.2) →
      stepAllWith f g start s ls = stepAllWith f' g' start s ls
  | [], s, _ => rfl
  | (ix, line) :: rest, s, h => by
    have hx := h (ix, line) (by simp)
    rw [stepAllWith, stepAllWith, stepLogicalWith_congr f f' g g' start s ix line hx.1 hx.2]
    cases stepLogicalWith f' g' start s ix line with
    | ok s' => exact stepAllWith_congr f f' g g' start rest s' (fun x hm => h x (List.mem_cons_of_mem _ hm))
    | error e => rfl

/-! ## `parse_script`, regex driven -/

/-- `Parser.parseScript` with every text / statement scanner replaced by the engine on the pinned ASTs -/
def rxParseScript (chunks : List String) (start : Nat := 1) : Except Parser.ParserError (List Stmt) :=
  let ll := rxScriptLines chunks
  match stepAllWith rxShape (fun l => rxClassifyL ExprParse.parseExpr l.toList) start (PState.init, {}) ll.1 with
  | .error e => .error e
  | .ok s => Parser.finishAll start s ll.2

/-- **`parse_script` is regex driven**: for EVERY chunk list and start line, the model of `parse_script` equals the same
pipeline with the line splitter, the comment test, the continuation test and the whole statement cascade computed by the
backtracking engine on the ASTs pinned to parser.py's pattern sources.  No side condition. -/
theorem parseScript_is_regex_driven (chunks : List String) (start : Nat) :
    Parser.parseScript chunks start = rxParseScript chunks start := by
  unfold Parser.parseScript rxParseScript
  dsimp only
  have hnl := scriptLines_noNL chunks
  rw [stepAll_eq_With, stepAllWith_congr shape rxShape (classify ExprParse.parseExpr)
    (fun l => rxClassifyL ExprParse.parseExpr l.toList) start (scriptLines chunks).1 _
    (fun x hx => ⟨shape_is_cascade _ (hnl x hx), classify_is_cascade _ _ (hnl x hx)⟩)]
  rw [scriptLines_regex]
  rfl

/-- the single-string form (`parse_script(text)`) -/
theorem parseScript_text_is_regex_driven (text : String) (start : Nat) :
    Parser.parseScript [text] start = rxParseScript [text] start := parseScript_is_regex_driven [text] start

example : rxParseScript ["a = 1 + \\\n  2\r\n# c\nif a:\n  jump x\nendif\nx:"] 1 = Parser.parseScript ["a = 1 + \\\n  2\r\n# c\nif a:\n  jump x\nendif\nx:"] 1 :=
  (parseScript_is_regex_driven _ _).symm

end C06Regex
