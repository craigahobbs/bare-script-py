import BareProofs.C14BridgeLemmas
import BareProofs.C14BridgeEquiv

/-!
# C14Bridge — the text the machine prints: `HostImpl.valueJson?` / `valueString?` against the C14 and C13 models

`HostImpl.valueJson? w fuel path v` (heap references, a path of cells being encoded for the circular-reference check, `String`
output) and `HostImpl.valueString? w v` — used by the `+` string concatenation, by `systemLog`, … — are a separate
implementation from `Json.lean` (C14) and `NumText.lean` (C13).  With `C11Bridge.reify` (heap value ↦ closed value) and
`toJson` (closed value ↦ JSON value, as `value_json` sees it):

`valueJson_bridge`: for **every** reifiable value and every `fuel > heap.length` the text is `Json.specEncode (toJson p) 0` (no
class restriction: see `numJ` for non-integral numbers).  On the decidable class `JClass` (all numbers integral, object keys
pairwise different) `toJson p` is `Json.WF` and the text is also `Json.mirrorEncode (toJson p) 0`, the two-stage mirror of the
real `value_json` (`valueJson_mirror`).  `strOf` / `valueString_bridge`: `value_string` (strings bare, numbers through the number
text, containers through JSON).  A container that reaches itself prints as `none` and does not reify.  The `machine_*`
theorems carry the C14 theorems over to what `+` and `systemLog` produce.  `BareProofs/C14BridgeEquiv.lean`: `Json.Equiv` on
`toJson` values against `Compare.valueCompare = 0`; `BareProofs/C14BridgeHostLib.lean`: the same for `HostLib.hostLib`, and
`Lib.valueString`.

What the two text implementations do, kind by kind (checked with `#eval` and against `/repo/src/bare_script/value.py`):
null/booleans/strings (bare at top level, `ensure_ascii` escapes inside JSON)/functions (`<function>`, inside JSON the string
`"<function>"`)/regexes (`<regex>`, inside JSON `null`)/containers (compact, keys sorted by code point, circular → failure)
agree with Python.  Integral numbers agree (`str(int)`).  **Outside the class:** a non-integral rational is printed by HostImpl
as its decimal expansion cut after 40 fraction digits (`1/3` ↦ 40 threes, `1/10^7` ↦ `0.0000001`, `1/10^45` ↦ `0.` and 40 zeros),
Python prints `repr(float)` (`0.3333333333333333`, `1e-07`); they coincide only on terminating decimals that `repr` writes
positionally.  An integral *float* ≥ 1e16 is `1e+16` in Python; the rational model cannot tell it from the `int` and prints
the digits.  `-0.0` does not exist in `Rat`.  Datetimes print as the placeholder `<dt N>` (ISO text: C16).
-/

namespace C14Bridge
open Machine HostImpl C11Bridge

/-- **Bridge.**  For every value that denotes a closed value `p`, the JSON text of the machine host is the compact spec
encoding of `toJson p`; any fuel above the heap size suffices and the circular-reference check never fires. -/
theorem valueJson_bridge (w : World) (v : Value) (p : Compare.PValue) (h : reify w v = some p) (fuel : Nat)
    (hf : w.heap.length < fuel) : valueJson? w fuel [] v = some (String.ofList (Json.specEncode (toJson p) 0)) :=
  valueJson_bridgeF w _ v p h fuel [] 0 hf (fun r hr => by simp at hr)

/-! ## the class on which the text is the real `value_json` -/

mutual
/-- every number in the value is integral -/
def IntNums : Compare.PValue → Bool
  | .num q => q.den == 1
  | .arr xs => IntNumsList xs
  | .obj kvs => IntNumsItems kvs
  | _ => true
def IntNumsList : List Compare.PValue → Bool
  | [] => true
  | x :: xs => IntNums x && IntNumsList xs
def IntNumsItems : List (String × Compare.PValue) → Bool
  | [] => true
  | (_, v) :: rest => IntNums v && IntNumsItems rest
end

/-- all numbers integral, object keys pairwise different (decidable) -/
def JClass (p : Compare.PValue) : Bool := IntNums p && Compare.WFValue p

theorem toJsonItems_keys (kvs : List (String × Compare.PValue)) : (toJsonItems kvs).map Prod.fst = (kvs.map (·.1)).map String.toList := by
  rw [toJsonItems_eq, List.map_map, List.map_map]; rfl

mutual
theorem wf_toJson : ∀ p : Compare.PValue, IntNums p = true → Compare.WFValue p = true → Json.WF (toJson p)
  | .num q, hi, _ => by
    have : q.den = 1 := by simpa [IntNums] using hi
    simp [toJson, numJ, this, Json.WF]
  | .arr xs, hi, hw => by
    simp only [toJson, Json.WF]
    exact wf_toJsonList xs (by simpa [IntNums] using hi) (by simpa [Compare.WFValue] using hw)
  | .obj kvs, hi, hw => by
    simp only [Compare.WFValue, Bool.and_eq_true, decide_eq_true_eq] at hw
    simp only [toJson, Json.WF]
    refine ⟨?_, wf_toJsonItems kvs (by simpa [IntNums] using hi) hw.2⟩
    rw [toJsonItems_keys]
    exact List.Pairwise.map String.toList (fun a b hab h => hab (String.toList_inj.mp h)) hw.1
  | .null, _, _ | .bool _, _, _ | .str _, _, _ | .dt _, _, _ | .fn _, _, _ | .regex _, _, _ => by simp [toJson, Json.WF]
theorem wf_toJsonList : ∀ xs : List Compare.PValue, IntNumsList xs = true → Compare.WFList xs = true → Json.WFList (toJsonList xs)
  | [], _, _ => by simp [toJsonList, Json.WFList]
  | x :: xs, hi, hw => by
    simp only [IntNumsList, Compare.WFList, Bool.and_eq_true] at hi hw
    simp only [toJsonList, Json.WFList]
    exact ⟨wf_toJson x hi.1 hw.1, wf_toJsonList xs hi.2 hw.2⟩
theorem wf_toJsonItems : ∀ kvs : List (String × Compare.PValue), IntNumsItems kvs = true → Compare.WFItems kvs = true →
    Json.WFMembers (toJsonItems kvs)
  | [], _, _ => by simp [toJsonItems, Json.WFMembers]
  | (k, v) :: rest, hi, hw => by
    simp only [IntNumsItems, Compare.WFItems, Bool.and_eq_true] at hi hw
    simp only [toJsonItems, Json.WFMembers]
    exact ⟨wf_toJson v hi.1 hw.1, wf_toJsonItems rest hi.2 hw.2⟩
end

theorem wf_of_class (p : Compare.PValue) (h : JClass p = true) : Json.WF (toJson p) := by
  simp only [JClass, Bool.and_eq_true] at h
  exact wf_toJson p h.1 h.2

/-- on the class, the machine's JSON text is the two-stage mirror of the real `value_json` (`json.dumps` + clean-up regex) -/
theorem valueJson_mirror (w : World) (v : Value) (p : Compare.PValue) (h : reify w v = some p) (hc : JClass p = true)
    (fuel : Nat) (hf : w.heap.length < fuel) :
    valueJson? w fuel [] v = some (String.ofList (Json.mirrorEncode (toJson p) 0)) := by
  rw [C14.cleanup_eq_spec _ (wf_of_class p hc)]
  exact valueJson_bridge w v p h fuel hf

/-- `value_string` of a closed value: strings bare, numbers through the number text, containers through (compact) JSON,
`<function>` / `<regex>`, datetimes as HostImpl's placeholder -/
def strOf : Compare.PValue → String
  | .null => "null"
  | .bool b => if b then "true" else "false"
  | .num q => ratText q
  | .str s => s
  | .dt t => dtText t
  | .fn _ => "<function>"
  | .regex _ => "<regex>"
  | p => String.ofList (Json.specEncode (toJson p) 0)

/-- **Bridge for `value_string`** (the text `+` concatenates and `systemLog` logs) -/
theorem valueString_bridge (w : World) (v : Value) (p : Compare.PValue) (h : reify w v = some p) :
    valueString? w v = some (strOf p) := by
  cases v with
  | arr r =>
    obtain ⟨xs, pxs, _, _, rfl⟩ := (reify_arr w r p).mp h
    exact valueJson_bridge w _ _ h _ (by omega)
  | obj r =>
    obtain ⟨xs, pxs, _, _, rfl⟩ := (reify_obj w r p).mp h
    exact valueJson_bridge w _ _ h _ (by omega)
  | _ => simp only [reify, reifyF, Option.some.injEq] at h; subst h; rfl

theorem valueString_total (w : World) (v : Value) (p : Compare.PValue) (h : reify w v = some p) :
    valueString w v = strOf p := by simp [valueString, valueString_bridge w v p h]

/-- the number text of an integral number is `str(n)` of the C13 model: an optional `-` and ASCII digits, no point, no
exponent (`C13.int_prints_digits_only`), and it reads back as the number (`C13.int_text_roundtrip`) -/
theorem strOf_integral (q : Rat) (h : q.den = 1) :
    strOf (.num q) = NumText.valueStringNum (.int q.num) ∧ (strOf (.num q)).toList = Json.intText q.num ∧
    '.' ∉ (strOf (.num q)).toList ∧ NumText.decVal (strOf (.num q)) = some (q.num : Rat) := by
  have e : strOf (.num q) = NumText.valueStringNum (.int q.num) := by
    simp only [strOf, ratText_integral q h, toString_int_eq_intStr, NumText.valueStringNum]
  refine ⟨e, ?_, ?_, ?_⟩
  · simp only [strOf, ratText_integral q h, toString_int_toList]
  · rw [e]; obtain ⟨_, _, _, _, hd⟩ := C13.int_prints_digits_only q.num; exact hd
  · rw [e]; exact C13.int_text_roundtrip q.num

/-- on containers `value_string` is `value_json`; on the class it is the real two-stage text -/
theorem strOf_container (p : Compare.PValue) (hc : (∃ xs, p = .arr xs) ∨ (∃ kvs, p = .obj kvs)) :
    strOf p = String.ofList (Json.specEncode (toJson p) 0) ∧
    (JClass p = true → strOf p = String.ofList (Json.mirrorEncode (toJson p) 0)) := by
  have e : strOf p = String.ofList (Json.specEncode (toJson p) 0) := by
    rcases hc with ⟨xs, rfl⟩ | ⟨kvs, rfl⟩ <;> rfl
  exact ⟨e, fun h => by rw [e, C14.cleanup_eq_spec _ (wf_of_class p h)]⟩

/-! ## cycles: `none` on both sides -/

/-- a value from which a self-reaching container is reached has a container cell and an element of the same kind -/
theorem cyc_step (w : World) (v : Value) (h : ∃ c, ReachesEq w v c ∧ Reaches w c c) :
    ∃ x, Child w v x ∧ ∃ c, ReachesEq w x c ∧ Reaches w c c := by
  obtain ⟨c, hvc, hcc⟩ := h
  have inv : ∀ {a b : Value}, Reaches w a b → ∃ x, Child w a x ∧ ReachesEq w x b := by
    intro a b hab
    cases hab with
    | step hc => exact ⟨_, hc, Or.inl rfl⟩
    | trans hc hr => exact ⟨_, hc, Or.inr hr⟩
  rcases hvc with rfl | hvc
  · obtain ⟨x, hc, hx⟩ := inv hcc
    exact ⟨x, hc, c, hx, hcc⟩
  · obtain ⟨x, hc, hx⟩ := inv hvc
    exact ⟨x, hc, c, hx, hcc⟩

/-- **a cycle gives `none`**: whatever the fuel and the path, a value that is or reaches a self-containing container has no
JSON text (Python: `ValueError: Circular reference detected`) … -/
theorem valueJson_none_of_cycle (w : World) : ∀ (fuel : Nat) (path : List Nat) (v : Value),
    (∃ c, ReachesEq w v c ∧ Reaches w c c) → valueJson? w fuel path v = none
  | 0, _, _, _ => rfl
  | f+1, path, v, h => by
    obtain ⟨x, hc, hx⟩ := cyc_step w v h
    have ih := valueJson_none_of_cycle w f
    cases hc with
    | @arr r xs x hxs hmem =>
      simp only [valueJson?, hxs, Option.getD_some, mapM_eq_mapOpt]
      split
      · rfl
      · rw [mapOpt_none_of_mem _ xs x hmem (ih _ x hx)]; rfl
    | @obj r kvs kv hxs hmem =>
      simp only [valueJson?, hxs, Option.getD_some, mapM_eq_mapOpt]
      split
      · rfl
      · rw [mapOpt_none_of_mem _ (sortKeys kvs) kv ((sortKeys_mem kvs kv).mpr hmem) (by simp [ih _ kv.2 hx])]; rfl

/-- … hence no `value_string`, and it does not denote a closed value either: `none` on both sides -/
theorem valueString_none_of_cycle (w : World) (v : Value) (h : ∃ c, ReachesEq w v c ∧ Reaches w c c) :
    valueString? w v = none ∧ reify w v = none := by
  refine ⟨?_, (reify_none_iff w v).mpr (Or.inr h)⟩
  obtain ⟨x, hc, _⟩ := cyc_step w v h
  cases hc with
  | arr _ _ => exact valueJson_none_of_cycle w _ _ _ h
  | obj _ _ => exact valueJson_none_of_cycle w _ _ _ h

/-- contrapositive of the bridge: a value without text does not denote a closed value -/
theorem not_reifiable_of_valueString_none (w : World) (v : Value) (h : valueString? w v = none) : reify w v = none := by
  cases hp : reify w v with
  | none => rfl
  | some p => rw [valueString_bridge w v p hp] at h; cases h

/-! ## what the machine concatenates and logs -/

/-- `"s" + v` -/
theorem machine_add_str (w : World) (s : String) (v : Value) (p : Compare.PValue) (h : reify w v = some p) :
    HostImpl.host.binop .add (.str s) v w = .str (s ++ strOf p) :=
  ((C03.binop_table w).2.2.1 s v).trans (by rw [valueString_bridge w v p h])

/-- `v + "s"` -/
theorem machine_str_add (w : World) (s : String) (v : Value) (p : Compare.PValue) (h : reify w v = some p) :
    HostImpl.host.binop .add v (.str s) w = .str (strOf p ++ s) :=
  ((C03.binop_table w).2.2.2.1 v s).trans (by rw [valueString_bridge w v p h])

theorem systemLog_eq (w : World) (v : Value) :
    HostImpl.host.lib "systemLog" [v] w =
      match valueString? w v with | some s => ok .null { w with log := w.log ++ [s] } | none => fail .null w := rfl

/-- `systemLog(v)` appends `value_string(v)` to the log and returns null -/
theorem machine_systemLog (w : World) (v : Value) (p : Compare.PValue) (h : reify w v = some p) :
    HostImpl.host.lib "systemLog" [v] w = .ret (.ok .null) { w with log := w.log ++ [strOf p] } := by
  rw [systemLog_eq, valueString_bridge w v p h]; rfl

/-- on a self-containing container: `+` yields null and `systemLog` fails (the swallowed `ValueError`), world unchanged -/
theorem machine_text_cycle (w : World) (s : String) (v : Value) (h : ∃ c, ReachesEq w v c ∧ Reaches w c c) :
    HostImpl.host.binop .add (.str s) v w = .null ∧ HostImpl.host.lib "systemLog" [v] w = .ret (.fail .null) w := by
  have hn := (valueString_none_of_cycle w v h).1
  refine ⟨?_, by rw [systemLog_eq, hn]; rfl⟩
  obtain ⟨x, hc, _⟩ := cyc_step w v h
  cases hc <;> simp only [HostImpl.host, HostImpl.binop, hn]

/-! ## the C14 theorems on what the machine concatenates and logs -/

def IsContainer : Compare.PValue → Bool
  | .arr _ => true
  | .obj _ => true
  | _ => false

theorem isContainer_iff (p : Compare.PValue) : IsContainer p = true ↔ (∃ xs, p = .arr xs) ∨ (∃ kvs, p = .obj kvs) := by
  cases p <;> simp [IsContainer]

/-- the text of a container of the class is the two-stage `value_json` text of its closed value -/
theorem strOf_mirror (p : Compare.PValue) (hk : IsContainer p = true) (hc : JClass p = true) :
    (strOf p).toList = Json.mirrorEncode (toJson p) 0 := by
  rw [(strOf_container p ((isContainer_iff p).mp hk)).2 hc, String.toList_ofList]

/-- the C14 round trip, said of the text of a closed value -/
theorem strOf_roundtrip (p : Compare.PValue) (hcont : IsContainer p = true) (hc : JClass p = true) :
    (strOf p).toList = Json.mirrorEncode (toJson p) 0 ∧
      ∃ j, Json.decode (strOf p).toList = some j ∧ Json.Equiv j (toJson p) ∧ j = Json.norm (toJson p) := by
  have hm := strOf_mirror p hcont hc
  exact ⟨hm, hm ▸ C14.json_roundtrip (toJson p) (wf_of_class p hc) 0⟩

/-- sorted keys, said of the text of a closed value -/
theorem strOf_keys_sorted (p : Compare.PValue) (hcont : IsContainer p = true) (hc : JClass p = true) :
    ∃ j, Json.decode (strOf p).toList = some j ∧ Json.KeysSorted j ∧ Json.WF j := by
  rw [strOf_mirror p hcont hc]
  exact C14.keys_sorted (toJson p) (wf_of_class p hc) 0

/-- **Round trip.**  The text the machine concatenates (`"s" + v`) and logs (`systemLog(v)`) for a container of the class is
the real two-stage `value_json` text of its closed value, and the C14 decoder reads it back as the canonical form of that
value (same shape, strings and keys identical, numbers equal, members sorted). -/
theorem machine_json_roundtrip (w : World) (s : String) (v : Value) (p : Compare.PValue) (h : reify w v = some p)
    (hcont : IsContainer p = true) (hc : JClass p = true) :
    ∃ t : String,
      HostImpl.host.binop .add (.str s) v w = .str (s ++ t) ∧
      HostImpl.host.lib "systemLog" [v] w = .ret (.ok .null) { w with log := w.log ++ [t] } ∧
      t.toList = Json.mirrorEncode (toJson p) 0 ∧
      ∃ j, Json.decode t.toList = some j ∧ Json.Equiv j (toJson p) ∧ j = Json.norm (toJson p) :=
  ⟨strOf p, machine_add_str w s v p h, machine_systemLog w v p h, strOf_roundtrip p hcont hc⟩

/-- the JSON text determines the value: same text ⇒ `Json.Equiv`; on plain values ⇒ equal under the C11 comparison -/
theorem strOf_injective (p₁ p₂ : Compare.PValue) (hk₁ : IsContainer p₁ = true) (hk₂ : IsContainer p₂ = true)
    (hc₁ : JClass p₁ = true) (hc₂ : JClass p₂ = true) (heq : strOf p₁ = strOf p₂) :
    Json.Equiv (toJson p₁) (toJson p₂) ∧ (Plain p₁ = true → Plain p₂ = true → Compare.valueCompare p₁ p₂ = 0) := by
  have he := C14.json_injective _ _ (wf_of_class p₁ hc₁) (wf_of_class p₂ hc₂) 0 0
    (by rw [← strOf_mirror p₁ hk₁ hc₁, ← strOf_mirror p₂ hk₂ hc₂, heq])
  exact ⟨he, fun hp₁ hp₂ => cmp_zero_of_equiv p₁ p₂ hp₁ hp₂ he⟩

/-- **Injective up to value equality.**  If the machine builds the same text from two containers of the class (in whatever
worlds), their JSON values are `Json.Equiv`; if they are plain (no function / regex / datetime inside) they are equal under
the one value order of C11. -/
theorem machine_json_injective (w₁ w₂ : World) (s : String) (v₁ v₂ : Value) (p₁ p₂ : Compare.PValue)
    (h₁ : reify w₁ v₁ = some p₁) (h₂ : reify w₂ v₂ = some p₂) (hk₁ : IsContainer p₁ = true) (hk₂ : IsContainer p₂ = true)
    (hc₁ : JClass p₁ = true) (hc₂ : JClass p₂ = true)
    (heq : HostImpl.host.binop .add (.str s) v₁ w₁ = HostImpl.host.binop .add (.str s) v₂ w₂) :
    Json.Equiv (toJson p₁) (toJson p₂) ∧ (Plain p₁ = true → Plain p₂ = true → Compare.valueCompare p₁ p₂ = 0) := by
  rw [machine_add_str w₁ s v₁ p₁ h₁, machine_add_str w₂ s v₂ p₂ h₂] at heq
  exact strOf_injective p₁ p₂ hk₁ hk₂ hc₁ hc₂ ((String.append_right_inj s).mp (Value.str.inj heq))

theorem specEncode_eq_of_cmp_zero {p₁ p₂ : Compare.PValue} (h : Compare.valueCompare p₁ p₂ = 0) :
    Json.specEncode (toJson p₁) 0 = Json.specEncode (toJson p₂) 0 := enc_eq_of_cmp_zero p₁ p₂ h 0

/-- … in one world, with the machine's own `==`: two plain containers of the class print the same text **iff** the machine
finds them equal.  (`→` needs the class; `←` holds for all reifiable values: `machine_equal_same_text`.) -/
theorem machine_same_text_iff_equal (w : World) (s : String) (v₁ v₂ : Value) (p₁ p₂ : Compare.PValue)
    (h₁ : reify w v₁ = some p₁) (h₂ : reify w v₂ = some p₂) (hk₁ : IsContainer p₁ = true) (hk₂ : IsContainer p₂ = true)
    (hc₁ : JClass p₁ = true) (hc₂ : JClass p₂ = true) (hp₁ : Plain p₁ = true) (hp₂ : Plain p₂ = true) :
    HostImpl.host.binop .add (.str s) v₁ w = HostImpl.host.binop .add (.str s) v₂ w ↔
      HostImpl.host.binop .eq v₁ v₂ w = .bool true := by
  have hb := (machine_relops_sign w v₁ v₂ p₁ p₂ h₁ h₂).1
  constructor
  · intro heq
    have := (machine_json_injective w w s v₁ v₂ p₁ p₂ h₁ h₂ hk₁ hk₂ hc₁ hc₂ heq).2 hp₁ hp₂
    show HostImpl.binop .eq v₁ v₂ w = _
    rw [hb, this]; rfl
  · intro he
    have he' : HostImpl.binop .eq v₁ v₂ w = .bool true := he
    rw [hb] at he'
    have h0 : Compare.valueCompare p₁ p₂ = 0 := by simpa using he'
    rw [machine_add_str w s v₁ p₁ h₁, machine_add_str w s v₂ p₂ h₂, (strOf_container p₁ ((isContainer_iff p₁).mp hk₁)).1,
      (strOf_container p₂ ((isContainer_iff p₂).mp hk₂)).1, specEncode_eq_of_cmp_zero h0]

/-- values the machine finds `==` are printed identically (all reifiable values, no class): aliases, copies with another key
order, any two functions … -/
theorem machine_equal_same_text (w : World) (v₁ v₂ : Value) (p₁ p₂ : Compare.PValue) (h₁ : reify w v₁ = some p₁)
    (h₂ : reify w v₂ = some p₂) (he : compare? w v₁ v₂ = some 0) :
    valueJson? w (w.heap.length + 2) [] v₁ = valueJson? w (w.heap.length + 2) [] v₂ := by
  rw [compare_bridge w v₁ v₂ p₁ p₂ h₁ h₂] at he
  have h0 := Option.some.inj he
  rw [valueJson_bridge w v₁ p₁ h₁ _ (by omega), valueJson_bridge w v₂ p₂ h₂ _ (by omega), specEncode_eq_of_cmp_zero h0]

/-- **Sorted keys.**  In the text the machine builds for a container of the class, the members of every object appear in
ascending key order and no key occurs twice (the decoder keeps text order). -/
theorem machine_keys_sorted (w : World) (s : String) (v : Value) (p : Compare.PValue) (h : reify w v = some p)
    (hcont : IsContainer p = true) (hc : JClass p = true) :
    ∃ t : String, HostImpl.host.binop .add (.str s) v w = .str (s ++ t) ∧
      HostImpl.host.lib "systemLog" [v] w = .ret (.ok .null) { w with log := w.log ++ [t] } ∧
      ∃ j, Json.decode t.toList = some j ∧ Json.KeysSorted j ∧ Json.WF j :=
  ⟨strOf p, machine_add_str w s v p h, machine_systemLog w v p h, strOf_keys_sorted p hcont hc⟩

mutual
theorem allNums_toJson : ∀ p : Compare.PValue, IntNums p = true → C14.AllNums C14.IsIntegral (toJson p)
  | .num q, hi => by
    have : q.den = 1 := by simpa [IntNums] using hi
    simp [toJson, numJ, this, C14.AllNums, C14.IsIntegral]
  | .arr xs, hi => by
    simp only [toJson, C14.AllNums]; exact allNums_toJsonList xs (by simpa [IntNums] using hi)
  | .obj kvs, hi => by
    simp only [toJson, C14.AllNums]; exact allNums_toJsonItems kvs (by simpa [IntNums] using hi)
  | .null, _ | .bool _, _ | .str _, _ | .dt _, _ | .fn _, _ | .regex _, _ => by simp [toJson, C14.AllNums]
theorem allNums_toJsonList : ∀ xs : List Compare.PValue, IntNumsList xs = true → C14.AllNumsList C14.IsIntegral (toJsonList xs)
  | [], _ => by simp [toJsonList, C14.AllNumsList]
  | x :: xs, hi => by
    simp only [IntNumsList, Bool.and_eq_true] at hi
    simp only [toJsonList, C14.AllNumsList]
    exact ⟨allNums_toJson x hi.1, allNums_toJsonList xs hi.2⟩
theorem allNums_toJsonItems : ∀ kvs : List (String × Compare.PValue), IntNumsItems kvs = true →
    C14.AllNumsMembers C14.IsIntegral (toJsonItems kvs)
  | [], _ => by simp [toJsonItems, C14.AllNumsMembers]
  | (k, v) :: rest, hi => by
    simp only [IntNumsItems, Bool.and_eq_true] at hi
    simp only [toJsonItems, C14.AllNumsMembers]
    exact ⟨allNums_toJson v hi.1, allNums_toJsonItems rest hi.2⟩
end

/-- **Integral numbers print without a fraction.**  (1) `"s" + n` and `systemLog(n)` for an integral number `n` give `str(n)` of
the C13 model: an optional `-` and digits, no `.`, and the text reads back as `n`.  (2) In the text of a container of the class
every number token is read back by the C14 decoder as an integer (a token that consists of an optional `-` and digits only:
`C14.integral_no_fraction`). -/
theorem machine_integral_no_fraction (w : World) (s : String) :
    (∀ q : Rat, q.den = 1 →
      HostImpl.host.binop .add (.str s) (.num q) w = .str (s ++ NumText.valueStringNum (.int q.num)) ∧
      HostImpl.host.lib "systemLog" [.num q] w = .ret (.ok .null) { w with log := w.log ++ [NumText.valueStringNum (.int q.num)] } ∧
      '.' ∉ (NumText.valueStringNum (.int q.num)).toList ∧
      NumText.decVal (NumText.valueStringNum (.int q.num)) = some (q.num : Rat)) ∧
    (∀ (v : Value) (p : Compare.PValue), reify w v = some p → IsContainer p = true → JClass p = true →
      ∃ t : String, HostImpl.host.binop .add (.str s) v w = .str (s ++ t) ∧
        ∃ j, Json.decode t.toList = some j ∧ C14.AllNums C14.IsInt j) := by
  constructor
  · intro q hq
    obtain ⟨e, _, hd, hv⟩ := strOf_integral q hq
    have h1 := machine_add_str w s (.num q) (.num q) rfl
    have h2 := machine_systemLog w (.num q) (.num q) rfl
    rw [e] at h1 h2 hd hv
    exact ⟨h1, h2, hd, hv⟩
  · intro v p h hcont hc
    refine ⟨strOf p, machine_add_str w s v p h, ?_⟩
    rw [strOf_mirror p hcont hc]
    exact C14.integral_no_fraction.2.1 (toJson p) (wf_of_class p hc) (allNums_toJson p (Bool.and_eq_true_iff.mp hc).1) 0

/-! ## non-vacuity: the worlds of `C11Bridge` (nested array-of-objects heap, aliases, a self-containing cell) -/

theorem exP_class : JClass exP0 = true ∧ JClass exP1 = true ∧ JClass (.arr [exP0, exP0, exP1]) = true ∧
    Plain exP0 = true ∧ Plain exP1 = true ∧ IsContainer exP0 = true ∧ IsContainer exP1 = true := by decide +kernel

theorem exP_text : strOf exP0 = "[{\"a\":\"x\",\"b\":1},2]" ∧ strOf exP1 = "[{\"a\":\"x\",\"b\":1},2]" ∧
    strOf (.arr [exP0, exP0, exP1]) = "[[{\"a\":\"x\",\"b\":1},2],[{\"a\":\"x\",\"b\":1},2],[{\"a\":\"x\",\"b\":1},2]]" := by
  refine ⟨?_, ?_, ?_⟩ <;> exact C14.ofList_eq_lit rfl (by decide +kernel)

/-- the nested heap: cell 2 (`[{b:1, a:"x"}, 2]`, keys inserted as b, a) prints with sorted keys; its copy with the other
insertion order prints identically; cell 4 = `[a, a, copy]` prints the aliased cell twice … -/
example : valueString? exW (.arr 2) = some "[{\"a\":\"x\",\"b\":1},2]" ∧
    valueString? exW (.arr 3) = some "[{\"a\":\"x\",\"b\":1},2]" ∧
    valueJson? exW 8 [] (.arr 4) = some "[[{\"a\":\"x\",\"b\":1},2],[{\"a\":\"x\",\"b\":1},2],[{\"a\":\"x\",\"b\":1},2]]" := by
  refine ⟨?_, ?_, ?_⟩
  · rw [valueString_bridge exW _ _ exW_reify.1, exP_text.1]
  · rw [valueString_bridge exW _ _ exW_reify.2.1, exP_text.2.1]
  · have := valueJson_bridge exW _ _ exW_reify.2.2.1 8 (by decide)
    rw [this]; exact congrArg some exP_text.2.2

/-- … `+` and `systemLog` … -/
example : HostImpl.host.binop .add (.str "v=") (.arr 2) exW = .str "v=[{\"a\":\"x\",\"b\":1},2]" ∧
    HostImpl.host.binop .add (.arr 2) (.str "!") exW = .str "[{\"a\":\"x\",\"b\":1},2]!" ∧
    HostImpl.host.lib "systemLog" [.arr 2] exW = .ret (.ok .null) { exW with log := ["[{\"a\":\"x\",\"b\":1},2]"] } := by
  refine ⟨?_, ?_, ?_⟩
  · rw [machine_add_str exW _ _ _ exW_reify.1, exP_text.1]; rfl
  · rw [machine_str_add exW _ _ _ exW_reify.1, exP_text.1]; rfl
  · rw [machine_systemLog exW _ _ exW_reify.1, exP_text.1]; rfl

/-- … the text round-trips, the copy prints the same text as the original exactly because the machine finds them `==` … -/
example : (∃ j, Json.decode "[{\"a\":\"x\",\"b\":1},2]".toList = some j ∧ Json.Equiv j (toJson exP0)) ∧
    (HostImpl.host.binop .add (.str "") (.arr 2) exW = HostImpl.host.binop .add (.str "") (.arr 3) exW ↔
      HostImpl.host.binop .eq (.arr 2) (.arr 3) exW = .bool true) := by
  constructor
  · obtain ⟨t, h1, _, _, j, hj, he, _⟩ := machine_json_roundtrip exW "" (.arr 2) exP0 exW_reify.1 exP_class.2.2.2.2.2.1 exP_class.1
    rw [machine_add_str exW _ _ _ exW_reify.1, exP_text.1] at h1
    have : t = "[{\"a\":\"x\",\"b\":1},2]" := ((String.append_right_inj "").mp (Value.str.inj h1)).symm
    subst this
    exact ⟨j, hj, he⟩
  · exact machine_same_text_iff_equal exW "" _ _ _ _ exW_reify.1 exW_reify.2.1 exP_class.2.2.2.2.2.1 exP_class.2.2.2.2.2.2
      exP_class.1 exP_class.2.1 exP_class.2.2.2.1 exP_class.2.2.2.2.1

/-- … and the self-containing cell 5 (and cell 4' = anything that reaches it) has no text on either side -/
example : valueString? exW (.arr 5) = none ∧ reify exW (.arr 5) = none ∧ valueJson? exW 100 [] (.arr 5) = none ∧
    HostImpl.host.binop .add (.str "v=") (.arr 5) exW = .null ∧
    HostImpl.host.lib "systemLog" [.arr 5] exW = .ret (.fail .null) exW := by
  have hc : ∃ c, ReachesEq exW (.arr 5) c ∧ Reaches exW c c :=
    ⟨.arr 5, Or.inl rfl, .step (.arr (xs := [.arr 5]) rfl (by simp))⟩
  exact ⟨(valueString_none_of_cycle exW _ hc).1, (valueString_none_of_cycle exW _ hc).2, valueJson_none_of_cycle exW _ _ _ hc,
    (machine_text_cycle exW "v=" _ hc).1, (machine_text_cycle exW "v=" _ hc).2⟩

/-- scalars and the other kinds: strings bare at top level and escaped inside containers; functions, regexes, datetimes -/
example : valueString? {} (.str "a\"b\n") = some "a\"b\n" ∧ valueJson? {} 1 [] (.str "a\"b\né😀") = some "\"a\\\"b\\n\\u00e9\\ud83d\\ude00\"" ∧
    strOf (.num (-12)) = "-12" ∧ strOf (.arr [.fn 1, .regex 2, .dt 5, .num (5/2)]) = "[\"<function>\",null,\"<dt 5>\",2.5]" := by
  refine ⟨rfl, ?_, by decide +kernel, C14.ofList_eq_lit rfl (by decide +kernel)⟩
  rw [valueJson_bridge {} _ _ rfl 1 (by decide)]
  exact congrArg some (C14.ofList_eq_lit rfl (by decide +kernel))

end C14Bridge
