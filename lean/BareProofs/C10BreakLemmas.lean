import BareProofs.C10Lemmas

/-!
# C10 — the statement patterns on lines given by their tokens and blank runs

For every statement kind of the cascade `Scan.shapeS` a **build lemma**: the line written as its tokens with an arbitrary
blank run at every place where the pattern has `\s*` / `\s+` is recognised by exactly that pattern, the captured groups are
the tokens, and `match.start(expr)` is the length of what stands in front of the expression.  The expression text is a
free parameter (so: replacing it keeps the shape) and so is every blank run (so: the shape depends on the layout only
through the offset).

That the earlier patterns of the cascade fail has two reasons.  On a line *keyword, blank, …* the keyword patterns exclude
each other (`shapeS_of_beforeLabel`, `shapeS_of_afterLabel` of `C10Lemmas`).  On a line *word, then a character that is
neither a word character nor a blank* (a label `name:`, a call `name(…`) every keyword pattern fails, because it wants a
blank or the end of the line after its keyword — `else` also takes a colon, `jumpif` a parenthesis — and only the label
pattern is left (`shapeS_word_punct`).
-/

namespace C10
open Text Scan

theorem ws1?_ws {w : Chars} (hw : allSpace w = true) (hne : w ≠ []) (x : Chars) : ws1? (w ++ x) = some (lstripL x) := by
  cases w with
  | nil => exact absurd rfl hne
  | cons c w' =>
    have h : isSpace c = true ∧ allSpace w' = true := by simpa [allSpace] using hw
    simp [ws1?, h.1, lstrip_append_ws x h.2]

/-- `\s+(?P<expr>.+)\s*:\s*$` on blanks, an expression text that starts with a non-blank, a colon, blanks -/
theorem exprColon?_build {w1 w3 : Chars} (d : Char) (e1 : Chars) (hw1 : allSpace w1 = true) (hne : w1 ≠ [])
    (hd : isSpace d = false) (hw3 : allSpace w3 = true) :
    exprColon? (w1 ++ d :: e1 ++ ':' :: w3) = some (w1.length, d :: e1) := by
  have hw1a : ∀ a ∈ w1, isSpace a = true := by simpa [allSpace] using hw1
  obtain ⟨c, hc⟩ : ∃ c, w1.getLast? = some c := by
    cases h : w1.getLast? with
    | none => exact absurd (List.getLast?_eq_none_iff.mp h) hne
    | some c => exact ⟨c, rfl⟩
  unfold exprColon?
  rw [show w1 ++ d :: e1 ++ ':' :: w3 = (w1 ++ d :: e1 ++ [':']) ++ w3 by simp, rev_dropWhile_append_ws _ _ hw3]
  simp [show isSpace ':' = false by decide, List.takeWhile_append_of_pos hw1a, List.dropWhile_append_of_pos hw1a, hd, hc]

theorem assign?_none_of {nm w : Chars} (hid : isIdent nm = true) (hw : allSpace w = true) {d : Char}
    (hd : isSpace d = false) (hde : d ≠ '=') (hnw : w ≠ [] ∨ isWord d = false) (r : Chars) :
    assign? (nm ++ (w ++ d :: r)) = none :=
  assign?_none hid (hnw.elim (noWordHead_ws hw · _) (noWordHead_ws_cons hw · _)) fun t => by
    rw [lstripL_ws_cons hw hd]; exact fun e => hde (List.cons.inj e).1

theorem label?_none_of' {nm w : Chars} (hid : isIdent nm = true) (hw : allSpace w = true) {d : Char}
    (hd : isSpace d = false) (r : Chars) (hde : d = ':' → allSpace r = false) (hnw : w ≠ [] ∨ isWord d = false) :
    label? (nm ++ (w ++ d :: r)) = none :=
  label?_none hid (hnw.elim (noWordHead_ws hw · _) (noWordHead_ws_cons hw · _)) fun t => by
    rw [lstripL_ws_cons hw hd]; exact fun e => (List.cons.inj e).2 ▸ hde (List.cons.inj e).1

theorem label?_none_of {nm w : Chars} (hid : isIdent nm = true) (hw : allSpace w = true) {d : Char}
    (hd : isSpace d = false) (hde : d ≠ ':') (hnw : w ≠ [] ∨ isWord d = false) (r : Chars) :
    label? (nm ++ (w ++ d :: r)) = none :=
  label?_none_of' hid hw hd r (fun e => absurd e hde) hnw

theorem idStart_ne {c : Char} (h : isIdStart c = true) {x : Char} (hx : isWord x = false) : c ≠ x := by
  intro e; subst e; rw [idStart_isWord h] at hx; cases hx

theorem assign?_none_kw_ident {kw w nm : Chars} (hk : isIdent kw = true) (hw : allSpace w = true) (hne : w ≠ [])
    (hid : isIdent nm = true) (r : Chars) : assign? (kw ++ (w ++ (nm ++ r))) = none := by
  obtain ⟨c, cs, rfl, hc, hcs⟩ := isIdent_head_ns hid
  exact assign?_none_of hk hw hc (idStart_ne hcs (by decide)) (.inl hne) _

theorem label?_none_kw_ident {kw w nm : Chars} (hk : isIdent kw = true) (hw : allSpace w = true) (hne : w ≠ [])
    (hid : isIdent nm = true) (r : Chars) : label? (kw ++ (w ++ (nm ++ r))) = none := by
  obtain ⟨c, cs, rfl, hc, hcs⟩ := isIdent_head_ns hid
  exact label?_none_of hk hw hc (idStart_ne hcs (by decide)) (.inl hne) _

theorem shapeS_header (i : Nat) {kw : String} {mk : Nat → Chars → Shape}
    (hi : beforeLabel[i]? = some ([kw], kwExprColon? kw mk)) {w1 w3 : Chars} (d : Char) (e1 : Chars)
    (hw1 : allSpace w1 = true) (hne : w1 ≠ []) (hd : isSpace d = false) (hde : d ≠ '=') (hw3 : allSpace w3 = true) :
    shapeS (kw.toList ++ (w1 ++ d :: e1 ++ ':' :: w3)) = mk (kw.length + w1.length) (d :: e1) :=
  shapeS_of_beforeLabel i hi (by simp only [kwExprColon?, keyword?_self, exprColon?_build d e1 hw1 hne hd hw3])
    (by rw [List.append_assoc]; exact assign?_none_of (beforeLabel_ident hi kw (.head _)) hw1 hd hde (.inl hne) _)

theorem shapeS_if {w1 w3 : Chars} (d : Char) (e1 : Chars) (hw1 : allSpace w1 = true) (hne : w1 ≠ [])
    (hd : isSpace d = false) (hde : d ≠ '=') (hw3 : allSpace w3 = true) :
    shapeS ("if".toList ++ (w1 ++ d :: e1 ++ ':' :: w3)) = .ifBegin (2 + w1.length) (d :: e1) :=
  shapeS_header 2 rfl d e1 hw1 hne hd hde hw3

theorem shapeS_elif {w1 w3 : Chars} (d : Char) (e1 : Chars) (hw1 : allSpace w1 = true) (hne : w1 ≠ [])
    (hd : isSpace d = false) (hde : d ≠ '=') (hw3 : allSpace w3 = true) :
    shapeS ("elif".toList ++ (w1 ++ d :: e1 ++ ':' :: w3)) = .elif (4 + w1.length) (d :: e1) :=
  shapeS_header 3 rfl d e1 hw1 hne hd hde hw3

theorem shapeS_while {w1 w3 : Chars} (d : Char) (e1 : Chars) (hw1 : allSpace w1 = true) (hne : w1 ≠ [])
    (hd : isSpace d = false) (hde : d ≠ '=') (hw3 : allSpace w3 = true) :
    shapeS ("while".toList ++ (w1 ++ d :: e1 ++ ':' :: w3)) = .whileBegin (5 + w1.length) (d :: e1) :=
  shapeS_header 6 rfl d e1 hw1 hne hd hde hw3

theorem shapeS_return {w1 : Chars} (d : Char) (e1 : Chars) (hw1 : allSpace w1 = true) (hne : w1 ≠ [])
    (hd : isSpace d = false) (hde : d ≠ '=') (hlab : d = ':' → allSpace e1 = false) :
    shapeS ("return".toList ++ (w1 ++ d :: e1)) = .ret (some (6 + w1.length, d :: e1)) := by
  have R : return? ("return".toList ++ (w1 ++ d :: e1)) = some (.ret (some (6 + w1.length, d :: e1))) := by
    unfold return?
    simp only [keyword?_self]
    have h1 : allSpace (w1 ++ d :: e1) = false := by simp [allSpace, hd]
    cases w1 with
    | nil => exact absurd rfl hne
    | cons c w' =>
      have hc : isSpace c = true ∧ allSpace w' = true := by simpa [allSpace] using hw1
      rw [h1]
      simp only [List.cons_append, hc.1, if_true, Bool.false_eq_true, if_false]
      have : lstripL (c :: (w' ++ d :: e1)) = d :: e1 := by
        rw [← List.cons_append]; exact lstripL_ws_cons hw1 hd _
      rw [this]
      simp; omega
  exact shapeS_of_afterLabel 1 rfl R (assign?_none_of (by decide) hw1 hd hde (.inl hne) _)
    (label?_none_of' (by decide) hw1 hd e1 hlab (.inl hne))

theorem wsNameEnd?_build {w1 nm w2 : Chars} (hw1 : allSpace w1 = true) (hne : w1 ≠ []) (hid : isIdent nm = true)
    (hw2 : allSpace w2 = true) : wsNameEnd? (w1 ++ (nm ++ w2)) = some nm := by
  simp only [wsNameEnd?, ws1?_ws hw1 hne, lstripL_ident hid, ident?_ident hid (noWordHead_allSpace hw2), hw2, if_true]

theorem shapeS_jump {w1 nm w2 : Chars} (hw1 : allSpace w1 = true) (hne : w1 ≠ []) (hid : isIdent nm = true)
    (hw2 : allSpace w2 = true) : shapeS ("jump".toList ++ (w1 ++ (nm ++ w2))) = .jump nm none :=
  shapeS_of_afterLabel 0 rfl (by simp only [jump?, keyword?_self, wsNameEnd?_build hw1 hne hid hw2])
    (assign?_none_kw_ident (by decide) hw1 hne hid _) (label?_none_kw_ident (by decide) hw1 hne hid _)

theorem splitLastParen_build (e tail : Chars) (ht : ∀ a ∈ tail, a ≠ ')') :
    splitLastParen (e ++ ')' :: tail) = some (e, tail) := by
  unfold splitLastParen
  have hrev : (e ++ ')' :: tail).reverse = tail.reverse ++ ')' :: e.reverse := by simp
  have hp : ∀ a ∈ tail.reverse, (a != ')') = true := by
    intro a ha; simpa using ht a (by simpa using ha)
  simp only [hrev, List.dropWhile_append_of_pos hp, List.takeWhile_append_of_pos hp]
  simp

theorem tail_no_paren {w1 nm w2 : Chars} (hw1 : allSpace w1 = true) (hid : isIdent nm = true) (hw2 : allSpace w2 = true) :
    ∀ a ∈ w1 ++ (nm ++ w2), a ≠ ')' := by
  intro a ha e
  subst e
  simp only [List.mem_append] at ha
  rcases ha with h | h | h
  · exact absurd (List.all_eq_true.mp hw1 _ h) (by decide)
  · exact absurd (isIdent_word hid _ h) (by decide)
  · exact absurd (List.all_eq_true.mp hw2 _ h) (by decide)

theorem shapeS_jumpif {w0 w1 nm w2 : Chars} (e : Chars) (hw0 : allSpace w0 = true) (hee : e ≠ [])
    (hw1 : allSpace w1 = true) (hne : w1 ≠ []) (hid : isIdent nm = true) (hw2 : allSpace w2 = true) :
    shapeS ("jumpif".toList ++ (w0 ++ '(' :: (e ++ ')' :: (w1 ++ (nm ++ w2))))) =
      .jump nm (some (6 + w0.length + 1, e)) := by
  have hp : isSpace '(' = false := by decide
  refine shapeS_of_afterLabel 0 rfl ?_ (assign?_none_of (by decide) hw0 hp (by decide) (.inr (by decide)) _)
    (label?_none_of (by decide) hw0 hp (by decide) (.inr (by decide)) _)
  -- the alternative `jump` fails: `\s+` would have to match `i`
  have hW : ∀ X, wsNameEnd? ("if".toList ++ X) = none := fun X => by
    simp [wsNameEnd?, ws1?, show isSpace 'i' = false by decide]
  simp only [jump?, show "jumpif".toList = "jump".toList ++ "if".toList by decide, List.append_assoc, keyword?_self, hW,
    lstripL_ws_cons hw0 hp, splitLastParen_build e _ (tail_no_paren hw1 hid hw2), List.isEmpty_eq_false_iff.mpr hee,
    wsNameEnd?_build hw1 hne hid hw2]
  simp; omega

/-- the optional index group of a `for` header: nothing, or `blanks , blanks name` -/
def forMid : Option (Chars × Chars × Chars) → Chars
  | none => []
  | some (w2, w3, ix) => w2 ++ ',' :: (w3 ++ ix)

def forMidOK : Option (Chars × Chars × Chars) → Bool
  | none => true
  | some (w2, w3, ix) => allSpace w2 && allSpace w3 && isIdent ix

theorem forIdx_build (mid : Option (Chars × Chars × Chars)) (hm : forMidOK mid = true) {w4 : Chars}
    (hw4 : allSpace w4 = true) (hne4 : w4 ≠ []) (X : Chars) :
    forIdx (forMid mid ++ (w4 ++ ("in".toList ++ X))) = (mid.map (fun m => m.2.2), w4 ++ ("in".toList ++ X)) := by
  match mid with
  | none =>
    simp [forMid, forIdx, lstripL_ws_cons hw4 (show isSpace 'i' = false by decide)]
  | some (w2, w3, ix) =>
    simp only [forMidOK, Bool.and_eq_true] at hm
    simp only [forMid, Option.map_some, forIdx, List.append_assoc, List.cons_append,
      lstripL_ws_cons hm.1.1 (show isSpace ',' = false by decide), lstrip_append_ws _ hm.1.2, lstripL_ident hm.2,
      ident?_ident hm.2 (noWordHead_ws hw4 hne4 _)]

theorem noWordHead_forMid (mid : Option (Chars × Chars × Chars)) (hm : forMidOK mid = true) {w4 : Chars}
    (hw4 : allSpace w4 = true) (hne4 : w4 ≠ []) (X : Chars) : noWordHead (forMid mid ++ (w4 ++ X)) = true := by
  cases mid with
  | none => exact noWordHead_ws hw4 hne4 _
  | some m =>
    obtain ⟨w2, w3, ix⟩ := m
    simp only [forMidOK, Bool.and_eq_true] at hm
    simp only [forMid, List.append_assoc, List.cons_append]
    exact noWordHead_ws_cons hm.1.1 (by decide) _

theorem shapeS_for {w1 v w4 w5 w6 : Chars} (mid : Option (Chars × Chars × Chars)) (d : Char) (e1 : Chars)
    (hw1 : allSpace w1 = true) (hne1 : w1 ≠ []) (hv : isIdent v = true) (hm : forMidOK mid = true)
    (hw4 : allSpace w4 = true) (hne4 : w4 ≠ []) (hw5 : allSpace w5 = true) (hne5 : w5 ≠ [])
    (hd : isSpace d = false) (hw6 : allSpace w6 = true) :
    shapeS ("for".toList ++ (w1 ++ (v ++ (forMid mid ++ (w4 ++ ("in".toList ++ (w5 ++ d :: e1 ++ ':' :: w6))))))) =
      .forBegin v (mid.map (fun m => m.2.2))
        ("for".toList ++ (w1 ++ (v ++ (forMid mid ++ (w4 ++ ("in".toList ++ w5)))))).length (d :: e1) := by
  refine shapeS_of_beforeLabel 8 rfl ?_ (assign?_none_kw_ident (by decide) hw1 hne1 hv _)
  simp only [for?_eq, keyword?_self, Option.bind_some, ws1?_ws hw1 hne1, lstripL_ident hv,
    ident?_ident hv (noWordHead_forMid mid hm hw4 hne4 _), forIdx_build mid hm hw4 hne4, forTail, ws1?_ws hw4 hne4,
    lstripL_ident (show isIdent "in".toList = true by decide), exprColon?_build d e1 hw5 hne5 hd hw6, Option.map_some]
  congr 2
  simp only [List.length_append]; omega

theorem shapeS_assign {nm w1 w2 : Chars} (d : Char) (e1 : Chars) (hid : isIdent nm = true) (hw1 : allSpace w1 = true)
    (hw2 : allSpace w2 = true) (hd : isSpace d = false) :
    shapeS (nm ++ (w1 ++ '=' :: (w2 ++ d :: e1))) = .assign nm (nm ++ (w1 ++ '=' :: w2)).length (d :: e1) := by
  unfold shapeS
  rw [assign?_build d e1 hid hw1 hw2 hd]; rfl

theorem shapeS_else {w1 w2 : Chars} (hw1 : allSpace w1 = true) (hw2 : allSpace w2 = true) :
    shapeS ("else".toList ++ (w1 ++ ':' :: w2)) = .else_ :=
  shapeS_of_beforeLabel 4 rfl
    (by simp only [else?, keyword?_self, lstripL_ws_cons hw1 (show isSpace ':' = false by decide), hw2, if_true])
    (assign?_none_of (by decide) hw1 (by decide) (by decide) (.inr (by decide)) _)

theorem shapeS_include {w1 w2 : Chars} (body : Chars) (hw1 : allSpace w1 = true) (hne : w1 ≠ [])
    (hq : quotesEscaped body = true) (hw2 : allSpace w2 = true) :
    shapeS ("include".toList ++ (w1 ++ '\'' :: (body ++ '\'' :: w2))) = .include (unescapeQuote body) false := by
  have hs : isSpace '\'' = false := by decide
  refine shapeS_of_afterLabel 2 rfl ?_ (assign?_none_of (by decide) hw1 hs (by decide) (.inl hne) _)
    (label?_none_of (by decide) hw1 hs (by decide) (.inl hne) _)
  simp only [include?, keyword?_self, ws1?_ws hw1 hne, lstripL_cons_ns hs,
    show body ++ '\'' :: w2 = (body ++ ['\'']) ++ w2 by simp, rev_dropWhile_append_ws _ _ hw2]
  simp [hs, hq]

theorem shapeS_include_system {w1 w2 : Chars} (url : Chars) (hw1 : allSpace w1 = true) (hne : w1 ≠ [])
    (hu : ∀ a ∈ url, a ≠ '>') (hw2 : allSpace w2 = true) :
    shapeS ("include".toList ++ (w1 ++ '<' :: (url ++ '>' :: w2))) = .include url true := by
  have hs : isSpace '<' = false := by decide
  refine shapeS_of_afterLabel 2 rfl ?_ (assign?_none_of (by decide) hw1 hs (by decide) (.inl hne) _)
    (label?_none_of (by decide) hw1 hs (by decide) (.inl hne) _)
  have hp : ∀ a ∈ url, (a != '>') = true := by intro a ha; simpa using hu a ha
  simp only [include?, keyword?_self, ws1?_ws hw1 hne, lstripL_cons_ns hs, List.dropWhile_append_of_pos hp,
    List.takeWhile_append_of_pos hp]
  simp [hw2]

/-! ## `function` headers -/

/-- `, name` items after the first parameter: (blanks before the comma, blanks after it, the name) -/
def renderItems : List (Chars × Chars × Chars) → Chars
  | [] => []
  | (wa, wb, a) :: t => wa ++ ',' :: (wb ++ (a ++ renderItems t))

def itemsOK : List (Chars × Chars × Chars) → Bool
  | [] => true
  | (wa, wb, a) :: t => allSpace wa && allSpace wb && isIdent a && itemsOK t

/-- the parameter list: nothing, or a first name and more items -/
def renderArgs : Option (Chars × List (Chars × Chars × Chars)) → Chars
  | none => []
  | some (a0, items) => a0 ++ renderItems items

def argsOK : Option (Chars × List (Chars × Chars × Chars)) → Bool
  | none => true
  | some (a0, items) => isIdent a0 && itemsOK items

def argNames : Option (Chars × List (Chars × Chars × Chars)) → List Chars
  | none => []
  | some (a0, items) => a0 :: items.map (fun m => m.2.2)

def dotsText (dots : Bool) : Chars := if dots then "...".toList else []

def asyncText : Option Chars → Chars
  | none => []
  | some w0 => "async".toList ++ w0

theorem renderItems_length (items : List (Chars × Chars × Chars)) : items.length ≤ (renderItems items).length := by
  induction items with
  | nil => simp
  | cons m t ih => obtain ⟨wa, wb, a⟩ := m; simp [renderItems]; omega

theorem noWordHead_renderItems (items : List (Chars × Chars × Chars)) (h : itemsOK items = true) {R : Chars}
    (hR : noWordHead R = true) : noWordHead (renderItems items ++ R) = true := by
  cases items with
  | nil => simpa [renderItems] using hR
  | cons m t =>
    obtain ⟨wa, wb, a⟩ := m
    simp only [itemsOK, Bool.and_eq_true] at h
    simp only [renderItems, List.append_assoc, List.cons_append]
    exact noWordHead_ws_cons h.1.1.1 (by decide) _

theorem argsLoop_build : ∀ (items : List (Chars × Chars × Chars)) (n : Nat) (R : Chars), items.length ≤ n →
    itemsOK items = true → noWordHead R = true → (∀ r, lstripL R ≠ ',' :: r) →
    Scan.argsLoop n (renderItems items ++ R) = (items.map (fun m => m.2.2), R)
  | [], 0, R, _, _, _, _ => rfl
  | [], n + 1, R, _, _, _, hc => by simp only [renderItems, List.nil_append, Scan.argsLoop, List.map_nil]
  | (wa, wb, a) :: t, n + 1, R, hl, hok, hR, hc => by
    simp only [itemsOK, Bool.and_eq_true] at hok
    simp only [renderItems, List.append_assoc, List.cons_append, Scan.argsLoop,
      lstripL_ws_cons hok.1.1.1 (show isSpace ',' = false by decide), lstrip_append_ws _ hok.1.1.2, lstripL_ident hok.1.2,
      ident?_ident hok.1.2 (noWordHead_renderItems t hok.2 hR), argsLoop_build t n R (by simpa using hl) hok.2 hR hc,
      List.map_cons]

/-- the end of a header: `) blanks : blanks` -/
def fnTail (w6 w7 : Chars) : Chars := ')' :: (w6 ++ ':' :: w7)

/-- the text of a `function` header after the name -/
def fnRest (w2 w3 : Chars) (args : Option (Chars × List (Chars × Chars × Chars))) (w4 : Chars) (dots : Bool)
    (w5 w6 w7 : Chars) : Chars :=
  w2 ++ '(' :: (w3 ++ (renderArgs args ++ (w4 ++ (dotsText dots ++ (w5 ++ fnTail w6 w7)))))

/-- what stands after the parameter names, without the blanks in front of it: `[... blanks] ) blanks : blanks` -/
def fnEnd (dots : Bool) (w5 w6 w7 : Chars) : Chars := if dots then "...".toList ++ (w5 ++ fnTail w6 w7) else fnTail w6 w7

theorem lstripL_fnEnd {w4 w5 w6 w7 : Chars} (dots : Bool) (hw4 : allSpace w4 = true) (hw5 : allSpace w5 = true) :
    lstripL (w4 ++ (dotsText dots ++ (w5 ++ fnTail w6 w7))) = fnEnd dots w5 w6 w7 := by
  cases dots with
  | true => exact lstripL_ws_cons hw4 (by decide) _
  | false =>
    simp only [dotsText, fnEnd, Bool.false_eq_true, if_false, List.nil_append]
    rw [lstrip_append_ws _ hw4]; exact lstripL_ws_cons hw5 (by decide) _

theorem fnEnd_head (dots : Bool) (w5 w6 w7 : Chars) :
    ∃ c t, fnEnd dots w5 w6 w7 = c :: t ∧ isWord c = false ∧ isSpace c = false ∧ c ≠ ',' := by
  cases dots
  · exact ⟨')', _, rfl, by decide, by decide, by decide⟩
  · exact ⟨'.', _, rfl, by decide, by decide, by decide⟩

theorem noWordHead_of_lstripL {T : Chars} (h : noWordHead (lstripL T) = true) : noWordHead T = true := by
  cases T with
  | nil => rfl
  | cons c t =>
    cases hc : isSpace c with
    | true => simp [noWordHead, space_not_word hc]
    | false => rwa [lstripL_cons_ns hc] at h

theorem fnClose_build {Z w5 w6 w7 : Chars} (name : Chars) (args : List Chars) (dots isAsync : Bool)
    (hw5 : allSpace w5 = true) (hw6 : allSpace w6 = true) (hw7 : allSpace w7 = true)
    (hZ : lstripL Z = fnEnd dots w5 w6 w7) :
    fnClose name args (fnDots Z).1 isAsync (fnDots Z).2 = some (.funcBegin name args dots isAsync) := by
  have close : ∀ {Y : Chars}, lstripL Y = fnTail w6 w7 →
      fnClose name args dots isAsync Y = some (.funcBegin name args dots isAsync) := fun hY => by
    simp only [fnClose, hY, fnTail, lstripL_ws_cons hw6 (show isSpace ':' = false by decide), hw7, if_true]
  unfold fnDots
  rw [hZ]
  cases dots with
  | true =>
    simp only [fnEnd, if_true, keyword?_self]
    exact close (lstripL_ws_cons hw5 (by decide) _)
  | false =>
    have : keyword? "..." (fnTail w6 w7) = none := by simp [fnTail, keyword?]
    simp only [fnEnd, Bool.false_eq_true, if_false, this]
    exact close hZ

theorem fnAfterName_build {w2 w3 w4 w5 w6 w7 : Chars} (name : Chars) (args : Option (Chars × List (Chars × Chars × Chars)))
    (dots isAsync : Bool) (hw2 : allSpace w2 = true) (hw3 : allSpace w3 = true) (ha : argsOK args = true)
    (hw4 : allSpace w4 = true) (hw5 : allSpace w5 = true) (hw6 : allSpace w6 = true) (hw7 : allSpace w7 = true) :
    ((fnOpen (fnRest w2 w3 args w4 dots w5 w6 w7)).bind fun r =>
      fnClose name (fnArgs r).1 (fnDots (fnArgs r).2).1 isAsync (fnDots (fnArgs r).2).2) =
      some (.funcBegin name (argNames args) dots isAsync) := by
  have hT := lstripL_fnEnd (w6 := w6) (w7 := w7) dots hw4 hw5
  obtain ⟨e, t, he, hew, hes, hec⟩ := fnEnd_head dots w5 w6 w7
  simp only [fnRest, fnOpen, lstripL_ws_cons hw2 (show isSpace '(' = false by decide), lstrip_append_ws _ hw3,
    Option.bind_some]
  generalize w4 ++ (dotsText dots ++ (w5 ++ fnTail w6 w7)) = T at hT ⊢
  cases args with
  | none =>
    -- no parameter: `fnArgs` finds no identifier in front of `.` or `)`
    have hA : fnArgs (lstripL T) = ([], lstripL T) := by
      have : isIdStart e = false := by
        cases h : isIdStart e with
        | false => rfl
        | true => rw [idStart_isWord h] at hew; cases hew
      simp [fnArgs, hT, he, ident?, this]
    simp only [renderArgs, List.nil_append, argNames, hA]
    exact fnClose_build name [] dots isAsync hw5 hw6 hw7 ((dropWhile_idem _ _).trans hT)
  | some p =>
    obtain ⟨a0, items⟩ := p
    simp only [argsOK, Bool.and_eq_true] at ha
    have hR : noWordHead T = true := noWordHead_of_lstripL (by rw [hT, he]; simp [noWordHead, hew])
    have hA : fnArgs (a0 ++ (renderItems items ++ T)) = (a0 :: items.map (fun m => m.2.2), T) := by
      unfold fnArgs
      rw [ident?_ident ha.1 (noWordHead_renderItems items ha.2 hR)]
      simp only
      rw [argsLoop_build items _ _ (by have := renderItems_length items; simp only [List.length_append]; omega) ha.2 hR
        (by rw [hT, he]; exact fun r h => hec (List.cons.inj h).1)]
    simp only [renderArgs, List.append_assoc, lstripL_ident ha.1, hA, argNames]
    exact fnClose_build name _ dots isAsync hw5 hw6 hw7 hT

/-- the function-header pattern on `[async blanks] function blanks name blanks ( blanks params blanks [...] blanks ) blanks : blanks` -/
theorem shapeS_function {w1 nm w2 w3 w4 w5 w6 w7 : Chars} (asy : Option Chars)
    (args : Option (Chars × List (Chars × Chars × Chars))) (dots : Bool)
    (hasy : ∀ w0, asy = some w0 → allSpace w0 = true) (hw1 : allSpace w1 = true) (hne1 : w1 ≠ [])
    (hid : isIdent nm = true) (hw2 : allSpace w2 = true) (hw3 : allSpace w3 = true) (ha : argsOK args = true)
    (hw4 : allSpace w4 = true) (hw5 : allSpace w5 = true) (hw6 : allSpace w6 = true) (hw7 : allSpace w7 = true) :
    shapeS (asyncText asy ++ ("function".toList ++ (w1 ++ (nm ++ fnRest w2 w3 args w4 dots w5 w6 w7)))) =
      .funcBegin nm (argNames args) dots asy.isSome := by
  have hnw : noWordHead (fnRest w2 w3 args w4 dots w5 w6 w7) = true := noWordHead_ws_cons hw2 (by decide) _
  have core : ∀ isAsync, ((keyword? "function" ("function".toList ++ (w1 ++ (nm ++ fnRest w2 w3 args w4 dots w5 w6 w7)))).bind
      fun r => (ws1? r).bind fun r => (ident? r).bind fun p => (fnOpen p.2).bind fun r =>
        fnClose p.1 (fnArgs r).1 (fnDots (fnArgs r).2).1 isAsync (fnDots (fnArgs r).2).2) =
      some (.funcBegin nm (argNames args) dots isAsync) := fun isAsync => by
    simp only [keyword?_self, Option.bind_some, ws1?_ws hw1 hne1, lstripL_ident hid, ident?_ident hid hnw]
    exact fnAfterName_build nm args dots isAsync hw2 hw3 ha hw4 hw5 hw6 hw7
  have hf : isIdent "function".toList = true := by decide
  cases asy with
  | none =>
    refine shapeS_of_beforeLabel 0 rfl ?_ (assign?_none_kw_ident hf hw1 hne1 hid _)
    simp only [asyncText, List.nil_append, funcBegin?_eq, fnAsync, keyword?_other (kw := "async") (K := "function")
      (List.mem_of_getElem? (i := 0) rfl) (List.mem_of_getElem? (i := 1) rfl) (by decide)]
    exact core false
  | some w0 =>
    have hw0 := hasy w0 rfl
    refine shapeS_of_beforeLabel 0 rfl ?_ ?_
    · simp only [asyncText, List.append_assoc, funcBegin?_eq, fnAsync, keyword?_self, lstrip_append_ws _ hw0,
        lstripL_ident hf]
      exact core true
    · cases w0 with
      | nil =>
        -- `asyncfunction` is one name
        have hk : isIdent ("async".toList ++ "function".toList) = true := by decide
        simp only [asyncText, List.append_nil]
        rw [← List.append_assoc]
        exact assign?_none_kw_ident hk hw1 hne1 hid _
      | cons x xs =>
        simp only [asyncText, List.append_assoc]
        exact assign?_none_kw_ident (by decide) hw0 (by simp) hf _

/-! ## a word followed by a character that is neither a word character nor a blank -/

/-- non-empty and starts with a non-blank (what `\s+(.+)` / `\s*(.+)$` captures after taking all blanks) -/
def nbStart : Chars → Bool
  | d :: _ => !isSpace d
  | [] => false

theorem nbStart_decomp {e : Chars} (h : nbStart e = true) : ∃ d e1, e = d :: e1 ∧ isSpace d = false := by
  cases e with
  | nil => simp [nbStart] at h
  | cons d e1 => exact ⟨d, e1, rfl, by simpa [nbStart] using h⟩

theorem nbStart_append {e : Chars} (h : nbStart e = true) (w : Chars) : nbStart (e ++ w) = true := by
  cases e with
  | nil => simp [nbStart] at h
  | cons d r => simpa [nbStart] using h

theorem allSpace_of_nbStart {r : Chars} (h : nbStart r = true) : allSpace r = false := by
  obtain ⟨x, xs, rfl, hx⟩ := nbStart_decomp h; simp [allSpace, hx]

theorem ws1?_of_nbStart {r : Chars} (h : nbStart r = true) : ws1? r = none := by
  obtain ⟨x, xs, rfl, hx⟩ := nbStart_decomp h; simp [ws1?, hx]

theorem lstripL_of_nbStart {r : Chars} (h : nbStart r = true) : lstripL r = r := by
  obtain ⟨x, xs, rfl, hx⟩ := nbStart_decomp h; exact lstripL_cons_ns hx xs

/-- `\s+(?P<expr>.+)\s*:\s*$` wants a blank first -/
theorem exprColon?_of_nbStart {r : Chars} (h : nbStart r = true) : exprColon? r = none := by
  obtain ⟨x, xs, rfl, hx⟩ := nbStart_decomp h
  unfold exprColon?
  split
  · next revBefore hd =>
    obtain ⟨ws, -, hws⟩ := rstrip_decomp (x :: xs)
    rw [rstripL, hd, List.reverse_cons, List.append_assoc] at hws
    have hw : revBefore.reverse.takeWhile isSpace = [] := by
      cases hb : revBefore.reverse with
      | nil => rfl
      | cons y b =>
        rw [hb] at hws
        simp only [List.cons_append, List.cons.injEq] at hws
        simp [List.takeWhile, ← hws.1, hx]
    simp only [hw, List.getLast?_nil]
  · rfl

theorem prefix_word : ∀ (k w : Chars) (c : Char) (rest : Chars), (∀ x ∈ k, isWord x = true) → isWord c = false →
    k.isPrefixOf (w ++ c :: rest) = true → ∃ w', w = k ++ w'
  | [], w, _, _, _, _, _ => ⟨w, rfl⟩
  | a :: k, [], c, rest, hk, hc, h => by
      simp only [List.nil_append, List.isPrefixOf, Bool.and_eq_true, beq_iff_eq] at h
      have := hk a (by simp); rw [h.1, hc] at this; cases this
  | a :: k, b :: w, c, rest, hk, hc, h => by
      simp only [List.cons_append, List.isPrefixOf, Bool.and_eq_true, beq_iff_eq] at h
      obtain ⟨w', hw'⟩ := prefix_word k w c rest (fun x hx => hk x (List.mem_cons_of_mem _ hx)) hc h.2
      exact ⟨w', by rw [h.1, hw']; rfl⟩

section punct
variable {w : Chars} {c : Char} {rest : Chars} (hw : ∀ x ∈ w, isWord x = true) (hcw : isWord c = false)
  (hcs : isSpace c = false)
include hw hcw hcs

/-- a keyword found at the head of the line is the head of the first word, and what is left starts with a non-blank -/
theorem keyword?_punct {kw : String} (hkw : kw ∈ stmtKeywords) {r : Chars} (h : keyword? kw (w ++ c :: rest) = some r) :
    ∃ w', w = kw.toList ++ w' ∧ r = w' ++ c :: rest ∧ (∀ x ∈ w', isWord x = true) ∧ nbStart r = true := by
  unfold keyword? at h
  split at h
  · next hp =>
    obtain ⟨w', rfl⟩ := prefix_word _ w c rest (isIdent_word (stmtKeywords_ident kw hkw)) hcw hp
    simp only [Option.some.injEq] at h
    have hr : r = w' ++ c :: rest := by rw [← h, ← String.length_toList, List.append_assoc, List.drop_left]
    refine ⟨w', rfl, hr, fun x hx => hw x (by simp [hx]), ?_⟩
    subst hr
    cases w' with
    | nil => simp [nbStart, hcs]
    | cons a w' => simp [nbStart, word_not_space (hw a (by simp))]
  · cases h

theorem keyword?_nbStart {kw : String} (hkw : kw ∈ stmtKeywords) {r : Chars} (h : keyword? kw (w ++ c :: rest) = some r) :
    nbStart r = true :=
  let ⟨_, _, _, _, hr⟩ := keyword?_punct hw hcw hcs hkw h; hr

theorem kwOnly?_punct {kw : String} (hkw : kw ∈ stmtKeywords) (sh : Shape) : kwOnly? kw sh (w ++ c :: rest) = none := by
  unfold kwOnly?
  cases h : keyword? kw (w ++ c :: rest) with
  | none => rfl
  | some r => simp [allSpace_of_nbStart (keyword?_nbStart hw hcw hcs hkw h)]

theorem kwExprColon?_punct {kw : String} (hkw : kw ∈ stmtKeywords) (mk : Nat → Chars → Shape) :
    kwExprColon? kw mk (w ++ c :: rest) = none := by
  unfold kwExprColon?
  cases h : keyword? kw (w ++ c :: rest) with
  | none => rfl
  | some r => simp [exprColon?_of_nbStart (keyword?_nbStart hw hcw hcs hkw h)]

theorem for?_punct : for? (w ++ c :: rest) = none := by
  unfold for?
  cases h : keyword? "for" (w ++ c :: rest) with
  | none => rfl
  | some r => simp [ws1?_of_nbStart (keyword?_nbStart hw hcw hcs (List.mem_of_getElem? (i := 9) rfl) h)]

theorem include?_punct : include? (w ++ c :: rest) = none := by
  unfold include?
  cases h : keyword? "include" (w ++ c :: rest) with
  | none => rfl
  | some r => simp [ws1?_of_nbStart (keyword?_nbStart hw hcw hcs (List.mem_of_getElem? (i := 15) rfl) h)]

theorem return?_punct : return? (w ++ c :: rest) = none := by
  unfold return?
  cases h : keyword? "return" (w ++ c :: rest) with
  | none => rfl
  | some r =>
    have hr := keyword?_nbStart hw hcw hcs (List.mem_of_getElem? (i := 14) rfl) h
    obtain ⟨x, xs, rfl, hx⟩ := nbStart_decomp hr
    simp [allSpace_of_nbStart hr, hx]

/-- the blank between `async` and `function` is optional -/
theorem funcBegin?_punct : funcBegin? (w ++ c :: rest) = none := by
  have fn : ∀ w' : Chars, (∀ x ∈ w', isWord x = true) → ∀ K : Chars → Option Shape,
      ((keyword? "function" (w' ++ c :: rest)).bind fun r => (ws1? r).bind K) = none := fun w' hw' K => by
    cases h : keyword? "function" (w' ++ c :: rest) with
    | none => rfl
    | some r => simp [ws1?_of_nbStart (keyword?_nbStart hw' hcw hcs (List.mem_of_getElem? (i := 1) rfl) h)]
  rw [funcBegin?_eq, fnAsync]
  cases h : keyword? "async" (w ++ c :: rest) with
  | none => exact fn w hw _
  | some r =>
    obtain ⟨w', -, rfl, hw', hr⟩ := keyword?_punct hw hcw hcs (List.mem_of_getElem? (i := 0) rfl) h
    simp only [lstripL_of_nbStart hr]
    exact fn w' hw' _

/-- `else:` is the only line without a blank after `else` that the pattern matches -/
theorem else?_punct (hk : w = "else".toList → c ≠ ':') : else? (w ++ c :: rest) = none := by
  unfold else?
  cases h : keyword? "else" (w ++ c :: rest) with
  | none => rfl
  | some r =>
    obtain ⟨w', hw0, rfl, hw', hr⟩ := keyword?_punct hw hcw hcs (List.mem_of_getElem? (i := 5) rfl) h
    simp only [lstripL_of_nbStart hr]
    cases w' with
    | nil =>
      simp only [List.nil_append]
      split
      · next r' he => cases he; exact absurd rfl (hk (by simpa using hw0))
      · rfl
    | cons a w' =>
      simp only [List.cons_append]
      split
      · next r' he => cases he; exact absurd (hw' ':' (by simp)) (by decide)
      · rfl

/-- `jump name` needs a blank after `jump`; `jumpif(…) name` a name after the last parenthesis -/
theorem jump?_punct (hj : w = "jumpif".toList → c = '(' → rest.getLast? = some ')') : jump? (w ++ c :: rest) = none := by
  unfold jump?
  cases h : keyword? "jump" (w ++ c :: rest) with
  | none => rfl
  | some r =>
    obtain ⟨w', rfl, rfl, hw', hr⟩ := keyword?_punct hw hcw hcs (List.mem_of_getElem? (i := 13) rfl) h
    have hn : wsNameEnd? (w' ++ c :: rest) = none := by simp [wsNameEnd?, ws1?_of_nbStart hr]
    simp only [hn]
    cases h' : keyword? "if" (w' ++ c :: rest) with
    | none => rfl
    | some r =>
      obtain ⟨w'', hw0, rfl, hw'', hr'⟩ := keyword?_punct hw' hcw hcs (List.mem_of_getElem? (i := 3) rfl) h'
      simp only [lstripL_of_nbStart hr']
      cases w'' with
      | cons a w'' =>
        simp only [List.cons_append]
        split
        · next r2 he => cases he; exact absurd (hw'' '(' (by simp)) (by decide)
        · rfl
      | nil =>
        simp only [List.nil_append]
        split
        · next r2 he =>
          cases he
          obtain ⟨r0, rfl⟩ := List.getLast?_eq_some_iff.mp (hj (by rw [hw0, List.append_nil]; decide +kernel) rfl)
          have : splitLastParen (r0 ++ [')']) = some (r0, []) := by
            simp [splitLastParen]
          rw [this]
          simp [wsNameEnd?, ws1?]
        · rfl

/-- every keyword pattern fails: in the order of the cascade -/
theorem keywordPatterns_punct (hel : w = "else".toList → c ≠ ':')
    (hj : w = "jumpif".toList → c = '(' → rest.getLast? = some ')') :
    ∀ p ∈ beforeLabel ++ afterLabel, p.2 (w ++ c :: rest) = none := by
  have K := fun (i : Nat) {kw : String} (hi : stmtKeywords[i]? = some kw) => List.mem_of_getElem? hi
  simp only [beforeLabel, afterLabel, List.cons_append, List.nil_append, List.mem_cons, List.not_mem_nil, or_false,
    forall_eq_or_imp, forall_eq]
  exact ⟨funcBegin?_punct hw hcw hcs, kwOnly?_punct hw hcw hcs (K 2 rfl) _, kwExprColon?_punct hw hcw hcs (K 3 rfl) _,
    kwExprColon?_punct hw hcw hcs (K 4 rfl) _, else?_punct hw hcw hcs hel, kwOnly?_punct hw hcw hcs (K 6 rfl) _,
    kwExprColon?_punct hw hcw hcs (K 7 rfl) _, kwOnly?_punct hw hcw hcs (K 8 rfl) _, for?_punct hw hcw hcs,
    kwOnly?_punct hw hcw hcs (K 10 rfl) _, kwOnly?_punct hw hcw hcs (K 11 rfl) _, kwOnly?_punct hw hcw hcs (K 12 rfl) _,
    jump?_punct hw hcw hcs hj, return?_punct hw hcw hcs, include?_punct hw hcw hcs⟩

end punct

/-- only the label pattern is left -/
theorem shapeS_word_punct {w rest : Chars} {c : Char} (hid : isIdent w = true) (hcw : isWord c = false)
    (hcs : isSpace c = false) (hne : c ≠ '=') (hel : w = "else".toList → c ≠ ':')
    (hj : w = "jumpif".toList → c = '(' → rest.getLast? = some ')') :
    shapeS (w ++ c :: rest) = (label? (w ++ c :: rest)).getD .exprStmt := by
  have hf := keywordPatterns_punct (isIdent_word hid) hcw hcs hel hj
  rw [shapeS_eq, show w ++ c :: rest = w ++ ([] ++ c :: rest) from rfl,
    assign?_none_of hid rfl hcs hne (.inr hcw), List.nil_append,
    foldr_orElse_of_none (·.2 (w ++ c :: rest)) _ _ fun p hp => hf p (List.mem_append_left _ hp),
    foldr_orElse_of_none (·.2 (w ++ c :: rest)) _ _ fun p hp => hf p (List.mem_append_right _ hp)]
  cases label? (w ++ c :: rest) <;> rfl

/-- a label `name:` -/
theorem shapeS_label {nm w2 : Chars} (hid : isIdent nm = true) (hel : nm ≠ "else".toList) (hw2 : allSpace w2 = true) :
    shapeS (nm ++ ':' :: w2) = .label nm := by
  rw [shapeS_word_punct hid (by decide) (by decide) (by decide) (fun e => absurd e hel) (fun _ h => by cases h)]
  simp [label?, ident?_ident hid (show noWordHead (':' :: w2) = true by show (!isWord ':') = true; decide),
    lstripL_cons_ns (show isSpace ':' = false by decide), hw2]

/-! ## expression statements (the fallback of the cascade) -/

/-- a call `name(…`: whatever the name (it may begin with a statement keyword, or be one) and whatever follows; only
`jumpif(…) name` is a statement, which a closing parenthesis at the end of the line excludes -/
theorem shapeS_ident_paren {nm : Chars} (x : Chars) (hid : isIdent nm = true)
    (hj : nm = "jumpif".toList → x.getLast? = some ')') : shapeS (nm ++ '(' :: x) = .exprStmt := by
  rw [shapeS_word_punct hid (by decide) (by decide) (by decide) (fun _ => by decide) (fun e _ => hj e),
    show nm ++ '(' :: x = nm ++ ([] ++ '(' :: x) from rfl,
    label?_none_of (w := []) hid rfl (by decide) (by decide) (.inr (by decide))]
  rfl

/-- no statement keyword is a prefix of the text -/
def noKeywordPrefix (nm : Chars) : Bool := stmtKeywords.all (fun kw => !kw.toList.isPrefixOf nm)

/-- a call `name(…` whose name does not begin with a statement keyword is an expression statement, whatever follows -/
theorem shapeS_call {nm : Chars} (x : Chars) (hid : isIdent nm = true) (hk : noKeywordPrefix nm = true) :
    shapeS (nm ++ '(' :: x) = .exprStmt :=
  shapeS_ident_paren x hid fun e => by subst e; exact absurd hk (by decide +kernel)

/-- a line that does not start with a letter or `_` is an expression statement -/
theorem shapeS_nonident (d : Char) (x : Chars) (hd : isIdStart d = false) : shapeS (d :: x) = .exprStmt := by
  refine shapeS_of_noKeyword (fun kw hkw => ?_) (by simp [assign?, ident?, hd]) (by simp [label?, ident?, hd])
  obtain ⟨k, ks, e, -, hk⟩ := isIdent_head_ns (stmtKeywords_ident kw hkw)
  exact keyword?_head_ne kw k d x (by rw [e]; rfl) (by intro e; subst e; rw [hk] at hd; cases hd)

end C10
