import BareProofs.C20ProgLemmas
import BareProofs.C20ProgCode
import BareProofs.C20

/-!
# C20Prog — the loops of `diffLines`, run on the jump machine

Program-specific lemmas: scopes (`GOK`, `Clean`, `SameExcept`), the expression shapes diff.bare uses (`ev_*`), the representation
invariant of the result array (`BlockAt`, `Blocks`, `Ext`), and one lemma per loop of the lowered body `B`:
`split_input` (the `if systemType(x) == 'array'` block with its `for` loop, used for `left` and for `right`),
`ident_block`, `scan_right`, `scan_left`.  The main `while` loop and the theorems are in `BareProofs/C20Prog.lean`.

The three `while` loops go through `Steps.loop` (invariant at the test, variant, `break`); the `for` of `split_input` is an
induction on the passes still to come.
-/

namespace C20Prog
open Machine HostLib HostDiff Lib Diff

/-- the names diffLines reads from the globals: the library functions, the (undefined) variable `False`, the line-split regex -/
def globNames : List Name := usedLib.map Name.user ++ [.user "False", .user "diffRegexLineSplit"]

/-- the local scope shadows none of them -/
def Clean (l : Env) : Prop := ∀ x ∈ globNames, l.get? x = none

/-- what diffLines needs of the globals it is called with: every library function it uses is bound to that library function,
`diffRegexLineSplit` holds the regex `\r?\n` (bound by the last statement of diff.bare), and `False` (diff.bare:107 spells the
literal `false` with a capital: an ordinary, undefined variable) is unbound -/
structure GOK (g : Env) : Prop where
  lib : ∀ f ∈ usedLib, g.get? (.user f) = some (.fn (.lib f))
  re : g.get? (.user "diffRegexLineSplit") = some (.regex (encStr lineSplitPattern))
  noFalse : g.get? (.user "False") = none

/- Side conditions on variable names compare string literals: `by simp` settles them through the string simprocs, where
`decide` has `Meta.whnf` unfold `String.decEq`, slowly, at many places.  Tables of names are left to `decide +kernel`. -/
attribute [local simp] NotKw kwNull kwFalse kwTrue globNames usedLib

theorem Clean.set {l : Env} (hc : Clean l) {x : Name} (hx : x ∉ globNames) (v : MValue) : Clean (l.set x v) := by
  intro y hy
  rw [C04.get?_set_other _ _ _ _ (fun e : y = x => hx (e ▸ hy))]
  exact hc y hy

theorem usedLib_notIf : ∀ f ∈ usedLib, Name.user f ≠ kwIf := by
  intro f hf e
  have : "if" ∉ usedLib := by simp
  exact this (Name.user.inj e ▸ hf)

def SameExcept (S : List Name) (l l' : Env) : Prop := ∀ x, x ∉ S → l'.get? x = l.get? x

theorem SameExcept.refl (S : List Name) (l : Env) : SameExcept S l l := fun _ _ => rfl

theorem SameExcept.trans {S : List Name} {l l' l'' : Env} (a : SameExcept S l l') (b : SameExcept S l' l'') :
    SameExcept S l l'' := fun x hx => (b x hx).trans (a x hx)

theorem SameExcept.set {S : List Name} {l l' : Env} (a : SameExcept S l l') {x : Name} (hx : x ∈ S) (v : MValue) :
    SameExcept S l (l'.set x v) := by
  intro y hy
  rw [C04.get?_set_other _ _ _ _ (fun e : y = x => hy (e ▸ hx))]
  exact a y hy

theorem SameExcept.mono {S T : List Name} {l l' : Env} (a : SameExcept S l l') (hST : ∀ x ∈ S, x ∈ T) :
    SameExcept T l l' := fun x hx => a x (fun h => hx (hST x h))

theorem SameExcept.clean {S : List Name} {l l' : Env} (a : SameExcept S l l') (hc : Clean l)
    (hS : ∀ x ∈ S, x ∉ globNames) : Clean l' := by
  intro x hx
  rw [a x (fun h => hS x h hx)]
  exact hc x hx

theorem SameExcept.has {S : List Name} {l l' : Env} (a : SameExcept S l l') {x : Name} {v : MValue} (hx : x ∉ S)
    (h : Has l x v) : Has l' x v := ⟨h.1, (a x hx).trans h.2⟩

/-- `h'` extends `h`: every cell of `h` is still there, unchanged -/
def Pres (h h' : Heap) : Prop := h.length ≤ h'.length ∧ ∀ r, r < h.length → h'[r]? = h[r]?

theorem Pres.refl (h : Heap) : Pres h h := ⟨Nat.le_refl _, fun _ _ => rfl⟩

theorem Pres.trans {h h' h'' : Heap} (a : Pres h h') (b : Pres h' h'') : Pres h h'' :=
  ⟨Nat.le_trans a.1 b.1, fun r hr => (b.2 r (Nat.lt_of_lt_of_le hr a.1)).trans (a.2 r hr)⟩

theorem Pres.append (h : Heap) (c : Cell) : Pres h (h ++ [c]) :=
  ⟨by simp, fun r hr => List.getElem?_append_left hr⟩

theorem Pres.set_ge {h h' : Heap} (a : Pres h h') {r : Nat} (hr : h.length ≤ r) (c : Cell) : Pres h (h'.set r c) :=
  ⟨by simpa using a.1, fun r' hr' => by rw [List.getElem?_set_ne (by omega)]; exact a.2 r' hr'⟩

theorem Pres.getArr {h h' : Heap} (a : Pres h h') {r : Nat} {xs : List Lib.Value} (hx : getArr h r = some xs) :
    getArr h' r = some xs :=
  (getArr_congr (a.2 r (getArr_lt hx))).trans hx

theorem Pres.getObj {h h' : Heap} (a : Pres h h') {r : Nat} {kvs} (hx : getObj h r = some kvs) :
    getObj h' r = some kvs :=
  (getObj_congr (a.2 r (getObj_lt hx))).trans hx

section Shapes
variable {cfg : Config LWorld} (hh : cfg.host = hostDiff) {g : Env} (hg : GOK g) {l : Env} (hc : Clean l)
include hh hg hc

omit hh in
theorem Ev.callU {f : String} {args : List Expr} {vs : List MValue} {v : MValue} {h h1 h2 : Heap}
    (hf : f ∈ usedLib) (hargs : EvArgs cfg g l h args vs h1) (hcall : LibCall cfg f vs h1 v h2) :
    Ev cfg g l h (.function (.user f) args) v h2 :=
  Ev.call (usedLib_notIf f hf) hargs (hc _ (List.mem_append_left _ (List.mem_map_of_mem hf))) (hg.lib f hf) hcall

/-- a call that `Lib` answers (`regexNew` and `regexSplit` are the two names `hostDiff` answers itself) -/
theorem Ev.callLib {f : String} {args : List Expr} {vs : List MValue} {v : Lib.Value} {h h1 h2 : Heap}
    (hf : f ∈ usedLib ∧ f ≠ "regexNew" ∧ f ≠ "regexSplit") (hargs : EvArgs cfg g l h args vs h1)
    (hl : Lib.lib f (vs.map toLib) h1 = (.ok v, h2)) : Ev cfg g l h (.function (.user f) args) (ofLib v) h2 :=
  Ev.callU hg hc hf.1 hargs (libcall_of_lib hh hf.2.1 hf.2.2 hl)

theorem ev_arrayNew (h : Heap) : Ev cfg g l h (.function (.user "arrayNew") []) (.arr h.length) (h ++ [.arr []]) :=
  Ev.callLib hh hg hc (by simp) EvArgs.nil (lib_arrayNew h)

theorem ev_len {h : Heap} {e : Expr} {r : Nat} {xs : List String} (he : Ev cfg g l h e (.arr r) h)
    (hr : getArr h r = some (strs xs)) : Ev cfg g l h (.function (.user "arrayLength") [e]) (nv xs.length) h := by
  have := Ev.callLib hh hg hc (by simp) (EvArgs.cons he EvArgs.nil) (lib_arrayLength hr)
  rwa [numN_eq, strs_length] at this

theorem ev_get {h : Heap} {a ix : Expr} {r i : Nat} {xs : List String} {s : String} (ha : Ev cfg g l h a (.arr r) h)
    (hi : Ev cfg g l h ix (nv i) h) (hr : getArr h r = some (strs xs)) (hs : xs[i]? = some s) :
    Ev cfg g l h (.function (.user "arrayGet") [a, ix]) (.str s) h :=
  Ev.callLib hh hg hc (by simp) (EvArgs.cons ha (EvArgs.cons hi EvArgs.nil))
    (lib_arrayGet (v := .str s) hr (by rw [strs_getElem?, hs]; rfl))

theorem ev_slice2 {h : Heap} {a ix : Expr} {r s : Nat} {xs : List String} (ha : Ev cfg g l h a (.arr r) h)
    (hi : Ev cfg g l h ix (nv s) h) (hr : getArr h r = some (strs xs)) (hs : s ≤ xs.length) :
    Ev cfg g l h (.function (.user "arraySlice") [a, ix]) (.arr h.length) (h ++ [.arr (strs (xs.drop s))]) := by
  have := Ev.callLib hh hg hc (by simp) (EvArgs.cons ha (EvArgs.cons hi EvArgs.nil))
    (lib_arraySlice2 hr (by rwa [strs_length]))
  rwa [strs_drop] at this

theorem ev_slice3 {h : Heap} {a ix ie : Expr} {r s e : Nat} {xs : List String} (ha : Ev cfg g l h a (.arr r) h)
    (hi : Ev cfg g l h ix (nv s) h) (hie : Ev cfg g l h ie (nv e) h) (hr : getArr h r = some (strs xs))
    (hs : s ≤ xs.length) (he : e ≤ xs.length) :
    Ev cfg g l h (.function (.user "arraySlice") [a, ix, ie]) (.arr h.length)
      (h ++ [.arr (strs ((xs.take e).drop s))]) := by
  have := Ev.callLib hh hg hc (by simp) (EvArgs.cons ha (EvArgs.cons hi (EvArgs.cons hie EvArgs.nil)))
    (lib_arraySlice3 hr (by rwa [strs_length]) (by rwa [strs_length]))
  rwa [strs_drop, strs_take, ← List.drop_take] at this

theorem ev_split {h : Heap} {x : Expr} {s : String} (hx : Ev cfg g l h x (.str s) h) :
    Ev cfg g l h (.function (.user "regexSplit") [.variable (.user "diffRegexLineSplit"), x])
      (.arr h.length) (h ++ [.arr (strs (splitLines s))]) :=
  Ev.callU hg hc (by simp) (EvArgs.cons (Ev.varG (by simp) (hc _ (by simp)) hg.re) (EvArgs.cons hx EvArgs.nil))
    (libcall_regexSplit hh h s)

theorem ev_pushBlock {h h1 : Heap} {linesE : Expr} {k : String} {a rD : Nat} {vs : List Lib.Value}
    (hlines : Ev cfg g l h linesE (.arr a) h1) (hd : Has l (.user "diffs") (.arr rD))
    (hrD : getArr h1 rD = some vs) :
    Ev cfg g l h (.function (.user "arrayPush") [.variable (.user "diffs"),
        .function (.user "objectNew") [.string "type", .string k, .string "lines", linesE]])
      (.arr rD)
      ((h1 ++ [Cell.obj [("type", .str k), ("lines", .arr a)]]).set rD (.arr (vs ++ [.obj h1.length]))) :=
  Ev.callLib hh hg hc (by simp)
    (EvArgs.cons hd.ev (EvArgs.cons
      (Ev.callLib hh hg hc (by simp)
        (EvArgs.cons (Ev.str _) (EvArgs.cons (Ev.str _) (EvArgs.cons (Ev.str _) (EvArgs.cons hlines EvArgs.nil))))
        (lib_objectNew h1 k (.arr a))) EvArgs.nil))
    (lib_arrayPush (.obj h1.length) ((getArr_append_lt _ (getArr_lt hrD)).trans hrD))

end Shapes

/-! ## splitting one input into lines (diff.bare:54-72) -/

/-- an `if systemType(X) == 'array'` block (`splitStmts`) at offset `pc0` of `B` -/
structure SplitCode where
  pc0 : Nat
  X : Name
  LINES : Name
  PART : Name
  VALS : Name
  LEN : Name
  IDX : Name
  labIf : Name
  labDoneA : Name
  labLoop : Name
  labDoneN : Name
  code : (B.drop pc0).take 16 = splitStmts X LINES PART VALS LEN IDX labIf labDoneA labLoop labDoneN
  kw : ∀ x ∈ [X, LINES, PART, VALS, LEN, IDX], NotKw x
  ng : ∀ x ∈ [LINES, PART, VALS, LEN, IDX], x ∉ globNames
  dist : [X, LINES, PART, VALS, LEN, IDX].Pairwise (· ≠ ·)

theorem SplitCode.stmt (sc : SplitCode) (k : Nat) {s : Stmt}
    (h : (splitStmts sc.X sc.LINES sc.PART sc.VALS sc.LEN sc.IDX sc.labIf sc.labDoneA sc.labLoop sc.labDoneN)[k]? = some s) :
    B[sc.pc0 + k]? = some s := stmt_at sc.code k h

theorem SplitCode.lIf (sc : SplitCode) : findLabel B sc.labIf = some (sc.pc0+13) := label_at (sc.stmt 13 rfl)
theorem SplitCode.lDoneA (sc : SplitCode) : findLabel B sc.labDoneA = some (sc.pc0+15) := label_at (sc.stmt 15 rfl)
theorem SplitCode.lLoop (sc : SplitCode) : findLabel B sc.labLoop = some (sc.pc0+6) := label_at (sc.stmt 6 rfl)
theorem SplitCode.lDoneN (sc : SplitCode) : findLabel B sc.labDoneN = some (sc.pc0+11) := label_at (sc.stmt 11 rfl)

/-- the variables the block assigns -/
def SplitCode.S (sc : SplitCode) : List Name := [sc.LINES, sc.PART, sc.VALS, sc.LEN, sc.IDX]

/-- a script-level argument of `diffLines` as a machine value: a string, or an array of strings -/
def InputVal (h : Heap) : MValue → Input → Prop
  | .str s, .text t => s = t
  | .arr r, .parts ps => getArr h r = some (strs ps)
  | _, _ => False

section Split
variable {cfg : Config LWorld} (hh : cfg.host = hostDiff) (hmax : cfg.maxStatements = 0) {g : Env} (hg : GOK g)
  (sc : SplitCode)
include hh hmax hg

/-- the facts the `for` loop over the parts maintains, at index `k` -/
structure SplitInv (ps : List String) (rin rl : Nat) (h0 : Heap) (k : Nat) (l : Env) (h : Heap) : Prop where
  clean : Clean l
  vals : Has l sc.VALS (.arr rin)
  len : Has l sc.LEN (nv ps.length)
  idx : Has l sc.IDX (nv k)
  lines : Has l sc.LINES (.arr rl)
  pres : Pres h0 h
  acc : getArr h rl = some (strs ((ps.take k).flatMap splitLines))

omit hh hmax hg in
theorem SplitCode.ne (sc : SplitCode) :
    sc.X ≠ sc.LINES ∧ sc.X ≠ sc.PART ∧ sc.X ≠ sc.VALS ∧ sc.X ≠ sc.LEN ∧ sc.X ≠ sc.IDX ∧ sc.LINES ≠ sc.PART ∧
    sc.LINES ≠ sc.VALS ∧ sc.LINES ≠ sc.LEN ∧ sc.LINES ≠ sc.IDX ∧ sc.PART ≠ sc.VALS ∧ sc.PART ≠ sc.LEN ∧
    sc.PART ≠ sc.IDX ∧ sc.VALS ≠ sc.LEN ∧ sc.VALS ≠ sc.IDX ∧ sc.LEN ≠ sc.IDX := by
  have hd := sc.dist
  simp only [List.pairwise_cons, List.mem_cons, List.not_mem_nil, or_false, forall_eq_or_imp, forall_eq,
    List.Pairwise.nil, and_true, false_imp_iff, implies_true] at hd
  obtain ⟨⟨a1, a2, a3, a4, a5⟩, ⟨b1, b2, b3, b4⟩, ⟨c1, c2, c3⟩, ⟨d1, d2⟩, e1⟩ := hd
  exact ⟨a1, a2, a3, a4, a5, b1, b2, b3, b4, c1, c2, c3, d1, d2, e1⟩

theorem split_body {ps : List String} {rin rl : Nat} {h0 : Heap} (hin : getArr h0 rin = some (strs ps))
    (hrl : h0.length ≤ rl) {k : Nat} {l : Env} {h : Heap} (hk : k < ps.length)
    (inv : SplitInv sc ps rin rl h0 k l h) :
    ∃ l' h', Steps cfg B g (sc.pc0+7) l h (sc.pc0+10) l' h' ∧ SameExcept sc.S l l' ∧
      SplitInv sc ps rin rl h0 (k+1) l' h' := by
  obtain ⟨dXL, dXP, dXV, dXN, dXI, dLP, dLV, dLN, dLI, dPV, dPN, dPI, dVN, dVI, dNI⟩ := sc.ne
  obtain ⟨hc, hV, hN, hI, hL, hpres, hacc⟩ := inv
  obtain ⟨p, hp⟩ : ∃ p, ps[k]? = some p := ⟨ps[k], List.getElem?_eq_getElem hk⟩
  have hc1 : Clean (l.set sc.PART (.str p)) := hc.set (sc.ng _ (by simp)) _
  have hrlh : rl < h.length := getArr_lt hacc
  refine ⟨(l.set sc.PART (.str p)).set sc.IDX (nv (k+1)),
    (h ++ [Cell.arr (strs (splitLines p))]).set rl (.arr (strs ((ps.take k).flatMap splitLines) ++ strs (splitLines p))),
    ?_, ?_, ?_⟩
  · refine Steps.trans (Steps.assign hmax (sc.stmt 7 rfl) (ev_get hh hg hc hV.ev hI.ev (hpres.getArr hin) hp)) ?_
    refine Steps.trans (Steps.exprStmt hmax (sc.stmt 8 rfl)
      (Ev.callLib hh hg hc1 (by simp)
        (EvArgs.cons (hL.set_ne dLP _).ev
          (EvArgs.cons (ev_split hh hg hc1 (Has.set (sc.kw _ (by simp)) _ _).ev) EvArgs.nil))
        (lib_arrayExtend ((getArr_append_lt _ hrlh).trans hacc) (getArr_append_new h _)))) ?_
    exact Steps.assign hmax (sc.stmt 9 rfl) (Ev.succ hh (hI.set_ne (Ne.symm dPI) _).ev)
  · exact ((SameExcept.refl _ _).set (by simp [SplitCode.S]) _).set (by simp [SplitCode.S]) _
  · exact ⟨hc1.set (sc.ng _ (by simp)) _, (hV.set_ne (Ne.symm dPV) _).set_ne dVI _,
      (hN.set_ne (Ne.symm dPN) _).set_ne dNI _, Has.set (sc.kw _ (by simp)) _ _, (hL.set_ne dLP _).set_ne dLI _,
      (hpres.trans (Pres.append _ _)).set_ge hrl _,
      by rw [getArr_set_same _ (by simp; omega), List.take_add_one, hp, List.flatMap_append, strs_append]; simp⟩

theorem split_loop {ps : List String} {rin rl : Nat} {h0 : Heap} (hin : getArr h0 rin = some (strs ps))
    (hrl : h0.length ≤ rl) :
    ∀ (m k : Nat) (l : Env) (h : Heap), k + m = ps.length → k < ps.length → SplitInv sc ps rin rl h0 k l h →
      ∃ l' h', Steps cfg B g (sc.pc0+7) l h (sc.pc0+12) l' h' ∧ SameExcept sc.S l l' ∧
        SplitInv sc ps rin rl h0 ps.length l' h' := by
  intro m
  induction m with
  | zero => intro k l h hkm hk; omega
  | succ m ih =>
    intro k l h hkm hk inv
    obtain ⟨l1, h1, st, hsame, inv1⟩ := split_body hh hmax hg sc hin hrl hk inv
    have test : EvB cfg g l1 h1 _ (decide (k + 1 < ps.length)) := EvB.lt hh inv1.idx.ev inv1.len.ev
    by_cases hlast : k + 1 < ps.length
    · obtain ⟨l', h', st', hsame', r⟩ := ih (k+1) l1 h1 (by omega) hlast inv1
      exact ⟨l', h', st.trans ((Steps.jumpifBT hmax hh (sc.stmt 10 rfl) sc.lLoop test (decide_eq_true hlast)).trans st'),
        hsame.trans hsame', r⟩
    · have e : k + 1 = ps.length := by omega
      exact ⟨l1, h1, st.trans ((Steps.jumpifBF hmax hh (sc.stmt 10 rfl) sc.lLoop test (decide_eq_false hlast)).trans
        (Steps.label hmax (sc.stmt 11 rfl))), hsame, e ▸ inv1⟩

/-- **the whole block**: whatever the argument is — a string, or an array of strings — afterwards `LINES` holds a fresh array
with exactly the lines of the argument (`Input.lines`); no existing cell is touched -/
theorem split_input {l : Env} {h : Heap} {v : MValue} {inp : Input} (hc : Clean l) (hx : l.get? sc.X = some v)
    (hv : InputVal h v inp) :
    ∃ l' h' rl, Steps cfg B g sc.pc0 l h (sc.pc0+16) l' h' ∧ SameExcept sc.S l l' ∧ Clean l' ∧
      l'.get? sc.LINES = some (.arr rl) ∧ h.length ≤ rl ∧ Pres h h' ∧ getArr h' rl = some (strs inp.lines) := by
  obtain ⟨dXL, dXP, dXV, dXN, dXI, dLP, dLV, dLN, dLI, dPV, dPN, dPI, dVN, dVI, dNI⟩ := sc.ne
  have hx : Has l sc.X v := ⟨sc.kw _ (by simp), hx⟩
  have kL := sc.kw sc.LINES (by simp)
  have gL := sc.ng sc.LINES (by simp)
  have c0 : EvB cfg g l h (.binary .eq (.function (.user "systemType") [.variable sc.X]) (.string "array"))
      (decide (HostImpl.typeName v = "array")) :=
    EvB.eqStr hh (Ev.callU hg hc (f := "systemType") (by simp) (EvArgs.cons hx.ev EvArgs.nil)
      (libcall_systemType hh h v)) (Ev.str _)
  cases v with
  | str s =>
    cases inp with
    | parts ps => exact False.elim hv
    | text t =>
      obtain rfl : s = t := hv
      refine ⟨l.set sc.LINES (.arr h.length), h ++ [Cell.arr (strs (splitLines s))], h.length, ?_,
        (SameExcept.refl _ _).set (by simp [SplitCode.S]) _, hc.set gL _, C04.get?_set_same _ _ _, Nat.le_refl _,
        Pres.append _ _, getArr_append_new _ _⟩
      refine Steps.trans (Steps.jumpifBT hmax hh (sc.stmt 0 rfl) sc.lIf (EvB.not hh c0) (by simp [HostImpl.typeName])) ?_
      exact (Steps.assign hmax (sc.stmt 14 rfl) (ev_split hh hg hc hx.ev)).trans (Steps.label hmax (sc.stmt 15 rfl))
  | arr r =>
    cases inp with
    | text t => exact False.elim hv
    | parts ps =>
      have hin : getArr h r = some (strs ps) := hv
      have kN := sc.kw sc.LEN (by simp)
      -- the three assignments before the loop
      have hc2 : Clean ((l.set sc.LINES (.arr h.length)).set sc.VALS (.arr r)) :=
        (hc.set gL _).set (sc.ng _ (by simp)) _
      have hV2 : Has ((l.set sc.LINES (.arr h.length)).set sc.VALS (.arr r)) sc.VALS (.arr r) :=
        Has.set (sc.kw _ (by simp)) _ _
      have pre : Steps cfg B g sc.pc0 l h (sc.pc0+4)
          (((l.set sc.LINES (.arr h.length)).set sc.VALS (.arr r)).set sc.LEN (nv ps.length)) (h ++ [Cell.arr []]) := by
        refine Steps.trans (Steps.jumpifBF hmax hh (sc.stmt 0 rfl) sc.lIf (EvB.not hh c0) (by simp [HostImpl.typeName])) ?_
        refine Steps.trans (Steps.assign hmax (sc.stmt 1 rfl) (ev_arrayNew hh hg hc h)) ?_
        refine Steps.trans (Steps.assign hmax (sc.stmt 2 rfl) (hx.set_ne dXL _).ev) ?_
        exact Steps.assign hmax (sc.stmt 3 rfl) (ev_len hh hg hc2 hV2.ev ((getArr_append_lt _ (getArr_lt hin)).trans hin))
      have hc3 := hc2.set (sc.ng sc.LEN (by simp)) (nv ps.length)
      have hN3 := Has.set kN ((l.set sc.LINES (.arr h.length)).set sc.VALS (.arr r)) (nv ps.length)
      have hL3 := ((Has.set kL l (.arr h.length)).set_ne dLV (.arr r)).set_ne dLN (nv ps.length)
      have same3 : SameExcept sc.S l (((l.set sc.LINES (.arr h.length)).set sc.VALS (.arr r)).set sc.LEN (nv ps.length)) :=
        (((SameExcept.refl _ _).set (by simp [SplitCode.S]) _).set (by simp [SplitCode.S]) _).set (by simp [SplitCode.S]) _
      have cnd := Ev.not hh (hN3.ev (cfg := cfg) (g := g) (h := h ++ [Cell.arr []])) (Tr.nv ps.length _)
      by_cases hps : ps.length = 0
      · -- an empty array: the loop is skipped
        refine ⟨_, h ++ [Cell.arr []], h.length, ?_, same3, hc3, hL3.2, Nat.le_refl _, Pres.append _ _, ?_⟩
        · refine pre.trans ((Steps.jumpifT hmax hh (sc.stmt 4 rfl) sc.lDoneN cnd (by rw [hps]; exact Tr.bool _ _)).trans ?_)
          exact Steps.jump hmax (sc.stmt 12 rfl) sc.lDoneA
        · rw [getArr_append_new, List.length_eq_zero_iff.mp hps]; rfl
      · have inv : SplitInv sc ps r h.length h 0
            ((((l.set sc.LINES (.arr h.length)).set sc.VALS (.arr r)).set sc.LEN (nv ps.length)).set sc.IDX (nv 0))
            (h ++ [Cell.arr []]) :=
          ⟨hc3.set (sc.ng _ (by simp)) _, (hV2.set_ne dVN _).set_ne dVI _, hN3.set_ne dNI _,
            Has.set (sc.kw _ (by simp)) _ _, hL3.set_ne dLI _, Pres.append _ _, by rw [getArr_append_new]; rfl⟩
        obtain ⟨l', h', st, hsame, inv'⟩ :=
          split_loop hh hmax hg sc hin (Nat.le_refl _) ps.length 0 _ _ (Nat.zero_add _) (by omega) inv
        refine ⟨l', h', h.length, ?_, (same3.set (by simp [SplitCode.S]) _).trans hsame, inv'.clean, inv'.lines.2,
          Nat.le_refl _, inv'.pres, by simpa [Input.lines] using inv'.acc⟩
        refine pre.trans ?_
        have hb : (!(ps.length != 0)) = false := by simp [hps]
        refine Steps.trans (Steps.jumpifF hmax hh (sc.stmt 4 rfl) sc.lDoneN cnd (by rw [hb]; exact Tr.bool _ _)) ?_
        refine Steps.trans (Steps.assign hmax (sc.stmt 5 rfl) (nv_zero ▸ Ev.num 0)) ?_
        exact (Steps.label hmax (sc.stmt 6 rfl)).trans (st.trans (Steps.jump hmax (sc.stmt 12 rfl) sc.lDoneA))
  | _ => cases inp <;> exact False.elim hv

end Split

/-- `h'` extends `h` except possibly in cell `rD` (the result array, which grows by `arrayPush`) -/
def Ext (rD : Nat) (h h' : Heap) : Prop := h.length ≤ h'.length ∧ ∀ r, r < h.length → r ≠ rD → h'[r]? = h[r]?

theorem Ext.refl (rD : Nat) (h : Heap) : Ext rD h h := ⟨Nat.le_refl _, fun _ _ _ => rfl⟩

theorem Pres.ext {h h' : Heap} (a : Pres h h') (rD : Nat) : Ext rD h h' := ⟨a.1, fun r hr _ => a.2 r hr⟩

theorem Ext.trans {rD : Nat} {h h' h'' : Heap} (a : Ext rD h h') (b : Ext rD h' h'') : Ext rD h h'' :=
  ⟨Nat.le_trans a.1 b.1, fun r hr hne => (b.2 r (Nat.lt_of_lt_of_le hr a.1) hne).trans (a.2 r hr hne)⟩

theorem Ext.set (rD : Nat) (h : Heap) (c : Cell) : Ext rD h (h.set rD c) :=
  ⟨by simp, fun r _ hne => List.getElem?_set_ne (Ne.symm hne)⟩

theorem Ext.getArr {rD : Nat} {h h' : Heap} (a : Ext rD h h') {r : Nat} {xs : List Lib.Value} (hne : r ≠ rD)
    (hx : getArr h r = some xs) : getArr h' r = some xs :=
  (getArr_congr (a.2 r (getArr_lt hx) hne)).trans hx

theorem Ext.getObj {rD : Nat} {h h' : Heap} (a : Ext rD h h') {r : Nat} {kvs} (hne : r ≠ rD)
    (hx : getObj h r = some kvs) : getObj h' r = some kvs :=
  (getObj_congr (a.2 r (getObj_lt hx) hne)).trans hx

/-- two lists are related element by element -/
inductive All2 {α β : Type} (R : α → β → Prop) : List α → List β → Prop
  | nil : All2 R [] []
  | cons {a : α} {b : β} {as : List α} {bs : List β} : R a b → All2 R as bs → All2 R (a :: as) (b :: bs)

/-- the array element `v` is an object `{type: <kind>, lines: <array of the strings of b>}`, none of whose cells is `rD` -/
def BlockAt (h : Heap) (rD : Nat) (v : Lib.Value) (b : Block String) : Prop :=
  ∃ o a, v = .obj o ∧ o ≠ rD ∧ a ≠ rD ∧
    getObj h o = some [("type", .str b.kind.text), ("lines", .arr a)] ∧ getArr h a = some (strs b.lines)

/-- cell `rD` is an array whose elements represent the blocks `bs`, in order -/
def Blocks (h : Heap) (rD : Nat) (bs : List (Block String)) : Prop :=
  ∃ vs, getArr h rD = some vs ∧ All2 (BlockAt h rD) vs bs

theorem BlockAt.ext {h h' : Heap} {rD : Nat} {v : Lib.Value} {b : Block String} (hb : BlockAt h rD v b)
    (e : Ext rD h h') : BlockAt h' rD v b := by
  obtain ⟨o, a, hv, ho, ha, hobj, harr⟩ := hb
  exact ⟨o, a, hv, ho, ha, e.getObj ho hobj, e.getArr ha harr⟩

theorem All2.imp {α β : Type} {R S : α → β → Prop} {xs : List α} {ys : List β} (h : All2 R xs ys)
    (hRS : ∀ x y, R x y → S x y) : All2 S xs ys := by
  induction h with
  | nil => exact .nil
  | cons h1 _ ih => exact .cons (hRS _ _ h1) ih

theorem All2.append_one {α β : Type} {R : α → β → Prop} {xs : List α} {ys : List β} {x : α} {y : β}
    (h : All2 R xs ys) (hxy : R x y) : All2 R (xs ++ [x]) (ys ++ [y]) := by
  induction h with
  | nil => exact .cons hxy .nil
  | cons h1 _ ih => exact .cons h1 ih

/-- the heap part of the main loop's invariant: the two line arrays, the result array -/
structure MHeap (h : Heap) (rD rL rR : Nat) (L R : List String) (bs : List (Block String)) : Prop where
  hL : getArr h rL = some (strs L)
  hR : getArr h rR = some (strs R)
  neL : rL ≠ rD
  neR : rR ≠ rD
  hD : Blocks h rD bs

theorem MHeap.pres {h h' : Heap} {rD rL rR : Nat} {L R : List String} {bs : List (Block String)}
    (m : MHeap h rD rL rR L R bs) (p : Pres h h') : MHeap h' rD rL rR L R bs := by
  obtain ⟨vs, hvs, hf⟩ := m.hD
  exact ⟨p.getArr m.hL, p.getArr m.hR, m.neL, m.neR, vs, p.getArr hvs, hf.imp fun _ _ hb => hb.ext (p.ext rD)⟩

/-- the effect of `arrayPush(diffs, objectNew('type', k, 'lines', <array a>))` on the invariant -/
theorem MHeap.push {h : Heap} {rD rL rR : Nat} {L R : List String} {bs : List (Block String)}
    (m : MHeap h rD rL rR L R bs) {vs : List Lib.Value} (hvs : getArr h rD = some vs) {a : Nat} {k : Kind}
    {lines : List String} (ha : getArr h a = some (strs lines)) (hne : a ≠ rD) :
    MHeap ((h ++ [Cell.obj [("type", .str k.text), ("lines", .arr a)]]).set rD (.arr (vs ++ [.obj h.length])))
      rD rL rR L R (bs ++ [⟨k, lines⟩]) := by
  have hrD := getArr_lt hvs
  have e : Ext rD h ((h ++ [Cell.obj [("type", .str k.text), ("lines", .arr a)]]).set rD (.arr (vs ++ [.obj h.length]))) :=
    ((Pres.append h _).ext rD).trans (Ext.set rD _ _)
  obtain ⟨vs', hvs', hf⟩ := m.hD
  have : vs' = vs := by rw [hvs] at hvs'; exact (Option.some.inj hvs').symm
  subst this
  refine ⟨e.getArr m.neL m.hL, e.getArr m.neR m.hR, m.neL, m.neR, vs' ++ [.obj h.length], ?_, ?_⟩
  · exact getArr_set_same _ (by simp; omega)
  · refine (hf.imp fun _ _ hb => hb.ext e).append_one ⟨h.length, a, rfl, by omega, hne, ?_, e.getArr hne ha⟩
    rw [getObj_set_ne _ (by omega)]
    exact getObj_append_new _ _

/-! ### decoding a result from the heap (computable: what a caller reads) -/

def decodeStrs : List Lib.Value → Option (List String)
  | [] => some []
  | .str s :: vs => (decodeStrs vs).map (s :: ·)
  | _ :: _ => none

def decodeKind (s : String) : Option Kind :=
  if s = "Identical" then some .identical else if s = "Add" then some .add else if s = "Remove" then some .remove else none

/-- an element of the result array: an object with exactly the members `type` (a `DifferenceType` name) and `lines` (an array of
strings), in that order -/
def decodeBlock (h : Heap) : Lib.Value → Option (Block String)
  | .obj o =>
    match getObj h o with
    | some [("type", .str k), ("lines", .arr a)] =>
      match decodeKind k, (getArr h a).bind decodeStrs with
      | some kind, some ls => some ⟨kind, ls⟩
      | _, _ => none
    | _ => none
  | _ => none

def decodeList (h : Heap) : List Lib.Value → Option (List (Block String))
  | [] => some []
  | v :: vs =>
    match decodeBlock h v, decodeList h vs with
    | some b, some bs => some (b :: bs)
    | _, _ => none

/-- the `Differences` value a call of `diffLines` returned, read off the heap -/
def decodeDiffs (h : Heap) : MValue → Option (List (Block String))
  | .arr r => (getArr h r).bind (decodeList h)
  | _ => none

theorem decodeStrs_strs (xs : List String) : decodeStrs (strs xs) = some xs := by
  induction xs with
  | nil => rfl
  | cons x xs ih => simp [strs] at ih ⊢; simp [decodeStrs, ih]

theorem decodeKind_text (k : Kind) : decodeKind k.text = some k := by cases k <;> decide

theorem BlockAt.decode {h : Heap} {rD : Nat} {v : Lib.Value} {b : Block String} (hb : BlockAt h rD v b) :
    decodeBlock h v = some b := by
  obtain ⟨o, a, rfl, _, _, hobj, harr⟩ := hb
  simp [decodeBlock, hobj, harr, decodeKind_text, decodeStrs_strs]

theorem Blocks.decode {h : Heap} {rD : Nat} {bs : List (Block String)} (hb : Blocks h rD bs) :
    decodeDiffs h (.arr rD) = some bs := by
  obtain ⟨vs, hvs, hf⟩ := hb
  simp only [decodeDiffs, hvs, Option.bind_some]
  clear hvs
  induction hf with
  | nil => rfl
  | cons h1 _ ih => simp [decodeList, h1.decode, ih]

abbrev vDiffs : Name := .user "diffs"
abbrev vLL : Name := .user "leftLines"
abbrev vRL : Name := .user "rightLines"
abbrev vNL : Name := .user "leftLength"
abbrev vNR : Name := .user "rightLength"
abbrev vIL : Name := .user "ixLeft"
abbrev vIR : Name := .user "ixRight"
abbrev vId : Name := .user "identicalLines"
abbrev vFM : Name := .user "foundMatch"
abbrev vILT : Name := .user "ixLeftTmp"
abbrev vIRT : Name := .user "ixRightTmp"

def mainNames : List Name := [vDiffs, vLL, vRL, vNL, vNR, vIL, vIR]

/-- the variables the inner loops work with; `MVars` does not speak of them -/
def tmpNames : List Name := [vId, vFM, vILT, vIRT]

attribute [local simp] mainNames tmpNames

theorem tmp_notGlob : ∀ x ∈ tmpNames, x ∉ globNames := by decide +kernel

theorem main_notTmp : ∀ x ∈ mainNames, x ∉ tmpNames := by decide +kernel

/-- the local scope during the main loop: the result array, the two line arrays, their lengths, the two indices -/
structure MVars (l : Env) (rD rL rR nL nR i j : Nat) : Prop where
  clean : Clean l
  diffs : Has l vDiffs (.arr rD)
  ll : Has l vLL (.arr rL)
  rl : Has l vRL (.arr rR)
  nl : Has l vNL (nv nL)
  nr : Has l vNR (nv nR)
  il : Has l vIL (nv i)
  ir : Has l vIR (nv j)

theorem MVars.same {l l' : Env} {rD rL rR nL nR i j : Nat} (m : MVars l rD rL rR nL nR i j) {S : List Name}
    (hs : SameExcept S l l') (hS : ∀ x ∈ S, x ∈ tmpNames) : MVars l' rD rL rR nL nR i j := by
  have key : ∀ {x v}, x ∈ mainNames → Has l x v → Has l' x v :=
    fun hx hv => hs.has (fun h => main_notTmp _ hx (hS _ h)) hv
  exact ⟨hs.clean m.clean (fun x hx => tmp_notGlob x (hS x hx)), key (by simp) m.diffs, key (by simp) m.ll,
    key (by simp) m.rl, key (by simp) m.nl, key (by simp) m.nr, key (by simp) m.il, key (by simp) m.ir⟩

theorem MVars.setTmp {l : Env} {rD rL rR nL nR i j : Nat} (m : MVars l rD rL rR nL nR i j) {x : Name}
    (hx : x ∈ tmpNames) (v : MValue) : MVars (l.set x v) rD rL rR nL nR i j :=
  m.same ((SameExcept.refl [x] l).set (by simp) v) (by simpa using hx)

theorem MVars.setIL {l : Env} {rD rL rR nL nR i j : Nat} (m : MVars l rD rL rR nL nR i j) (i' : Nat) :
    MVars (l.set vIL (nv i')) rD rL rR nL nR i' j :=
  ⟨m.clean.set (by simp) _, m.diffs.set_ne (by simp) _, m.ll.set_ne (by simp) _, m.rl.set_ne (by simp) _,
    m.nl.set_ne (by simp) _, m.nr.set_ne (by simp) _, Has.set (by simp) _ _, m.ir.set_ne (by simp) _⟩

theorem MVars.setIR {l : Env} {rD rL rR nL nR i j : Nat} (m : MVars l rD rL rR nL nR i j) (j' : Nat) :
    MVars (l.set vIR (nv j')) rD rL rR nL nR i j' :=
  ⟨m.clean.set (by simp) _, m.diffs.set_ne (by simp) _, m.ll.set_ne (by simp) _, m.rl.set_ne (by simp) _,
    m.nl.set_ne (by simp) _, m.nr.set_ne (by simp) _, m.il.set_ne (by simp) _, Has.set (by simp) _ _⟩

/-! ## the identical-lines loop (diff.bare:95-100, statements 51-58) -/

/-- the loop condition `ixLeft < leftLength && ixRight < rightLength && leftLines[ixLeft] == rightLines[ixRight]` -/
def identC (L R : List String) (i j : Nat) : Bool :=
  (decide (i < L.length) && decide (j < R.length)) && decide (L[i]? = R[j]?)

theorem commonLen_drop (L R : List String) (i j : Nat) :
    C20.commonLen (L.drop i) (R.drop j) =
      if identC L R i j then C20.commonLen (L.drop (i+1)) (R.drop (j+1)) + 1 else 0 := by
  unfold identC
  by_cases hi : i < L.length
  · by_cases hj : j < R.length
    · rw [List.drop_eq_getElem_cons hi, List.drop_eq_getElem_cons hj]
      simp only [C20.commonLen, hi, hj, decide_true, Bool.and_self, Bool.true_and, List.getElem?_eq_getElem,
        Option.some.injEq]
      by_cases he : L[i] = R[j] <;> simp [he]
    · have : R.drop j = [] := List.drop_eq_nil_of_le (by omega)
      rw [this]
      cases L.drop i <;> simp [C20.commonLen, hj]
  · have : L.drop i = [] := List.drop_eq_nil_of_le (by omega)
    rw [this]
    simp [C20.commonLen, hi]

theorem identC_eq (L R : List String) (i j : Nat) :
    identC L R i j = decide (0 < C20.commonLen (L.drop i) (R.drop j)) := by
  rw [commonLen_drop]; cases identC L R i j <;> simp

section Main
variable {cfg : Config LWorld} (hh : cfg.host = hostDiff) (hmax : cfg.maxStatements = 0) {g : Env} (hg : GOK g)
  {L R : List String} {rD rL rR : Nat}
include hh hmax hg

omit hmax in
theorem ev_identC {l : Env} {h : Heap} {i j : Nat} (mv : MVars l rD rL rR L.length R.length i j)
    (hL : getArr h rL = some (strs L)) (hR : getArr h rR = some (strs R)) :
    EvB cfg g l h
      (.binary .and (.binary .and (.binary .lt (.variable vIL) (.variable vNL)) (.binary .lt (.variable vIR) (.variable vNR)))
        (.binary .eq (.function (.user "arrayGet") [.variable vLL, .variable vIL])
          (.function (.user "arrayGet") [.variable vRL, .variable vIR])))
      (identC L R i j) := by
  refine EvB.and hh (EvB.and hh (EvB.lt hh mv.il.ev mv.nl.ev) (fun _ => EvB.lt hh mv.ir.ev mv.nr.ev)) ?_
  intro hb
  simp only [Bool.and_eq_true, decide_eq_true_eq] at hb
  obtain ⟨hi, hj⟩ := hb
  have e1 := List.getElem?_eq_getElem hi
  have e2 := List.getElem?_eq_getElem hj
  have := EvB.eqStr hh (ev_get hh hg mv.clean mv.ll.ev mv.il.ev hL e1) (ev_get hh hg mv.clean mv.rl.ev mv.ir.ev hR e2)
  rwa [show decide (L[i] = R[j]) = decide (L[i]? = R[j]?) by rw [e1, e2]; simp] at this

/-- statements 51-58: `identicalLines = arrayNew()` and the whole loop; `n` lines are collected into the fresh array -/
theorem ident_block {l : Env} {h : Heap} {i j : Nat} (mv : MVars l rD rL rR L.length R.length i j)
    (hL : getArr h rL = some (strs L)) (hR : getArr h rR = some (strs R)) :
    ∃ l' h', Steps cfg B g 51 l h 59 l' h' ∧
      MVars l' rD rL rR L.length R.length (i + C20.commonLen (L.drop i) (R.drop j)) (j + C20.commonLen (L.drop i) (R.drop j)) ∧
      Has l' vId (.arr h.length) ∧ Pres h h' ∧
      getArr h' h.length = some (strs ((L.drop i).take (C20.commonLen (L.drop i) (R.drop j)))) := by
  obtain ⟨l', h', st, ⟨k, ⟨mv', hid, hp, hacc, hn⟩, hc⟩ | ⟨⟨⟩⟩⟩ :=
    Steps.loop hmax hh (g := g) (stmt_at code50 2 rfl) (stmt_at code50 7 rfl) labLoop10 labDone10
    -- `k`: the lines collected so far
    (Inv := fun k l1 h1 => MVars l1 rD rL rR L.length R.length (i+k) (j+k) ∧ Has l1 vId (.arr h.length) ∧ Pres h h1 ∧
      getArr h1 h.length = some (strs ((L.drop i).take k)) ∧
      C20.commonLen (L.drop i) (R.drop j) = k + C20.commonLen (L.drop (i+k)) (R.drop (j+k)))
    (Brk := fun _ _ => False) (cnd := fun k => identC L R (i+k) (j+k)) (μ := fun k => L.length - (i+k))
    (fun k l1 h1 ⟨mv1, _, hp, _, _⟩ => ev_identC hh hg mv1 (hp.getArr hL) (hp.getArr hR))
    (fun k l1 h1 ⟨mv1, hid, hp, hacc, hn⟩ hc => by
      have hi : i + k < L.length := by
        simp only [identC, Bool.and_eq_true, decide_eq_true_eq] at hc; exact hc.1.1
      rw [commonLen_drop L R (i+k) (j+k), hc, if_pos rfl] at hn
      refine ⟨_, _, .inl ⟨k+1, (Steps.exprStmt hmax (stmt_at code50 4 rfl) (Ev.callLib hh hg mv1.clean (by simp)
          (EvArgs.cons hid.ev (EvArgs.cons
            (ev_get hh hg mv1.clean mv1.ll.ev mv1.il.ev (hp.getArr hL) (List.getElem?_eq_getElem hi)) EvArgs.nil))
          (lib_arrayPush (.str L[i+k]) hacc))).trans
        ((Steps.assign hmax (stmt_at code50 5 rfl) (Ev.succ hh mv1.il.ev)).trans
          (Steps.assign hmax (stmt_at code50 6 rfl) (Ev.succ hh (mv1.setIL (i+k+1)).ir.ev))),
        ⟨(mv1.setIL (i+k+1)).setIR (j+k+1), (hid.set_ne (x := vIL) (by simp) _).set_ne (x := vIR) (by simp) _,
          hp.set_ge (Nat.le_refl _) _, ?_, hn.trans (Nat.add_right_comm k _ 1)⟩, by omega⟩⟩
      rw [getArr_set_same _ (getArr_lt hacc), List.take_add_one, List.getElem?_drop, List.getElem?_eq_getElem hi, strs_append]
      rfl)
    (a := 0) (l := l.set vId (.arr h.length)) (h := h ++ [.arr []])
    ⟨mv.setTmp (by simp) _, Has.set (by simp) _ _, Pres.append _ _, getArr_append_new h [], (Nat.zero_add _).symm⟩
  rw [identC_eq, decide_eq_false_iff_not, Nat.pos_iff_ne_zero, Decidable.not_not] at hc
  rw [hc, Nat.add_zero] at hn
  rw [hn]
  exact ⟨l', h', (Steps.assign hmax (stmt_at code50 1 rfl) (ev_arrayNew hh hg mv.clean h)).trans st, mv', hid, hp, hacc⟩

/-! ## the look-ahead loops (diff.bare:107-122, statements 63-82) -/

/-- what the inner look-ahead loop, run from scope `l`, leaves in `l'`: `foundMatch` and the position of the match -/
abbrev FoundR (l l' : Env) : Option Nat → Prop
  | some jt => Has l' vFM (.bool true) ∧ Has l' vIRT (nv jt)
  | none => l'.get? vFM = l.get? vFM

/-- what the two look-ahead loops leave in `l'` -/
abbrev FoundL (l' : Env) : Option (Nat × Nat) → Prop
  | some (it, jt) => Has l' vFM (.bool true) ∧ Has l' vILT (nv it) ∧ Has l' vIRT (nv jt)
  | none => Has l' vFM .null

omit hh hmax hg in
theorem scanRight_drop (x : String) (R : List String) (jt : Nat) (hjt : jt < R.length) :
    scanRight x (R.drop jt) jt = if x = R[jt] then some jt else scanRight x (R.drop (jt+1)) (jt+1) := by
  rw [List.drop_eq_getElem_cons hjt]; rfl

/-- statements 67-76: `ixRightTmp = ixRight` and the inner loop, for the left line `x = leftLines[ixLeftTmp]` -/
theorem scan_right {h : Heap} {it : Nat} {x : String} {i j : Nat} {l : Env} (hx : L[it]? = some x)
    (hL : getArr h rL = some (strs L)) (hR : getArr h rR = some (strs R))
    (mv : MVars l rD rL rR L.length R.length i j) (hit : Has l vILT (nv it)) :
    ∃ l', Steps cfg B g 67 l h 77 l' h ∧ SameExcept [vFM, vIRT] l l' ∧ FoundR l l' (scanRight x (R.drop j) j) := by
  obtain ⟨l', h', st, r⟩ := Steps.loop hmax hh (g := g) (stmt_at code62 6 rfl) (stmt_at code62 13 rfl) labLoop13 labDone13
    (Inv := fun jt l1 h1 => h1 = h ∧ SameExcept [vFM, vIRT] l l1 ∧ MVars l1 rD rL rR L.length R.length i j ∧
      Has l1 vILT (nv it) ∧ Has l1 vIRT (nv jt) ∧ l1.get? vFM = l.get? vFM ∧
      scanRight x (R.drop j) j = scanRight x (R.drop jt) jt)
    (Brk := fun l1 h1 => h1 = h ∧ SameExcept [vFM, vIRT] l l1 ∧ ∃ jt, scanRight x (R.drop j) j = some jt ∧
      Has l1 vFM (.bool true) ∧ Has l1 vIRT (nv jt))
    (cnd := fun jt => decide (jt < R.length)) (μ := fun jt => R.length - jt)
    (fun jt l1 h1 ⟨e, _, mv1, _, hjt, _, _⟩ => e ▸ EvB.lt hh hjt.ev mv1.nr.ev)
    (fun jt l1 h1 ⟨e, same, mv1, hit1, hjt, hfm, hs⟩ hc => by
      subst e
      have hlt := of_decide_eq_true hc
      have cnd := EvB.not hh (EvB.eqStr hh (ev_get hh hg mv1.clean mv1.ll.ev hit1.ev hL hx)
        (ev_get hh hg mv1.clean mv1.rl.ev hjt.ev hR (List.getElem?_eq_getElem hlt)))
      rw [scanRight_drop x R jt hlt] at hs
      by_cases he : x = R[jt]
      · rw [if_pos he] at hs
        exact ⟨l1.set vFM (.bool true), h1, .inr ⟨(Steps.jumpifBF hmax hh (stmt_at code62 8 rfl) labDone14 cnd (by simp [he])).trans
          ((Steps.assign hmax (stmt_at code62 9 rfl) Ev.tt).trans (Steps.jump hmax (stmt_at code62 10 rfl) labDone13)),
          rfl, same.set (by simp) _, jt, hs, Has.set (by simp) _ _, hjt.set_ne (by simp) _⟩⟩
      · rw [if_neg he] at hs
        exact ⟨l1.set vIRT (nv (jt+1)), h1, .inl ⟨jt+1,
          (Steps.jumpifBT hmax hh (stmt_at code62 8 rfl) labDone14 cnd (by simp [he])).trans
            (Steps.assign hmax (stmt_at code62 12 rfl) (Ev.succ hh hjt.ev)),
          ⟨rfl, same.set (by simp) _, mv1.setTmp (by simp) _, hit1.set_ne (by simp) _, Has.set (by simp) _ _,
            (C04.get?_set_other _ _ _ _ (by simp)).trans hfm, hs⟩, by omega⟩⟩)
    (a := j) (l := l.set vIRT (nv j)) (h := h)
    ⟨rfl, (SameExcept.refl _ _).set (by simp) _, mv.setTmp (by simp) _, hit.set_ne (by simp) _, Has.set (by simp) _ _,
      C04.get?_set_other _ _ _ _ (by simp), rfl⟩
  have st67 := Steps.assign (g := g) (h := h) hmax (stmt_at code62 5 rfl) mv.ir.ev
  rcases r with ⟨jt, ⟨rfl, same, _, _, _, hfm, hs⟩, hc⟩ | ⟨rfl, same, jt, hs, hf, hj⟩
  · rw [hs, List.drop_eq_nil_of_le (Nat.le_of_not_lt (of_decide_eq_false hc))]
    exact ⟨l', st67.trans st, same, hfm⟩
  · rw [hs]; exact ⟨l', st67.trans st, same, hf, hj⟩

omit hh hmax hg in
theorem scanLeft_drop (rj : List String) (j : Nat) (L : List String) (it : Nat) (hit : it < L.length) :
    scanLeft rj j (L.drop it) it =
      match scanRight L[it] rj j with
      | some jt => some (it, jt)
      | none => scanLeft rj j (L.drop (it+1)) (it+1) := by
  rw [List.drop_eq_getElem_cons hit]; rfl

/-- statements 63-82: `foundMatch = False`, `ixLeftTmp = ixLeft` and the two nested look-ahead loops -/
theorem scan_left {h : Heap} {i j : Nat} {l : Env} (hL : getArr h rL = some (strs L)) (hR : getArr h rR = some (strs R))
    (mv : MVars l rD rL rR L.length R.length i j) :
    ∃ l', Steps cfg B g 63 l h 83 l' h ∧ SameExcept [vFM, vILT, vIRT] l l' ∧
      FoundL l' (scanLeft (R.drop j) j (L.drop i) i) := by
  obtain ⟨l', h', st, r⟩ := Steps.loop hmax hh (g := g) (stmt_at code62 3 rfl) (stmt_at code62 19 rfl) labLoop12 labDone12
    (Inv := fun it l1 h1 => h1 = h ∧ SameExcept [vFM, vILT, vIRT] l l1 ∧ MVars l1 rD rL rR L.length R.length i j ∧
      Has l1 vILT (nv it) ∧ Has l1 vFM .null ∧
      scanLeft (R.drop j) j (L.drop i) i = scanLeft (R.drop j) j (L.drop it) it)
    (Brk := fun l1 h1 => h1 = h ∧ SameExcept [vFM, vILT, vIRT] l l1 ∧ ∃ p, scanLeft (R.drop j) j (L.drop i) i = some p ∧
      FoundL l1 (some p))
    (cnd := fun it => decide (it < L.length)) (μ := fun it => L.length - it)
    (fun it l1 h1 ⟨e, _, mv1, hit, _, _⟩ => e ▸ EvB.lt hh hit.ev mv1.nl.ev)
    (fun it l1 h1 ⟨e, same, mv1, hit, hfm, hs⟩ hc => by
      subst e
      have hlt := of_decide_eq_true hc
      obtain ⟨l2, st1, same1, res1⟩ := scan_right hh hmax hg (List.getElem?_eq_getElem hlt) hL hR mv1 hit
      have mv2 : MVars l2 rD rL rR L.length R.length i j := mv1.same same1 (by simp)
      have hit2 : Has l2 vILT (nv it) := same1.has (by simp) hit
      have same2 : SameExcept [vFM, vILT, vIRT] l l2 := same.trans (same1.mono (by simp))
      rw [scanLeft_drop _ _ _ _ hlt] at hs
      cases hr : scanRight L[it] (R.drop j) j with
      | some jt =>
        rw [hr] at hs res1
        exact ⟨l2, h1, .inr ⟨st1.trans ((Steps.jumpifF hmax hh (stmt_at code62 15 rfl) labDone15
          (Ev.not hh res1.1.ev (Tr.bool _ _)) (Tr.bool _ _)).trans (Steps.jump hmax (stmt_at code62 16 rfl) labDone12)),
          rfl, same2, _, hs, res1.1, hit2, res1.2⟩⟩
      | none =>
        rw [hr] at hs res1
        have hfm2 : Has l2 vFM .null := ⟨hfm.1, res1.trans hfm.2⟩
        exact ⟨l2.set vILT (nv (it+1)), h1, .inl ⟨it+1, st1.trans ((Steps.jumpifT hmax hh (stmt_at code62 15 rfl) labDone15
          (Ev.not hh hfm2.ev (Tr.null _)) (Tr.bool _ _)).trans (Steps.assign hmax (stmt_at code62 18 rfl) (Ev.succ hh hit2.ev))),
          ⟨rfl, same2.set (by simp) _, mv2.setTmp (by simp) _, Has.set (by simp) _ _, hfm2.set_ne (by simp) _, hs⟩,
          by omega⟩⟩)
    (a := i) (l := (l.set vFM .null).set vILT (nv i)) (h := h)
    ⟨rfl, ((SameExcept.refl _ _).set (by simp) _).set (by simp) _, (mv.setTmp (by simp) _).setTmp (by simp) _,
      Has.set (by simp) _ _, (Has.set (x := vFM) (by simp) l .null).set_ne (by simp) _, rfl⟩
  have st63 := (Steps.assign (g := g) (h := h) hmax (stmt_at code62 1 rfl)
    (Ev.varNull (by simp) (mv.clean _ (by simp)) hg.noFalse)).trans
    (Steps.assign hmax (stmt_at code62 2 rfl) (mv.setTmp (x := vFM) (by simp) .null).il.ev)
  rcases r with ⟨it, ⟨rfl, same, _, _, hfm, hs⟩, hc⟩ | ⟨rfl, same, p, hs, hf⟩
  · rw [hs, List.drop_eq_nil_of_le (Nat.le_of_not_lt (of_decide_eq_false hc))]
    exact ⟨l', st63.trans st, same, hfm⟩
  · rw [hs]; exact ⟨l', st63.trans st, same, hf⟩

end Main

end C20Prog
