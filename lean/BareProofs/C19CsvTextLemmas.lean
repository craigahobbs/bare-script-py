import BareModel.CsvText

/-!
C19 extension, reader/writer layer: the `_csv` reader state machine run over the lines of a text produced by the RFC-4180
writer gives back the records, for every line end (LF / CRLF / CR), with or without a line end after the last record.
-/

namespace C19CsvText
open CsvText

/-- the events of a text that is followed by the end of the input: the characters, an end-of-line event after each line,
and one at the very end (also for the empty text) -/
def evE : List Char → List (Option Char)
  | [] => [none]
  | c :: t => some c :: (if isBreak c t && !t.isEmpty then none :: evE t else evE t)

/-- the events of a text -/
def evT (t : List Char) : List (Option Char) := if t = [] then [] else evE t

theorem splitLines_eq_nil : ∀ t : List Char, splitLines t = [] ↔ t = []
  | [] => by simp [splitLines]
  | c :: rest => by
    simp only [splitLines]
    split
    · simp
    · split <;> simp

theorem events_cons_cons (c : Char) (l : List Char) (ls : List (List Char)) :
    events ((c :: l) :: ls) = some c :: events (l :: ls) := by
  simp [events]

theorem evE_break (c : Char) (R : List Char) (h : isBreak c R = true) : evE (c :: R) = some c :: none :: evT R := by
  cases R <;> simp [evE, evT, h]

theorem events_splitLines : ∀ t : List Char, events (splitLines t) = evT t
  | [] => by simp [splitLines, events, evT]
  | c :: rest => by
    have ih := events_splitLines rest
    rw [show evT (c :: rest) = evE (c :: rest) from rfl, splitLines]
    by_cases hb : isBreak c rest = true
    · rw [if_pos hb, evE_break c rest hb, ← ih]
      simp [events]
    · rw [if_neg hb]
      by_cases hr : rest = []
      · subst hr; simp [splitLines, events, evE]
      · obtain ⟨l, ls, hl⟩ := List.exists_cons_of_ne_nil (mt (splitLines_eq_nil rest).mp hr)
        rw [hl] at ih ⊢
        simp [events_cons_cons, ih, evT, evE, hr, hb]

theorem evE_cons_plain (c : Char) (t : List Char) (h1 : c ≠ '\n') (h2 : c ≠ '\r') : evE (c :: t) = some c :: evE t := by
  simp [evE, isBreak, h1, h2]

theorem run_some (r r' : Rd) (c : Char) (es : List (Option Char)) (h : stepChar r c = .ok r') :
    run r (some c :: es) = run r' es := by
  simp [run, h]

/-- an end-of-line event inside a quoted field changes nothing -/
theorem run_none_inQuoted (F : List (List Char)) (B : List Char) (n : Nat) (es : List (Option Char)) :
    run ⟨F, B, n, .inQuoted⟩ (none :: es) = run ⟨F, B, n, .inQuoted⟩ es := by
  simp [run, stepEOL]

/-- the body of a quoted field up to and including the closing quote -/
theorem run_quoted : ∀ (s : List Char) (F : List (List Char)) (B : List Char) (n : Nat) (Y : List Char),
    n + s.length ≤ fieldLimit →
    run ⟨F, B, n, .inQuoted⟩ (evE (escapeQuotes s ++ '"' :: Y)) = run ⟨F, s.reverse ++ B, n + s.length, .quoteInQuoted⟩ (evE Y)
  | [], F, B, n, Y, _ => by
    simp only [escapeQuotes, List.nil_append]
    rw [evE_cons_plain _ _ (by decide) (by decide)]
    rw [run_some _ ⟨F, B, n, .quoteInQuoted⟩]
    · simp
    · simp [stepChar]
  | c :: s, F, B, n, Y, h => by
    simp only [List.length_cons] at h
    have hn : ¬ fieldLimit ≤ n := by omega
    by_cases hc : c = '"'
    · subst hc
      simp only [escapeQuotes, if_true, List.cons_append]
      rw [evE_cons_plain _ _ (by decide) (by decide), evE_cons_plain _ _ (by decide) (by decide)]
      rw [run_some _ ⟨F, B, n, .quoteInQuoted⟩ _ _ (by simp [stepChar])]
      rw [run_some _ ⟨F, '"' :: B, n + 1, .inQuoted⟩ _ _ (by simp [stepChar, addChar, hn])]
      rw [run_quoted s F ('"' :: B) (n + 1) Y (by omega)]
      simp [Nat.add_assoc, Nat.add_comm 1]
    · simp only [escapeQuotes, hc, if_false, List.cons_append]
      have hstep : stepChar ⟨F, B, n, .inQuoted⟩ c = .ok ⟨F, c :: B, n + 1, .inQuoted⟩ := by simp [stepChar, addChar, hn, hc]
      have ih := run_quoted s F (c :: B) (n + 1) Y (by omega)
      have hfin : run ⟨F, c :: B, n + 1, .inQuoted⟩ (evE (escapeQuotes s ++ '"' :: Y)) =
          run ⟨F, (c :: s).reverse ++ B, n + (s.length + 1), .quoteInQuoted⟩ (evE Y) := by
        rw [ih]; simp [Nat.add_assoc, Nat.add_comm 1]
      simp only [evE]
      split
      · rw [run_some _ _ _ _ hstep, run_none_inQuoted, hfin]; rfl
      · rw [run_some _ _ _ _ hstep, hfin]; rfl

/-- a character that is neither delimiter, quote nor line end -/
def Plain (c : Char) : Prop := c ≠ ',' ∧ c ≠ '"' ∧ c ≠ '\r' ∧ c ≠ '\n'

theorem plain_of_needsQuote {s : List Char} (h : needsQuote s = false) : ∀ c ∈ s, Plain c := by
  intro c hc
  simp only [needsQuote, List.any_eq_false] at h
  have := h c hc
  simp only [Bool.or_eq_true, beq_iff_eq, not_or] at this
  exact ⟨this.1.1.1, this.1.1.2, this.1.2, this.2⟩

/-- the rest of an unquoted field -/
theorem run_plain : ∀ (s : List Char) (F : List (List Char)) (B : List Char) (n : Nat) (Y : List Char),
    (∀ c ∈ s, Plain c) → n + s.length ≤ fieldLimit →
    run ⟨F, B, n, .inField⟩ (evE (s ++ Y)) = run ⟨F, s.reverse ++ B, n + s.length, .inField⟩ (evE Y)
  | [], F, B, n, Y, _, _ => by simp
  | c :: s, F, B, n, Y, hp, h => by
    simp only [List.length_cons] at h
    have hn : ¬ fieldLimit ≤ n := by omega
    obtain ⟨h1, h2, h3, h4⟩ := hp c List.mem_cons_self
    simp only [List.cons_append]
    rw [evE_cons_plain _ _ h4 h3]
    rw [run_some _ ⟨F, c :: B, n + 1, .inField⟩ _ _ (by simp [stepChar, addChar, hn, h1, h3, h4])]
    rw [run_plain s F (c :: B) (n + 1) Y (fun c' hc' => hp c' (List.mem_cons_of_mem _ hc')) (by omega)]
    simp [Nat.add_assoc, Nat.add_comm 1]

/-- the reader after a field written by `fieldText force f`, started in the state `st` with the completed fields `F` -/
def afterField (F : List (List Char)) (st : St) (force : Bool) (f : List Char) : Rd :=
  if force || needsQuote f then ⟨F, f.reverse, f.length, .quoteInQuoted⟩
  else if f = [] then ⟨F, [], 0, st⟩
  else ⟨F, f.reverse, f.length, .inField⟩

theorem afterField_fields (F : List (List Char)) (st : St) (force : Bool) (f : List Char) : (afterField F st force f).fields = F := by
  unfold afterField; split
  · rfl
  · split <;> rfl

theorem afterField_buf (F : List (List Char)) (st : St) (force : Bool) (f : List Char) : (afterField F st force f).buf.reverse = f := by
  unfold afterField; split
  · simp
  · split
    · simp [*]
    · simp

/-- the state after a field that is not the lone empty unquoted one -/
def Closed (r : Rd) : Prop := r.st = .startField ∨ r.st = .inField ∨ r.st = .quoteInQuoted

theorem afterField_st (F : List (List Char)) (st : St) (force : Bool) (f : List Char) :
    Closed (afterField F st force f) ∨ ((afterField F st force f).st = st ∧ f = [] ∧ force = false) := by
  unfold afterField; split
  · exact .inl (.inr (.inr rfl))
  · rename_i h
    split
    · refine .inr ⟨rfl, ‹_›, ?_⟩
      cases force <;> simp_all
    · exact .inl (.inr (.inl rfl))

/-- **one field**: from the start of a field the reader takes the written field to the field -/
theorem run_field (F : List (List Char)) (st : St) (hst : st = .startRecord ∨ st = .startField) (force : Bool) (f : List Char)
    (Y : List Char) (hlen : f.length ≤ fieldLimit) (hsp : needsQuote f = true ∨ f.head? ≠ some ' ') :
    run ⟨F, [], 0, st⟩ (evE (fieldText force f ++ Y)) = run (afterField F st force f) (evE Y) := by
  unfold fieldText afterField
  by_cases hq : (force || needsQuote f) = true
  · simp only [hq, if_true, quoteField, List.cons_append, List.append_assoc, List.nil_append]
    rw [evE_cons_plain _ _ (by decide) (by decide)]
    rw [run_some _ ⟨F, [], 0, .inQuoted⟩ _ _ (by rcases hst with h | h <;> subst h <;> simp [stepChar, startField])]
    rw [run_quoted f F [] 0 Y (by omega)]
    simp
  · simp only [hq, Bool.false_eq_true, if_false]
    have hnq : needsQuote f = false := by
      cases h : needsQuote f
      · rfl
      · simp [h] at hq
    cases f with
    | nil => simp
    | cons c s =>
      have hp := plain_of_needsQuote hnq
      obtain ⟨h1, h2, h3, h4⟩ := hp c List.mem_cons_self
      have h5 : c ≠ ' ' := by
        rcases hsp with h | h
        · rw [hnq] at h; cases h
        · simpa using h
      simp only [List.length_cons] at hlen
      simp only [List.cons_append, reduceCtorEq, if_false]
      rw [evE_cons_plain _ _ h4 h3]
      have hl : ¬ fieldLimit ≤ 0 := by decide
      rw [run_some _ ⟨F, [c], 1, .inField⟩ _ _ (by
        rcases hst with h | h <;> subst h <;> simp [stepChar, startField, addChar, h1, h2, h3, h4, h5, hl])]
      rw [run_plain s F [c] 1 Y (fun c' hc' => hp c' (List.mem_cons_of_mem _ hc')) (by omega)]
      simp [Nat.add_comm 1]

/-- the events that end a record: end of input, LF, CRLF, CR (each with the end-of-line event) -/
def IsTerm (T : List (Option Char)) : Prop :=
  T = [none] ∨ T = [some '\n', none] ∨ T = [some '\r', some '\n', none] ∨ T = [some '\r', none]

theorem run_term (r : Rd) (hr : Closed r) (T es : List (Option Char)) (hT : IsTerm T) :
    run r (T ++ es) = (run .reset es).map ((r.fields ++ [r.buf.reverse]) :: ·) := by
  obtain ⟨F, B, n, st⟩ := r
  simp only [Closed] at hr
  rcases hr with h | h | h <;> subst h <;> rcases hT with h | h | h | h <;> subst h <;>
    simp [run, stepChar, stepEOL, saveField, startField]

theorem step_comma (r : Rd) (hr : Closed r ∨ r.st = .startRecord) :
    stepChar r ',' = .ok ⟨r.fields ++ [r.buf.reverse], [], 0, .startField⟩ := by
  obtain ⟨F, B, n, st⟩ := r
  simp only [Closed] at hr
  rcases hr with (h | h | h) | h <;> subst h <;> simp [stepChar, startField, saveField]

/-- a field the reader gives back unchanged -/
def FieldOK (f : List Char) : Prop := f.length ≤ fieldLimit ∧ (needsQuote f = true ∨ f.head? ≠ some ' ')

theorem fieldOK_of_textOK {f : List Char} (h : textOK f = true) : FieldOK f := by
  simp only [textOK, Bool.and_eq_true, decide_eq_true_eq, Bool.or_eq_true, bne_iff_ne, ne_eq] at h
  exact h

/-- the remaining fields of a record and its end -/
theorem run_rest : ∀ (gs : List (List Char)) (r : Rd), (Closed r ∨ r.st = .startRecord) → (r.st = .startRecord → gs ≠ []) →
    (∀ g ∈ gs, FieldOK g) → ∀ (Y : List Char) (T es : List (Option Char)), IsTerm T → evE Y = T ++ es →
    run r (evE (restText gs ++ Y)) = (run .reset es).map ((r.fields ++ r.buf.reverse :: gs) :: ·)
  | [], r, hr, hne, _, Y, T, es, hT, hY => by
    have hc : Closed r := by
      rcases hr with h | h
      · exact h
      · exact absurd rfl (hne h)
    simp only [restText, List.nil_append]
    rw [hY, run_term r hc T es hT]
  | g :: gs, r, hr, _, hok, Y, T, es, hT, hY => by
    simp only [restText, List.cons_append, List.append_assoc]
    rw [evE_cons_plain _ _ (by decide) (by decide)]
    rw [run_some _ _ _ _ (step_comma r hr)]
    obtain ⟨hlen, hsp⟩ := hok g List.mem_cons_self
    rw [run_field (r.fields ++ [r.buf.reverse]) .startField (.inr rfl) false g (restText gs ++ Y) hlen hsp]
    have hcl : Closed (afterField (r.fields ++ [r.buf.reverse]) .startField false g) :=
      (afterField_st (r.fields ++ [r.buf.reverse]) .startField false g).elim id fun h => .inl h.1
    rw [run_rest gs _ (.inl hcl) (fun h => by rcases hcl with h' | h' | h' <;> rw [h] at h' <;> cases h')
      (fun g' hg' => hok g' (List.mem_cons_of_mem _ hg')) Y T es hT hY]
    simp [afterField_fields, afterField_buf]

/-- **one record** followed by a record end -/
theorem run_record (f : List Char) (gs : List (List Char)) (hok : ∀ g ∈ f :: gs, FieldOK g) (Y : List Char)
    (T es : List (Option Char)) (hT : IsTerm T) (hY : evE Y = T ++ es) :
    run .reset (evE (recordText (f :: gs) ++ Y)) = (run .reset es).map ((f :: gs) :: ·) := by
  obtain ⟨hlen, hsp⟩ := hok f List.mem_cons_self
  simp only [recordText, List.append_assoc]
  rw [show Rd.reset = ⟨[], [], 0, .startRecord⟩ from rfl]
  rw [run_field [] .startRecord (.inl rfl) _ f (restText gs ++ Y) hlen hsp]
  have hst := afterField_st [] .startRecord (gs.isEmpty && f.isEmpty) f
  rw [run_rest gs _ (hst.imp_right (·.1))
    (fun h => by
      rcases hst with h' | ⟨_, hf, hforce⟩
      · rcases h' with h' | h' | h' <;> rw [h] at h' <;> cases h'
      · subst hf
        intro hg; subst hg
        simp at hforce)
    (fun g hg => hok g (List.mem_cons_of_mem _ hg)) Y T es hT hY]
  simp [afterField_fields, afterField_buf, Rd.reset]

theorem recordText_head (f : List Char) (gs : List (List Char)) :
    ∃ c t, recordText (f :: gs) = c :: t ∧ c ≠ '\n' := by
  simp only [recordText, fieldText]
  split
  · exact ⟨'"', escapeQuotes f ++ ['"'] ++ restText gs, by simp [quoteField], by decide⟩
  · rename_i h
    simp only [Bool.or_eq_true, not_or, Bool.not_eq_true] at h
    cases f with
    | nil =>
      cases gs with
      | nil => simp at h
      | cons g gs => exact ⟨',', fieldText false g ++ restText gs, by simp [restText], by decide⟩
    | cons c s =>
      exact ⟨c, s ++ restText gs, by simp, (plain_of_needsQuote h.2 c (by simp)).2.2.2⟩

theorem joinRecords_head (le : LineEnd) (trailing : Bool) : ∀ (recs : List (List (List Char))), recs ≠ [] → (∀ r ∈ recs, r ≠ []) →
    ∃ c t, joinRecords le trailing (recs.map recordText) = c :: t ∧ c ≠ '\n' := by
  intro recs hne hall
  match recs, hne with
  | [f :: gs], _ =>
    obtain ⟨c, t, h, hc⟩ := recordText_head f gs
    refine ⟨c, if trailing then t ++ le.chars else t, ?_, hc⟩
    simp only [List.map_cons, List.map_nil, joinRecords, h]
    split <;> simp
  | (f :: gs) :: r2 :: more, _ =>
    obtain ⟨c, t, h, hc⟩ := recordText_head f gs
    exact ⟨c, _, by simp only [List.map_cons, joinRecords, h, List.cons_append]; rfl, hc⟩
  | [] :: _, _ => exact absurd rfl (hall [] (by simp))

/-- the events of a line end that is followed by the text `R` not starting with LF -/
theorem evE_lineEnd (le : LineEnd) (R : List Char) (hR : R.head? ≠ some '\n') :
    ∃ T, IsTerm T ∧ evE (le.chars ++ R) = T ++ evT R := by
  cases le with
  | lf => exact ⟨_, .inr (.inl rfl), evE_break '\n' R rfl⟩
  | crlf =>
    refine ⟨_, .inr (.inr (.inl rfl)), ?_⟩
    have : evE ('\r' :: '\n' :: R) = some '\r' :: evE ('\n' :: R) := by simp [evE, isBreak]
    rw [LineEnd.chars, List.cons_append, List.cons_append, List.nil_append, this, evE_break '\n' R rfl]
    rfl
  | cr => exact ⟨_, .inr (.inr (.inr rfl)), evE_break '\r' R (by simpa [isBreak] using hR)⟩

/-- what follows the first record: the end of the input or a line end, then the text of the remaining records -/
theorem writeRecords_cons (le : LineEnd) (trailing : Bool) (rec : List (List Char)) (rest : List (List (List Char)))
    (hrest : ∀ r ∈ rest, r ≠ []) :
    ∃ Y T, writeRecords le trailing (rec :: rest) = recordText rec ++ Y ∧ IsTerm T ∧
      evE Y = T ++ evT (writeRecords le trailing rest) := by
  cases rest with
  | nil =>
    cases trailing with
    | false => exact ⟨[], [none], by simp [writeRecords, joinRecords], .inl rfl, by simp [evE, evT, writeRecords, joinRecords]⟩
    | true =>
      obtain ⟨T, hT, hev⟩ := evE_lineEnd le [] (by simp)
      exact ⟨le.chars, T, by simp [writeRecords, joinRecords], hT, by simpa [writeRecords, joinRecords] using hev⟩
  | cons rec2 more =>
    obtain ⟨c2, t2, hR, hc2⟩ := joinRecords_head le trailing (rec2 :: more) (by simp) hrest
    obtain ⟨T, hT, hev⟩ := evE_lineEnd le (writeRecords le trailing (rec2 :: more)) (by rw [writeRecords, hR]; simpa using hc2)
    exact ⟨_, T, rfl, hT, hev⟩

/-- **the reader inverts the writer on records**: records of at least one field each, every field fit for the reader -/
theorem run_writeRecords (le : LineEnd) (trailing : Bool) : ∀ (recs : List (List (List Char))),
    (∀ r ∈ recs, r ≠ [] ∧ ∀ f ∈ r, FieldOK f) →
    run .reset (evT (writeRecords le trailing recs)) = .ok recs
  | [], _ => by simp [writeRecords, joinRecords, evT, run, Rd.reset]
  | rec :: rest, h => by
    obtain ⟨hne, hok⟩ := h rec List.mem_cons_self
    obtain ⟨f, gs, rfl⟩ := List.exists_cons_of_ne_nil hne
    obtain ⟨Y, T, hw, hT, hev⟩ := writeRecords_cons le trailing (f :: gs) rest (fun r hr => (h r (by simp [hr])).1)
    obtain ⟨c, t, hct, _⟩ := recordText_head f gs
    have : evT (recordText (f :: gs) ++ Y) = evE (recordText (f :: gs) ++ Y) := by simp [evT, hct]
    rw [hw, this, run_record f gs hok Y T _ hT hev, run_writeRecords le trailing rest (fun r hr => h r (List.mem_cons_of_mem _ hr))]
    rfl

/-- an unquoted field of more than 131072 characters makes the reader raise `field larger than field limit (131072)`,
whatever follows (so `dataParseCSV` fails on it): the limit in `FieldOK` is needed -/
theorem run_field_limit (F : List (List Char)) (st : St) (hst : st = .startRecord ∨ st = .startField) (s1 : List Char) (c : Char)
    (Y : List Char) (h1 : s1.length = fieldLimit) (hq : needsQuote (s1 ++ [c]) = false) (hsp : s1.head? ≠ some ' ') :
    run ⟨F, [], 0, st⟩ (evE (s1 ++ c :: Y)) = .error .fieldLimit := by
  have hp := plain_of_needsQuote hq
  have hq1 : needsQuote s1 = false := by
    simp only [needsQuote, List.any_append, Bool.or_eq_false_iff] at hq
    exact hq.1
  have hne : s1 ≠ [] := by
    intro e; subst e; simp [fieldLimit] at h1
  have := run_field F st hst false s1 (c :: Y) (by omega) (.inr hsp)
  simp only [fieldText, hq1, Bool.or_self, Bool.false_eq_true, if_false] at this
  rw [this]
  obtain ⟨h2, h3, h4, h5⟩ := hp c (by simp)
  simp only [afterField, hq1, Bool.or_self, Bool.false_eq_true, if_false, hne]
  rw [evE_cons_plain _ _ h5 h4]
  simp [run, stepChar, addChar, h1, h2, h4, h5]

end C19CsvText
