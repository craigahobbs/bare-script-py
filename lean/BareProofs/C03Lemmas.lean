import BareModel.EvalSpec

/-!
# C03 — lemmas: the state-threading evaluator computes the compositional specification

`eval_spec` / `args_spec` / `if_spec`: in the TRACE instance, `Machine.evalExpr` (resp. `evalArgs`, `evalIf`) started in
state `st` returns the specification value and the state `st` with `traceOf` appended to its world.
Structural recursion over the nested inductive `Expr` / `List Expr`.
-/

namespace C03
open Machine EvalSpec

section
variable (cfg : Config Trace) (hb : Blind cfg.host) (result : Value → List Value → Value) (locals : Option Env)

@[simp] theorem embed_ok (v : Value) (t : Trace) (st : State Trace) :
    embed (.ok v) t st = .ok v { st with world := st.world ++ t } := rfl

@[simp] theorem embed_undef (n : Name) (t : Trace) (st : State Trace) :
    embed (.undef n) t st = .err (.undefinedFunction n) { st with world := st.world ++ t } := rfl

@[simp] theorem embedArgs_ok (vs : List Value) (t : Trace) (st : State Trace) :
    embedArgs (.ok vs) t st = .ok vs { st with world := st.world ++ t } := rfl

@[simp] theorem embedArgs_undef (n : Name) (t : Trace) (st : State Trace) :
    embedArgs (.undef n) t st = .err (.undefinedFunction n) { st with world := st.world ++ t } := rfl

@[simp] theorem ctx_truthy (g : Env) (v : Value) : (ctxOf cfg result locals g).truthy v = cfg.host.truthy v [] := rfl
@[simp] theorem ctx_binop (g : Env) (op : BinOp) (a b : Value) :
    (ctxOf cfg result locals g).binop op a b = cfg.host.binop op a b [] := rfl
@[simp] theorem ctx_neg (g : Env) : (ctxOf cfg result locals g).neg = cfg.host.neg := rfl
@[simp] theorem ctx_result (g : Env) : (ctxOf cfg result locals g).result = result := rfl
@[simp] theorem ctx_var (g : Env) : (ctxOf cfg result locals g).var = lookupVar locals g := rfl
@[simp] theorem ctx_func (g : Env) : (ctxOf cfg result locals g).func = lookupFunc cfg locals g := rfl

theorem app_nil (st : State Trace) : ({ st with world := st.world ++ [] } : State Trace) = st := by
  cases st; simp

theorem app_app (st : State Trace) (a b : Trace) :
    ({ ({ st with world := st.world ++ a } : State Trace) with world := (st.world ++ a) ++ b } : State Trace)
      = { st with world := st.world ++ (a ++ b) } := by
  simp [List.append_assoc]

theorem embed_app (r : SRes Value) (st : State Trace) (a b : Trace) :
    embed r b { st with world := st.world ++ a } = embed r (a ++ b) st := by
  cases r <;> simp only [embed_ok, embed_undef, List.append_assoc]

end

/-! the strict-operator case of `valueOf` and `rightSelected` (for `evalExpr` it is the equation `evalExpr.eq_7`) -/

theorem valueOf_strict (c : Ctx) (op : BinOp) (l r : Expr) (h1 : op ≠ .and) (h2 : op ≠ .or) :
    valueOf c (.binary op l r) =
      match valueOf c l with
      | .undef m => .undef m
      | .ok lv =>
        match valueOf c r with
        | .undef m => .undef m
        | .ok rv => .ok (c.binop op lv rv) := by
  rw [valueOf]
  cases op <;> first | rfl | exact absurd rfl h1 | exact absurd rfl h2

theorem rightSelected_strict (c : Ctx) (op : BinOp) (lv : Value) (h1 : op ≠ .and) (h2 : op ≠ .or) :
    rightSelected c op (.ok lv) = true := by
  cases op <;> first | rfl | exact absurd rfl h1 | exact absurd rfl h2

mutual
theorem eval_spec (cfg : Config Trace) (hb : Blind cfg.host) (result : Value → List Value → Value) (locals : Option Env) : ∀ (e : Expr) (st : State Trace),
    evalExpr cfg (traceCall result) locals e st =
      embed (valueOf (ctxOf cfg result locals st.globals) e) (traceOf (ctxOf cfg result locals st.globals) e) st
  | .number q, st => by simp [evalExpr, valueOf, traceOf]
  | .string s, st => by simp [evalExpr, valueOf, traceOf]
  | .variable n, st => by
      simp [evalExpr, valueOf, traceOf, apply_ite (fun r => embed r [] st)]
  | .function n args, st => by
      rw [evalExpr, valueOf, traceOf]
      by_cases hn : n = kwIf
      · simp only [hn, if_true]; exact if_spec cfg hb result locals args st
      · simp only [hn, if_false]
        rw [args_spec cfg hb result locals args st]
        cases valuesOf (ctxOf cfg result locals st.globals) args with
        | undef m => simp [callTrace]
        | ok vs =>
          simp only [embedArgs_ok, callTrace, callee, ctx_func, ctx_result]
          cases lookupFunc cfg locals st.globals n with
          | none => simp
          | some fv => cases fv <;> simp [traceCall, List.append_assoc]
  | .binary op l r, st => by
      by_cases h1 : op = .and
      · subst h1
        rw [evalExpr, eval_spec cfg hb result locals l st, valueOf, traceOf]
        cases valueOf (ctxOf cfg result locals st.globals) l with
        | undef m => simp [rightSelected]
        | ok lv =>
          simp only [embed_ok, rightSelected, ctx_truthy]
          rw [hb.truthy lv _ []]
          by_cases ht : cfg.host.truthy lv [] = true
          · simp only [ht, if_true]; rw [eval_spec cfg hb result locals r, embed_app]
          · simp [ht]
      · by_cases h2 : op = .or
        · subst h2
          rw [evalExpr, eval_spec cfg hb result locals l st, valueOf, traceOf]
          cases valueOf (ctxOf cfg result locals st.globals) l with
          | undef m => simp [rightSelected]
          | ok lv =>
            simp only [embed_ok, rightSelected, ctx_truthy]
            rw [hb.truthy lv _ []]
            by_cases ht : cfg.host.truthy lv [] = true
            · simp [ht]
            · simp only [ht, Bool.false_eq_true, if_false, Bool.not_false, if_true]
              rw [eval_spec cfg hb result locals r, embed_app]
        · rw [evalExpr.eq_7 _ _ _ _ _ _ _ h1 h2, eval_spec cfg hb result locals l st, valueOf_strict _ _ _ _ h1 h2, traceOf]
          cases valueOf (ctxOf cfg result locals st.globals) l with
          | undef m => simp [rightSelected]
          | ok lv =>
            simp only [embed_ok]
            rw [eval_spec cfg hb result locals r, rightSelected_strict _ _ _ h1 h2]
            cases valueOf (ctxOf cfg result locals st.globals) r with
            | undef m => simp [List.append_assoc]
            | ok rv => simp only [embed_ok]; rw [hb.binop op lv rv _ []]; simp [List.append_assoc]
  | .unary .not e, st => by
      rw [evalExpr, eval_spec cfg hb result locals e st, valueOf, traceOf]
      cases valueOf (ctxOf cfg result locals st.globals) e with
      | undef m => simp
      | ok v => simp only [embed_ok, ctx_truthy]; rw [hb.truthy v _ []]
  | .unary .neg e, st => by
      rw [evalExpr, eval_spec cfg hb result locals e st, valueOf, traceOf]
      cases valueOf (ctxOf cfg result locals st.globals) e <;> simp
  | .group e, st => by rw [evalExpr, eval_spec cfg hb result locals e st, valueOf, traceOf]

theorem args_spec (cfg : Config Trace) (hb : Blind cfg.host) (result : Value → List Value → Value) (locals : Option Env) : ∀ (as : List Expr) (st : State Trace),
    evalArgs cfg (traceCall result) locals as st =
      embedArgs (valuesOf (ctxOf cfg result locals st.globals) as) (tracesOf (ctxOf cfg result locals st.globals) as) st
  | [], st => by simp [evalArgs, valuesOf, tracesOf]
  | a :: as, st => by
      rw [evalArgs, eval_spec cfg hb result locals a st, valuesOf, tracesOf]
      cases valueOf (ctxOf cfg result locals st.globals) a with
      | undef m => simp
      | ok v =>
        simp only [embed_ok]; rw [args_spec cfg hb result locals as]
        cases valuesOf (ctxOf cfg result locals st.globals) as <;> simp [List.append_assoc]

theorem if_spec (cfg : Config Trace) (hb : Blind cfg.host) (result : Value → List Value → Value) (locals : Option Env) : ∀ (as : List Expr) (st : State Trace),
    evalIf cfg (traceCall result) locals as st =
      embed (ifValue (ctxOf cfg result locals st.globals) as) (ifTrace (ctxOf cfg result locals st.globals) as) st
  | [], st => by simp [evalIf, ifValue, ifTrace]
  | [c], st => by
      rw [evalIf, eval_spec cfg hb result locals c st, ifValue, ifTrace]
      cases valueOf (ctxOf cfg result locals st.globals) c <;> simp
  | [c, t], st => by
      rw [evalIf, eval_spec cfg hb result locals c st, ifValue, ifTrace]
      cases valueOf (ctxOf cfg result locals st.globals) c with
      | undef m => simp
      | ok v =>
        simp only [embed_ok, ctx_truthy]; rw [hb.truthy v _ []]
        by_cases ht : cfg.host.truthy v [] = true
        · simp only [ht, if_true]; rw [eval_spec cfg hb result locals t, embed_app]
        · simp [ht]
  | c :: t :: f :: rest, st => by
      rw [evalIf, eval_spec cfg hb result locals c st, ifValue, ifTrace]
      cases valueOf (ctxOf cfg result locals st.globals) c with
      | undef m => simp
      | ok v =>
        simp only [embed_ok, ctx_truthy]; rw [hb.truthy v _ []]
        by_cases ht : cfg.host.truthy v [] = true
        · simp only [ht, if_true]; rw [eval_spec cfg hb result locals t, embed_app]
        · simp only [ht, Bool.false_eq_true, if_false]; rw [eval_spec cfg hb result locals f, embed_app]
end

end C03
