import BareProofs.C04Frame
import BareProofs.C09Lib
import Drv.ExecJson

/-!
# C04 — scoping, calling convention and host globals behave as documented

All theorems are about `Machine` (the mirror of runtime.py: `evaluate_expression`, the call wrapper, `_script_function`,
`_execute_script_helper`) and `Scope.inject` (the library injection of `execute_script`), for ALL configurations, hosts
(`Host W` is a parameter), programs, states, argument lists and fuel; the concrete host `HostImpl.host` of the driver is
used only where stated (`partial_uses_same_convention`, `injectLib_eq_inject`, the examples).
-/

open Machine Scope
namespace C04
variable {W : Type}

/-! ## the calling convention -/

/-- `paramValue`, read out: the `...` parameter gets the fresh array, a parameter with an argument gets that argument,
a parameter without one gets null -/
theorem paramValue_cases (laa : Bool) (n : Nat) (as : List Value) (rest : Value) (i : Nat) :
    paramValue laa n as rest i =
      if laa = true ∧ i + 1 = n then rest
      else if h : i < as.length then as[i] else .null := by
  unfold paramValue
  split
  · rfl
  · by_cases h : i < as.length <;> simp [h]

/-- **bindArgs_spec.**  The locals a call of a script function starts with, for EVERY parameter list `ps` (duplicates
allowed), `lastArgArray` flag and argument list `as` of any length; `fresh = host.newArray (as.drop (n-1)) w` is the
array the host allocates for the `...` parameter:

1. the world changes only by that allocation (and not at all for a function without `...` or without parameters);
2. the locals bind exactly the parameter names — nothing else (no surplus argument is stored anywhere);
3. the parameter at position `i` — if no later position repeats its name; with a repeated name the LATER position wins,
   as in a Python dict — is bound to `fresh` if it is the last parameter of a `...` function, else to argument `i` if
   there is one, else to null. -/
theorem bindArgs_spec (host : Host W) (laa : Bool) (ps : List Name) (as : List Value) (w : W) :
    let r := bindArgs host laa ps as [] w
    let fresh := host.newArray (as.drop (ps.length - 1)) w
    (r.2 = if laa = true ∧ ps ≠ [] then fresh.2 else w) ∧
    (∀ p, r.1.contains p = true ↔ p ∈ ps) ∧
    (∀ i (hi : i < ps.length), (∀ j (hj : j < ps.length), i < j → ps[j] ≠ ps[i]) →
        r.1.get? ps[i] = some (if laa = true ∧ i + 1 = ps.length then fresh.1
                               else if h : i < as.length then as[i] else .null)) := by
  intro r fresh
  have hr : r = (setAll [] (specPairs laa ps.length as fresh.1 ps 0), if laa = true ∧ ps ≠ [] then fresh.2 else w) := by
    have := bindArgs_general host laa ps as 0 [] w
    simp only [List.drop_zero, Nat.zero_add] at this
    exact this
  refine ⟨?_, ?_, ?_⟩
  · rw [hr]
  · intro p
    rw [hr, setAll_contains, specPairs_keys]
    simp [Env.contains]
  · intro i hi hlast
    rw [hr, ← paramValue_cases]
    generalize fresh.1 = rest
    -- split the assignment sequence at position i
    let kvs := specPairs laa ps.length as rest ps 0
    have hlen : kvs.length = ps.length := by simp [kvs, specPairs]
    have hik : i < kvs.length := by omega
    have hsplit : kvs = kvs.take i ++ kvs[i] :: kvs.drop (i + 1) := by
      rw [List.getElem_cons_drop, List.take_append_drop]
    have hget : kvs[i] = (ps[i], paramValue laa ps.length as rest i) := by simp [kvs, specPairs]
    have hkeys : (kvs.drop (i + 1)).map (·.1) = ps.drop (i + 1) := by
      rw [List.map_drop, specPairs_keys]
    have hnot : ps[i] ∉ (kvs.drop (i + 1)).map (·.1) := by
      rw [hkeys]
      intro hmem
      obtain ⟨m, hm, hmeq⟩ := List.mem_iff_getElem.1 hmem
      rw [List.getElem_drop] at hmeq
      rw [List.length_drop] at hm
      exact hlast (i + 1 + m) (by omega) (by omega) hmeq
    show (setAll [] kvs).get? ps[i] = _
    rw [hsplit, hget]
    exact setAll_get?_last _ _ _ _ _ hnot

/-- the usual case, distinct parameter names: EVERY parameter is bound as documented -/
theorem bindArgs_spec_nodup (host : Host W) (laa : Bool) (ps : List Name) (as : List Value) (w : W) (hd : ps.Nodup)
    (i : Nat) (hi : i < ps.length) :
    (bindArgs host laa ps as [] w).1.get? ps[i] =
      some (if laa = true ∧ i + 1 = ps.length then (host.newArray (as.drop (ps.length - 1)) w).1
            else if h : i < as.length then as[i] else .null) := by
  refine (bindArgs_spec host laa ps as w).2.2 i hi ?_
  intro j hj hij heq
  have := (List.getElem_inj hd).1 heq
  omega

/-- a missing argument is null (never an error, never `[]`) -/
theorem bindArgs_missing_null (host : Host W) (ps : List Name) (as : List Value) (w : W) (hd : ps.Nodup)
    (i : Nat) (hi : i < ps.length) (hmiss : as.length ≤ i) (hnotrest : ¬ (laa = true ∧ i + 1 = ps.length)) :
    (bindArgs host laa ps as [] w).1.get? ps[i] = some .null := by
  rw [bindArgs_spec_nodup host laa ps as w hd i hi]
  simp [hnotrest, Nat.not_lt.2 hmiss]

/-- surplus arguments of a function without `...` are ignored: they change neither the locals nor the world -/
theorem bindArgs_surplus_ignored (host : Host W) (ps : List Name) (as extra : List Value) (w : W)
    (h : ps.length ≤ as.length) :
    bindArgs host false ps (as ++ extra) [] w = bindArgs host false ps as [] w := by
  rw [bindArgs_eq_bindSpec, bindArgs_eq_bindSpec]
  unfold bindSpec
  simp only [Bool.false_eq_true, false_and, if_false]
  congr 2
  apply List.map_congr_left
  intro pi hpi
  have hlt : pi.2 < ps.length := by simpa using List.snd_lt_of_mem_zipIdx hpi
  simp only [paramValue, Bool.false_eq_true, false_and, if_false]
  rw [List.getElem?_append_left (by omega)]

/-- the `...` parameter: a FRESH array (the result of `host.newArray`, i.e. `args[ix:]` / `[]`) holding the arguments
from position `n-1` on — empty when there are fewer — and the only effect of the binding on the world -/
theorem bindArgs_rest_fresh (host : Host W) (ps : List Name) (as : List Value) (w : W) (hd : ps.Nodup) (hne : ps ≠ []) :
    let fresh := host.newArray (as.drop (ps.length - 1)) w
    (bindArgs host true ps as [] w).1.get? (ps.getLast hne) = some fresh.1 ∧
    (bindArgs host true ps as [] w).2 = fresh.2 ∧
    (as.length < ps.length → as.drop (ps.length - 1) = []) := by
  intro fresh
  have hpos : 0 < ps.length := List.length_pos_iff.2 hne
  refine ⟨?_, ?_, ?_⟩
  · have := bindArgs_spec_nodup host true ps as w hd (ps.length - 1) (by omega)
    rw [List.getLast_eq_getElem, this]
    have : ps.length - 1 + 1 = ps.length := by omega
    simp [this, fresh]
  · rw [(bindArgs_spec host true ps as w).1]; simp [hne, fresh]
  · intro h; exact List.drop_eq_nil_of_le (by omega)

/-! ## lookup order -/

/-- **lookup_order** (variables): locals if the name is bound there, else globals, else null -/
theorem lookup_order (l g : Env) (n : Name) :
    (∀ v, l.get? n = some v → lookupVar (some l) g n = v) ∧
    (l.get? n = none → lookupVar (some l) g n = lookupVar none g n) ∧
    (∀ v, g.get? n = some v → lookupVar none g n = v) ∧
    (g.get? n = none → lookupVar none g n = .null) := by
  unfold lookupVar
  refine ⟨?_, ?_, ?_, ?_⟩
  · intro v h; simp [contains_eq_isSome, h]
  · intro h; simp [contains_eq_isSome, h]
  · intro v h; simp [h]
  · intro h; simp [h]

/-- lookup of a parameter inside the body sees that binding (locals first) -/
theorem param_lookup (host : Host W) (laa : Bool) (ps : List Name) (as : List Value) (w : W) (hd : ps.Nodup)
    (i : Nat) (hi : i < ps.length) (g : Env) :
    lookupVar (some (bindArgs host laa ps as [] w).1) g ps[i] =
      (if laa = true ∧ i + 1 = ps.length then (host.newArray (as.drop (ps.length - 1)) w).1
       else if h : i < as.length then as[i] else .null) :=
  (lookup_order _ g _).1 _ (bindArgs_spec_nodup host laa ps as w hd i hi)

/-- **lookup_order** (functions): locals, else globals, else — only when `cfg.builtins` — the expression built-ins -/
theorem lookup_order_func (cfg : Config W) (l g : Env) (n : Name) :
    (∀ v, l.get? n = some v → lookupFunc cfg (some l) g n = some v) ∧
    (l.get? n = none → lookupFunc cfg (some l) g n = lookupFunc cfg none g n) ∧
    (∀ v, g.get? n = some v → lookupFunc cfg none g n = some v) ∧
    (g.get? n = none → cfg.builtins = true → lookupFunc cfg none g n = (cfg.host.builtin n).map Value.fn) ∧
    (g.get? n = none → cfg.builtins = false → lookupFunc cfg none g n = none) := by
  unfold lookupFunc
  refine ⟨?_, ?_, ?_, ?_, ?_⟩
  · intro v h; simp [contains_eq_isSome, h]
  · intro h; simp [contains_eq_isSome, h]
  · intro v h; simp [contains_eq_isSome, h]
  · intro h hb; simp [contains_eq_isSome, h, hb]
  · intro h hb; simp [contains_eq_isSome, h, hb]

/-- **builtin_never_shadows.**  If the name is bound in the locals or in the globals, the function lookup yields that
binding whatever the built-in table and the `builtins` flag are: two configurations that differ only there agree. -/
theorem builtin_never_shadows (cfg cfg' : Config W) (locals : Option Env) (g : Env) (n : Name)
    (hbound : (∃ l, locals = some l ∧ l.contains n = true) ∨ g.contains n = true) :
    lookupFunc cfg locals g n = lookupFunc cfg' locals g n ∧
    lookupFunc cfg locals g n =
      (match locals with
       | some l => if l.contains n then l.get? n else g.get? n
       | none => g.get? n) := by
  unfold lookupFunc
  rcases hbound with ⟨l, rfl, hl⟩ | hg
  · simp [hl]
  · cases locals with
    | none => simp [hg]
    | some l => by_cases hl : l.contains n = true <;> simp [hl, hg]

/-- a variable reference evaluates by `lookupVar` (the three keywords aside) and has no effect -/
theorem eval_variable (cfg : Config W) (call : CallFn W) (locals : Option Env) (n : Name) (st : State W)
    (h1 : n ≠ kwNull) (h2 : n ≠ kwFalse) (h3 : n ≠ kwTrue) :
    evalExpr cfg call locals (.variable n) st = .ok (lookupVar locals st.globals n) st := by
  simp [evalExpr, h1, h2, h3]

/-- a call expression: arguments left to right, THEN the function lookup (in the globals as the arguments left them),
then the one call wrapper `call` -/
theorem eval_call (cfg : Config W) (call : CallFn W) (locals : Option Env) (n : Name) (args : List Expr) (st : State W)
    (h : n ≠ kwIf) :
    evalExpr cfg call locals (.function n args) st =
      match evalArgs cfg call locals args st with
      | .ok vs st1 =>
          match lookupFunc cfg locals st1.globals n with
          | some .null => .err (.undefinedFunction n) st1
          | some fv => call fv vs st1
          | none => .err (.undefinedFunction n) st1
      | .err e st1 => .err e st1
      | .oof => .oof := by
  simp only [evalExpr, h, if_false]
  rfl

/-! ## assignment: locals inside a function, the globals object at top level -/

/-- the statement budget allows one more statement to start (runtime.py:61 does not raise) -/
def BudgetOk (cfg : Config W) (st : State W) : Prop :=
  (decide (cfg.maxStatements > 0) && decide (st.count + 1 > cfg.maxStatements)) = false

/-- the state after the statement counter has been incremented -/
def tick (st : State W) : State W := { st with count := st.count + 1 }

/-- an assignment statement inside a function (`locals = some l`) writes `l`; the state — hence the globals — is exactly
what the evaluation of the right-hand side left -/
theorem local_assign_writes_locals (cfg : Config W) (fuel : Nat) (P : List Stmt) (l : Env) (base cache) (pc : Nat)
    (st st2 : State W) (n : Name) (e : Expr) (v : Value) (h : P[pc]? = some (.expr (some n) e)) (hb : BudgetOk cfg st)
    (hev : evalExpr cfg (callValue cfg fuel) (some l) e (tick st) = .ok v st2) :
    execM cfg (fuel+1) P (some l) base cache pc st = execM cfg fuel P (some (l.set n v)) base cache (pc+1) st2 := by
  rw [execM.eq_1, h]
  simp only [tick] at hev
  refine (if_neg (Bool.eq_false_iff.1 hb)).trans ?_
  simp only [hev]

/-- **toplevel_assign_writes_globals.**  At top level (`locals = none`) the assignment writes the caller-supplied
globals object: `globals[n] = v`. -/
theorem toplevel_assign_writes_globals (cfg : Config W) (fuel : Nat) (P : List Stmt) (base cache) (pc : Nat)
    (st st2 : State W) (n : Name) (e : Expr) (v : Value) (h : P[pc]? = some (.expr (some n) e)) (hb : BudgetOk cfg st)
    (hev : evalExpr cfg (callValue cfg fuel) none e (tick st) = .ok v st2) :
    execM cfg (fuel+1) P none base cache pc st =
      execM cfg fuel P none base cache (pc+1) { st2 with globals := st2.globals.set n v } := by
  rw [execM.eq_1, h]
  simp only [tick] at hev
  refine (if_neg (Bool.eq_false_iff.1 hb)).trans ?_
  simp only [hev]

/-- **include_continues_with_same_locals.**  An `include` statement, in WHATEVER scope it stands (`locals` arbitrary: the top
level or the locals of any function call), hands the included scripts to `execIncludes` — which does not even take the
including scope's locals as an argument, so nothing an included script does can depend on them or change them — and the
including script continues with exactly the locals it had. -/
theorem include_continues_with_same_locals (cfg : Config W) (fuel : Nat) (P : List Stmt) (locals : Option Env) (base cache)
    (pc : Nat) (st : State W) (incs : List IncludeScript) (h : P[pc]? = some (.include incs)) (hb : BudgetOk cfg st) :
    execM cfg (fuel+1) P locals base cache pc st =
      match execIncludes cfg fuel base incs (tick st) with
      | .done st2 => execM cfg fuel P locals base cache (pc+1) st2
      | o => o := by
  rw [execM.eq_1, h]
  refine (if_neg (Bool.eq_false_iff.1 hb)).trans ?_
  dsimp only [tick]
  cases execIncludes cfg fuel base incs { st with count := st.count + 1 } <;> rfl

/-- **included_script_runs_at_top_level.**  Every script an include fetches is executed as a script of its own: at TOP
LEVEL (`locals = none`, so by `toplevel_assign_writes_globals` its assignments write the globals object and by
`lookup_order` its reads see the globals only), from its first statement, with an empty label cache; its `return` ends
only the included script. -/
theorem included_script_runs_at_top_level (cfg : Config W) (fuel : Nat) (base : Option String) (inc : IncludeScript)
    (rest : List IncludeScript) (st : State W) (stmts : List Stmt) (h : cfg.fetch (cfg.resolve base inc) = .script stmts) :
    execIncludes cfg (fuel+1) base (inc :: rest) st =
      match execM cfg fuel stmts none (some (cfg.resolve base inc)) [] 0 st with
      | .done st' => execIncludes cfg fuel base rest st'
      | .ret _ st' => execIncludes cfg fuel base rest st'
      | o => o := by
  rw [execIncludes.eq_2]
  simp only [h]
  cases execM cfg fuel stmts none (some (cfg.resolve base inc)) [] 0 st <;> rfl

/-- **a call starts from fresh locals.**  The locals of a script-function call are built from the EMPTY dictionary by
the parameter binding alone: they depend on the function definition, the arguments and the world — not on any earlier
call, not on the caller's locals (which are not even an argument of `callValue`), not on the globals.  What the body
did to its locals is not part of the result (`Out` carries a value and the state only). -/
theorem call_starts_from_fresh_locals (cfg : Config W) (fuel : Nat) (id : FnId) (fd : FuncDef) (h : cfg.funs id = some fd)
    (args : List Value) (st : State W) :
    callValue cfg (fuel+1) (.fn (.script id)) args st =
      match execM cfg fuel fd.body (some (bindSpec cfg.host fd.lastArgArray fd.args args st.world).1) none [] 0
              { st with world := (bindSpec cfg.host fd.lastArgArray fd.args args st.world).2 } with
      | .done st' => .ok .null st'
      | .ret v st' => .ok v st'
      | .err e st' => .err e st'
      | .oof => .oof := by
  rw [callValue.eq_2, h]
  simp only
  rw [← bindArgs_eq_bindSpec]
  rfl

/-! ## the globals change only through explicit global effects -/

/-- names outside `S` keep their binding -/
def SameOutside (S : Name → Prop) (g g' : Env) : Prop := ∀ n, ¬ S n → g'.get? n = g.get? n

theorem respects_sameOutside (S : Name → Prop) : Respects S (SameOutside S) where
  refl := fun _ _ _ => rfl
  trans := fun h1 h2 n hn => (h2 n hn).trans (h1 n hn)
  set := fun g n v hS m hm => get?_set_other g n m v (fun h => hm (h ▸ hS))

theorem respects_eq : Respects (fun _ => False) (fun g g' : Env => g' = g) where
  refl := fun _ => rfl
  trans := fun h1 h2 => h2.trans h1
  set := fun _ _ _ h => h.elim

/-- **globals_frame.**  Let `S` be a set of names such that (a) every `function` statement in the function bodies of the
table and in the body `P` names a member of `S`, (b) every `globalSet` request of a library / host-callable tree names a
member of `S`, (d) every script an include can fetch assigns and defines only members of `S` at its top level (or no
`include` occurs: `I = False`).  Then executing `P` as a function body (`locals = some l`) — including (c) all nested
calls, call-backs and includes, to any depth — leaves every global outside `S` bound exactly as before (or unbound as
before).  In particular NO plain assignment inside a function reaches the globals.  The same holds for a call through
`callValue`. -/
theorem globals_frame (cfg : Config W) (S : Name → Prop) (I : Prop) (hF : Frame cfg S I) (fuel : Nat) :
    (∀ (P : List Stmt) (l : Env) base cache pc (st : State W), (∀ s ∈ P, StmtOK S I true s) →
        ResRel (SameOutside S) st.globals (execM cfg fuel P (some l) base cache pc st)) ∧
    (∀ f args (st : State W), OutRel (SameOutside S) st.globals (callValue cfg fuel f args st)) := by
  have h := frameAt hF (respects_sameOutside S) fuel
  exact ⟨fun P l base cache pc st hP => h.2.1 P (some l) base cache pc st hP, h.1⟩

/-- **no leaked locals.**  The same frame for a whole top-level program (`locals = none`): if `S` contains the names the
program assigns at top level, the names of all `function` statements and the names the library may `globalSet`, then after
the run every name outside `S` is bound (or unbound) as before — whatever the functions assigned to their locals and
parameters, none of it is in the globals. -/
theorem toplevel_frame (cfg : Config W) (S : Name → Prop) (I : Prop) (hF : Frame cfg S I) (fuel : Nat)
    (P : List Stmt) (hP : ∀ s ∈ P, StmtOK S I false s) (base : Option String) (st : State W) :
    ResRel (SameOutside S) st.globals (execute cfg fuel P base st) :=
  (frameAt hF (respects_sameOutside S) fuel).2.1 P none base [] 0 { st with count := 0 } hP

/-- the body contains no `function` and no `include` statement -/
def NoGlobalStmt : Stmt → Prop
  | .function .. => False
  | .include _ => False
  | _ => True

instance : DecidablePred NoGlobalStmt := fun s => by
  cases s <;> simp only [NoGlobalStmt] <;> infer_instance

theorem stmtOK_of_noGlobalStmt {s : Stmt} (h : NoGlobalStmt s) : StmtOK (fun _ => False) False true s := by
  cases s with
  | expr name e => cases name <;> simp [StmtOK]
  | function => exact h.elim
  | «include» => exact h.elim
  | _ => trivial

/-- the final globals of a run (none when the model ran out of fuel — not a Python outcome) -/
def Res.globals? : Res W → Option Env
  | .done st => some st.globals
  | .ret _ st => some st.globals
  | .err _ st => some st.globals
  | .oof => none

def Out.globals? : Out W → Option Env
  | .ok _ st => some st.globals
  | .err _ st => some st.globals
  | .oof => none

theorem frame_noGlobal (cfg : Config W)
    (hlib : ∀ name args w, NoGlobalSet (cfg.host.lib name args w))
    (hother : ∀ k args w, NoGlobalSet (cfg.host.other k args w))
    (hfuns : ∀ id fd, cfg.funs id = some fd → ∀ s ∈ fd.body, NoGlobalStmt s) : Frame cfg (fun _ => False) False where
  lib := hlib
  other := hother
  funs := fun id fd h s hs => stmtOK_of_noGlobalStmt (hfuns id fd h s hs)
  fetch := fun h => h.elim

theorem Res.globals?_eq {g g' : Env} {o : Res W} (h : ResRel (fun a b : Env => b = a) g o)
    (hg : Res.globals? o = some g') : g' = g := by
  cases o <;> cases hg <;> exact h

theorem Out.globals?_eq {g g' : Env} {o : Out W} (h : OutRel (fun a b : Env => b = a) g o)
    (hg : Out.globals? o = some g') : g' = g := by
  cases o <;> cases hg <;> exact h

/-- **assign_local_only.**  On a host whose library trees and other callables never issue `globalSet`, with a function
table whose bodies contain no `function`/`include` statement: executing ANY such body `P` with locals `l`, from any
statement index, for any fuel, with any nested calls and call-backs, ends — normally, by `return`, or with a runtime
error — with `globals' = globals` (the same dictionary: same keys, same values, same order).  Every assignment of the
body, of its callees and of their call-backs went to the locals of the call that executed it. -/
theorem assign_local_only (cfg : Config W)
    (hlib : ∀ name args w, NoGlobalSet (cfg.host.lib name args w))
    (hother : ∀ k args w, NoGlobalSet (cfg.host.other k args w))
    (hfuns : ∀ id fd, cfg.funs id = some fd → ∀ s ∈ fd.body, NoGlobalStmt s)
    (fuel : Nat) (P : List Stmt) (hP : ∀ s ∈ P, NoGlobalStmt s) (l : Env) (base cache) (pc : Nat) (st : State W) (g' : Env)
    (hrun : Res.globals? (execM cfg fuel P (some l) base cache pc st) = some g') : g' = st.globals :=
  Res.globals?_eq ((frameAt (frame_noGlobal cfg hlib hother hfuns) respects_eq fuel).2.1 P (some l) base cache pc st
    fun s hs => stmtOK_of_noGlobalStmt (hP s hs)) hrun

/-- the same for a call of any function value (script function, library function, partial application …) -/
theorem call_leaves_globals (cfg : Config W)
    (hlib : ∀ name args w, NoGlobalSet (cfg.host.lib name args w))
    (hother : ∀ k args w, NoGlobalSet (cfg.host.other k args w))
    (hfuns : ∀ id fd, cfg.funs id = some fd → ∀ s ∈ fd.body, NoGlobalStmt s)
    (fuel : Nat) (f : Value) (args : List Value) (st : State W) (g' : Env)
    (hrun : Out.globals? (callValue cfg fuel f args st) = some g') : g' = st.globals :=
  Out.globals?_eq ((frameAt (frame_noGlobal cfg hlib hother hfuns) respects_eq fuel).1 f args st) hrun

/-- of the shapes only a call of `systemGlobalSet` writes a global: the one its first argument names -/
theorem _root_.HostShape.Shape.writes {V : HostShape.View W} {fn : FnVal} {args : List Value} {w0 w : W} {t : LibTree W}
    {S : Name → Prop} (h : HostShape.Shape V fn args w0 w t)
    (hS : ∀ s rest, fn = .lib "systemGlobalSet" → args = .str s :: rest → S (Name.ofString s)) : TreeWrites S t := by
  induction h with
  | ret | newPartial => exact .ret _ _
  | each _ _ _ _ ih => exact .call _ _ _ _ ih
  | apply => exact .call _ _ _ _ fun _ _ => .ret _ _
  | globalGet => exact .globalGet _ _ _ fun _ _ => .ret _ _
  | globalSet _ hn ha => exact .globalSet _ _ _ _ (hS _ _ hn ha) fun _ => .ret _ _

theorem _root_.HostShape.Shape.noSet {V : HostShape.View W} {fn : FnVal} {args : List Value} {w0 w : W} {t : LibTree W}
    (h : HostShape.Shape V fn args w0 w t) (hne : fn ≠ .lib "systemGlobalSet") : NoGlobalSet t :=
  h.writes fun _ _ hn => absurd hn hne

/-! ## host globals and the library -/

/-- **inject_preserves_host.**  After the library injection of `execute_script`, every name the caller bound is bound
to the caller's value (also when the library has a function of that name), and every other name is bound as in the
library table (unbound if the library does not have it). -/
theorem inject_preserves_host (lib : List (Name × Value)) (host : Env) :
    (∀ k v, host.get? k = some v → (inject lib host).get? k = some v) ∧
    (∀ k, host.get? k = none → (inject lib host).get? k = Env.get? lib k) := by
  constructor
  · intro k v h; rw [inject_get?, h]; rfl
  · intro k h; rw [inject_get?, h]; rfl

/-- the library table of the driver -/
def libTable : List (Name × Value) := HostImpl.libNames.map fun n => (.user n, .fn (.lib n))

/-- the injection used by the correspondence driver (`Drv/ExecJson.injectLib`) is `Scope.inject` on its library table -/
theorem injectLib_eq_inject (g : Env) : ExecJson.injectLib g = inject libTable g := by
  unfold ExecJson.injectLib inject libTable
  rw [List.foldl_map]

theorem libTable_distinct : DistinctKeys libTable := by unfold DistinctKeys; decide +kernel

/-- **funcdef_overrides_library.**  Executing `function f …` (at top level or inside a function body) binds the GLOBAL
`f` to the script function — also when the globals hold a library function (or a host value) under that name, e.g.
after `inject` — leaves every other global alone, and from then on a call of `f` from any scope that has no local `f`
resolves to the script function. -/
theorem funcdef_overrides_library (cfg : Config W) (fuel : Nat) (P : List Stmt) (locals base cache) (pc : Nat)
    (st : State W) (fid : Nat) (name : Name) (args : List Name) (laa isAsync : Bool) (body : List Stmt)
    (h : P[pc]? = some (.function fid name args laa isAsync body)) (hb : BudgetOk cfg st) :
    ∃ st' : State W,
      execM cfg (fuel+1) P locals base cache pc st = execM cfg fuel P locals base cache (pc+1) st' ∧
      st'.globals.get? name = some (.fn (.script fid)) ∧
      (∀ m, m ≠ name → st'.globals.get? m = st.globals.get? m) ∧
      st'.world = st.world ∧
      lookupFunc cfg none st'.globals name = some (.fn (.script fid)) ∧
      (∀ l : Env, l.contains name = false → lookupFunc cfg (some l) st'.globals name = some (.fn (.script fid))) := by
  refine ⟨{ (tick st) with globals := st.globals.set name (.fn (.script fid)) }, ?_, ?_, ?_, rfl, ?_, ?_⟩
  · rw [execM.eq_1, h]
    exact if_neg (Bool.eq_false_iff.1 hb)
  · exact get?_set_same _ _ _
  · intro m hm; exact get?_set_other _ _ _ _ hm
  · exact ((lookup_order_func cfg [] _ name).2.2.1 _ (get?_set_same _ _ _))
  · intro l hl
    rw [(lookup_order_func cfg l _ name).2.1 ((contains_false_iff l name).1 hl)]
    exact ((lookup_order_func cfg [] _ name).2.2.1 _ (get?_set_same _ _ _))

/-- in particular after the injection: whatever `inject lib host` bound `f` to, it is the script function afterwards -/
theorem funcdef_overrides_injected (lib : List (Name × Value)) (host : Env) (f : Name) (fid : Nat) :
    ((inject lib host).set f (.fn (.script fid))).get? f = some (.fn (.script fid)) := get?_set_same _ _ _

/-! ## one entry point for every kind of call -/

/-- **callbacks_use_same_convention.**  `callValue` is the single entry point:
1. a direct call `f(args)` in an expression is `call fv vs` with `call = callValue cfg fuel` (`eval_call`; `execM`
   passes exactly that `call` to `evalExpr`);
2. a library function (`FnVal.lib`) and any other host callable (`FnVal.other`, e.g. a `systemPartial` result) run their
   interaction tree with `callValue cfg fuel` as the call-back handler;
3. every `LibTree.call f args` node of such a tree is executed as `callValue cfg fuel f args` on the current state;
4. a script function value reaches `bindArgs` (= `bindSpec`) with exactly the argument list it was called with.
So `bindArgs_spec` describes the locals on every path. -/
theorem callbacks_use_same_convention (cfg : Config W) (fuel : Nat) :
    (∀ name args (st : State W),
        callValue cfg (fuel+1) (.fn (.lib name)) args st =
          runTree cfg (callValue cfg fuel) (cfg.host.lib name args st.world) st) ∧
    (∀ k args (st : State W),
        callValue cfg (fuel+1) (.fn (.other k)) args st =
          runTree cfg (callValue cfg fuel) (cfg.host.other k args st.world) st) ∧
    (∀ (call : CallFn W) f args w k (st : State W),
        runTree cfg call (.call f args w k) st =
          match call f args { st with world := w } with
          | .ok v st1 => runTree cfg call (k v st1.world) st1
          | o => o) ∧
    (∀ id fd args (st : State W), cfg.funs id = some fd →
        callValue cfg (fuel+1) (.fn (.script id)) args st =
          match execM cfg fuel fd.body (some (bindArgs cfg.host fd.lastArgArray fd.args args [] st.world).1) none [] 0
                  { st with world := (bindArgs cfg.host fd.lastArgArray fd.args args [] st.world).2 } with
          | .done st' => .ok .null st'
          | .ret v st' => .ok v st'
          | .err e st' => .err e st'
          | .oof => .oof) := by
  refine ⟨?_, ?_, ?_, ?_⟩
  · intro name args st; rw [callValue.eq_3]
  · intro k args st; rw [callValue.eq_4]
  · intro call f args w k st; rw [runTree]; rfl
  · intro id fd args st h; rw [callValue.eq_2, h]; rfl

/-- on the concrete host: calling the partial application `systemPartial(f, pre…)` with `args` IS calling `f` through the
same wrapper with `pre ++ args` (then `bindArgs_spec` applies with that argument list) -/
theorem partial_uses_same_convention (cfg : Config HostImpl.World) (hh : cfg.host = HostImpl.host) (fuel : Nat) (k : Nat)
    (f : Value) (pre args : List Value) (st : State HostImpl.World) (hk : st.world.partials[k]? = some (f, pre)) :
    callValue cfg (fuel+1) (.fn (.other k)) args st =
      match callValue cfg fuel f (pre ++ args) st with
      | .ok v st1 => .ok v st1
      | o => o := by
  rw [callValue.eq_4, hh]
  simp only [HostImpl.host, HostImpl.other, hk, runTree, HostImpl.ok]
  cases callValue cfg fuel f (pre ++ args) st <;> rfl

/-! ## non-vacuity: the hypotheses are inhabited, the conclusions are observable on the concrete host of the driver -/

section Examples
open HostImpl

def nm (s : String) : Name := .user s
def va (s : String) : Expr := .variable (.user s)
def callE (f : String) (args : List Expr) : Expr := .function (.user f) args
def logE (e : Expr) : Stmt := .expr none (callE "systemLog" [e])

/-- what a test observes of a run -/
structure Obs where
  kind : String
  val : Option Value
  log : List String
  globals : Env
deriving DecidableEq, Repr

/-- user-visible globals: the library bindings are left out -/
def userGlobals (g : Env) : Env := g.filter fun kv => !ExecJson.isLibBinding kv

def obs : Res World → Obs
  | .done st => ⟨"done", none, st.world.log, userGlobals st.globals⟩
  | .ret v st => ⟨"ret", some v, st.world.log, userGlobals st.globals⟩
  | .err _ st => ⟨"err", none, st.world.log, userGlobals st.globals⟩
  | .oof => ⟨"oof", none, [], []⟩

def xcfg (h : Host World) (funs : List (Nat × FuncDef)) : Config World :=
  { host := h, funs := fun id => (funs.find? (·.1 == id)).map (·.2), maxStatements := 1000 }

/-- the start state `execute_script` builds from the caller's globals -/
def start (hostGlobals : Env) : State World := { globals := inject libTable hostGlobals, world := {}, count := 0 }

/-- the runs below are evaluated from the filter form: the fold compares names 153 times per evaluation -/
theorem start_eq (h : Env) :
    start h = { globals := h ++ libTable.filter (fun kv => !h.contains kv.1), world := {}, count := 0 } :=
  congrArg (fun g => ({ globals := g, world := {}, count := 0 } : State World)) (inject_eq_spec _ _ libTable_distinct)

/-! ### `function f(a, b, c...)` called with 0, 2 and 5 arguments -/

def restBody : List Stmt := [logE (va "a"), logE (va "b"), logE (va "c"), .ret (some (va "c"))]
def restDef : FuncDef := { name := nm "f", args := [nm "a", nm "b", nm "c"], lastArgArray := true, body := restBody }
def restProg (call : Expr) : List Stmt :=
  [.function 0 (nm "f") [nm "a", nm "b", nm "c"] true false restBody, .expr (some (nm "r")) call]

/-- 0 arguments: a, b null; c a fresh EMPTY array -/
example : (obs (execute (xcfg host [(0, restDef)]) 50 (restProg (callE "f" [])) none (start []))).log
    = ["null", "null", "[]"] := by rw [start_eq]; decide +kernel

/-- 2 arguments: a, b bound; c still an empty array (not null) -/
example : (obs (execute (xcfg host [(0, restDef)]) 50 (restProg (callE "f" [.number 1, .string "x"])) none (start []))).log
    = ["1", "x", "[]"] := by rw [start_eq]; decide +kernel

/-- 5 arguments: c collects arguments 3..5 -/
example : (obs (execute (xcfg host [(0, restDef)]) 50
      (restProg (callE "f" [.number 1, .number 2, .number 3, .number 4, .number 5])) none (start []))).log
    = ["1", "2", "[3,4,5]"] := by rw [start_eq]; decide +kernel

/-- the binding itself, read through `bindArgs_spec`: with 5 arguments the third parameter is the array the host
allocated for `as.drop 2` -/
example : (bindArgs host true [nm "a", nm "b", nm "c"] [.num 1, .num 2, .num 3, .num 4, .num 5] [] {}).1
    = [(nm "a", .num 1), (nm "b", .num 2), (nm "c", .arr 0)] := by decide +kernel
example : (bindArgs host true [nm "a", nm "b", nm "c"] [.num 1, .num 2, .num 3, .num 4, .num 5] [] {}).2.arr? 0
    = some [.num 3, .num 4, .num 5] := by decide +kernel
example : (bindArgs host true [nm "a", nm "b", nm "c"] [] [] {}).1
    = [(nm "a", .null), (nm "b", .null), (nm "c", .arr 0)] := by decide +kernel
example : (bindArgs host true [nm "a", nm "b", nm "c"] [] [] {}).2.arr? 0 = some [] := by decide +kernel
/-- without `...`: surplus ignored, missing null, no allocation -/
example : (bindArgs host false [nm "a", nm "b"] [.num 1, .num 2, .num 3] [] {}).1 = [(nm "a", .num 1), (nm "b", .num 2)] := by
  decide +kernel
example : (bindArgs host false [nm "a", nm "b"] [.num 1] [] {}).1 = [(nm "a", .num 1), (nm "b", .null)] := by decide +kernel
/-- a duplicate parameter name: the later position wins (hypothesis of `bindArgs_spec` part 3 fails for position 0) -/
example : (bindArgs host false [nm "a", nm "a"] [.num 1, .num 2] [] {}).1 = [(nm "a", .num 2)] := by decide +kernel
/-- the hypotheses of `bindArgs_spec_nodup` / `bindArgs_rest_fresh` -/
example : [nm "a", nm "b", nm "c"].Nodup := by decide

/-! ### scoping -/

/-- `x` is a global, a parameter of `g` and assigned inside `f`: each scope sees its own -/
def scopeF : FuncDef :=
  { name := nm "f", args := [], lastArgArray := false,
    body := [.expr (some (nm "x")) (.number 1), .expr (some (nm "y")) (.number 2), logE (va "x"), logE (va "z"),
             .ret (some (callE "g" [.number 7]))] }
def scopeG : FuncDef :=
  { name := nm "g", args := [nm "x"], lastArgArray := false,
    body := [logE (va "x"), logE (va "y"), .ret (some (va "x"))] }
def scopeProg : List Stmt :=
  [.function 0 (nm "f") [] false false scopeF.body, .function 1 (nm "g") [nm "x"] false false scopeG.body,
   .expr (some (nm "x")) (.number 5), .expr (some (nm "r")) (callE "f" []), logE (va "x"), logE (va "y")]

/-- inside `f`: x = 1 (local), z = 9 (host global); inside `g`: x = 7 (parameter), y = null (f's local `y` is not
visible); afterwards the global x is still 5 and no `y` leaked -/
example : obs (execute (xcfg host [(0, scopeF), (1, scopeG)]) 100 scopeProg none (start [(nm "z", .num 9)]))
    = ⟨"done", none, ["1", "9", "7", "null", "5", "null"],
       [(nm "z", .num 9), (nm "f", .fn (.script 0)), (nm "g", .fn (.script 1)), (nm "x", .num 5), (nm "r", .num 7)]⟩ := by rw [start_eq]; decide +kernel

/-! ### an `include` issued inside a function runs the included script at top level -/

/-- the included script reads `x`, assigns `x` and a fresh name, defines `h` (which reads `x`) and returns early -/
def incScript : List Stmt :=
  [logE (va "x"), .expr (some (nm "x")) (.string "inc"), .expr (some (nm "fresh")) (.number 1),
   .function 1 (nm "h") [] false false [.ret (some (va "x"))], .ret none, .expr (some (nm "late")) (.number 2)]
def incF : FuncDef :=
  { name := nm "f", args := [nm "x"], lastArgArray := false,
    body := [.include [{ url := "inc.bare", system := false }], logE (va "x"), .ret (some (va "x"))] }
def incH : FuncDef := { name := nm "h", args := [], lastArgArray := false, body := [.ret (some (va "x"))] }
def incCfg : Config World :=
  { xcfg host [(0, incF), (1, incH)] with fetch := fun u => if u = "inc.bare" then .script incScript else .missing }
def incProg : List Stmt :=
  [.function 0 (nm "f") [nm "x"] false false incF.body, .expr (some (nm "x")) (.string "G"),
   .expr (some (nm "r")) (callE "f" [.string "A"]), logE (va "x"), logE (callE "h" [])]

/-- `f("A")` includes the script: its read of `x` sees the GLOBAL "G" (not the parameter "A"), its assignments reach the
globals, `f`'s parameter is still "A" afterwards, the early `return` ended only the included script (no `late`) -/
example : obs (execute incCfg 100 incProg none (start []))
    = ⟨"done", none, ["G", "A", "inc", "inc"],
       [(nm "f", .fn (.script 0)), (nm "x", .str "inc"), (nm "fresh", .num 1), (nm "h", .fn (.script 1)), (nm "r", .str "A")]⟩ := by rw [start_eq]; decide +kernel
/-- the hypotheses of `include_continues_with_same_locals` / `included_script_runs_at_top_level` on this instance -/
example : incF.body[0]? = some (.include [{ url := "inc.bare", system := false }]) := rfl
example : incCfg.fetch (incCfg.resolve none { url := "inc.bare", system := false }) = .script incScript := by
  simp [incCfg, xcfg]
example : BudgetOk incCfg (start []) := by unfold BudgetOk; decide

/-- a host without `systemGlobalSet`: every tree of the remaining library is free of `globalSet` requests -/
def hostNoSet : Host World :=
  { host with lib := fun name args w => if name = "systemGlobalSet" then fail .null w else lib name args w }

theorem hostNoSet_lib (name : String) (args : List Value) (w : World) : NoGlobalSet (hostNoSet.lib name args w) := by
  show NoGlobalSet (if name = "systemGlobalSet" then fail .null w else lib name args w)
  split
  · exact TreeWrites.ret _ _
  · next hne => exact (C09.lib_shape name args w).noSet fun h => hne (FnVal.lib.inj h)

theorem hostNoSet_other (k : Nat) (args : List Value) (w : World) : NoGlobalSet (hostNoSet.other k args w) :=
  (C09.other_shape k args w).noSet nofun

/-- the hypotheses of `assign_local_only` hold for the two functions above on that host … -/
example : ∀ id fd, (xcfg hostNoSet [(0, scopeF), (1, scopeG)]).funs id = some fd → ∀ s ∈ fd.body, NoGlobalStmt s := by
  intro id fd h s hs
  match id with
  | 0 => cases h; revert s; decide
  | 1 => cases h; revert s; decide
  | n+2 => cases h

/-- … so the theorem applies to every run of `f`'s body: the globals come back unchanged (here observed) -/
example : Res.globals? (execM (xcfg hostNoSet [(0, scopeF), (1, scopeG)]) 100 scopeF.body (some []) none [] 0
      { globals := [(nm "x", .num 5), (nm "g", .fn (.script 1)), (nm "systemLog", .fn (.lib "systemLog"))], world := {}, count := 0 })
    = some [(nm "x", .num 5), (nm "g", .fn (.script 1)), (nm "systemLog", .fn (.lib "systemLog"))] := by decide +kernel

/-- on the full host `systemGlobalSet` is the explicit way out: `globals_frame` with `S = {x}` -/
def setF : FuncDef :=
  { name := nm "f", args := [], lastArgArray := false,
    body := [.expr (some (nm "x")) (.number 1), .expr none (callE "systemGlobalSet" [.string "x", .number 2]),
             .ret (some (callE "systemGlobalGet" [.string "x"]))] }
example : obs (execute (xcfg host [(0, setF)]) 100
      [.function 0 (nm "f") [] false false setF.body, .expr (some (nm "x")) (.number 5), .expr (some (nm "r")) (callE "f" [])]
      none (start []))
    = ⟨"done", none, [], [(nm "f", .fn (.script 0)), (nm "x", .num 2), (nm "r", .num 2)]⟩ := by rw [start_eq]; decide +kernel

/-! ### lookup order and built-ins -/

example : lookupVar (some [(nm "x", .num 1)]) [(nm "x", .num 2), (nm "y", .num 3)] (nm "x") = .num 1 := by decide
example : lookupVar (some [(nm "x", .num 1)]) [(nm "x", .num 2), (nm "y", .num 3)] (nm "y") = .num 3 := by decide
example : lookupVar (some [(nm "x", .num 1)]) [(nm "x", .num 2), (nm "y", .num 3)] (nm "q") = .null := by decide
/-- a local bound to null still hides the global (bound ≠ non-null) -/
example : lookupVar (some [(nm "x", .null)]) [(nm "x", .num 2)] (nm "x") = .null := by decide

/-- expression mode: a host with the built-in `max`; a global or a local named `max` wins, otherwise the built-in -/
def bcfg : Config World :=
  { host := { host with builtin := fun n => if n = nm "max" then some (.lib "mathMax") else none },
    funs := fun _ => none, maxStatements := 0, builtins := true }
example : lookupFunc bcfg none [] (nm "max") = some (.fn (.lib "mathMax")) := by decide
example : lookupFunc bcfg none [(nm "max", .fn (.script 3))] (nm "max") = some (.fn (.script 3)) := by decide
example : lookupFunc bcfg (some [(nm "max", .fn (.script 4))]) [(nm "max", .fn (.script 3))] (nm "max")
    = some (.fn (.script 4)) := by decide
example : lookupFunc { bcfg with builtins := false } none [] (nm "max") = none := by decide

/-! ### host globals and the library -/

/-- the caller shadows `arrayLength` and `systemLog`; the injection keeps both, adds the rest -/
def shadow : Env := [(nm "arrayLength", .num 5), (nm "x", .str "s"), (nm "systemLog", .null)]
example : (inject libTable shadow).get? (nm "arrayLength") = some (.num 5) := by rw [inject_eq_spec _ _ libTable_distinct]; decide +kernel
example : (inject libTable shadow).get? (nm "systemLog") = some .null := by rw [inject_eq_spec _ _ libTable_distinct]; decide +kernel
example : (inject libTable shadow).get? (nm "arrayPush") = some (.fn (.lib "arrayPush")) := by rw [inject_eq_spec _ _ libTable_distinct]; decide +kernel
example : (inject libTable shadow).take 3 = shadow := by rw [inject_eq_spec _ _ libTable_distinct]; decide +kernel
example : (inject libTable shadow).length = 3 + 16 := by rw [inject_eq_spec _ _ libTable_distinct]; decide +kernel

/-- a host global `arrayLength = 5` makes the call `arrayLength(a)` a call of a non-function: null (the wrapper swallows
the TypeError), while the untouched `arrayNew` still works -/
example : obs (execute (xcfg host []) 50
      [.expr (some (nm "a")) (callE "arrayNew" [.number 1]), .expr (some (nm "n")) (callE "arrayLength" [va "a"]),
       .ret (some (va "arrayLength"))] none (start [(nm "arrayLength", .num 5)]))
    = ⟨"ret", some (.num 5), [], [(nm "arrayLength", .num 5), (nm "a", .arr 0), (nm "n", .null)]⟩ := by rw [start_eq]; decide +kernel

/-- a script function named like a library function replaces it (for every later call, from every scope) -/
def lenDef : FuncDef := { name := nm "arrayLength", args := [nm "a"], lastArgArray := false, body := [.ret (some (.number 42))] }
example : obs (execute (xcfg host [(0, lenDef)]) 50
      [.expr (some (nm "before")) (callE "arrayLength" [callE "arrayNew" [.number 1]]),
       .function 0 (nm "arrayLength") [nm "a"] false false lenDef.body,
       .expr (some (nm "after")) (callE "arrayLength" [callE "arrayNew" [.number 1]])] none (start []))
    = ⟨"done", none, [], [(nm "arrayLength", .fn (.script 0)), (nm "before", .num 1), (nm "after", .num 42)]⟩ := by rw [start_eq]; decide +kernel

/-! ### call-backs and partial applications bind parameters like direct calls -/

/-- `p(a, b...)` logs its parameters; called directly, through a variable, through `systemPartial`, and as the predicate
of `arrayIndexOf` (one argument per element; the first truthy result, at index 1, ends the search) -/
def pDef : FuncDef :=
  { name := nm "p", args := [nm "a", nm "b"], lastArgArray := true,
    body := [logE (va "a"), logE (va "b"), .ret (some (va "a"))] }
example : (obs (execute (xcfg host [(0, pDef)]) 200
      [.function 0 (nm "p") [nm "a", nm "b"] true false pDef.body,
       .expr none (callE "p" [.number 1, .number 2, .number 3]),
       .expr (some (nm "q")) (va "p"), .expr none (callE "q" []),
       .expr (some (nm "pp")) (callE "systemPartial" [va "p", .number 8, .number 9]), .expr none (callE "pp" [.number 10]),
       .expr (some (nm "ix")) (callE "arrayIndexOf" [callE "arrayNew" [.number 0, .number 7, .number 3], va "p"]),
       .ret (some (va "ix"))] none (start []))).log
    = ["1", "[2,3]", "null", "[]", "8", "[9,10]", "0", "[]", "7", "[]"] := by rw [start_eq]; decide +kernel

end Examples

end C04
