import BareProofs.C09Good
import BareProofs.C09Fuel
import BareProofs.C04Lemmas

/-!
# C09Term, lemma file — well-founded hosts: the invariant and the termination induction

`HostWF host` is the explicit hypothesis under which "no script can run forever" is a theorem of the model:

* a predicate `ok w v` ("value `v` is admissible in world `w`") that is monotone along a preorder `E` on worlds, a world
  invariant `okW`, and a rank `rank w f args : Nat` of every *call* of a host callable;
* every host operation preserves the invariant and returns admissible values (`TreeWF`, the `newArray`/`binop`/… laws);
* every call-back node `.call f' args' w' k` of the interaction tree of a call `f(args)` started in world `w` calls back
  a script function, a non-callable, or a host callable with `rank w' f' args' < rank w f args`.

One judgement, `Conv`, carries both parts: the runs at growing fuel have one outcome from some fuel on, it is admissible,
and (if `tot`) it is not "out of fuel".  The evaluator, the library trees and the statement step are walked once for it
(`evalExpr_conv`, `runTree_conv`, `stmt_conv`).  Part 1 (`presM`, `tot := False` on the constant family of one fuel): the
machine preserves the invariant, for every fuel.  Part 2 (`termM`, `tot := True`): with a positive statement limit every
run from an admissible state converges — outer induction on the remaining budget `maxStatements - count`, then on the
rank of a call, then on the structure of the interaction tree / the expression.  Both parts follow the machine in sequenced
form (`C09Seq`), on the cache-free machine (`execM₀`); `C09Term` transfers to `execM`/`execute`.
-/

open Machine
namespace C09
variable {W α β : Type}

/-- rank of a call as seen from a call-back node: host callables count `rank + 1`, everything else (script functions,
non-callables) `0` — so `callRank … ≤ r` says "script function, non-callable, or host callable of rank `< r + 1`" -/
def callRank (rank : W → FnVal → List Value → Nat) (w : W) (f : Value) (args : List Value) : Nat :=
  match f with
  | .fn (.lib n) => rank w (.lib n) args + 1
  | .fn (.other k) => rank w (.other k) args + 1
  | _ => 0

/-- the data of a well-foundedness argument for a host -/
structure WFData (W : Type) where
  /-- how worlds evolve (admissible values stay admissible along it) -/
  E : Ext W
  /-- `v` is admissible in world `w` -/
  ok : W → Value → Prop
  /-- world invariant -/
  okW : W → Prop
  /-- rank of the call `f(args)` of a host callable `f` in world `w` -/
  rank : W → FnVal → List Value → Nat

/-- an interaction tree started in (a world extending) `w0` keeps the invariant, hands out admissible values only, and
every call-back it issues has call rank `≤ r` -/
inductive TreeWF (D : WFData W) (r : Nat) : W → LibTree W → Prop where
  | ret {w0 w out} : D.E.le w0 w → D.okW w → (∀ v, out.val? = some v → D.ok w v) → TreeWF D r w0 (.ret out w)
  | call {w0 w f args k} : D.E.le w0 w → D.okW w → D.ok w f → (∀ a ∈ args, D.ok w a) →
      callRank D.rank w f args ≤ r →
      (∀ v w1, D.E.le w w1 → D.okW w1 → D.ok w1 v → TreeWF D r w1 (k v w1)) → TreeWF D r w0 (.call f args w k)
  | globalGet {w0 w n k} : D.E.le w0 w → D.okW w →
      (∀ (v : Option Value) w1, D.E.le w w1 → D.okW w1 → (∀ x, v = some x → D.ok w1 x) → TreeWF D r w1 (k v w1)) →
      TreeWF D r w0 (.globalGet n w k)
  | globalSet {w0 w n v k} : D.E.le w0 w → D.okW w → D.ok w v →
      (∀ w1, D.E.le w w1 → D.okW w1 → TreeWF D r w1 (k w1)) → TreeWF D r w0 (.globalSet n v w k)

/-- **HostWF.** The host's call-backs are well-founded on the admissible part of the state space. -/
structure HostWF (host : Host W) extends WFData W where
  ok_mono : ∀ {w w' v}, E.le w w' → ok w v → ok w' v
  ok_null : ∀ w, ok w .null
  ok_bool : ∀ w b, ok w (.bool b)
  ok_num : ∀ w q, ok w (.num q)
  ok_str : ∀ w s, ok w (.str s)
  ok_script : ∀ w id, ok w (.fn (.script id))
  ok_builtin : ∀ w n f, host.builtin n = some f → ok w (.fn f)
  binop_ok : ∀ op a b w, okW w → ok w a → ok w b → ok w (host.binop op a b w)
  neg_ok : ∀ v w, ok w v → ok w (host.neg v)
  notCallable_ok : ∀ v w, okW w → E.le w (host.notCallable v w) ∧ okW (host.notCallable v w)
  logFailure_ok : ∀ w, okW w → E.le w (host.logFailure w) ∧ okW (host.logFailure w)
  newArray_ok : ∀ xs w, okW w → (∀ x ∈ xs, ok w x) →
      E.le w (host.newArray xs w).2 ∧ okW (host.newArray xs w).2 ∧ ok (host.newArray xs w).2 (host.newArray xs w).1
  /-- the tree of an *admissible* library function called with admissible arguments -/
  lib_wf : ∀ name args w, okW w → ok w (.fn (.lib name)) → (∀ a ∈ args, ok w a) →
      TreeWF toWFData (rank w (.lib name) args) w (host.lib name args w)
  /-- the tree of an *admissible* other host callable called with admissible arguments -/
  other_wf : ∀ k args w, okW w → ok w (.fn (.other k)) → (∀ a ∈ args, ok w a) →
      TreeWF toWFData (rank w (.other k) args) w (host.other k args w)

theorem all_envSet {Q : Value → Prop} {e : Env} {n : Name} {v : Value} (he : ∀ p ∈ e, Q p.2) (hv : Q v) :
    ∀ p ∈ e.set n v, Q p.2 :=
  fun p hp => (C04.mem_set hp).elim (· ▸ hv) (he p)

section PresDefs
variable {host : Host W} (H : HostWF host)

/-- the state is admissible: world invariant, and every global holds an admissible value -/
def SOK (st : State W) : Prop := H.okW st.world ∧ ∀ p ∈ st.globals, H.ok st.world p.2

def LOK (w : W) (locals : Option Env) : Prop := ∀ l, locals = some l → ∀ p ∈ l, H.ok w p.2

/-- `st'` is a later admissible state: counter not decreased, world extended -/
def Adv (st st' : State W) : Prop := st.count ≤ st'.count ∧ H.E.le st.world st'.world ∧ SOK H st'

theorem Adv.refl {st : State W} (h : SOK H st) : Adv H st st := ⟨Nat.le_refl _, H.E.refl _, h⟩
theorem Adv.trans {a b c : State W} (h1 : Adv H a b) (h2 : Adv H b c) : Adv H a c :=
  ⟨Nat.le_trans h1.1 h2.1, H.E.trans h1.2.1 h2.2.1, h2.2.2⟩

theorem LOK.mono {w w' : W} {locals : Option Env} (h : LOK H w locals) (hle : H.E.le w w') : LOK H w' locals :=
  fun l hl p hp => H.ok_mono hle (h l hl p hp)

def OutOK (st : State W) : Out W → Prop
  | .ok v st' => Adv H st st' ∧ H.ok st'.world v
  | _ => True

/-- a result comes with a later admissible state, and `P` holds of it in that state's world -/
def Adm (st : State W) (P : W → α → Prop) : Oc α W → Prop
  | .ok a st' => Adv H st st' ∧ P st'.world a
  | _ => True

def okAll (w : W) (vs : List Value) : Prop := ∀ v ∈ vs, H.ok w v

def okRet (w : W) (o : Option Value) : Prop := ∀ v, o = some v → H.ok w v

theorem OutOK.oc {st : State W} {o : Out W} : OutOK H st o ↔ Adm H st H.ok o.oc := by cases o <;> exact Iff.rfl

theorem Adm.trans {P : W → α → Prop} {a b : State W} {o : Oc α W} (h1 : Adv H a b) (h2 : Adm H b P o) : Adm H a P o := by
  cases o with
  | ok x s => exact ⟨h1.trans H h2.1, h2.2⟩
  | err e s => trivial
  | oof => trivial

def CallPres (call : CallFn W) : Prop :=
  ∀ f args st, SOK H st → H.ok st.world f → (∀ a ∈ args, H.ok st.world a) → OutOK H st (call f args st)

theorem SOK.setWorld {st : State W} (hs : SOK H st) {w : W} (hle : H.E.le st.world w) (hw : H.okW w) :
    SOK H { st with world := w } := ⟨hw, fun p hp => H.ok_mono hle (hs.2 p hp)⟩

theorem SOK.adv {st : State W} (hs : SOK H st) {w : W} (hle : H.E.le st.world w) (hw : H.okW w) :
    Adv H st { st with world := w } := ⟨Nat.le_refl _, hle, hs.setWorld H hle hw⟩

theorem SOK.setGlobal {st : State W} (hs : SOK H st) {n : Name} {v : Value} (hv : H.ok st.world v) :
    SOK H { st with globals := st.globals.set n v } := ⟨hs.1, all_envSet hs.2 hv⟩

theorem SOK.get? {st : State W} (hs : SOK H st) {n : Name} {v : Value} (h : st.globals.get? n = some v) :
    H.ok st.world v :=
  hs.2 _ (C04.mem_of_get? h)

/-- The runs `F n` (`n`: the fuel) started in `st` have one outcome from some fuel on, and it is admissible; if `tot`, it is
not "out of fuel".  On a constant family with `tot := False` this is `Adm`; with `tot := True` it is termination. -/
def Conv (tot : Prop) (st : State W) (P : W → α → Prop) (F : Nat → Oc α W) : Prop :=
  ∃ o, (∃ n0, ∀ n, n0 ≤ n → F n = o) ∧ Adm H st P o ∧ (tot → o ≠ .oof)

section Conv
variable {tot : Prop} {st : State W} {P : W → α → Prop} {F : Nat → Oc α W}

theorem Conv.const {o : Oc α W} (h : Adm H st P o) (hne : tot → o ≠ .oof) : Conv H tot st P fun _ => o :=
  ⟨o, ⟨0, fun _ _ => rfl⟩, h, hne⟩

theorem Conv.ok {s1 : State W} {x : α} (ha : Adv H st s1) (hx : P s1.world x) : Conv H tot st P fun _ => .ok x s1 :=
  .const H ⟨ha, hx⟩ fun _ => nofun

theorem Conv.pure (hs : SOK H st) {x : α} (hx : P st.world x) : Conv H tot st P fun _ => .ok x st :=
  .ok H (.refl H hs) hx

theorem Conv.err {e : RtErr} {s1 : State W} : Conv H tot st P fun _ => .err e s1 := .const H trivial fun _ => nofun

theorem Conv.adm {o : Oc α W} (h : Conv H tot st P F) (hF : ∀ n, F n = o) : Adm H st P o := by
  obtain ⟨o', ⟨n0, h0⟩, ha, _⟩ := h
  rw [← hF n0, h0 n0 (Nat.le_refl _)]; exact ha

theorem Conv.ev (h : Conv H True st P F) : ∃ n0, ∀ n, n0 ≤ n → F n ≠ .oof :=
  let ⟨_, ⟨n0, h0⟩, _, hne⟩ := h; ⟨n0, fun n hn => h0 n hn ▸ hne trivial⟩

theorem Conv.from {s1 : State W} (ha : Adv H st s1) (h : Conv H tot s1 P F) : Conv H tot st P F :=
  let ⟨o, hl, h2, hne⟩ := h; ⟨o, hl, Adm.trans H ha h2, hne⟩

theorem Conv.shift (h : Conv H tot st P fun n => F (n + 1)) : Conv H tot st P F := by
  obtain ⟨o, ⟨n0, h0⟩, ha, hne⟩ := h
  refine ⟨o, ⟨n0 + 1, fun n hn => ?_⟩, ha, hne⟩
  cases n with
  | zero => exact absurd hn (Nat.not_succ_le_zero n0)
  | succ m => exact h0 m (Nat.le_of_succ_le_succ hn)

theorem Conv.ite (c : Bool) {G : Nat → Oc α W} (hF : Conv H tot st P F) (hG : Conv H tot st P G) :
    Conv H tot st P fun n => if c then F n else G n := by
  cases c
  · exact hG
  · exact hF

theorem Conv.bind {Q : W → β → Prop} {K : Nat → α → State W → Oc β W} {G : Nat → Oc β W} (h : Conv H tot st P F)
    (hG : ∀ n, G n = (F n).bind (K n))
    (hK : ∀ x s1, Adv H st s1 → P s1.world x → Conv H tot s1 Q fun n => K n x s1) : Conv H tot st Q G := by
  obtain ⟨o, ⟨n1, h1⟩, ha, hne⟩ := h
  cases o with
  | ok x s1 =>
    obtain ⟨o2, ⟨n2, h2⟩, ha2, hne2⟩ := hK x s1 ha.1 ha.2
    -- both stages have their outcome from `max n1 n2` on: no fuel is lost between them
    refine ⟨o2, ⟨max n1 n2, fun n hn => ?_⟩, Adm.trans H ha.1 ha2, hne2⟩
    rw [hG, h1 n (Nat.le_trans (Nat.le_max_left ..) hn)]
    exact h2 n (Nat.le_trans (Nat.le_max_right ..) hn)
  | err e s1 => exact ⟨.err e s1, ⟨n1, fun n hn => by rw [hG, h1 n hn]; rfl⟩, trivial, fun _ => nofun⟩
  | oof => exact ⟨.oof, ⟨n1, fun n hn => by rw [hG, h1 n hn]; rfl⟩, trivial, fun t => absurd rfl (hne t)⟩

end Conv

end PresDefs

section Pres
variable {cfg : Config W} (H : HostWF cfg.host)

/-- admissible state with remaining budget at most `b` -/
def Sb (b : Nat) (st : State W) : Prop := cfg.maxStatements - st.count ≤ b ∧ SOK H st

theorem Sb.adv {b : Nat} {st st' : State W} (h : Sb H b st) (ha : Adv H st st') : Sb H b st' :=
  ⟨by have := ha.1; have := h.1; omega, ha.2.2⟩

theorem SOK.sb {st : State W} (hs : SOK H st) : Sb H cfg.maxStatements st := ⟨Nat.sub_le _ _, hs⟩

/-- calls of admissible values with admissible arguments, from admissible states with budget at most `b`, converge -/
def CallC (tot : Prop) (b : Nat) (call : Nat → CallFn W) : Prop :=
  ∀ st, Sb H b st → ∀ f args, H.ok st.world f → (∀ a ∈ args, H.ok st.world a) →
    Conv H tot st H.ok fun n => (call n f args st).oc

theorem CallPres.conv {call : CallFn W} (hc : CallPres H call) : CallC H False cfg.maxStatements fun _ => call :=
  fun st hs f args hf ha => .const H ((OutOK.oc H).1 (hc f args st hs.2 hf ha)) nofun

theorem lookupVar_ok {locals : Option Env} {st : State W} (hs : SOK H st) (hl : LOK H st.world locals) (n : Name) :
    H.ok st.world (lookupVar locals st.globals n) := by
  have hg : H.ok st.world ((Env.get? st.globals n).getD .null) := by
    cases h : Env.get? st.globals n with
    | none => exact H.ok_null _
    | some v => exact hs.get? H h
  unfold lookupVar
  cases locals with
  | none => exact hg
  | some l =>
    simp only
    split
    · cases h : Env.get? l n with
      | none => exact H.ok_null _
      | some v => exact hl l rfl _ (C04.mem_of_get? h)
    · exact hg

theorem varValue_ok {locals : Option Env} {st : State W} (hs : SOK H st) (hl : LOK H st.world locals) (n : Name) :
    H.ok st.world (varValue locals st.globals n) := by
  unfold varValue
  split
  · exact H.ok_null _
  · split
    · exact H.ok_bool _ _
    · split
      · exact H.ok_bool _ _
      · exact lookupVar_ok H hs hl n

theorem lookupFunc_ok {locals : Option Env} {st : State W} (hs : SOK H st) (hl : LOK H st.world locals) (n : Name)
    (fv : Value) (h : lookupFunc cfg locals st.globals n = some fv) : H.ok st.world fv := by
  have hg : ∀ fv, (if Env.contains st.globals n then Env.get? st.globals n
      else if cfg.builtins then (cfg.host.builtin n).map Value.fn else none) = some fv → H.ok st.world fv := by
    intro fv h
    split at h
    · exact hs.get? H h
    · split at h
      · cases hb : cfg.host.builtin n with
        | none => rw [hb] at h; cases h
        | some f =>
          rw [hb] at h
          simp only [Option.map_some, Option.some.injEq] at h
          rw [← h]; exact H.ok_builtin _ n f hb
      · cases h
  unfold lookupFunc at h
  cases locals with
  | none => exact hg fv h
  | some l =>
    simp only at h
    split at h
    · exact hl l rfl _ (C04.mem_of_get? h)
    · exact hg fv h

section Walk
variable {tot : Prop} {b : Nat} {call : Nat → CallFn W}

section Eval
set_option linter.unusedSectionVars false  -- it does not see that a mutual call uses `hc`
variable (hc : CallC H tot b call) (locals : Option Env)
include hc

mutual
theorem evalExpr_conv : ∀ (e : Expr) (st : State W), Sb H b st → LOK H st.world locals →
    Conv H tot st H.ok fun n => (evalExpr cfg (call n) locals e st).oc
  | .number q, st, hs, _ => by simp only [evalExpr]; exact .pure H hs.2 (H.ok_num _ _)
  | .string s, st, hs, _ => by simp only [evalExpr]; exact .pure H hs.2 (H.ok_str _ _)
  | .variable n, st, hs, hl => by simp only [evalExpr_variable]; exact .pure H hs.2 (varValue_ok H hs.2 hl n)
  | .function name args, st, hs, hl => by
      by_cases hn : name = kwIf
      · simp only [evalExpr_function, if_pos hn]; exact evalIf_conv args st hs hl
      · refine (evalArgs_conv args st hs hl).bind H (fun n => by rw [evalExpr_function, if_neg hn]) fun vs s1 ha hvs => ?_
        rcases callNamed_cases cfg locals name vs s1 with ⟨fv, hfv, hcn⟩ | hcn <;> simp only [hcn]
        · exact hc s1 (hs.adv H ha) fv vs (lookupFunc_ok H ha.2.2 (hl.mono H ha.2.1) name fv hfv) hvs
        · exact .err H
  | .binary op l r, st, hs, hl => by
      refine (evalExpr_conv l st hs hl).bind H (fun n => evalExpr_binary ..) fun lv s1 ha hlv => ?_
      have ihr := evalExpr_conv r s1 (hs.adv H ha) (hl.mono H ha.2.1)
      by_cases h1 : op = .and
      · subst h1; simp only [binRest_and]; exact .ite H _ ihr (.pure H ha.2.2 hlv)
      by_cases h2 : op = .or
      · subst h2; simp only [binRest_or]; exact .ite H _ (.pure H ha.2.2 hlv) ihr
      simp only [binRest_strict _ _ _ h1 h2]
      exact ihr.bind H (fun _ => rfl) fun rv s2 ha2 hrv =>
        .pure H ha2.2.2 (H.binop_ok _ _ _ _ ha2.2.2.1 (H.ok_mono ha2.2.1 hlv) hrv)
  | .unary op e, st, hs, hl => by
      refine (evalExpr_conv e st hs hl).bind H (fun n => evalExpr_unary ..) fun v s1 ha hv => .pure H ha.2.2 ?_
      unfold unValue
      split
      · exact H.ok_bool _ _
      · exact H.neg_ok _ _ hv
  | .group e, st, hs, hl => by simp only [evalExpr]; exact evalExpr_conv e st hs hl

theorem evalArgs_conv : ∀ (es : List Expr) (st : State W), Sb H b st → LOK H st.world locals →
    Conv H tot st (okAll H) fun n => (evalArgs cfg (call n) locals es st).oc
  | [], st, hs, _ => by simp only [evalArgs]; exact .pure H hs.2 nofun
  | a :: as, st, hs, hl => by
      refine (evalExpr_conv a st hs hl).bind H (fun n => evalArgs_cons ..) fun v s1 ha hv => ?_
      refine (evalArgs_conv as s1 (hs.adv H ha) (hl.mono H ha.2.1)).bind H (fun _ => rfl) fun vs s2 ha2 hvs =>
        .pure H ha2.2.2 fun x hx => ?_
      rcases List.mem_cons.1 hx with rfl | hx
      · exact H.ok_mono ha2.2.1 hv
      · exact hvs x hx

theorem evalIf_conv : ∀ (es : List Expr) (st : State W), Sb H b st → LOK H st.world locals →
    Conv H tot st H.ok fun n => (evalIf cfg (call n) locals es st).oc
  | [], st, hs, _ => by simp only [evalIf]; exact .pure H hs.2 (H.ok_null _)
  | [c], st, hs, hl =>
      (evalExpr_conv c st hs hl).bind H (fun n => evalIf_one ..) fun _ s1 ha _ => .pure H ha.2.2 (H.ok_null _)
  | [c, t], st, hs, hl => by
      refine (evalExpr_conv c st hs hl).bind H (fun n => evalIf_two ..) fun v s1 ha _ => ?_
      simp only [condRest]
      exact .ite H _ (evalExpr_conv t s1 (hs.adv H ha) (hl.mono H ha.2.1)) (.pure H ha.2.2 (H.ok_null _))
  | c :: t :: f :: _, st, hs, hl => by
      refine (evalExpr_conv c st hs hl).bind H (fun n => evalIf_three ..) fun v s1 ha _ => ?_
      simp only [condRest]
      exact .ite H _ (evalExpr_conv t s1 (hs.adv H ha) (hl.mono H ha.2.1))
        (evalExpr_conv f s1 (hs.adv H ha) (hl.mono H ha.2.1))
end
end Eval

/-- an interaction tree all of whose call-backs (call rank `≤ r`) converge: induction on the tree, following the one path
the run takes -/
theorem runTree_conv {r : Nat}
    (hcb : ∀ st f args, Sb H b st → H.ok st.world f → (∀ a ∈ args, H.ok st.world a) →
      callRank H.rank st.world f args ≤ r → Conv H tot st H.ok fun n => (call n f args st).oc) :
    ∀ (t : LibTree W) (st : State W), Sb H b st → TreeWF H.toWFData r st.world t →
      Conv H tot st H.ok fun n => (runTree cfg (call n) t st).oc
  | .ret (.ok v) w, st, hs, .ret hle hw hv => by simp only [runTree]; exact .ok H (hs.2.adv H hle hw) (hv v rfl)
  | .ret (.fail v) w, st, hs, .ret hle hw hv => by
      simp only [runTree]
      split
      · have hlf := H.logFailure_ok w hw
        exact .ok H (hs.2.adv H (H.E.trans hle hlf.1) hlf.2) (H.ok_mono hlf.1 (hv v rfl))
      · exact .ok H (hs.2.adv H hle hw) (hv v rfl)
  | .ret (.rt msg) w, st, hs, h => by simp only [runTree]; exact .err H
  | .call f args w k, st, hs, .call hle hw hf ha hr hk => by
      have h0 := hs.2.adv H hle hw
      refine .from H h0 ((hcb _ f args (hs.adv H h0) hf ha hr).bind H (fun n => runTree_call ..) fun v s1 ha1 hv => ?_)
      exact runTree_conv hcb (k v s1.world) s1 ((hs.adv H h0).adv H ha1) (hk v s1.world ha1.2.1 ha1.2.2.1 hv)
  | .globalGet n w k, st, hs, .globalGet hle hw hk => by
      have h0 := hs.2.adv H hle hw
      simp only [runTree]
      exact .from H h0 (runTree_conv hcb (k (Env.get? st.globals n) w) { st with world := w } (hs.adv H h0)
        (hk _ w (H.E.refl w) hw fun x hx => h0.2.2.get? H hx))
  | .globalSet n v w k, st, hs, .globalSet hle hw hv hk => by
      have hs' : SOK H { st with globals := st.globals.set n v, world := w } := (hs.2.setWorld H hle hw).setGlobal H hv
      have h0 : Adv H st { st with globals := st.globals.set n v, world := w } := ⟨Nat.le_refl _, hle, hs'⟩
      simp only [runTree]
      exact .from H h0 (runTree_conv hcb (k w) _ (hs.adv H h0) (hk w (H.E.refl w) hw))

end Walk

section Eval
variable (call : CallFn W) (hc : CallPres H call) (locals : Option Env)
include hc

theorem evalIf_pres : ∀ (es : List Expr) (st : State W), SOK H st → LOK H st.world locals →
    OutOK H st (evalIf cfg call locals es st) :=
  fun es st hs hl => (OutOK.oc H).2 ((evalIf_conv H (CallPres.conv H hc) locals es st (hs.sb H) hl).adm H fun _ => rfl)
end Eval

theorem head_ok {w : W} {as : List Value} (ha : ∀ a ∈ as, H.ok w a) : H.ok w (as.head?.getD .null) := by
  cases as with
  | nil => exact H.ok_null _
  | cons a _ => exact ha a List.mem_cons_self

theorem bindArgs_pres (laa : Bool) : ∀ (ps : List Name) (as : List Value) (env : Env) (w : W),
    H.okW w → (∀ a ∈ as, H.ok w a) → (∀ p ∈ env, H.ok w p.2) →
    H.E.le w (bindArgs cfg.host laa ps as env w).2 ∧ H.okW (bindArgs cfg.host laa ps as env w).2 ∧
      ∀ p ∈ (bindArgs cfg.host laa ps as env w).1, H.ok (bindArgs cfg.host laa ps as env w).2 p.2
  | [], _, env, w, hw, _, he => by simp only [bindArgs]; exact ⟨H.E.refl _, hw, he⟩
  | [p], as, env, w, hw, ha, he => by
      simp only [bindArgs]
      split
      · have hn := H.newArray_ok as w hw ha
        exact ⟨hn.1, hn.2.1, all_envSet (fun q hq => H.ok_mono hn.1 (he q hq)) hn.2.2⟩
      · exact ⟨H.E.refl _, hw, all_envSet he (head_ok H ha)⟩
  | p :: q :: ps, as, env, w, hw, ha, he => by
      simp only [bindArgs]
      exact bindArgs_pres laa (q :: ps) as.tail _ w hw (fun a h => ha a (List.mem_of_mem_tail h))
        (all_envSet he (head_ok H ha))

theorem enterFn_ok (fd : FuncDef) {args : List Value} {st : State W} (hs : SOK H st) (ha : okAll H st.world args) :
    Adv H st (enterFn cfg fd args st).2 ∧ LOK H (enterFn cfg fd args st).2.world (some (enterFn cfg fd args st).1) := by
  have hb := bindArgs_pres H fd.lastArgArray fd.args args [] st.world hs.1 ha fun _ h => nomatch h
  exact ⟨hs.adv H hb.1 hb.2.1, fun l hl p hp => by cases hl; exact hb.2.2 p hp⟩

theorem assign_ok (name : Option Name) {locals : Option Env} {v : Value} {st : State W} (hs : SOK H st)
    (hl : LOK H st.world locals) (hv : H.ok st.world v) :
    Adv H st (assign name locals v st).2 ∧ LOK H (assign name locals v st).2.world (assign name locals v st).1 := by
  unfold assign
  split
  · exact ⟨Adv.refl H hs, hl⟩
  · next n l => exact ⟨Adv.refl H hs, fun l' hl' => Option.some.inj hl' ▸ all_envSet (hl l rfl) hv⟩
  · exact ⟨⟨Nat.le_refl _, H.E.refl _, hs.setGlobal H hv⟩, hl⟩

/-- what a statement hands on is admissible: the locals to go on with, or the value returned -/
def okGo (locals : Option Env) (w : W) : Go → Prop
  | .next l => LOK H w l
  | .goto _ => LOK H w locals
  | .halt o => okRet H w o

theorem stepStmt_conv {tot : Prop} {b : Nat} {call : Nat → CallFn W} (hc : CallC H tot b call)
    {incl : Nat → List IncludeScript → State W → Res W}
    (hi : ∀ incs st, Sb H b st → Conv H tot st (okRet H) fun n => (incl n incs st).oc) {locals : Option Env} (s : Stmt)
    {st1 : State W} (hs : Sb H b st1) (hl : LOK H st1.world locals) :
    Conv H tot st1 (okGo H locals) fun n => (stepStmt cfg (call n) (incl n) locals s st1).oc := by
  have hev := fun e => evalExpr_conv H hc locals e st1 hs hl
  cases s with
  | expr name e =>
    refine (hev e).bind H (fun n => stepStmt_expr ..) fun v st2 ha hv => ?_
    have h := assign_ok H name ha.2.2 (hl.mono H ha.2.1) hv
    exact .ok H h.1 h.2
  | jump l c =>
    cases c with
    | none => exact .pure H hs.2 hl
    | some c =>
      refine (hev c).bind H (fun n => stepStmt_jumpIf ..) fun v st2 ha _ => .pure H ha.2.2 ?_
      split <;> exact hl.mono H ha.2.1
  | ret e =>
    cases e with
    | none => exact .pure H hs.2 fun v h => Option.some.inj h ▸ H.ok_null _
    | some e =>
      exact (hev e).bind H (fun n => stepStmt_ret ..) fun v st2 ha hv =>
        .pure H ha.2.2 fun v' h => Option.some.inj h ▸ hv
  | label l => exact .pure H hs.2 hl
  | function fid name args laa isAsync body =>
    exact .ok H ⟨Nat.le_refl _, H.E.refl _, hs.2.setGlobal H (H.ok_script st1.world fid)⟩ hl
  | «include» incs =>
    refine (hi incs st1 hs).bind H (fun n => stepStmt_include ..) fun o st2 ha ho => .pure H ha.2.2 ?_
    cases o with
    | none => exact hl.mono H ha.2.1
    | some v => exact ho

theorem stmt_conv {tot : Prop} {b : Nat} {call : Nat → CallFn W} (hc : CallC H tot b call)
    {incl : Nat → List IncludeScript → State W → Res W}
    (hi : ∀ incs st, Sb H b st → Conv H tot st (okRet H) fun n => (incl n incs st).oc)
    {exec : Nat → Option Env → Nat → State W → Res W}
    (hE : ∀ locals pc st, Sb H b st → LOK H st.world locals → Conv H tot st (okRet H) fun n => (exec n locals pc st).oc)
    (P : List Stmt) {locals : Option Env} (pc : Nat) (s : Stmt) {st1 : State W} (hs : Sb H b st1)
    (hl : LOK H st1.world locals) :
    Conv H tot st1 (okRet H) fun n =>
      (stepStmt cfg (call n) (incl n) locals s st1).oc.bind (Go.run P (exec n) locals pc) := by
  refine (stepStmt_conv H hc hi s hs hl).bind H (fun _ => rfl) fun g st2 ha hg => ?_
  have hs2 := hs.adv H ha
  cases g with
  | next l => exact hE _ _ _ hs2 hg
  | goto lab =>
    simp only [Go.run]
    cases findLabel P lab with
    | some i => exact hE _ _ _ hs2 hg
    | none => exact .err H
  | halt o => exact .pure H hs2.2 hg

/-! ### the clauses of the machine, one unit of fuel above their parts

`φ n` is the fuel the parts get at index `n`: constant for the machine at one fuel (`presM`), `n` itself for the runs at
growing fuel (`termM`). -/

def ExecC (tot : Prop) (b : Nat) (φ : Nat → Nat) : Prop :=
  ∀ st, Sb H b st → ∀ P locals base pc, LOK H st.world locals →
    Conv H tot st (okRet H) fun n => (execM₀ cfg (φ n) P locals base pc st).oc

/-- calls, statement lists and include lists converge from admissible states with budget at most `b` (the budget
`maxStatements` restricts nothing) -/
def MachC (tot : Prop) (b : Nat) (φ : Nat → Nat) : Prop :=
  CallC H tot b (fun n => callValue₀ cfg (φ n)) ∧ ExecC H tot b φ ∧
  ∀ st, Sb H b st → ∀ base incs, Conv H tot st (okRet H) fun n => (execIncludes₀ cfg (φ n) base incs st).oc

section Level
variable {tot : Prop} {b : Nat} (φ : Nat → Nat)

theorem call_conv (hE : ExecC H tot b φ)
    {st : State W} {f : Value} {args : List Value}
    (hcb : ∀ st' f' args', Sb H b st' → H.ok st'.world f' → (∀ a ∈ args', H.ok st'.world a) →
      callRank H.rank st'.world f' args' < callRank H.rank st.world f args →
      Conv H tot st' H.ok fun n => (callValue₀ cfg (φ n) f' args' st').oc)
    (hs : Sb H b st) (hf : H.ok st.world f) (ha : ∀ a ∈ args, H.ok st.world a) :
    Conv H tot st H.ok fun n => (callValue₀ cfg (φ n + 1) f args st).oc := by
  cases callee cfg f with
  | script id fd hf' hfd =>
    subst hf'
    have h := enterFn_ok H fd hs.2 ha
    exact .from H h.1 ((hE _ (hs.adv H h.1) fd.body _ none 0 h.2).bind H
      (fun n => by rw [callValue₀_script cfg (φ n) hfd, resOut_oc]) fun o st' ha' ho =>
        .pure H ha'.2.2 (by cases o with | none => exact H.ok_null _ | some v => exact ho v rfl))
  | lib name hf' =>
    subst hf'; simp only [callValue₀_lib]
    exact runTree_conv H (fun st' f' a' hs' hf' ha' hr => hcb st' f' a' hs' hf' ha' (Nat.lt_succ_of_le hr)) _ st hs
      (H.lib_wf name args st.world hs.2.1 hf ha)
  | other k hf' =>
    subst hf'; simp only [callValue₀_other]
    exact runTree_conv H (fun st' f' a' hs' hf' ha' hr => hcb st' f' a' hs' hf' ha' (Nat.lt_succ_of_le hr)) _ st hs
      (H.other_wf k args st.world hs.2.1 hf ha)
  | none h hl ho =>
    simp only [callValue₀_notCallable cfg _ h hl ho]
    have hn := H.notCallable_ok f st.world hs.2.1
    exact .ok H (hs.2.adv H hn.1 hn.2) (H.ok_null _)

theorem exec_conv {b' : Nat} {st : State W}
    (h : overBudget cfg st = false → MachC H tot b' φ ∧ cfg.maxStatements - (st.count + 1) ≤ b') (hs : SOK H st)
    (P : List Stmt) (locals : Option Env) (base : Option String) (pc : Nat) (hl : LOK H st.world locals) :
    Conv H tot st (okRet H) fun n => (execM₀ cfg (φ n + 1) P locals base pc st).oc := by
  cases hP : P[pc]? with
  | none => simp only [execM₀_end hP]; exact .pure H hs nofun
  | some s =>
    simp only [execM₀_tick hP, tickOc]
    cases hex : overBudget cfg st with
    | true => exact .err H
    | false =>
      obtain ⟨⟨hC, hE, hI⟩, hb⟩ := h hex
      exact .from H (s1 := { st with count := st.count + 1 }) ⟨Nat.le_succ _, H.E.refl _, hs⟩
        (stmt_conv H hC (fun incs st hs => hI st hs base incs) (fun l pc st hs hl => hE st hs P l base pc hl) P pc s
          ⟨hb, hs⟩ hl)

theorem incl_conv (hE : ExecC H tot b φ)
    {base : Option String} {i : IncludeScript} {rest : List IncludeScript}
    (hI : ∀ st, Sb H b st → Conv H tot st (okRet H) fun n => (execIncludes₀ cfg (φ n) base rest st).oc)
    {st : State W} (hs : Sb H b st) :
    Conv H tot st (okRet H) fun n => (execIncludes₀ cfg (φ n + 1) base (i :: rest) st).oc := by
  simp only [execIncludes₀_cons]
  cases cfg.fetch (cfg.resolve base i) with
  | missing => exact .err H
  | broken => exact .err H
  | script ss =>
    exact (hE st hs ss none _ 0 fun _ h => by cases h).bind H (fun _ => rfl) fun _ s1 ha _ => hI s1 (hs.adv H ha)

end Level

/-- **presM.** At every fuel the machine keeps the invariant: the outcome of a call, a statement list, an include list
from an admissible state is admissible. -/
theorem presM : ∀ fuel, MachC H False cfg.maxStatements fun _ => fuel
  | 0 => by
    refine ⟨fun st _ f a _ _ => ?_, fun st hs P locals base pc _ => ?_, fun st hs base incs => ?_⟩
    · simp only [callValue₀.eq_1]; exact .const H trivial nofun
    · cases hP : P[pc]? with
      | none => simp only [execM₀_end hP]; exact .pure H hs.2 nofun
      | some s => simp only [execM₀_zero hP]; exact .const H trivial nofun
    · cases incs with
      | nil => simp only [execIncludes₀.eq_1]; exact .pure H hs.2 nofun
      | cons i r =>
        simp only [execIncludes₀_cons]
        cases cfg.fetch (cfg.resolve base i) <;> exact .const H trivial nofun
  | fuel+1 => by
    have ih := presM fuel
    refine ⟨fun st hs f a hf ha => ?_, fun st hs P locals base pc hl => ?_, fun st hs base incs => ?_⟩
    · exact call_conv H _ ih.2.1 (fun st' f' a' hs' hf' ha' _ => ih.1 st' hs' f' a' hf' ha') hs hf ha
    · exact exec_conv H _ (fun _ => ⟨ih, Nat.sub_le _ _⟩) hs.2 P locals base pc hl
    · cases incs with
      | nil => simp only [execIncludes₀.eq_1]; exact .pure H hs.2 nofun
      | cons i r => exact incl_conv H _ ih.2.1 (fun st hs => ih.2.2 st hs base r) hs

end Pres

theorem Out.oc_ne {o : Out W} : o.oc ≠ .oof ↔ o ≠ .oof := ⟨fun h e => h (e ▸ rfl), fun h e => h (Out.oc_inj e)⟩
theorem ArgsOut.oc_ne {o : ArgsOut W} : o.oc ≠ .oof ↔ o ≠ .oof := ⟨fun h e => h (e ▸ rfl), fun h e => h (ArgsOut.oc_inj e)⟩
theorem Res.oc_ne {o : Res W} : o.oc ≠ .oof ↔ o ≠ .oof := ⟨fun h e => h (e ▸ rfl), fun h e => h (Res.oc_inj e)⟩

section Up
variable (cfg : Config W)

theorem evalIf_up {f f' : Nat} (h : f ≤ f') {locals : Option Env} {es : List Expr} {s : State W}
    (hne : evalIf cfg (callValue₀ cfg f) locals es s ≠ .oof) :
    evalIf cfg (callValue₀ cfg f') locals es s = evalIf cfg (callValue₀ cfg f) locals es s :=
  (Out.le_oc.1 (evalIf_le cfg _ _ (fuelMono cfg f f' h).1 locals es s)).resolve_left hne
end Up

section Term
variable {cfg : Config W} (H : HostWF cfg.host)

def CallT (b : Nat) : Prop := ∀ st, Sb H b st → ∀ f args, H.ok st.world f → (∀ a ∈ args, H.ok st.world a) →
  ∃ fuel, callValue₀ cfg fuel f args st ≠ .oof

theorem CallT.conv {b : Nat} (hc : CallT H b) : CallC H True b (callValue₀ cfg) := by
  intro st hs f args hf ha
  obtain ⟨n0, hne⟩ := hc st hs f args hf ha
  exact ⟨_, ⟨n0, fun n hn => congrArg Out.oc (((fuelMono cfg n0 n hn).1 f args st).resolve_left hne)⟩,
    ((presM H n0).1 st (hs.2.sb H) f args hf ha).adm H fun _ => rfl, fun _ => Out.oc_ne.2 hne⟩

section EvalTerm
variable (b : Nat) (hc : CallT H b) (locals : Option Env)
include hc

theorem evalArgs_term : ∀ (es : List Expr) (st : State W), Sb H b st → LOK H st.world locals →
    ∃ fuel, evalArgs cfg (callValue₀ cfg fuel) locals es st ≠ .oof :=
  fun es st hs hl => ((evalArgs_conv H (CallT.conv H hc) locals es st hs hl).ev H).imp fun n h =>
    ArgsOut.oc_ne.1 (h n (Nat.le_refl n))

theorem evalIf_term : ∀ (es : List Expr) (st : State W), Sb H b st → LOK H st.world locals →
    ∃ fuel, evalIf cfg (callValue₀ cfg fuel) locals es st ≠ .oof :=
  fun es st hs hl => ((evalIf_conv H (CallT.conv H hc) locals es st hs hl).ev H).imp fun n h =>
    Out.oc_ne.1 (h n (Nat.le_refl n))
end EvalTerm

/-- **termM.** Under a positive statement limit, from every admissible state: calls of any admissible value, statement
lists (from any index, with any locals) and include statements all converge to an outcome that is not "out of fuel".
Induction on the budget `b`: a statement that starts is statement `L+1` (budget error) or leaves a strictly smaller budget;
then include lists by induction on the list and calls by induction on the call rank. -/
theorem termM (hL : 0 < cfg.maxStatements) : ∀ b, MachC H True b fun n => n := by
  intro b
  induction b using Nat.strongRecOn with
  | _ b ih =>
    have hX : ExecC H True b fun n => n := by
      intro st hs P locals base pc hl
      refine .shift H (exec_conv H (fun n => n) (b' := b - 1) (fun hex => ?_) hs.2 P locals base pc hl)
      have hex' : ¬ overBudget cfg st = true := by rw [hex]; exact Bool.false_ne_true
      simp only [overBudget, Bool.and_eq_true, decide_eq_true_eq, not_and, Nat.not_lt] at hex'
      have := hex' hL; have := hs.1
      exact ⟨ih _ (by omega), by omega⟩
    refine ⟨fun st hs f args hf ha => ?_, hX, fun st hs base incs => ?_⟩
    · generalize hn : callRank H.rank st.world f args = n
      induction n using Nat.strongRecOn generalizing st f args with
      | _ n ihn =>
        subst hn
        exact .shift H (call_conv H (fun n => n) hX
          (fun st' f' a' hs' hf' ha' hlt => ihn _ hlt st' hs' f' a' hf' ha' rfl) hs hf ha)
    · induction incs generalizing st with
      | nil => simp only [execIncludes₀.eq_1]; exact .pure H hs.2 nofun
      | cons i rest ihr => exact .shift H (incl_conv H (fun n => n) hX (fun st hs => ihr st hs) hs)

end Term

end C09
