import BareProofs.C17Lemmas
import BareProofs.TextRun
import BareModel.Include
import BareModel.Gen.Regex

/-!
# C17 — includes resolve relative to the including file and run in global scope

Resolution (`url_file_relative`, all strings):

* `url_regex_source`            the pattern the hand-written URL test mirrors is the one in options.py (generated table)
* `resolve_matches_spec`, `resolve_spec_partial`   Python-shaped resolver = property-shaped resolver, on every pair of
  strings (`_partial`: `pathlib`/`posixpath` are modelled for CPython 3.12 on POSIX only)
* `resolve_url`, `resolve_abs`, `resolve_abs_clean`, `resolve_rel_url_base`, `resolve_rel_path_base`,
  `resolve_rel_path_base_clean`  the readings of the property, case by case
* `resolve_system`              system includes use the configured prefix, plain includes never do

Include machine (every file map, every tree: unbounded depth and fan-out, cycles included; induction on gas and lists):

* `run_spec`                    the event sequence (fetch requests and executed statements, interleaved) of a run that did
  not exhaust a budget is the depth-first program-order sequence of the tree, cut at the first location that cannot be
  loaded, and the outcome is the one that location dictates
* `include_fetch_order`, `include_fetch_prefix`   the fetch trace is `expectedFetches` (a prefix of it when the run failed)
* `include_global_scope`        the final global state is the effects of all executed statements, of all files, in trace order
* `includer_continues`, `return_ends_only_include`  after an include (whether or not the included script returned) the next
  statement of the includer runs, from the state the included script left; what follows a `return` never runs
* `urlfn_restored`              the options a script hands back have the `urlFn` it was started with, whatever happened inside
* `include_errors`, `include_error_step`, `no_fetch_fn`   failures name the *resolved* location; nothing runs after them
* `gas_stable`                  results do not depend on the gas once it suffices
-/

namespace C17
open Url Include

/-- options.py still says `_R_URL = re.compile(r'^[a-z]+:')` (table regenerated from the working tree on every run) -/
theorem url_regex_source :
    Gen.regexes.find? (fun r => r.1 == "options._R_URL") = some ("options._R_URL", "^[a-z]+:", 32) := by decide +kernel

/-- **resolve_spec** (`_partial`: POSIX model of `pathlib.Path.__str__`, `os.path.dirname`, `os.path.join`).
Full statement intended by the property: for the host's path flavour; what is missing: the Windows flavour
(`\` separators, drives, UNC roots), which the model does not cover. -/
theorem resolve_spec_partial (file url : String) : urlFileRelative file url = resolveSpec file url := by
  simp [urlFileRelative, resolveSpec, resolve_matches_spec]

example : urlFileRelative "http://h/a/b.bare" "c/d.bare" = "http://h/a/c/d.bare" := by
  rw [urlFileRelative, String.ofList_inj]; decide_lit
example : urlFileRelative "/r/x/m.bare" "./c//d.bare" = "/r/x/c/d.bare" := by
  rw [urlFileRelative, String.ofList_inj]; decide_lit

theorem not_isUrl_slash (r : Str) : ¬ IsUrl ('/' :: r) := by
  rintro ⟨scheme, rest, h, hne, hall⟩
  cases scheme with
  | nil => exact hne rfl
  | cons c cs =>
    simp only [List.cons_append, List.cons.injEq] at h
    have := hall c (List.mem_cons_self ..)
    rw [← h.1] at this
    simp [isLowerAscii] at this

theorem resolve_url (file url : Str) (h : IsUrl url) : urlFileRelativeL file url = url := by
  rw [resolve_matches_spec]; simp [resolveSpecL, h]

example : IsUrl "https://o/q.bare?z=1".toList := by decide_lit
example : ¬ IsUrl "HTTP://O/q.bare".toList := by decide_lit

/-- an absolute path does not depend on the including file: it is put in pathlib's normal form -/
theorem resolve_abs (file r : Str) : urlFileRelativeL file ('/' :: r) = normAbs ('/' :: r) := by
  rw [resolve_matches_spec]; simp [resolveSpecL, not_isUrl_slash]

example : urlFileRelativeL "http://h/a/b".toList "//p/./q//".toList = "//p/q".toList := by decide_lit

theorem resolve_abs_clean (file r : Str) (h : CleanRel r) : urlFileRelativeL file ('/' :: r) = '/' :: r := by
  rw [resolve_abs]
  have hh := cleanRel_head h
  cases r with
  | nil => simp [CleanRel, splitSlash, realSeg] at h
  | cons c cs =>
    have hc : (c == '/') = false := by simpa using hh
    have e1 : ('/' :: c :: cs).takeWhile (· == '/') = ['/'] := by simp [List.takeWhile, hc]
    have e2 : ('/' :: c :: cs).dropWhile (· == '/') = c :: cs := by simp [List.dropWhile, hc]
    simp only [normAbs, e1, e2, segments_clean h, join_split]
    simp

example : CleanRel "abs/d.e/my file.bare".toList := by decide_lit

theorem resolve_rel_url_base (d name url : Str) (hu : ¬ IsUrl url) (hh : url.head? ≠ some '/')
    (hf : IsUrl (d ++ '/' :: name)) (hn : '/' ∉ name) :
    urlFileRelativeL (d ++ '/' :: name) url = d ++ '/' :: url := by
  rw [resolve_matches_spec]; simp [resolveSpecL, hu, hh, hf, dirPart_append_slash d name hn]

example : urlFileRelativeL "http://h/a/b.bare?x=1".toList "../c/./d.bare".toList = "http://h/a/../c/./d.bare".toList := by decide_lit

theorem resolve_rel_path_base (file url : Str) (hu : ¬ IsUrl url) (hh : url.head? ≠ some '/') (hf : ¬ IsUrl file) :
    urlFileRelativeL file url = joinDir (dirSpec file) (normRel url) := by
  rw [resolve_matches_spec]; simp [resolveSpecL, hu, hh, hf]

theorem dirSpec_append_slash (d name : Str) (hn : '/' ∉ name) (hd : d ≠ []) (hl : d.getLast? ≠ some '/') :
    dirSpec (d ++ '/' :: name) = d := by
  obtain ⟨l, t, hr⟩ : ∃ l t, d.reverse = l :: t := by
    cases h : d.reverse with
    | nil => exact absurd (List.reverse_eq_nil_iff.mp h) hd
    | cons l t => exact ⟨l, t, rfl⟩
  have hdeq : d = t.reverse ++ [l] := by
    have := congrArg List.reverse hr; simpa using this
  have hl' : l ≠ '/' := by
    intro e; apply hl; rw [hdeq]; simp [e]
  have hlb : (l == '/') = false := by simpa using hl'
  have hall : (d ++ ['/']).all (· == '/') = false := by
    rw [Bool.eq_false_iff]; intro ha
    rw [List.all_eq_true] at ha
    have := ha l (by rw [hdeq]; simp)
    simp [hlb] at this
  simp only [dirSpec, dirPart_append_slash d name hn, hall, Bool.false_eq_true, if_false, dropTrailingSlashes]
  simp [hr, List.dropWhile, hlb]
  have := congrArg List.reverse hr; simpa using this.symm

theorem resolve_rel_path_base_clean (d name url : Str) (hn : '/' ∉ name) (hd : d ≠ []) (hl : d.getLast? ≠ some '/')
    (hf : ¬ IsUrl (d ++ '/' :: name)) (hu : ¬ IsUrl url) (hc : CleanRel url) :
    urlFileRelativeL (d ++ '/' :: name) url = d ++ '/' :: url := by
  rw [resolve_rel_path_base _ _ hu (cleanRel_head hc) hf, dirSpec_append_slash d name hn hd hl, normRel_clean hc]
  simp [joinDir, hd, hl]

example : urlFileRelativeL "/r/sub dir/main.bare".toList "lib/x.bare".toList = "/r/sub dir/lib/x.bare".toList := by decide_lit
example : urlFileRelativeL "main.bare".toList "lib/x.bare".toList = "lib/x.bare".toList := by decide_lit
example : urlFileRelativeL "r/main.bare".toList "".toList = "r/.".toList := by decide_lit

/-- **resolve_system**: a system include with a configured prefix resolves against the prefix and ignores the including
file; without a configured prefix it is treated like a plain include; a plain include never looks at the prefix. -/
theorem resolve_system (cfg : Config) (uf : UrlFn) (u : String) :
    (∀ p, cfg.systemPrefix = some p → resolveEntry cfg uf ⟨u, true⟩ = resolveSpec p u) ∧
    (cfg.systemPrefix = none → resolveEntry cfg uf ⟨u, true⟩ = applyUrlFn uf u) ∧
    resolveEntry cfg uf ⟨u, false⟩ = applyUrlFn uf u := by
  refine ⟨?_, ?_, ?_⟩
  · intro p hp; simp [resolveEntry, hp, resolve_spec_partial]
  · intro hp; simp [resolveEntry, hp]
  · simp [resolveEntry]

example : resolveEntry ⟨some ":bare-include:/", none, 0⟩ (.relativeTo "/r/m.bare") ⟨"args.bare", true⟩ = ":bare-include:/args.bare" := by
  rw [(resolve_system _ _ _).1 _ rfl, resolveSpec, String.ofList_inj]; decide_lit

theorem resolveEntry_eq_spec (cfg : Config) (uf : UrlFn) (e : Entry) :
    resolveEntry cfg uf e = specLocation cfg (selfOf uf) e := by
  obtain ⟨u, sys⟩ := e
  cases sys <;> cases hp : cfg.systemPrefix <;> cases uf <;>
    simp [resolveEntry, specLocation, hp, applyUrlFn, selfOf, resolve_spec_partial]

theorem cutAt_append_none {α} (p : α → Bool) (l₂ : List α) : ∀ (l : List α), l.find? p = none → cutAt p (l ++ l₂) = l ++ cutAt p l₂
  | [], _ => rfl
  | a :: l, h => by
    cases ha : p a <;> simp only [List.find?, ha, reduceCtorEq] at h
    simp [cutAt, ha, cutAt_append_none p l₂ l h]

theorem cutAt_append_some {α} (p : α → Bool) (l₂ : List α) : ∀ (l : List α) (a : α), l.find? p = some a → cutAt p (l ++ l₂) = cutAt p l
  | [], _, h => by simp at h
  | b :: l, a, h => by
    cases hb : p b <;> simp only [List.find?, hb] at h
    · simp [cutAt, hb, cutAt_append_some p l₂ l a h]
    · simp [cutAt, hb]

theorem cutAt_prefix {α} (p : α → Bool) : ∀ (l : List α), cutAt p l <+: l
  | [] => List.prefix_refl _
  | a :: l => by
    cases ha : p a <;> simp only [cutAt, ha, Bool.false_eq_true, if_false, if_true]
    · exact (List.prefix_cons_inj a).mpr (cutAt_prefix p l)
    · simp

theorem failing_false {fs : String → File} {u : String} (h : failing fs (.fetch u) = false) : ∃ sc, fs u = .text sc := by
  cases hu : fs u with
  | text sc => exact ⟨sc, rfl⟩
  | _ => simp [failing, hu] at h

section
variable {fs : String → File}

/-- `t`, `o` is what the property prescribes for the event list `E`: its events up to and including the first location that
cannot be loaded, and the outcome that location dictates (`Spec.eq`, `spec`: these are `cutAt (failing fs) E` and `specOutcome fs E`).
It composes over `++` the way results compose by `Res.andThen`: `Spec.append` if the first part ended `ok`, `Spec.append_stop` if not. -/
inductive Spec (fs : String → File) : List Event → List Event → Outcome → Prop
  | nil : Spec fs [] [] .ok
  | cons {ev E t o} : failing fs ev = false → Spec fs E t o → Spec fs (ev :: E) (ev :: t) o
  | stop {u} (E) : failing fs (.fetch u) = true → Spec fs (.fetch u :: E) [.fetch u] (specOutcome fs [.fetch u])

theorem specOutcome_stop {u : String} (h : failing fs (.fetch u) = true) : specOutcome fs [.fetch u] ≠ .ok := by
  simp only [specOutcome, List.find?, h]
  split <;> simp

theorem Spec.eq {E t o} (h : Spec fs E t o) : t = cutAt (failing fs) E ∧ o = specOutcome fs E := by
  induction h with
  | nil => exact ⟨rfl, rfl⟩
  | cons h _ ih => simp [cutAt, specOutcome, List.find?, h, ih.1, ih.2]
  | stop E h => simp [cutAt, specOutcome, List.find?, h]

theorem spec (fs : String → File) : ∀ E, Spec fs E (cutAt (failing fs) E) (specOutcome fs E)
  | [] => .nil
  | ev :: E => by
    cases h : failing fs ev with
    | false => simpa [cutAt, specOutcome, List.find?, h] using Spec.cons h (spec fs E)
    | true =>
      cases ev with
      | exec t => cases h
      | fetch u => simpa [cutAt, specOutcome, List.find?, h] using Spec.stop E h

theorem Spec.append {E t o F t' o'} (h : Spec fs E t o) (ho : o = .ok) (h' : Spec fs F t' o') : Spec fs (E ++ F) (t ++ t') o' := by
  induction h with
  | nil => exact h'
  | cons h _ ih => exact .cons h (ih ho)
  | stop E h => exact absurd ho (specOutcome_stop h)

theorem Spec.append_stop {E t o} (F : List Event) (h : Spec fs E t o) (ho : o ≠ .ok) : Spec fs (E ++ F) t o := by
  induction h with
  | nil => exact absurd rfl ho
  | cons h _ ih => exact .cons h (ih ho)
  | stop E h => exact .stop _ h

theorem Spec.ok {E t o} (h : Spec fs E t o) (ho : o = .ok) : t = E := by
  induction h with
  | nil => rfl
  | cons _ _ ih => rw [ih ho]
  | stop E h => exact absurd ho (specOutcome_stop h)

theorem Spec.error {E t o} (h : Spec fs E t o) (ho : o ≠ .ok) :
    ∃ u pre post, E = pre ++ .fetch u :: post ∧ t = pre ++ [.fetch u] ∧ (∀ x ∈ pre, failing fs x = false) ∧
      o = specOutcome fs [.fetch u] := by
  induction h with
  | nil => exact absurd rfl ho
  | cons h _ ih =>
    obtain ⟨u, pre, post, e1, e2, e3, e4⟩ := ih ho
    exact ⟨u, _ :: pre, post, by rw [e1]; rfl, by rw [e2]; rfl, by simpa [h] using e3, e4⟩
  | stop E h => exact ⟨_, [], E, rfl, rfl, nofun, rfl⟩

end

theorem specOutcome_fetch_includeFailed {fs : String → File} {u v : String} (h : specOutcome fs [.fetch u] = .includeFailed v) :
    u = v ∧ (fs v = .missing ∨ fs v = .throws) := by
  simp only [specOutcome, List.find?, failing] at h
  cases hu : fs u <;> simp [hu] at h <;> subst h <;> simp [hu]

theorem specOutcome_fetch_parseError {fs : String → File} {u v : String} (h : specOutcome fs [.fetch u] = .parseError v) :
    u = v ∧ fs v = .broken := by
  simp only [specOutcome, List.find?, failing] at h
  cases hu : fs u <;> simp [hu] at h
  subst h; simp [hu]

@[simp] theorem tagsOf_nil : tagsOf [] = [] := rfl
@[simp] theorem tagsOf_fetch (u : String) (l : List Event) : tagsOf (.fetch u :: l) = tagsOf l := rfl
@[simp] theorem tagsOf_exec (t : String) (l : List Event) : tagsOf (.exec t :: l) = t :: tagsOf l := rfl
@[simp] theorem tagsOf_append (a b : List Event) : tagsOf (a ++ b) = tagsOf a ++ tagsOf b := by simp [tagsOf]

section
variable {σ : Type}

/-- `r`, and then `k` from the options and state `r` ended with — if it ended normally. Both loops of the machine are
built from this: an error or a budget ends everything, anything else hands on. -/
def _root_.Include.Res.andThen (r : Res σ) (k : Options → σ → Res σ) : Res σ :=
  match r.outcome with
  | .ok => ⟨r.trace ++ (k r.opts r.state).trace, (k r.opts r.state).state, (k r.opts r.state).opts, (k r.opts r.state).outcome⟩
  | _ => r

theorem andThen_ok {r : Res σ} (h : r.outcome = .ok) (k : Options → σ → Res σ) :
    r.andThen k = ⟨r.trace ++ (k r.opts r.state).trace, (k r.opts r.state).state, (k r.opts r.state).opts, (k r.opts r.state).outcome⟩ := by
  simp only [Res.andThen, h]

theorem andThen_stop {r : Res σ} (h : r.outcome ≠ .ok) (k : Options → σ → Res σ) : r.andThen k = r := by
  unfold Res.andThen
  split
  · contradiction
  · rfl

theorem andThen_congr {r : Res σ} {k k' : Options → σ → Res σ} (h : r.outcome = .ok → k' r.opts r.state = k r.opts r.state) :
    r.andThen k' = r.andThen k := by
  unfold Res.andThen
  split
  · rw [h ‹_›]
  · rfl

/-- the result of an include entry whose text ran with result `r`: the request comes first, and of the options of the
included script only the counter is handed back -/
def included (url : String) (o : Options) (r : Res σ) : Res σ :=
  ⟨.fetch url :: r.trace, r.state, { o with statementCount := r.opts.statementCount }, r.outcome⟩

abbrev tick (o : Options) : Options := { o with statementCount := o.statementCount + 1 }

variable (cfg : Config) (eff : String → σ → σ)

def runItem (rec : Options → Script → σ → Res σ) (o : Options) (s : σ) : Item → Res σ
  | .inc es => runEntries cfg rec o es s
  | .stmt t => ⟨[.exec t], eff t s, o, .ok⟩
  | _ => ⟨[], s, o, .ok⟩

variable (rec : Options → Script → σ → Res σ)

theorem runItems_cons (o : Options) (it : Item) (rest : Script) (s : σ) :
    runItems cfg eff rec o (it :: rest) s =
      if cfg.maxStatements > 0 && o.statementCount + 1 > cfg.maxStatements then ⟨[], s, tick o, .exceeded⟩
      else if it = .ret then ⟨[], s, tick o, .ok⟩
      else (runItem cfg eff rec (tick o) s it).andThen fun o' s' => runItems cfg eff rec o' rest s' := by
  simp only [runItems]
  split
  · rfl
  · cases it with
    | inc es =>
      simp only [reduceCtorEq, if_false, runItem, Res.andThen]
      generalize runEntries cfg rec _ es s = r
      cases r.outcome <;> rfl
    | _ => simp [runItem, Res.andThen]

theorem runEntries_noFetch (hf : cfg.fetch = none) (o : Options) (e : Entry)
    (es : List Entry) (s : σ) : runEntries cfg rec o (e :: es) s = ⟨[], s, o, .includeFailed (resolveEntry cfg o.urlFn e)⟩ := by
  simp [runEntries, hf]

theorem runEntries_fail {fs : String → File} (hf : cfg.fetch = some fs) (o : Options)
    (e : Entry) (es : List Entry) (s : σ) (h : failing fs (.fetch (resolveEntry cfg o.urlFn e)) = true) :
    runEntries cfg rec o (e :: es) s =
      ⟨[.fetch (resolveEntry cfg o.urlFn e)], s, o, specOutcome fs [.fetch (resolveEntry cfg o.urlFn e)]⟩ := by
  simp only [runEntries, hf, specOutcome, List.find?, h]
  simp only [failing] at h
  cases hfile : fs (resolveEntry cfg o.urlFn e) <;> simp [hfile] at h ⊢

theorem runEntries_text {fs : String → File} (hf : cfg.fetch = some fs) (o : Options)
    (e : Entry) (es : List Entry) (s : σ) {sc : Script} (h : fs (resolveEntry cfg o.urlFn e) = .text sc) :
    runEntries cfg rec o (e :: es) s =
      (included (resolveEntry cfg o.urlFn e) o (rec { o with urlFn := .relativeTo (resolveEntry cfg o.urlFn e) } sc s)).andThen
        fun o' s' => runEntries cfg rec o' es s' := by
  simp only [runEntries, hf, h, Res.andThen, included]
  split <;> simp_all

theorem runEntries_cases (o : Options) (e : Entry) (es : List Entry) (s : σ) :
    (∃ out, runEntries cfg rec o (e :: es) s = ⟨[], s, o, out⟩) ∨
    (∃ out, runEntries cfg rec o (e :: es) s = ⟨[.fetch (resolveEntry cfg o.urlFn e)], s, o, out⟩) ∨
    ∃ sc, runEntries cfg rec o (e :: es) s =
      (included (resolveEntry cfg o.urlFn e) o (rec { o with urlFn := .relativeTo (resolveEntry cfg o.urlFn e) } sc s)).andThen
        fun o' s' => runEntries cfg rec o' es s' := by
  cases hf : cfg.fetch with
  | none => exact .inl ⟨_, runEntries_noFetch cfg rec hf ..⟩
  | some fs =>
    cases h : failing fs (.fetch (resolveEntry cfg o.urlFn e)) with
    | true => exact .inr (.inl ⟨_, runEntries_fail cfg rec hf o e es s h⟩)
    | false =>
      obtain ⟨sc, hsc⟩ := failing_false h
      exact .inr (.inr ⟨sc, runEntries_text cfg rec hf o e es s hsc⟩)

/-- the run was cut short by a budget (statement budget of the implementation, or the gas of the model) -/
def Budget (o : Outcome) : Prop := o = .exceeded ∨ o = .outOfGas

theorem andThen_urlFn {r : Res σ} {k : Options → σ → Res σ} (hk : ∀ o s, (k o s).opts.urlFn = o.urlFn) :
    (r.andThen k).opts.urlFn = r.opts.urlFn := by
  unfold Res.andThen
  split
  · exact hk _ _
  · rfl

theorem runEntries_urlFn :
    ∀ (es : List Entry) (o : Options) (s : σ), (runEntries cfg rec o es s).opts.urlFn = o.urlFn
  | [], o, s => rfl
  | e :: es, o, s => by
    rcases runEntries_cases cfg rec o e es s with ⟨_, h⟩ | ⟨_, h⟩ | ⟨_, h⟩ <;> rw [h]
    exact andThen_urlFn (runEntries_urlFn es)

theorem runItem_urlFn (o : Options) (s : σ) (it : Item) :
    (runItem cfg eff rec o s it).opts.urlFn = o.urlFn := by
  cases it with
  | inc es => exact runEntries_urlFn cfg rec ..
  | _ => rfl

theorem runItems_urlFn :
    ∀ (sc : Script) (o : Options) (s : σ), (runItems cfg eff rec o sc s).opts.urlFn = o.urlFn
  | [], o, s => rfl
  | it :: rest, o, s => by
    rw [runItems_cons]
    split
    · rfl
    · split
      · rfl
      · rw [andThen_urlFn (runItems_urlFn rest), runItem_urlFn]

/-- **urlfn_restored**: whatever a script includes, and however it ends (normally, by `return`, with an error, on a
budget), the options it hands back resolve exactly as the options it was started with: resolution depends only on the
file the statement is written in. -/
theorem urlfn_restored (g : Nat) (o : Options) (sc : Script) (s : σ) :
    (runScript cfg eff g o sc s).opts.urlFn = o.urlFn := by
  cases g with
  | zero => rfl
  | succ g => exact runItems_urlFn cfg eff _ sc o s

def Folds (s : σ) (r : Res σ) : Prop := r.state = (tagsOf r.trace).foldl (fun s t => eff t s) s

theorem andThen_folds {s : σ} {r : Res σ} {k : Options → σ → Res σ} (h1 : Folds eff s r)
    (h2 : ∀ o, Folds eff r.state (k o r.state)) : Folds eff s (r.andThen k) := by
  unfold Res.andThen
  split
  · simp only [Folds, tagsOf_append, List.foldl_append]
    rw [← h1]; exact h2 _
  · exact h1

theorem runEntries_state (hrec : ∀ o sc s, Folds eff s (rec o sc s)) :
    ∀ (es : List Entry) (o : Options) (s : σ), Folds eff s (runEntries cfg rec o es s)
  | [], o, s => rfl
  | e :: es, o, s => by
    rcases runEntries_cases cfg rec o e es s with ⟨_, h⟩ | ⟨_, h⟩ | ⟨sc, h⟩ <;> rw [h]
    · rfl
    · rfl
    · exact andThen_folds eff (hrec _ sc s) fun _ => runEntries_state hrec es _ _

theorem runItems_state (hrec : ∀ o sc s, Folds eff s (rec o sc s)) :
    ∀ (sc : Script) (o : Options) (s : σ), Folds eff s (runItems cfg eff rec o sc s)
  | [], o, s => rfl
  | it :: rest, o, s => by
    rw [runItems_cons]
    split
    · rfl
    · split
      · rfl
      · refine andThen_folds eff ?_ fun _ => runItems_state hrec rest _ _
        cases it with
        | inc es => exact runEntries_state cfg eff rec hrec ..
        | _ => rfl

/-- **include_global_scope**: however deep the include tree, all statements of all files act on ONE state — the final
state is the effects of the executed statements applied, in trace order, to the initial global state (for every
statement semantics `eff`, every outcome). In particular what an included script assigns is what the includer sees. -/
theorem include_global_scope (g : Nat) (o : Options) (sc : Script) (s : σ) :
    (runScript cfg eff g o sc s).state = (tagsOf (runScript cfg eff g o sc s).trace).foldl (fun s t => eff t s) s := by
  induction g generalizing o sc s with
  | zero => rfl
  | succ g ih => exact runItems_state cfg eff _ ih sc o s

/-- a result agrees with a specification event list (unless a budget cut the run) -/
def Agrees (fs : String → File) (r : Res σ) (E : List Event) : Prop := ¬ Budget r.outcome → Spec fs E r.trace r.outcome

theorem andThen_agrees {fs : String → File} {r : Res σ} {k : Options → σ → Res σ} {E F : List Event} (h1 : Agrees fs r E)
    (h2 : r.outcome = .ok → Agrees fs (k r.opts r.state) F) : Agrees fs (r.andThen k) (E ++ F) := by
  by_cases hok : r.outcome = .ok
  · rw [andThen_ok hok]
    exact fun hb => (h1 (by simp [Budget, hok])).append hok (h2 hok hb)
  · rw [andThen_stop hok]
    exact fun hb => (h1 hb).append_stop F hok

theorem runEntries_spec (fs : String → File) (hf : cfg.fetch = some fs)
    (sub : Option String → Script → List Event)
    (hrec : ∀ o sc s, Agrees fs (rec o sc s) (sub (selfOf o.urlFn) sc)) :
    ∀ (es : List Entry) (o : Options) (s : σ),
      Agrees fs (runEntries cfg rec o es s) (entryEvents cfg fs sub (selfOf o.urlFn) es)
  | [], o, s => fun _ => .nil
  | e :: es, o, s => by
    simp only [entryEvents, ← resolveEntry_eq_spec cfg o.urlFn e]
    cases h : failing fs (.fetch (resolveEntry cfg o.urlFn e)) with
    | true =>
      rw [runEntries_fail cfg rec hf o e es s h]
      exact fun _ => .stop _ h
    | false =>
      obtain ⟨sc, hsc⟩ := failing_false h
      rw [runEntries_text cfg rec hf o e es s hsc, hsc]
      exact andThen_agrees (fun hb => .cons h (hrec { o with urlFn := .relativeTo _ } sc s hb)) fun _ => runEntries_spec fs hf sub hrec es _ _

theorem live_cons {it : Item} (h : it ≠ .ret) (rest : Script) : live (it :: rest) = it :: live rest := by
  cases it with
  | ret => exact absurd rfl h
  | _ => rfl

theorem itemEvents_cons (fs : String → File) (sub : Option String → Script → List Event) (self : Option String) (it : Item)
    (rest : Script) : itemEvents cfg fs sub self (it :: rest) = itemEvents cfg fs sub self [it] ++ itemEvents cfg fs sub self rest := by
  cases it <;> simp [itemEvents]

theorem runItems_spec (fs : String → File) (hf : cfg.fetch = some fs)
    (sub : Option String → Script → List Event)
    (hrec : ∀ o sc s, Agrees fs (rec o sc s) (sub (selfOf o.urlFn) sc)) :
    ∀ (sc : Script) (o : Options) (s : σ),
      Agrees fs (runItems cfg eff rec o sc s) (itemEvents cfg fs sub (selfOf o.urlFn) (live sc))
  | [], o, s => fun _ => .nil
  | it :: rest, o, s => by
    rw [runItems_cons]
    split
    · exact fun hb => absurd (Or.inl rfl) hb
    · split
      · next h => subst h; exact fun _ => .nil
      · next h =>
        rw [live_cons h, itemEvents_cons]
        refine andThen_agrees ?_ fun _ => ?_
        · cases it with
          | inc es => simpa [itemEvents, runItem] using runEntries_spec cfg rec fs hf sub hrec es (tick o) s
          | stmt t => exact fun _ => .cons (ev := .exec t) rfl .nil
          | nop => exact fun _ => .nil
          | ret => exact absurd rfl h
        · have := runItems_spec fs hf sub hrec rest (runItem cfg eff rec (tick o) s it).opts (runItem cfg eff rec (tick o) s it).state
          rwa [runItem_urlFn] at this

theorem run_agrees (fs : String → File) (hf : cfg.fetch = some fs) : ∀ g o sc (s : σ),
    Agrees fs (runScript cfg eff g o sc s) (expectedEvents cfg fs g (selfOf o.urlFn) sc)
  | 0, _, _, _ => fun hb => absurd (Or.inr rfl) hb
  | g + 1, o, sc, s => runItems_spec cfg eff _ fs hf _ (run_agrees fs hf g) sc o s

/-- **run_spec**: for every configuration with a fetch function, every file map (cyclic or not), every script, every
statement semantics and every gas: if the run was not cut by a budget, then the sequence of fetch requests and executed
statements IS the depth-first, program-order sequence of the include tree (each entry resolved against the file that
contains it, once per entry) up to and including the first location that cannot be loaded, and the outcome is `ok` if
there is no such location, and otherwise the error naming that location. -/
theorem run_spec (fs : String → File) (hf : cfg.fetch = some fs) (g : Nat) (o : Options) (sc : Script) (s : σ) :
    (runScript cfg eff g o sc s).outcome ≠ .exceeded → (runScript cfg eff g o sc s).outcome ≠ .outOfGas →
    (runScript cfg eff g o sc s).trace = cutAt (failing fs) (expectedEvents cfg fs g (selfOf o.urlFn) sc) ∧
    (runScript cfg eff g o sc s).outcome = specOutcome fs (expectedEvents cfg fs g (selfOf o.urlFn) sc) :=
  fun h1 h2 => (run_agrees cfg eff fs hf g o sc s (by rintro (h | h) <;> contradiction)).eq

/-- **include_fetch_order**: a run that completes has asked `fetchFn` for exactly the locations of the tree, depth-first,
in program order, once per include entry, each resolved against its including file. -/
theorem include_fetch_order (fs : String → File) (hf : cfg.fetch = some fs) (g : Nat) (o : Options) (sc : Script) (s : σ)
    (hok : (runScript cfg eff g o sc s).outcome = .ok) :
    fetchesOf (runScript cfg eff g o sc s).trace = expectedFetches cfg fs g (selfOf o.urlFn) sc := by
  rw [(run_agrees cfg eff fs hf g o sc s (by simp [Budget, hok])).ok hok]; rfl

/-- a run that fails has asked for an initial part of them -/
theorem include_fetch_prefix (fs : String → File) (hf : cfg.fetch = some fs) (g : Nat) (o : Options) (sc : Script) (s : σ)
    (h1 : (runScript cfg eff g o sc s).outcome ≠ .exceeded) (h2 : (runScript cfg eff g o sc s).outcome ≠ .outOfGas) :
    fetchesOf (runScript cfg eff g o sc s).trace <+: expectedFetches cfg fs g (selfOf o.urlFn) sc := by
  obtain ⟨ht, _⟩ := run_spec cfg eff fs hf g o sc s h1 h2
  rw [ht]
  exact (cutAt_prefix _ _).filterMap _

/-- **include_errors**: if the run ends with `Include of "u" failed` (resp. a parser error `Included from "u"`), then `u`
is a *resolved* location of the tree (it occurs in the specification's event list), `fetchFn` returned nothing / raised
for it (resp. its text does not parse), it is the LAST thing that happened, nothing before it failed, and the whole
trace is an initial part of the tree's event list — nothing after the failure point ran. -/
theorem include_errors (fs : String → File) (hf : cfg.fetch = some fs) (g : Nat) (o : Options) (sc : Script) (s : σ) (u : String) :
    ((runScript cfg eff g o sc s).outcome = .includeFailed u → (fs u = .missing ∨ fs u = .throws) ∧
      ∃ pre post, expectedEvents cfg fs g (selfOf o.urlFn) sc = pre ++ .fetch u :: post ∧
        (runScript cfg eff g o sc s).trace = pre ++ [.fetch u] ∧ ∀ ev ∈ pre, failing fs ev = false) ∧
    ((runScript cfg eff g o sc s).outcome = .parseError u → fs u = .broken ∧
      ∃ pre post, expectedEvents cfg fs g (selfOf o.urlFn) sc = pre ++ .fetch u :: post ∧
        (runScript cfg eff g o sc s).trace = pre ++ [.fetch u] ∧ ∀ ev ∈ pre, failing fs ev = false) := by
  have hs := run_agrees cfg eff fs hf g o sc s
  constructor <;> intro hout <;>
    obtain ⟨v, pre, post, e1, e2, e3, e4⟩ := (hs (by simp [Budget, hout])).error (by simp [hout]) <;> rw [hout] at e4
  · obtain ⟨rfl, hv⟩ := specOutcome_fetch_includeFailed e4.symm
    exact ⟨hv, pre, post, e1, e2, e3⟩
  · obtain ⟨rfl, hv⟩ := specOutcome_fetch_parseError e4.symm
    exact ⟨hv, pre, post, e1, e2, e3⟩

/-- the statement budget lets the next statement start -/
def Room (o : Options) : Prop := ¬ (cfg.maxStatements > 0 ∧ o.statementCount + 1 > cfg.maxStatements)

theorem room_if (o : Options) (h : Room cfg o) :
    (decide (cfg.maxStatements > 0) && decide (o.statementCount + 1 > cfg.maxStatements)) = false := by
  unfold Room at h
  rw [Bool.eq_false_iff]; intro hc; apply h
  simpa using hc

/-- **include_error_step**: the first entry of an include statement whose *resolved* location cannot be fetched ends the
run there with that location in the error; text that does not parse likewise. Nothing else is fetched or executed. -/
theorem include_error_step (fs : String → File) (hf : cfg.fetch = some fs) (g : Nat) (o : Options) (e : Entry) (es : List Entry)
    (rest : Script) (s : σ) (hroom : Room cfg o) :
    (fs (resolveEntry cfg o.urlFn e) = .missing ∨ fs (resolveEntry cfg o.urlFn e) = .throws →
      (runScript cfg eff (g + 1) o (.inc (e :: es) :: rest) s).trace = [.fetch (resolveEntry cfg o.urlFn e)] ∧
      (runScript cfg eff (g + 1) o (.inc (e :: es) :: rest) s).state = s ∧
      (runScript cfg eff (g + 1) o (.inc (e :: es) :: rest) s).outcome = .includeFailed (resolveEntry cfg o.urlFn e)) ∧
    (fs (resolveEntry cfg o.urlFn e) = .broken →
      (runScript cfg eff (g + 1) o (.inc (e :: es) :: rest) s).trace = [.fetch (resolveEntry cfg o.urlFn e)] ∧
      (runScript cfg eff (g + 1) o (.inc (e :: es) :: rest) s).state = s ∧
      (runScript cfg eff (g + 1) o (.inc (e :: es) :: rest) s).outcome = .parseError (resolveEntry cfg o.urlFn e)) := by
  have hr := room_if cfg o hroom
  refine ⟨?_, ?_⟩
  · rintro (h | h) <;> simp [runScript, runItems, runEntries, hr, hf, h]
  · intro h; simp [runScript, runItems, runEntries, hr, hf, h]

/-- without a fetch function every include fails at once, naming the resolved location, and nothing is requested -/
theorem no_fetch_fn (hf : cfg.fetch = none) (g : Nat) (o : Options) (e : Entry) (es : List Entry) (rest : Script) (s : σ)
    (hroom : Room cfg o) :
    (runScript cfg eff (g + 1) o (.inc (e :: es) :: rest) s).trace = [] ∧
    (runScript cfg eff (g + 1) o (.inc (e :: es) :: rest) s).outcome = .includeFailed (resolveEntry cfg o.urlFn e) := by
  have hr := room_if cfg o hroom
  simp [runScript, runItems, runEntries, hr, hf]

/-- **includer_continues** (global scope, second half): when the script included by a one-entry include statement ends
normally — by running off its end or by `return`, the model does not distinguish them from outside — the includer goes
on with its next statement: from the state the included script left, with its OWN `urlFn`, and with the statement
counter the included script reached. The included script itself ran with `urlFn = relativeTo <resolved location>`. -/
theorem includer_continues (fs : String → File) (hf : cfg.fetch = some fs) (g : Nat) (o : Options) (e : Entry)
    (rest : Script) (s : σ) (sc : Script) (hroom : Room cfg o) (hfile : fs (resolveEntry cfg o.urlFn e) = .text sc)
    (hok : (runScript cfg eff g ⟨.relativeTo (resolveEntry cfg o.urlFn e), o.statementCount + 1⟩ sc s).outcome = .ok) :
    let url := resolveEntry cfg o.urlFn e
    let r := runScript cfg eff g ⟨.relativeTo url, o.statementCount + 1⟩ sc s
    let r2 := runScript cfg eff (g + 1) ⟨o.urlFn, r.opts.statementCount⟩ rest r.state
    (runScript cfg eff (g + 1) o (.inc [e] :: rest) s).trace = .fetch url :: r.trace ++ r2.trace ∧
    (runScript cfg eff (g + 1) o (.inc [e] :: rest) s).state = r2.state ∧
    (runScript cfg eff (g + 1) o (.inc [e] :: rest) s).opts = r2.opts ∧
    (runScript cfg eff (g + 1) o (.inc [e] :: rest) s).outcome = r2.outcome := by
  have hr := room_if cfg o hroom
  simp [runScript, runItems, runEntries, hr, hf, hfile, hok]

theorem runItems_ret (b : Script) :
    ∀ (a : Script) (o : Options) (s : σ), runItems cfg eff rec o (a ++ .ret :: b) s = runItems cfg eff rec o (a ++ [.ret]) s
  | [], o, s => by simp only [List.nil_append, runItems_cons, if_true]
  | it :: a, o, s => by
    simp only [List.cons_append, runItems_cons]
    congr 2
    exact andThen_congr fun _ => runItems_ret b a _ _

/-- **return_ends_only_include**: what follows a `return` in a script is never run, fetched or counted — the script
behaves exactly as if it ended there; by `includer_continues` its includer goes on afterwards. -/
theorem return_ends_only_include (g : Nat) (o : Options) (a b : Script) (s : σ) :
    runScript cfg eff g o (a ++ .ret :: b) s = runScript cfg eff g o (a ++ [.ret]) s := by
  cases g with
  | zero => rfl
  | succ g => exact runItems_ret cfg eff _ b a o s

theorem andThen_ne_outOfGas {r : Res σ} {k : Options → σ → Res σ} (h : (r.andThen k).outcome ≠ .outOfGas) :
    r.outcome ≠ .outOfGas ∧ (r.outcome = .ok → (k r.opts r.state).outcome ≠ .outOfGas) := by
  by_cases hok : r.outcome = .ok
  · rw [andThen_ok hok] at h
    exact ⟨by simp [hok], fun _ => h⟩
  · rw [andThen_stop hok] at h
    exact ⟨h, fun h' => absurd h' hok⟩

theorem runEntries_gas (rec' : Options → Script → σ → Res σ)
    (h : ∀ o sc s, (rec o sc s).outcome ≠ .outOfGas → rec' o sc s = rec o sc s) :
    ∀ (es : List Entry) (o : Options) (s : σ), (runEntries cfg rec o es s).outcome ≠ .outOfGas →
      runEntries cfg rec' o es s = runEntries cfg rec o es s
  | [], o, s, _ => rfl
  | e :: es, o, s, hne => by
    cases hf : cfg.fetch with
    | none => rw [runEntries_noFetch cfg rec hf, runEntries_noFetch cfg rec' hf]
    | some fs =>
      cases hfail : failing fs (.fetch (resolveEntry cfg o.urlFn e)) with
      | true => rw [runEntries_fail cfg rec hf o e es s hfail, runEntries_fail cfg rec' hf o e es s hfail]
      | false =>
        obtain ⟨sc, hsc⟩ := failing_false hfail
        rw [runEntries_text cfg rec hf o e es s hsc] at hne ⊢
        obtain ⟨h1, h2⟩ := andThen_ne_outOfGas hne
        rw [runEntries_text cfg rec' hf o e es s hsc, h _ sc s h1]
        exact andThen_congr fun hok => runEntries_gas rec' h es _ _ (h2 hok)

theorem runItems_gas (rec' : Options → Script → σ → Res σ)
    (h : ∀ o sc s, (rec o sc s).outcome ≠ .outOfGas → rec' o sc s = rec o sc s) :
    ∀ (sc : Script) (o : Options) (s : σ), (runItems cfg eff rec o sc s).outcome ≠ .outOfGas →
      runItems cfg eff rec' o sc s = runItems cfg eff rec o sc s
  | [], o, s, _ => rfl
  | it :: rest, o, s, hne => by
    rw [runItems_cons] at hne ⊢
    rw [runItems_cons]
    split
    · rfl
    · next hroom =>
      split
      · rfl
      · next hit =>
        rw [if_neg hroom, if_neg hit] at hne
        obtain ⟨h1, h2⟩ := andThen_ne_outOfGas hne
        have : runItem cfg eff rec' (tick o) s it = runItem cfg eff rec (tick o) s it := by
          cases it with
          | inc es => exact runEntries_gas cfg rec rec' h _ _ _ h1
          | _ => rfl
        rw [this]
        exact andThen_congr fun hok => runItems_gas rec' h rest _ _ (h2 hok)

/-- **gas_stable**: gas only bounds the include nesting the model is willing to follow; once a run does not end in
`outOfGas`, more gas changes nothing (so every statement above holds "for all sufficiently large gas"). -/
theorem gas_stable (g : Nat) (o : Options) (sc : Script) (s : σ) (h : (runScript cfg eff g o sc s).outcome ≠ .outOfGas) :
    runScript cfg eff (g + 1) o sc s = runScript cfg eff g o sc s := by
  induction g generalizing o sc s with
  | zero => simp [runScript] at h
  | succ g ih => exact runItems_gas cfg eff _ _ (fun o sc s h => ih o sc s h) sc o s h

end

/-! ## non-vacuity: a depth-3 tree mixing path and URL bases, a system include, a `return`, a broken file -/

def exFs : String → File := fun u =>
  if u = "/r/sub/a.bare" then .text [.stmt "a1", .inc [⟨"http://h/x/b.bare", false⟩, ⟨"../c.bare", false⟩], .ret, .stmt "never"]
  else if u = "http://h/x/b.bare" then .text [.stmt "b1", .inc [⟨"lib/d.bare", false⟩, ⟨"sys.bare", true⟩], .stmt "b2"]
  else if u = "http://h/x/lib/d.bare" then .text [.stmt "d1", .ret, .inc [⟨"never.bare", false⟩]]
  else if u = "/sys/sys.bare" then .text [.stmt "s1"]
  else if u = "/r/sub/../c.bare" then .text [.stmt "c1"]
  else if u = "/r/bad.bare" then .broken
  else .missing

def exCfg : Config := { systemPrefix := some "/sys/", fetch := some exFs, maxStatements := 1000 }

def exRoot : Script := [.stmt "m1", .inc [⟨"sub/a.bare", false⟩], .stmt "m2", .inc [⟨"bad.bare", false⟩, ⟨"x.bare", false⟩], .stmt "never"]

/-- the run: depth 3 (`main → a → b → d`), each reference resolved against ITS includer (path base, then URL base), the
system include against the prefix, `d` and `a` end by `return` and their includers go on, `bad.bare` stops everything. -/
example :
    let r := runLog exCfg 10 (.relativeTo "/r/main.bare") exRoot
    r.trace = [.exec "m1", .fetch "/r/sub/a.bare", .exec "a1", .fetch "http://h/x/b.bare", .exec "b1",
               .fetch "http://h/x/lib/d.bare", .exec "d1", .fetch "/sys/sys.bare", .exec "s1", .exec "b2",
               .fetch "/r/sub/../c.bare", .exec "c1", .exec "m2", .fetch "/r/bad.bare"] ∧
    r.state = ["m1", "a1", "b1", "d1", "s1", "b2", "c1", "m2"] ∧
    r.outcome = .parseError "/r/bad.bare" ∧ r.opts.urlFn = .relativeTo "/r/main.bare" := by decide +kernel

/-- the hypotheses of `run_spec` / `include_errors` hold for it, and the specification side computes the same -/
example : (runLog exCfg 10 (.relativeTo "/r/main.bare") exRoot).outcome ≠ .exceeded ∧
    (runLog exCfg 10 (.relativeTo "/r/main.bare") exRoot).outcome ≠ .outOfGas ∧
    cutAt (failing exFs) (expectedEvents exCfg exFs 10 (some "/r/main.bare") exRoot)
      = (runLog exCfg 10 (.relativeTo "/r/main.bare") exRoot).trace := by decide +kernel

/-- a run that completes (`include_fetch_order` is not vacuous) -/
example : (runLog exCfg 10 (.relativeTo "/r/main.bare") (exRoot.take 3)).outcome = .ok ∧
    expectedFetches exCfg exFs 10 (some "/r/main.bare") (exRoot.take 3)
      = ["/r/sub/a.bare", "http://h/x/b.bare", "http://h/x/lib/d.bare", "/sys/sys.bare", "/r/sub/../c.bare"] := by decide +kernel

/-- a missing file: the error names the resolved location -/
example : (runLog exCfg 10 (.relativeTo "http://h/x/y/main.bare") [.inc [⟨"../nope.bare", false⟩], .stmt "never"]).outcome
    = .includeFailed "http://h/x/y/../nope.bare" := by decide +kernel

/-- a file that includes itself runs into the statement budget, not into the gas -/
example : (runLog { systemPrefix := none, fetch := some (fun _ => .text [.stmt "x", .inc [⟨"self.bare", false⟩]]), maxStatements := 7 }
    10 .none [.inc [⟨"self.bare", false⟩]]).outcome = .exceeded := by decide +kernel

end C17
