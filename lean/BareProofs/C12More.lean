import BareProofs.C12MoreLemmas

/-!
# C12More — one number type, more of library.py / runtime.py (extension of `C12`)

`LibH2` (host level: `PyNum = int | float`, partial Python-typed primitives, `int()` exactly where library.py has it) refines the
one-number-type functions over `Rat` for 21 further library functions, for **all** arguments and whatever argument-model table
`extract.py` regenerates:

* numbers only stored / moved / compared: `arrayCopy arrayExtend arrayLength arrayNew arrayPop arrayPush arrayShift stringLength
  systemCompare mathMax mathMin` — unconditional;
* host-typed use of a number: `jsonStringify` (`' ' * indent`), `datetimeNew` (`calendar.monthrange`, `datetime.datetime` want ints;
  the carries run in int or float arithmetic depending on the spelling), `mathAbs mathCeil mathFloor mathSign` (result host type
  differs, value does not) — unconditional;
* text of a number: `stringNew arrayJoin` — for host ints inside the quantifier (|n| < 1e15), given that such an integer prints the
  same as a float and as an int (`Sane.text_int`);
* `value_round_number`: `mathRound numberToFixed` (the latter also `f'{x:.{int(digits)}f}'`) — for a value that is a double / small
  int and an integral digit count 0..22 (the F15 boundary), over an abstract rounding function.

Operators: unary `-`, `+`, `-`, `/`, `%` (`opNeg_refines` … `opMod_refines`; the int/int cases of `+ - %` need the exact integer
result to be a double — true inside the quantifier |n| < 1e15, false beyond 2^53: `opAdd_unbounded_not_refines`).

The `for` loop as lowered by the parser (index variable, `arrayLength`, `!length`, `arrayGet`, `index + 1`, `index < length`):
`forLoop_visits` (every element once, in order, whatever the spelling of the `0`/`1` nodes and of the array's numbers) and
`forLoop_spelling_irrelevant`; these two use the argument models of arrayGet / arrayLength as generated now (`getTable`, `lenTable`).

`datetimeNew_int_tuple` ties the host-level `datetimeNew` to the integer mirror of C16.

Excluded refactorings (witness theorems): `jsonStringifyNoInt_not_refines`, `datetimeNewNoInt_not_refines`.
-/

namespace C12More
open LibH LibH2 C12

/-- what a body needs to know about the (validated) argument list it receives; `True` for all functions except the four that print or
    round a number -/
def PreBody (E : Env) : String → List HVal → Prop
  | "stringNew", v => ∀ a, list1 v = some a → TextOk a
  | "arrayJoin", v => ∀ a s xs, list2 v = some (a, s) → a.asArr? = some xs → ∀ x ∈ xs, TextOk x
  | "mathRound", v => ∀ a d x dg, list2 v = some (a, d) → a.asNum? = some x → d.asNum? = some dg → NumOk E x ∧ DigitsOk dg
  | "numberToFixed", v =>
      ∀ a d t x dg, list3 v = some (a, d, t) → a.asNum? = some x → d.asNum? = some dg → NumOk E x ∧ DigitsOk dg
  | _, _ => True

def conditional : List String := ["stringNew", "arrayJoin", "mathRound", "numberToFixed"]

theorem preBody_trivial (E : Env) (name : String) (h : name ∉ conditional) (v : List HVal) : PreBody E name v := by
  unfold PreBody
  split
  · exact absurd (by decide) h
  · exact absurd (by decide) h
  · exact absurd (by decide) h
  · exact absurd (by decide) h
  · trivial

/-- the dispatch table row by row; only the four `conditional` rows need anything -/
theorem body2_rows (E : Env) (name : String) (v : List HVal) (h : name ∈ conditional → Sane E ∧ PreBody E name v) :
    absB (bodyH2 E name v) = bodyA2 E name (v.map absV) := by
  unfold bodyH2 bodyA2
  split
  · exact arrayCopy_ref v
  · exact arrayExtend_ref v
  · exact arrayJoin_ref E (h (by decide)).1 v (h (by decide)).2
  · exact arrayLength_ref v
  · exact arrayNew_ref v
  · exact arrayPop_ref v
  · exact arrayPush_ref v
  · exact arrayShift_ref v
  · exact stringLength_ref v
  · exact stringNew_ref E (h (by decide)).1 v (h (by decide)).2
  · exact systemCompare_ref v
  · exact jsonStringify_ref E v
  · exact mathAbs_ref v
  · exact mathCeil_ref v
  · exact mathFloor_ref v
  · exact mathSign_ref v
  · exact extremum_ref 1 v
  · exact extremum_ref (-1) v
  · exact mathRound_ref E (h (by decide)).1 v (h (by decide)).2
  · exact numberToFixed_ref E (h (by decide)).1 v (h (by decide)).2
  · exact datetimeNew_ref v
  · rfl

/-- every body of `LibH2` refines its one-number-type version: same value, same failure (class and failure value), same new contents of
    a mutated array. -/
theorem body2_refines (E : Env) (hE : Sane E) (name : String) (v : List HVal) (hpre : PreBody E name v) :
    absB (bodyH2 E name v) = bodyA2 E name (v.map absV) :=
  body2_rows E name v fun _ => ⟨hE, hpre⟩

theorem validated2_eq (name : String) (args : List HVal) :
    validated2 name args = validatedWith ((modelName2 name).map argModel) args := rfl

/-- for every function of the `LibH2` table (any name: unmodelled names are the trivially failing body on
    both sides) and ALL argument lists, the wrapped host-level call with spellings forgotten afterwards equals the one-number-type call
    on the abstracted arguments — the value of the call expression (including the failure values null / 0 produced by the call wrapper
    for `ValueArgsError` and for swallowed host exceptions such as the `TypeError` of `' ' * 2.0`) and the post-call contents of the
    argument objects.  `hpre` speaks about the validated argument list the body receives and is `True` except for
    `stringNew`/`arrayJoin` (host ints printed directly must be below 1e15) and `mathRound`/`numberToFixed` (the value is a double or a
    small int, the digit count an integer 0..22: the F15 boundary). -/
theorem libH2_refines_lib (E : Env) (hE : Sane E) (name : String) (args : List HVal)
    (hpre : ∀ v, validated2 name args = some v → PreBody E name v) :
    absOut (callH2 E name args) = callA2 E name (args.map absV) := by
  unfold callH2 callA2
  rw [callWith_abs _ _ _ (bodyA2 E name) _ fun v hv => body2_refines E hE name v (hpre v ((validated2_eq name args).trans hv))]
  cases failZero name <;> rfl

/-- for the 17 functions that neither print nor round a number the refinement is unconditional — no
    hypothesis on the abstract host functions, on the arguments or on the argument-model tables. -/
theorem libH2_refines_lib_exact (E : Env) (name : String) (hn : name ∉ conditional) (args : List HVal) :
    absOut (callH2 E name args) = callA2 E name (args.map absV) := by
  unfold callH2 callA2
  rw [callWith_abs _ _ _ (bodyA2 E name) _ fun v _ => body2_rows E name v fun h => absurd h hn]
  cases failZero name <;> rfl

/-- two argument lists that are equal up to the int/float spelling of their numbers (at every depth) give
    the same result and the same post-call arguments, up to spelling. -/
theorem spelling_irrelevant2 (E : Env) (hE : Sane E) (name : String) (args args' : List HVal)
    (h : args.map absV = args'.map absV)
    (hpre : ∀ v, validated2 name args = some v → PreBody E name v)
    (hpre' : ∀ v, validated2 name args' = some v → PreBody E name v) :
    absOut (callH2 E name args) = absOut (callH2 E name args') := by
  rw [libH2_refines_lib E hE name args hpre, libH2_refines_lib E hE name args' hpre', h]

/-- the unconditional form for the functions that neither print nor round a number: in particular a script literal (always a float) works
    as `jsonStringify` indent and as any `datetimeNew` field exactly like the int. -/
theorem spelling_irrelevant2_exact (E : Env) (name : String) (hn : name ∉ conditional) (args args' : List HVal)
    (h : args.map absV = args'.map absV) :
    absOut (callH2 E name args) = absOut (callH2 E name args') := by
  rw [libH2_refines_lib_exact E name hn, libH2_refines_lib_exact E name hn, h]

/-- whatever spelling each of the seven integral fields has, the host-level body of `datetimeNew` — carries
    and month normalisation in int *or* float arithmetic, `int()` before `calendar.monthrange` and `datetime.datetime` — computes the
    integer mirror of C16 (`Datetime.datetimeNewCore`, about which `C16` proves the calendar facts) on the integer tuple; a `ValueError` of
    the constructor is the same `ValueError`. -/
theorem datetimeNew_int_tuple (v : List HVal) (y mo d h mi s ms : Int)
    (hv : v.map absV = [ofI y, ofI mo, ofI d, ofI h, ofI mi, ofI s, ofI ms]) :
    absB (datetimeNewH v) = ofCore (Datetime.datetimeNewCore y mo d h mi s ms) := by
  -- the spelling does not matter, so take every field as a host int: there the host computation is the integer one, step by step
  have hv' : v.map absV = [.num (.int y), .num (.int mo), .num (.int d), .num (.int h), .num (.int mi), .num (.int s), .num (.int ms)].map absV := hv
  rw [datetimeNew_ref, hv', ← datetimeNew_ref]
  exact datetimeCoreH_int y mo d h mi s ms

/-- unary `-`: exact in both spellings. -/
theorem opNeg_refines (a : PyNum) : (opNegH a).abs = -a.abs := by
  cases a
  · exact Int.cast_neg _
  · rfl

/-- an operand that is a double reaches a float operation unchanged -/
theorem toFloatH_fix (rnd : Rat → Rat) (a : PyNum) (ha : rnd a.abs = a.abs) : toFloatH rnd a = a.abs :=
  (toFloatH_abs rnd a (isDouble_of_fix rnd a ha)).trans ha

/-- the operator `+` (`left_value + right_value`): for operands that are doubles (a float always; an int when |n| < 2^53) the sum depends
    only on the values, **provided the exact sum of two host ints is a double** (`hsum`; true inside the quantifier |n| < 1e15 — beyond
    2^53 the int spelling keeps the exact sum, see `opAdd_unbounded_not_refines`). -/
theorem opAdd_refines (rnd : Rat → Rat) (a b : PyNum) (ha : rnd a.abs = a.abs) (hb : rnd b.abs = b.abs)
    (hsum : ∀ m n, a = .int m → b = .int n → rnd (((m + n : Int)) : Rat) = ((m + n : Int) : Rat)) :
    (opAddH rnd a b).abs = opAddA rnd a.abs b.abs := by
  rw [opAddA, ha, hb]
  cases a <;> cases b
  · exact (hsum _ _ rfl rfl).symm.trans (congrArg rnd (Int.cast_add _ _))
  all_goals simp only [opAddH, abs_float, toFloatH_fix rnd _ ha, toFloatH_fix rnd _ hb]

theorem opSub_refines (rnd : Rat → Rat) (a b : PyNum) (ha : rnd a.abs = a.abs) (hb : rnd b.abs = b.abs)
    (hdiff : ∀ m n, a = .int m → b = .int n → rnd (((m - n : Int)) : Rat) = ((m - n : Int) : Rat)) :
    (opSubH rnd a b).abs = opSubA rnd a.abs b.abs := by
  rw [opSubA, ha, hb]
  cases a <;> cases b
  · exact (hdiff _ _ rfl rfl).symm.trans (congrArg rnd (Int.cast_sub _ _))
  all_goals simp only [opSubH, abs_float, toFloatH_fix rnd _ ha, toFloatH_fix rnd _ hb]

/-- the operator `/` (true division; `none` = ZeroDivisionError → null): int / int is the correctly rounded exact quotient, which is the
    one-number-type quotient when both ints are doubles. -/
theorem opDiv_refines (rnd : Rat → Rat) (a b : PyNum) (ha : rnd a.abs = a.abs) (hb : rnd b.abs = b.abs) :
    opDivH rnd a b = opDivA rnd a.abs b.abs := by
  rw [opDivA, ha, hb]
  cases a <;> cases b
  · rw [opDivH, beq_intCast]; rfl
  all_goals simp only [opDivH, toFloatH_fix rnd _ ha, toFloatH_fix rnd _ hb]

/-- the operator `%` (`none` = ZeroDivisionError → null): int % int is the exact remainder with the sign of the divisor, the float path is
    C `fmod` (exact) plus one rounded sign-adjusting addition; they agree when that adjusted remainder — an integer of magnitude below the
    divisor's — is a double (`hI`; always true inside the quantifier |n| < 1e15). -/
theorem opMod_refines (rnd : Rat → Rat) (a b : PyNum) (ha : rnd a.abs = a.abs) (hb : rnd b.abs = b.abs)
    (hI : ∀ m n, a = .int m → b = .int n → rnd (((Int.tmod m n + n : Int)) : Rat) = ((Int.tmod m n + n : Int) : Rat)) :
    (opModH rnd a b).map PyNum.abs = opModA rnd a.abs b.abs := by
  rw [opModA, ha, hb]
  cases a with
  | int m => cases b with
    | int n =>
      by_cases hn : n = 0
      · subst hn; rfl
      · have hq : (n : Rat) ≠ 0 := Int.cast_ne_zero.mpr hn
        simp only [opModH, abs_int, beq_iff_eq, hn, hq, if_false, Option.map_some, floatMod_int rnd m n hn (hI m n rfl rfl)]
    | float q => simp only [opModH, toFloatH_fix rnd _ ha, toFloatH_fix rnd _ hb, apply_ite (Option.map PyNum.abs)]; rfl
  | float p =>
    cases b <;> (simp only [opModH, toFloatH_fix rnd _ ha, toFloatH_fix rnd _ hb, apply_ite (Option.map PyNum.abs)]; rfl)

theorem arrayGet_result_abs (values : HVal) (index : PyNum) :
    absV (callH "arrayGet" [values, .num index]).result = (callA "arrayGet" [absV values, .num index.abs]).result :=
  congrArg Out.result (libH_refines_lib "arrayGet" [values, .num index])

theorem lengthCall_abs (values : HVal) : absV (lengthCallH values) = lengthCallA (absV values) := by
  unfold lengthCallH lengthCallA
  generalize argModel "_ARRAY_LENGTH_ARGS" = table
  exact congrArg Out.result (callWith_abs (.num (.int 0)) (some table) _ (arrayLengthG (fun (n : Int) => (n : Rat))) [values]
    fun v _ => arrayLength_ref v)

/-- The iteration refines as long as `index + one` is spelling-blind on the indices it actually reaches: `P index fuel` is any
    invariant of the iteration that makes it so. -/
theorem forIter_ref (rnd : Rat → Rat) (one : PyNum) (values length : HVal) (P : PyNum → Nat → Prop)
    (hstep : ∀ a f, P a (f + 1) → (opAddH rnd a one).abs = opAddA rnd a.abs one.abs ∧ P (opAddH rnd a one) f) :
    ∀ (f : Nat) (index : PyNum), P index f →
      (forIterH rnd one values length f index).map absP = forIterA rnd one.abs (absV values) (absV length) f index.abs := by
  intro f
  induction f with
  | zero => intro index _; rfl
  | succ f ih =>
    intro index hP
    obtain ⟨hadd, hP'⟩ := hstep index f hP
    simp only [forIterH, forIterA, List.map_cons, absP, absV_num, arrayGet_result_abs, cmp_abs, hadd]
    congr 1
    split
    · rw [ih _ hP', hadd]
    · rfl

def arrLenA : AVal → Nat
  | .arr xs => xs.length
  | _ => 0

theorem forLoop_ref (rnd : Rat → Rat) (zero one : PyNum) (values : HVal) (P : PyNum → Nat → Prop)
    (hstep : ∀ a f, P a (f + 1) → (opAddH rnd a one).abs = opAddA rnd a.abs one.abs ∧ P (opAddH rnd a one) f)
    (h0 : P zero (arrLenA (absV values))) :
    (forLoopH rnd zero one values).map absP = forLoopA rnd zero.abs one.abs (absV values) := by
  simp only [forLoopH, forLoopA, ← lengthCall_abs, ← truthy_abs]
  split
  · rfl
  · have h := forIter_ref rnd one values (lengthCallH values) P hstep _ zero h0
    cases values with
    | arr xs => simpa only [absV_arr, arrLenA, List.length_map] using h
    | _ => exact h

/-- (partial: `hadd` quantifies over ALL index values, which exact rounding satisfies but IEEE rounding only
    below 2^53 — the full statement for IEEE rounding is `forLoop_visits` / `forLoop_spelling_irrelevant` below, which need the rounding to be
    exact only on 0 … length): the bindings `(index, value)` a `for` loop body sees do not depend on the spelling of the `0` and `1` number
    nodes the parser emits, of the array length (`arrayLength` yields a host int) or of the numbers in the array: the host-level execution
    of the lowered statements (arrayLength, `!length`, arrayGet through the call wrapper, `index + 1`, `index < length`) refines the
    one-number-type execution.  `hadd`: adding the increment is spelling-blind (`opAdd_refines`; immediate for exact rounding). -/
theorem forLoop_refines_partial (rnd : Rat → Rat) (zero one : PyNum) (values : HVal)
    (hadd : ∀ a : PyNum, (opAddH rnd a one).abs = opAddA rnd a.abs one.abs) :
    (forLoopH rnd zero one values).map absP = forLoopA rnd zero.abs one.abs (absV values) :=
  forLoop_ref rnd zero one values (fun _ _ => True) (fun a _ _ => ⟨hadd a, trivial⟩) trivial

/-- the argument model of arrayGet as `extract.py` generates it now (the proof breaks, visibly, if library.py changes it) -/
theorem getTable : argModel "_ARRAY_GET_ARGS" =
    [{ name := "array", type := some "array", nullable := false, default := none, lastArgArray := false, integer := false, lt := none, lte := none, gt := none, gte := none },
     { name := "index", type := some "number", nullable := false, default := none, lastArgArray := false, integer := true, lt := none, lte := none, gt := none, gte := some 0 }] := by
  decide +kernel

theorem lenTable : argModel "_ARRAY_LENGTH_ARGS" =
    [{ name := "array", type := some "array", nullable := false, default := none, lastArgArray := false, integer := false, lt := none, lte := none, gt := none, gte := none }] := by
  decide +kernel

theorem lengthCallA_arr (xs : List AVal) : lengthCallA (.arr xs) = ofI xs.length := by
  rw [lengthCallA, lenTable]; rfl

theorem arrayGetA_nat (xs : List AVal) (k : Nat) (hk : k < xs.length) :
    (callA "arrayGet" [.arr xs, .num (k : Rat)]).result = xs[k] := by
  have h0 : ¬ ((k : Rat) < 0) := by
    have : (0 : Rat) ≤ (k : Rat) := by exact_mod_cast Nat.zero_le k
    exact not_lt.mpr this
  have h1 : ratTrunc (k : Rat) = (k : Int) := by
    have := ratTrunc_intCast (k : Int); simpa using this
  have h2 : (k : Rat) < (xs.length : Rat) := by exact_mod_cast hk
  simp [callA, callWith, modelName, bodyA, getTable, validateA, validate, checkArg, typeOk, typeName, numOkA, h0, h1, h2, arrayGetA, list2, req,
    Val.asArr?, Val.asNum?, wrap, bind, Except.bind, pure, Except.pure, Option.bind, geLenA, idxA, normIndex, hk]

theorem valCmp_num (a b : Rat) : valCmp ratCmp (.num a) (.num b) = ratCmp a b := rfl

theorem ratCmp_neg (a b : Rat) : (ratCmp a b < 0) ↔ a < b := by
  unfold ratCmp tri
  by_cases h : a < b
  · simp [h]
  · by_cases h2 : a = b <;> simp [h, h2]

/-- what the loop body sees from index `k` on -/
def visits (xs : List AVal) (k f : Nat) : List (AVal × AVal) :=
  (List.range' k f).map (fun (j : Nat) => ((Val.num (j : Rat) : AVal), xs[j]?.getD .null))

/-- `k + 1` computed by the one-number-type `+` is exact where the naturals up to `n` are doubles -/
theorem opAddA_nat (rnd : Rat → Rat) (k n : Nat) (hk : k + 1 ≤ n) (hr : ∀ j : Nat, j ≤ n → rnd (j : Rat) = (j : Rat)) :
    opAddA rnd (k : Rat) 1 = ((k + 1 : Nat) : Rat) := by
  have h1 := hr 1 (by omega)
  rw [Nat.cast_one] at h1
  rw [opAddA, h1, hr k (by omega), ← hr (k + 1) hk, Nat.cast_succ]

theorem forIterA_visits (rnd : Rat → Rat) (xs : List AVal) (hr : ∀ k : Nat, k ≤ xs.length → rnd (k : Rat) = (k : Rat)) :
    ∀ (f k : Nat), k + f = xs.length →
      forIterA rnd 1 (.arr xs) (ofI xs.length) f (k : Rat) = visits xs k f := by
  intro f
  induction f with
  | zero => intro k _; rfl
  | succ f ih =>
    intro k hk
    have hk1 : k < xs.length := by omega
    simp only [forIterA, arrayGetA_nat xs k hk1, opAddA_nat rnd k xs.length hk1 hr, ofI, valCmp_num, ratCmp_neg, visits,
      List.range'_succ, List.map_cons, List.getElem?_eq_getElem hk1, Option.getD_some]
    congr 1
    by_cases hlt : ((k + 1 : Nat) : Rat) < ((xs.length : Int) : Rat)
    · rw [if_pos hlt]
      exact ih (k + 1) (by omega)
    · have hf : f = 0 := by
        have : ¬ (k + 1 < xs.length) := fun hc => hlt (by exact_mod_cast hc)
        omega
      subst hf
      rw [if_neg hlt]; rfl

theorem forLoopA_visits (rnd : Rat → Rat) (xs : List AVal) (hr : ∀ k : Nat, k ≤ xs.length → rnd (k : Rat) = (k : Rat)) :
    forLoopA rnd 0 1 (.arr xs) = visits xs 0 xs.length := by
  have h := forIterA_visits rnd xs hr xs.length 0 (Nat.zero_add _)
  rw [Nat.cast_zero] at h
  simp only [forLoopA, lengthCallA_arr, h]
  split
  · -- `!length` holds only of the empty array, which has nothing to visit either
    rename_i hc
    have hz : xs = [] := by simpa [truthy, ofI] using hc
    rw [hz]; rfl
  · rfl

/-- adding the increment to a host index holding the natural number `k` is spelling-blind -/
theorem opAdd_nat (rnd : Rat → Rat) (idx one : PyNum) (k n : Nat) (hi : idx.abs = (k : Rat)) (ho : one.abs = 1) (hk : k + 1 ≤ n)
    (hr : ∀ j : Nat, j ≤ n → rnd (j : Rat) = (j : Rat)) : (opAddH rnd idx one).abs = opAddA rnd idx.abs one.abs := by
  have h1 := hr 1 (by omega)
  rw [Nat.cast_one] at h1
  refine opAdd_refines rnd idx one (by rw [hi]; exact hr k (by omega)) (by rw [ho]; exact h1) ?_
  rintro m n' rfl rfl
  rw [abs_int] at hi ho
  have hm : m = (k : Int) := by exact_mod_cast hi
  have hn : n' = 1 := by exact_mod_cast ho
  subst hm hn
  exact_mod_cast hr (k + 1) hk

/-- what a `for` loop over `values` shows its body: every element once, in order, with its index; nothing for a non-array -/
def visitsAll : AVal → List (AVal × AVal)
  | .arr xs => visits xs 0 xs.length
  | _ => []

/-- the lowered `for` loop, executed at host level with the `0` / `1` number nodes in either spelling (host ints
    from the parser, floats from a JSON-loaded script model) over an array whose numbers have any spelling, binds `(k, values[k])` for
    `k = 0 … len-1` in order — and nothing when `values` is not an array (arrayLength's failure value 0) — provided the naturals up to
    the array length are doubles (`hr`; true of IEEE rounding for every array that fits in memory). -/
theorem forLoop_visits (rnd : Rat → Rat) (zero one : PyNum) (values : HVal) (hz : zero.abs = 0) (ho : one.abs = 1)
    (hr : ∀ k : Nat, k ≤ arrLenA (absV values) → rnd (k : Rat) = (k : Rat)) :
    (forLoopH rnd zero one values).map absP = visitsAll (absV values) := by
  -- the index holds 0, 1, 2, … and `index + fuel` is the array length: on these `index + one` is spelling-blind
  rw [forLoop_ref rnd zero one values (fun idx f => ∃ k : Nat, idx.abs = k ∧ k + f = arrLenA (absV values)) ?_
    ⟨0, by rw [hz, Nat.cast_zero], Nat.zero_add _⟩, hz, ho]
  · generalize absV values = w at hr
    cases w with
    | arr xs => exact forLoopA_visits rnd xs hr
    | _ => unfold forLoopA; exact ite_self []
  · rintro a f ⟨k, hk, hkf⟩
    have hadd := opAdd_nat rnd a one k _ hk ho (by omega) hr
    refine ⟨hadd, k + 1, ?_, by omega⟩
    rw [hadd, hk, ho, opAddA_nat rnd k _ (by omega) hr]

/-- the bindings a `for` loop body sees do not depend on the spelling of the loop's `0` and `1`
    nodes nor on the spelling of the numbers in the iterated value. -/
theorem forLoop_spelling_irrelevant (rnd : Rat → Rat) (zero zero' one one' : PyNum) (values values' : HVal)
    (hz : zero.abs = 0) (hz' : zero'.abs = 0) (ho : one.abs = 1) (ho' : one'.abs = 1) (hv : absV values = absV values')
    (hr : ∀ k : Nat, k ≤ arrLenA (absV values) → rnd (k : Rat) = (k : Rat)) :
    (forLoopH rnd zero one values).map absP = (forLoopH rnd zero' one' values').map absP := by
  rw [forLoop_visits rnd zero one values hz ho hr, forLoop_visits rnd zero' one' values' hz' ho' (hv ▸ hr), hv]

/-! ### the theorems exclude realistic refactorings -/

/-- `jsonStringify` without the `int(indent)`: a float indent makes `' ' * indent` a TypeError, the call evaluates to null. -/
theorem jsonStringifyNoInt_not_refines (E : Env) :
    ∃ v : List HVal, absB (jsonStringifyNoIntH E v) ≠ jsonStringifyA E (v.map absV) := by
  refine ⟨[.null, .num (.float 2)], ?_⟩
  have h02 : (0 : Rat) < 2 := by decide
  simp [absB, jsonStringifyNoIntH, jsonStringifyA, list2, req, Val.asOptNum?, bind, Except.bind, jsonH, hostE, h02, absE, absFail,
    pure, Except.pure]

def isOkR : Except (Fail Rat) (BodyR Rat) → Bool
  | .ok _ => true
  | .error _ => false

/-- `datetimeNew` without the final `int()` conversions: float fields make `datetime.datetime(...)` a TypeError. -/
theorem datetimeNewNoInt_not_refines :
    ∃ v : List HVal, absB (datetimeNewNoIntH v) ≠ datetimeNewA (v.map absV) := by
  refine ⟨[.num (.float 2020), .num (.float 1), .num (.float 1), .num (.float 0), .num (.float 0), .num (.float 0), .num (.float 0)], ?_⟩
  intro h
  have h2 := congrArg isOkR h
  revert h2
  decide +kernel

/-- `+` on two host ints whose exact sum is not a double does not refine the one-number-type sum (the reason for `hsum`): with a rounding
    function that moves 6 (standing for an integer above 2^53) the int spelling keeps 6, the one-number-type sum is the rounded 8. -/
theorem opAdd_unbounded_not_refines : ∃ (rnd : Rat → Rat) (a b : Int), (∀ q, rnd (rnd q) = rnd q) ∧
    rnd (a : Rat) = (a : Rat) ∧ rnd (b : Rat) = (b : Rat) ∧ (opAddH rnd (.int a) (.int b)).abs ≠ opAddA rnd a b := by
  refine ⟨fun q => if q = 6 then 8 else q, 2, 4, ?_, ?_, ?_, ?_⟩
  · intro q
    by_cases h : q = 6
    · simp only [h, if_true]; decide +kernel
    · simp [h]
  · decide +kernel
  · decide +kernel
  · simp only [opAddH, opAddA, abs_int]; decide +kernel

/-- a concrete environment: exact arithmetic, integral floats print like ints -/
def E0 : Env where
  rnd := id
  floatText := fun q => if q.den = 1 then intText q.num else "?"
  jsonText := fun _ i => match i with | some _ => "indented" | none => "compact"
  fixedText := fun _ d => intText d
  opaqueText := fun k _ => k
  cleanup := id

/-- the hypotheses on the abstract host functions are satisfiable -/
theorem sane_E0 : Sane E0 := ⟨fun _ => rfl, fun _ => rfl, fun _ _ => rfl, fun _ _ => rfl, fun n _ => by simp [E0]⟩

/-- jsonStringify with a float indent (a script literal) is indented, exactly like the int -/
example : (match callH2 E0 "jsonStringify" [.obj [("a", .num (.int 1))], .num (.float 2)] with
    | ⟨.str "indented", _⟩ => true
    | _ => false) = true := by decide +kernel

/-- a non-integral indent is rejected by validation (failure value null) -/
example : (match callH2 E0 "jsonStringify" [.obj [("a", .num (.int 1))], .num (.float (3 / 2))] with
    | ⟨.null, _⟩ => true
    | _ => false) = true := by decide +kernel

/-- datetimeNew with mixed spellings and every carry active: 2020-13-32 25:61:61.1001 is 2021-02-02 02:02:02.001 -/
example : (match callH2 E0 "datetimeNew" [.num (.float 2020), .num (.int 13), .num (.float 32), .num (.int 25), .num (.float 61),
      .num (.int 61), .num (.float 1001)] with
    | ⟨.opaque "datetime" 63747828122001, _⟩ => true
    | _ => false) = true := by decide +kernel

/-- arrayPush mutates its first argument and collects the rest, whatever the spellings -/
example : (match callH2 E0 "arrayPush" [.arr [.num (.int 1)], .num (.float 2), .str "x"] with
    | ⟨.arr [.num (.int 1), .num (.float 2), .str "x"], [.arr [.num (.int 1), .num (.float 2), .str "x"], _, _]⟩ => true
    | _ => false) = true := by decide +kernel

/-- `libH2_refines_lib_exact` / `spelling_irrelevant2_exact`: the hypotheses are inhabited by a non-trivial pair (numbers at depth 2) -/
example : absOut (callH2 E0 "mathMax" [.arr [.num (.int 1), .arr [.num (.float 2)]], .num (.float 0)])
    = absOut (callH2 E0 "mathMax" [.arr [.num (.float 1), .arr [.num (.int 2)]], .num (.int 0)]) :=
  spelling_irrelevant2_exact E0 "mathMax" (by decide) _ _ (by simp [abs_int, abs_float])

/-- `datetimeNew_int_tuple`: mixed spellings of 2020-13-32 25:61:61.1001 -/
example : absB (datetimeNewH [.num (.float 2020), .num (.int 13), .num (.float 32), .num (.int 25), .num (.float 61), .num (.int 61),
      .num (.float 1001)]) = ofCore (Datetime.datetimeNewCore 2020 13 32 25 61 61 1001) :=
  datetimeNew_int_tuple _ 2020 13 32 25 61 61 1001 (by simp [ofI, abs_int, abs_float])

/-- the operator hypotheses are inhabited: `2 + 0.5` under exact rounding -/
example : (opAddH id (.int 2) (.float (1 / 2))).abs = opAddA id 2 (1 / 2) :=
  opAdd_refines id (.int 2) (.float (1 / 2)) rfl rfl (fun _ _ _ h => by cases h)

/-- `-7 % 3` is 2 in both spellings -/
example : (opModH id (.int (-7)) (.int 3)).map PyNum.abs = opModA id (-7) 3 :=
  opMod_refines id (.int (-7)) (.int 3) rfl rfl (fun _ _ _ _ => rfl)

/-- the for loop with a float `0` node and an int `1` node visits both elements -/
example : (match forLoopH id (.float 0) (.int 1) (.arr [.str "a", .str "b"]) with
    | [(.num (.float 0), .str "a"), (.num (.float 1), .str "b")] => true
    | _ => false) = true := by decide +kernel

example : (forLoopH id (.float 0) (.int 1) (.arr [.str "a", .str "b"])).map absP
    = forLoopA id 0 1 (absV (.arr [.str "a", .str "b"])) :=
  forLoop_refines_partial id (.float 0) (.int 1) _ (fun a => opAdd_refines id a (.int 1) rfl rfl (fun _ _ _ _ => rfl))

/-- `forLoop_visits` / `forLoop_spelling_irrelevant`: a rounding function that is exact on 0..3 only (it moves everything else to 0) is enough
    for a 2-element array -/
example : (forLoopH (fun q => if q = 0 ∨ q = 1 ∨ q = 2 ∨ q = 3 then q else 0) (.float 0) (.int 1) (.arr [.num (.int 7), .str "b"])).map absP
    = (forLoopH (fun q => if q = 0 ∨ q = 1 ∨ q = 2 ∨ q = 3 then q else 0) (.int 0) (.float 1) (.arr [.num (.float 7), .str "b"])).map absP :=
  forLoop_spelling_irrelevant _ _ _ _ _ _ _ rfl rfl rfl rfl (by simp [abs_int, abs_float]) (by
    intro k hk
    simp only [absV_arr, arrLenA, List.length_map, List.length_cons, List.length_nil] at hk
    have : k = 0 ∨ k = 1 ∨ k = 2 := by omega
    rcases this with rfl | rfl | rfl <;> simp)

end C12More
