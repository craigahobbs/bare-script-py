import BareModel.PrintScript
import BareProofs.C10BreakFrame

/-!
# C01 from source text — the printed line in the frames of `C10BreakFrame`

`PrintScript.printLineL` writes every line kind in one layout: one blank where the pattern has `\s+`, none where it has
`\s*`.  So the printed line is the frame of its kind (`C10.frame_header`, `frame_for`, …, `classifyL_function`) at these blank
runs, an expression text that passes `ExprTextOK` is admissible in every frame (`starts_of_textOK`), and the cascade reads the
line back as the line it was printed from (`classifyL_header`, `classifyL_for`, `classifyL_assign`, `classifyL_func`; the
other kinds directly in `C01.classifyL_printLineL`).  Then the first and last character of a printed line
(`printLineL_text`, for the line layer).
-/

namespace C01
open Text Scan PrintScript

theorem nameOf_nameL {n : Name} (h : NameOK n = true) : nameOf (nameL n) = n := by
  simp only [NameOK, Bool.and_eq_true, decide_eq_true_eq] at h
  simp [nameOf, nameL, h.2]

theorem nameOK_ident {n : Name} (h : NameOK n = true) : isIdent (nameL n) = true := by
  simp only [NameOK, Bool.and_eq_true] at h; exact h.1

/-- starts with a non-blank -/
def NS (r : Chars) : Prop := ∃ x xs, r = x :: xs ∧ isSpace x = false

theorem NS.lstrip {r : Chars} (h : NS r) : lstripL r = r := by
  obtain ⟨x, xs, rfl, hx⟩ := h; exact C10.lstripL_cons_ns hx xs

theorem reverse_dropWhile_snoc_ns {c : Char} (l : Chars) (h : isSpace c = false) :
    (l ++ [c]).reverse.dropWhile isSpace = c :: l.reverse := by
  simp [h]

theorem toList_append_blank (kw : String) (t : Chars) : (kw ++ " ").toList ++ t = kw.toList ++ ' ' :: t := by
  simp [String.toList_append]

/-- a backslash in front of an escaped text keeps it escaped -/
theorem quotesEscaped_bs {t : Chars} (h : quotesEscaped t = true) : quotesEscaped ('\\' :: t) = true := by
  cases t with
  | nil => rfl
  | cons c r =>
    by_cases hc : c = '\''
    · subst hc; simp [quotesEscaped] at h
    · -- the last equation of `quotesEscaped`; its side conditions say that the earlier ones do not apply
      rw [quotesEscaped]; exact h
      all_goals simp [hc]

theorem escapeUrl_spec : ∀ u : Chars, quotesEscaped (escapeUrl u) = true ∧ unescapeQuote (escapeUrl u) = u
  | [] => ⟨rfl, rfl⟩
  | c :: r => by
      obtain ⟨h1, h3⟩ := escapeUrl_spec r
      by_cases hb : c = '\\'
      · subst hb
        simp [escapeUrl, quotesEscaped, unescapeQuote, quotesEscaped_bs h1, h3]
      · by_cases hq : c = '\''
        · subst hq
          simp [escapeUrl, quotesEscaped, unescapeQuote, h1, h3]
        · simp only [escapeUrl, hb, hq, or_self, if_false]
          constructor
          · rw [quotesEscaped]; exact h1
            all_goals simp [hb, hq]
          · rw [unescapeQuote, h3]
            all_goals simp [hb]

theorem exprTextOK_facts {t : Chars} (h : ExprTextOK t = true) :
    '\n' ∉ t ∧ (∃ c e, t = c :: e ∧ isSpace c = false ∧ c ≠ '=' ∧ c ≠ ':' ∧ c ≠ '#') ∧
    (∃ d, t.getLast? = some d ∧ isSpace d = false ∧ d ≠ '\\') := by
  simp only [ExprTextOK, Bool.and_eq_true, Bool.not_eq_true', List.contains_eq_mem, decide_eq_false_iff_not] at h
  obtain ⟨⟨h1, h2⟩, h3⟩ := h
  refine ⟨h1, ?_, ?_⟩
  · cases t with
    | nil => simp at h2
    | cons c e =>
      simp only [List.head?_cons, headOK, Bool.and_eq_true, Bool.not_eq_true', bne_iff_ne, ne_eq] at h2
      exact ⟨c, e, rfl, h2.1.1.1, h2.1.1.2, h2.1.2, h2.2⟩
  · cases hl : t.getLast? with
    | none => rw [hl] at h3; simp at h3
    | some d =>
      rw [hl] at h3
      simp only [lastOK, Bool.and_eq_true, Bool.not_eq_true', bne_iff_ne, ne_eq] at h3
      exact ⟨d, rfl, h3.1, h3.2⟩

theorem lineOK_names {pe : Expr → Chars} {l : Line} (h : LineOK pe l = true) : ∀ n ∈ names l, NameOK n = true := by
  simp only [LineOK, Bool.and_eq_true, List.all_eq_true] at h; exact h.1.1

theorem lineOK_exprs {pe : Expr → Chars} {l : Line} (h : LineOK pe l = true) : ∀ e ∈ exprs l, ExprTextOK (pe e) = true := by
  simp only [LineOK, Bool.and_eq_true, List.all_eq_true] at h; exact h.1.2

theorem lineOK_special {pe : Expr → Chars} {l : Line} (h : LineOK pe l = true) :
    (match l with
     | .exprStmt e => CallTextOK (pe e)
     | .label n => nameL n != "else".toList
     | .include url sys => !url.toList.contains '\n' && (!sys || !url.toList.contains '>')
     | _ => true) = true := by
  simp only [LineOK, Bool.and_eq_true] at h
  cases l <;> first | exact h.2 | rfl

theorem allSpace_blank : allSpace [' '] = true := by decide

/-- an expression text that can stand in a printed line is admissible in every frame -/
theorem starts_of_textOK {t : Chars} (h : ExprTextOK t = true) :
    C10.nbStart t = true ∧ C10.exprStart t = true ∧ C10.retStart t = true ∧ t ≠ [] := by
  obtain ⟨-, ⟨c, e, rfl, hs, h1, h2, -⟩, -⟩ := exprTextOK_facts h
  simp [C10.nbStart, C10.exprStart, C10.retStart, hs, h1, h2]

section
variable (parse : String → Except ParseErr Expr) (pe : Expr → Chars)

theorem classifyL_header (h : C10.Header) (hh : h ∈ C10.headers) {c : Expr} (ht : ExprTextOK (pe c) = true)
    (hp : parse (String.ofList (pe c)) = .ok c) :
    classifyL parse (h.kw.toList ++ ' ' :: (pe c ++ [':'])) = .ok (h.mkL c) := by
  have := C10.frame_ok (C10.frame_header h hh (ind := []) (w1 := [' ']) (w3 := []) rfl allSpace_blank (by simp) rfl) parse
    (starts_of_textOK ht).2.1 hp
  simpa using this

theorem forMid_ixL (i : Option Name) : C10.forMid (i.map fun x => ([], [' '], nameL x)) = ixL i := by
  cases i <;> rfl

theorem classifyL_for {v : Name} {i : Option Name} {e : Expr} (hv : NameOK v = true) (hi : ∀ x ∈ i, NameOK x = true)
    (ht : ExprTextOK (pe e) = true) (hp : parse (String.ofList (pe e)) = .ok e) :
    classifyL parse (printLineL pe (.forBegin v i e)) = .ok (.forBegin v i e) := by
  have hm : C10.forMidOK (i.map fun x => ([], [' '], nameL x)) = true := by
    cases i with
    | none => rfl
    | some x =>
      have : C10.isIdent (nameL x) = true := nameOK_ident (hi x rfl)
      simp only [Option.map_some, C10.forMidOK, allSpace_blank, this, show allSpace [] = true from rfl, Bool.and_self]
  have hn : ((i.map fun x => (([] : Chars), [' '], nameL x)).map fun m => m.2.2).map nameOf = i := by
    cases i with
    | none => rfl
    | some x => simp [nameOf_nameL (hi x rfl)]
  have := C10.frame_ok (C10.frame_for (ind := []) (w1 := [' ']) (w4 := [' ']) (w5 := [' ']) (w6 := []) _ rfl allSpace_blank (by simp)
    (nameOK_ident hv) hm allSpace_blank (by simp) allSpace_blank (by simp) rfl) parse (starts_of_textOK ht).1 hp
  rw [forMid_ixL, hn, nameOf_nameL hv] at this
  show classifyL parse ("for ".toList ++ (nameL v ++ (ixL i ++ (" in ".toList ++ (pe e ++ [':']))))) = _
  rw [show "for ".toList = "for".toList ++ [' '] by decide +kernel,
    show " in ".toList = [' '] ++ ("in".toList ++ [' ']) by decide +kernel]
  simpa only [List.nil_append, List.append_assoc] using this

theorem classifyL_assign {n : Name} {e : Expr} (hn : NameOK n = true) (ht : ExprTextOK (pe e) = true)
    (hp : parse (String.ofList (pe e)) = .ok e) :
    classifyL parse (printLineL pe (.assign n e)) = .ok (.assign n e) := by
  have := C10.frame_ok (C10.frame_assign (ind := []) (w1 := [' ']) (w2 := [' ']) rfl (nameOK_ident hn) allSpace_blank allSpace_blank) parse
    (starts_of_textOK ht).1 hp
  rw [nameOf_nameL hn] at this
  show classifyL parse (nameL n ++ (' ' :: '=' :: ' ' :: pe e)) = _
  simpa only [List.nil_append, List.append_nil, List.append_assoc, List.cons_append] using this

/-- the printed parameter list as tokens and blank runs: no blank before a comma, one after it -/
def toArgs : List Name → Option (Chars × List (Chars × Chars × Chars))
  | [] => none
  | a :: as => some (nameL a, as.map fun x => ([], [' '], nameL x))

theorem renderItems_print (as : List Name) : C10.renderItems (as.map fun x => ([], [' '], nameL x)) = moreArgsL as := by
  induction as with
  | nil => rfl
  | cons a as ih => simp [C10.renderItems, moreArgsL, ih]

theorem itemsOK_print (as : List Name) (h : ∀ a ∈ as, NameOK a = true) :
    C10.itemsOK (as.map fun x => ([], [' '], nameL x)) = true := by
  induction as with
  | nil => rfl
  | cons a as ih =>
    have : C10.isIdent (nameL a) = true := nameOK_ident (h a (.head _))
    simp only [List.map_cons, C10.itemsOK, allSpace_blank, this, show allSpace [] = true from rfl, Bool.and_self, Bool.true_and]
    exact ih fun x hx => h x (.tail _ hx)

theorem toArgs_print (args : List Name) (h : ∀ a ∈ args, NameOK a = true) :
    C10.renderArgs (toArgs args) = argsL args ∧ C10.argsOK (toArgs args) = true ∧
      (C10.argNames (toArgs args)).map nameOf = args := by
  cases args with
  | nil => exact ⟨rfl, rfl, rfl⟩
  | cons a as =>
    have ha : C10.isIdent (nameL a) = true := nameOK_ident (h a (.head _))
    refine ⟨by simp [toArgs, C10.renderArgs, argsL, renderItems_print], ?_, ?_⟩
    · simp only [toArgs, C10.argsOK, ha, Bool.true_and]; exact itemsOK_print as fun x hx => h x (.tail _ hx)
    · simp only [toArgs, C10.argNames, List.map_cons, List.map_map, nameOf_nameL (h a (.head _)), List.cons.injEq, true_and,
        Function.comp_def]
      rw [List.map_congr_left fun x hx => nameOf_nameL (h x (.tail _ hx)), List.map_id']

theorem classifyL_func {n : Name} {args : List Name} (laa a : Bool) (hn : NameOK n = true)
    (ha : ∀ x ∈ args, NameOK x = true) :
    classifyL parse (printLineL pe (.funcBegin n args laa a)) = .ok (.funcBegin n args laa a) := by
  obtain ⟨h1, h2, h3⟩ := toArgs_print args ha
  have := C10.classifyL_function parse (ind := []) (w1 := [' ']) (nm := nameL n) (w2 := []) (w3 := []) (w4 := []) (w5 := [])
    (w6 := []) (w7 := []) (if a then some [' '] else none) (toArgs args) laa rfl
    (by intro w0 h; cases a <;> simp at h; subst h; exact allSpace_blank) allSpace_blank (by simp) (nameOK_ident hn) rfl rfl h2 rfl rfl
    rfl rfl
  rw [h3, nameOf_nameL hn] at this
  have hasy : C10.asyncText (if a then some [' '] else none) = asyncL a ∧
      (if a then some [' '] else none : Option Chars).isSome = a := by
    cases a
    · exact ⟨rfl, rfl⟩
    · exact ⟨by decide +kernel, rfl⟩
  rw [hasy.2, hasy.1] at this
  show classifyL parse (asyncL a ++ ("function ".toList ++ (nameL n ++ ('(' :: (argsL args ++ (laaL laa ++ [')', ':'])))))) = _
  rw [show "function ".toList = "function".toList ++ [' '] by decide +kernel]
  simpa only [C10.fnRest, C10.fnTail, h1, C10.dotsText, laaL, List.nil_append, List.append_assoc, List.cons_append,
    List.append_nil] using this

end

theorem shapeS_if {c : Char} (e : Chars) (hs : isSpace c = false) (hc : c ≠ '=') :
    shapeS ("if ".toList ++ ((c :: e) ++ [':'])) = .ifBegin 3 (c :: e) := by
  have : shapeS _ = .ifBegin 3 (c :: e) := C10.shapeS_if (w1 := [' ']) (w3 := []) c e allSpace_blank (by simp) hs hc rfl
  rw [show "if ".toList = "if".toList ++ [' '] by decide +kernel]
  simpa only [List.append_assoc, List.cons_append, List.nil_append] using this

/-- a good first character of a line: not a blank, not `#` -/
def headGood (t : Chars) : Bool := t.head?.any fun c => !isSpace c && c != '#'
/-- a good last character of a line: not a blank (`'\r'` is one), not a backslash -/
def lastGood (t : Chars) : Bool := t.getLast?.any fun c => !isSpace c && c != '\\'

theorem headGood_append {a : Chars} (b : Chars) (h : headGood a = true) : headGood (a ++ b) = true := by
  cases a with
  | nil => cases h
  | cons c r => exact h

theorem lastGood_append (a : Chars) {b : Chars} (h : lastGood b = true) : lastGood (a ++ b) = true := by
  unfold lastGood at h ⊢
  rw [List.getLast?_append]
  cases hb : b.getLast? with
  | none => rw [hb] at h; cases h
  | some d => rw [hb] at h; exact h

theorem headGood_ident {n : Chars} (h : isIdent n = true) : headGood n = true := by
  obtain ⟨c, r, rfl, hs, hc⟩ := C10.isIdent_head_ns h
  have : c ≠ '#' := by rintro rfl; exact absurd hc (by decide)
  simp [headGood, hs, this]

theorem lastGood_ident {n : Chars} (h : isIdent n = true) : lastGood n = true := by
  have hw := C10.isIdent_word h
  obtain ⟨c, r, rfl, -, -⟩ := C10.isIdent_head_ns h
  cases hl : (c :: r).getLast? with
  | none => simp at hl
  | some d =>
    have hd := hw d (List.mem_of_getLast? hl)
    have : d ≠ '\\' := by rintro rfl; exact absurd hd (by decide)
    simp [lastGood, hl, C10.word_not_space hd, this]

theorem noNl_ident {n : Chars} (h : isIdent n = true) : '\n' ∉ n := fun hm =>
  absurd (C10.isIdent_word h _ hm) (by decide)

theorem noNl_moreArgs : ∀ (as : List Name), (∀ a ∈ as, isIdent (nameL a) = true) → '\n' ∉ moreArgsL as
  | [], _ => by simp [moreArgsL]
  | a :: as, h => by
      have h1 := noNl_ident (h a (by simp))
      have h2 := noNl_moreArgs as (fun x hx => h x (List.mem_cons_of_mem _ hx))
      simp [moreArgsL, h1, h2]

theorem noNl_args (as : List Name) (h : ∀ a ∈ as, isIdent (nameL a) = true) : '\n' ∉ argsL as := by
  cases as with
  | nil => simp [argsL]
  | cons a as =>
    have h1 := noNl_ident (h a (by simp))
    have h2 := noNl_moreArgs as (fun x hx => h x (List.mem_cons_of_mem _ hx))
    simp [argsL, h1, h2]

theorem noNl_escapeUrl : ∀ u : Chars, '\n' ∉ u → '\n' ∉ escapeUrl u
  | [], _ => by simp [escapeUrl]
  | c :: r, h => by
      have hc : '\n' ≠ c := by intro e; apply h; rw [e]; simp
      have ih := noNl_escapeUrl r (fun hm => h (List.mem_cons_of_mem _ hm))
      simp only [escapeUrl]
      split <;> simp [hc, ih]

theorem headGood_exprText {t : Chars} (h : ExprTextOK t = true) : headGood t = true := by
  obtain ⟨-, ⟨c, r, rfl, hs, -, -, hh⟩, -⟩ := exprTextOK_facts h; simp [headGood, hs, hh]

theorem lastGood_exprText {t : Chars} (h : ExprTextOK t = true) : lastGood t = true := by
  obtain ⟨-, -, d, hl, hs, hd⟩ := exprTextOK_facts h; simp [lastGood, hl, hs, hd]

theorem noNl_append {a b : Chars} (ha : '\n' ∉ a) (hb : '\n' ∉ b) : '\n' ∉ a ++ b := by simp [ha, hb]

theorem oneWord_text : ∀ s ∈ ["endfunction", "else:", "endif", "endwhile", "endfor", "break", "continue", "return"],
    headGood s.toList = true ∧ lastGood s.toList = true ∧ '\n' ∉ s.toList := by decide +kernel

/-- a printed line starts with a character that is neither a blank nor `#`, ends with one that is neither a blank nor a
backslash, and contains no line feed -/
theorem printLineL_text (pe : Expr → Chars) (l : Line) (h : LineOK pe l = true) :
    headGood (printLineL pe l) = true ∧ lastGood (printLineL pe l) = true ∧ '\n' ∉ printLineL pe l := by
  have hn := fun n hm => nameOK_ident (lineOK_names h n hm)
  have he := lineOK_exprs h
  have hsp := lineOK_special h
  have colon : ∀ x : Chars, lastGood (x ++ [':']) = true := fun x => lastGood_append x rfl
  cases l with
  | assign n e =>
    have hi := hn n (.head _)
    have hx := he e (.head _)
    exact ⟨headGood_append _ (headGood_ident hi), lastGood_append _ (lastGood_append [' ', '=', ' '] (lastGood_exprText hx)),
      noNl_append (noNl_ident hi) (noNl_append (b := pe e) (a := [' ', '=', ' ']) (by decide) (exprTextOK_facts hx).1)⟩
  | funcBegin n args laa a =>
    have hi := hn n (.head _)
    have ha : ∀ x ∈ args, isIdent (nameL x) = true := fun x hx => hn x (.tail _ hx)
    have hf : headGood "function ".toList = true ∧ '\n' ∉ "function ".toList := by decide +kernel
    have h1 : '\n' ∉ asyncL a := by cases a <;> decide +kernel
    have h2 : '\n' ∉ laaL laa := by cases laa <;> decide +kernel
    refine ⟨?_, ?_, ?_⟩
    · cases a
      · show headGood ("function ".toList ++ _) = true
        exact headGood_append _ hf.1
      · exact headGood_append _ (by decide +kernel : headGood (asyncL true) = true)
    · exact lastGood_append _ (lastGood_append _ (lastGood_append _ (lastGood_append ['('] (lastGood_append _ (lastGood_append _ rfl)))))
    · exact noNl_append h1 (noNl_append hf.2 (noNl_append (noNl_ident hi) (noNl_append (a := ['(']) (by decide)
        (noNl_append (noNl_args args ha) (noNl_append h2 (by decide))))))
  | ifBegin c =>
    have hx := he c (.head _)
    have hl : headGood "if ".toList = true ∧ '\n' ∉ "if ".toList := by decide +kernel
    exact ⟨headGood_append _ hl.1, lastGood_append _ (colon _), noNl_append hl.2 (noNl_append (exprTextOK_facts hx).1 (by decide))⟩
  | elif c =>
    have hx := he c (.head _)
    have hl : headGood "elif ".toList = true ∧ '\n' ∉ "elif ".toList := by decide +kernel
    exact ⟨headGood_append _ hl.1, lastGood_append _ (colon _), noNl_append hl.2 (noNl_append (exprTextOK_facts hx).1 (by decide))⟩
  | whileBegin c =>
    have hx := he c (.head _)
    have hl : headGood "while ".toList = true ∧ '\n' ∉ "while ".toList := by decide +kernel
    exact ⟨headGood_append _ hl.1, lastGood_append _ (colon _), noNl_append hl.2 (noNl_append (exprTextOK_facts hx).1 (by decide))⟩
  | forBegin v i e =>
    have hi := hn v (.head _)
    have hx := he e (.head _)
    have hl : headGood "for ".toList = true ∧ '\n' ∉ "for ".toList ∧ '\n' ∉ " in ".toList := by decide +kernel
    have h1 : '\n' ∉ ixL i := by
      cases i with
      | none => simp [ixL]
      | some x => simp [ixL, noNl_ident (hn x (.tail _ (.head _)))]
    exact ⟨headGood_append _ hl.1, lastGood_append _ (lastGood_append _ (lastGood_append _ (lastGood_append _ (colon _)))),
      noNl_append hl.2.1 (noNl_append (noNl_ident hi) (noNl_append h1 (noNl_append hl.2.2
        (noNl_append (exprTextOK_facts hx).1 (by decide)))))⟩
  | label n =>
    have hi := hn n (.head _)
    exact ⟨headGood_append _ (headGood_ident hi), colon _, noNl_append (noNl_ident hi) (by decide)⟩
  | jump n c =>
    have hi := hn n (.head _)
    cases c with
    | none =>
      have hl : headGood "jump ".toList = true ∧ '\n' ∉ "jump ".toList := by decide +kernel
      exact ⟨headGood_append _ hl.1, lastGood_append _ (lastGood_ident hi), noNl_append hl.2 (noNl_ident hi)⟩
    | some c =>
      have hx := he c (.head _)
      have hl : headGood "jumpif (".toList = true ∧ '\n' ∉ "jumpif (".toList := by decide +kernel
      exact ⟨headGood_append _ hl.1, lastGood_append _ (lastGood_append _ (lastGood_append [')', ' '] (lastGood_ident hi))),
        noNl_append hl.2 (noNl_append (exprTextOK_facts hx).1 (noNl_append (a := [')', ' ']) (by decide) (noNl_ident hi)))⟩
  | ret e =>
    cases e with
    | none => exact oneWord_text "return" (by simp)
    | some e =>
      have hx := he e (.head _)
      have hl : headGood "return ".toList = true ∧ '\n' ∉ "return ".toList := by decide +kernel
      exact ⟨headGood_append _ hl.1, lastGood_append _ (lastGood_exprText hx), noNl_append hl.2 (exprTextOK_facts hx).1⟩
  | «include» url sys =>
    have hu : '\n' ∉ url.toList := by
      have h0 : (!url.toList.contains '\n' && (!sys || !url.toList.contains '>')) = true := hsp
      simp only [Bool.and_eq_true, Bool.not_eq_true', List.contains_eq_mem, decide_eq_false_iff_not] at h0
      exact h0.1
    cases sys with
    | false =>
      have hl : headGood "include '".toList = true ∧ '\n' ∉ "include '".toList := by decide +kernel
      exact ⟨headGood_append _ hl.1, lastGood_append _ (lastGood_append _ rfl),
        noNl_append hl.2 (noNl_append (noNl_escapeUrl _ hu) (by decide))⟩
    | true =>
      have hl : headGood "include <".toList = true ∧ '\n' ∉ "include <".toList := by decide +kernel
      exact ⟨headGood_append _ hl.1, lastGood_append _ (lastGood_append _ rfl), noNl_append hl.2 (noNl_append hu (by decide))⟩
  | exprStmt e =>
    have hx := he e (.head _)
    exact ⟨headGood_exprText hx, lastGood_exprText hx, (exprTextOK_facts hx).1⟩
  | _ => exact oneWord_text _ (by simp)

end C01
