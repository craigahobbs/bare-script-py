import BareModel.MachineSpec
import BareModel.Structured
import BareProofs.C01Lower
import BareProofs.C09Seq
import BareProofs.C08

/-!
# Helper lemmas for C01 (exactness of the lowering, T2): the machine side

`TOut.bind`, a structured outcome continued by the machine.  `step_tick`: `Structured.tick` is the first half of
`C09.execM₀_succ` (fuel, counter, budget test), so one step of the machine against a ticked statement is the clause of
`C09.stepStmt` against what the statement does behind its tick; `exec_expr`, `exec_label`, `exec_jump` are the cases `stmtExpr`,
`stmtSkip`.  `Seg`, the way lowered code lies inside the program the machine runs.
-/

namespace C01
open Machine Lower Structured

variable {W : Type}

/-- continue a structured outcome with explicit continuations for normal / break / continue exits -/
def _root_.Structured.TOut.bind (o : TOut W) (kn kb kc : Option Env → State W → Nat → Res W) : Res W :=
  match o with
  | .norm l st f => kn l st f
  | .brk l st f => kb l st f
  | .cont l st f => kc l st f
  | .ret v st => .ret v st
  | .err e st => .err e st
  | .oof => .oof

theorem bind_norm_then (o : TOut W) (g : Option Env → State W → Nat → TOut W)
    (kn kb kc : Option Env → State W → Nat → Res W) :
    (match o with | .norm l st f => g l st f | o' => o').bind kn kb kc
      = o.bind (fun l st f => (g l st f).bind kn kb kc) kb kc := by
  cases o <;> rfl

/-- sequencing of structured outcomes, which `execTS` / `execTB` / `execTE` and `loopF` write as
`match o with | .norm l st f => g l st f | o => o` -/
def andThen (o : TOut W) (g : Option Env → State W → Nat → TOut W) : TOut W :=
  match o with
  | .norm l st f => g l st f
  | o' => o'

theorem bind_andThen (o : TOut W) (g : Option Env → State W → Nat → TOut W)
    (kn kb kc : Option Env → State W → Nat → Res W) :
    (andThen o g).bind kn kb kc = o.bind (fun l st f => (g l st f).bind kn kb kc) kb kc :=
  bind_norm_then o g kn kb kc

variable {cfg : Config W} {P : List Stmt} {base : Option String}

/-- one machine step against one `tick`: in the continuation only smaller fuel matters -/
theorem step_tick {f : Nat} {l : Option Env} {pc : Nat} {st : State W} {s : Stmt} (hg : P[pc]? = some s)
    (k : Nat → State W → TOut W) (kn kb kc : Option Env → State W → Nat → Res W)
    (hk : ∀ f' st1, f' < f →
      (C09.stepStmt cfg (callValue₀ cfg f') (execIncludes₀ cfg f' base) l s st1).run P
        (fun l' pc' st' => execM₀ cfg f' P l' base pc' st') l pc = (k f' st1).bind kn kb kc) :
    execM₀ cfg f P l base pc st = (tick cfg f st k).bind kn kb kc := by
  cases f with
  | zero => exact C09.execM₀_zero hg st
  | succ f =>
    rw [C09.execM₀_succ hg]
    show _ = TOut.bind (if C09.overBudget cfg st = true then _ else _) kn kb kc
    split
    · rfl
    · exact hk f _ f.lt_succ_self

theorem exec_expr {f : Nat} {l : Option Env} {pc : Nat} {st : State W} {n : Option Name} {e : Expr}
    (hg : P[pc]? = some (.expr n e)) (kn kb kc : Option Env → State W → Nat → Res W)
    (hk : ∀ l' st' f', f' < f → execM₀ cfg f' P l' base (pc+1) st' = kn l' st' f') :
    execM₀ cfg f P l base pc st = (stmtExpr cfg (callValue₀ cfg) n e f l st).bind kn kb kc := by
  refine step_tick hg _ _ _ _ fun f' st1 hlt => ?_
  simp only [C09.stepStmt]
  cases evalExpr cfg (callValue₀ cfg f') l e st1 with
  | ok v st2 => cases n <;> cases l <;> exact hk _ _ _ hlt
  | err e st2 => rfl
  | oof => rfl

/-- a statement that only moves the program counter, against `stmtSkip` -/
theorem exec_skip {f : Nat} {l : Option Env} {pc q : Nat} {st : State W} {s : Stmt} (hg : P[pc]? = some s)
    (hs : ∀ call incl st1 k, (C09.stepStmt cfg call incl l s st1).run P k l pc = k l q st1)
    (kn kb kc : Option Env → State W → Nat → Res W)
    (hk : ∀ st' f', f' < f → execM₀ cfg f' P l base q st' = kn l st' f') :
    execM₀ cfg f P l base pc st = (stmtSkip cfg f l st).bind kn kb kc :=
  step_tick hg _ _ _ _ fun _ _ hlt => (hs ..).trans (hk _ _ hlt)

theorem exec_label {f : Nat} {l : Option Env} {pc : Nat} {st : State W} {lab : Name}
    (hg : P[pc]? = some (.label lab)) (kn kb kc : Option Env → State W → Nat → Res W)
    (hk : ∀ st' f', f' < f → execM₀ cfg f' P l base (pc+1) st' = kn l st' f') :
    execM₀ cfg f P l base pc st = (stmtSkip cfg f l st).bind kn kb kc :=
  exec_skip hg (fun _ _ _ _ => rfl) kn kb kc hk

theorem exec_jump {f : Nat} {l : Option Env} {pc : Nat} {st : State W} {lab : Name} {tgt : Nat}
    (hg : P[pc]? = some (.jump lab none)) (hf : findLabel P lab = some tgt) (kn kb kc : Option Env → State W → Nat → Res W)
    (hk : ∀ st' f', f' < f → execM₀ cfg f' P l base (tgt+1) st' = kn l st' f') :
    execM₀ cfg f P l base pc st = (stmtSkip cfg f l st).bind kn kb kc :=
  exec_skip hg (fun _ _ _ _ => by simp only [C09.stepStmt, C09.StmtStep.run, hf]) kn kb kc hk

/-- the code `C` occupies positions `[p, q)` of `P`, and each of its labels is where `findLabel P` finds it -/
def Seg (P : List Stmt) : Nat → List Stmt → Nat → Prop
  | p, [], q => q = p
  | p, x :: C, q =>
      P[p]? = some x ∧ (match x with | .label l => findLabel P l = some p | _ => True) ∧ Seg P (p+1) C q

theorem Seg.app : ∀ {A : List Stmt} {p : Nat} {B : List Stmt} {q : Nat}, Seg P p (A ++ B) q → ∃ m, Seg P p A m ∧ Seg P m B q
  | [], p, _, _, h => ⟨p, rfl, h⟩
  | _ :: A, _, _, _, h => let ⟨m, h1, h2⟩ := Seg.app (A := A) h.2.2; ⟨m, ⟨h.1, h.2.1, h1⟩, h2⟩

theorem Seg.le : ∀ {C : List Stmt} {p q : Nat}, Seg P p C q → p ≤ q
  | [], _, _, h => Nat.le_of_eq h.symm
  | _ :: _, _, _, h => Nat.le_of_succ_le (Seg.le h.2.2)

theorem findLabel_mid (A C : List Stmt) (l : Name) (h : l ∉ labelsOf A) :
    findLabel (A ++ Stmt.label l :: C) l = some A.length :=
  C08.first_label_wins A C l fun s hs => Bool.eq_false_iff.2 fun hl => h (mem_labelsOf.2 ((C08.isLabel_iff l s).1 hl ▸ hs))

/-- code with pairwise distinct labels sits behind any prefix that does not define them (or for which they are known
to resolve to the code); what follows plays no role, `findLabel` takes the first occurrence -/
theorem seg_mid (post : List Stmt) : ∀ (C pre P : List Stmt), P = pre ++ C ++ post → (labelsOf C).Nodup →
    (∀ l ∈ labelsOf C, l ∈ labelsOf pre → ∃ k, C[k]? = some (.label l) ∧ findLabel P l = some (pre.length + k)) →
    Seg P pre.length C (pre.length + C.length)
  | [], _, _, _, _, _ => rfl
  | x :: C, pre, P, hP, hn, hr => by
      have ih := seg_mid post C (pre ++ [x]) P (by rw [hP]; simp only [List.append_assoc, List.cons_append, List.nil_append])
      rw [List.length_append, List.length_singleton, Nat.add_assoc, Nat.add_comm 1] at ih
      have hx : ∀ l, x = .label l → l ∉ labelsOf C := fun l e => by subst e; exact (List.nodup_cons.mp hn).1
      refine ⟨by rw [hP, List.append_assoc, List.getElem?_append_right (Nat.le_refl _), Nat.sub_self]; rfl, ?_,
        ih (List.nodup_append.mp (labelsOf_append [x] C ▸ hn)).2.1 fun l hl hpre => ?_⟩
      · cases x with
        | label l =>
          by_cases hl : l ∈ labelsOf pre
          · obtain ⟨k, hk, hf⟩ := hr l (List.mem_cons_self ..) hl
            cases k with
            | zero => exact hf
            | succ k => exact absurd (mem_labelsOf.mpr (List.mem_of_getElem? (show C[k]? = _ from hk))) (hx l rfl)
          · rw [hP, List.append_assoc]; exact findLabel_mid pre (C ++ post) l hl
        | _ => trivial
      · rcases List.mem_append.mp (labelsOf_append pre _ ▸ hpre) with hpre | hpre
        · obtain ⟨k, hk, hf⟩ := hr l (mem_labelsOf.mpr (List.mem_cons_of_mem _ (mem_labelsOf.mp hl))) hpre
          cases k with
          | zero => exact absurd hl (hx l (Option.some.inj hk))
          | succ k => exact ⟨k, hk, by rw [hf, Nat.add_assoc, Nat.add_comm 1]⟩
        · exact absurd hl (hx l (List.mem_singleton.mp (mem_labelsOf.mp hpre)).symm)

end C01
