import BareProofs.C01Host

/-!
# C01 — a purely syntactic sufficient condition for "the run touches no reserved global"

The C01 theorems for the concrete hosts (`C01.parse_exec_structured_hostImpl`, …, `C01Host.lean`) carry a condition on the
**run**: `touchesReserved (guarded run) = false`.  The only library functions of `HostImpl.host` / `HostLib.hostLib` that reach
the globals by a *computed* name are `systemGlobalGet` and `systemGlobalSet` (`globalFns`).  This file replaces the run-level
condition by a decidable condition on the **source program and the start state**:

* `NoGlobalAccess B st` (HostImpl; `NoGlobalAccessL` for HostLib):
  1. `nmB globalFns false B` — the program never *reads* the identifiers `systemGlobalGet` / `systemGlobalSet`: not as a
     variable, not as the name of a called function, not as the index variable of a `for` (function bodies included; no
     include statements — the version with includes is `…_includes`);
  2. `EnvOK globalFns st.globals` — every initial global holds a value that is not one of the two library function values,
     **or** is bound under one of the two identifiers (the usual start state binds `systemGlobalGet ↦ fn (lib "systemGlobalGet")`:
     that binding can be reached only by an identifier the program does not contain);
  3. `WorldOK globalFns st.world` — no heap cell and no entry of the partial-application table (`systemPartial`) holds one of
     the two function values, so they cannot be obtained through a container, a partial application or a call-back;
* `TableClean scfg` — the bodies of the function table satisfy 1. (like `TablesOK`, a condition on the table the
  configuration carries; `tableClean_of_list` decides it for a table given as a list).

Under it the guarded machine run never ends with the guard's error (`noGlobalAccess_touchesReserved`, by the value-flow
invariant `run_good` of `C01SynLemmas`: the two function values never become callable), nor does the guarded pure run
(`noGlobalAccess_runS`, by `pure_good`; `noGlobalAccess_touchesReserved_runS` from a state only `StRel`-related to one that
satisfies the predicate, through `C01.ticked_erasure` for the guarded host).  Hence `ticked_erasure_clean`,
`parse_exec_structured_clean` (any host with `HostClean F`, any `F`) and their instances `…_hostImpl_syntactic`,
`…_hostLib_syntactic` at `F = globalFns`: the C01 end-to-end statements for the concrete hosts in exactly the shape of
`C01.parse_exec_structured` / `C01.ticked_erasure`, without run-level hypothesis; `…_whole`: with the function table the
program itself defines (`progTable B`), so that every hypothesis is a condition on `B` and `st`.

Scope: the modelled hosts.  The real library has further entry points that reach globals by computed name (`dataFilter`,
`dataCalculatedField`, `dataJoin` evaluate expression *texts* against the globals: `dataCalculatedField(d, 'b', '__bareScriptIndex0')`
reads a hidden variable); they are not part of `HostImpl` / `HostLib`.  The framework is parametric in the list `F` of
forbidden library names (`HostClean F`), so a larger host only needs its own `HostClean` instance.
-/

namespace C01Syn
open Machine StructuredS Lower Structured C01

variable {W : Type}

section Generic
variable {F : List String} {okW : W → Prop} {inc : Bool} {cfg : Config W} {scfg : SConfig W} {start : FnId → Nat}

/-- the bodies of the (structured) function table read no forbidden identifier -/
def TableCleanG (F : List String) (inc : Bool) (scfg : SConfig W) : Prop :=
  ∀ id d, scfg.sfuns id = some d → nmB F inc d.body = true

/-- the fetched scripts read no forbidden identifier -/
def FetchCleanG (F : List String) (cfg : Config W) : Prop :=
  ∀ url ss, cfg.fetch url = .script ss → nmP F true ss = true

/-- from the source-level conditions to `CfgClean` of the guarded machine configuration (the machine's table is the
lowering of the structured one) -/
theorem cfgClean_of (ag : Agree cfg scfg start) (hh : HostClean F okW cfg.host) (htc : TableCleanG F inc scfg)
    (hf : inc = true → ∀ url ss, cfg.fetch url = .script ss → nmP F inc ss = true) :
    CfgClean F okW inc (guardCfg cfg) := by
  refine cfgClean_guard ⟨hh, fun id fd hfd => ?_, hf⟩
  rw [ag.funs id] at hfd
  obtain ⟨d, hd, rfl⟩ := Option.map_eq_some_iff.1 hfd
  exact lowerB_nm inc d.body none (start id) (htc id d hd)

section
variable (hc : CfgClean F okW inc (guardCfg cfg))
include hc

/-- the cache-free machine, any statement list, any program counter, any locals -/
theorem execM₀_untouched (fuel : Nat) (P : List Stmt) (l : Option Env) (base : Option String) (pc : Nat) (st : State W)
    (hP : nmP F inc P = true) (hl : LocOK F l) (hst : StOK F okW st) :
    touchesReserved (execM₀ (guardCfg cfg) fuel P l base pc st) = false :=
  goodRes_touches ((run_good hc fuel).2.1 P l base pc st hP hl hst)

/-- one call of a clean function value -/
theorem callValue₀_untouched (fuel : Nat) (f : Value) (args : List Value) (st : State W) (hf : clean F f = true)
    (ha : CleanL F args) (hst : StOK F okW st) : touchesReservedO (callValue₀ (guardCfg cfg) fuel f args st) = false :=
  goodOut_touches ((run_good hc fuel).1 f args st hf ha hst)

/-- `execute_script` on the real, label-caching machine -/
theorem execute_untouched (fuel : Nat) (P : List Stmt) (base : Option String) (st : State W)
    (hP : nmP F inc P = true) (hst : StOK F okW st) : touchesReserved (execute (guardCfg cfg) fuel P base st) = false := by
  rw [C08.execute_eq]
  exact execM₀_untouched hc fuel P none base 0 { st with count := 0 } hP trivial hst

/-- the ticked structured reading -/
theorem runT₀_untouched (B : List SStmt) (hraw : NoRawB B) (hB : nmB F inc B = true) (fuel : Nat) (base : Option String)
    (st : State W) (hst : StOK F okW st) : touchesReserved (runT₀ (guardCfg cfg) fuel B base st) = false := by
  have e : runT₀ (guardCfg cfg) fuel B base st = execM₀ (guardCfg cfg) fuel (lowerB none B 0).1 none base 0 st :=
    (run_body_eq (guardCfg cfg) base B 0 hraw fuel none st).symm
  rw [e]
  exact execM₀_untouched hc fuel _ none base 0 st (lowerB_nm inc B none 0 hB) trivial hst

end

/-- the pure source-level reading: obtained from the machine side through `C01.ticked_erasure` for the guarded host (which
satisfies `HostNoReserved`): a terminating pure run is matched by a machine run with the same error, if any -/
theorem runS_untouched (ag : Agree cfg scfg start) (htb : TruthyBool cfg.host) (htab : TablesOK scfg)
    (hc : CfgClean F okW inc (guardCfg cfg)) (hmax : cfg.maxStatements = 0) (B : List SStmt) (hB : ProgOK B)
    (hnm : nmB F inc B = true) (st st' : State W) (hs : StRel st st') (hst : StOK F okW st) (k : Nat) :
    touchesReserved (runS (guardS scfg) k B st') = false := by
  by_cases hne : runS (guardS scfg) k B st' = .oof
  · rw [hne]; rfl
  · have h := ticked_erasure (agree_guard ag) ((truthyBool_guard _).2 htb) (hostNoReserved_guard _) (scfg := guardS scfg) htab
      hmax B hB none st st' hs
    obtain ⟨r, hr, N, hN⟩ := h.2 k hne
    rw [hr.touches, ← hN N (Nat.le_refl _)]
    exact runT₀_untouched hc B hB.noRaw hnm N none st hst

/-- the pure source-level reading, **directly** (`pure_good`: the same value-flow invariant on `callS` / `execSS` / `execSB` /
`execSE` / `forS`): no `ProgOK`, no `TablesOK`, no host law, no machine configuration — any structured program that reads no
forbidden identifier, from an admissible state.  The guarded pure run is the real pure run. -/
theorem runS_clean (hh : HostClean F okW scfg.host) (htc : TableCleanG F inc scfg) (B : List SStmt) (hnm : nmB F inc B = true)
    (st : State W) (hst : StOK F okW st) (k : Nat) :
    touchesReserved (runS (guardS scfg) k B st) = false ∧ runS scfg k B st = runS (guardS scfg) k B st := by
  have hu : touchesReserved (runS (guardS scfg) k B st) = false := by
    rw [runS_eq]
    exact goodS_touches ((pure_good (scfg := guardS scfg) (inc := inc) (hostClean_guard hh) htc k).2.2.1 B none st hnm trivial hst)
  exact ⟨hu, (guard_runS scfg k B st hu).1⟩

section Corollaries
variable (ag : Agree cfg scfg start) (htb : TruthyBool cfg.host) (htab : TablesOK scfg)
  (hc : CfgClean F okW inc (guardCfg cfg))
include ag htb htab hc

/-- **T3 without run-level hypothesis**, generic form -/
theorem ticked_erasure_clean (hmax : cfg.maxStatements = 0) (B : List SStmt) (hB : ProgOK B) (hnm : nmB F inc B = true)
    (base : Option String) (st st' : State W) (hs : StRel st st') (hst : StOK F okW st) :
    (∀ fuel, runT₀ cfg fuel B base st ≠ .oof →
      ∃ r', ResRel (runT₀ cfg fuel B base st) r' ∧ ∃ N, ∀ k, N ≤ k → runS scfg k B st' = r') ∧
    (∀ k, runS scfg k B st' ≠ .oof →
      ∃ r, ResRel r (runS scfg k B st') ∧ ∃ N, ∀ f, N ≤ f → runT₀ cfg f B base st = r) := by
  have h := ticked_erasure_guarded ag htb htab hmax B hB base st st' hs
  refine ⟨fun fuel hne => ?_, fun k hne => ?_⟩
  · have hu := runT₀_untouched hc B hB.noRaw hnm fuel base st hst
    have e := (guard_runT₀ cfg B hB.noRaw fuel base st hu).1
    exact (h.1 fuel (by rw [← e]; exact hne) hu).2
  · have hu := runS_untouched ag htb htab hc hmax B hB hnm st st' hs hst k
    have e := (guard_runS scfg k B st' hu).1
    exact (h.2 k (by rw [← e]; exact hne) hu).2

/-- **T4 without run-level hypothesis**, generic form -/
theorem parse_exec_structured_clean (hmax : cfg.maxStatements = 0) (B : List SStmt) (hB : ProgOK B) (hfid : FidsInOrder B)
    (hnm : nmB F inc B = true) (base : Option String) (st st' : State W) (hs : StRel st st') (hst : StOK F okW st) :
    ∃ P, parseLines (renderB B) = .ok P ∧
      (∀ fuel, execute cfg fuel P base st ≠ .oof →
        ∃ r', ResRel (execute cfg fuel P base st) r' ∧ ∃ N, ∀ k, N ≤ k → runS scfg k B st' = r') ∧
      (∀ k, runS scfg k B st' ≠ .oof →
        ∃ r, ResRel r (runS scfg k B st') ∧ ∃ N, ∀ f, N ≤ f → execute cfg f P base st = r) := by
  obtain ⟨hP, hE⟩ := execute_parse_eq_runT₀ cfg B hB hfid
  refine ⟨_, hP, ?_⟩
  simp only [hE]
  exact ticked_erasure_clean ag htb htab hc hmax B hB hnm base { st with count := 0 } st' hs hst

/-- **T4 with a statement budget, without run-level hypothesis on reserved globals**, generic form -/
theorem parse_exec_structured_budget_clean (B : List SStmt) (hB : ProgOK B) (hfid : FidsInOrder B)
    (hnm : nmB F inc B = true) (fuel : Nat) (base : Option String) (st st' : State W) (hs : StRel st st')
    (hst : StOK F okW st) :
    ∃ P, parseLines (renderB B) = .ok P ∧
      (execute cfg fuel P base st ≠ .oof → (∀ m s, execute cfg fuel P base st ≠ .err (.exceeded m) s) →
        ∃ r', ResRel (execute cfg fuel P base st) r' ∧ ∃ N, ∀ k, N ≤ k → runS scfg k B st' = r') := by
  obtain ⟨P, hP, h1⟩ := parse_exec_structured_budget_guarded ag htb htab B hB hfid fuel base st st' hs
  have hP' := parseLines_render B hB.wellNested hfid (incB_of_noInclude B hB.noInclude)
  rw [hP'] at hP
  cases hP
  refine ⟨lowerProgram B, hP', fun hne hbud => ?_⟩
  have hu := execute_untouched hc fuel (lowerProgram B) base st (lowerB_nm inc B none 0 hnm) hst
  have e := (guard_execute cfg fuel _ base st hu).1
  exact (h1 (by rw [← e]; exact hne) (by rw [← e]; exact hbud) hu).2

end Corollaries
end Generic

/-- the library functions of `HostImpl` / `HostLib` that reach the globals by a computed name -/
def globalFns : List String := ["systemGlobalGet", "systemGlobalSet"]

/-- **`NoGlobalAccess B st`** (HostImpl): the program never reads the identifiers `systemGlobalGet` / `systemGlobalSet`, and
in the start state the two library function values occur nowhere except (possibly) in the globals under exactly these two
identifiers — not under another name, not in a heap cell, not in the partial-application table.  Decidable. -/
structure NoGlobalAccess (B : List SStmt) (st : State HostImpl.World) : Prop where
  prog : nmB globalFns false B = true
  globals : EnvOK globalFns st.globals
  world : WorldOK globalFns st.world

instance (B : List SStmt) (st : State HostImpl.World) : Decidable (NoGlobalAccess B st) :=
  decidable_of_iff (nmB globalFns false B = true ∧ EnvOK globalFns st.globals ∧ WorldOK globalFns st.world)
    ⟨fun h => ⟨h.1, h.2.1, h.2.2⟩, fun h => ⟨h.1, h.2, h.3⟩⟩

/-- the same for `HostLib` (the heap is `Lib.Heap`; `lheapOKB` is the decidable form of its invariant) -/
structure NoGlobalAccessL (B : List SStmt) (st : State HostLib.LWorld) : Prop where
  prog : nmB globalFns false B = true
  globals : EnvOK globalFns st.globals
  heap : lheapOKB globalFns st.world.heap = true
  partials : PartialsOK globalFns st.world.partials

instance (B : List SStmt) (st : State HostLib.LWorld) : Decidable (NoGlobalAccessL B st) :=
  decidable_of_iff (nmB globalFns false B = true ∧ EnvOK globalFns st.globals ∧ lheapOKB globalFns st.world.heap = true ∧
      PartialsOK globalFns st.world.partials)
    ⟨fun h => ⟨h.1, h.2.1, h.2.2.1, h.2.2.2⟩, fun h => ⟨h.1, h.2, h.3, h.4⟩⟩

/-- the bodies of the function table never read the two identifiers (and contain no include statement) -/
def TableClean (scfg : SConfig W) : Prop := TableCleanG globalFns false scfg

/-- `TableClean` for a table given as a finite list is a finite check -/
theorem tableClean_of_list (scfg : SConfig W) (ds : List (FnId × SFuncDef))
    (htab : ∀ id, scfg.sfuns id = (ds.find? (·.1 == id)).map (·.2))
    (hds : ds.all (fun p => nmB globalFns false p.2.body) = true) : TableClean scfg := by
  intro id d hd
  rw [htab id] at hd
  obtain ⟨p, hf, rfl⟩ := Option.map_eq_some_iff.1 hd
  exact List.all_eq_true.1 hds p (List.mem_of_find?_eq_some hf)

theorem NoGlobalAccess.stOK {B : List SStmt} {st : State HostImpl.World} (h : NoGlobalAccess B st) :
    StOK globalFns (WorldOK globalFns) st := ⟨h.globals, h.world⟩

theorem NoGlobalAccessL.stOK {B : List SStmt} {st : State HostLib.LWorld} (h : NoGlobalAccessL B st) :
    StOK globalFns (LWorldOK globalFns) st := ⟨h.globals, lheapOKB_sound h.heap, h.partials⟩

/-- binding library functions under their own names is admissible whatever is forbidden: a forbidden one sits under its
forbidden identifier -/
theorem envOK_libBindings (F : List String) (names : List String) :
    EnvOK F (names.map fun n => (Name.user n, Value.fn (.lib n))) := by
  intro p hp
  obtain ⟨n, _, rfl⟩ := List.mem_map.1 hp
  show (!F.contains n) = true ∨ F.contains n = true
  cases F.contains n
  · exact Or.inl rfl
  · exact Or.inr rfl

theorem hostImpl_clean' : HostClean globalFns (WorldOK globalFns) HostImpl.host := hostImpl_clean (by decide) (by decide)
theorem hostLib_clean' : HostClean globalFns (LWorldOK globalFns) HostLib.hostLib := hostLib_clean (by decide) (by decide)

section HostImplInstances
variable {cfg : Config HostImpl.World} {scfg : SConfig HostImpl.World} {start : FnId → Nat} (ag : Agree cfg scfg start)
  (hh : cfg.host = HostImpl.host) (htc : TableClean scfg)
include ag hh htc

theorem cfgClean_hostImpl : CfgClean globalFns (WorldOK globalFns) false (guardCfg cfg) :=
  cfgClean_of ag (hh ▸ hostImpl_clean') htc (fun h => by cases h)

/-- **`noGlobalAccess_touchesReserved`** (HostImpl, `execute_script` on the lowering of the program = on what the parser
returns for its text, any fuel, any include base): under the syntactic condition the guarded run never ends with the guard's
error — no library call of the run names a reserved global (indeed none reaches the globals at all). -/
theorem noGlobalAccess_touchesReserved {B : List SStmt} {st : State HostImpl.World} (h : NoGlobalAccess B st) (fuel : Nat)
    (base : Option String) : touchesReserved (execute (guardCfg cfg) fuel (lowerProgram B) base st) = false :=
  execute_untouched (cfgClean_hostImpl ag hh htc) fuel _ base st (lowerB_nm false B none 0 h.prog) h.stOK

/-- … stated for the statement list the parser returns for the rendered lines of `B` -/
theorem noGlobalAccess_touchesReserved_parse {B : List SStmt} {st : State HostImpl.World} (h : NoGlobalAccess B st)
    (hwn : WellNested B) (hfid : FidsInOrder B) (hi : NoAdjacentIncludes B) (fuel : Nat) (base : Option String) :
    ∃ P, parseLines (renderB B) = .ok P ∧ touchesReserved (execute (guardCfg cfg) fuel P base st) = false :=
  ⟨lowerProgram B, parseLines_render B hwn hfid hi, noGlobalAccess_touchesReserved ag hh htc h fuel base⟩

/-- … for the cache-free machine from any program counter of the lowered program -/
theorem noGlobalAccess_touchesReserved_execM₀ {B : List SStmt} {st : State HostImpl.World} (h : NoGlobalAccess B st)
    (fuel : Nat) (base : Option String) (pc : Nat) :
    touchesReserved (execM₀ (guardCfg cfg) fuel (lowerProgram B) none base pc st) = false :=
  execM₀_untouched (cfgClean_hostImpl ag hh htc) fuel _ none base pc st (lowerB_nm false B none 0 h.prog) trivial h.stOK

/-- … for the ticked structured reading -/
theorem noGlobalAccess_touchesReserved_runT₀ {B : List SStmt} {st : State HostImpl.World} (h : NoGlobalAccess B st)
    (hraw : NoRawB B) (fuel : Nat) (base : Option String) : touchesReserved (runT₀ (guardCfg cfg) fuel B base st) = false :=
  runT₀_untouched (cfgClean_hostImpl ag hh htc) B hraw h.prog fuel base st h.stOK

/-- … and for the pure source-level reading, from any state `st'` with the same world and user-visible globals -/
theorem noGlobalAccess_touchesReserved_runS (htab : TablesOK scfg) (hmax : cfg.maxStatements = 0) {B : List SStmt}
    {st : State HostImpl.World} (h : NoGlobalAccess B st) (hB : ProgOK B) (st' : State HostImpl.World) (hs : StRel st st')
    (k : Nat) : touchesReserved (runS (guardS scfg) k B st') = false :=
  runS_untouched ag (hh ▸ hostImpl_truthyBool) htab (cfgClean_hostImpl ag hh htc) hmax B hB h.prog st st' hs h.stOK k

/-- **T4 for `HostImpl.host`, purely syntactic hypotheses.**  All 18 library functions, `systemGlobalGet` / `systemGlobalSet`
included in the host and bound in the start state: for every structured program `B` with `ProgOK`, `FidsInOrder` and
`NoGlobalAccess B st`, the lines a user writes for `B` parse to a statement list `P` on which `execute_script` (the real
machine with the real host) agrees with the pure source-level reading (real host) in both directions.  No hypothesis about
any run, no guarded or sanitised host: only decidable conditions on the program and the start state (and on the tables). -/
theorem parse_exec_structured_hostImpl_syntactic (htab : TablesOK scfg) (hmax : cfg.maxStatements = 0) (B : List SStmt)
    (hB : ProgOK B) (hfid : FidsInOrder B) (base : Option String) (st st' : State HostImpl.World) (hs : StRel st st')
    (hng : NoGlobalAccess B st) :
    ∃ P, parseLines (renderB B) = .ok P ∧
      (∀ fuel, execute cfg fuel P base st ≠ .oof →
        ∃ r', ResRel (execute cfg fuel P base st) r' ∧ ∃ N, ∀ k, N ≤ k → runS scfg k B st' = r') ∧
      (∀ k, runS scfg k B st' ≠ .oof →
        ∃ r, ResRel r (runS scfg k B st') ∧ ∃ N, ∀ f, N ≤ f → execute cfg f P base st = r) :=
  parse_exec_structured_clean ag (hh ▸ hostImpl_truthyBool) htab (cfgClean_hostImpl ag hh htc) hmax B hB hfid hng.prog base
    st st' hs hng.stOK

/-- **T3 for `HostImpl.host`, purely syntactic hypotheses** -/
theorem ticked_erasure_hostImpl_syntactic (htab : TablesOK scfg) (hmax : cfg.maxStatements = 0) (B : List SStmt)
    (hB : ProgOK B) (base : Option String) (st st' : State HostImpl.World) (hs : StRel st st') (hng : NoGlobalAccess B st) :
    (∀ fuel, runT₀ cfg fuel B base st ≠ .oof →
      ∃ r', ResRel (runT₀ cfg fuel B base st) r' ∧ ∃ N, ∀ k, N ≤ k → runS scfg k B st' = r') ∧
    (∀ k, runS scfg k B st' ≠ .oof →
      ∃ r, ResRel r (runS scfg k B st') ∧ ∃ N, ∀ f, N ≤ f → runT₀ cfg f B base st = r) :=
  ticked_erasure_clean ag (hh ▸ hostImpl_truthyBool) htab (cfgClean_hostImpl ag hh htc) hmax B hB hng.prog base st st' hs
    hng.stOK

/-- **T4 with a statement budget for `HostImpl.host`, purely syntactic hypotheses** (as long as the run is not stopped by the
budget) -/
theorem parse_exec_structured_budget_hostImpl_syntactic (htab : TablesOK scfg) (B : List SStmt) (hB : ProgOK B)
    (hfid : FidsInOrder B) (fuel : Nat) (base : Option String) (st st' : State HostImpl.World) (hs : StRel st st')
    (hng : NoGlobalAccess B st) :
    ∃ P, parseLines (renderB B) = .ok P ∧
      (execute cfg fuel P base st ≠ .oof → (∀ m s, execute cfg fuel P base st ≠ .err (.exceeded m) s) →
        ∃ r', ResRel (execute cfg fuel P base st) r' ∧ ∃ N, ∀ k, N ≤ k → runS scfg k B st' = r') :=
  parse_exec_structured_budget_clean ag (hh ▸ hostImpl_truthyBool) htab (cfgClean_hostImpl ag hh htc) B hB hfid hng.prog fuel
    base st st' hs hng.stOK

/-- under the syntactic condition the real host, the guarded host and the sanitised host run the program identically -/
theorem noGlobalAccess_real_eq_sanitized {B : List SStmt} {st : State HostImpl.World} (h : NoGlobalAccess B st) (fuel : Nat)
    (base : Option String) :
    execute cfg fuel (lowerProgram B) base st = execute (sanCfg cfg) fuel (lowerProgram B) base st :=
  real_eq_sanitized_execute cfg fuel _ base st (noGlobalAccess_touchesReserved ag hh htc h fuel base)

end HostImplInstances

/-- the pure source-level reading on its own (direct proof: no `ProgOK`, no `TablesOK`, no machine configuration): under the
syntactic condition the guarded pure run never ends with the guard's error, and is the real pure run -/
theorem noGlobalAccess_runS {scfg : SConfig HostImpl.World} (hh : scfg.host = HostImpl.host) (htc : TableClean scfg)
    {B : List SStmt} {st : State HostImpl.World} (h : NoGlobalAccess B st) (k : Nat) :
    touchesReserved (runS (guardS scfg) k B st) = false ∧ runS scfg k B st = runS (guardS scfg) k B st :=
  runS_clean (hh ▸ hostImpl_clean') htc B h.prog st h.stOK k

/-- `execute_script` of **any** jump-level statement list (includes admitted) that reads no forbidden identifier, with a
function table and fetched scripts that read none, from an admissible state: the guarded run never ends with the guard's
error.  (No structured program, no `Agree`: directly on the machine configuration.) -/
theorem noGlobalAccess_touchesReserved_includes {cfg : Config HostImpl.World} (hh : cfg.host = HostImpl.host)
    (hfuns : ∀ id fd, cfg.funs id = some fd → nmP globalFns true fd.body = true) (hfetch : FetchCleanG globalFns cfg)
    (P : List Stmt) (hP : nmP globalFns true P = true) (st : State HostImpl.World) (hg : EnvOK globalFns st.globals)
    (hw : WorldOK globalFns st.world) (fuel : Nat) (base : Option String) :
    touchesReserved (execute (guardCfg cfg) fuel P base st) = false :=
  execute_untouched (cfgClean_guard ⟨hh ▸ hostImpl_clean', hfuns, fun _ => hfetch⟩) fuel P base st hP ⟨hg, hw⟩

section HostLibInstances
variable {cfg : Config HostLib.LWorld} {scfg : SConfig HostLib.LWorld} {start : FnId → Nat} (ag : Agree cfg scfg start)
  (hh : cfg.host = HostLib.hostLib) (htc : TableClean scfg)
include ag hh htc

theorem cfgClean_hostLib : CfgClean globalFns (LWorldOK globalFns) false (guardCfg cfg) :=
  cfgClean_of ag (hh ▸ hostLib_clean') htc (fun h => by cases h)

/-- **`noGlobalAccess_touchesReserved` for `HostLib.hostLib`** (the 40 functions of the verified library model `Lib` plus
HostImpl's `system*` functions) -/
theorem noGlobalAccessL_touchesReserved {B : List SStmt} {st : State HostLib.LWorld} (h : NoGlobalAccessL B st) (fuel : Nat)
    (base : Option String) : touchesReserved (execute (guardCfg cfg) fuel (lowerProgram B) base st) = false :=
  execute_untouched (cfgClean_hostLib ag hh htc) fuel _ base st (lowerB_nm false B none 0 h.prog) h.stOK

theorem noGlobalAccessL_touchesReserved_runT₀ {B : List SStmt} {st : State HostLib.LWorld} (h : NoGlobalAccessL B st)
    (hraw : NoRawB B) (fuel : Nat) (base : Option String) : touchesReserved (runT₀ (guardCfg cfg) fuel B base st) = false :=
  runT₀_untouched (cfgClean_hostLib ag hh htc) B hraw h.prog fuel base st h.stOK

theorem noGlobalAccessL_touchesReserved_runS (htab : TablesOK scfg) (hmax : cfg.maxStatements = 0) {B : List SStmt}
    {st : State HostLib.LWorld} (h : NoGlobalAccessL B st) (hB : ProgOK B) (st' : State HostLib.LWorld) (hs : StRel st st')
    (k : Nat) : touchesReserved (runS (guardS scfg) k B st') = false :=
  runS_untouched ag (hh ▸ HostLib.hostLib_truthyBool) htab (cfgClean_hostLib ag hh htc) hmax B hB h.prog st st' hs h.stOK k

/-- **T4 for `HostLib.hostLib`, purely syntactic hypotheses** -/
theorem parse_exec_structured_hostLib_syntactic (htab : TablesOK scfg) (hmax : cfg.maxStatements = 0) (B : List SStmt)
    (hB : ProgOK B) (hfid : FidsInOrder B) (base : Option String) (st st' : State HostLib.LWorld) (hs : StRel st st')
    (hng : NoGlobalAccessL B st) :
    ∃ P, parseLines (renderB B) = .ok P ∧
      (∀ fuel, execute cfg fuel P base st ≠ .oof →
        ∃ r', ResRel (execute cfg fuel P base st) r' ∧ ∃ N, ∀ k, N ≤ k → runS scfg k B st' = r') ∧
      (∀ k, runS scfg k B st' ≠ .oof →
        ∃ r, ResRel r (runS scfg k B st') ∧ ∃ N, ∀ f, N ≤ f → execute cfg f P base st = r) :=
  parse_exec_structured_clean ag (hh ▸ HostLib.hostLib_truthyBool) htab (cfgClean_hostLib ag hh htc) hmax B hB hfid hng.prog
    base st st' hs hng.stOK

/-- **T3 for `HostLib.hostLib`, purely syntactic hypotheses** -/
theorem ticked_erasure_hostLib_syntactic (htab : TablesOK scfg) (hmax : cfg.maxStatements = 0) (B : List SStmt)
    (hB : ProgOK B) (base : Option String) (st st' : State HostLib.LWorld) (hs : StRel st st') (hng : NoGlobalAccessL B st) :
    (∀ fuel, runT₀ cfg fuel B base st ≠ .oof →
      ∃ r', ResRel (runT₀ cfg fuel B base st) r' ∧ ∃ N, ∀ k, N ≤ k → runS scfg k B st' = r') ∧
    (∀ k, runS scfg k B st' ≠ .oof →
      ∃ r, ResRel r (runS scfg k B st') ∧ ∃ N, ∀ f, N ≤ f → runT₀ cfg f B base st = r) :=
  ticked_erasure_clean ag (hh ▸ HostLib.hostLib_truthyBool) htab (cfgClean_hostLib ag hh htc) hmax B hB hng.prog base st st'
    hs hng.stOK

/-- **T4 with a statement budget for `HostLib.hostLib`, purely syntactic hypotheses** -/
theorem parse_exec_structured_budget_hostLib_syntactic (htab : TablesOK scfg) (B : List SStmt) (hB : ProgOK B)
    (hfid : FidsInOrder B) (fuel : Nat) (base : Option String) (st st' : State HostLib.LWorld) (hs : StRel st st')
    (hng : NoGlobalAccessL B st) :
    ∃ P, parseLines (renderB B) = .ok P ∧
      (execute cfg fuel P base st ≠ .oof → (∀ m s, execute cfg fuel P base st ≠ .err (.exceeded m) s) →
        ∃ r', ResRel (execute cfg fuel P base st) r' ∧ ∃ N, ∀ k, N ≤ k → runS scfg k B st' = r') :=
  parse_exec_structured_budget_clean ag (hh ▸ HostLib.hostLib_truthyBool) htab (cfgClean_hostLib ag hh htc) B hB hfid hng.prog
    fuel base st st' hs hng.stOK

end HostLibInstances

theorem noGlobalAccessL_runS {scfg : SConfig HostLib.LWorld} (hh : scfg.host = HostLib.hostLib) (htc : TableClean scfg)
    {B : List SStmt} {st : State HostLib.LWorld} (h : NoGlobalAccessL B st) (k : Nat) :
    touchesReserved (runS (guardS scfg) k B st) = false ∧ runS scfg k B st = runS (guardS scfg) k B st :=
  runS_clean (hh ▸ hostLib_clean') htc B h.prog st h.stOK k

/-! ## whole programs: the function table read off the program, so that every hypothesis is a condition on `B` and `st`

`C01.TablesOK` and `TableClean` speak about the function table of the configuration.  When that table is the one the program
itself defines (`progTable B`: the `function` statements of `B`, outside function bodies, by their `fid`), both follow from
`ProgOK B` and `nmB … B`. -/

mutual
/-- the function definitions of a statement (not descending into function bodies: `WellNested` excludes nested definitions) -/
def funsS : SStmt → List (FnId × SFuncDef)
  | .func fid n args laa _ b => [(fid, { name := n, args := args, lastArgArray := laa, body := b })]
  | .ite _ t e => funsB t ++ funsE e
  | .while _ b => funsB b
  | .for _ _ _ b => funsB b
  | _ => []
def funsB : List SStmt → List (FnId × SFuncDef)
  | [] => []
  | s :: ss => funsS s ++ funsB ss
def funsE : SElse → List (FnId × SFuncDef)
  | .none => []
  | .els b => funsB b
  | .elif _ t e => funsB t ++ funsE e
end

/-- the function table a program defines: the first definition with the given `fid` -/
def progTable (B : List SStmt) : FnId → Option SFuncDef := fun id => ((funsB B).find? (·.1 == id)).map (·.2)

theorem progTable_mem {B : List SStmt} {id : FnId} {d : SFuncDef} (h : progTable B id = some d) : ∃ i, (i, d) ∈ funsB B := by
  obtain ⟨p, hf, rfl⟩ := Option.map_eq_some_iff.1 h
  exact ⟨p.1, List.mem_of_find?_eq_some hf⟩

mutual
theorem funsS_ok (il w : Bool) : ∀ s : SStmt, NoRawS s → NoReservedS s = true → NoIncludeS s = true →
    NoWhileContinueS w s = true → wnS il false s = true → ∀ p ∈ funsS s, FuncOK p.2
  | .func fid n args laa a b, h1, h2, h3, h4, h5, p, hp => by
      simp only [funsS, List.mem_singleton] at hp
      subst hp
      simp only [NoRawS] at h1
      simp only [NoReservedS, NoIncludeS, NoWhileContinueS, wnS, Bool.and_eq_true, Bool.not_false, true_and] at h2 h3 h4 h5
      exact ⟨h1, h2.2, by simp only [Bool.and_eq_true]; exact h2.1, h3, h4, h5⟩
  | .ite c t e, h1, h2, h3, h4, h5, p, hp => by
      simp only [NoRawS] at h1
      simp only [NoReservedS, NoIncludeS, NoWhileContinueS, wnS, Bool.and_eq_true] at h2 h3 h4 h5
      simp only [funsS, List.mem_append] at hp
      rcases hp with hp | hp
      · exact funsB_ok il w t h1.1 h2.1.2 h3.1 h4.1 h5.1 p hp
      · exact funsE_ok il w e h1.2 h2.2 h3.2 h4.2 h5.2 p hp
  | .while c b, h1, h2, h3, h4, h5, p, hp => by
      simp only [NoRawS] at h1
      simp only [NoReservedS, NoIncludeS, NoWhileContinueS, wnS, Bool.and_eq_true] at h2 h3 h4 h5
      simp only [funsS] at hp
      exact funsB_ok true true b h1 h2.2 h3 h4 h5 p hp
  | .for v ix vals b, h1, h2, h3, h4, h5, p, hp => by
      simp only [NoRawS] at h1
      simp only [NoReservedS, NoIncludeS, NoWhileContinueS, wnS, Bool.and_eq_true] at h2 h3 h4 h5
      simp only [funsS] at hp
      exact funsB_ok true false b h1 h2.2 h3 h4 h5 p hp
  | .expr _ _, _, _, _, _, _, p, hp | .ret _, _, _, _, _, _, p, hp | .label _, _, _, _, _, _, p, hp
  | .jump _ _, _, _, _, _, _, p, hp | .include _, _, _, _, _, _, p, hp | .brk, _, _, _, _, _, p, hp
  | .cont, _, _, _, _, _, p, hp => by simp [funsS] at hp
theorem funsB_ok (il w : Bool) : ∀ B : List SStmt, NoRawB B → NoReservedB B = true → NoIncludeB B = true →
    NoWhileContinueB w B = true → wnB il false B = true → ∀ p ∈ funsB B, FuncOK p.2
  | [], _, _, _, _, _, p, hp => by simp [funsB] at hp
  | s :: ss, h1, h2, h3, h4, h5, p, hp => by
      simp only [NoRawB] at h1
      simp only [NoReservedB, NoIncludeB, NoWhileContinueB, wnB, Bool.and_eq_true] at h2 h3 h4 h5
      simp only [funsB, List.mem_append] at hp
      rcases hp with hp | hp
      · exact funsS_ok il w s h1.1 h2.1 h3.1 h4.1 h5.1 p hp
      · exact funsB_ok il w ss h1.2 h2.2 h3.2 h4.2 h5.2 p hp
theorem funsE_ok (il w : Bool) : ∀ e : SElse, NoRawE e → NoReservedE e = true → NoIncludeE e = true →
    NoWhileContinueE w e = true → wnE il false e = true → ∀ p ∈ funsE e, FuncOK p.2
  | .none, _, _, _, _, _, p, hp => by simp [funsE] at hp
  | .els b, h1, h2, h3, h4, h5, p, hp => by
      simp only [NoRawE] at h1
      simp only [NoReservedE, NoIncludeE, NoWhileContinueE, wnE] at h2 h3 h4 h5
      simp only [funsE] at hp
      exact funsB_ok il w b h1 h2 h3 h4 h5 p hp
  | .elif c t e, h1, h2, h3, h4, h5, p, hp => by
      simp only [NoRawE] at h1
      simp only [NoReservedE, NoIncludeE, NoWhileContinueE, wnE, Bool.and_eq_true] at h2 h3 h4 h5
      simp only [funsE, List.mem_append] at hp
      rcases hp with hp | hp
      · exact funsB_ok il w t h1.1 h2.1.2 h3.1 h4.1 h5.1 p hp
      · exact funsE_ok il w e h1.2 h2.2 h3.2 h4.2 h5.2 p hp
end

mutual
theorem funsS_nm {F : List String} {inc : Bool} : ∀ s : SStmt, nmS F inc s = true → ∀ p ∈ funsS s, nmB F inc p.2.body = true
  | .func fid n args laa a b, h, p, hp => by
      simp only [funsS, List.mem_singleton] at hp
      subst hp
      simpa [nmS] using h
  | .ite c t e, h, p, hp => by
      simp only [nmS, Bool.and_eq_true] at h
      simp only [funsS, List.mem_append] at hp
      rcases hp with hp | hp
      · exact funsB_nm t h.1.2 p hp
      · exact funsE_nm e h.2 p hp
  | .while c b, h, p, hp => by
      simp only [nmS, Bool.and_eq_true] at h
      simp only [funsS] at hp
      exact funsB_nm b h.2 p hp
  | .for v ix vals b, h, p, hp => by
      simp only [nmS, Bool.and_eq_true] at h
      simp only [funsS] at hp
      exact funsB_nm b h.2 p hp
  | .expr _ _, _, p, hp | .ret _, _, p, hp | .label _, _, p, hp | .jump _ _, _, p, hp | .include _, _, p, hp
  | .brk, _, p, hp | .cont, _, p, hp => by simp [funsS] at hp
theorem funsB_nm {F : List String} {inc : Bool} : ∀ B : List SStmt, nmB F inc B = true → ∀ p ∈ funsB B, nmB F inc p.2.body = true
  | [], _, p, hp => by simp [funsB] at hp
  | s :: ss, h, p, hp => by
      simp only [nmB, Bool.and_eq_true] at h
      simp only [funsB, List.mem_append] at hp
      rcases hp with hp | hp
      · exact funsS_nm s h.1 p hp
      · exact funsB_nm ss h.2 p hp
theorem funsE_nm {F : List String} {inc : Bool} : ∀ e : SElse, nmEl F inc e = true → ∀ p ∈ funsE e, nmB F inc p.2.body = true
  | .none, _, p, hp => by simp [funsE] at hp
  | .els b, h, p, hp => by
      simp only [nmEl] at h
      simp only [funsE] at hp
      exact funsB_nm b h p hp
  | .elif c t e, h, p, hp => by
      simp only [nmEl, Bool.and_eq_true] at h
      simp only [funsE, List.mem_append] at hp
      rcases hp with hp | hp
      · exact funsB_nm t h.1.2 p hp
      · exact funsE_nm e h.2 p hp
end

/-- the table a `ProgOK` program defines satisfies `TablesOK` -/
theorem tablesOK_progTable {scfg : SConfig W} {B : List SStmt} (hsf : scfg.sfuns = progTable B) (hB : ProgOK B) :
    TablesOK scfg := by
  intro id d hd
  rw [hsf] at hd
  obtain ⟨i, hm⟩ := progTable_mem hd
  exact funsB_ok false false B hB.noRaw hB.noReserved hB.noInclude hB.noWhileContinue hB.wellNested _ hm

/-- … and `TableClean` when the program reads no forbidden identifier -/
theorem tableClean_progTable {scfg : SConfig W} {B : List SStmt} (hsf : scfg.sfuns = progTable B)
    (hnm : nmB globalFns false B = true) : TableClean scfg := by
  intro id d hd
  rw [hsf] at hd
  obtain ⟨i, hm⟩ := progTable_mem hd
  exact funsB_nm B hnm _ hm

/-- **T4 for `HostImpl.host`, whole-program form**: the function table is the one the program defines; every hypothesis is a
(decidable) condition on the program `B` and the start state `st` — `ProgOK B`, `FidsInOrder B`, `NoGlobalAccess B st` — or
fixes the configuration (`Agree`, the host, the table, unlimited budget). -/
theorem parse_exec_structured_hostImpl_whole {cfg : Config HostImpl.World} {scfg : SConfig HostImpl.World} {start : FnId → Nat}
    (ag : Agree cfg scfg start) (hh : cfg.host = HostImpl.host) (hmax : cfg.maxStatements = 0) (B : List SStmt)
    (hsf : scfg.sfuns = progTable B) (hB : ProgOK B) (hfid : FidsInOrder B) (base : Option String)
    (st st' : State HostImpl.World) (hs : StRel st st') (hng : NoGlobalAccess B st) :
    ∃ P, parseLines (renderB B) = .ok P ∧
      (∀ fuel, execute cfg fuel P base st ≠ .oof →
        ∃ r', ResRel (execute cfg fuel P base st) r' ∧ ∃ N, ∀ k, N ≤ k → runS scfg k B st' = r') ∧
      (∀ k, runS scfg k B st' ≠ .oof →
        ∃ r, ResRel r (runS scfg k B st') ∧ ∃ N, ∀ f, N ≤ f → execute cfg f P base st = r) :=
  parse_exec_structured_hostImpl_syntactic ag hh (tableClean_progTable hsf hng.prog) (tablesOK_progTable hsf hB) hmax B hB hfid
    base st st' hs hng

/-- the same for `HostLib.hostLib` -/
theorem parse_exec_structured_hostLib_whole {cfg : Config HostLib.LWorld} {scfg : SConfig HostLib.LWorld} {start : FnId → Nat}
    (ag : Agree cfg scfg start) (hh : cfg.host = HostLib.hostLib) (hmax : cfg.maxStatements = 0) (B : List SStmt)
    (hsf : scfg.sfuns = progTable B) (hB : ProgOK B) (hfid : FidsInOrder B) (base : Option String)
    (st st' : State HostLib.LWorld) (hs : StRel st st') (hng : NoGlobalAccessL B st) :
    ∃ P, parseLines (renderB B) = .ok P ∧
      (∀ fuel, execute cfg fuel P base st ≠ .oof →
        ∃ r', ResRel (execute cfg fuel P base st) r' ∧ ∃ N, ∀ k, N ≤ k → runS scfg k B st' = r') ∧
      (∀ k, runS scfg k B st' ≠ .oof →
        ∃ r, ResRel r (runS scfg k B st') ∧ ∃ N, ∀ f, N ≤ f → execute cfg f P base st = r) :=
  parse_exec_structured_hostLib_syntactic ag hh (tableClean_progTable hsf hng.prog) (tablesOK_progTable hsf hB) hmax B hB hfid
    base st st' hs hng

namespace Demo
open C01.Demo

def u (s : String) : Name := .user s
def var (s : String) : Expr := .variable (u s)
def call (f : String) (args : List Expr) : Expr := .function (u f) args

/-- The program
```
function f(n):
    acc = 0
    for x in arrayNew(1, 2, 3):
        acc = acc + x
    endfor
    return acc + n
endfunction
for y, i in arrayNew(10, 20):
    systemLog(y + f(i))
endfor
p = systemPartial(f, 100)
box = arrayNew(p, systemLog)
if arrayLength(box) > 1:
    g = arrayGet(box, 0)
    systemLog(g())
endif
```
a function (with a `for` of its own), a `for` with an index variable at global scope (its hidden `__bareScriptValues0 / Length0`
are globals), library calls, a partial application, *function values stored in a container* and fetched back — the situations
the value-flow invariant has to cover.  On the real implementation it logs `16 27 106`, as `impl_pure_run` below. -/
def prog : List SStmt := [
  .func 0 (u "f") [u "n"] false false fBody,
  .for (u "y") (some (u "i")) (call "arrayNew" [.number 10, .number 20]) [
    .expr none (call "systemLog" [.binary .add (var "y") (call "f" [var "i"])]) ],
  .expr (some (u "p")) (call "systemPartial" [var "f", .number 100]),
  .expr (some (u "box")) (call "arrayNew" [var "p", var "systemLog"]),
  .ite (.binary .gt (call "arrayLength" [var "box"]) (.number 1)) [
    .expr (some (u "g")) (call "arrayGet" [var "box", .number 0]),
    .expr none (call "systemLog" [call "g" []]) ] .none ]

theorem progOK : ProgOK prog :=
  ⟨by simp [prog, fBody, NoRawB, NoRawS, NoRawE], by decide, by decide, by decide, by decide⟩

theorem sfuns_eq_find (id : FnId) : sfuns id = (([(0, fDef)] : List (FnId × SFuncDef)).find? (·.1 == id)).map (·.2) := by
  unfold sfuns
  by_cases h : id = 0
  · subst h; rfl
  · have : ((0 : Nat) == id) = false := by rw [beq_eq_false_iff_ne]; exact fun e => h e.symm
    simp [h, this]

theorem tableClean_impl : TableClean implSCfg := tableClean_of_list implSCfg [(0, fDef)] sfuns_eq_find (by decide +kernel)

theorem tableClean_lib : TableClean libSCfg := tableClean_of_list libSCfg [(0, fDef)] sfuns_eq_find (by decide +kernel)

/-- **non-vacuity**: the program and the usual start state (all 18 library functions bound under their names —
`systemGlobalGet` and `systemGlobalSet` included — empty heap) satisfy the predicate -/
theorem nga_prog : NoGlobalAccess prog implSt0 :=
  ⟨by decide +kernel, envOK_libBindings _ HostImpl.libNames, worldOK_empty⟩

/-- … also from a start state with a non-empty heap and partial table holding (clean) function values -/
example : NoGlobalAccess prog
    { implSt0 with world := { heap := [.arr [.fn (.lib "systemLog"), .num 1], .obj [("k", .fn (.other 0))]],
                              partials := [(.fn (.lib "arrayPush"), [.arr 0])] } } :=
  ⟨nga_prog.prog, nga_prog.globals, by decide +kernel⟩

/-- **the predicate is not trivially true** — a program that mentions `systemGlobalSet` fails it (`C01.Demo.prog` calls
`systemGlobalSet('g', 5)` and `systemGlobalGet('g')`) … -/
example : ¬ NoGlobalAccess C01.Demo.prog implSt0 := fun h => absurd h.prog (by decide +kernel)

/-- … so does the program of `C01.Demo.touching_program_differs` (which really runs differently on the machine and in the
source-level reading) … -/
example : ¬ NoGlobalAccess peekProg implSt0 := fun h => absurd h.prog (by decide +kernel)

/-- … a program that only *reads* the identifier as a variable (to pass the function on) … -/
example : ¬ NoGlobalAccess [.expr (some (u "h")) (var "systemGlobalGet")] implSt0 := fun h => absurd h.prog (by decide +kernel)

/-- … a start state that binds one of the two functions under another name … -/
example : ¬ NoGlobalAccess prog { implSt0 with globals := (u "peek", .fn (.lib "systemGlobalGet")) :: implSt0.globals } := by
  intro h
  have := h.globals _ List.mem_cons_self
  revert this; decide +kernel

/-- … keeps it in a heap cell … -/
example : ¬ NoGlobalAccess prog { implSt0 with world := { heap := [.arr [.fn (.lib "systemGlobalSet")]] } } := by
  intro h
  have := h.world.1 _ List.mem_cons_self _ List.mem_cons_self
  revert this; decide +kernel

/-- … or inside a partial application. -/
example : ¬ NoGlobalAccess prog
    { implSt0 with world := { partials := [(.fn (.lib "systemGlobalGet"), [.str "__bareScriptIndex0"])] } } := by
  intro h
  have := (h.world.2 _ List.mem_cons_self).1
  revert this; decide +kernel

/-! the state part of the predicate is needed: programs that never mention the two identifiers, run from start states that
fail `EnvOK` / `WorldOK`, do touch a reserved global -/

/-- `for x in arrayNew(7, 8): systemLog(peek('__bareScriptIndex0')) endfor` -/
def aliasProg : List SStmt := [
  .for (u "x") none (call "arrayNew" [.number 7, .number 8]) [
    .expr none (call "systemLog" [call "peek" [.string "__bareScriptIndex0"]]) ] ]

/-- `for x in arrayNew(7, 8): g = arrayGet(box, 0); systemLog(g('__bareScriptIndex0')) endfor` -/
def boxProg : List SStmt := [
  .for (u "x") none (call "arrayNew" [.number 7, .number 8]) [
    .expr (some (u "g")) (call "arrayGet" [var "box", .number 0]),
    .expr none (call "systemLog" [call "g" [.string "__bareScriptIndex0"]]) ] ]

/-- the function under another name -/
def aliasSt : State HostImpl.World :=
  { implSt0 with globals := (u "peek", .fn (.lib "systemGlobalGet")) :: implSt0.globals }

/-- the function in a heap cell -/
def boxSt : State HostImpl.World :=
  { implSt0 with globals := (u "box", .arr 0) :: implSt0.globals, world := { heap := [.arr [.fn (.lib "systemGlobalGet")]] } }

/-- both programs satisfy the program part (`nmB`) and `ProgOK`; the start states fail the state part; and the guarded runs
report a reserved global: the machine logs the hidden loop index `0 1` -/
theorem state_condition_needed :
    nmB globalFns false aliasProg = true ∧ nmB globalFns false boxProg = true ∧
    ¬ EnvOK globalFns aliasSt.globals ∧ ¬ WorldOK globalFns boxSt.world ∧
    touchesReserved (execute (guardCfg (peekCfg HostImpl.host)) 300 (lowerProgram aliasProg) none aliasSt) = true ∧
    touchesReserved (execute (guardCfg (peekCfg HostImpl.host)) 300 (lowerProgram boxProg) none boxSt) = true ∧
    logI (execute (peekCfg HostImpl.host) 300 (lowerProgram aliasProg) none aliasSt) = some ["0", "1"] ∧
    logI (execute (peekCfg HostImpl.host) 300 (lowerProgram boxProg) none boxSt) = some ["0", "1"] := by
  rw [host_eq2]
  decide +kernel

/-- the hypotheses of the HostImpl theorems are inhabited -/
example (fuel : Nat) (base : Option String) :
    touchesReserved (execute (guardCfg implCfg) fuel (lowerProgram prog) base implSt0) = false :=
  noGlobalAccess_touchesReserved impl_agree rfl tableClean_impl nga_prog fuel base

example (base : Option String) (st' : State HostImpl.World) (hs : StRel implSt0 st') :=
  parse_exec_structured_hostImpl_syntactic impl_agree rfl tableClean_impl funcOK rfl prog progOK (by decide) base implSt0 st'
    hs nga_prog

example (base : Option String) (st' : State HostImpl.World) (hs : StRel implSt0 st') :=
  ticked_erasure_hostImpl_syntactic impl_agree rfl tableClean_impl funcOK rfl prog progOK base implSt0 st' hs nga_prog

example (max fuel : Nat) (base : Option String) (st' : State HostImpl.World) (hs : StRel implSt0 st') :=
  parse_exec_structured_budget_hostImpl_syntactic (cfg := implCfgB max) (scfg := implSCfg) (start := fun _ => 0)
    ⟨rfl, rfl, rfl, fun _ => rfl⟩ rfl tableClean_impl funcOK prog progOK (by decide) fuel base implSt0 st' hs nga_prog

/-- the pure configuration over the kernel-evaluable copy of the host (`C01.HostK`, proved equal) -/
def implSCfgK : SConfig HostImpl.World := { host := HostK.hostK, sfuns := sfuns }
theorem implSCfg_K : implSCfg = implSCfgK :=
  congrArg (fun h => ({ host := h, sfuns := sfuns } : SConfig HostImpl.World)) HostK.host_eq

/-- the pure source-level reading **with the real host** (no guard) logs `16 27 106` (evaluated by the kernel) … -/
theorem impl_pure_run : logI (runS implSCfg 100 prog implSt0) = some ["16", "27", "106"] := by
  rw [implSCfg_K]; decide +kernel

/-- … **hence so does `execute_script` on the parsed text with the real `HostImpl.host`**, for every sufficiently large fuel —
by `parse_exec_structured_hostImpl_syntactic`: no run of a guarded host is evaluated, the side condition is the decidable
`NoGlobalAccess prog implSt0` -/
example : ∃ P, parseLines (renderB prog) = .ok P ∧
    ∃ N, ∀ f, N ≤ f → logI (execute implCfg f P none implSt0) = some ["16", "27", "106"] := by
  obtain ⟨P, hP, _, hconv⟩ := parse_exec_structured_hostImpl_syntactic impl_agree rfl tableClean_impl funcOK rfl prog progOK
    (by decide) none implSt0 implSt0 (StRel.refl _) nga_prog
  obtain ⟨N, hN⟩ := world?_eventually (hconv 100 (ne_oof_of_world? impl_pure_run))
  exact ⟨P, hP, N, fun f hf => by rw [logI, hN f hf]; exact impl_pure_run⟩

/-- the pure side on its own -/
example (k : Nat) : runS implSCfg k prog implSt0 = runS (guardS implSCfg) k prog implSt0 :=
  (noGlobalAccess_runS rfl tableClean_impl nga_prog k).2

/-- the whole-program form: configurations whose table is the one `prog` defines -/
def wholeSCfg : SConfig HostImpl.World := { host := HostImpl.host, sfuns := progTable prog }
def wholeCfg : Config HostImpl.World :=
  { host := HostImpl.host, funs := fun id => (progTable prog id).map (lowerDef 0), maxStatements := 0 }

example (base : Option String) (st' : State HostImpl.World) (hs : StRel implSt0 st') :=
  parse_exec_structured_hostImpl_whole (cfg := wholeCfg) (scfg := wholeSCfg) (start := fun _ => 0) ⟨rfl, rfl, rfl, fun _ => rfl⟩
    rfl rfl prog rfl progOK (by decide) base implSt0 st' hs nga_prog

theorem ngaL_prog : NoGlobalAccessL prog libSt0 :=
  ⟨nga_prog.prog, envOK_libBindings _ HostLib.libNames, rfl, fun _ h => by cases h⟩

example : ¬ NoGlobalAccessL C01.Demo.prog libSt0 := fun h => absurd h.prog (by decide +kernel)

example (fuel : Nat) (base : Option String) :
    touchesReserved (execute (guardCfg libCfg) fuel (lowerProgram prog) base libSt0) = false :=
  noGlobalAccessL_touchesReserved lib_agree rfl tableClean_lib ngaL_prog fuel base

example (base : Option String) (st' : State HostLib.LWorld) (hs : StRel libSt0 st') :=
  parse_exec_structured_hostLib_syntactic lib_agree rfl tableClean_lib funcOK rfl prog progOK (by decide) base libSt0 st' hs
    ngaL_prog

example (base : Option String) (st' : State HostLib.LWorld) (hs : StRel libSt0 st') :=
  ticked_erasure_hostLib_syntactic lib_agree rfl tableClean_lib funcOK rfl prog progOK base libSt0 st' hs ngaL_prog

end Demo

end C01Syn
