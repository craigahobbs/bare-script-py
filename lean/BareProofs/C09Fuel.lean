import BareProofs.RunRelMachine
open Machine
namespace C09
variable {W α β : Type}

def Oc.Le (a b : Oc α W) : Prop := a = .oof ∨ b = a

theorem Oc.Le.refl (a : Oc α W) : a.Le a := .inr rfl

theorem Oc.Le.bind {a b : Oc α W} {ka kb : α → State W → Oc β W} (h : a.Le b) (hk : ∀ x s, (ka x s).Le (kb x s)) :
    (a.bind ka).Le (b.bind kb) := by
  rcases h with rfl | rfl
  · exact .inl rfl
  · cases b with
    | ok x s => exact hk x s
    | err e s => exact .inr rfl
    | oof => exact .inl rfl

theorem Oc.le_view {γ : Type} {f : γ → Oc α W} (hf : ∀ {x y}, f x = f y → x = y) {o : γ} (ho : f o = .oof) {a b : γ} :
    (f a).Le (f b) ↔ (a = o ∨ b = a) :=
  ⟨Or.imp (fun h => hf (h.trans ho.symm)) hf, Or.imp (fun h => h ▸ ho) (fun h => h ▸ rfl)⟩

theorem Out.le_oc {a b : Out W} : a.oc.Le b.oc ↔ (a = .oof ∨ b = a) := Oc.le_view Out.oc_inj rfl
theorem Res.le_oc {a b : Res W} : a.oc.Le b.oc ↔ (a = .oof ∨ b = a) := Oc.le_view Res.oc_inj rfl

/-- the flat order as a relation between runs: same state on both sides, the right outcome is the left one unless the
left run is out of fuel -/
def leRel : RunRel W Unit where
  St := fun s s' => s' = s
  R := fun _ a S => a.Le (S ())
  ok := fun _ _ _ hs => .inr (hs ▸ rfl)
  err := fun _ _ _ _ hs => .inr (hs ▸ rfl)
  bind := fun h hk => Oc.Le.bind h fun a s => hk a s s rfl

theorem leRel.call {cA cB : CallFn W} (hc : ∀ f a s, cA f a s = .oof ∨ cB f a s = cA f a s) :
    leRel.Call cA fun _ => cB := fun f a s s' h => by cases h; exact Out.le_oc.2 (hc f a s)

theorem leRel.treeAgree (cfg : Config W) : RunRel.TreeAgree leRel cfg cfg fun _ => True where
  sameWorld := fun _ _ h => by rw [h]
  debug := rfl
  logFailure := rfl
  world := fun _ _ _ _ h => by cases h; exact .refl _
  fail := fun _ _ _ _ _ h => by cases h; exact .refl _
  get := fun _ _ _ _ h => by rw [h]
  set := fun _ _ _ _ _ _ h => by cases h; exact .refl _

theorem leMach (cfg : Config W) : MachAgree leRel cfg cfg where
  eq := fun _ _ h => h
  funs := rfl
  builtins := rfl
  resolve := rfl
  fetch := rfl
  truthy := rfl
  binop := rfl
  neg := rfl
  builtin := rfl
  notCallable := rfl
  newArray := rfl
  oof := fun _ => .inl rfl
  tick := fun _ _ => .refl _
  enter := fun _ _ _ _ => .refl _
  typeError := fun _ _ _ => .refl _
  setGlobals := fun _ _ _ => .refl _
  lib := fun h _ _ s _ => leRel.runTree_rel (leRel.treeAgree cfg) h (RunRel.treeNames_all _) s s rfl
  other := fun h _ _ s _ => leRel.runTree_rel (leRel.treeAgree cfg) h (RunRel.treeNames_all _) s s rfl

section EvalFM
variable (cfg : Config W) (cA cB : CallFn W) (hc : ∀ f a s, cA f a s = .oof ∨ cB f a s = cA f a s) (locals : Option Env)
include hc

theorem evalExpr_le (e : Expr) (st : State W) : (evalExpr cfg cA locals e st).oc.Le (evalExpr cfg cB locals e st).oc :=
  leRel.evalExpr_rel ((leMach cfg).evalAgree locals) (leRel.call hc) e st st (fun _ _ => trivial) rfl

theorem evalArgs_le (es : List Expr) (st : State W) :
    (evalArgs cfg cA locals es st).oc.Le (evalArgs cfg cB locals es st).oc :=
  leRel.evalArgs_rel ((leMach cfg).evalAgree locals) (leRel.call hc) es st st (fun _ _ => trivial) rfl

theorem evalIf_le (es : List Expr) (st : State W) : (evalIf cfg cA locals es st).oc.Le (evalIf cfg cB locals es st).oc :=
  leRel.evalIf_rel ((leMach cfg).evalAgree locals) (leRel.call hc) es st st (fun _ _ => trivial) rfl

end EvalFM

def FuelMono (cfg : Config W) (fuel : Nat) : Prop :=
  ∀ fuel', fuel ≤ fuel' →
    (∀ f a s, callValue₀ cfg fuel f a s = .oof ∨ callValue₀ cfg fuel' f a s = callValue₀ cfg fuel f a s) ∧
    (∀ P locals base pc st, execM₀ cfg fuel P locals base pc st = .oof ∨
        execM₀ cfg fuel' P locals base pc st = execM₀ cfg fuel P locals base pc st) ∧
    (∀ base incs st, execIncludes₀ cfg fuel base incs st = .oof ∨
        execIncludes₀ cfg fuel' base incs st = execIncludes₀ cfg fuel base incs st)

theorem fuelMono (cfg : Config W) : ∀ fuel, FuelMono cfg fuel := fun fuel fuel' hle =>
  have ⟨hC, hE, hI⟩ := (leMach cfg).machine_rel fuel fuel' (.inr ⟨hle, fun _ _ => .inl rfl⟩)
  ⟨fun f a s => Out.le_oc.1 (hC f a s rfl), fun P l base pc st => Res.le_oc.1 (hE P l base pc st rfl),
    fun base incs st => Res.le_oc.1 (hI base incs st rfl)⟩

end C09
