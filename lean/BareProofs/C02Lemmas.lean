import BareModel.ExprParse
import BareProofs.TextRun
import BareProofs.C02Chars
import BareProofs.C13Scan

/-!
# C02 — text level: tokens, spellings and the scanner lemmas

The character classes `\s`, `\d`, `\w`, `[A-Za-z_]` (Unicode tables of runs) against each other, and the
specification-side vocabulary for the text-level theorems of `BareProofs/C02.lean`:

* `Tok`, `toks e` — the in-order token sequence of a tree (operands, operators, parentheses, `name(`, commas);
* `Spell tok body` — `body` is a spelling of `tok`: it belongs to the regular language of the token's pattern and denotes
  the token's value (declarative: no priorities, no backtracking);
* `Seg pre ts` — `pre` is the concatenation of `whitespace* spelling` for the tokens `ts`, in order;
* `Lexes text ts` — `text` is `Seg` followed by trailing whitespace.

Scanner lemmas.  Every scanner of `BareModel/ExprScan.lean` drops the leading blanks (`skipWs`, `SkipsWs`) and reads a token
from the front of what is left; each gets ONE statement about `skipWs t`, an `↔` where the scanner has one:
`scanX t = some (v, r)` iff `skipWs t` is a text that spells `v`, followed by `r`, and `r` does not continue it
(`scanChar_iff`, `scanVariable_iff`, `scanFuncOpen_iff`, `scanString_iff`, `scanVariableEx_iff`; operators: `firstAlt_spec`;
numbers: `scanNumber_tok`, the literal is a `NumText` token).  The body loop of strings and bracketed names is one function,
`escBody`, with `escBody_iff` over the inductive `Tiled`.  Each statement is followed by what other modules read off it
(`scanFuncOpen_cut`, `escBody_local`, `strBody_spec`, …), last `scanX_spec`, its reading in the vocabulary above: the consumed
text is a `Seg` of the one token returned.
-/

namespace C02
open ExprParse ExprScan TextRun

/-- `within ws rs`: every run of `rs` lies inside a run of `ws`, checked in one pass over the two ascending tables (a run
of `ws` is dropped for good as soon as it fails to hold the next run of `rs`) -/
def within : List (Nat × Nat) → List (Nat × Nat) → Bool
  | _, [] => true
  | [], _ :: _ => false
  | w :: ws, r :: rs => within ws ((r :: rs).dropWhile fun r => Nat.ble w.1 r.1 && Nat.ble r.2 w.2)

theorem within_sound : ∀ (ws rs : List (Nat × Nat)), within ws rs = true → ∀ r ∈ rs, ∃ w ∈ ws, w.1 ≤ r.1 ∧ r.2 ≤ w.2
  | _, [], _, _, hr => nomatch hr
  | [], _ :: _, h, _, _ => nomatch h
  | w :: ws, r0 :: rs, h, r, hr => by
    rw [← List.takeWhile_append_dropWhile (p := fun r => Nat.ble w.1 r.1 && Nat.ble r.2 w.2) (l := r0 :: rs)] at hr
    rcases List.mem_append.mp hr with hr | hr
    · have := mem_takeWhile hr
      simp only [Bool.and_eq_true, Nat.ble_eq] at this
      exact ⟨w, List.mem_cons_self, this⟩
    · obtain ⟨w', hw', h'⟩ := within_sound ws _ h r hr
      exact ⟨w', List.mem_cons_of_mem _ hw', h'⟩

/-- the runs of `\s` above ASCII -/
def spaceRuns : List (Nat × Nat) :=
  [(0x85, 0x85), (0xa0, 0xa0), (0x1680, 0x1680), (0x2000, 0x200a), (0x2028, 0x2029), (0x202f, 0x202f), (0x205f, 0x205f),
   (0x3000, 0x3000)]

theorem isPySpace_run {c : Char} (h : isPySpace c = true) :
    c.toNat ≤ 32 ∨ ∃ g ∈ spaceRuns, g.1 ≤ c.toNat ∧ c.toNat ≤ g.2 := by
  simp only [isPySpace, Bool.or_eq_true, Bool.and_eq_true, decide_eq_true_eq, beq_iff_eq] at h
  -- one case per disjunct of `isPySpace` (a single `omega` over the whole disjunction is slow to check)
  rcases h with (((((((((h | h) | h) | h) | h) | h) | h) | h) | h) | h) | h
  · exact .inl (by omega)
  · exact .inl (by omega)
  · exact .inr ⟨(0x85, 0x85), by decide, by omega, by omega⟩
  · exact .inr ⟨(0xa0, 0xa0), by decide, by omega, by omega⟩
  · exact .inr ⟨(0x1680, 0x1680), by decide, by omega, by omega⟩
  · exact .inr ⟨(0x2000, 0x200a), by decide, by omega, by omega⟩
  · exact .inr ⟨(0x2028, 0x2029), by decide, by omega, by omega⟩
  · exact .inr ⟨(0x2028, 0x2029), by decide, by omega, by omega⟩
  · exact .inr ⟨(0x202f, 0x202f), by decide, by omega, by omega⟩
  · exact .inr ⟨(0x205f, 0x205f), by decide, by omega, by omega⟩
  · exact .inr ⟨(0x3000, 0x3000), by decide, by omega, by omega⟩

/-- what lies between the runs of `\s` above ASCII -/
def spaceGaps : List (Nat × Nat) :=
  [(0x80, 0x84), (0x86, 0x9f), (0xa1, 0x167f), (0x1681, 0x1fff), (0x200b, 0x2027), (0x202a, 0x202e), (0x2030, 0x205e),
   (0x2060, 0x2fff), (0x3001, 0x10ffff)]

theorem wordRanges_spaceGaps : within spaceGaps Text.wordRanges = true := by decide +kernel

theorem space_not_word {c : Char} (h : isPySpace c = true) : isWord c = false := by
  unfold isWord Text.isWord Text.isWordN
  rcases isPySpace_run h with h | ⟨g, hg, h1, h2⟩
  · rw [if_pos (by omega)]
    simp only [Bool.or_eq_false_iff, Bool.and_eq_false_iff, decide_eq_false_iff_not, beq_eq_false_iff_ne]
    omega
  · have := (by decide : ∀ g ∈ spaceRuns, 128 ≤ g.1) g hg
    rw [if_neg (by omega), List.any_eq_false]
    intro w hw
    obtain ⟨gap, hgap, e1, e2⟩ := within_sound _ _ wordRanges_spaceGaps w hw
    have := (by decide : ∀ gap ∈ spaceGaps, ∀ g ∈ spaceRuns, gap.2 < g.1 ∨ g.2 < gap.1) gap hgap g hg
    simp only [Bool.and_eq_true, decide_eq_true_eq]
    omega

theorem word_not_space {c : Char} (h : isWord c = true) : isPySpace c = false :=
  Bool.eq_false_iff.mpr fun hs => by rw [space_not_word hs] at h; cases h

theorem isIdStart_iff {c : Char} :
    isIdStart c = true ↔ (65 ≤ c.toNat ∧ c.toNat ≤ 90) ∨ (97 ≤ c.toNat ∧ c.toNat ≤ 122) ∨ c.toNat = 95 := by
  have : c = '_' ↔ c.toNat = 95 := ⟨fun h => by rw [h]; rfl, fun h => Char.toNat_inj.mp h⟩
  simp only [isIdStart, Bool.or_eq_true, Bool.and_eq_true, decide_eq_true_eq, beq_iff_eq, this, or_assoc]

theorem idStart_word {c : Char} (h : isIdStart c = true) : isWord c = true := by
  have := isIdStart_iff.mp h
  unfold isWord Text.isWord Text.isWordN
  rw [if_pos (by omega)]
  simp only [Bool.or_eq_true, Bool.and_eq_true, decide_eq_true_eq, beq_iff_eq]
  omega

example : isDigit '٣' = true ∧ digitVal '٣' = 3 ∧ digitVal '𝟡' = 9 ∧ isDigit '²' = false ∧ isWord '²' = true ∧ isWord 'é' = true ∧
    isIdStart 'é' = false ∧ isWord '€' = false := by decide +kernel

/-- behind the ASCII run `0..9`, every run of `\d` starts above ASCII and lies inside one run of `\w` (finite table fact) -/
theorem digitRanges_word :
    ((Rx.digitRanges.tail.all fun r => Nat.ble 128 r.1) && within Text.wordRanges Rx.digitRanges.tail) = true := by
  decide +kernel

theorem digit_word {c : Char} (h : isDigit c = true) : isWord c = true := by
  obtain ⟨r, hr, h1, h2⟩ := isDigit_iff.mp h
  obtain ⟨hhi, hin⟩ := Bool.and_eq_true_iff.mp digitRanges_word
  unfold isWord Text.isWord Text.isWordN
  rcases List.mem_cons.mp (show r ∈ (0x30, 0x39) :: Rx.digitRanges.tail from hr) with rfl | hr
  · rw [if_pos (by omega)]
    simp only [Bool.or_eq_true, Bool.and_eq_true, decide_eq_true_eq, beq_iff_eq]
    omega
  · have := Nat.ble_eq ▸ List.all_eq_true.mp hhi r hr
    obtain ⟨w, hw, e1, e2⟩ := within_sound _ _ hin r hr
    rw [if_neg (by omega), List.any_eq_true]
    exact ⟨w, hw, by simp only [Bool.and_eq_true, decide_eq_true_eq]; omega⟩

theorem digit_not_space {c : Char} (h : isDigit c = true) : isPySpace c = false := word_not_space (digit_word h)

theorem digitRanges_not_idStart :
    Rx.digitRanges.all (fun r => decide (r.2 < 65) || decide (122 < r.1)) = true := by decide +kernel

theorem digit_not_idStart {c : Char} (h : isDigit c = true) : isIdStart c = false := by
  obtain ⟨r, hr, h1, h2⟩ := isDigit_iff.mp h
  have := List.all_eq_true.mp digitRanges_not_idStart r hr
  simp only [Bool.or_eq_true, decide_eq_true_eq] at this
  exact Bool.eq_false_iff.mpr fun hi => by have := isIdStart_iff.mp hi; omega

theorem idStart_not_digit {c : Char} (h : isIdStart c = true) : isDigit c = false :=
  Bool.eq_false_iff.mpr fun hd => by rw [digit_not_idStart hd] at h; cases h

inductive Tok where
  | num (q : Rat)
  | str (s : String)
  | var (n : Name)
  | call (n : Name)      -- `name(`
  | comma
  | lparen
  | rparen
  | un (o : UnOp)
  | bin (o : BinOp)

mutual
/-- the in-order token sequence of a tree -/
def toks : Expr → List Tok
  | .number q => [.num q]
  | .string s => [.str s]
  | .variable n => [.var n]
  | .function n args => .call n :: (toksArgs args ++ [.rparen])
  | .binary op l r => toks l ++ .bin op :: toks r
  | .unary op e => .un op :: toks e
  | .group e => .lparen :: (toks e ++ [.rparen])
/-- arguments: the first one bare … -/
def toksArgs : List Expr → List Tok
  | [] => []
  | a :: rest => toks a ++ toksMore rest
/-- … every further one behind a comma -/
def toksMore : List Expr → List Tok
  | [] => []
  | a :: rest => .comma :: (toks a ++ toksMore rest)
end

def AllSpace (ws : List Char) : Prop := ∀ c ∈ ws, isPySpace c = true
def AllDigits (ds : List Char) : Prop := ∀ c ∈ ds, isDigit c = true

/-- `[A-Za-z_]\w*` -/
def IdentShape (id : List Char) : Prop := ∃ c w, id = c :: w ∧ isIdStart c = true ∧ ∀ d ∈ w, isWord d = true

/-- the language `(?:\\\\|\\q|[^q])*` -/
inductive StrTiles (q : Char) : List Char → Prop
  | nil : StrTiles q []
  | esc (d : Char) (t : List Char) : (d = '\\' ∨ d = q) → StrTiles q t → StrTiles q ('\\' :: d :: t)
  | other (c : Char) (t : List Char) : c ≠ q → StrTiles q t → StrTiles q (c :: t)

/-- the language `(?:\\\]|[^\]])*` (the pattern's `+` is the extra `raw ≠ []` of `Spell.varEx`) -/
inductive BrTiles : List Char → Prop
  | nil : BrTiles []
  | esc (t : List Char) : BrTiles t → BrTiles ('\\' :: ']' :: t)
  | other (c : Char) (t : List Char) : c ≠ ']' → BrTiles t → BrTiles (c :: t)

/-- `[+-]?` -/
inductive SignShape : List Char → Bool → Prop
  | none : SignShape [] false
  | plus : SignShape ['+'] false
  | minus : SignShape ['-'] true

/-- `(?:\.\d*)?` -/
inductive FracShape : List Char → List Char → Prop
  | none : FracShape [] []
  | some (fp : List Char) : AllDigits fp → FracShape ('.' :: fp) fp

/-- `(?:e[+-]\d+)?` -/
inductive ExpShape : List Char → Int → Prop
  | none : ExpShape [] 0
  | pos (ed : List Char) : ed ≠ [] → AllDigits ed → ExpShape ('e' :: '+' :: ed) ((digitsVal ed : Nat) : Int)
  | neg (ed : List Char) : ed ≠ [] → AllDigits ed → ExpShape ('e' :: '-' :: ed) (-((digitsVal ed : Nat) : Int))

/-- `[+-]?\d+(?:\.\d*)?(?:e[+-]\d+)?` denoting `q` -/
def NumShape (body : List Char) (q : Rat) : Prop :=
  ∃ sg neg ip frac fp exp ex, body = sg ++ (ip ++ (frac ++ exp)) ∧ SignShape sg neg ∧ ip ≠ [] ∧ AllDigits ip ∧
    FracShape frac fp ∧ ExpShape exp ex ∧ q = decVal neg ip fp ex

/-- `body` spells the token: membership in the token pattern's language + the value it denotes.  A number token is never
spelled with a leading `-` (the pattern allows it, but `_parse_unary_expression` tries the unary operator first, so a
`-` in operand position is always the operator token: `-5` is `[un neg, num 5]`). -/
inductive Spell : Tok → List Char → Prop
  | bin (p : List Char) (o : BinOp) : (p, o) ∈ binOpAlts → Spell (.bin o) p
  | un (p : List Char) (o : UnOp) : (p, o) ∈ unOpAlts → Spell (.un o) p
  | lparen : Spell .lparen ['(']
  | rparen : Spell .rparen [')']
  | comma : Spell .comma [',']
  | call (id ws : List Char) : IdentShape id → 1 ≤ id.length → AllSpace ws →
      Spell (.call (Name.ofString (String.ofList id))) (id ++ (ws ++ ['(']))
  | var (id : List Char) : IdentShape id → Spell (.var (Name.ofString (String.ofList id))) id
  | varEx (ws raw : List Char) : AllSpace ws → raw ≠ [] → BrTiles raw →
      Spell (.var (Name.ofString (String.ofList (unescape ']' raw)))) ('[' :: (ws ++ (raw ++ [']'])))
  | num (body : List Char) (q : Rat) : NumShape body q → body.head? ≠ some '-' → Spell (.num q) body
  | str (q : Char) (raw : List Char) : (q = '\'' ∨ q = '"') → StrTiles q raw →
      Spell (.str (String.ofList (unescape q raw))) (q :: (raw ++ [q]))

/-- `pre` is `(whitespace* spelling)*` for the tokens `ts` -/
inductive Seg : List Char → List Tok → Prop
  | nil : Seg [] []
  | cons (ws body more : List Char) (tok : Tok) (ts : List Tok) :
      AllSpace ws → Spell tok body → Seg more ts → Seg (ws ++ (body ++ more)) (tok :: ts)

/-- the whole text is the token sequence `ts`, tokens separated by optional whitespace, optional whitespace at the end -/
def Lexes (text : List Char) (ts : List Tok) : Prop := ∃ pre ws, text = pre ++ ws ∧ Seg pre ts ∧ AllSpace ws

theorem Spell.ne_nil {tok : Tok} {body : List Char} (h : Spell tok body) : body ≠ [] := by
  cases h with
  | bin p o hm => exact (by decide : ∀ a ∈ binOpAlts, a.1 ≠ []) _ hm
  | un p o hm => exact (by decide : ∀ a ∈ unOpAlts, a.1 ≠ []) _ hm
  | call id ws hid => obtain ⟨c, w, rfl, _⟩ := hid; exact List.cons_ne_nil _ _
  | var id hid => obtain ⟨c, w, rfl, _⟩ := hid; exact List.cons_ne_nil _ _
  | num body q hn _ => obtain ⟨sg, neg, ip, frac, fp, exp, ex, rfl, _, hip, _⟩ := hn; simp [hip]
  | _ => exact List.cons_ne_nil _ _

theorem Seg.append {a b : List Char} {ts us : List Tok} (ha : Seg a ts) (hb : Seg b us) : Seg (a ++ b) (ts ++ us) := by
  induction ha with
  | nil => simpa using hb
  | cons ws body more tok ts hws hsp _ ih =>
    have : ws ++ (body ++ more) ++ b = ws ++ (body ++ (more ++ b)) := by simp
    rw [this]; exact Seg.cons ws body (more ++ b) tok (ts ++ us) hws hsp ih

theorem Seg.single {ws body : List Char} {tok : Tok} (hws : AllSpace ws) (hsp : Spell tok body) :
    Seg (ws ++ body) [tok] := by
  simpa using Seg.cons ws body [] tok [] hws hsp Seg.nil

theorem Seg.ne_nil {pre : List Char} {tok : Tok} {ts : List Tok} (h : Seg pre (tok :: ts)) : pre ≠ [] := by
  cases h with
  | cons ws body more _ _ hws hsp _ => simp [hsp.ne_nil]

theorem AllSpace.append {a b : List Char} (ha : AllSpace a) (hb : AllSpace b) : AllSpace (a ++ b) := by
  intro c hc; rcases List.mem_append.mp hc with h | h
  · exact ha c h
  · exact hb c h

theorem skipWs_split (t : List Char) : ∃ ws, t = ws ++ skipWs t ∧ AllSpace ws :=
  ⟨t.takeWhile isPySpace, (List.takeWhile_append_dropWhile).symm, fun _ => mem_takeWhile⟩

theorem skipWs_stops (t : List Char) : Stops isPySpace (skipWs t) := stops_dropWhile _ _

theorem skipWs_of_stops {t : List Char} (h : Stops isPySpace t) : skipWs t = t := h.dropWhile

theorem skipWs_cons {c : Char} (h : isPySpace c = false) (t : List Char) : skipWs (c :: t) = c :: t :=
  skipWs_of_stops (stops_cons h)

theorem skipWs_append {w : List Char} (hw : AllSpace w) (t : List Char) : skipWs (w ++ t) = skipWs t :=
  List.dropWhile_append_of_pos hw

theorem skipWs_allSpace {w : List Char} (hw : AllSpace w) : skipWs w = [] := by
  rw [← List.append_nil w, skipWs_append hw]; rfl

theorem skipWs_idem (t : List Char) : skipWs (skipWs t) = skipWs t := skipWs_of_stops (skipWs_stops t)

theorem skipWs_length_le (t : List Char) : (skipWs t).length ≤ t.length := (List.dropWhile_sublist _).length_le

theorem rest_lt_of_skipWs {t body r : List Char} (h : skipWs t = body ++ r) (hb : body ≠ []) :
    r.length < (skipWs t).length := by
  have := List.length_pos_iff.mpr hb
  rw [h, List.length_append]; omega

/-- the scanner begins with `\s*` -/
def SkipsWs {β : Type} (sc : List Char → Option β) : Prop := ∀ t, sc t = sc (skipWs t)

theorem SkipsWs.ws {β : Type} {sc : List Char → Option β} (h : SkipsWs sc) {w : List Char} (hw : AllSpace w) (t : List Char) :
    sc (w ++ t) = sc t := by
  rw [h, skipWs_append hw, ← h]

theorem skips_alts {α : Type} (alts : List (List Char × α)) : SkipsWs (fun t => firstAlt alts (skipWs t)) :=
  fun t => by simp only [skipWs_idem]
theorem skips_binOp : SkipsWs scanBinOp := skips_alts _
theorem skips_unaryOp : SkipsWs scanUnaryOp := skips_alts _
theorem skips_char (c : Char) : SkipsWs (scanChar c) := fun t => by simp only [scanChar, skipWs_idem]
theorem skips_groupOpen : SkipsWs scanGroupOpen := skips_char _
theorem skips_funcOpen : SkipsWs scanFuncOpen := fun t => by simp only [scanFuncOpen, skipWs_idem]
theorem skips_number : SkipsWs scanNumber := fun t => by simp only [scanNumber, skipWs_idem]
theorem skips_string (q : Char) : SkipsWs (scanString q) := fun t => by simp only [scanString, skipWs_idem]
theorem skips_variable : SkipsWs scanVariable := fun t => by simp only [scanVariable, skipWs_idem]
theorem skips_variableEx : SkipsWs scanVariableEx := fun t => by simp only [scanVariableEx, skipWs_idem]

/-- the statement of a scanner on `skipWs t`, in the vocabulary of `Seg` -/
theorem Seg.of_skipWs {t body r : List Char} {tok : Tok} (e : skipWs t = body ++ r) (h : Spell tok body) :
    ∃ pre, t = pre ++ r ∧ Seg pre [tok] := by
  obtain ⟨ws, ht, hws⟩ := skipWs_split t
  exact ⟨ws ++ body, by rw [List.append_assoc, ← e]; exact ht, Seg.single hws h⟩

theorem stripPrefix_spec : ∀ (p t r : List Char), stripPrefix? p t = some r → t = p ++ r
  | [], t, r, h => by simp [stripPrefix?] at h; simp [h]
  | _ :: _, [], r, h => by simp [stripPrefix?] at h
  | a :: ps, c :: t, r, h => by
    simp only [stripPrefix?] at h
    split at h
    · rename_i hac; subst hac; simp [stripPrefix_spec ps t r h]
    · cases h

theorem firstAlt_spec {α : Type} : ∀ (alts : List (List Char × α)) (t : List Char) (a : α) (r : List Char),
    firstAlt alts t = some (a, r) → ∃ p, (p, a) ∈ alts ∧ t = p ++ r
  | [], t, a, r, h => by simp [firstAlt] at h
  | (p, b) :: rest, t, a, r, h => by
    simp only [firstAlt] at h
    split at h
    · rename_i r' hr'
      simp only [Option.some.injEq, Prod.mk.injEq] at h
      obtain ⟨rfl, rfl⟩ := h
      exact ⟨p, List.mem_cons_self .., stripPrefix_spec p t r' hr'⟩
    · obtain ⟨p', hm, ht⟩ := firstAlt_spec rest t a r h
      exact ⟨p', List.mem_cons_of_mem _ hm, ht⟩

theorem BinOp.mem_all (o : BinOp) : o ∈ BinOp.all := by cases o <;> decide

theorem scanBinOp_spec {t r : List Char} {op : BinOp} (h : scanBinOp t = some (op, r)) :
    ∃ pre, t = pre ++ r ∧ Seg pre [.bin op] :=
  have ⟨p, hm, hp⟩ := firstAlt_spec _ _ _ _ h
  Seg.of_skipWs hp (.bin p op hm)

theorem scanUnaryOp_spec {t r : List Char} {op : UnOp} (h : scanUnaryOp t = some (op, r)) :
    ∃ pre, t = pre ++ r ∧ Seg pre [.un op] :=
  have ⟨p, hm, hp⟩ := firstAlt_spec _ _ _ _ h
  Seg.of_skipWs hp (.un p op hm)

theorem scanChar_iff {c : Char} {t r : List Char} : scanChar c t = some r ↔ skipWs t = c :: r := by
  unfold scanChar
  cases skipWs t with
  | nil => simp
  | cons d x =>
    by_cases h : d = c
    · subst h; simp
    · simp [h]

theorem scanChar_spec {c : Char} {tok : Tok} (hs : Spell tok [c]) {t r : List Char} (h : scanChar c t = some r) :
    ∃ pre, t = pre ++ r ∧ Seg pre [tok] :=
  Seg.of_skipWs (body := [c]) (scanChar_iff.mp h) hs

/-- `_R_EXPR_VARIABLE`: behind the blanks an identifier, and no word character follows it -/
theorem scanVariable_iff {t n r : List Char} :
    scanVariable t = some (n, r) ↔ skipWs t = n ++ r ∧ IdentShape n ∧ Stops isWord r := by
  unfold scanVariable
  cases skipWs t with
  | nil =>
    refine ⟨fun h => (nomatch h), fun ⟨e, ⟨c, w, hn, _⟩, _⟩ => ?_⟩
    subst hn; cases e
  | cons c x =>
    by_cases hc : isIdStart c = true
    · simp only [hc, if_true, Option.some.injEq, Prod.mk.injEq]
      constructor
      · rintro ⟨rfl, rfl⟩
        exact ⟨by simp [List.takeWhile_append_dropWhile], ⟨c, _, rfl, hc, fun _ => mem_takeWhile⟩, stops_dropWhile _ _⟩
      · rintro ⟨e, ⟨c', w, rfl, _, hw⟩, hr⟩
        simp only [List.cons_append, List.cons.injEq] at e
        obtain ⟨rfl, rfl⟩ := e
        exact ⟨by rw [takeWhile_append_stop hw hr], dropWhile_append_stop hw hr⟩
    · simp only [hc, Bool.false_eq_true, if_false]
      refine ⟨fun h => (nomatch h), fun ⟨e, ⟨c', w, hn, hc', _⟩, _⟩ => ?_⟩
      subst hn
      obtain ⟨rfl, -⟩ := List.cons.inj e
      exact absurd hc' hc

theorem scanVariable_spec {t r n : List Char} (h : scanVariable t = some (n, r)) :
    ∃ pre, t = pre ++ r ∧ Seg pre [.var (Name.ofString (String.ofList n))] :=
  have ⟨e, hid, _⟩ := scanVariable_iff.mp h
  Seg.of_skipWs e (.var n hid)

/-- `_R_EXPR_FUNCTION_OPEN` is `_R_EXPR_VARIABLE` followed by `\s*\(` -/
theorem scanFuncOpen_eq (t : List Char) :
    scanFuncOpen t = (scanVariable t).bind fun nx => (scanChar '(' nx.2).map fun r => (nx.1, r) := by
  unfold scanFuncOpen scanVariable scanChar
  cases skipWs t with
  | nil => rfl
  | cons c x =>
    by_cases hc : isIdStart c = true
    · simp only [hc, if_true, Option.bind_some]
      cases skipWs (x.dropWhile isWord) with
      | nil => rfl
      | cons d r2 => by_cases hd : d = '(' <;> simp [hd]
    · simp [hc]

theorem scanFuncOpen_iff {t n r : List Char} :
    scanFuncOpen t = some (n, r) ↔ ∃ x, scanVariable t = some (n, x) ∧ scanChar '(' x = some r := by
  simp only [scanFuncOpen_eq, Option.bind_eq_some_iff, Option.map_eq_some_iff, Prod.exists, Prod.mk.injEq]
  exact ⟨fun ⟨_, x, hv, _, hc, hn, hr⟩ => ⟨x, hn ▸ hv, hr ▸ hc⟩, fun ⟨x, hv, hc⟩ => ⟨n, x, hv, r, hc, rfl, rfl⟩⟩

theorem scanFuncOpen_cut {t r n : List Char} (h : scanFuncOpen t = some (n, r)) :
    ∃ ws2, skipWs t = n ++ (ws2 ++ '(' :: r) ∧ IdentShape n ∧ AllSpace ws2 := by
  obtain ⟨x, hv, hc⟩ := scanFuncOpen_iff.mp h
  obtain ⟨e, hid, _⟩ := scanVariable_iff.mp hv
  obtain ⟨ws2, ex, hws2⟩ := skipWs_split x
  exact ⟨ws2, by rw [e, ex, scanChar_iff.mp hc], hid, hws2⟩

theorem scanFuncOpen_spec {t r n : List Char} (h : scanFuncOpen t = some (n, r)) :
    ∃ pre, t = pre ++ r ∧ Seg pre [.call (Name.ofString (String.ofList n))] := by
  obtain ⟨ws2, e, hid, hws2⟩ := scanFuncOpen_cut h
  refine Seg.of_skipWs (body := n ++ (ws2 ++ ['('])) (by rw [e]; simp) (.call n ws2 hid ?_ hws2)
  obtain ⟨c, w, rfl, _⟩ := hid
  exact Nat.succ_le_succ (Nat.zero_le _)

/-! The number scanner is `NumText.scanTok true` followed by `Tok.val` (`C13Scan`): what it consumed is the text of a literal token,
and a token spells, in the vocabulary of `Spell`, the number it denotes. -/

theorem scanNumber_tok {t r : List Char} {q : Rat} :
    scanNumber t = some (q, r) ↔ ∃ tok, NumText.scanTok true (skipWs t) = some (tok, r) ∧ q = tok.val := by
  rw [C13Bridge.scanNumber_eq_numCore, C13Bridge.numCore_eq_scanTok, ← C13Bridge.isPySpace_fun]
  show (NumText.scanTok true (skipWs t)).map _ = _ ↔ _
  constructor
  · intro h
    obtain ⟨⟨tok, r'⟩, hs, he⟩ := Option.map_eq_some_iff.1 h
    cases he; exact ⟨tok, hs, rfl⟩
  · rintro ⟨tok, hs, rfl⟩
    rw [hs]; rfl

open NumText C13 C13Bridge in
theorem allDigits_iff_digs {l : List Char} : AllDigits l ↔ Digs l := by
  unfold AllDigits; rw [isDigit_fun]; exact Iff.rfl

open NumText C13 C13Bridge in
/-- a strict literal token spells the number it denotes -/
theorem numShape_of_tok {t : NumText.Tok} (h : TokWF true t) : NumShape t.text t.val := by
  obtain ⟨sg, ip, fr, ex⟩ := t
  have hip : ip ≠ [] := h.someDigit.resolve_right (by simp)
  refine ⟨sg.text, decide (sg = .minus), ip, fracText fr, fr.getD [], expText ex, expVal ex, rfl, ?_, hip,
    allDigits_iff_digs.mpr h.ip, ?_, ?_, (val_bridge sg ip fr ex).symm⟩
  · cases sg <;> constructor
  · cases fr with
    | none => exact .none
    | some fp => exact .some fp (allDigits_iff_digs.mpr (h.fp fp rfl))
  · cases ex with
    | none => exact .none
    | some e =>
      obtain ⟨up, s, ds⟩ := e
      have he := h.exp _ rfl
      obtain ⟨hu, hs⟩ := he.strictE rfl
      simp only at hu hs; subst hu
      cases s with
      | none => exact absurd rfl hs
      | plus =>
        simpa [expText, ExpPart.text, Sign.text, expVal, ExpPart.val, digitsVal_eq_natOf] using
          ExpShape.pos ds he.ne (allDigits_iff_digs.mpr he.digs)
      | minus =>
        simpa [expText, ExpPart.text, Sign.text, expVal, ExpPart.val, digitsVal_eq_natOf] using
          ExpShape.neg ds he.ne (allDigits_iff_digs.mpr he.digs)

/-- in operand position (no unary operator matches) the literal does not start with `-` -/
theorem scanNumber_spec {t r : List Char} {q : Rat} (hun : scanUnaryOp t = none) (h : scanNumber t = some (q, r)) :
    ∃ pre, t = pre ++ r ∧ Seg pre [.num q] := by
  obtain ⟨tok, hs, rfl⟩ := scanNumber_tok.mp h
  obtain ⟨htext, hwf⟩ := C13.scanTok_sound hs
  refine Seg.of_skipWs htext (.num _ _ (numShape_of_tok hwf) fun hh => ?_)
  obtain ⟨bs, hb⟩ := List.head?_eq_some_iff.mp hh
  simp [scanUnaryOp, htext, hb, firstAlt, unOpAlts, stripPrefix?] at hun

theorem map_fst_eq_some {g : List Char → List Char} {o : Option (List Char × List Char)} {raw rest : List Char}
    (h : o.map (fun p => (g p.1, p.2)) = some (raw, rest)) : ∃ raw', o = some (raw', rest) ∧ g raw' = raw := by
  obtain ⟨⟨raw', rest'⟩, hp, heq⟩ := Option.map_eq_some_iff.mp h
  obtain ⟨rfl, rfl⟩ := Prod.mk.inj heq
  exact ⟨raw', hp, rfl⟩

/-- the loop of `strBody` and of `bracketBody`: up to the first closing `q`; a backslash takes the next character with it if
that character is one of `esc` and a `q` still follows (`strBody q`: `esc` = backslash and `q`; `bracketBody`: `esc` = `]`) -/
def escBody (esc : Char → Bool) (q : Char) : List Char → Option (List Char × List Char)
  | [] => none
  | c :: t =>
    if c = q then some ([], t)
    else if c = '\\' then
      match t with
      | d :: t' =>
        if esc d && t'.contains q then (escBody esc q t').map (fun p => (c :: d :: p.1, p.2))
        else (escBody esc q (d :: t')).map (fun p => (c :: p.1, p.2))
      | [] => none
    else (escBody esc q t).map (fun p => (c :: p.1, p.2))

/-- the raw text `escBody esc q` returns in front of the closing `q`, read from the left: a backslash pairs with a following
`esc` character (a `q` follows it, the closing one at the latest); a backslash directly in front of the closing `q` stays
alone, which the engine allows only if no further `q` stands behind (`more = false`) -/
inductive Tiled (esc : Char → Bool) (q : Char) (more : Bool) : List Char → Prop
  | nil : Tiled esc q more []
  | last : (esc q && more) = false → Tiled esc q more ['\\']
  | pair (d : Char) (t : List Char) : esc d = true → Tiled esc q more t → Tiled esc q more ('\\' :: d :: t)
  | lone (d : Char) (t : List Char) : esc d = false → Tiled esc q more (d :: t) → Tiled esc q more ('\\' :: d :: t)
  | other (c : Char) (t : List Char) : c ≠ q → c ≠ '\\' → Tiled esc q more t → Tiled esc q more (c :: t)

section
variable {esc : Char → Bool} {q : Char}

theorem escBody_q (t : List Char) : escBody esc q (q :: t) = some ([], t) := by
  rw [escBody.eq_def]; simp

theorem escBody_esc (hq : q ≠ '\\') (d : Char) (t' : List Char) : escBody esc q ('\\' :: d :: t') =
    if esc d && t'.contains q then (escBody esc q t').map (fun p => ('\\' :: d :: p.1, p.2))
    else (escBody esc q (d :: t')).map (fun p => ('\\' :: p.1, p.2)) := by
  rw [escBody.eq_def]; simp [hq.symm]

theorem escBody_other {c : Char} (h1 : c ≠ q) (h2 : c ≠ '\\') (t : List Char) :
    escBody esc q (c :: t) = (escBody esc q t).map (fun p => (c :: p.1, p.2)) := by
  rw [escBody.eq_def]; simp [h1, h2]

theorem contains_append_q (a r : List Char) : (a ++ q :: r).contains q = true := by simp

theorem escBody_iff (hq : q ≠ '\\') {x raw rest : List Char} :
    escBody esc q x = some (raw, rest) ↔ x = raw ++ q :: rest ∧ Tiled esc q (rest.contains q) raw := by
  constructor
  · intro h
    fun_induction escBody esc q x generalizing raw with
    | case1 => cases h
    | case2 t => cases h; exact ⟨rfl, .nil⟩
    | case3 d t' hcond hne ih =>
      obtain ⟨raw1, hp, rfl⟩ := map_fst_eq_some (g := ('\\' :: d :: ·)) h
      obtain ⟨rfl, ht⟩ := ih hp
      exact ⟨rfl, .pair d raw1 (Bool.and_eq_true_iff.mp hcond).1 ht⟩
    | case4 d t' hcond hne ih =>
      obtain ⟨raw1, hp, rfl⟩ := map_fst_eq_some (g := ('\\' :: ·)) h
      obtain ⟨e, ht⟩ := ih hp
      refine ⟨congrArg _ e, ?_⟩
      cases raw1 with
      | nil => cases e; exact .last (Bool.eq_false_iff.mpr hcond)
      | cons a raw2 =>
        -- the backslash stands inside the body: a `q` follows, so it stayed alone because `d` is not escapable
        simp only [List.cons_append, List.cons.injEq] at e
        obtain ⟨rfl, rfl⟩ := e
        rw [contains_append_q, Bool.and_true] at hcond
        exact .lone d raw2 (Bool.eq_false_iff.mpr hcond) ht
    | case5 => cases h
    | case6 c t hc hb ih =>
      obtain ⟨raw1, hp, rfl⟩ := map_fst_eq_some (g := (c :: ·)) h
      obtain ⟨rfl, ht⟩ := ih hp
      exact ⟨rfl, .other c raw1 hc hb ht⟩
  · rintro ⟨rfl, ht⟩
    induction ht with
    | nil => exact escBody_q rest
    | last h => rw [List.singleton_append, escBody_esc hq, h, escBody_q]; rfl
    | pair d t hd _ ih => rw [List.cons_append, List.cons_append, escBody_esc hq, hd, contains_append_q, ih]; rfl
    | lone d t hd _ ih =>
      rw [List.cons_append, List.cons_append, escBody_esc hq, hd, Bool.false_and, ← List.cons_append, ih]; rfl
    | other c t h1 h2 _ ih => rw [List.cons_append, escBody_other h1 h2, ih]; rfl

/-- the body read does not depend on the text behind the closing `q`, except through "does another `q` follow" -/
theorem escBody_local (hq : q ≠ '\\') {x raw rest : List Char} (h : escBody esc q x = some (raw, rest)) :
    x = raw ++ q :: rest ∧
      ∀ rest', rest'.contains q = rest.contains q → escBody esc q (raw ++ q :: rest') = some (raw, rest') :=
  have ⟨e, ht⟩ := (escBody_iff hq).mp h
  ⟨e, fun _ hc => (escBody_iff hq).mpr ⟨rfl, hc ▸ ht⟩⟩

theorem contains_cons_ne {c : Char} (l : List Char) (h : c ≠ q) : (c :: l).contains q = l.contains q := by
  rw [List.contains_cons, beq_eq_false_iff_ne.mpr fun e => h e.symm, Bool.false_or]

theorem escBody_none_iff (x : List Char) : escBody esc q x = none ↔ x.contains q = false := by
  fun_induction escBody esc q x with
  | case1 => simp
  | case2 t => simp
  | case3 d t' hcond hne ih =>
    simp only [Option.map_eq_none_iff, ih, contains_cons_ne _ hne, List.contains_cons,
      (Bool.and_eq_true_iff.mp hcond).2, Bool.or_true]
  | case4 d t' hcond hne ih => simp only [Option.map_eq_none_iff, ih, contains_cons_ne _ hne]
  | case5 hne => rw [contains_cons_ne _ hne]; exact ⟨fun _ => rfl, fun _ => rfl⟩
  | case6 c t hcq hcb ih => simp only [Option.map_eq_none_iff, ih, contains_cons_ne _ hcq]

end

/-- the escapable characters of a string literal, of a bracketed name -/
abbrev strEsc (q : Char) (d : Char) : Bool := d = '\\' || d = q
abbrev brEsc (d : Char) : Bool := d = ']'

theorem strBody_eq (q : Char) (t : List Char) : strBody q t = escBody (strEsc q) q t := by
  fun_induction strBody q t with
  | case1 => rfl
  | case2 t => rw [escBody_q]
  | case3 d t' hcond hne ih => rw [escBody_esc (Ne.symm hne), if_pos hcond, ih]
  | case4 d r hcond hne ih => rw [escBody_esc (Ne.symm hne), if_neg hcond, ih]
  | case5 hne => rw [escBody.eq_def]; simp [hne]
  | case6 c t hcq hcb ih => rw [escBody_other hcq hcb, ih]

theorem bracketBody_eq (t : List Char) : bracketBody t = escBody brEsc ']' t := by
  fun_induction bracketBody t with
  | case1 => rfl
  | case2 t => rw [escBody_q]
  | case3 d t' hcond hne ih => rw [escBody_esc (by decide), if_pos hcond, ih]
  | case4 d r hcond hne ih => rw [escBody_esc (by decide), if_neg hcond, ih]
  | case5 hne => rw [escBody.eq_def]; simp
  | case6 c t hcq hcb ih => rw [escBody_other hcq hcb, ih]

theorem tiled_strTiles {q : Char} (hq : q ≠ '\\') {more : Bool} {raw : List Char} (h : Tiled (strEsc q) q more raw) :
    StrTiles q raw := by
  induction h with
  | nil => exact .nil
  | last => exact .other _ _ hq.symm .nil
  | pair d t hd _ ih => exact .esc d t (by simpa [strEsc] using hd) ih
  | lone d t _ _ ih => exact .other _ _ hq.symm ih
  | other c t h1 _ _ ih => exact .other c t h1 ih

theorem tiled_brTiles {more : Bool} {raw : List Char} (h : Tiled brEsc ']' more raw) : BrTiles raw := by
  induction h with
  | nil => exact .nil
  | last => exact .other _ _ (by decide) .nil
  | pair d t hd _ ih =>
    obtain rfl : d = ']' := by simpa [brEsc] using hd
    exact .esc t ih
  | lone d t _ _ ih => exact .other _ _ (by decide) ih
  | other c t h1 _ _ ih => exact .other c t h1 ih

theorem strBody_spec (q : Char) (hq : q ≠ '\\') (t raw rest : List Char) (h : strBody q t = some (raw, rest)) :
    t = raw ++ q :: rest ∧ StrTiles q raw :=
  have ⟨e, ht⟩ := (escBody_iff hq).mp (strBody_eq q t ▸ h)
  ⟨e, tiled_strTiles hq ht⟩

theorem bracketBody_spec (t raw rest : List Char) (h : bracketBody t = some (raw, rest)) :
    t = raw ++ ']' :: rest ∧ BrTiles raw :=
  have ⟨e, ht⟩ := (escBody_iff (by decide)).mp (bracketBody_eq t ▸ h)
  ⟨e, tiled_brTiles ht⟩

/-- `_R_EXPR_STRING` / `_R_EXPR_STRING_DOUBLE` -/
theorem scanString_iff {q : Char} (hq : q ≠ '\\') {t s r : List Char} :
    scanString q t = some (s, r) ↔
      ∃ raw, skipWs t = q :: (raw ++ q :: r) ∧ Tiled (strEsc q) q (r.contains q) raw ∧ s = unescape q raw := by
  unfold scanString
  cases skipWs t with
  | nil => exact ⟨fun h => (nomatch h), fun ⟨_, e, _⟩ => (nomatch e)⟩
  | cons c x =>
    dsimp only
    by_cases hc : c = q
    · subst hc
      rw [if_pos rfl, strBody_eq]
      constructor
      · intro h
        obtain ⟨raw, hp, rfl⟩ := map_fst_eq_some (g := unescape c) h
        obtain ⟨rfl, ht⟩ := (escBody_iff hq).mp hp
        exact ⟨raw, rfl, ht, rfl⟩
      · rintro ⟨raw, e, ht, rfl⟩
        obtain ⟨-, rfl⟩ := List.cons.inj e
        rw [(escBody_iff hq).mpr ⟨rfl, ht⟩]; rfl
    · rw [if_neg hc]
      exact ⟨fun h => (nomatch h), fun ⟨_, e, _⟩ => absurd (List.cons.inj e).1 hc⟩

theorem scanString_spec {q : Char} (hq : q = '\'' ∨ q = '"') {t r s : List Char} (h : scanString q t = some (s, r)) :
    ∃ pre, t = pre ++ r ∧ Seg pre [.str (String.ofList s)] := by
  have hq' : q ≠ '\\' := by rcases hq with rfl | rfl <;> decide
  obtain ⟨raw, e, ht, rfl⟩ := (scanString_iff hq').mp h
  exact Seg.of_skipWs (body := q :: (raw ++ [q])) (by simpa using e) (.str q raw hq (tiled_strTiles hq' ht))

theorem unescape_single (q w : Char) : unescape q [w] = [w] := by
  simp only [unescape]; split <;> rfl

theorem Tiled.head_ne {esc : Char → Bool} {q d : Char} {more : Bool} {t : List Char} (hq : q ≠ '\\')
    (h : Tiled esc q more (d :: t)) : d ≠ q := by
  cases h with
  | last | pair | lone => exact hq.symm
  | other _ _ h1 => exact h1

/-- `_R_EXPR_VARIABLE_EX`: behind `[` and all blanks `ws0` stands either the closing bracket (then the name is the last of
the blanks, which the engine gives back) or a non-empty body up to the closing bracket -/
theorem scanVariableEx_iff {t n r : List Char} :
    scanVariableEx t = some (n, r) ↔ ∃ ws0 x, skipWs t = '[' :: (ws0 ++ x) ∧ AllSpace ws0 ∧ Stops isPySpace x ∧
      ((∃ ws1 w, ws0 = ws1 ++ [w] ∧ x = ']' :: r ∧ n = [w]) ∨
       (∃ raw, x = raw ++ ']' :: r ∧ raw ≠ [] ∧ Tiled brEsc ']' (r.contains ']') raw ∧ n = unescape ']' raw)) := by
  unfold scanVariableEx
  cases skipWs t with
  | nil => exact ⟨fun h => (nomatch h), fun ⟨_, _, e, _⟩ => (nomatch e)⟩
  | cons c y =>
    dsimp only
    by_cases hc : c = '['
    · subst hc
      rw [if_pos rfl]
      constructor
      · intro h
        refine ⟨y.takeWhile isPySpace, y.dropWhile isPySpace, by rw [List.takeWhile_append_dropWhile],
          fun _ => mem_takeWhile, stops_dropWhile _ _, ?_⟩
        cases hd : y.dropWhile isPySpace with
        | nil => rw [hd] at h; cases h
        | cons d r2 =>
          rw [hd] at h
          dsimp only at h
          by_cases hdb : d = ']'
          · subst hdb
            rw [if_pos rfl] at h
            cases hw : (y.takeWhile isPySpace).getLast? with
            | none => rw [hw] at h; cases h
            | some w =>
              rw [hw] at h
              obtain ⟨rfl, rfl⟩ := Prod.mk.inj (Option.some.inj h)
              obtain ⟨ys, hys⟩ := List.getLast?_eq_some_iff.mp hw
              exact .inl ⟨ys, w, hys, rfl, rfl⟩
          · rw [if_neg hdb] at h
            obtain ⟨raw, hp, rfl⟩ := map_fst_eq_some (g := unescape ']') h
            obtain ⟨e, ht⟩ := (escBody_iff (by decide)).mp (bracketBody_eq _ ▸ hp)
            exact .inr ⟨raw, e, fun h0 => by subst h0; exact hdb (List.cons.inj e).1, ht, rfl⟩
      · rintro ⟨ws0, x, e, hws0, hx, hcase⟩
        obtain ⟨-, rfl⟩ := List.cons.inj e
        rw [takeWhile_append_stop hws0 hx, dropWhile_append_stop hws0 hx]
        rcases hcase with ⟨ws1, w, rfl, rfl, rfl⟩ | ⟨raw, rfl, hne, ht, rfl⟩
        · simp
        · obtain ⟨d, raw', rfl⟩ := List.exists_cons_of_ne_nil hne
          rw [List.cons_append]
          dsimp only
          rw [if_neg (ht.head_ne (by decide)), ← List.cons_append, bracketBody_eq,
            (escBody_iff (by decide)).mpr ⟨rfl, ht⟩]
          rfl
    · rw [if_neg hc]
      exact ⟨fun h => (nomatch h), fun ⟨_, _, e, _⟩ => absurd (List.cons.inj e).1 hc⟩

theorem scanVariableEx_spec {t r n : List Char} (h : scanVariableEx t = some (n, r)) :
    ∃ pre, t = pre ++ r ∧ Seg pre [.var (Name.ofString (String.ofList n))] := by
  obtain ⟨ws0, x, e, hws0, _, hcase⟩ := scanVariableEx_iff.mp h
  rcases hcase with ⟨ws1, w, rfl, rfl, rfl⟩ | ⟨raw, rfl, hne, ht, rfl⟩
  · have hw : isPySpace w = true := hws0 w (by simp)
    have := Spell.varEx ws1 [w] (fun c hc => hws0 c (by simp [hc])) (by simp)
      (.other w [] (by rintro rfl; revert hw; decide) .nil)
    rw [unescape_single] at this
    exact Seg.of_skipWs (by rw [e]; simp) this
  · exact Seg.of_skipWs (by rw [e]; simp) (.varEx ws0 raw hws0 hne (tiled_brTiles ht))

end C02
