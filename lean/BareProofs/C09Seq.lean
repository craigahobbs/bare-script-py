import BareModel.MachineSpec

/-!
# The evaluator and the statement machine in sequenced form

`Out`, `ArgsOut` and `Res` are one shape (`Oc`), and every clause of the evaluator and of the machine is a chain of "run
this; on a result go on with that; hand errors and `oof` through" (`Oc.bind`).  Each clause is stated once in that
form, so that a property of runs needs a rule for `bind` and one for each primitive step.

One statement of the machine is read once: `stepStmt` is its effect as data (`StmtStep`: go to the next statement with these
locals, take this jump, or end the list), a function of the call and include runners alone; `execM₀_succ` is tick, budget
test, `stepStmt`, and `StmtStep.run` for what follows.  `StmtStep.oc` / `Go.run` are the same in sequenced form
(`execM₀_tick`), so that the statement clause of a pass is a fact about `stepStmt` without fuel, and three cases of going on.
-/

open Machine
namespace C09
variable {W α β : Type}

inductive Oc (α W : Type) where
  | ok (a : α) (st : State W)
  | err (e : RtErr) (st : State W)
  | oof

def Oc.bind : Oc α W → (α → State W → Oc β W) → Oc β W
  | .ok a st, k => k a st
  | .err e st, _ => .err e st
  | .oof, _ => .oof

def _root_.Machine.Out.oc : Out W → Oc Value W
  | .ok v st => .ok v st
  | .err e st => .err e st
  | .oof => .oof

def _root_.Machine.ArgsOut.oc : ArgsOut W → Oc (List Value) W
  | .ok vs st => .ok vs st
  | .err e st => .err e st
  | .oof => .oof

/-- falling off the end is the result `none`, `return v` the result `some v` -/
def _root_.Machine.Res.oc : Res W → Oc (Option Value) W
  | .done st => .ok none st
  | .ret v st => .ok (some v) st
  | .err e st => .err e st
  | .oof => .oof

theorem Out.oc_inj {a b : Out W} (h : a.oc = b.oc) : a = b := by
  cases a <;> cases b <;> cases h <;> rfl

theorem ArgsOut.oc_inj {a b : ArgsOut W} (h : a.oc = b.oc) : a = b := by
  cases a <;> cases b <;> cases h <;> rfl

theorem Res.oc_inj {a b : Res W} (h : a.oc = b.oc) : a = b := by
  cases a <;> cases b <;> cases h <;> rfl

theorem Out.oc_eq {a b : Out W} : a.oc = b.oc ↔ a = b := ⟨Out.oc_inj, congrArg _⟩
theorem ArgsOut.oc_eq {a b : ArgsOut W} : a.oc = b.oc ↔ a = b := ⟨ArgsOut.oc_inj, congrArg _⟩
theorem Res.oc_eq {a b : Res W} : a.oc = b.oc ↔ a = b := ⟨Res.oc_inj, congrArg _⟩

section Eval
variable (cfg : Config W) (call : CallFn W) (locals : Option Env)

def varValue (globals : Env) (n : Name) : Value :=
  if n = kwNull then .null else if n = kwFalse then .bool false else if n = kwTrue then .bool true
  else lookupVar locals globals n

theorem evalExpr_variable (n : Name) (st : State W) :
    evalExpr cfg call locals (.variable n) st = .ok (varValue locals st.globals n) st := by
  simp only [evalExpr, varValue]
  split
  · rfl
  · split
    · rfl
    · split <;> rfl

/-- the call of a looked-up function value (runtime.py:224-249) -/
def callRes (call : CallFn W) (n : Name) (r : Option Value) (vs : List Value) (st : State W) : Oc Value W :=
  match r with
  | some .null => .err (.undefinedFunction n) st
  | some fv => (call fv vs st).oc
  | none => .err (.undefinedFunction n) st

def callNamed (n : Name) (vs : List Value) (st : State W) : Oc Value W :=
  callRes call n (lookupFunc cfg locals st.globals n) vs st

theorem callNamed_cases (n : Name) (vs : List Value) (st : State W) :
    (∃ fv, lookupFunc cfg locals st.globals n = some fv ∧
        ∀ call : CallFn W, callNamed cfg call locals n vs st = (call fv vs st).oc) ∨
      ∀ call : CallFn W, callNamed cfg call locals n vs st = .err (.undefinedFunction n) st := by
  unfold callNamed callRes
  split
  · exact .inr fun _ => rfl
  · next fv _ h => exact .inl ⟨fv, h, fun _ => rfl⟩
  · exact .inr fun _ => rfl

theorem evalExpr_function (n : Name) (args : List Expr) (st : State W) :
    (evalExpr cfg call locals (.function n args) st).oc =
      if n = kwIf then (evalIf cfg call locals args st).oc
      else (evalArgs cfg call locals args st).oc.bind (callNamed cfg call locals n) := by
  simp only [evalExpr]
  split
  · rfl
  · cases evalArgs cfg call locals args st with
    | ok vs st1 =>
      show Out.oc (match lookupFunc cfg locals st1.globals n with | some .null => _ | some fv => _ | none => _) =
        callNamed cfg call locals n vs st1
      unfold callNamed
      cases lookupFunc cfg locals st1.globals n with
      | none => rfl
      | some fv => cases fv <;> rfl
    | err e st1 => rfl
    | oof => rfl

def binRest (op : BinOp) (r : Expr) (lv : Value) (st : State W) : Oc Value W :=
  match op with
  | .and => if cfg.host.truthy lv st.world then (evalExpr cfg call locals r st).oc else .ok lv st
  | .or => if cfg.host.truthy lv st.world then .ok lv st else (evalExpr cfg call locals r st).oc
  | op => (evalExpr cfg call locals r st).oc.bind fun rv st2 => .ok (cfg.host.binop op lv rv st2.world) st2

theorem evalExpr_binary (op : BinOp) (l r : Expr) (st : State W) :
    (evalExpr cfg call locals (.binary op l r) st).oc =
      (evalExpr cfg call locals l st).oc.bind (binRest cfg call locals op r) := by
  by_cases h1 : op = .and
  · subst h1; simp only [evalExpr]; cases evalExpr cfg call locals l st <;> first | rfl | exact apply_ite Out.oc ..
  by_cases h2 : op = .or
  · subst h2; simp only [evalExpr]; cases evalExpr cfg call locals l st <;> first | rfl | exact apply_ite Out.oc ..
  simp only [evalExpr]
  cases evalExpr cfg call locals l st with
  | err e st1 => rfl
  | oof => rfl
  | ok lv st1 =>
    show _ = binRest cfg call locals op r lv st1
    simp only [binRest]
    cases evalExpr cfg call locals r st1 <;> rfl

theorem binRest_and (r : Expr) (lv : Value) (st : State W) :
    binRest cfg call locals .and r lv st = if cfg.host.truthy lv st.world then (evalExpr cfg call locals r st).oc else .ok lv st := rfl

theorem binRest_or (r : Expr) (lv : Value) (st : State W) :
    binRest cfg call locals .or r lv st = if cfg.host.truthy lv st.world then .ok lv st else (evalExpr cfg call locals r st).oc := rfl

theorem binRest_strict {op : BinOp} (h1 : op ≠ .and) (h2 : op ≠ .or)
    (r : Expr) (lv : Value) (st : State W) :
    binRest cfg call locals op r lv st =
      (evalExpr cfg call locals r st).oc.bind fun rv st2 => .ok (cfg.host.binop op lv rv st2.world) st2 := by
  cases op <;> first | rfl | exact absurd rfl h1 | exact absurd rfl h2

/-- a strict operator with both operands evaluated: the host's operator in the world the right operand leaves behind -/
theorem evalExpr_strict {op : BinOp} (h1 : op ≠ .and) (h2 : op ≠ .or) {l r : Expr} {st st1 st2 : State W} {lv rv : Value}
    (hl : evalExpr cfg call locals l st = .ok lv st1) (hr : evalExpr cfg call locals r st1 = .ok rv st2) :
    evalExpr cfg call locals (.binary op l r) st = .ok (cfg.host.binop op lv rv st2.world) st2 := by
  apply Out.oc_inj
  rw [evalExpr_binary, hl]
  show binRest cfg call locals op r lv st1 = _
  rw [binRest_strict cfg call locals h1 h2, hr]
  rfl

def unValue (op : UnOp) (v : Value) (w : W) : Value :=
  match op with
  | .not => .bool (!cfg.host.truthy v w)
  | .neg => cfg.host.neg v

theorem evalExpr_unary (op : UnOp) (e : Expr) (st : State W) :
    (evalExpr cfg call locals (.unary op e) st).oc =
      (evalExpr cfg call locals e st).oc.bind fun v st1 => .ok (unValue cfg op v st1.world) st1 := by
  cases op <;> simp only [evalExpr] <;> cases evalExpr cfg call locals e st <;> rfl

theorem evalArgs_cons (a : Expr) (as : List Expr) (st : State W) :
    (evalArgs cfg call locals (a :: as) st).oc =
      (evalExpr cfg call locals a st).oc.bind fun v st1 =>
        (evalArgs cfg call locals as st1).oc.bind fun vs st2 => .ok (v :: vs) st2 := by
  simp only [evalArgs]
  cases evalExpr cfg call locals a st with
  | ok v st1 => simp only [Out.oc, Oc.bind]; cases evalArgs cfg call locals as st1 <;> rfl
  | err e st1 => rfl
  | oof => rfl

theorem evalArgs_vars (xs : List Name) (st : State W) :
    (evalArgs cfg call locals (xs.map .variable) st).oc = .ok (xs.map (varValue locals st.globals)) st := by
  induction xs with
  | nil => rfl
  | cons x xs ih =>
    rw [List.map_cons, evalArgs_cons, evalExpr_variable]
    show Oc.bind (evalArgs cfg call locals (xs.map .variable) st).oc _ = _
    rw [ih]
    rfl

theorem evalIf_one (c : Expr) (st : State W) :
    (evalIf cfg call locals [c] st).oc = (evalExpr cfg call locals c st).oc.bind fun _ st1 => .ok .null st1 := by
  simp only [evalIf]; cases evalExpr cfg call locals c st <;> rfl

def condRest (t : Expr) (f : Option Expr) (v : Value) (st : State W) : Oc Value W :=
  if cfg.host.truthy v st.world then (evalExpr cfg call locals t st).oc
  else match f with
    | some f => (evalExpr cfg call locals f st).oc
    | none => .ok .null st

theorem evalIf_two (c t : Expr) (st : State W) :
    (evalIf cfg call locals [c, t] st).oc = (evalExpr cfg call locals c st).oc.bind (condRest cfg call locals t none) := by
  simp only [evalIf]
  cases evalExpr cfg call locals c st with
  | ok v st1 => exact apply_ite Out.oc ..
  | err e st1 => rfl
  | oof => rfl

theorem evalIf_three (c t f : Expr) (rest : List Expr) (st : State W) :
    (evalIf cfg call locals (c :: t :: f :: rest) st).oc =
      (evalExpr cfg call locals c st).oc.bind (condRest cfg call locals t (some f)) := by
  simp only [evalIf]
  cases evalExpr cfg call locals c st with
  | ok v st1 => exact apply_ite Out.oc ..
  | err e st1 => rfl
  | oof => rfl

/-- the value a library outcome hands to the script, if any -/
def _root_.Machine.LibOut.val? : LibOut → Option Value
  | .ok v => some v
  | .fail v => some v
  | .rt _ => none

theorem runTree_call (f : Value) (args : List Value) (w : W) (k : Value → W → LibTree W) (st : State W) :
    (runTree cfg call (.call f args w k) st).oc =
      (call f args { st with world := w }).oc.bind fun v st1 => (runTree cfg call (k v st1.world) st1).oc := by
  simp only [runTree]; cases call f args { st with world := w } <;> rfl

end Eval

section Exec
variable (cfg : Config W) (fuel : Nat)

def enterFn (fd : FuncDef) (args : List Value) (st : State W) : Env × State W :=
  ((bindArgs cfg.host fd.lastArgArray fd.args args [] st.world).1,
   { st with world := (bindArgs cfg.host fd.lastArgArray fd.args args [] st.world).2 })

/-- the value of a call from the result of running the body (falling off the end gives `null`) -/
def resOut : Res W → Out W
  | .done st => .ok .null st
  | .ret v st => .ok v st
  | .err e st => .err e st
  | .oof => .oof

theorem resOut_oc (r : Res W) : (resOut r).oc = r.oc.bind fun o st' => .ok (o.getD .null) st' := by cases r <;> rfl

theorem callValue₀_script {id : FnId} {fd : FuncDef} (h : cfg.funs id = some fd) (args : List Value) (st : State W) :
    callValue₀ cfg (fuel+1) (.fn (.script id)) args st =
      resOut (execM₀ cfg fuel fd.body (some (enterFn cfg fd args st).1) none 0 (enterFn cfg fd args st).2) := by
  rw [callValue₀.eq_def]
  simp only [h, enterFn]
  cases execM₀ cfg fuel fd.body _ none 0 _ <;> rfl

theorem callValue₀_lib (name : String) (args : List Value) (st : State W) :
    callValue₀ cfg (fuel+1) (.fn (.lib name)) args st =
      runTree cfg (callValue₀ cfg fuel) (cfg.host.lib name args st.world) st := by rw [callValue₀.eq_def]

theorem callValue₀_other (k : Nat) (args : List Value) (st : State W) :
    callValue₀ cfg (fuel+1) (.fn (.other k)) args st =
      runTree cfg (callValue₀ cfg fuel) (cfg.host.other k args st.world) st := by rw [callValue₀.eq_def]

inductive Callee (cfg : Config W) (f : Value) : Prop where
  | script (id : FnId) (fd : FuncDef) (hf : f = .fn (.script id)) (h : cfg.funs id = some fd)
  | lib (name : String) (hf : f = .fn (.lib name))
  | other (k : Nat) (hf : f = .fn (.other k))
  | none (h : ∀ id, f = .fn (.script id) → cfg.funs id = none) (hl : ∀ name, f ≠ .fn (.lib name))
      (ho : ∀ k, f ≠ .fn (.other k))

theorem callee (f : Value) : Callee cfg f := by
  cases f with
  | fn fv =>
    cases fv with
    | script id =>
      cases h : cfg.funs id with
      | none => exact .none (fun _ hf => by cases hf; exact h) nofun nofun
      | some fd => exact .script id fd rfl h
    | lib name => exact .lib name rfl
    | other k => exact .other k rfl
  | _ => exact .none nofun nofun nofun

/-- calling what is not callable is a swallowed `TypeError`: the call gives null -/
theorem callValue₀_notCallable {f : Value} (h : ∀ id, f = .fn (.script id) → cfg.funs id = none)
    (hl : ∀ name, f ≠ .fn (.lib name)) (ho : ∀ k, f ≠ .fn (.other k)) (args : List Value) (st : State W) :
    callValue₀ cfg (fuel+1) f args st = .ok .null { st with world := cfg.host.notCallable f st.world } := by
  rw [callValue₀.eq_def]
  simp only
  split
  · next id => simp only [h id rfl]
  · exact absurd rfl (hl _)
  · exact absurd rfl (ho _)
  · rfl

/-- what one statement does: continue with the next statement, take a jump, or end the run of the list -/
inductive StmtStep (W : Type) where
  | next (locals : Option Env) (st : State W)
  | goto (l : Name) (st : State W)
  | halt (r : Res W)

/-- the statement cases of `execM` and `execM₀` (after the tick), parametric in the call and include runners: no fuel, no
continuation, no label lookup -/
def stepStmt (call : CallFn W) (incl : List IncludeScript → State W → Res W) (locals : Option Env) :
    Stmt → State W → StmtStep W
  | .expr name e, st1 =>
      match evalExpr cfg call locals e st1 with
      | .ok v st2 =>
          match name, locals with
          | none, _ => .next locals st2
          | some n, some l => .next (some (l.set n v)) st2
          | some n, none => .next none { st2 with globals := st2.globals.set n v }
      | .err e st2 => .halt (.err e st2)
      | .oof => .halt .oof
  | .jump l none, st1 => .goto l st1
  | .jump l (some c), st1 =>
      match evalExpr cfg call locals c st1 with
      | .ok v st2 => if cfg.host.truthy v st2.world then .goto l st2 else .next locals st2
      | .err e st2 => .halt (.err e st2)
      | .oof => .halt .oof
  | .ret none, st1 => .halt (.ret .null st1)
  | .ret (some e), st1 =>
      match evalExpr cfg call locals e st1 with
      | .ok v st2 => .halt (.ret v st2)
      | .err e st2 => .halt (.err e st2)
      | .oof => .halt .oof
  | .label _, st1 => .next locals st1
  | .function fid name _ _ _ _, st1 => .next locals { st1 with globals := st1.globals.set name (.fn (.script fid)) }
  | .include incs, st1 =>
      match incl incs st1 with
      | .done st2 => .next locals st2
      | o => .halt o

/-- how the cache-free machine goes on after a statement -/
def StmtStep.run (P : List Stmt) (k : Option Env → Nat → State W → Res W) (locals : Option Env) (pc : Nat) :
    StmtStep W → Res W
  | .next l st => k l (pc + 1) st
  | .goto lab st =>
      match findLabel P lab with
      | some i => k locals (i + 1) st
      | none => .err (.unknownLabel lab) st
  | .halt r => r

/-- where a step goes: `next` keeps the kind of scope, a `goto` comes from a jump statement to that label -/
theorem stepStmt_shape (call : CallFn W) (incl : List IncludeScript → State W → Res W) (l : Option Env)
    (s : Stmt) (st : State W) :
    match stepStmt cfg call incl l s st with
    | .next l1 _ => l1.isSome = l.isSome
    | .goto lab _ => ∃ c, s = .jump lab c
    | .halt _ => True := by
  cases s with
  | expr name e =>
    simp only [stepStmt]
    cases evalExpr cfg call l e st with
    | ok v st2 => cases name <;> cases l <;> rfl
    | err e st2 => trivial
    | oof => trivial
  | jump lab c =>
    cases c with
    | none => exact ⟨_, rfl⟩
    | some c =>
      simp only [stepStmt]
      cases evalExpr cfg call l c st with
      | ok v st2 =>
        simp only
        cases cfg.host.truthy v st2.world with
        | false => rfl
        | true => exact ⟨_, rfl⟩
      | err e st2 => trivial
      | oof => trivial
  | ret e =>
    cases e with
    | none => trivial
    | some e => simp only [stepStmt]; cases evalExpr cfg call l e st <;> trivial
  | label lab => rfl
  | function fid name args laa isAsync body => rfl
  | «include» incs => simp only [stepStmt]; cases incl incs st <;> trivial

/-- the budget test of runtime.py:61 on the counter after the tick -/
def overBudget (st : State W) : Bool := cfg.maxStatements > 0 && st.count + 1 > cfg.maxStatements

variable {cfg fuel} {P : List Stmt} {locals : Option Env} {base : Option String}

theorem execM₀_end {pc : Nat} (h : P[pc]? = none) (st : State W) : execM₀ cfg fuel P locals base pc st = .done st := by
  rw [execM₀.eq_1, h]

theorem execM₀_zero {pc : Nat} {s : Stmt} (h : P[pc]? = some s) (st : State W) :
    execM₀ cfg 0 P locals base pc st = .oof := by
  rw [execM₀.eq_1, h]

theorem execM₀_succ {pc : Nat} {s : Stmt} (h : P[pc]? = some s) (st : State W) :
    execM₀ cfg (fuel+1) P locals base pc st =
      if overBudget cfg st then .err (.exceeded cfg.maxStatements) { st with count := st.count + 1 }
      else (stepStmt cfg (callValue₀ cfg fuel) (execIncludes₀ cfg fuel base) locals s { st with count := st.count + 1 }).run P
        (fun l' pc' st' => execM₀ cfg fuel P l' base pc' st') locals pc := by
  rw [execM₀.eq_1]
  simp only [h]
  refine ite_congr rfl (fun _ => rfl) fun _ => ?_
  cases s with
  | expr name e =>
    simp only [stepStmt]
    cases evalExpr cfg (callValue₀ cfg fuel) locals e { st with count := st.count + 1 } with
    | ok v st2 => cases name <;> cases locals <;> rfl
    | err e st2 => rfl
    | oof => rfl
  | jump lab c =>
    cases c with
    | none => simp only [stepStmt, StmtStep.run]; cases findLabel P lab <;> rfl
    | some c =>
      simp only [stepStmt]
      cases evalExpr cfg (callValue₀ cfg fuel) locals c { st with count := st.count + 1 } with
      | ok v st2 =>
        simp only
        split
        · simp only [StmtStep.run]; cases findLabel P lab <;> rfl
        · simp only [StmtStep.run]
      | err e st2 => rfl
      | oof => rfl
  | ret e =>
    cases e with
    | none => rfl
    | some e =>
      simp only [stepStmt]
      cases evalExpr cfg (callValue₀ cfg fuel) locals e { st with count := st.count + 1 } <;> rfl
  | label lab => rfl
  | function fid name args laa isAsync body => rfl
  | «include» incs =>
    simp only [stepStmt]
    cases execIncludes₀ cfg fuel base incs { st with count := st.count + 1 } <;> rfl

/-! ### the step in sequenced form: `StmtStep W` is an outcome whose value says how to go on -/

inductive Go where
  | next (locals : Option Env)
  | goto (l : Name)
  | halt (o : Option Value)

def StmtStep.oc : StmtStep W → Oc Go W
  | .next l st => .ok (.next l) st
  | .goto lab st => .ok (.goto lab) st
  | .halt (.done st) => .ok (.halt none) st
  | .halt (.ret v st) => .ok (.halt (some v)) st
  | .halt (.err e st) => .err e st
  | .halt .oof => .oof

def Go.run (P : List Stmt) (k : Option Env → Nat → State W → Res W) (locals : Option Env) (pc : Nat) :
    Go → State W → Oc (Option Value) W
  | .next l, st => (k l (pc + 1) st).oc
  | .goto lab, st =>
      match findLabel P lab with
      | some i => (k locals (i + 1) st).oc
      | none => .err (.unknownLabel lab) st
  | .halt o, st => .ok o st

theorem StmtStep.run_oc (k : Option Env → Nat → State W → Res W) (pc : Nat) (x : StmtStep W) :
    (x.run P k locals pc).oc = x.oc.bind (Go.run P k locals pc) := by
  cases x with
  | next l st => rfl
  | goto lab st => simp only [StmtStep.run, StmtStep.oc, Oc.bind, Go.run]; cases findLabel P lab <;> rfl
  | halt r => cases r <;> rfl

/-- `name = e` with the value `v` of `e`: into the locals inside a function, into the globals at top level -/
def assign (name : Option Name) (locals : Option Env) (v : Value) (st : State W) : Option Env × State W :=
  match name, locals with
  | none, _ => (locals, st)
  | some n, some l => (some (l.set n v), st)
  | some n, none => (none, { st with globals := st.globals.set n v })

section StepOc
variable (cfg) (call : CallFn W) (incl : List IncludeScript → State W → Res W) (locals)

theorem stepStmt_expr (name : Option Name) (e : Expr) (st : State W) :
    (stepStmt cfg call incl locals (.expr name e) st).oc =
      (evalExpr cfg call locals e st).oc.bind fun v st2 =>
        .ok (.next (assign name locals v st2).1) (assign name locals v st2).2 := by
  simp only [stepStmt]
  cases evalExpr cfg call locals e st with
  | ok v st2 => cases name <;> cases locals <;> rfl
  | err e st2 => rfl
  | oof => rfl

theorem stepStmt_jumpIf (lab : Name) (c : Expr) (st : State W) :
    (stepStmt cfg call incl locals (.jump lab (some c)) st).oc =
      (evalExpr cfg call locals c st).oc.bind fun v st2 =>
        .ok (if cfg.host.truthy v st2.world then .goto lab else .next locals) st2 := by
  simp only [stepStmt]
  cases evalExpr cfg call locals c st with
  | ok v st2 => simp only [Out.oc, Oc.bind]; split <;> rfl
  | err e st2 => rfl
  | oof => rfl

theorem stepStmt_ret (e : Expr) (st : State W) :
    (stepStmt cfg call incl locals (.ret (some e)) st).oc =
      (evalExpr cfg call locals e st).oc.bind fun v st2 => .ok (.halt (some v)) st2 := by
  simp only [stepStmt]
  cases evalExpr cfg call locals e st <;> rfl

theorem stepStmt_include (incs : List IncludeScript) (st : State W) :
    (stepStmt cfg call incl locals (.include incs) st).oc =
      (incl incs st).oc.bind fun o st2 => .ok (match o with | none => .next locals | some v => .halt (some v)) st2 := by
  simp only [stepStmt]
  cases incl incs st <;> rfl

end StepOc

/-- the tick of runtime.py:59-61 as a step -/
def tickOc (c : Config W) (st : State W) : Oc Unit W :=
  if overBudget c st then .err (.exceeded c.maxStatements) { st with count := st.count + 1 }
  else .ok () { st with count := st.count + 1 }

theorem execM₀_tick {pc : Nat} {s : Stmt} (h : P[pc]? = some s) (st : State W) :
    (execM₀ cfg (fuel+1) P locals base pc st).oc =
      (tickOc cfg st).bind fun _ st1 =>
        (stepStmt cfg (callValue₀ cfg fuel) (execIncludes₀ cfg fuel base) locals s st1).oc.bind
          (Go.run P (fun l' pc' st' => execM₀ cfg fuel P l' base pc' st') locals pc) := by
  rw [execM₀_succ h, tickOc]
  split
  · rfl
  · exact StmtStep.run_oc ..

theorem execIncludes₀_cons (inc : IncludeScript) (rest : List IncludeScript) (st : State W) :
    (execIncludes₀ cfg fuel base (inc :: rest) st).oc =
      match cfg.fetch (cfg.resolve base inc) with
      | .missing => .err (.includeFailed (cfg.resolve base inc)) st
      | .broken => .err (.includeParse (cfg.resolve base inc)) st
      | .script stmts =>
        match fuel with
        | 0 => .oof
        | f+1 => (execM₀ cfg f stmts none (some (cfg.resolve base inc)) 0 st).oc.bind fun _ st' =>
            (execIncludes₀ cfg f base rest st').oc := by
  rw [execIncludes₀.eq_2]
  cases cfg.fetch (cfg.resolve base inc) with
  | missing => rfl
  | broken => rfl
  | script stmts =>
    cases fuel with
    | zero => rfl
    | succ fuel => simp only; cases execM₀ cfg fuel stmts none _ 0 st <;> rfl

end Exec

end C09
