import BareProofs.C09
import BareProofs.C09TermLemmas
import BareProofs.C09TermHosts

/-!
# C09Term — "no script can run forever"

Property C09 ends with "… and is aborted with the 'Exceeded maximum script statements' runtime error exactly when statement
L+1 would start, **so no script can run forever**".  In the model a run that does not end is a run that is out of fuel for
every fuel.  `C09.no_infinite_run_partial` bounds the statement counter for every host; this file proves the full clause

    0 < L  →  ∃ fuel, ∀ fuel' ≥ fuel, execute (withMax cfg L) fuel' P base st ≠ .oof

under the explicit hypothesis `HostWF cfg.host` (`C09TermLemmas`: an invariant on values and worlds that every host operation
preserves, and a rank of host calls that strictly decreases along call-backs) for every admissible start state; in the plain
"rank function" form `RankWF` for hosts that need no invariant; and for the two concrete hosts from every start state that
passes the decidable check `implStateOk m` / `libStateOk m` (`m = true`: no `systemPartial` function value and no partial
application anywhere in the state; `m = false`: no `arrayIndexOf` function value anywhere and no dangling partial).

Namespace `Counter`: the hypothesis cannot be dropped.  On `loopHost` (the host of the doc comment of
`no_infinite_run_partial`: a library function that calls itself back) the run is `oof` for every fuel.  **The concrete hosts
are not well-founded on all states** either: `a = arrayNew(); p = systemPartial(arrayIndexOf, a); arrayPush(a, p);
r = arrayIndexOf(a, p)` makes `arrayIndexOf` call `p([p]) = arrayIndexOf(a, p)` for ever without starting a statement, so one of
the two restrictions `m` is necessary.  (CPython ends exactly this run with `RecursionError`, which the call wrapper turns
into `null`: the recursion limit is not in the model.)
-/

open Machine
namespace C09
variable {W : Type}

section ExampleData
open HostImpl HostLib

/-- `m = false`: partial applications allowed.  The state holds the partial `q = systemPartial(systemLog, 'x')` and
`q2`, a partial of that partial; the loop `L: q2('y'); jump L` calls them for ever — until the budget ends it. -/
def sP : State World :=
  { globals := [(.user "systemLog", .fn (.lib "systemLog")), (.user "systemPartial", .fn (.lib "systemPartial")),
                (.user "q", .fn (.other 0)), (.user "q2", .fn (.other 1))],
    world := { partials := [(.fn (.lib "systemLog"), [.str "x"]), (.fn (.other 0), [.str "z"])] }, count := 0 }
def loopQ : List Stmt := [.label LL, .expr none (.function (.user "q2") [.string "y"]), .jump LL none]

def lcfgX : Config LWorld := { host := HostLib.hostLib, funs := fun _ => none, maxStatements := 0 }
def sL : State LWorld :=
  { globals := ["systemLog", "arrayNew", "arrayPush", "arrayIndexOf", "objectNew"].map fun n => (Name.user n, Value.fn (.lib n)),
    world := {}, count := 0 }
def loopL : List Stmt :=
  [.expr (some (.user "a")) (.function (.user "arrayNew") []), .label LL,
   .expr none (.function (.user "arrayPush") [.variable (.user "a"), .number 1]), .jump LL none]

end ExampleData

/-- **no_infinite_run_execM.** Under a positive statement limit, for a well-founded host: a statement list — top level,
function body or included script — run from any statement index, with any locals, any valid label cache and ANY counter
value, from an admissible state, ends (normally, with `return`, or with an error — e.g. the budget error) with some fuel,
and with every larger fuel. -/
theorem no_infinite_run_execM (cfg : Config W) (H : HostWF cfg.host) (hL : 0 < cfg.maxStatements) (P : List Stmt)
    (locals : Option Env) (base : Option String) (cache : Cache) (pc : Nat) (st : State W)
    (hc : C08.CacheValid P cache) (hst : SOK H st) (hl : LOK H st.world locals) :
    ∃ fuel, ∀ fuel', fuel ≤ fuel' → execM cfg fuel' P locals base cache pc st ≠ .oof := by
  obtain ⟨fuel, h⟩ := ((termM H hL _).2.1 st ⟨Nat.le_refl _, hst⟩ P locals base pc hl).ev H
  exact ⟨fuel, fun fuel' hle => C08.cache_transparent cfg fuel' P locals base cache pc st hc ▸ Res.oc_ne.1 (h fuel' hle)⟩

/-- `loopQ` from statement index 1 with the counter at 3, partial applications in the state -/
example : ∃ fuel, ∀ fuel', fuel ≤ fuel' →
    execM (withMax (xcfg [] []) 7) fuel' loopQ none none [] 1 { sP with count := 3 } ≠ .oof :=
  no_infinite_run_execM _ (hostImplWF false) (by decide) loopQ none none [] 1 _ (C08.cacheValid_nil _)
    (implStateOk_sound (m := false) (st := { sP with count := 3 }) (by decide)) (fun _ h => by cases h)

/-- **no_infinite_run_call.** … the same for a call of any admissible value (script function, library function with
call-backs, partial application, non-callable) with admissible arguments. -/
theorem no_infinite_run_call (cfg : Config W) (H : HostWF cfg.host) (hL : 0 < cfg.maxStatements) (f : Value)
    (args : List Value) (st : State W) (hst : SOK H st) (hf : H.ok st.world f) (ha : ∀ a ∈ args, H.ok st.world a) :
    ∃ fuel, ∀ fuel', fuel ≤ fuel' → callValue cfg fuel' f args st ≠ .oof := by
  obtain ⟨fuel, h⟩ := ((termM H hL _).1 st ⟨Nat.le_refl _, hst⟩ f args hf ha).ev H
  exact ⟨fuel, fun fuel' hle => C08.callValue_eq cfg fuel' ▸ Out.oc_ne.1 (h fuel' hle)⟩

/-- the partial of a partial `q2`, called directly -/
example : ∃ fuel, ∀ fuel', fuel ≤ fuel' →
    callValue (withMax (xcfg [] []) 7) fuel' (.fn (.other 1)) [.str "y"] sP ≠ .oof :=
  no_infinite_run_call _ (hostImplWF false) (by decide) _ _ sP (implStateOk_sound (by decide))
    (show vok false 2 (.fn (.other 1)) = true from rfl) (fun a h => by rw [List.mem_singleton.1 h]; rfl)

/-- … and for the entries of an include statement (`cfg.fetch` is a function: an include cycle is bounded by the budget) -/
theorem no_infinite_run_includes (cfg : Config W) (H : HostWF cfg.host) (hL : 0 < cfg.maxStatements)
    (base : Option String) (incs : List IncludeScript) (st : State W) (hst : SOK H st) :
    ∃ fuel, ∀ fuel', fuel ≤ fuel' → execIncludes cfg fuel' base incs st ≠ .oof := by
  obtain ⟨fuel, h⟩ := ((termM H hL _).2.2 st ⟨Nat.le_refl _, hst⟩ base incs).ev H
  exact ⟨fuel, fun fuel' hle => C08.execIncludes_eq cfg fuel' base incs st ▸ Res.oc_ne.1 (h fuel' hle)⟩

/-- nested includes (C09.files): `include 'a'` twice under `L = 3` -/
example : ∃ fuel, ∀ fuel', fuel ≤ fuel' →
    execIncludes (withMax (xcfg [] files) 3) fuel' none [⟨"a", false⟩, ⟨"a", false⟩] s0 ≠ .oof :=
  no_infinite_run_includes _ (hostImplWF true) (by decide) none _ s0 (implStateOk_sound (by decide))

/-- **no_infinite_run.** For `L > 0` and a well-founded host, `execute_script` from an admissible state ends with some
fuel, and with every larger one: no script can run forever. -/
theorem no_infinite_run (cfg : Config W) (H : HostWF cfg.host) (L : Nat) (hL : 0 < L) (P : List Stmt)
    (base : Option String) (st : State W) (hst : SOK H st) :
    ∃ fuel, ∀ fuel', fuel ≤ fuel' → execute (withMax cfg L) fuel' P base st ≠ .oof :=
  no_infinite_run_execM (withMax cfg L) H hL P none base [] 0 { st with count := 0 } (C08.cacheValid_nil P) hst
    (fun _ h => by cases h)

/-- `while true: systemLog('x')` as a jump program — `L: systemLog('x'); jump L` (C09.loopP) — on the driver host from
`C09.s0`: under `L = 5` it ends, and the end is the budget error raised when statement 6 would start -/
example : ∃ fuel, ∀ fuel', fuel ≤ fuel' → execute (withMax (xcfg [] []) 5) fuel' loopP none s0 ≠ .oof :=
  no_infinite_run (xcfg [] []) (hostImplWF true) 5 (by decide) loopP none s0 (implStateOk_sound (by decide))

example : C08.obs (execute (withMax (xcfg [] []) 5) 100 loopP none s0)
    = ⟨"err", some (.exceeded 5), none, 6, ["x", "x"], libG⟩ := by decide +kernel

/-- **no_infinite_run_result.** … so the run has a result: one outcome `r ≠ oof` that every sufficiently large fuel
produces.  By `count_le_limit_execute` it is a normal end / a `return` / an error with `count ≤ L`, or the budget error with
`count = L + 1`. -/
theorem no_infinite_run_result (cfg : Config W) (H : HostWF cfg.host) (L : Nat) (hL : 0 < L) (P : List Stmt)
    (base : Option String) (st : State W) (hst : SOK H st) :
    ∃ r, r ≠ .oof ∧ ∃ fuel, ∀ fuel', fuel ≤ fuel' → execute (withMax cfg L) fuel' P base st = r := by
  obtain ⟨fuel, h⟩ := no_infinite_run cfg H L hL P base st hst
  exact ⟨_, h fuel (Nat.le_refl _), fuel, fun fuel' hle => fuel_mono _ fuel fuel' hle P base st (h fuel (Nat.le_refl _))⟩

/-- the endless recursion `function f(): f() endfunction; f()` (C09.recP) under `L = 4` -/
example : ∃ r, r ≠ .oof ∧ ∃ fuel, ∀ fuel', fuel ≤ fuel' →
    execute (withMax (xcfg [(0, { name := .user "f", args := [], lastArgArray := false, body := recBody })] []) 4)
      fuel' recP none s0 = r :=
  no_infinite_run_result _ (hostImplWF true) 4 (by decide) recP none s0 (implStateOk_sound (by decide))

/-- every call-back node of the tree calls a script function, a non-callable, or a host callable of call rank `≤ r` -/
inductive TreeRank (rank : W → FnVal → List Value → Nat) (r : Nat) : LibTree W → Prop where
  | ret {out w} : TreeRank rank r (.ret out w)
  | call {f args w k} : callRank rank w f args ≤ r → (∀ v w1, TreeRank rank r (k v w1)) → TreeRank rank r (.call f args w k)
  | globalGet {n w k} : (∀ v w1, TreeRank rank r (k v w1)) → TreeRank rank r (.globalGet n w k)
  | globalSet {n v w k} : (∀ w1, TreeRank rank r (k w1)) → TreeRank rank r (.globalSet n v w k)

/-- **RankWF.** A rank on the calls of host callables that strictly decreases along call-backs, on all worlds, arguments
and continuations (no invariant on the state needed). -/
structure RankWF (host : Host W) (rank : W → FnVal → List Value → Nat) : Prop where
  lib : ∀ name args w, TreeRank rank (rank w (.lib name) args) (host.lib name args w)
  other : ∀ k args w, TreeRank rank (rank w (.other k) args) (host.other k args w)

def trivData (rank : W → FnVal → List Value → Nat) : WFData W :=
  { E := Ext.triv W, ok := fun _ _ => True, okW := fun _ => True, rank := rank }

theorem treeWF_of_rank {rank : W → FnVal → List Value → Nat} {r : Nat} :
    ∀ (t : LibTree W) (w0 : W), TreeRank rank r t → TreeWF (trivData rank) r w0 t
  | .ret _ _, _, _ => .ret trivial trivial (fun _ _ => trivial)
  | .call _ _ _ k, _, h => by
      cases h with | call hr hk =>
      exact .call trivial trivial trivial (fun _ _ => trivial) hr (fun v w1 _ _ _ => treeWF_of_rank (k v w1) w1 (hk v w1))
  | .globalGet _ _ k, _, h => by
      cases h with | globalGet hk =>
      exact .globalGet trivial trivial (fun v w1 _ _ _ => treeWF_of_rank (k v w1) w1 (hk v w1))
  | .globalSet _ _ _ k, _, h => by
      cases h with | globalSet hk =>
      exact .globalSet trivial trivial trivial (fun w1 _ _ => treeWF_of_rank (k w1) w1 (hk w1))

/-- a rank-well-founded host is well-founded with the trivial invariant: every state is admissible -/
def HostWF.ofRank {host : Host W} {rank : W → FnVal → List Value → Nat} (h : RankWF host rank) : HostWF host where
  toWFData := trivData rank
  ok_mono := fun _ _ => trivial
  ok_null := fun _ => trivial
  ok_bool := fun _ _ => trivial
  ok_num := fun _ _ => trivial
  ok_str := fun _ _ => trivial
  ok_script := fun _ _ => trivial
  ok_builtin := fun _ _ _ _ => trivial
  binop_ok := fun _ _ _ _ _ _ _ => trivial
  neg_ok := fun _ _ _ => trivial
  notCallable_ok := fun _ _ _ => ⟨trivial, trivial⟩
  logFailure_ok := fun _ _ => ⟨trivial, trivial⟩
  newArray_ok := fun _ _ _ _ => ⟨trivial, trivial, trivial⟩
  lib_wf := fun name args w _ _ _ => treeWF_of_rank _ w (h.lib name args w)
  other_wf := fun k args w _ _ _ => treeWF_of_rank _ w (h.other k args w)

/-- **no_infinite_run_of_rank.** With a rank that decreases along the host's call-backs, for `L > 0`, EVERY program from
EVERY state ends with some fuel. -/
theorem no_infinite_run_of_rank (cfg : Config W) (rank : W → FnVal → List Value → Nat) (h : RankWF cfg.host rank)
    (L : Nat) (hL : 0 < L) (P : List Stmt) (base : Option String) (st : State W) :
    ∃ fuel, ∀ fuel', fuel ≤ fuel' → execute (withMax cfg L) fuel' P base st ≠ .oof :=
  no_infinite_run cfg (HostWF.ofRank h) L hL P base st ⟨trivial, fun _ _ => trivial⟩

/-- a host whose every callable calls its first argument back with the remaining arguments — even itself
(`apply(apply, apply, f)`) — is well-founded by the number of arguments -/
def applyHost : Host Unit where
  truthy := fun _ _ => true
  binop := fun _ _ _ _ => .null
  neg := fun v => v
  lib := fun _ args w => match args with
    | f :: rest => .call f rest w fun v w1 => .ret (.ok v) w1
    | [] => .ret (.ok .null) w
  other := fun _ args w => match args with
    | f :: rest => .call f rest w fun v w1 => .ret (.ok v) w1
    | [] => .ret (.ok .null) w
  notCallable := fun _ w => w
  logFailure := fun w => w
  newArray := fun _ w => (.null, w)
  builtin := fun _ => none

theorem applyHost_rank : RankWF applyHost (fun _ _ args => args.length) := by
  have h : ∀ (args : List Value) (w : Unit), TreeRank (fun _ _ args => args.length) args.length
      (match args with
        | f :: rest => .call f rest w fun v w1 => .ret (.ok v) w1
        | [] => .ret (.ok .null) w) := by
    intro args w
    cases args with
    | nil => exact .ret
    | cons f rest =>
      refine .call ?_ (fun _ _ => .ret)
      cases f with
      | fn fv => cases fv <;> simp [callRank]
      | _ => simp [callRank]
  exact ⟨fun _ => h, fun _ => h⟩

example (P : List Stmt) (st : State Unit) : ∃ fuel, ∀ fuel', fuel ≤ fuel' →
    execute (withMax { host := applyHost, funs := fun _ => none, maxStatements := 0 } 5) fuel' P none st ≠ .oof :=
  no_infinite_run_of_rank _ _ applyHost_rank 5 (by decide) P none st

section Concrete
open HostImpl HostLib

/-- **no_infinite_run_hostImpl.** On the driver host: for `L > 0`, every program from every start state that passes the
decidable check `implStateOk m` ends with some fuel.  `m = true`: no `systemPartial` function value and no partial
application in the globals and the heap; `m = false`: no `arrayIndexOf` function value in the globals, the heap and the
partial table, and every partial refers to earlier partials only. -/
theorem no_infinite_run_hostImpl (m : Bool) (cfg : Config World) (hhost : cfg.host = HostImpl.host) (L : Nat) (hL : 0 < L)
    (P : List Stmt) (base : Option String) (st : State World) (hst : implStateOk m st = true) :
    ∃ fuel, ∀ fuel', fuel ≤ fuel' → execute (withMax cfg L) fuel' P base st ≠ .oof := by
  cases cfg with
  | mk host funs maxS builtins debug resolve fetch =>
    simp only at hhost
    subst hhost
    exact no_infinite_run _ (hostImplWF m) L hL P base st (implStateOk_sound hst)

/-- `C09.s0` (globals `systemLog`, `arrayNew`, `arrayIndexOf`) passes the check for `m = true`: the endless loop, the
call-back program of C09 (`arrayIndexOf(arrayNew(0,0,0), p)` with a two-statement script function `p`), nested includes -/
example : implStateOk true s0 = true := by decide

example : ∃ fuel, ∀ fuel', fuel ≤ fuel' → execute (withMax (xcfg [] []) 5) fuel' loopP none s0 ≠ .oof :=
  no_infinite_run_hostImpl true (xcfg [] []) rfl 5 (by decide) loopP none s0 (by decide)

example : ∃ fuel, ∀ fuel', fuel ≤ fuel' → execute (withMax (xcfg [(0, pDef)] []) 5) fuel' cbP none s0 ≠ .oof :=
  no_infinite_run_hostImpl true _ rfl 5 (by decide) cbP none s0 (by decide)

example (L : Nat) (hL : 0 < L) : ∃ fuel, ∀ fuel', fuel ≤ fuel' →
    execute (withMax (xcfg [] files) L) fuel' mainP none s0 ≠ .oof :=
  no_infinite_run_hostImpl true _ rfl L hL mainP none s0 (by decide)

/-- `m = false`: `sP` holds partial applications (and `systemPartial`), so it fails the check for `m = true` -/
example : implStateOk false sP = true ∧ implStateOk true sP = false := by decide
example : ∃ fuel, ∀ fuel', fuel ≤ fuel' → execute (withMax (xcfg [] []) 7) fuel' loopQ none sP ≠ .oof :=
  no_infinite_run_hostImpl false _ rfl 7 (by decide) loopQ none sP (by decide)
example : (C08.obs (execute (withMax (xcfg [] []) 7) 100 loopQ none sP)).err = some (.exceeded 7) := by decide +kernel

/-- a dangling partial reference is rejected by the check (it could later become a cycle) -/
example : implStateOk false { sP with globals := [(.user "d", .fn (.other 2))] } = false := by decide

/-- **no_infinite_run_hostLib.** The same on `HostLib.hostLib` (the verified library model `Lib` as the machine's library). -/
theorem no_infinite_run_hostLib (m : Bool) (cfg : Config LWorld) (hhost : cfg.host = HostLib.hostLib) (L : Nat)
    (hL : 0 < L) (P : List Stmt) (base : Option String) (st : State LWorld) (hst : libStateOk m st = true) :
    ∃ fuel, ∀ fuel', fuel ≤ fuel' → execute (withMax cfg L) fuel' P base st ≠ .oof := by
  cases cfg with
  | mk host funs maxS builtins debug resolve fetch =>
    simp only at hhost
    subst hhost
    exact no_infinite_run _ (hostLibWF m) L hL P base st (libStateOk_sound hst)

example : libStateOk true sL = true := by decide
example : ∃ fuel, ∀ fuel', fuel ≤ fuel' → execute (withMax lcfgX 9) fuel' loopL none sL ≠ .oof :=
  no_infinite_run_hostLib true lcfgX rfl 9 (by decide) loopL none sL (by decide)

end Concrete

namespace Counter

/-- the host of the doc comment of `no_infinite_run_partial`: every library function calls the library function `f` back -/
def loopHost : Host Unit where
  truthy := fun _ _ => true
  binop := fun _ _ _ _ => .null
  neg := fun v => v
  lib := fun _ args w => .call (.fn (.lib "f")) args w fun v w1 => .ret (.ok v) w1
  other := fun _ _ w => .ret (.fail .null) w
  notCallable := fun _ w => w
  logFailure := fun w => w
  newArray := fun _ w => (.null, w)
  builtin := fun _ => none

def loopCfg : Config Unit := { host := loopHost, funs := fun _ => none, maxStatements := 0 }

theorem loopHost_call_oof (L : Nat) : ∀ (fuel : Nat) (args : List Value) (st : State Unit),
    callValue (withMax loopCfg L) fuel (.fn (.lib "f")) args st = .oof
  | 0, _, _ => by rw [callValue.eq_1]
  | fuel+1, args, st => by
      rw [callValue.eq_def]
      show runTree _ (callValue (withMax loopCfg L) fuel) (.call (.fn (.lib "f")) args st.world _) st = .oof
      simp only [runTree]
      rw [loopHost_call_oof L fuel]

def loopP : List Stmt := [.expr none (.function (.user "f") [])]
def loopSt : State Unit := { globals := [(.user "f", .fn (.lib "f"))], world := (), count := 0 }

/-- **loopHost_runs_forever.** Without a well-foundedness hypothesis the conclusion of `no_infinite_run` is false: on this
host the one-statement script `f()` is out of fuel for every fuel, under every statement limit. -/
theorem loopHost_runs_forever (L fuel : Nat) : execute (withMax loopCfg L) fuel loopP none loopSt = .oof := by
  cases fuel with
  | zero => rfl
  | succ fuel =>
    have hb : (decide ((withMax loopCfg L).maxStatements > 0) &&
        decide (0 + 1 > (withMax loopCfg L).maxStatements)) = false := by
      show (decide (L > 0) && decide (0 + 1 > L)) = false
      cases L <;> simp
    have hl : lookupFunc (withMax loopCfg L) none loopSt.globals (Name.user "f") = some (.fn (.lib "f")) := rfl
    unfold execute loopP
    rw [execM.eq_1]
    simp only [List.getElem?_cons_zero, evalExpr, evalArgs, hb, hl, Bool.false_eq_true, if_false]
    rw [if_neg (by decide), loopHost_call_oof]

/-- … hence `loopHost` has no `HostWF` whose admissible part contains the world and the function `f` -/
theorem loopHost_not_wf (H : HostWF loopHost) : ¬ (H.okW () ∧ H.ok () (.fn (.lib "f"))) := by
  intro ⟨hw, hf⟩
  obtain ⟨fuel, h⟩ := no_infinite_run_call (withMax loopCfg 1) H (by decide) (.fn (.lib "f")) []
    { globals := [], world := (), count := 0 } ⟨hw, fun _ h => by cases h⟩ hf (fun _ h => by cases h)
  exact h fuel (Nat.le_refl _) (loopHost_call_oof 1 fuel [] _)

theorem callValue_lib {W : Type} (cfg : Config W) (fuel : Nat) (name : String) (args : List Value) (st : State W) :
    callValue cfg (fuel+1) (.fn (.lib name)) args st
      = runTree cfg (callValue cfg fuel) (cfg.host.lib name args st.world) st := by rw [callValue.eq_def]

def gLib : Env :=
  ["arrayNew", "arrayIndexOf", "arrayPush", "systemPartial"].map fun n => (Name.user n, Value.fn (.lib n))
def va (s : String) : Expr := .variable (.user s)
def e1 : Expr := .function (.user "arrayNew") []
def e2 : Expr := .function (.user "systemPartial") [va "arrayIndexOf", va "a"]
def e3 : Expr := .function (.user "arrayPush") [va "a", va "p"]
def e4 : Expr := .function (.user "arrayIndexOf") [va "a", va "p"]
/-- `a = arrayNew(); p = systemPartial(arrayIndexOf, a); arrayPush(a, p); r = arrayIndexOf(a, p)` -/
def cxP : List Stmt := [.expr (some (.user "a")) e1, .expr (some (.user "p")) e2, .expr none e3, .expr (some (.user "r")) e4]

def g1 : Env := gLib ++ [(.user "a", .arr 0)]
def g2 : Env := g1 ++ [(.user "p", .fn (.other 0))]

section Trap
variable {W : Type}

/-- what the cycle needs of a host: the first three statements of `cxP` lead from `w0` to `wc`, where `arrayIndexOf(a, p)`
calls `p` back and `p` calls `arrayIndexOf(a, ·)` -/
structure TrapHost (host : Host W) (w0 w1 w2 wc : W) : Prop where
  new : host.lib "arrayNew" [] w0 = .ret (.ok (.arr 0)) w1
  part : host.lib "systemPartial" [.fn (.lib "arrayIndexOf"), .arr 0] w1 = .ret (.ok (.fn (.other 0))) w2
  push : host.lib "arrayPush" [.arr 0, .fn (.other 0)] w2 = .ret (.ok (.arr 0)) wc
  indexOf : ∃ k, host.lib "arrayIndexOf" [.arr 0, .fn (.other 0)] wc = .call (.fn (.other 0)) [.fn (.other 0)] wc k
  other : ∀ args, ∃ k, host.other 0 args wc = .call (.fn (.lib "arrayIndexOf")) ([.arr 0] ++ args) wc k

variable {cfg : Config W} {w0 w1 w2 wc : W} (T : TrapHost cfg.host w0 w1 w2 wc)
include T

/-- the cycle: each round costs two units of fuel and starts no statement -/
theorem trap_call_oof : ∀ (fuel : Nat) (st : State W), st.world = wc →
    callValue₀ cfg fuel (.fn (.lib "arrayIndexOf")) [.arr 0, .fn (.other 0)] st = .oof
  | 0, _, _ => by rw [callValue₀.eq_1]
  | 1, st, hw => by
      obtain ⟨k, hk⟩ := T.indexOf
      rw [callValue₀_lib, hw, hk]
      simp only [runTree]
      rw [callValue₀.eq_1]
  | fuel+2, st, hw => by
      obtain ⟨k, hk⟩ := T.indexOf
      obtain ⟨k', hk'⟩ := T.other [.fn (.other 0)]
      rw [callValue₀_lib, hw, hk]
      simp only [runTree]
      rw [callValue₀_other, hk']
      simp only [runTree, List.cons_append, List.nil_append]
      rw [trap_call_oof fuel _ rfl]

omit T in
theorem eval_libcall {call : CallFn W} {g : Env} {fn : Name} {xs : List Name} {lib : String} {vs : List Value}
    (hfn : fn ≠ kwIf) (hg : g.contains fn = true) (hlk : g.get? fn = some (.fn (.lib lib)))
    (hvs : xs.map (varValue none g) = vs) (w : W) (c : Nat) :
    (evalExpr cfg call none (.function fn (xs.map .variable)) ⟨g, w, c⟩).oc = (call (.fn (.lib lib)) vs ⟨g, w, c⟩).oc := by
  rw [evalExpr_function, if_neg hfn, evalArgs_vars, hvs]
  show callNamed cfg _ none fn vs ⟨g, w, c⟩ = _
  unfold callNamed callRes lookupFunc
  simp only [hg, hlk, if_true]

omit T in
/-- `g'` is `g` after the assignment, if the statement has one -/
theorem step_libcall {fuel : Nat} {P : List Stmt} {pc : Nat} {g g' : Env} {w w' : W} {c : Nat} {name : Option Name}
    {fn : Name} {xs : List Name} {lib : String} {vs : List Value} {v : Value}
    (hP : P[pc]? = some (.expr name (.function fn (xs.map .variable)))) (hb : overBudget cfg ⟨g, w, c⟩ = false)
    (hfn : fn ≠ kwIf) (hg : g.contains fn = true) (hlk : g.get? fn = some (.fn (.lib lib)))
    (hvs : xs.map (varValue none g) = vs) (hlib : cfg.host.lib lib vs w = .ret (.ok v) w')
    (hg' : (match name with | some n => g.set n v | none => g) = g') :
    execM₀ cfg (fuel+2) P none none pc ⟨g, w, c⟩ = execM₀ cfg (fuel+1) P none none (pc+1) ⟨g', w', c+1⟩ := by
  apply Res.oc_inj
  rw [execM₀_tick hP, tickOc, hb]
  show Oc.bind (StmtStep.oc _) _ = _
  rw [stepStmt_expr, eval_libcall hfn hg hlk hvs, callValue₀_lib, hlib, ← hg']
  cases name <;> rfl

theorem trap_run_long (hb : ∀ g w c, c < 4 → overBudget cfg ⟨g, w, c⟩ = false) (G : Nat) :
    execM₀ cfg (G+5) cxP none none 0 ⟨gLib, w0, 0⟩ = .oof := by
  rw [step_libcall (fuel := G+3) (xs := []) (g' := g1) rfl (hb _ _ _ (by omega)) (by decide) (by decide +kernel)
      (by decide +kernel) rfl T.new (by decide +kernel),
    step_libcall (fuel := G+2) (xs := [.user "arrayIndexOf", .user "a"]) (g' := g2) rfl (hb _ _ _ (by omega))
      (by decide) (by decide +kernel) (by decide +kernel) (by decide +kernel) T.part (by decide +kernel),
    step_libcall (fuel := G+1) (xs := [.user "a", .user "p"]) (g' := g2) rfl (hb _ _ _ (by omega)) (by decide)
      (by decide +kernel) (by decide +kernel) (by decide +kernel) T.push rfl]
  -- the fourth statement: its arguments are evaluated, then the call never returns
  apply Res.oc_inj
  rw [execM₀_tick (show cxP[0+1+1+1]? = some (.expr (some (.user "r")) e4) from rfl), tickOc, hb _ _ _ (by omega)]
  show Oc.bind (StmtStep.oc _) _ = _
  rw [stepStmt_expr]
  show Oc.bind (Oc.bind (Out.oc (evalExpr cfg _ none
    (.function (.user "arrayIndexOf") ([.user "a", .user "p"].map .variable)) _)) _) _ = _
  rw [eval_libcall (g := g2) (lib := "arrayIndexOf") (vs := [.arr 0, .fn (.other 0)]) (by decide) (by decide +kernel)
      (by decide +kernel) (by decide +kernel),
    trap_call_oof T (G+1) _ rfl]
  rfl

theorem trap_runs_forever (hb : ∀ g w c, c < 4 → overBudget cfg ⟨g, w, c⟩ = false) (fuel : Nat) :
    execute cfg fuel cxP none ⟨gLib, w0, 0⟩ = .oof := by
  rw [C08.execute_eq]
  show execM₀ cfg fuel cxP none none 0 ⟨gLib, w0, 0⟩ = .oof
  rcases (fuelMono cfg fuel (fuel + 5) (by omega)).2.1 cxP none none 0 ⟨gLib, w0, 0⟩ with h | h
  · exact h
  · rw [← h]; exact trap_run_long T hb fuel

end Trap

theorem budget_of_limit {W : Type} {cfg : Config W} (hL : cfg.maxStatements = 0 ∨ 4 ≤ cfg.maxStatements) (g : Env) (w : W)
    (c : Nat) (hc : c < 4) : overBudget cfg ⟨g, w, c⟩ = false := by
  unfold overBudget
  rcases hL with h | h
  · simp [h]
  · have : ¬ (c + 1 > cfg.maxStatements) := by omega
    simp [this]

section Impl
open HostImpl

def cxCfg (L : Nat) : Config World := { host := HostImpl.host, funs := fun _ => none, maxStatements := L }

/-- the world the three statements `a = arrayNew(); p = systemPartial(arrayIndexOf, a); arrayPush(a, p)` build -/
def wc : World :=
  { heap := [.arr [.fn (.other 0)]], log := [], partials := [(.fn (.lib "arrayIndexOf"), [.arr 0])] }

theorem lib_eq : HostImpl.lib "arrayIndexOf" [.arr 0, .fn (.other 0)] wc
    = indexOfFn (.fn (.other 0)) [.fn (.other 0)] 0 wc := rfl

theorem other_eq (args : List Value) : HostImpl.other 0 args wc
    = .call (.fn (.lib "arrayIndexOf")) ([.arr 0] ++ args) wc fun r w1 => HostImpl.ok r w1 := rfl

theorem cfg_other_eq (L : Nat) (args : List Value) : (cxCfg L).host.other 0 args wc
    = .call (.fn (.lib "arrayIndexOf")) ([.arr 0] ++ args) wc fun r w1 => HostImpl.ok r w1 := other_eq args

def w1 : World := { heap := [.arr []] }
def w2 : World := { heap := [.arr []], partials := [(.fn (.lib "arrayIndexOf"), [.arr 0])] }

theorem trapImpl : TrapHost HostImpl.host {} w1 w2 wc where
  new := rfl
  part := rfl
  push := rfl
  indexOf := ⟨_, lib_eq.trans (by unfold indexOfFn; rfl)⟩
  other := fun args => ⟨_, other_eq args⟩

def cxSt : State World := ⟨gLib, {}, 0⟩

/-- **hostImpl_runs_forever.** On the driver host, from the state that only binds four library functions, the script
`a = arrayNew(); p = systemPartial(arrayIndexOf, a); arrayPush(a, p); r = arrayIndexOf(a, p)` is out of fuel for EVERY
fuel, under every limit that lets its four statements start (`L = 0` or `L ≥ 4`). -/
theorem hostImpl_runs_forever (L : Nat) (hL : L = 0 ∨ 4 ≤ L) (fuel : Nat) :
    execute (cxCfg L) fuel cxP none cxSt = .oof :=
  trap_runs_forever (cfg := cxCfg L) trapImpl (budget_of_limit hL) fuel

/-- … hence no `HostWF HostImpl.host` admits the state that binds just `arrayNew`, `arrayIndexOf`, `arrayPush` and
`systemPartial` in an empty world: a restriction like `implStateOk` is necessary -/
theorem hostImpl_not_wf (H : HostWF HostImpl.host) : ¬ SOK H cxSt := by
  intro h
  obtain ⟨fuel, hf⟩ := no_infinite_run (cxCfg 0) H 4 (by decide) cxP none cxSt h
  exact hf fuel (Nat.le_refl _) (hostImpl_runs_forever 4 (.inr (Nat.le_refl _)) fuel)

/-- the start state fails both decidable checks (it binds `systemPartial` and `arrayIndexOf`) -/
example : implStateOk true cxSt = false ∧ implStateOk false cxSt = false := by decide

end Impl

section LibHost
open HostLib

def lcfg (L : Nat) : Config LWorld := { host := HostLib.hostLib, funs := fun _ => none, maxStatements := L }

def lwc : LWorld :=
  { heap := [.arr [.fn 1]], log := [], partials := [(.fn (.lib "arrayIndexOf"), [.arr 0])] }

theorem lcfg_other_eq (L : Nat) (args : List Value) : (lcfg L).host.other 0 args lwc
    = .call (.fn (.lib "arrayIndexOf")) ([.arr 0] ++ args) lwc fun r w1 => lift (HostImpl.ok r w1.toImpl) w1.heap := rfl

def lw1 : LWorld := { heap := [.arr []] }
def lw2 : LWorld := { heap := [.arr []], partials := [(.fn (.lib "arrayIndexOf"), [.arr 0])] }

theorem hostLib_modelled (name : String) (args : List Value) (w : LWorld) {v : Lib.Value} {h : Lib.Heap}
    (hl : Lib.lib name (args.map toLib) w.heap = (.ok v, h)) :
    hostLib.lib name args w = .ret (.ok (ofLib v)) { w with heap := h } := by
  show HostLib.lib name args w = _
  unfold HostLib.lib; rw [hl]

theorem trapLib : TrapHost HostLib.hostLib {} lw1 lw2 lwc where
  new := hostLib_modelled "arrayNew" [] {} (v := .arr 0) (h := [.arr []])
    (by rw [Lib.lib, C15.eff_raw (by decide)]; decide +kernel)
  part := (lib_keeps_noBody (name := "systemPartial") (by decide) (by decide) [.fn (.lib "arrayIndexOf"), .arr 0] lw1).trans
    (by rw [show lw1.toImpl = w1 from rfl]; exact congrArg (lift · lw1.heap) trapImpl.part)
  push := hostLib_modelled "arrayPush" [.arr 0, .fn (.other 0)] lw2 (v := .arr 0) (h := lwc.heap)
    (by rw [Lib.lib, C15.eff_row (C15.table_at (i := 10) rfl)]; decide +kernel)
  indexOf := ⟨_, (lib_keeps (name := "arrayIndexOf") (args := [.arr 0, .fn (.other 0)]) (w := lwc)
      (by rw [Lib.lib, C15.eff_row (C15.table_at (i := 4) rfl)]; decide +kernel) (by decide)).trans (by rw [show lwc.toImpl = wc from rfl, lib_eq]; unfold HostImpl.indexOfFn; rfl)⟩
  other := fun args => ⟨_, lcfg_other_eq 0 args⟩

def lcxSt : State LWorld := ⟨gLib, {}, 0⟩

/-- **hostLib_runs_forever.** The same script on `HostLib.hostLib` (where `arrayNew`/`arrayPush` are `Lib`'s and
`systemPartial` / the match-function form of `arrayIndexOf` are the lifted HostImpl trees). -/
theorem hostLib_runs_forever (L : Nat) (hL : L = 0 ∨ 4 ≤ L) (fuel : Nat) :
    execute (lcfg L) fuel cxP none lcxSt = .oof :=
  trap_runs_forever (cfg := lcfg L) trapLib (budget_of_limit hL) fuel

theorem hostLib_not_wf (H : HostWF HostLib.hostLib) : ¬ SOK H lcxSt := by
  intro h
  obtain ⟨fuel, hf⟩ := no_infinite_run (lcfg 0) H 4 (by decide) cxP none lcxSt h
  exact hf fuel (Nat.le_refl _) (hostLib_runs_forever 4 (.inr (Nat.le_refl _)) fuel)

example : libStateOk true lcxSt = false ∧ libStateOk false lcxSt = false := by decide

end LibHost

end Counter

end C09
