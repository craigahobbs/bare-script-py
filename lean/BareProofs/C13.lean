import BareProofs.C13Lemmas

/-!
# C13 — numbers survive conversion to text and back; integers print without a fraction

What is **proved** (for all strings, no bound on length) is the text surgery the code performs on top of CPython's `repr`/`float`:

* `patterns_as_modelled`      (in `BareProofs/C13Patterns.lean`, so that a changed regex breaks that obligation alone) the regex
                              sources the scanners were written for are the ones in the working tree (generated table)
* `strip_preserves_value`     `re.sub(r'\.0*$', '', s)` keeps the rational number denoted by any `s` of the `repr` grammar
* `strip_integral_no_fraction` `ds.0…0` becomes `ds`, which contains no point
* `strip_noop_on_exponent`, `strip_noop_without_trailing_dot_zeros`, `strip_noop_nonfinite`   where the clean-up is the identity
* `strip_is_literal`          for non-negative `s` of the `repr` grammar the result is consumed *entirely* by the source-literal
                              scanner `_R_EXPR_NUMBER` (`e+16` / `e-07` fit `e[+-]\d+`), and `float(group 1)` denotes the same number
* `literal_never_raises`      (in `BareProofs/C13Bridge.lean`, the ASCII case of `C13Bridge.literal_never_floatRaises`)
                              `float(match.group(1))` cannot raise
* `parse_number_total`        the model of `numberParseFloat` answers only if the *whole* text (after surrounding whitespace and
                              digit-group underscores) is one decimal literal, with exactly its value, below the overflow bound
* `parse_float_never_nonfinite` `inf`/`infinity`/`nan` texts give null
* `parse_int_total`           the model of `numberParseInt` answers only if the whole text is sign, optional radix prefix, digits
                              below the radix with single underscores between them
* `int_prints_digits_only`, `int_text_roundtrip`   `str(int)` is an optional `-` and ASCII digits, and denotes the integer
* `roundtrip_under_assumptions`, `literal_roundtrip_under_assumptions`
                              with A1/A2 about CPython as explicit hypotheses (structure `PyFloat`):
                              `numberParseFloat(valueString x) = x`, and for non-negative text the source literal evaluates to `x`

What is **assumed** (DESIGN §6; sampled by the `numtext` stream, never proved): CPython's shortest-round-trip `float.__repr__`
and correctly rounded `float()` — hypotheses `PyFloat.repr_grammar`, `PyFloat.float_repr` (A1) and the use of `ofRat` for
`float(text)` (A2: the result depends only on the rational the text denotes).  `_partial` by nature: the shortest-repr algorithm is
not modelled.
-/

set_option linter.unusedSimpArgs false
set_option linter.unusedVariables false

namespace C13
open NumText

/-- For every string of the `repr` grammar the clean-up keeps the denoted number (and there is one). -/
theorem strip_preserves_value (s : String) (h : IsRepr s) :
    ∃ q, decVal s = some q ∧ decVal (stripDotZeros s) = some q := by
  obtain ⟨t, t', _, _, _, hd, hst, hw', _, hv, _⟩ := strip_repr h
  exact ⟨t.val, hd, by simp only [hst, decVal, String.toList_ofList, decValL_text (tokWF_weaken hw'), hv]⟩

example : IsRepr "123.0" ∧ IsRepr "0.1" ∧ IsRepr "-0.0" ∧ IsRepr "1e+16" ∧ IsRepr "1.5e-07" ∧ IsRepr "5e-324" ∧
    IsRepr "1.7976931348623157e+308" ∧ ¬ IsRepr "1e16" ∧ ¬ IsRepr "123" ∧ ¬ IsRepr "1.e+05" ∧ ¬ IsRepr "+1.0" := by
  simp only [IsRepr]
  decide_lit
example : decVal "123.0" = some 123 ∧ decVal (stripDotZeros "123.0") = some 123 ∧ stripDotZeros "123.0" = "123" := by decide +kernel
example : decVal "1.5e-07" = some ((3 : Rat) / 20000000) ∧ decVal "-0.0" = some 0 ∧ decVal "0.1" = some ((1 : Rat) / 10) := by
  decide +kernel
example : ∃ q, decVal "100.000" = some q ∧ decVal (stripDotZeros "100.000") = some q :=
  strip_preserves_value "100.000" (by decide +kernel)

theorem count_dot_text {t : Tok} (f : ReprFacts t) : List.count '.' t.text ≤ 1 := by
  obtain ⟨sign, ip, frac, exp⟩ := t
  have h1 : List.count '.' sign.text = 0 := List.count_eq_zero.mpr (dot_not_sign _)
  have h2 : List.count '.' ip = 0 := List.count_eq_zero.mpr (dot_not_ascii f.ip)
  have h3 : List.count '.' (fracText frac) ≤ 1 := by
    cases frac with
    | none => simp [fracText]
    | some fp =>
      have : List.count '.' fp = 0 := List.count_eq_zero.mpr (dot_not_ascii (f.fp fp rfl).1)
      simp [fracText, this]
  have h4 : List.count '.' (expText exp) = 0 := by
    cases exp with
    | none => simp [expText]
    | some e =>
      obtain ⟨_, hup, _, hed, _⟩ := f.sci e rfl
      have a : List.count '.' e.sign.text = 0 := List.count_eq_zero.mpr (dot_not_sign _)
      have b : List.count '.' e.digits = 0 := List.count_eq_zero.mpr (dot_not_ascii hed)
      simp [expText, ExpPart.text, hup, List.count_append, a, b, List.count_cons]
  simp only [Tok.text, List.count_append, h1, h2, h4]
  omega

/-- An integral value's `repr` `ds.0` (more generally `ds.00…0`) is printed as `ds`, and `ds` has no decimal point. -/
theorem strip_integral_no_fraction (ds : String) (k : Nat)
    (h : IsRepr (ds ++ String.ofList ('.' :: List.replicate k '0'))) :
    stripDotZeros (ds ++ String.ofList ('.' :: List.replicate k '0')) = ds ∧ '.' ∉ ds.toList := by
  obtain ⟨t, hl, hw, hr⟩ := repr_tok h
  have hc := count_dot_text (reprFacts hr)
  rw [← hl] at hc
  simp only [String.toList_append, String.toList_ofList, List.count_append, List.count_cons_self] at hc
  have hz : List.count '.' ds.toList = 0 := by omega
  have hnd : '.' ∉ ds.toList := List.count_eq_zero.mp hz
  refine ⟨?_, hnd⟩
  simp [stripDotZeros, String.toList_append, String.toList_ofList, stripL_trailing_zeros hnd, String.ofList_toList]

example : stripDotZeros "9007199254740992.0" = "9007199254740992" ∧ '.' ∉ "9007199254740992".toList :=
  strip_integral_no_fraction "9007199254740992" 1 (by decide +kernel)
example : stripDotZeros "-0.0" = "-0" := by decide +kernel

/-- Exponent forms are left alone. -/
theorem strip_noop_on_exponent (s : String) (h : IsRepr s) (he : 'e' ∈ s.toList) : stripDotZeros s = s := by
  obtain ⟨t, hl, hw, hr⟩ := repr_tok h
  obtain ⟨t', hs, _, _, _, _, hcase⟩ := strip_tok hw hr
  have f := reprFacts hr
  have hexp : t.exp ≠ none := by
    intro hn
    rw [hl] at he
    obtain ⟨sign, ip, frac, exp⟩ := t
    simp only at hn; subst hn
    simp only [Tok.text, expText, List.append_nil, List.mem_append] at he
    rcases he with he | he | he
    · cases sign <;> simp [Sign.text] at he
    · have := f.ip _ he; revert this; decide +kernel
    · cases frac with
      | none => simp [fracText] at he
      | some fp =>
        simp [fracText] at he
        have := (f.fp fp rfl).1 _ he; revert this; decide +kernel
  rcases hcase with hc | ⟨hc, _⟩
  · subst hc
    simp [stripDotZeros, hl, hs]
    rw [← hl, String.ofList_toList]
  · exact absurd hc hexp

example : stripDotZeros "1e+16" = "1e+16" := strip_noop_on_exponent "1e+16" (by decide +kernel) (by decide +kernel)
example : stripDotZeros "1.5e-07" = "1.5e-07" := strip_noop_on_exponent "1.5e-07" (by decide +kernel) (by decide +kernel)

/-- For ALL strings: unless the text ends in `.` `0`* (optionally followed by one final newline, where `$` also matches), the
clean-up changes nothing. -/
theorem strip_noop_without_trailing_dot_zeros (s : String)
    (h : ∀ p k, s.toList ≠ p ++ '.' :: List.replicate k '0' ∧ s.toList ≠ p ++ '.' :: (List.replicate k '0' ++ ['\n'])) :
    stripDotZeros s = s := by
  simp [stripDotZeros, stripL_noop_general h, String.ofList_toList]

/-- … and when it does end so and has no earlier point, exactly that tail is removed (for all strings). -/
theorem strip_removes_trailing_dot_zeros (p : String) (k : Nat) (h : '.' ∉ p.toList) :
    stripDotZeros (p ++ String.ofList ('.' :: List.replicate k '0')) = p := by
  simp [stripDotZeros, String.toList_append, String.toList_ofList, stripL_trailing_zeros h, String.ofList_toList]

example : stripDotZeros "0.1" = "0.1" ∧ stripDotZeros "100" = "100" ∧ stripDotZeros "1.05" = "1.05" ∧
    stripDotZeros "5." = "5" ∧ stripDotZeros "1.0\n" = "1\n" ∧ stripDotZeros "1.0.0" = "1.0" := by decide +kernel

/-- `repr` of the non-finite floats is left alone, and the number parser answers null on it. -/
theorem strip_noop_nonfinite (s : String) (h : IsReprNonFinite s) : stripDotZeros s = s ∧ numberParseFloat s = none := by
  rcases h with h | h | h <;> subst h <;> decide +kernel

theorem literal_text {t : Tok} (hw : TokWF true t) (ha : TokAscii t) :
    literal (String.ofList t.text) = .number t.text.length t.val := by
  have hdrop : t.text.dropWhile isReSpace = t.text :=
    dropWhile_none (fun c hc => numChar_not_reSpace (numChars_text ha c hc))
  simp [literal, hdrop, scanTok_text hw, floatText_text (tokWF_weaken hw) ha]

/-- The cleaned text of any string of the `repr` grammar is one source literal (the pattern has `[+-]?`, so a sign is no
obstacle here; the expression parser is what never hands it a `-`, `C13Bridge.parseExpr_valueString_neg`). -/
theorem strip_literal (s : String) (h : IsRepr s) :
    ∃ q, decVal s = some q ∧ literal (stripDotZeros s) = .number (stripDotZeros s).length q := by
  obtain ⟨t, t', _, _, _, hd, hst, hw', ha', hv, _⟩ := strip_repr h
  exact ⟨t.val, hd, by rw [hst, literal_text hw' ha', hv]; simp⟩

/-- For a non-negative string of the `repr` grammar the cleaned text is consumed entirely by the numeric-literal scanner
(`_R_EXPR_NUMBER`), and `float(group 1)` denotes the same number as the `repr` text. -/
theorem strip_is_literal (s : String) (h : IsRepr s) (hpos : s.toList.head? ≠ some '-') :
    ∃ q, decVal s = some q ∧ literal (stripDotZeros s) = .number (stripDotZeros s).length q :=
  strip_literal s h

example : literal "1e+16" = .number 5 10000000000000000 ∧ literal "1.5e-07" = .number 7 ((3 : Rat) / 20000000) := by decide +kernel
example : ∃ q, decVal "123.0" = some q ∧ literal (stripDotZeros "123.0") = .number (stripDotZeros "123.0").length q :=
  strip_is_literal "123.0" (by decide +kernel) (by decide +kernel)
/-- what the sign requirement of the literal grammar excludes (and `repr` never produces): -/
example : literal "1e16" = .number 1 1 ∧ literal "1E+16" = .number 1 1 ∧ literal ".5" = .noMatch := by decide +kernel

example : literal "12abc" = .number 2 12 ∧ literal "  7.e+2x" = .number 7 700 ∧ literal "abc" = .noMatch := by decide +kernel

theorem parseInfNan_ne_fin (b : List Char) (q : Rat) : parseInfNan b ≠ some (.fin q) := by
  unfold parseInfNan
  dsimp only
  split
  · simp
  · split <;> simp

/-- `numberParseFloat` answers a number only if the whole text — after surrounding whitespace and digit-group underscores — is
one decimal literal `[+-]?(D+\.?D*|\.D+)([eE][+-]?D+)?`; the answer is exactly the number it denotes, below the overflow bound. -/
theorem parse_number_total (s : String) (q : Rat) (h : numberParseFloat s = some q) :
    ∃ t, floatBody s = some t.text ∧ TokWF false t ∧ t.val = q ∧ -overflowBound < q ∧ q < overflowBound := by
  unfold numberParseFloat at h
  split at h
  · rename_i q' hft
    split at h
    · cases h
    · rename_i hov
      cases h
      obtain ⟨b, hb, hlit⟩ := Option.bind_eq_some_iff.mp hft
      unfold floatLitOfBody at hlit
      split at hlit
      · rename_i r hin
        cases hlit
        exact absurd hin (parseInfNan_ne_fin b q)
      · split at hlit
        · rename_i t hsc
          cases hlit
          obtain ⟨hl, hw⟩ := scanTok_sound hsc
          exact ⟨t, by rw [hb, hl, List.append_nil], hw, rfl, Rat.not_le.mp (fun hh => hov (Or.inr hh)),
            Rat.not_le.mp (fun hh => hov (Or.inl hh))⟩
        · cases hlit
  · cases h

example : numberParseFloat " 1_0.5e1 " = some 105 ∧ numberParseFloat "1e5" = some 100000 ∧ numberParseFloat ".5" = some ((1 : Rat) / 2) ∧
    numberParseFloat "5." = some 5 ∧ numberParseFloat "\u0663" = some 3 := by decide +kernel
example : numberParseFloat "12abc" = none ∧ numberParseFloat "" = none ∧ numberParseFloat "1e" = none ∧ numberParseFloat "1__0" = none ∧
    numberParseFloat "0x10" = none ∧ numberParseFloat "1 2" = none ∧ numberParseFloat "1e400" = none := by decide +kernel

/-- A non-finite reading of the text (`inf`, `infinity`, `nan` in any case, signed) gives null, never a non-finite number. -/
theorem parse_float_never_nonfinite (s : String) (h : (∃ b, floatText s = some (.inf b)) ∨ floatText s = some .nan) :
    numberParseFloat s = none := by
  unfold numberParseFloat
  rcases h with ⟨b, h⟩ | h <;> simp [h]

example : floatText "inf" = some (.inf false) ∧ floatText " -Infinity" = some (.inf true) ∧ floatText "NaN" = some .nan ∧
    numberParseFloat "inf" = none ∧ numberParseFloat "-inf" = none ∧ numberParseFloat "nan" = none ∧
    numberParseFloat "Infinity" = none := by decide +kernel

/-- `int(text, base)` answers only if the whole text is `[+-]?`, an optional radix prefix, and digits below the base with single
underscores between digits; the answer is the value of those digits. -/
theorem parse_int_total (maxDigits : Nat) (s : String) (base : Nat) (n : Int) (h : pyInt maxDigits s base = some n) :
    ∃ l ds, pyTransform s.toList = some l ∧
      IntBody base (stripRadixPrefix base (scanSign (trimPy l)).2) ds ∧
      n = (if (scanSign (trimPy l)).1 = .minus then - (digitsVal base ds : Int) else (digitsVal base ds : Int)) ∧
      (isPow2Base base = false → 0 < maxDigits → ds.length ≤ maxDigits) := by
  unfold pyInt at h
  split at h
  · cases h
  · rename_i l hl
    dsimp only at h
    split at h
    · cases h
    · rename_i hus
      split at h
      · cases h
      · rename_i ds hsc
        split at h
        · cases h
        · rename_i hnil
          split at h
          · cases h
          · rename_i hlim
            cases h
            have hsound := intScan_sound base _ _ _ hsc
            rw [if_neg hus] at hsound
            refine ⟨l, ds, hl, hsound.resolve_left (fun h => hnil h.2.1), rfl, fun h1 h2 => ?_⟩
            exact Nat.le_of_not_lt (fun h3 => hlim ⟨h1, h2, h3⟩)

example : pyInt 4300 "0x_1f" 16 = some 31 ∧ pyInt 4300 " -zz " 36 = some (-1295) ∧ pyInt 4300 "0b101" 2 = some 5 ∧
    pyInt 4300 "1_0" 10 = some 10 ∧ pyInt 4300 "0b1" 16 = some 177 := by decide +kernel
example : pyInt 4300 "0x10" 10 = none ∧ pyInt 4300 "12abc" 10 = none ∧ pyInt 4300 "" 10 = none ∧ pyInt 4300 "1.0" 10 = none ∧
    pyInt 4300 "9" 9 = none ∧ pyInt 4300 "1__0" 10 = none ∧ pyInt 4300 "0x" 16 = none ∧ pyInt 4300 "+" 10 = none := by decide +kernel
example : numberParseInt 4300 "12" 37 = none ∧ numberParseInt 4300 "12" ((5 : Rat) / 2) = none ∧ numberParseInt 4300 "12" 10 = some 12 := by
  decide +kernel

/-- `str(n)` is an optional `-` followed by ASCII digits: no decimal point, no exponent. -/
theorem int_prints_digits_only (n : Int) :
    ∃ ds, AsciiDigs ds ∧ ds ≠ [] ∧ (valueStringNum (.int n)).toList = (if n < 0 then ['-'] else []) ++ ds ∧
      '.' ∉ (valueStringNum (.int n)).toList := by
  refine ⟨natStr n.natAbs, ascii_natStr _, natStr_ne_nil _, ?_, ?_⟩
  · by_cases hn : n < 0 <;> simp [valueStringNum, intStr, intStrL, hn, String.toList_ofList]
  · have hd := dot_not_ascii (ascii_natStr n.natAbs)
    by_cases hn : n < 0 <;> simp [valueStringNum, intStr, intStrL, hn, String.toList_ofList, hd]

/-- … and that text denotes `n`. -/
theorem int_text_roundtrip (n : Int) : decVal (valueStringNum (.int n)) = some (n : Rat) := by
  simp only [decVal, intTok_text, decValL_text (intTok_wf false n), intTok_val]

example : valueStringNum (.int (-9007199254740993)) = "-9007199254740993" ∧ valueStringNum (.int 0) = "0" := by decide +kernel

/-- What is assumed about CPython for finite floats `F` (NOT modelled, DESIGN §6):
* A1 `repr_grammar`: `repr x` is in the grammar `-?D+\.D+ | -?D(\.D+)?e[+-]DD+`;
* A1 `float_repr`:   `float(repr x) == x` — stated through A2:
* A2: `float(text)` depends only on the rational number `q` the text denotes: it is `ofRat q` (CPython: the correctly rounded
  double) whenever `|q|` is below the overflow bound. -/
structure PyFloat (F : Type) where
  repr : F → String
  ofRat : Rat → F
  repr_grammar : ∀ x, IsRepr (repr x)
  float_repr : ∀ x, ∃ q, decVal (repr x) = some q ∧ -overflowBound < q ∧ q < overflowBound ∧ ofRat q = x

/-- `value_string` on a float carrier, over the assumed `repr` -/
def valueStringF {F : Type} (P : PyFloat F) (x : F) : String := valueStringNum (.float (P.repr x))

/-- `numberParseFloat` as a function into floats, over the assumed `float()` (A2) -/
def numberParseFloatF {F : Type} (P : PyFloat F) (s : String) : Option F := (numberParseFloat s).map P.ofRat

/-- evaluating a source literal, over the assumed `float()` (A2): consumed length and value -/
def literalF {F : Type} (P : PyFloat F) (s : String) : Option (Nat × F) :=
  match literal s with
  | .number n q => some (n, P.ofRat q)
  | _ => none

theorem numberParseFloat_strip_repr (s : String) (h : IsRepr s) (q : Rat) (hq : decVal s = some q)
    (hlo : -overflowBound < q) (hhi : q < overflowBound) : numberParseFloat (stripDotZeros s) = some q := by
  obtain ⟨t, t', _, _, _, hd, hst, hw', ha', hv, _⟩ := strip_repr h
  have hqt : t.val = q := Option.some.inj (hd.symm.trans hq)
  have hno : ¬ (overflowBound ≤ q ∨ q ≤ -overflowBound) := by
    rintro (h1 | h1)
    · exact absurd hhi (Rat.not_lt.mpr h1)
    · exact absurd hlo (Rat.not_lt.mpr h1)
  unfold numberParseFloat
  rw [hst, floatText_text (tokWF_weaken hw') ha', hv, hqt]
  simp [hno]

/-- **Round trip under A1/A2**: a finite float, stringified (`'' + x`, `stringNew`, `arrayJoin`, `systemLog` all use
`value_string`) and parsed back with `numberParseFloat`, is the same float. -/
theorem roundtrip_under_assumptions {F : Type} (P : PyFloat F) (x : F) :
    numberParseFloatF P (valueStringF P x) = some x := by
  obtain ⟨q, hq, hlo, hhi, hx⟩ := P.float_repr x
  simp [numberParseFloatF, valueStringF, valueStringNum,
    numberParseFloat_strip_repr (P.repr x) (P.repr_grammar x) q hq hlo hhi, hx]

theorem PyFloat.ofRat_of_decVal {F : Type} (P : PyFloat F) {x : F} {q : Rat} (h : decVal (P.repr x) = some q) : P.ofRat q = x := by
  obtain ⟨q', hq', -, -, hx⟩ := P.float_repr x
  rwa [Option.some.inj (hq'.symm.trans h)] at hx

/-- **Round trip through source text under A1/A2**: for a float whose text does not start with `-`, the stringified value is,
as a whole, a numeric literal that evaluates to the same float. -/
theorem literal_roundtrip_under_assumptions {F : Type} (P : PyFloat F) (x : F)
    (hpos : (P.repr x).toList.head? ≠ some '-') :
    literalF P (valueStringF P x) = some ((valueStringF P x).length, x) := by
  obtain ⟨q, hq, hlit⟩ := strip_literal (P.repr x) (P.repr_grammar x)
  simp [literalF, valueStringF, valueStringNum, hlit, P.ofRat_of_decVal hq]

/-- The assumptions are satisfiable by a non-trivial instance: a three-element "float type" with `repr`s of the three shapes. -/
def toyFloats : PyFloat (Fin 3) where
  repr := fun x => if x = 0 then "123.0" else if x = 1 then "1.5e-07" else "1e+16"
  ofRat := fun q => if q = 123 then 0 else if q = (3 : Rat) / 20000000 then 1 else 2
  repr_grammar := by decide
  float_repr := by
    intro x
    match x with
    | 0 => exact ⟨123, by decide +kernel⟩
    | 1 => exact ⟨(3 : Rat) / 20000000, by decide +kernel⟩
    | 2 => exact ⟨10000000000000000, by decide +kernel⟩

example : numberParseFloatF toyFloats (valueStringF toyFloats 1) = some 1 := roundtrip_under_assumptions toyFloats 1
example : valueStringF toyFloats 0 = "123" ∧ valueStringF toyFloats 2 = "1e+16" := by decide +kernel
example : literalF toyFloats (valueStringF toyFloats 2) = some (5, 2) :=
  literal_roundtrip_under_assumptions toyFloats 2 (by decide +kernel)

end C13
