import BareProofs.C02
import BareProofs.C02PrintLemmas
import BareProofs.C10WsLemmas

/-!
# C02 — text-level print / parse round trip of the expression parser model

The printer is `Print.printExpr` (`BareModel/Print.lean`); the class of trees is `C02.Printable` (same file, a Boolean
computation, every condition justified there by what `parse_expression` does).  All statements are about the Lean model
`ExprParse.parseExpr` of `parse_expression`; the printer is tied to the *real* parser by the correspondence stream
`print-parse` of `harness/props/C02.py` (random trees → `printExpr` in the driver → real `parse_expression` → same tree).

* `parse_print`      `Printable e → parseExpr (printExpr e) = .ok e`, for all printable trees of any depth / size / arity;
* `parse_print_ws`   the same for every *spaced* rendering: arbitrary blanks (`isPySpace`) — also none — in front of
                     every token and behind the last one (`Spaced e cs`); `parse_printPad` is the instance "the same pad
                     everywhere", e.g. the text without any blank at all (`a--b*f(c,2)`);
* `print_injective`  `printExpr` is injective on printable trees;
* `printL_head`      the canonical text of a printable tree starts with a digit, `'`, `[A-Za-z_]`, `[`, `!`, `-` or `(`;
* `parse_in_image`   every tree `parseExpr` returns on ANY text is in `InImage` (= `Printable` with `varImg` for `varOk`);
* `printable_of_parse_partial`  … hence `Printable`, provided no variable name in it ends in a backslash (the full
                     statement is false: `[a\]` parses to the name `a\`, which has no context-independent spelling);
                     `image_of_printable`, `printable_of_image`: `Printable ⊆ image(parseExpr) ⊆ InImage`, and
                     `InImage \ Printable` is exactly the trees with a backslash-ended variable name;
* `parse_print_parse`  `parseExpr s = ok e → parseExpr (printExpr e) = ok e` under the same proviso.

Proof: `Spaced` is defined by recursion over the tree; `round_trip` shows by induction on the size of the tree that
`parseUnary` / `parseBinary` read a spaced text back whatever *admissible* text follows (`Follow`: the next character does
not extend a number or an identifier and no `(` follows behind blanks; `Stop`: additionally no binary operator
follows), with fuel ≥ text length.  The binary level re-uses the chain theorems of `C02.lean`: a spaced text of a tree
splits into the text of its first operand and the spaced chain (`spaced_split`), the chain loop turns that into
`parseChain (first e) (chain e)` (`chainLoop_spaced`), and that *is* `e` for a precedence-respecting tree (`rebuild`).
-/

namespace C02
open ExprParse ExprScan Print

mutual
/-- `Spaced e cs`: `cs` is the canonical token sequence of `e` with an arbitrary run of blanks (possibly empty) in front of
every token; for a call, blanks are also allowed between the name and its `(` (the pattern is `name\s*\(`) -/
def Spaced : Expr → List Char → Prop
  | .number q, cs => ∃ w, AllSpace w ∧ cs = w ++ printNum q
  | .string s, cs => ∃ w, AllSpace w ∧ cs = w ++ printStr s
  | .variable n, cs => ∃ w, AllSpace w ∧ cs = w ++ printVar n
  | .function n args, cs => ∃ w w1 body, AllSpace w ∧ AllSpace w1 ∧ SpacedArgs args body ∧
      cs = w ++ (n.render.toList ++ (w1 ++ '(' :: body))
  | .binary op l r, cs => ∃ a w b, Spaced l a ∧ AllSpace w ∧ Spaced r b ∧ cs = a ++ (w ++ (op.text.toList ++ b))
  | .unary op e, cs => ∃ w a, AllSpace w ∧ Spaced e a ∧ cs = w ++ (op.text.toList ++ a)
  | .group e, cs => ∃ w a w2, AllSpace w ∧ Spaced e a ∧ AllSpace w2 ∧ cs = w ++ '(' :: (a ++ (w2 ++ [')']))
/-- the argument list including the closing `)` … -/
def SpacedArgs : List Expr → List Char → Prop
  | [], cs => ∃ w, AllSpace w ∧ cs = w ++ [')']
  | a :: rest, cs => ∃ x y, Spaced a x ∧ SpacedMore rest y ∧ cs = x ++ y
/-- … every further argument behind a comma -/
def SpacedMore : List Expr → List Char → Prop
  | [], cs => ∃ w, AllSpace w ∧ cs = w ++ [')']
  | a :: rest, cs => ∃ w x y, AllSpace w ∧ Spaced a x ∧ SpacedMore rest y ∧ cs = w ++ ',' :: (x ++ y)
end

theorem allSpace_nil : AllSpace [] := by intro c h; cases h
theorem allSpace_one : AllSpace [' '] := by intro c h; simp at h; subst h; decide

mutual
/-- the canonical text is a spaced rendering, also behind further blanks (the blank the printer writes after an operator
or a comma is such a run) -/
theorem spaced_print_ws : ∀ (e : Expr) {w : List Char}, AllSpace w → Spaced e (w ++ printL e)
  | .number q, w, hw => by simp only [Spaced, printL]; exact ⟨w, hw, rfl⟩
  | .string s, w, hw => by simp only [Spaced, printL]; exact ⟨w, hw, rfl⟩
  | .variable n, w, hw => by simp only [Spaced, printL]; exact ⟨w, hw, rfl⟩
  | .function n args, w, hw => by
    simp only [Spaced, printL]
    exact ⟨w, [], printArgsL args ++ [')'], hw, allSpace_nil, spacedArgs_print args, rfl⟩
  | .binary op l r, w, hw => by
    simp only [Spaced, printL]
    exact ⟨w ++ printL l, [' '], [' '] ++ printL r, spaced_print_ws l hw, allSpace_one, spaced_print_ws r allSpace_one, by simp⟩
  | .unary op e, w, hw => by
    simp only [Spaced, printL]
    exact ⟨w, [] ++ printL e, hw, spaced_print_ws e allSpace_nil, rfl⟩
  | .group e, w, hw => by
    simp only [Spaced, printL]
    exact ⟨w, [] ++ printL e, [], hw, spaced_print_ws e allSpace_nil, allSpace_nil, by simp⟩
theorem spacedArgs_print : ∀ args : List Expr, SpacedArgs args (printArgsL args ++ [')'])
  | [] => by simp only [SpacedArgs, printArgsL]; exact ⟨[], allSpace_nil, rfl⟩
  | a :: rest => by
    simp only [SpacedArgs, printArgsL]
    exact ⟨[] ++ printL a, printMoreL rest ++ [')'], spaced_print_ws a allSpace_nil, spacedMore_print rest, by simp⟩
theorem spacedMore_print : ∀ args : List Expr, SpacedMore args (printMoreL args ++ [')'])
  | [] => by simp only [SpacedMore, printMoreL]; exact ⟨[], allSpace_nil, rfl⟩
  | a :: rest => by
    simp only [SpacedMore, printMoreL]
    exact ⟨[], [' '] ++ printL a, printMoreL rest ++ [')'], allSpace_nil, spaced_print_ws a allSpace_one,
      spacedMore_print rest, by simp⟩
end

theorem precOkL_iff (op : BinOp) (l : Expr) : precOkL op l = true ↔ ∀ q, rootOp l = some q → prec op ≤ prec q := by
  cases l <;> simp [rootOp, precOkL]

theorem precOkR_iff (op : BinOp) (r : Expr) : precOkR op r = true ↔ ∀ q, rootOp r = some q → prec op < prec q := by
  cases r <;> simp [rootOp, precOkR]

theorem printable_binary {op : BinOp} {l r : Expr} :
    Printable (.binary op l r) ↔ Printable l ∧ Printable r ∧ precOkL op l = true ∧ precOkR op r = true := by
  simp only [Printable, printable, Bool.and_eq_true, and_assoc]

theorem printable_unary {op : UnOp} {x : Expr} : Printable (.unary op x) ↔ IsOperand x ∧ Printable x := by
  simp only [Printable, printable, Bool.and_eq_true]
  cases x <;> simp [isOperandB, IsOperand, rootOp]

theorem printableArgs_iff : ∀ args : List Expr, printableArgs args = true ↔ ∀ a ∈ args, Printable a
  | [] => by simp [printableArgs]
  | a :: rest => by rw [printableArgs, Bool.and_eq_true, printableArgs_iff rest, List.forall_mem_cons]; rfl

def OperandStart (c : Char) : Prop :=
  isDigit c = true ∨ isIdStart c = true ∨ c = '\'' ∨ c = '[' ∨ c = '!' ∨ c = '-' ∨ c = '('

theorem OperandStart.not_space {c : Char} (h : OperandStart c) : isPySpace c = false := by
  rcases h with h | h | h | h | h | h | h
  · exact digit_not_space h
  · exact word_not_space (idStart_word h)
  all_goals (subst h; decide)

theorem OperandStart.ne {c d : Char} (h : OperandStart c) (hd : d ∈ ['*', '=', ')']) : c ≠ d := by
  rintro rfl
  revert h
  revert c
  unfold OperandStart
  decide

def StartsOperand (cs : List Char) : Prop := ∃ w c t, cs = w ++ c :: t ∧ AllSpace w ∧ OperandStart c

theorem StartsOperand.ws {w cs : List Char} (hw : AllSpace w) (h : StartsOperand cs) : StartsOperand (w ++ cs) := by
  obtain ⟨w', c, t, rfl, hw', hc⟩ := h
  exact ⟨w ++ w', c, t, (List.append_assoc ..).symm, hw.append hw', hc⟩

theorem StartsOperand.append {cs : List Char} (h : StartsOperand cs) (s : List Char) : StartsOperand (cs ++ s) := by
  obtain ⟨w', c, t, rfl, hw', hc⟩ := h
  exact ⟨w', c, t ++ s, by simp, hw', hc⟩

theorem StartsOperand.opSafe {cs : List Char} (h : StartsOperand cs) : OpSafe cs := by
  obtain ⟨w, c, t, rfl, hw, hc⟩ := h
  intro d r hd
  cases w with
  | nil => cases hd; exact ⟨hc.ne (by decide), hc.ne (by decide)⟩
  | cons x xs =>
    cases hd
    have hx := hw d List.mem_cons_self
    exact ⟨ne_of_class hx (by decide), ne_of_class hx (by decide)⟩

theorem StartsOperand.length_pos {cs : List Char} (h : StartsOperand cs) : 1 ≤ cs.length := by
  obtain ⟨w, c, t, rfl, _, _⟩ := h; simp; omega

theorem StartsOperand.scanClose {cs : List Char} (h : StartsOperand cs) : scanClose cs = none := by
  obtain ⟨w, c, t, rfl, hw, hc⟩ := h
  rw [ExprScan.scanClose, (skips_char _).ws hw]
  exact scanChar_ne hc.not_space (hc.ne (by decide)) _

theorem unText_start (op : UnOp) : ∃ c t, op.text.toList = c :: t ∧ OperandStart c := by
  cases op
  · exact ⟨'!', [], rfl, by simp [OperandStart]⟩
  · exact ⟨'-', [], rfl, by simp [OperandStart]⟩

theorem printVar_start (n : Name) : ∃ c t, printVar n = c :: t ∧ OperandStart c := by
  by_cases hid : isIdent n.render.toList = true
  · obtain ⟨c, x, hcx, hc, _⟩ := isIdent_iff.mp hid
    exact ⟨c, x, by rw [printVar, if_pos hid, hcx], .inr (.inl hc)⟩
  · exact ⟨'[', escape ']' n.render.toList ++ [']'], by rw [printVar, if_neg hid], by simp [OperandStart]⟩

/-- the first token of a printable tree starts with an operand-start character `c`: the canonical text starts with `c`, and
so does every spaced text behind its leading blanks -/
theorem operand_start : ∀ e : Expr, Printable e →
    ∃ c, OperandStart c ∧ (∃ t, printL e = c :: t) ∧ ∀ cs, Spaced e cs → ∃ w t, cs = w ++ c :: t ∧ AllSpace w
  | .number q, h => by
    obtain ⟨d, r, hd, hdd⟩ := printNum_head h
    refine ⟨d, .inl hdd, ⟨r, by rw [printL, hd]⟩, fun cs hs => ?_⟩
    simp only [Spaced] at hs
    obtain ⟨w, hw, rfl⟩ := hs
    exact ⟨w, r, by rw [hd], hw⟩
  | .string s, _ => by
    refine ⟨'\'', by simp [OperandStart], ⟨_, by rw [printL, printStr]⟩, fun cs hs => ?_⟩
    simp only [Spaced] at hs
    obtain ⟨w, hw, rfl⟩ := hs
    exact ⟨w, _, by rw [printStr], hw⟩
  | .variable n, _ => by
    obtain ⟨c, t, hp, hc⟩ := printVar_start n
    refine ⟨c, hc, ⟨t, by rw [printL, hp]⟩, fun cs hs => ?_⟩
    simp only [Spaced] at hs
    obtain ⟨w, hw, rfl⟩ := hs
    exact ⟨w, t, by rw [hp], hw⟩
  | .function n args, h => by
    simp only [Printable, printable, Bool.and_eq_true, fnOk] at h
    obtain ⟨c, x, hcx, hc, _⟩ := isIdent_iff.mp h.1.2
    refine ⟨c, .inr (.inl hc), ⟨_, by rw [printL, hcx]; rfl⟩, fun cs hs => ?_⟩
    simp only [Spaced] at hs
    obtain ⟨w, w1, body, hw, _, _, rfl⟩ := hs
    exact ⟨w, _, by rw [hcx]; rfl, hw⟩
  | .binary op l r, h => by
    obtain ⟨c, hc, ⟨t, hl⟩, hsp⟩ := operand_start l (printable_binary.mp h).1
    refine ⟨c, hc, ⟨_, by rw [printL, hl]; rfl⟩, fun cs hs => ?_⟩
    simp only [Spaced] at hs
    obtain ⟨a, w, b, hl, _, _, rfl⟩ := hs
    obtain ⟨w', t', rfl, hw'⟩ := hsp a hl
    exact ⟨w', t' ++ (w ++ (op.text.toList ++ b)), by simp, hw'⟩
  | .unary op e, _ => by
    obtain ⟨c, t, h1, hc⟩ := unText_start op
    refine ⟨c, hc, ⟨_, by rw [printL, h1]; rfl⟩, fun cs hs => ?_⟩
    simp only [Spaced] at hs
    obtain ⟨w, a, hw, _, rfl⟩ := hs
    exact ⟨w, _, by rw [h1]; rfl, hw⟩
  | .group e, _ => by
    refine ⟨'(', by simp [OperandStart], ⟨_, by rw [printL]⟩, fun cs hs => ?_⟩
    simp only [Spaced] at hs
    obtain ⟨w, a, w2, hw, _, _, rfl⟩ := hs
    exact ⟨w, _, rfl, hw⟩

/-- the canonical text of a printable tree starts with an operand-start character (never a blank, `=`, `:`, `#`, …) -/
theorem printL_head : ∀ e : Expr, Printable e → ∃ c t, printL e = c :: t ∧ OperandStart c := fun e h =>
  let ⟨c, hc, ⟨t, ht⟩, _⟩ := operand_start e h
  ⟨c, t, ht, hc⟩

theorem spaced_start (e : Expr) (cs : List Char) (h : Printable e) (hs : Spaced e cs) : StartsOperand cs :=
  let ⟨c, hc, _, hsp⟩ := operand_start e h
  let ⟨w, t, hcs, hw⟩ := hsp cs hs
  ⟨w, c, t, hcs, hw, hc⟩

mutual
def size : Expr → Nat
  | .function _ args => 1 + sizeArgs args
  | .binary _ l r => 1 + size l + size r
  | .unary _ e => 1 + size e
  | .group e => 1 + size e
  | .number _ => 1
  | .string _ => 1
  | .variable _ => 1
def sizeArgs : List Expr → Nat
  | [] => 0
  | a :: r => size a + sizeArgs r
end

theorem size_pos : ∀ e : Expr, 1 ≤ size e
  | .function _ _ | .binary _ _ _ | .unary _ _ | .group _ | .number _ | .string _ | .variable _ => by
    simp only [size]; omega

theorem size_mem_args {a : Expr} : ∀ {args : List Expr}, a ∈ args → size a ≤ sizeArgs args
  | [], h => by cases h
  | b :: r, h => by
    simp only [sizeArgs]
    rcases List.mem_cons.mp h with rfl | h
    · omega
    · have := size_mem_args h; omega

theorem size_first_le (e : Expr) : size (first e) ≤ size e := by
  induction e using binInd with
  | binary op l r ihl _ => simp only [first, size]; omega
  | operand e he => rw [first_of_operand he]; exact Nat.le_refl _

theorem size_chain_lt (e : Expr) : ∀ x ∈ chain e, size x.2 < size e := by
  induction e using binInd with
  | binary op l r ihl ihr =>
    intro x hx
    rw [chain, List.mem_append, List.mem_cons] at hx
    simp only [size]
    rcases hx with hx | rfl | hx
    · have := ihl x hx; omega
    · have := size_first_le r; simp only; omega
    · have := ihr x hx; omega
  | operand e he => rw [chain_of_operand he]; intro x hx; cases hx

theorem pieces (e : Expr) :
    (IsOperand e ∧ first e = e ∧ chain e = []) ∨ (¬ IsOperand e ∧ size (first e) < size e) := by
  cases e with
  | binary op l r =>
    have := size_first_le l
    exact .inr ⟨fun h => (nomatch h), by simp only [first, size]; omega⟩
  | _ => exact .inl ⟨rfl, rfl, rfl⟩

theorem printable_wf (e : Expr) : Printable e → WFPrec e := by
  induction e using binInd with
  | binary op l r ihl ihr =>
    intro h
    obtain ⟨hl, hr, h1, h2⟩ := printable_binary.mp h
    exact ⟨ihl hl, ihr hr, (precOkL_iff op l).mp h1, (precOkR_iff op r).mp h2⟩
  | operand e he => exact fun _ => WF_operand he

theorem printable_first (e : Expr) : Printable e → Printable (first e) := by
  induction e using binInd with
  | binary op l r ihl _ => exact fun h => ihl (printable_binary.mp h).1
  | operand e he => rw [first_of_operand he]; exact id

theorem printable_chain (e : Expr) : Printable e → ∀ x ∈ chain e, Printable x.2 := by
  induction e using binInd with
  | binary op l r ihl ihr =>
    intro h x hx
    obtain ⟨hl, hr, _⟩ := printable_binary.mp h
    rw [chain, List.mem_append, List.mem_cons] at hx
    rcases hx with hx | rfl | hx
    · exact ihl hl x hx
    · exact printable_first r hr
    · exact ihr hr x hx
  | operand e he => rw [chain_of_operand he]; intro _ x hx; cases hx

def SpacedChain : List (BinOp × Expr) → List Char → Prop
  | [], cs => cs = []
  | (op, x) :: rest, cs => ∃ w a b, AllSpace w ∧ Spaced x a ∧ SpacedChain rest b ∧ cs = w ++ (op.text.toList ++ (a ++ b))

theorem SpacedChain.append : ∀ {c1 c2 : List (BinOp × Expr)} {b1 b2 : List Char}, SpacedChain c1 b1 → SpacedChain c2 b2 →
    SpacedChain (c1 ++ c2) (b1 ++ b2)
  | [], _, _, _, h1, h2 => by simp only [SpacedChain] at h1; subst h1; exact h2
  | (op, x) :: rest, c2, b1, b2, h1, h2 => by
    simp only [SpacedChain] at h1
    obtain ⟨w, a, b, hw, ha, hb, rfl⟩ := h1
    simp only [List.cons_append, SpacedChain]
    exact ⟨w, a, b ++ b2, hw, ha, SpacedChain.append hb h2, by simp⟩

theorem spaced_split (e : Expr) : ∀ cs, Spaced e cs → ∃ a b, cs = a ++ b ∧ Spaced (first e) a ∧ SpacedChain (chain e) b := by
  induction e using binInd with
  | binary op l r ihl ihr =>
    intro cs h
    simp only [Spaced] at h
    obtain ⟨A, w, B, hl, hw, hr, rfl⟩ := h
    obtain ⟨a1, b1, rfl, hf1, hc1⟩ := ihl A hl
    obtain ⟨a2, b2, rfl, hf2, hc2⟩ := ihr B hr
    refine ⟨a1, b1 ++ (w ++ (op.text.toList ++ (a2 ++ b2))), by simp, hf1, ?_⟩
    rw [chain]
    refine SpacedChain.append hc1 ?_
    simp only [SpacedChain]
    exact ⟨w, a2, b2, hw, hf2, hc2, rfl⟩
  | operand e he =>
    intro cs h
    rw [first_of_operand he, chain_of_operand he]
    exact ⟨cs, [], (List.append_nil _).symm, h, rfl⟩

theorem binText_length (op : BinOp) : 1 ≤ op.text.toList.length := by
  obtain ⟨c, u, h, _⟩ := binText_head op
  rw [h]; exact Nat.succ_le_succ (Nat.zero_le _)
theorem unText_length (op : UnOp) : 1 ≤ op.text.toList.length := by cases op <;> decide

theorem spacedChain_follow {ch : List (BinOp × Expr)} {b rest : List Char} (h : SpacedChain ch b) (hr : Follow rest) :
    Follow (b ++ rest) := by
  cases ch with
  | nil => simp only [SpacedChain] at h; subst h; exact hr
  | cons p ch =>
    obtain ⟨op, x⟩ := p
    simp only [SpacedChain] at h
    obtain ⟨w, a, b', hw, _, _, rfl⟩ := h
    have := follow_ws_append hw (follow_binText op (a ++ b' ++ rest))
    simpa using this

theorem chainLoop_spaced (pu : List Char → Res (Expr × List Char)) (F : Nat) :
    ∀ (ch : List (BinOp × Expr)),
      (∀ x ∈ ch, Printable x.2 ∧ ∀ ⦃cs rest⦄, Spaced x.2 cs → Follow rest → (cs ++ rest).length ≤ F → pu (cs ++ rest) = .ok (x.2, rest)) →
      ∀ (t0 : Expr) (b rest : List Char) (n : Nat), SpacedChain ch b → Stop rest → (b ++ rest).length ≤ n → (b ++ rest).length ≤ F →
        chainLoop pu n t0 (b ++ rest) = .ok (parseChain t0 ch, rest)
  | [], _, t0, b, rest, n, hb, hstop, _, _ => by
    simp only [SpacedChain] at hb; subst hb
    exact chainLoop_none hstop.2
  | (op, x) :: ch, hch, t0, b, rest, n, hb, hstop, hn, hF => by
    simp only [SpacedChain] at hb
    obtain ⟨w, a, b', hw, ha, hb', rfl⟩ := hb
    obtain ⟨hpx, hpu⟩ := hch (op, x) List.mem_cons_self
    have hlen := binText_length op
    rw [show w ++ (op.text.toList ++ (a ++ b')) ++ rest = w ++ (op.text.toList ++ (a ++ (b' ++ rest))) by simp] at hn hF ⊢
    simp only [List.length_append] at hn hF
    obtain ⟨m, rfl⟩ : ∃ m, n = m + 1 := ⟨n - 1, by omega⟩
    have hscan : scanBinOp (w ++ (op.text.toList ++ (a ++ (b' ++ rest)))) = some (op, a ++ (b' ++ rest)) := by
      rw [skips_binOp.ws hw]; exact scanBinOp_text op _ ((spaced_start x a hpx ha).append _).opSafe
    rw [chainLoop_step hscan
      (hpu ha (spacedChain_follow hb' hstop.1) (by simp only [List.length_append]; omega))]
    exact chainLoop_spaced pu F ch (fun y hy => hch y (List.mem_cons_of_mem _ hy)) (insR t0 op x) b' rest m hb' hstop
      (by simp only [List.length_append]; omega) (by simp only [List.length_append]; omega)

section
variable {pb : List Char → Res (Expr × List Char)}

theorem argsLoop_close {n : Nat} {args : List Expr} {t r : List Char} (h : scanClose t = some r) :
    argsLoop pb (n + 1) args t = .ok (args, r) := by
  simp only [argsLoop, h]

theorem argsLoop_step {n : Nat} {args : List Expr} {t t1 nt : List Char} {a : Expr} (hc : scanClose t = none)
    (hs : (if args.isEmpty then some t else scanComma t) = some t1) (ha : pb t1 = .ok (a, nt)) :
    argsLoop pb (n + 1) args t = argsLoop pb n (args ++ [a]) nt := by
  simp only [argsLoop, hc, hs, ha]

end

theorem spacedMore_stop : ∀ {more : List Expr} {y : List Char}, SpacedMore more y → ∀ rest, Stop (y ++ rest)
  | [], y, h, rest => by
    simp only [SpacedMore] at h
    obtain ⟨w, hw, rfl⟩ := h
    simpa using stop_ws_append hw (stop_close rest)
  | a :: more, y, h, rest => by
    simp only [SpacedMore] at h
    obtain ⟨w, x, y', hw, _, _, rfl⟩ := h
    simpa using stop_ws_append hw (stop_comma (x ++ y' ++ rest))

theorem argsLoop_spaced (pb : List Char → Res (Expr × List Char)) (F : Nat) :
    ∀ (more : List Expr),
      (∀ a ∈ more, Printable a ∧ ∀ ⦃cs rest⦄, Spaced a cs → Stop rest → (cs ++ rest).length ≤ F → pb (cs ++ rest) = .ok (a, rest)) →
      ∀ (done : List Expr) (body rest : List Char) (n : Nat),
        (if done.isEmpty then SpacedArgs more body else SpacedMore more body) → (body ++ rest).length ≤ n → (body ++ rest).length ≤ F →
        argsLoop pb n done (body ++ rest) = .ok (done ++ more, rest)
  | [], _, done, body, rest, n, hb, hn, _ => by
    obtain ⟨w, hw, rfl⟩ : ∃ w, AllSpace w ∧ body = w ++ [')'] := by
      split at hb <;> simpa [SpacedArgs, SpacedMore] using hb
    obtain ⟨m, rfl⟩ : ∃ m, n = m + 1 := ⟨n - 1, by simp at hn; omega⟩
    rw [List.append_nil, List.append_assoc]
    exact argsLoop_close (by rw [ExprScan.scanClose, (skips_char _).ws hw]; exact scanChar_eq ')' (by decide) rest)
  | a :: more, hmore, done, body, rest, n, hb, hn, hF => by
    obtain ⟨hpa, hpb⟩ := hmore a List.mem_cons_self
    -- what stands in front of the argument (nothing before the first one, blanks and a comma later), the argument, the rest
    obtain ⟨sep, x, y, rfl, hx, hy, hclose, hsep⟩ : ∃ sep x y, body = sep ++ (x ++ y) ∧ Spaced a x ∧ SpacedMore more y ∧
        (∀ r, scanClose (sep ++ (x ++ r)) = none) ∧
        ∀ r, (if done.isEmpty then some (sep ++ (x ++ r)) else scanComma (sep ++ (x ++ r))) = some (x ++ r) := by
      cases done with
      | nil =>
        simp only [List.isEmpty_nil, if_true, SpacedArgs] at hb
        obtain ⟨x, y, hx, hy, rfl⟩ := hb
        exact ⟨[], x, y, rfl, hx, hy, fun r => ((spaced_start a x hpa hx).append r).scanClose, fun r => rfl⟩
      | cons d ds =>
        simp only [List.isEmpty_cons, Bool.false_eq_true, if_false, SpacedMore] at hb
        obtain ⟨w, x, y, hw, hx, hy, rfl⟩ := hb
        refine ⟨w ++ [','], x, y, by simp, hx, hy, fun r => ?_, fun r => ?_⟩
        · rw [List.append_assoc, ExprScan.scanClose, (skips_char _).ws hw]; exact scanChar_ne (by decide) (by decide) _
        · rw [if_neg (by simp), List.append_assoc, ExprScan.scanComma, (skips_char _).ws hw]; exact scanChar_eq ',' (by decide) _
    have hxl := (spaced_start a x hpa hx).length_pos
    rw [show sep ++ (x ++ y) ++ rest = sep ++ (x ++ (y ++ rest)) by simp] at hn hF ⊢
    simp only [List.length_append] at hn hF
    obtain ⟨m, rfl⟩ : ∃ m, n = m + 1 := ⟨n - 1, by omega⟩
    rw [argsLoop_step (hclose _) (hsep _)
      (hpb hx (spacedMore_stop hy rest) (by simp only [List.length_append]; omega))]
    have := argsLoop_spaced pb F more (fun b hb => hmore b (List.mem_cons_of_mem _ hb)) (done ++ [a]) y rest m
      (by rw [if_neg (by simp)]; exact hy) (by simp only [List.length_append]; omega) (by simp only [List.length_append]; omega)
    simpa using this

/-- leading blanks do not change a successful unary-level parse (a failure carries the text it was raised with) -/
theorem parseUnary_ws {w : List Char} (hw : AllSpace w) {fuel : Nat} {t : List Char} {r : Expr × List Char}
    (h : parseUnary fuel t = .ok r) : parseUnary fuel (w ++ t) = .ok r := by
  -- the simulation of C10 at `LeadR`: same tree, and the same rest unless nothing was consumed, which `parseUnary_short` excludes
  have hrel := C10.parseUnary_rel (C10.lead_respects (s := t) hw) fuel t (w ++ t) (.inl ⟨rfl, rfl⟩)
  rw [h] at hrel
  cases hy : parseUnary fuel (w ++ t) with
  | error y => rw [hy] at hrel; exact hrel.elim
  | ok y =>
    rw [hy] at hrel
    obtain ⟨h1, ⟨h2, _⟩ | ⟨h2, _⟩⟩ := hrel
    · have := (parseUnary_short fuel (e := r.1) (r := r.2) h).2; rw [h2] at this; omega
    · exact congrArg _ (Prod.ext h1 h2).symm

/-- the unary-level parser reads a spaced text of `e` back (whatever admissible text follows, with fuel ≥ text length) -/
def PU (e : Expr) : Prop :=
  ∀ F ⦃cs rest⦄, Spaced e cs → Follow rest → (cs ++ rest).length ≤ F → parseUnary F (cs ++ rest) = .ok (e, rest)

/-- the binary-level parser reads a spaced text of `e` back -/
def PB (e : Expr) : Prop :=
  ∀ F ⦃cs rest⦄, Spaced e cs → Stop rest → (cs ++ rest).length ≤ F → parseBinary F (cs ++ rest) = .ok (e, rest)

theorem pb_of_pu (e : Expr) (hp : Printable e) (hfirst : PU (first e)) (hchain : ∀ x ∈ chain e, PU x.2) : PB e := by
  intro F cs rest hs hstop hlen
  obtain ⟨a, b, rfl, hfa, hcb⟩ := spaced_split e cs hs
  rw [List.append_assoc] at hlen ⊢
  have hlen' : (b ++ rest).length ≤ F := by simp only [List.length_append] at hlen ⊢; omega
  rw [parseBinary, binaryWith, hfirst F hfa (spacedChain_follow hcb hstop.1) hlen]
  dsimp only
  rw [chainLoop_spaced (parseUnary F) F (chain e) (fun x hx => ⟨printable_chain e hp x hx, hchain x hx F⟩)
    (first e) b rest F hcb hstop hlen' hlen', rebuild e (printable_wf e hp)]

theorem round_trip : ∀ (n : Nat) (e : Expr), size e ≤ n → Printable e → (IsOperand e → PU e) ∧ PB e := by
  intro n
  induction n with
  | zero => intro e hsz; have := size_pos e; omega
  | succ n ih =>
    intro e hsz hp
    have hPU : IsOperand e → PU e := by
      intro hop F cs rest hs hf hlen
      cases e with
      | binary op l r => cases hop
      | number q =>
        simp only [Spaced] at hs
        obtain ⟨w, hw, rfl⟩ := hs
        rw [List.append_assoc]; exact parseUnary_ws hw (parseUnary_number hp hf F)
      | string s =>
        simp only [Spaced] at hs
        obtain ⟨w, hw, rfl⟩ := hs
        rw [List.append_assoc]; exact parseUnary_ws hw (parseUnary_string s rest F)
      | «variable» nm =>
        simp only [Spaced] at hs
        obtain ⟨w, hw, rfl⟩ := hs
        rw [List.append_assoc]; exact parseUnary_ws hw (parseUnary_variable hp hf F)
      | unary op x =>
        obtain ⟨hxop, hpx⟩ := printable_unary.mp hp
        simp only [Spaced] at hs
        obtain ⟨w, a, hw, ha, rfl⟩ := hs
        rw [show w ++ (op.text.toList ++ a) ++ rest = w ++ (op.text.toList ++ (a ++ rest)) by simp] at hlen ⊢
        have hol := unText_length op
        simp only [List.length_append, size] at hlen hsz
        obtain ⟨f, rfl⟩ : ∃ f, F = f + 1 := ⟨F - 1, by omega⟩
        exact parseUnary_ws hw (parseUnary_unary (scanGroupOpen_unText op _) (scanUnaryOp_text op _)
          ((ih x (by omega) hpx).1 hxop f ha hf (by simp only [List.length_append]; omega)))
      | group x =>
        simp only [Spaced] at hs
        obtain ⟨w, a, w2, hw, ha, hw2, rfl⟩ := hs
        rw [show w ++ '(' :: (a ++ (w2 ++ [')'])) ++ rest = w ++ '(' :: (a ++ (w2 ++ ')' :: rest)) by simp] at hlen ⊢
        simp only [List.length_append, List.length_cons, size] at hlen hsz
        obtain ⟨f, rfl⟩ : ∃ f, F = f + 1 := ⟨F - 1, by omega⟩
        exact parseUnary_ws hw (parseUnary_group (scanChar_eq '(' (by decide) _)
          ((ih x (by omega) hp).2 f ha (stop_ws_append hw2 (stop_close rest))
            (by simp only [List.length_append, List.length_cons]; omega))
          (by rw [ExprScan.scanClose, (skips_char _).ws hw2]; exact scanChar_eq ')' (by decide) _))
      | function nm args =>
        simp only [Printable, printable, Bool.and_eq_true, fnOk, nameOk, decide_eq_true_eq, printableArgs_iff] at hp
        obtain ⟨⟨hname, hid⟩, hargs⟩ := hp
        simp only [Spaced] at hs
        obtain ⟨w, w1, body, hw, hw1, hbody, rfl⟩ := hs
        obtain ⟨c, x, hcx, hc, hx⟩ := isIdent_iff.mp hid
        have hcs := word_not_space (idStart_word hc)
        have hne : ∀ {d}, isIdStart d = false → c ≠ d := ne_of_class hc
        rw [show w ++ (nm.render.toList ++ (w1 ++ '(' :: body)) ++ rest = w ++ (c :: x ++ (w1 ++ '(' :: (body ++ rest))) by
          rw [hcx]; simp] at hlen ⊢
        simp only [List.length_append, List.length_cons, size] at hlen hsz
        obtain ⟨f, rfl⟩ : ∃ f, F = f + 1 := ⟨F - 1, by omega⟩
        have hloop := argsLoop_spaced (parseBinary f) f args
          (fun a ha => ⟨hargs a ha, (ih a (by have := size_mem_args ha; omega) (hargs a ha)).2 f⟩)
          [] body rest f hbody (by simp only [List.length_append]; omega) (by simp only [List.length_append]; omega)
        rw [← hname, ← String.ofList_toList (s := nm.render), hcx]
        exact parseUnary_ws hw (parseUnary_call (scanChar_ne hcs (hne (by decide)) _)
          (scanUnaryOp_ne hcs (hne (by decide)) (hne (by decide)) _) (scanFuncOpen_ident hc hx hw1 _) hloop)
    refine ⟨hPU, ?_⟩
    rcases pieces e with ⟨hop, hfu, hcu⟩ | ⟨_, hlt⟩
    · exact pb_of_pu e hp (by rw [hfu]; exact hPU hop) (by rw [hcu]; intro x hx; cases hx)
    · refine pb_of_pu e hp ((ih (first e) (by omega) (printable_first e hp)).1 (first_operand e)) ?_
      intro x hx
      exact (ih x.2 (by have := size_chain_lt e x hx; omega) (printable_chain e hp x hx)).1 (chain_operands e x hx)


/-- **parse_print_ws** (whitespace robustness).  For every printable tree `e`: take the canonical token sequence of `e`
(the tokens `printExpr` writes, in its order), put an arbitrary run of blanks — any of the 29 characters of
`ExprScan.isPySpace`, possibly none — in front of every token (`Spaced e cs`; the two blanks `printExpr` writes around a
binary operator and behind a comma are instances, so the canonical text is one of these), append arbitrary blanks `ws`:
the text parses to exactly `e`.  Unbounded depth, size and argument counts. -/
theorem parse_print_ws (e : Expr) (h : Printable e) (cs : List Char) (hs : Spaced e cs) (ws : List Char) (hws : AllSpace ws) :
    parseExpr (String.ofList (cs ++ ws)) = .ok e := by
  have hstop : Stop ws := by simpa using stop_ws_append hws stop_nil
  simp only [parseExpr, String.toList_ofList, parseExprL]
  rw [(round_trip (size e) e (Nat.le_refl _) h).2 (cs ++ ws).length hs hstop (Nat.le_refl _)]
  simp [skipWs_allSpace hws]

/-- **parse_print**: the text `printExpr` writes for a printable tree is parsed back to exactly that tree by the model of
`parse_expression` — for ALL printable trees (any depth, size, chain length, argument count, any string / name content). -/
theorem parse_print (e : Expr) (h : Printable e) : parseExpr (printExpr e) = .ok e := by
  have := parse_print_ws e h (printL e) (spaced_print_ws e allSpace_nil) [] allSpace_nil
  simpa [printExpr] using this

/-- **print_injective**: two different printable trees never have the same canonical text. -/
theorem print_injective (e₁ e₂ : Expr) (h₁ : Printable e₁) (h₂ : Printable e₂) (h : printExpr e₁ = printExpr e₂) : e₁ = e₂ := by
  have p1 := parse_print e₁ h₁
  rw [h, parse_print e₂ h₂] at p1
  exact (Except.ok.inj p1).symm

mutual
theorem spaced_printPad {p : List Char} (hp : AllSpace p) : ∀ e : Expr, Spaced e (printPad p e)
  | .number q => by simp only [Spaced, printPad]; exact ⟨p, hp, rfl⟩
  | .string s => by simp only [Spaced, printPad]; exact ⟨p, hp, rfl⟩
  | .variable n => by simp only [Spaced, printPad]; exact ⟨p, hp, rfl⟩
  | .function n args => by
    simp only [Spaced, printPad]; exact ⟨p, p, printPadArgs p args, hp, hp, spacedArgs_printPad hp args, rfl⟩
  | .binary op l r => by
    simp only [Spaced, printPad]; exact ⟨printPad p l, p, printPad p r, spaced_printPad hp l, hp, spaced_printPad hp r, rfl⟩
  | .unary op e => by simp only [Spaced, printPad]; exact ⟨p, printPad p e, hp, spaced_printPad hp e, rfl⟩
  | .group e => by simp only [Spaced, printPad]; exact ⟨p, printPad p e, p, hp, spaced_printPad hp e, hp, rfl⟩
theorem spacedArgs_printPad {p : List Char} (hp : AllSpace p) : ∀ args : List Expr, SpacedArgs args (printPadArgs p args)
  | [] => by simp only [SpacedArgs, printPadArgs]; exact ⟨p, hp, rfl⟩
  | a :: rest => by
    simp only [SpacedArgs, printPadArgs]; exact ⟨printPad p a, printPadMore p rest, spaced_printPad hp a, spacedMore_printPad hp rest, rfl⟩
theorem spacedMore_printPad {p : List Char} (hp : AllSpace p) : ∀ args : List Expr, SpacedMore args (printPadMore p args)
  | [] => by simp only [SpacedMore, printPadMore]; exact ⟨p, hp, rfl⟩
  | a :: rest => by
    simp only [SpacedMore, printPadMore]
    exact ⟨p, printPad p a, printPadMore p rest, hp, spaced_printPad hp a, spacedMore_printPad hp rest, rfl⟩
end

/-- corollary: the same pad (e.g. nothing at all: `a+b*ff(c,d)`; or `"\t 　"`) in front of every token and behind the
last one -/
theorem parse_printPad (e : Expr) (h : Printable e) (p : List Char) (hp : AllSpace p) :
    parseExpr (String.ofList (printPad p e ++ p)) = .ok e :=
  parse_print_ws e h _ (spaced_printPad hp e) p hp

theorem allSpace_of_all {ws : List Char} (h : ws.all isPySpace = true) : AllSpace ws := by
  intro c hc; exact List.all_eq_true.mp h c hc

private def vv (s : String) : Expr := .variable (.user s)

/-- a deep mixed tree: all precedence levels, left-nested equal precedence, groups, nested unary operators, a call with 5
arguments (one of them a call without arguments), an integer, a fraction, a string with a quote, a backslash and non-ASCII
text, a bracketed name with a blank and a `]`, the name that is one blank -/
private def deep : Expr :=
  .binary .or
    (.binary .and (.binary .eq (vv "a") (.binary .lt (.binary .sub (.binary .sub (vv "b") (.number 1)) (.binary .mul (vv "c") (.binary .pow (vv "d") (.number (3/2))))) (vv "e")))
      (.unary .not (.unary .neg (.group (.binary .add (vv "x y]z") (.group (.group (.unary .neg (.number 5)))))))))
    (.function (.user "ff") [.string "it's a \\ backé", .binary .mod (vv " ") (.number (1/8)), .function (.user "g") [],
      vv "_x1", .group (.binary .or (vv "null") (vv "true"))])

theorem deep_printable : Printable deep := by decide +kernel
example : printExpr deep =
    "a == b - 1 - c * d ** 1.5 < e && !-([x y\\]z] + ((-5))) || ff('it\\'s a \\\\ backé', [ ] % 0.125, g(), _x1, (null || true))" := by
  -- a literal is `String.ofList` of its characters by unification: the kernel then compares characters, not UTF-8 encodings
  rw [printExpr, String.ofList_inj]; kernel_rfl
example : parseExpr (printExpr deep) = .ok deep := parse_print deep deep_printable
/-- no blanks at all, and tab + ideographic space before every token and at the end -/
example : parseExpr (String.ofList (printPad [] deep ++ [])) = .ok deep := parse_printPad deep deep_printable [] allSpace_nil
example : parseExpr (String.ofList (printPad ['\t', '　'] deep ++ ['\t', '　'])) = .ok deep :=
  parse_printPad deep deep_printable _ (allSpace_of_all (by decide))
example : String.ofList (printPad [] (.binary .sub (vv "a") (.binary .mul (.unary .neg (vv "b")) (.function (.user "f") [vv "c", .number 2])))) = "a--b*f(c,2)" := by
  kernel_rfl
/-- `print_injective` is about printable trees: the right-nested tree needs a `group` node to be printable at all, and then
the texts differ -/
example : ¬ Printable (.binary .sub (vv "a") (.binary .sub (vv "b") (vv "c"))) := by decide +kernel
example : printExpr (.binary .sub (.binary .sub (vv "a") (vv "b")) (vv "c")) = "a - b - c" ∧
    printExpr (.binary .sub (vv "a") (.group (.binary .sub (vv "b") (vv "c")))) = "a - (b - c)" := by
  rw [printExpr, printExpr, String.ofList_inj, String.ofList_inj]; constructor <;> kernel_rfl
/-- the conditions of `Printable` are necessary: each of these trees prints to a text that parses to a *different* tree -/
example : parseExpr (printExpr (.unary .neg (.binary .pow (vv "a") (vv "b")))) = .ok (.binary .pow (.unary .neg (vv "a")) (vv "b")) := by
  rw [parseExpr, printExpr, String.toList_ofList]; kernel_rfl
example : parseExpr (printExpr (.binary .sub (vv "a") (.binary .sub (vv "b") (vv "c")))) = .ok (.binary .sub (.binary .sub (vv "a") (vv "b")) (vv "c")) := by
  rw [parseExpr, printExpr, String.toList_ofList]; kernel_rfl
example : parseExpr (printExpr (vv " a")) = .ok (vv "a") := by
  rw [parseExpr, printExpr, String.toList_ofList]; kernel_rfl
/-- … including the backslash corner of bracketed names: alone, `[a\\]` is the name `a\`; in front of another `]` it is not -/
example : parseExpr (printExpr (vv "a\\")) = .ok (vv "a\\") := by
  rw [parseExpr, printExpr, String.toList_ofList]; kernel_rfl
example : parseExpr (printExpr (.function (.user "ff") [vv "a\\", vv "b c"])) = .ok (.function (.user "ff") [vv "a\\], [b c"]) := by
  rw [parseExpr, printExpr, String.toList_ofList]; kernel_rfl

mutual
/-- leaf and operand conditions, hereditarily (the precedence conditions are `WFPrec`); `V` is the condition on variable names -/
def PInner (V : Name → Prop) : Expr → Prop
  | .number q => numOk q = true
  | .string _ => True
  | .variable n => V n
  | .function n args => fnOk n = true ∧ PInnerArgs V args
  | .binary _ l r => PInner V l ∧ PInner V r
  | .unary _ e => IsOperand e ∧ PInner V e
  | .group e => WFPrec e ∧ PInner V e
def PInnerArgs (V : Name → Prop) : List Expr → Prop
  | [] => True
  | a :: rest => (WFPrec a ∧ PInner V a) ∧ PInnerArgs V rest
end

/-- the class `Printable` with `varImg` in place of `varOk`: it contains every tree the parser returns (`parse_in_image`) -/
def InImage (e : Expr) : Prop := WFPrec e ∧ PInner (fun n => varImg n = true) e

theorem PInnerArgs_iff {V : Name → Prop} : ∀ args : List Expr, PInnerArgs V args ↔ ∀ a ∈ args, WFPrec a ∧ PInner V a
  | [] => by simp [PInnerArgs]
  | a :: rest => by rw [PInnerArgs, PInnerArgs_iff rest, List.forall_mem_cons]

/-- result of a unary-level parse -/
def ImgU (e : Expr) : Prop := IsOperand e ∧ PInner (fun n => varImg n = true) e

section
variable {pu pb : List Char → Res (Expr × List Char)}

theorem binaryWith_img (hpu : ∀ ⦃t e r⦄, pu t = .ok (e, r) → ImgU e) {n : Nat} {t : List Char} {e : Expr} {r : List Char}
    (h : binaryWith pu n t = .ok (e, r)) : InImage e := by
  obtain ⟨u0, t0, ch, hu, hcs, rfl⟩ := binaryWith_scan h
  have h0 := hpu hu
  have hch := hcs.operands hpu
  exact ⟨chain_wf u0 ch h0.1 (fun x hx => (hch x hx).1),
    parseChain_preserves (fun _ _ _ => by rw [PInner]) u0 ch h0.2 (fun x hx => (hch x hx).2)⟩

theorem argsLoop_results {P : Expr → Prop} (hpb : ∀ ⦃t e r⦄, pb t = .ok (e, r) → P e) :
    ∀ (n : Nat) {args : List Expr} {t : List Char} {as : List Expr} {r : List Char},
      argsLoop pb n args t = .ok (as, r) → (∀ a ∈ args, P a) → ∀ a ∈ as, P a := by
  intro n
  induction n with
  | zero => intro args t as r h; cases h
  | succ n ih =>
    intro args t as r h hargs
    rw [argsLoop] at h
    split at h
    · cases h; exact hargs
    · split at h
      · cases h
      · split at h
        · cases h
        · rename_i a nt hpa
          refine ih h fun b hb => ?_
          rcases List.mem_append.mp hb with hb | hb
          · exact hargs b hb
          · cases List.mem_singleton.mp hb; exact hpb hpa

end

theorem nameOk_ofString (s : String) : nameOk (Name.ofString s) = true := by
  simp [nameOk, render_ofString]

theorem varImg_ident {id : List Char} (h : IdentShape id) : varImg (Name.ofString (String.ofList id)) = true := by
  simp [varImg, nameOk_ofString, render_ofString, isIdent_iff.mpr h]

theorem fnOk_ident {id : List Char} (h : IdentShape id) : fnOk (Name.ofString (String.ofList id)) = true := by
  simp [fnOk, nameOk_ofString, render_ofString, isIdent_iff.mpr h]

theorem unescape_head (q d : Char) (raw : List Char) (hd : isPySpace d = false) (hq : isPySpace q = false) :
    ∃ c t, unescape q (d :: raw) = c :: t ∧ isPySpace c = false := by
  rw [unescape.eq_def]
  simp only
  split
  · rename_i hbs
    cases raw with
    | nil => exact ⟨d, [], by simp [hbs], hd⟩
    | cons x xs =>
      simp only
      split
      · rename_i hx
        refine ⟨x, _, rfl, ?_⟩
        simp only [Bool.or_eq_true, decide_eq_true_eq] at hx
        rcases hx with rfl | rfl
        · decide
        · exact hq
      · exact ⟨d, _, rfl, hd⟩
  · exact ⟨d, _, rfl, hd⟩

theorem bracketImg_scan {t r n : List Char} (h : scanVariableEx t = some (n, r)) : bracketImg n = true := by
  obtain ⟨ws0, x, _, _, hx, hcase⟩ := scanVariableEx_iff.mp h
  rcases hcase with ⟨_, w, _, _, rfl⟩ | ⟨raw, rfl, hne, _, rfl⟩
  · rfl
  · obtain ⟨d, raw', rfl⟩ := List.exists_cons_of_ne_nil hne
    obtain ⟨c, u, hcu, hc⟩ := unescape_head ']' d raw' (hx d rfl) (by decide)
    rw [hcu]
    cases u <;> simp [bracketImg, hc]

theorem numOk_scan {t r : List Char} {q : Rat} (hun : scanUnaryOp t = none) (h : scanNumber t = some (q, r)) :
    numOk q = true := by
  obtain ⟨_, _, hseg⟩ := scanNumber_spec hun h
  cases hseg with
  | cons _ _ _ _ _ _ hsp _ =>
  cases hsp with
  | num body q hn hhead =>
    obtain ⟨sg, neg, ip, frac, fp, exp, ex, rfl, hsg, _, _, _, _, rfl⟩ := hn
    cases hsg with
    | none => exact numOk_decVal ip fp ex
    | plus => exact numOk_decVal ip fp ex
    | minus => exact absurd rfl hhead

theorem parseAtom_img {t : List Char} {e : Expr} {r : List Char} (hun : scanUnaryOp t = none)
    (h : parseAtom t = .ok (e, r)) : ImgU e := by
  rcases parseAtom_ok h with ⟨q, hs, rfl⟩ | ⟨s, _, rfl⟩ | ⟨n, hs | hs, rfl⟩
  · exact ⟨rfl, numOk_scan hun hs⟩
  · exact ⟨rfl, trivial⟩
  · exact ⟨rfl, varImg_ident (scanVariable_iff.mp hs).2.1⟩
  · exact ⟨rfl, by simp [PInner, varImg, nameOk_ofString, render_ofString, bracketImg_scan hs]⟩

theorem parseUnary_img (fuel : Nat) : ∀ ⦃t e r⦄, parseUnary fuel t = .ok (e, r) → ImgU e := by
  induction fuel with
  | zero => intro t e r h; exact parseAtom_img (parseUnary_zero_ok h).1 (parseUnary_zero_ok h).2
  | succ fuel ih =>
    intro t e r h
    rcases parseUnary_succ_ok h with ⟨gt, x, nt, _, hb, _, rfl⟩ | ⟨op, ut, x, _, hu, rfl⟩ |
      ⟨name, rt, args, hfn, ha, rfl⟩ | ⟨hun, ha⟩
    · exact ⟨rfl, binaryWith_img ih hb⟩
    · exact ⟨rfl, ih hu⟩
    · obtain ⟨_, _, hid, _⟩ := scanFuncOpen_cut hfn
      exact ⟨rfl, fnOk_ident hid, (PInnerArgs_iff _).mpr
        (argsLoop_results (fun _ _ _ h => binaryWith_img ih h) _ ha fun _ h => nomatch h)⟩
    · exact parseAtom_img hun ha

/-- **parse_in_image**: every tree `parse_expression` (the model) returns, on any text whatsoever, is in `InImage`:
precedence-respecting at every binary node, unary operands are chain operands, every number is a non-negative finite
decimal, every call name an identifier, every variable name an identifier or a possible bracketed name, every name
`Name.ofString`-canonical. -/
theorem parse_in_image (s : String) (e : Expr) (h : parseExpr s = .ok e) : InImage e := by
  obtain ⟨rest, hb, _⟩ := (parseExpr_ok_iff s e).mp h
  exact binaryWith_img (parseUnary_img _) hb

mutual
/-- every variable name of the tree satisfies `Q` -/
def AllVars (Q : Name → Prop) : Expr → Prop
  | .number _ => True
  | .string _ => True
  | .variable n => Q n
  | .function _ args => AllVarsArgs Q args
  | .binary _ l r => AllVars Q l ∧ AllVars Q r
  | .unary _ e => AllVars Q e
  | .group e => AllVars Q e
def AllVarsArgs (Q : Name → Prop) : List Expr → Prop
  | [] => True
  | a :: rest => AllVars Q a ∧ AllVarsArgs Q rest
end

/-- the name does not end in a backslash -/
def NoBackslashEnd (n : Name) : Prop := n.render.toList.getLast? ≠ some '\\'

mutual
theorem printable_iff : ∀ e : Expr, Printable e ↔ WFPrec e ∧ PInner (fun n => varOk n = true) e
  | .number q => ⟨fun h => ⟨trivial, h⟩, fun h => h.2⟩
  | .string s => ⟨fun _ => ⟨trivial, trivial⟩, fun _ => rfl⟩
  | .variable n => ⟨fun h => ⟨trivial, h⟩, fun h => h.2⟩
  | .function n args => by
    rw [PInner, ← printableArgs_pinner args]
    simp [Printable, printable, WFPrec]
  | .binary op l r => by
    rw [printable_binary, printable_iff l, printable_iff r, precOkL_iff, precOkR_iff, WFPrec, PInner]
    exact ⟨fun ⟨⟨h1, h2⟩, ⟨h3, h4⟩, h5, h6⟩ => ⟨⟨h1, h3, h5, h6⟩, h2, h4⟩,
      fun ⟨⟨h1, h3, h5, h6⟩, h2, h4⟩ => ⟨⟨h1, h2⟩, ⟨h3, h4⟩, h5, h6⟩⟩
  | .unary op e => by
    rw [printable_unary, printable_iff e, PInner]
    exact ⟨fun ⟨h1, _, h3⟩ => ⟨trivial, h1, h3⟩, fun ⟨_, h1, h3⟩ => ⟨h1, WF_operand h1, h3⟩⟩
  | .group e => by
    rw [PInner, ← printable_iff e]
    exact ⟨fun h => ⟨trivial, h⟩, fun h => h.2⟩
theorem printableArgs_pinner : ∀ args : List Expr, printableArgs args = true ↔ PInnerArgs (fun n => varOk n = true) args
  | [] => ⟨fun _ => trivial, fun _ => rfl⟩
  | a :: rest => by
    rw [printableArgs, Bool.and_eq_true, PInnerArgs, ← printable_iff a, ← printableArgs_pinner rest]; rfl
end

theorem varOk_of_img {n : Name} (h : varImg n = true) (hb : NoBackslashEnd n) : varOk n = true := by
  simp only [varImg, varOk, Bool.and_eq_true, Bool.or_eq_true] at h ⊢
  refine ⟨h.1, h.2.imp_right fun h2 => ?_⟩
  unfold NoBackslashEnd at hb
  generalize n.render.toList = cs at h2 hb
  match cs, h2, hb with
  | [c], _, hb => simpa [bracketOk_singleton] using hb
  | c :: x :: xs, h2, hb =>
    simp only [bracketImg] at h2
    simp only [bracketOk_cons_cons, Bool.and_eq_true, h2, true_and, bne_iff_ne, ne_eq]
    simpa [List.getLast?_cons_cons] using hb

theorem varImg_of_ok {n : Name} (h : varOk n = true) : varImg n = true := by
  simp only [varImg, varOk, Bool.and_eq_true, Bool.or_eq_true] at h ⊢
  refine ⟨h.1, h.2.imp_right fun h2 => ?_⟩
  generalize n.render.toList = cs at h2
  match cs, h2 with
  | [c], _ => rfl
  | c :: x :: xs, h2 =>
    simp only [bracketOk_cons_cons, Bool.and_eq_true] at h2
    simpa [bracketImg] using h2.1

mutual
theorem PInner_mono {V W : Name → Prop} (Q : Name → Prop) (hvw : ∀ n, V n → Q n → W n) :
    ∀ e : Expr, PInner V e → AllVars Q e → PInner W e
  | .number _, h, _ => h
  | .string _, _, _ => trivial
  | .variable n, h, hq => hvw n h hq
  | .function n args, h, hq => by
    simp only [PInner, AllVars] at h hq ⊢
    exact ⟨h.1, PInnerArgs_mono Q hvw args h.2 hq⟩
  | .binary _ l r, h, hq => by
    simp only [PInner, AllVars] at h hq ⊢
    exact ⟨PInner_mono Q hvw l h.1 hq.1, PInner_mono Q hvw r h.2 hq.2⟩
  | .unary _ e, h, hq => by
    simp only [PInner, AllVars] at h hq ⊢
    exact ⟨h.1, PInner_mono Q hvw e h.2 hq⟩
  | .group e, h, hq => by
    simp only [PInner, AllVars] at h hq ⊢
    exact ⟨h.1, PInner_mono Q hvw e h.2 hq⟩
theorem PInnerArgs_mono {V W : Name → Prop} (Q : Name → Prop) (hvw : ∀ n, V n → Q n → W n) :
    ∀ args : List Expr, PInnerArgs V args → AllVarsArgs Q args → PInnerArgs W args
  | [], _, _ => trivial
  | a :: rest, h, hq => by
    simp only [PInnerArgs, AllVarsArgs] at h hq ⊢
    exact ⟨⟨h.1.1, PInner_mono Q hvw a h.1.2 hq.1⟩, PInnerArgs_mono Q hvw rest h.2 hq.2⟩
end

mutual
theorem allVars_true : ∀ e : Expr, AllVars (fun _ => True) e
  | .number _ | .string _ | .variable _ => trivial
  | .function _ args => by simp only [AllVars]; exact allVarsArgs_true args
  | .binary _ l r => by simp only [AllVars]; exact ⟨allVars_true l, allVars_true r⟩
  | .unary _ e => by simp only [AllVars]; exact allVars_true e
  | .group e => by simp only [AllVars]; exact allVars_true e
theorem allVarsArgs_true : ∀ args : List Expr, AllVarsArgs (fun _ => True) args
  | [] => trivial
  | a :: rest => by simp only [AllVarsArgs]; exact ⟨allVars_true a, allVarsArgs_true rest⟩
end

/-- the printable class lies inside `InImage` … -/
theorem image_of_printable (e : Expr) (h : Printable e) : InImage e := by
  obtain ⟨hw, hi⟩ := (printable_iff e).mp h
  exact ⟨hw, PInner_mono (fun _ => True) (fun _ hv _ => varImg_of_ok hv) e hi (allVars_true e)⟩

/-- … and differs from it only by the variable names that end in a backslash -/
theorem printable_of_image (e : Expr) (h : InImage e) (hb : AllVars NoBackslashEnd e) : Printable e :=
  (printable_iff e).mpr ⟨h.1, PInner_mono NoBackslashEnd (fun _ hv hq => varOk_of_img hv hq) e h.2 hb⟩

/-- **printable_of_parse_partial**: every tree the parser returns on any text is `Printable`, *provided no variable name in
it ends in a backslash*.

The full statement `parseExpr s = .ok e → Printable e` is FALSE, not merely unproved: `parseExpr "[a\\]" = .ok (variable
"a\")`, but that name cannot be written in a context-independent way (`bracketOk`, see `BareModel/Print.lean`: in front of
a later `]` the text `[a\\]` is read differently), so it is excluded from `Printable`.  Everything else is exact:
`parse_in_image` (no side condition) + `printable_of_image` + `image_of_printable` + `parse_print` give
`Printable ⊆ image of parseExpr ⊆ InImage`, and `InImage \ Printable` = trees with a backslash-ended variable name. -/
theorem printable_of_parse_partial (s : String) (e : Expr) (h : parseExpr s = .ok e) (hb : AllVars NoBackslashEnd e) :
    Printable e :=
  printable_of_image e (parse_in_image s e h) hb

/-- **parse_print_parse**: parsing any text and printing the result gives a text that parses to the same tree
(`printExpr ∘ parseExpr` normalises the text without changing its meaning), whenever no variable name ends in a backslash. -/
theorem parse_print_parse (s : String) (e : Expr) (h : parseExpr s = .ok e) (hb : AllVars NoBackslashEnd e) :
    parseExpr (printExpr e) = .ok e :=
  parse_print e (printable_of_parse_partial s e h hb)

/-- a text with everything the printer never writes: double quotes, an exponent, a `+` sign, blanks inside brackets and
between a call name and its parenthesis, a bracketed spelling of an identifier -/
private def messy : Expr :=
  .binary .sub (.binary .mul (.function (.user "ff") [.number 1500, .string "it's", vv "x y] "]) (.unary .neg (.number 5))) (vv "abc")

private theorem messy_parses : parseExpr " ff ( 1.5e+3 ,\"it's\", [  x y\\] ] )* -+5-[abc]" = .ok messy := by
  rw [parseExpr, String.toList_ofList]; kernel_rfl

example : InImage messy := parse_in_image _ _ messy_parses
example : Printable messy :=
  printable_of_parse_partial _ _ messy_parses (by simp only [messy, vv, AllVars, AllVarsArgs, NoBackslashEnd]; decide +kernel)
example : printExpr messy = "ff(1500, 'it\\'s', [x y\\] ]) * -5 - abc" := by
  rw [printExpr, String.ofList_inj]; kernel_rfl
example : parseExpr (printExpr messy) = .ok messy :=
  parse_print_parse _ _ messy_parses (by simp only [messy, vv, AllVars, AllVarsArgs, NoBackslashEnd]; decide +kernel)
/-- the side condition of `printable_of_parse_partial` cannot be dropped: this tree is returned by the parser, is in
`InImage`, and is not `Printable` -/
example : parseExpr "[a\\]" = .ok (vv "a\\") ∧ InImage (vv "a\\") ∧ ¬ Printable (vv "a\\") :=
  ⟨by kernel_rfl, parse_in_image "[a\\]" _ (by kernel_rfl), by decide +kernel⟩

end C02
