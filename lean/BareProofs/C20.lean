import BareProofs.C20Lemmas

/-!
# C20 — `diffLines` from the shipped include library reconstructs both inputs

The model is `BareModel.Diff` (a hand translation of the loops of `include/diff.bare`, including the `while`+`continue`
behaviour of this code base, finding F7).  Property theorems, for ALL line lists (any length, any line type with decidable
equality — `String` in the driver):

* `diffLoop_some`, `fuel_irrelevant`   the fuelled main loop never runs out of fuel and never passes `arraySlice` an index
                                        out of range; every fuel `≥ |L| + |R| + 1` gives the same result
* `diff_left`                           the lines of the `Identical` and `Remove` blocks, in order, are the left lines
* `diff_right`                          the lines of the `Identical` and `Add` blocks, in order, are the right lines
* `diff_blocks_nonempty`                no block has an empty line list
* `diff_identical_inputs`               equal line lists give `[]` (both empty) or the single block `Identical L`;
  `diff_identical_only_identical`, `diff_empty`  the two readings the property states
* `diffInputs_left/right/nonempty/identical`  the same for the script-level arguments (a string split on `\r?\n`, or an
                                        array whose parts are split and concatenated)
* `splitLines_ne_nil`, `lines_of_line_array`  a string always has at least one line; an array of LF-free strings is its own
                                        line list

The finite fact "every shipped include script parses, validates and is lint-clean" is `C20.includes_parse_validate_lintclean`
in `BareProofs/C20Includes.lean` (a module of its own, so that a lint warning in some include does not take the `diffLines`
theorems down with it).
-/

namespace C20
open Diff

variable {α : Type} [DecidableEq α]

/-! ## fuel -/

/-- **Fuel sufficiency.** With any fuel `≥ |L| + |R| + 1` the main loop ends (`some`), and the result is the one
`diffLines` returns: it does not depend on the fuel. (`none` would also cover an `arraySlice` index out of range.) -/
theorem fuel_irrelevant (L R : List α) (f : Nat) (hf : L.length + R.length + 1 ≤ f) :
    outer L R f true 0 0 = some (diffLines L R) := by
  have hs := outer_isSome L R (L.length + R.length + 1) true 0 0 (Nat.zero_le _) (Nat.zero_le _) (by omega)
  obtain ⟨bs, hbs⟩ := Option.isSome_iff_exists.mp hs
  have h1 := outer_mono_le L R hf true 0 0 bs (Nat.zero_le _) (Nat.zero_le _) hbs
  have h2 := outer_mono_le L R (show L.length + R.length + 1 ≤ fuelFor L R by simp [fuelFor])
    true 0 0 bs (Nat.zero_le _) (Nat.zero_le _) hbs
  simp [diffLines, diffLoop, h1, h2]

example : outer [1, 2, 3] [1, 3, 4] 7 true 0 0 = some (diffLines [1, 2, 3] [1, 3, 4]) := by decide +kernel
/-- fuel matters below the bound: this input needs three passes, with two the model is stuck -/
example : outer [1, 2] [3, 1] 2 true 0 0 = none ∧ (outer [1, 2] [3, 1] 3 true 0 0).isSome := by decide +kernel

/-- **The model never runs out of fuel** (and never fails in `arraySlice`): the `[]` fallback of `diffLines` is dead. -/
theorem diffLoop_some (L R : List α) : diffLoop L R = some (diffLines L R) :=
  fuel_irrelevant L R (fuelFor L R) (by simp [fuelFor])

example : diffLoop ["a", "b"] ["b", "c"] =
    some [⟨.remove, ["a"]⟩, ⟨.identical, ["b"]⟩, ⟨.add, ["c"]⟩] := by decide +kernel

/-! ## reconstruction -/

theorem diff_spec (L R : List α) :
    leftOf (diffLines L R) = L ∧ rightOf (diffLines L R) = R ∧ ∀ b ∈ diffLines L R, b.lines ≠ [] := by
  have h := outer_spec L R _ true 0 0 _ (Nat.zero_le _) (Nat.zero_le _) (diffLoop_some L R)
  simpa using h

/-- **Left reconstruction**: concatenating the `Identical` and `Remove` blocks in order gives exactly the left lines. -/
theorem diff_left (L R : List α) : leftOf (diffLines L R) = L := (diff_spec L R).1

example : leftOf (diffLines ["a", "b", "a"] ["b", "a", "b", "c"]) = ["a", "b", "a"]
    ∧ diffLines ["a", "b", "a"] ["b", "a", "b", "c"]
      = [⟨.add, ["b"]⟩, ⟨.identical, ["a", "b"]⟩, ⟨.remove, ["a"]⟩, ⟨.add, ["c"]⟩] := by decide +kernel

/-- **Right reconstruction**: concatenating the `Identical` and `Add` blocks in order gives exactly the right lines. -/
theorem diff_right (L R : List α) : rightOf (diffLines L R) = R := (diff_spec L R).2.1

example : rightOf (diffLines ["a", "b", "a"] ["b", "a", "b", "c"]) = ["b", "a", "b", "c"] := by decide +kernel

/-- **No empty block.** -/
theorem diff_blocks_nonempty (L R : List α) : ∀ b ∈ diffLines L R, b.lines ≠ [] := (diff_spec L R).2.2

example : (diffLines ["x"] ["y", "z"]).map (·.lines.length) = [1, 2] := by decide +kernel

/-! ## identical inputs -/

/-- **Identical inputs**: nothing for two empty inputs, otherwise the single block `Identical L`. -/
theorem diff_identical_inputs (L : List α) :
    diffLines L L = if L = [] then [] else [⟨.identical, L⟩] := by
  cases L with
  | nil => simp [diffLines, diffLoop, fuelFor, outer]
  | cons x xs =>
    have h0 : (0 : Nat) < (x :: xs).length := by simp
    have hb : diffLoop (x :: xs) (x :: xs) = some [⟨.identical, x :: xs⟩] := by
      unfold diffLoop fuelFor
      rw [outer_body _ _ _ true 0 0 h0 h0]
      simp only [bodyStep, List.drop_zero, commonLen_self, h0, if_true, Nat.zero_add]
      rw [outer_left_done _ _ _ false _ _ (Nat.le_refl _) (Nat.le_refl _)]
      simp
    simp [diffLines, hb]

example : diffLines ["a", "b"] ["a", "b"] = [⟨.identical, ["a", "b"]⟩] := by decide +kernel

/-- equal inputs never yield an `Add` or `Remove` block -/
theorem diff_identical_only_identical (L : List α) : ∀ b ∈ diffLines L L, b.kind = .identical := by
  rw [diff_identical_inputs]
  split <;> simp

/-- two empty inputs yield no block at all -/
theorem diff_empty : diffLines ([] : List α) [] = [] := by
  simpa using diff_identical_inputs ([] : List α)

example : diffLines ([] : List String) [] = [] := by decide +kernel
/-- … whereas an empty *string* is one empty line: -/
example : diffInputs (.text "") (.text "") = [⟨.identical, [""]⟩] := by decide +kernel

/-! ## script-level arguments: strings and arrays of strings -/

theorem splitGo_ne_nil (cur cs : List Char) : splitGo cur cs ≠ [] := by
  induction cs generalizing cur with
  | nil => simp [splitGo]
  | cons c cs ih =>
    simp only [splitGo]
    split
    · simp
    · exact ih _

/-- `regexSplit` of a string has at least one element (the empty string is one empty line) -/
theorem splitLines_ne_nil (s : String) : splitLines s ≠ [] := splitGo_ne_nil _ _

theorem splitGo_no_lf (cur cs : List Char) (h : '\n' ∉ cs) : splitGo cur cs = [String.ofList (cur.reverse ++ cs)] := by
  induction cs generalizing cur with
  | nil => simp [splitGo]
  | cons c cs ih =>
    simp only [List.mem_cons, not_or] at h
    have hc : c ≠ '\n' := fun e => h.1 e.symm
    simp only [splitGo, hc, if_false]
    rw [ih _ h.2]
    simp

theorem splitLines_no_lf (s : String) (h : '\n' ∉ s.toList) : splitLines s = [s] := by
  simp [splitLines, splitGo_no_lf [] s.toList h, String.ofList_toList]

/-- an array of strings none of which contains a line feed is its own line list -/
theorem lines_of_line_array (ps : List String) (h : ∀ p ∈ ps, '\n' ∉ p.toList) : (Input.parts ps).lines = ps := by
  induction ps with
  | nil => rfl
  | cons p ps ih =>
    have h1 := splitLines_no_lf p (h p (by simp))
    have h2 := ih (fun q hq => h q (by simp [hq]))
    simp only [Input.lines, List.flatMap_cons] at h2 ⊢
    rw [h1, h2]; rfl

example : (Input.parts ["a", "b\r\nc", ""]).lines = ["a", "b", "c", ""]
    ∧ (Input.text "a\r\nb\nc\r").lines = ["a", "b", "c\r"] := by decide +kernel

/-- left reconstruction for script-level arguments -/
theorem diffInputs_left (l r : Input) : leftOf (diffInputs l r) = l.lines := diff_left _ _

/-- right reconstruction for script-level arguments -/
theorem diffInputs_right (l r : Input) : rightOf (diffInputs l r) = r.lines := diff_right _ _

theorem diffInputs_nonempty (l r : Input) : ∀ b ∈ diffInputs l r, b.lines ≠ [] := diff_blocks_nonempty _ _

/-- inputs with the same lines (e.g. the same text once with LF and once with CRLF endings, or as an array of chunks)
yield `Identical` blocks only -/
theorem diffInputs_identical (l r : Input) (h : l.lines = r.lines) : ∀ b ∈ diffInputs l r, b.kind = .identical := by
  unfold diffInputs; rw [h]; exact diff_identical_only_identical _

example : (Input.text "a\nb").lines = (Input.parts ["a\r\nb"]).lines
    ∧ diffInputs (.text "a\nb") (.parts ["a\r\nb"]) = [⟨.identical, ["a", "b"]⟩] := by decide +kernel

end C20
