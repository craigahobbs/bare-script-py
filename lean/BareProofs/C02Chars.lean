import BareModel.ExprScan

/-!
# C02Chars — the character classes of the expression scanner, table side

What the classes `\s` and `\d` of `BareModel/ExprScan.lean` are in terms of their tables; the comparison of the number scanner
with C13's literal model (`BareProofs/C13Scan.lean`) stands on these alone.
-/

namespace C02
open ExprScan

theorem isPySpace_eq (c : Char) : isPySpace c = Text.isSpace c := by
  simp only [isPySpace, Text.isSpace, Text.isSpaceN]

theorem isDigit_iff {c : Char} : isDigit c = true ↔ ∃ r ∈ Rx.digitRanges, r.1 ≤ c.toNat ∧ c.toNat ≤ r.2 := by
  simp only [isDigit, Rx.isDigitU, Rx.isDigitN, List.any_eq_true, Bool.and_eq_true, decide_eq_true_eq]

theorem isDigit_ascii {c : Char} (h1 : 48 ≤ c.toNat) (h2 : c.toNat ≤ 57) : isDigit c = true ∧ digitVal c = c.toNat - 48 := by
  refine ⟨isDigit_iff.mpr ⟨(48, 57), (List.mem_cons_self : (48, 57) ∈ (48, 57) :: Rx.digitRanges.tail), h1, h2⟩, ?_⟩
  have : Rx.digitRanges.find? (fun r => decide (r.1 ≤ c.toNat) && decide (c.toNat ≤ r.2)) = some (48, 57) :=
    List.find?_cons_of_pos (l := Rx.digitRanges.tail) (by simp [h1, h2])
  simp only [digitVal, this]
  omega

end C02
