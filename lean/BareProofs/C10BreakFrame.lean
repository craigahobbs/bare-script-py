import BareProofs.C10BreakLemmas

/-!
# C10 — frames: `Scan.classifyL` on a line given by its tokens and blank runs

A statement kind with a captured expression is a *frame* `pre ++ e ++ post`: for **every** admissible expression text `e` the line
is that statement with the expression `e` captured at offset `|pre|`, so the classified line is
`(shiftErr |pre| (parseExpr e)).map f` (`IsFrame`; `frame_header` for `if` / `elif` / `while`, `frame_for`, `frame_return`,
`frame_jumpif`, `frame_assign`).  Replacing the expression text, or any blank run of the statement part, keeps the pattern, the
names and the statement.  The kinds without a captured expression classify as their statement whatever the expression parser
is (`classifyL_jump`, `classifyL_else`, `classifyL_include`, `classifyL_include_system`, `classifyL_function`), a call line goes
to the expression parser whole (`classifyL_call`).  Each is the build lemma of `C10BreakLemmas` read through `classifyL`.
-/

namespace C10
open Text Scan

/-! ## admissible expression texts -/

/-- `nbStart`, and does not start with `=` (else the line is an assignment to a variable named like the keyword) -/
def exprStart : Chars → Bool
  | d :: _ => !isSpace d && d != '='
  | [] => false

/-- … and is not a colon followed by blanks (`return :` is the label `return`) -/
def retStart : Chars → Bool
  | d :: r => !isSpace d && d != '=' && !(d == ':' && allSpace r)
  | [] => false

theorem exprStart_decomp {e : Chars} (h : exprStart e = true) : ∃ d e1, e = d :: e1 ∧ isSpace d = false ∧ d ≠ '=' := by
  cases e with
  | nil => simp [exprStart] at h
  | cons d e1 => exact ⟨d, e1, rfl, by simpa [exprStart] using h⟩

theorem retStart_decomp {e : Chars} (h : retStart e = true) :
    ∃ d e1, e = d :: e1 ∧ isSpace d = false ∧ d ≠ '=' ∧ (d = ':' → allSpace e1 = false) := by
  cases e with
  | nil => simp [retStart] at h
  | cons d e1 =>
    simp only [retStart, Bool.and_eq_true, Bool.not_eq_true', bne_iff_ne, ne_eq, Bool.and_eq_false_imp, beq_iff_eq] at h
    exact ⟨d, e1, rfl, h.1.1, h.1.2, h.2⟩

theorem exprStart_append {e : Chars} (h : exprStart e = true) (w : Chars) : exprStart (e ++ w) = true := by
  cases e with
  | nil => simp [exprStart] at h
  | cons d r => simpa [exprStart] using h

example : nbStart "x + 1 ".toList = true ∧ exprStart "x + 1 ".toList = true ∧ retStart ":x".toList = true ∧
    exprStart "= 1".toList = false ∧ retStart ":  ".toList = false := by decide_lit

/-! ## frames: statement kinds with a captured expression -/

/-- for every admissible expression text `e`, the line `pre ++ e ++ post` is the statement `f` of the expression `e`,
captured at offset `|pre|` -/
def IsFrame (pre post : Chars) (ok : Chars → Bool) (f : Expr → Line) : Prop :=
  ∀ (pe : String → Except ParseErr Expr) (e : Chars), ok e = true →
    classifyL pe (pre ++ (e ++ post)) = (shiftErr pre.length (pe (String.ofList e))).map f

/-- a frame read at an expression text that parses -/
theorem frame_ok {pre post : Chars} {ok : Chars → Bool} {f : Expr → Line} (h : IsFrame pre post ok f)
    (pe : String → Except ParseErr Expr) {t : Chars} {e : Expr} (ht : ok t = true) (hp : pe (String.ofList t) = .ok e) :
    classifyL pe (pre ++ (t ++ post)) = .ok (f e) := by
  rw [h pe t ht, hp]; rfl

/-- the three headers `kw <expr>:` -/
structure Header where
  kw : String
  mkS : Nat → Chars → Shape
  mkL : Expr → Line

def headers : List Header :=
  [⟨"if", .ifBegin, .ifBegin⟩, ⟨"elif", .elif, .elif⟩, ⟨"while", .whileBegin, .whileBegin⟩]

/-- the shapes `mk off e` with a captured expression, each with the statement `f` built from the parsed expression -/
inductive ExprShape : (Nat → Chars → Shape) → (Expr → Line) → Prop
  | assign (n : Chars) : ExprShape (.assign n) (Line.assign (nameOf n))
  | ifBegin : ExprShape .ifBegin Line.ifBegin
  | elif : ExprShape .elif Line.elif
  | whileBegin : ExprShape .whileBegin Line.whileBegin
  | forBegin (v : Chars) (i : Option Chars) : ExprShape (.forBegin v i) (Line.forBegin (nameOf v) (i.map nameOf))
  | jump (n : Chars) : ExprShape (fun off e => .jump n (some (off, e))) (fun c => Line.jump (nameOf n) (some c))
  | ret : ExprShape (fun off e => .ret (some (off, e))) (fun c => Line.ret (some c))

theorem classifyL_expr {mk : Nat → Chars → Shape} {f : Expr → Line} (hm : ExprShape mk f)
    (pe : String → Except ParseErr Expr) {ind s : Chars} (hi : allSpace ind = true) (hs : lstripL s = s) {off : Nat}
    {e : Chars} (h : shapeS s = mk off e) :
    classifyL pe (ind ++ s) = (shiftErr (off + ind.length) (pe (String.ofList e))).map f := by
  unfold classifyL
  rw [shape_of_shapeS hs ind hi, h]
  cases hm <;> rfl

theorem header_cases {h : Header} (hh : h ∈ headers) :
    ∃ i : Nat, beforeLabel[i]? = some ([h.kw], kwExprColon? h.kw h.mkS) ∧ ExprShape h.mkS h.mkL := by
  simp only [headers, List.mem_cons, List.not_mem_nil, or_false] at hh
  rcases hh with rfl | rfl | rfl
  · exact ⟨2, rfl, .ifBegin⟩
  · exact ⟨3, rfl, .elif⟩
  · exact ⟨6, rfl, .whileBegin⟩

/-- **`if` / `elif` / `while`**: `ind kw w1 e : w3` with any indentation, a non-empty blank run `w1`, any blanks `w3`, and any
expression text `e` that starts with a non-blank other than `=` (it may contain colons and end with blanks). -/
theorem frame_header (h : Header) (hh : h ∈ headers) {ind w1 w3 : Chars} (hi : allSpace ind = true)
    (hw1 : allSpace w1 = true) (hne : w1 ≠ []) (hw3 : allSpace w3 = true) :
    IsFrame (ind ++ (h.kw.toList ++ w1)) (':' :: w3) exprStart h.mkL := by
  intro pe e he
  obtain ⟨d, e1, rfl, hd, hde⟩ := exprStart_decomp he
  obtain ⟨i, hi', hm⟩ := header_cases hh
  rw [show (ind ++ (h.kw.toList ++ w1)) ++ (d :: e1 ++ ':' :: w3) = ind ++ (h.kw.toList ++ (w1 ++ d :: e1 ++ ':' :: w3)) by simp,
    classifyL_expr hm pe hi (lstripL_ident (beforeLabel_ident hi' _ (.head _)) _)
      (shapeS_header i hi' d e1 hw1 hne hd hde hw3)]
  congr 2
  simp only [List.length_append, String.length_toList]; omega

/-- **`for v[, i] in e:`** — any non-empty blank runs after `for`, before and after `in`; any (possibly empty) blanks
around the comma and after the colon. -/
theorem frame_for {ind w1 v w4 w5 w6 : Chars} (mid : Option (Chars × Chars × Chars)) (hi : allSpace ind = true)
    (hw1 : allSpace w1 = true) (hne1 : w1 ≠ []) (hv : isIdent v = true) (hm : forMidOK mid = true)
    (hw4 : allSpace w4 = true) (hne4 : w4 ≠ []) (hw5 : allSpace w5 = true) (hne5 : w5 ≠ []) (hw6 : allSpace w6 = true) :
    IsFrame (ind ++ ("for".toList ++ (w1 ++ (v ++ (forMid mid ++ (w4 ++ ("in".toList ++ w5))))))) (':' :: w6) nbStart
      (Line.forBegin (nameOf v) ((mid.map (fun m => m.2.2)).map nameOf)) := by
  intro pe e he
  obtain ⟨d, e1, rfl, hd⟩ := nbStart_decomp he
  rw [show (ind ++ ("for".toList ++ (w1 ++ (v ++ (forMid mid ++ (w4 ++ ("in".toList ++ w5))))))) ++ (d :: e1 ++ ':' :: w6) =
      ind ++ ("for".toList ++ (w1 ++ (v ++ (forMid mid ++ (w4 ++ ("in".toList ++ (w5 ++ d :: e1 ++ ':' :: w6))))))) by simp,
    classifyL_expr (.forBegin _ _) pe hi (lstripL_ident (by decide) _)
      (shapeS_for mid d e1 hw1 hne1 hv hm hw4 hne4 hw5 hne5 hd hw6)]
  congr 2
  simp only [List.length_append]; omega

theorem frame_return {ind w1 : Chars} (hi : allSpace ind = true) (hw1 : allSpace w1 = true) (hne : w1 ≠ []) :
    IsFrame (ind ++ ("return".toList ++ w1)) [] retStart (fun c => Line.ret (some c)) := by
  intro pe e he
  obtain ⟨d, e1, rfl, hd, hde, hlab⟩ := retStart_decomp he
  rw [show (ind ++ ("return".toList ++ w1)) ++ (d :: e1 ++ []) = ind ++ ("return".toList ++ (w1 ++ d :: e1)) by simp,
    classifyL_expr .ret pe hi (lstripL_ident (by decide) _) (shapeS_return d e1 hw1 hne hd hde hlab)]
  congr 2
  simp; omega

/-- **`jumpif (e) label`** — any blanks (also none) between `jumpif` and `(`, any non-empty run before the label, any blanks
after it; `e` is whatever stands between the first `(` and the last `)`. -/
theorem frame_jumpif {ind w0 w1 nm w2 : Chars} (hi : allSpace ind = true) (hw0 : allSpace w0 = true)
    (hw1 : allSpace w1 = true) (hne : w1 ≠ []) (hid : isIdent nm = true) (hw2 : allSpace w2 = true) :
    IsFrame (ind ++ ("jumpif".toList ++ (w0 ++ ['(']))) (')' :: (w1 ++ (nm ++ w2))) (fun e => !e.isEmpty)
      (fun c => Line.jump (nameOf nm) (some c)) := by
  intro pe e he
  have hee : e ≠ [] := by intro h; subst h; simp at he
  rw [show (ind ++ ("jumpif".toList ++ (w0 ++ ['(']))) ++ (e ++ ')' :: (w1 ++ (nm ++ w2))) =
      ind ++ ("jumpif".toList ++ (w0 ++ '(' :: (e ++ ')' :: (w1 ++ (nm ++ w2))))) by simp,
    classifyL_expr (.jump _) pe hi (lstripL_ident (by decide) _) (shapeS_jumpif e hw0 hee hw1 hne hid hw2)]
  congr 2
  simp; omega

theorem frame_assign {ind nm w1 w2 : Chars} (hi : allSpace ind = true) (hid : isIdent nm = true)
    (hw1 : allSpace w1 = true) (hw2 : allSpace w2 = true) :
    IsFrame (ind ++ (nm ++ (w1 ++ '=' :: w2))) [] nbStart (Line.assign (nameOf nm)) := by
  intro pe e he
  obtain ⟨d, e1, rfl, hd⟩ := nbStart_decomp he
  rw [show (ind ++ (nm ++ (w1 ++ '=' :: w2))) ++ (d :: e1 ++ []) = ind ++ (nm ++ (w1 ++ '=' :: (w2 ++ d :: e1))) by simp,
    classifyL_expr (.assign _) pe hi (lstripL_ident hid _) (shapeS_assign d e1 hid hw1 hw2 hd)]
  congr 2
  simp only [List.length_append]; omega

/-! ## statement kinds without a captured expression; expression statements -/

theorem classifyL_jump (pe : String → Except ParseErr Expr) {ind w1 nm w2 : Chars} (hi : allSpace ind = true)
    (hw1 : allSpace w1 = true) (hne : w1 ≠ []) (hid : isIdent nm = true) (hw2 : allSpace w2 = true) :
    classifyL pe (ind ++ ("jump".toList ++ (w1 ++ (nm ++ w2)))) = .ok (.jump (nameOf nm) none) := by
  unfold classifyL
  rw [shape_of_shapeS (lstripL_ident (by decide) _) ind hi, shapeS_jump hw1 hne hid hw2]; rfl

theorem classifyL_else (pe : String → Except ParseErr Expr) {ind w1 w2 : Chars} (hi : allSpace ind = true)
    (hw1 : allSpace w1 = true) (hw2 : allSpace w2 = true) :
    classifyL pe (ind ++ ("else".toList ++ (w1 ++ ':' :: w2))) = .ok .else_ := by
  unfold classifyL
  rw [shape_of_shapeS (lstripL_ident (by decide) _) ind hi, shapeS_else hw1 hw2]; rfl

theorem classifyL_include (pe : String → Except ParseErr Expr) {ind w1 w2 : Chars} (body : Chars) (hi : allSpace ind = true)
    (hw1 : allSpace w1 = true) (hne : w1 ≠ []) (hq : quotesEscaped body = true) (hw2 : allSpace w2 = true) :
    classifyL pe (ind ++ ("include".toList ++ (w1 ++ '\'' :: (body ++ '\'' :: w2)))) =
      .ok (.include (String.ofList (unescapeQuote body)) false) := by
  unfold classifyL
  rw [shape_of_shapeS (lstripL_ident (by decide) _) ind hi, shapeS_include body hw1 hne hq hw2]; rfl

theorem classifyL_include_system (pe : String → Except ParseErr Expr) {ind w1 w2 : Chars} (url : Chars)
    (hi : allSpace ind = true) (hw1 : allSpace w1 = true) (hne : w1 ≠ []) (hu : ∀ a ∈ url, a ≠ '>')
    (hw2 : allSpace w2 = true) :
    classifyL pe (ind ++ ("include".toList ++ (w1 ++ '<' :: (url ++ '>' :: w2)))) =
      .ok (.include (String.ofList url) true) := by
  unfold classifyL
  rw [shape_of_shapeS (lstripL_ident (by decide) _) ind hi, shapeS_include_system url hw1 hne hu hw2]; rfl

/-- **`[async] function name(params[...]):`** — a non-empty run after `function`; any blanks (also none) after `async`,
before `(`, after `(`, around each comma, before `...`, before `)`, before and after `:`. -/
theorem classifyL_function (pe : String → Except ParseErr Expr) {ind w1 nm w2 w3 w4 w5 w6 w7 : Chars} (asy : Option Chars)
    (args : Option (Chars × List (Chars × Chars × Chars))) (dots : Bool) (hi : allSpace ind = true)
    (hasy : ∀ w0, asy = some w0 → allSpace w0 = true) (hw1 : allSpace w1 = true) (hne1 : w1 ≠ [])
    (hid : isIdent nm = true) (hw2 : allSpace w2 = true) (hw3 : allSpace w3 = true) (ha : argsOK args = true)
    (hw4 : allSpace w4 = true) (hw5 : allSpace w5 = true) (hw6 : allSpace w6 = true) (hw7 : allSpace w7 = true) :
    classifyL pe (ind ++ (asyncText asy ++ ("function".toList ++ (w1 ++ (nm ++ fnRest w2 w3 args w4 dots w5 w6 w7))))) =
      .ok (.funcBegin (nameOf nm) ((argNames args).map nameOf) dots asy.isSome) := by
  have hs : ∀ r, lstripL (asyncText asy ++ ("function".toList ++ r)) = asyncText asy ++ ("function".toList ++ r) := by
    cases asy with
    | none => exact lstripL_ident (by decide)
    | some w0 => intro r; simp only [asyncText, List.append_assoc]; exact lstripL_ident (by decide) _
  unfold classifyL
  rw [shape_of_shapeS (hs _) ind hi, shapeS_function asy args dots hasy hw1 hne1 hid hw2 hw3 ha hw4 hw5 hw6 hw7]; rfl

/-- a call line `ind name(…`: an identifier that does not begin with a statement keyword, immediately followed by `(` -/
def isCallLine (l : Chars) : Bool :=
  match ident? (lstripL l) with
  | some (nm, '(' :: _) => noKeywordPrefix nm
  | _ => false

theorem isCallLine_decomp {l : Chars} (h : isCallLine l = true) :
    ∃ ind nm x, l = ind ++ (nm ++ '(' :: x) ∧ allSpace ind = true ∧ isIdent nm = true ∧ noKeywordPrefix nm = true := by
  obtain ⟨ind, hind, hl⟩ := lstrip_decomp l
  unfold isCallLine at h
  split at h
  · next nm x hi => exact ⟨ind, nm, x, by rw [← ident?_decomp hi]; exact hl, hind, ident?_isIdent hi, h⟩
  · cases h

/-- **Expression statements** (call lines): the whole line goes to the expression parser. -/
theorem classifyL_call (pe : String → Except ParseErr Expr) {l : Chars} (h : isCallLine l = true) :
    classifyL pe l = (pe (String.ofList l)).map Line.exprStmt := by
  obtain ⟨ind, nm, x, rfl, hind, hid, hk⟩ := isCallLine_decomp h
  have : shape (ind ++ (nm ++ '(' :: x)) = .exprStmt := by
    rw [shape_of_shapeS (lstripL_ident hid _) ind hind, shapeS_call x hid hk]; rfl
  unfold classifyL
  rw [this]

example : isCallLine "  systemLog('a  b', 1)".toList = true ∧ isCallLine "ifx(1)".toList = false ∧
    isCallLine "f (1)".toList = false := by decide_lit

end C10
