import BareProofs.HostShape
import BareModel.HostImpl

/-!
# What a call of the driver's host (`HostImpl.host`) can do

`lib_shape` is the one case analysis of `HostImpl.lib`; with `other_shape` it gives `implShape : HostShape implView HostImpl.host`.
-/

open Machine HostImpl
namespace C09

def cellVals : Cell → List Value
  | .arr xs => xs
  | .obj kvs => kvs.map (·.2)

def HeapAll (Q : Value → Prop) (heap : List Cell) : Prop := ∀ c ∈ heap, ∀ v ∈ cellVals c, Q v

section
variable {Q : Value → Prop}

theorem arr_all {w : World} (h : HeapAll Q w.heap) (r : Nat) : ∀ x ∈ (w.arr? r).getD [], Q x := by
  unfold World.arr?
  split
  · next xs heq => exact h _ (List.mem_of_getElem? heq)
  · nofun

theorem obj_all {w : World} (h : HeapAll Q w.heap) (r : Nat) : ∀ kv ∈ (w.obj? r).getD [], Q kv.2 := by
  unfold World.obj?
  split
  · next kvs heq => exact fun kv hkv => h _ (List.mem_of_getElem? heq) kv.2 (List.mem_map.2 ⟨kv, hkv, rfl⟩)
  · nofun

theorem objSet_all {kvs : List (String × Value)} {k : String} {v : Value} (h1 : ∀ kv ∈ kvs, Q kv.2) (h2 : Q v) :
    ∀ kv ∈ objSet kvs k v, Q kv.2 := by
  induction kvs with
  | nil => intro kv hkv; simp only [objSet, List.mem_singleton] at hkv; rw [hkv]; exact h2
  | cons x rest ih =>
    obtain ⟨k', x⟩ := x
    intro kv hkv
    simp only [objSet] at hkv
    split at hkv
    · rcases List.mem_cons.1 hkv with h | h
      · rw [h]; exact h2
      · exact h1 kv (List.mem_cons_of_mem _ h)
    · rcases List.mem_cons.1 hkv with h | h
      · rw [h]; exact h1 _ List.mem_cons_self
      · exact ih (fun kv hkv => h1 kv (List.mem_cons_of_mem _ hkv)) kv h

theorem objNew_all (hnull : Q .null) (args : List Value) (acc o : List (String × Value)) (ha : ∀ x ∈ args, Q x)
    (hacc : ∀ kv ∈ acc, Q kv.2) (h : objNew args acc = some o) : ∀ kv ∈ o, Q kv.2 := by
  induction args, acc using objNew.induct with
  | case1 acc => simp only [objNew, Option.some.injEq] at h; rw [← h]; exact hacc
  | case2 k acc => simp only [objNew, Option.some.injEq] at h; rw [← h]; exact objSet_all hacc hnull
  | case3 k v rest acc ih =>
    simp only [objNew] at h
    exact ih (fun x hx => ha x (List.mem_cons_of_mem _ (List.mem_cons_of_mem _ hx)))
      (objSet_all hacc (ha v (List.mem_cons_of_mem _ List.mem_cons_self))) h
  | case4 args acc h1 h2 h3 => rw [objNew] at h; cases h; all_goals assumption

theorem find_all {kvs : List (String × Value)} (h1 : ∀ kv ∈ kvs, Q kv.2) {d : Value} (h2 : Q d)
    (p : String × Value → Bool) : Q (((kvs.find? p).map (·.2)).getD d) := by
  cases hf : kvs.find? p with
  | none => exact h2
  | some kv => exact h1 kv (List.mem_of_find?_eq_some hf)

theorem HeapAll.append {h : List Cell} {c : Cell} (h1 : HeapAll Q h) (h2 : ∀ v ∈ cellVals c, Q v) :
    HeapAll Q (h ++ [c]) := by
  intro c' hc'
  rcases List.mem_append.1 hc' with hc | hc
  · exact h1 c' hc
  · rw [List.mem_singleton.1 hc]; exact h2

theorem HeapAll.set {h : List Cell} {c : Cell} {r : Nat} (h1 : HeapAll Q h) (h2 : ∀ v ∈ cellVals c, Q v) :
    HeapAll Q (h.set r c) := by
  intro c' hc'
  rcases List.mem_or_eq_of_mem_set hc' with hc | hc
  · exact h1 c' hc
  · rw [hc]; exact h2

theorem vals_obj {kvs : List (String × Value)} (h : ∀ kv ∈ kvs, Q kv.2) : ∀ v ∈ cellVals (.obj kvs), Q v := by
  intro v hv
  obtain ⟨kv, hkv, rfl⟩ := List.mem_map.1 hv
  exact h kv hkv

theorem all_append {α : Type} {P : α → Prop} {xs ys : List α} (h1 : ∀ x ∈ xs, P x) (h2 : ∀ x ∈ ys, P x) :
    ∀ x ∈ xs ++ ys, P x :=
  fun x hx => (List.mem_append.1 hx).elim (h1 x) (h2 x)

theorem all_set {α : Type} {P : α → Prop} {xs : List α} {i : Nat} {v : α} (h1 : ∀ x ∈ xs, P x) (h2 : P v) :
    ∀ x ∈ xs.set i v, P x :=
  fun x hx => (List.mem_or_eq_of_mem_set hx).elim (h1 x) (· ▸ h2)
end

open HostShape (View Shape)

def implView : View World where
  heapAll Q w := HeapAll Q w.heap
  mono h hh := fun c hc v hv => h v (hh c hc v hv)
  log := World.log
  partials := World.partials

section
variable {name : String} {args : List Value} {w : World}

theorem _root_.HostShape.Shape.same {out : LibOut} (hrt : ∀ msg, out ≠ .rt msg)
    (hq : ∀ Q, Given Q args → HeapAll Q w.heap → ∀ v, out.val? = some v → Q v) :
    Shape implView (.lib name) args w w (.ret out w) :=
  .ret rfl (List.prefix_refl _) (fun Q hQ _ hh => ⟨hh, hq Q hQ hh⟩) hrt

theorem _root_.HostShape.Shape.heap {out : LibOut} {heap' : List Cell} (hrt : ∀ msg, out ≠ .rt msg)
    (hq : ∀ Q, Given Q args → HeapAll Q w.heap → HeapAll Q heap' ∧ ∀ v, out.val? = some v → Q v) :
    Shape implView (.lib name) args w w (.ret out { heap := heap', log := w.log, partials := w.partials }) :=
  .ret rfl (List.prefix_refl _) (fun Q hQ _ hh => hq Q hQ hh) hrt

theorem _root_.HostShape.Shape.log {s : String} :
    Shape implView (.lib name) args w w (.ret (.ok .null) { heap := w.heap, log := w.log ++ [s], partials := w.partials }) :=
  .ret rfl (List.prefix_append _ _) (fun Q hQ _ hh => ⟨hh, fun v hv => by cases hv; exact hQ.null⟩) nofun
end

/-- the match-function loop: the function and the elements it is applied to come from the call's arguments and from the
heap at the start, whatever the call-backs in between did to the world -/
theorem indexOfFn_shape {args : List Value} {w0 : World} {f : Value} (ha : args.length = 2) :
    ∀ (xs : List Value) (i : Nat) (w : World), (∀ Q, Given Q args → HeapAll Q w0.heap → Q f ∧ ∀ x ∈ xs, Q x) →
      Shape implView (.lib "arrayIndexOf") args w0 w (indexOfFn f xs i w)
  | [], _, _, _ => .const rfl
  | x :: xs, i, w, hq => by
      unfold indexOfFn
      refine .each rfl ha (fun Q hG hh => ⟨(hq Q hG hh).1, (hq Q hG hh).2 x List.mem_cons_self⟩) fun v w1 => ?_
      split
      · exact .const rfl
      · exact indexOfFn_shape ha xs (i+1) w1 fun Q hG hh =>
          ⟨(hq Q hG hh).1, fun y hy => (hq Q hG hh).2 y (List.mem_cons_of_mem _ hy)⟩

theorem lib_shape (name : String) (args : List Value) (w : World) :
    Shape implView (.lib name) args w w (HostImpl.lib name args w) := by
  unfold HostImpl.lib
  simp only [HostImpl.ok, HostImpl.fail, World.alloc, World.setCell]
  repeat' split
  all_goals try exact .const rfl
  -- left: the 20 cases whose answer is not a constant in the world handed in, in the order of the definition
  · exact .log
  · exact .log
  · exact .heap nofun fun Q hQ hh => ⟨hh.append hQ.2, fun v hv => by cases hv; exact hQ.arr _⟩
  · next hv' => exact .same nofun fun Q hQ hh v hv => by cases hv; exact arr_all hh _ _ (List.mem_of_getElem? hv')
  · exact .heap nofun fun Q hQ hh =>
      ⟨hh.set (all_append (arr_all hh _) fun x hx => hQ.2 x (List.mem_cons_of_mem _ hx)),
        fun v hv => by cases hv; exact hQ.arr _⟩
  · exact .heap nofun fun Q hQ hh => ⟨hh.set (all_set (arr_all hh _) hQ.third), fun v hv => by cases hv; exact hQ.third⟩
  · exact .heap nofun fun Q hQ hh =>
      ⟨hh.set (all_set (arr_all hh _) hQ.null), fun v hv => by cases hv; exact hQ.null⟩
  · next hl => exact .heap nofun fun Q hQ hh =>
      ⟨hh.set fun x hx => arr_all hh _ x (List.dropLast_subset _ hx),
        fun v hv => by cases hv; exact arr_all hh _ _ (List.mem_of_getLast? hl)⟩
  · exact .heap nofun fun Q hQ hh => ⟨hh.append (arr_all hh _), fun v hv => by cases hv; exact hQ.arr _⟩
  · exact indexOfFn_shape rfl _ 0 w fun Q hG hh => ⟨hG.second, arr_all hh _⟩
  · next ho => exact .heap nofun fun Q hQ hh =>
      ⟨hh.append (vals_obj (objNew_all hQ.null _ _ _ hQ.2 (fun _ h => by cases h) ho)),
        fun v hv => by cases hv; exact hQ.obj _⟩
  · exact .same nofun fun Q hQ hh v hv => by cases hv; exact find_all (obj_all hh _) hQ.null _
  · exact .same nofun fun Q hQ hh v hv => by cases hv; exact find_all (obj_all hh _) hQ.third _
  · exact .same nofun fun Q hQ hh v hv => by cases hv; exact hQ.third
  · exact .heap nofun fun Q hQ hh =>
      ⟨hh.set (vals_obj (objSet_all (obj_all hh _) hQ.third)), fun v hv => by cases hv; exact hQ.third⟩
  · exact .globalGet (fun Q hQ => hQ.null) rfl rfl
  · exact .globalGet (fun Q hQ => hQ.second) rfl rfl
  · exact .globalSet (fun Q hQ => hQ.second) rfl rfl
  · exact .globalSet (fun Q hQ => hQ.null) rfl rfl
  · exact .newPartial rfl rfl rfl rfl fun _ hh => hh

theorem other_shape (k : Nat) (args : List Value) (w : World) :
    Shape implView (.other k) args w w (HostImpl.other k args w) := by
  unfold HostImpl.other
  split
  · next f pre heq => exact .apply rfl heq
  · exact .const rfl

theorem binop_nonfn (op : BinOp) (a b : Value) (w : World) : ∀ f, binop op a b w ≠ .fn f := by
  intro f
  unfold binop
  repeat' split
  all_goals nofun

theorem neg_nonfn (v : Value) : ∀ f, HostImpl.neg v ≠ .fn f := by
  intro f; unfold HostImpl.neg; split <;> nofun

theorem implShape : HostShape implView HostImpl.host where
  lib := lib_shape
  other := other_shape
  binop := binop_nonfn
  neg := neg_nonfn
  notCallable := fun _ _ => rfl
  logFailure := fun _ => rfl
  newArray := fun _ _ => ⟨⟨_, rfl⟩, rfl, rfl, fun _ hh hx => hh.append hx⟩
  builtin := fun _ => rfl

end C09
