import BareModel.HostImpl
import BareModel.HostLib
import BareProofs.C11Opt

/-!
# C11Bridge — reification, and the fuelled comparison of the machine host on reified operands

`reify` turns a heap value of the machine host (`HostImpl.World`, references into `World.heap`) into the closed by-value
`Compare.PValue` of the C11 model; the fuelled comparison `HostImpl.valueCompare` of the execution model computes
`Compare.valueCompare` of the reified operands whenever both reify (`valueCompare_bridge`).  Operands of different types
are settled on both sides by `C11.rank_decides`; the lexicographic loops of the hosts answer like any `C11.IsLex`
(`IsLexOpt.bridge`).

More fuel never changes a reification (`reifyF_mono`).
-/

namespace C11Bridge
open Machine HostImpl

/-- the item of an object cell, value reified by `f`: `itemOpt` on machine values -/
def reifyItem (f : Value → Option Compare.PValue) (kv : String × Value) : Option (String × Compare.PValue) :=
  (f kv.2).map fun p => (kv.1, p)

/-- Reification with recursion depth `fuel` through the heap: `none` when a reference dangles (or points to a cell of the
other kind) or when the fuel runs out (for fuel > heap size: exactly when a container reaches itself).  Functions are
numbered by the bijection `HostLib.encFn` (the comparison never looks at the number). -/
def reifyF (w : World) : Nat → Value → Option Compare.PValue
  | 0, _ => none
  | fuel+1, v =>
    match v with
    | .null => some .null
    | .bool b => some (.bool b)
    | .num q => some (.num q)
    | .str s => some (.str s)
    | .dt t => some (.dt t)
    | .fn f => some (.fn (HostLib.encFn f))
    | .regex r => some (.regex r)
    | .arr r =>
      match w.arr? r with
      | some xs => (mapOpt (reifyF w fuel) xs).map .arr
      | none => none
    | .obj r =>
      match w.obj? r with
      | some kvs => (mapOpt (reifyItem (reifyF w fuel)) kvs).map .obj
      | none => none

/-- the closed value a heap value denotes (`none`: self-containing container or dangling reference) -/
def reify (w : World) (v : Value) : Option Compare.PValue := reifyF w (w.heap.length + 1) v

theorem reifyItem_iff (f : Value → Option Compare.PValue) (kv : String × Value) (q : String × Compare.PValue) :
    reifyItem f kv = some q ↔ q.1 = kv.1 ∧ f kv.2 = some q.2 := itemOpt_iff f kv q

theorem reifyF_arr (w : World) (n : Nat) (r : Nat) (p : Compare.PValue) :
    reifyF w (n+1) (.arr r) = some p ↔ ∃ xs pxs, w.arr? r = some xs ∧ mapOpt (reifyF w n) xs = some pxs ∧ p = .arr pxs := by
  simp only [reifyF]
  cases w.arr? r with
  | none => simp
  | some xs => cases mapOpt (reifyF w n) xs <;> simp [eq_comm]

theorem reifyF_obj (w : World) (n : Nat) (r : Nat) (p : Compare.PValue) :
    reifyF w (n+1) (.obj r) = some p ↔
      ∃ kvs pkvs, w.obj? r = some kvs ∧ mapOpt (reifyItem (reifyF w n)) kvs = some pkvs ∧ p = .obj pkvs := by
  simp only [reifyF]
  cases w.obj? r with
  | none => simp
  | some kvs => cases mapOpt (reifyItem (reifyF w n)) kvs <;> simp [eq_comm]

/-- `C11.rank` of what a machine value reifies to -/
def rankV : Value → Nat
  | .null => 0 | .arr _ => 1 | .bool _ => 2 | .dt _ => 3 | .fn _ => 4 | .num _ => 5 | .obj _ => 6 | .regex _ => 7 | .str _ => 8

theorem typeName_rankV (a : Value) : HostImpl.typeName a = C11.rankName (rankV a) ∧ rankV a ≤ 8 := by
  cases a <;> exact ⟨rfl, Nat.le_of_ble_eq_true rfl⟩

theorem rankV_eq_zero {a : Value} : rankV a = 0 ↔ a = .null := by cases a <;> simp [rankV]

theorem reifyF_rank (w : World) (n : Nat) (a : Value) (p : Compare.PValue) (h : reifyF w n a = some p) :
    C11.rank p = rankV a := by
  cases n with
  | zero => simp [reifyF] at h
  | succ n =>
    cases a with
    | arr r => obtain ⟨_, _, _, _, rfl⟩ := (reifyF_arr w n r p).mp h; rfl
    | obj r => obtain ⟨_, _, _, _, rfl⟩ := (reifyF_obj w n r p).mp h; rfl
    | _ => simp only [reifyF, Option.some.injEq] at h; subst h; rfl

theorem char_lt_iff (a b : Char) : a < b ↔ a.toNat < b.toNat := by
  rw [Char.lt_def, UInt32.lt_iff_toNat_lt]; rfl

theorem chars_lt_iff : ∀ a b : List Char, a < b ↔ Compare.codeCmp (a.map Char.toNat) (b.map Char.toNat) = -1
  | [], [] => by simp [Compare.codeCmp]
  | [], _ :: _ => by simp [Compare.codeCmp]
  | _ :: _, [] => by simp [Compare.codeCmp]
  | x :: xs, y :: ys => by
    have ih := chars_lt_iff xs ys
    have r := (C11.codeCmp_laws (xs.map Char.toNat)).range (ys.map Char.toNat)
    rw [List.cons_lt_cons_iff, char_lt_iff, ← Char.toNat_inj, ih]
    simp only [List.map_cons, Compare.codeCmp]
    split
    · simp [*]
    · split
      · simp [*]
      · constructor
        · rintro (h | ⟨h, _⟩) <;> contradiction
        · intro h; omega

theorem str_lt_iff (x y : String) : x < y ↔ Compare.strCompare x y = -1 := by
  rw [String.lt_iff]; exact chars_lt_iff _ _

theorem str_lt_iff' (x y : String) : x < y ↔ Compare.strCompare x y < 0 := by
  have := (C11.strCompare_laws x).range y
  rw [str_lt_iff]; omega

/-- Lean's `String` order is CPython's `str` order (code points) -/
theorem cmpOrd_str (x y : String) : cmpOrd x y = Compare.strCompare x y := by
  unfold cmpOrd
  by_cases h1 : x < y
  · simp only [h1, if_true]; exact ((str_lt_iff x y).mp h1).symm
  · by_cases h2 : x = y
    · subst h2; simp only [h1, if_false, if_true]; exact (C11.strCompare_laws x).refl.symm
    · simp only [h1, h2, if_false]
      have r := (C11.strCompare_laws x).range y
      have n1 : Compare.strCompare x y ≠ -1 := fun h => h1 ((str_lt_iff x y).mpr h)
      have n0 : Compare.strCompare x y ≠ 0 := fun h => h2 ((C11.str_cmp_zero_iff x y).mp h)
      omega

theorem cmpOrd_bool (x y : Bool) : cmpOrd (boolNat x) (boolNat y) = Compare.tri (!x && y) (x == y) := by
  cases x <;> cases y <;> decide

theorem cmpOrd_int (x y : Int) : cmpOrd x y = Compare.tri (x < y) (x = y) := by
  simp [cmpOrd, Compare.tri]

theorem cmp_rat (x y : Rat) : (if x < y then (-1 : Int) else if x = y then 0 else 1) = Compare.tri (x < y) (x = y) := by
  simp [Compare.tri]

theorem insertSorted_eq (kv : String × Value) :
    ∀ kvs, insertSorted kv kvs = Compare.insertBy (fun p q => decide (p.1 < q.1)) kv kvs
  | [] => rfl
  | x :: xs => by
    rw [insertSorted, Compare.insertBy, insertSorted_eq kv xs]
    by_cases h : kv.1 < x.1 <;> simp [h]

/-- sorting the items of an object cell by key and reifying the values = reifying and sorting with `Compare.sortItems` -/
theorem sortKeys_reify (f : Value → Option Compare.PValue) (kvs : List (String × Value)) (qs : List (String × Compare.PValue))
    (h : mapOpt (reifyItem f) kvs = some qs) : mapOpt (reifyItem f) (sortKeys kvs) = some (Compare.sortItems qs) := by
  have step : ∀ (kvs acc : List (String × Value)) (qs qacc : List (String × Compare.PValue)),
      mapOpt (reifyItem f) kvs = some qs → mapOpt (reifyItem f) acc = some qacc →
      mapOpt (reifyItem f) (kvs.foldl (fun acc kv => insertSorted kv acc) acc) =
        some (qs.foldl (fun acc x => Compare.insertBy (C11.ltOf C11.keyCmp) x acc) qacc) := by
    intro kvs
    induction kvs with
    | nil => intro acc qs qacc h ha; rw [(mapOpt_nil_iff _ qs).mp h]; exact ha
    | cons x xs ih =>
      intro acc qs qacc h ha
      obtain ⟨y, ys, h1, h2, rfl⟩ := (mapOpt_cons_iff _ x xs qs).mp h
      refine ih _ ys _ h2 ?_
      show mapOpt _ (insertSorted x acc) = some (Compare.insertBy (C11.ltOf C11.keyCmp) y qacc)
      rw [insertSorted_eq]
      refine insertBy_mapOpt _ _ _ (fun a b pa pb ha hb => ?_) x y h1 acc qacc ha
      show decide (a.1 < b.1) = decide (Compare.strCompare pa.1 pb.1 < 0)
      rw [((reifyItem_iff f a pa).mp ha).1, ((reifyItem_iff f b pb).mp hb).1]
      exact decide_eq_decide.mpr (str_lt_iff' _ _)
  exact step kvs [] qs [] h rfl

theorem compareLists_isLexOpt (w : World) (fuel : Nat) : IsLexOpt (HostImpl.valueCompare w fuel) (compareLists w fuel) :=
  ⟨by rw [compareLists], fun _ _ => by rw [compareLists], fun _ _ => by rw [compareLists], fun x xs y ys => by
    rw [compareLists]; cases HostImpl.valueCompare w fuel x y <;> rfl⟩

theorem compareItems_isLexOpt (w : World) (fuel : Nat) :
    IsLexOpt (fun x y => if cmpOrd x.1 y.1 != 0 then some (cmpOrd x.1 y.1) else HostImpl.valueCompare w fuel x.2 y.2)
      (compareItems w fuel) :=
  ⟨by rw [compareItems], fun _ _ => by rw [compareItems], fun _ _ => by rw [compareItems], fun x xs y ys => by
    rw [compareItems]
    by_cases hk : (cmpOrd x.1 y.1 != 0) = true
    · simp only [hk, if_true, Option.bind_some]
    · simp only [hk, if_false, Bool.false_eq_true]
      cases HostImpl.valueCompare w fuel x.2 y.2 <;> rfl⟩

/-- the last branch of the host's ladder -/
theorem valueCompare_cross (w : World) (f : Nat) {a b : Value} (ha : a ≠ .null) (hb : b ≠ .null)
    (hn : HostImpl.typeName a ≠ HostImpl.typeName b) :
    HostImpl.valueCompare w (f + 1) a b = some (Compare.strCompare (HostImpl.typeName a) (HostImpl.typeName b)) := by
  rw [← cmpOrd_str]
  exact valueCompare.eq_11 w a b f ha hb (fun e _ => ha e) (fun _ _ e e' => hn (e ▸ e' ▸ rfl))
    (fun _ _ e e' => hn (e ▸ e' ▸ rfl)) (fun _ _ e e' => hn (e ▸ e' ▸ rfl)) (fun _ _ e e' => hn (e ▸ e' ▸ rfl))
    (fun _ _ e e' => hn (e ▸ e' ▸ rfl)) (fun _ _ e e' => hn (e ▸ e' ▸ rfl))

theorem valueCompare_rank (w : World) (f : Nat) {a b : Value} (h : rankV a < rankV b) :
    HostImpl.valueCompare w (f + 1) a b = some (-1) ∧ HostImpl.valueCompare w (f + 1) b a = some 1 :=
  C11.rank_decides (fun x hx => valueCompare.eq_3 w x f hx) (fun x hx => valueCompare.eq_4 w x f hx)
    (fun _ _ => valueCompare_cross w f) typeName_rankV (fun _ => rankV_eq_zero) h

/-- The comparison of the execution model, run with any fuel ≥ the fuel that reifies its *left* operand, returns the
comparison of the closed model on the reified operands. -/
theorem valueCompare_bridge (w : World) : ∀ (n : Nat) (a : Value) (pa : Compare.PValue), reifyF w n a = some pa →
    ∀ (m : Nat) (b : Value) (pb : Compare.PValue), reifyF w m b = some pb → ∀ fuel, n ≤ fuel →
    HostImpl.valueCompare w fuel a b = some (Compare.valueCompare pa pb) := by
  intro n a pa ha m b pb hb fuel
  induction fuel generalizing n m a b pa pb with
  | zero => intro hf; cases hf; cases ha
  | succ f ih =>
    intro hf
    cases n with | zero => cases ha | succ n => ?_
    cases m with | zero => cases hb | succ m => ?_
    have IH : ∀ x px y py, reifyF w n x = some px → reifyF w m y = some py →
        HostImpl.valueCompare w f x y = some (Compare.valueCompare px py) :=
      fun x px y py hx hy => ih n x px hx m y py hy (Nat.le_of_succ_le_succ hf)
    have ra := reifyF_rank w _ a pa ha
    have rb := reifyF_rank w _ b pb hb
    rcases Nat.lt_trichotomy (rankV a) (rankV b) with h | h | h
    · rw [(valueCompare_rank w f h).1, C11.cmp_rank_lt pa pb (ra ▸ rb ▸ h)]
    · -- the same rank: `b` has the constructor of `a`, and both ladders take the same branch
      cases a with
      | arr r =>
        cases b <;> cases h
        obtain ⟨xs, pxs, hxs, hmx, rfl⟩ := (reifyF_arr w n r pa).mp ha
        obtain ⟨ys, pys, hys, hmy, rfl⟩ := (reifyF_arr w m _ pb).mp hb
        rw [valueCompare.eq_9, hxs, hys, Compare.valueCompare]
        exact (compareLists_isLexOpt w f).bridge C11.cmpList_isLex _ _ IH xs pxs ys pys hmx hmy
      | obj r =>
        cases b <;> cases h
        obtain ⟨xs, pxs, hxs, hmx, rfl⟩ := (reifyF_obj w n r pa).mp ha
        obtain ⟨ys, pys, hys, hmy, rfl⟩ := (reifyF_obj w m _ pb).mp hb
        rw [valueCompare.eq_10, hxs, hys, Compare.valueCompare]
        exact (compareItems_isLexOpt w f).bridge C11.cmpItems_isLex _ _ (item_bridge cmpOrd_str _ _ IH) _ _ _ _
          (sortKeys_reify _ xs pxs hmx) (sortKeys_reify _ ys pys hmy)
      | _ =>
        cases b <;> cases h
        all_goals
          cases ha; cases hb
          simp only [HostImpl.valueCompare, Compare.valueCompare, cmpOrd_str, cmpOrd_bool, cmpOrd_int, cmp_rat,
            HostImpl.typeName, Compare.typeName]
    · rw [(valueCompare_rank w f h).2, C11.cmp_rank_gt pa pb (ra ▸ rb ▸ h)]

theorem reifyF_succ (w : World) : ∀ (n : Nat) (a : Value) (p : Compare.PValue), reifyF w n a = some p → reifyF w (n+1) a = some p
  | 0, _, _, h => by simp [reifyF] at h
  | n+1, a, p, h => by
    cases a with
    | arr r =>
      obtain ⟨xs, pxs, hxs, hm, rfl⟩ := (reifyF_arr w n r p).mp h
      exact (reifyF_arr w (n+1) r _).mpr ⟨xs, pxs, hxs, mapOpt_congr _ _ xs pxs (fun x _ y _ hy => reifyF_succ w n x y hy) hm, rfl⟩
    | obj r =>
      obtain ⟨xs, pxs, hxs, hm, rfl⟩ := (reifyF_obj w n r p).mp h
      refine (reifyF_obj w (n+1) r _).mpr ⟨xs, pxs, hxs, mapOpt_congr _ _ xs pxs (fun x _ y _ hy => ?_) hm, rfl⟩
      obtain ⟨e, hv⟩ := (reifyItem_iff _ _ _).mp hy
      exact (reifyItem_iff _ _ _).mpr ⟨e, reifyF_succ w n x.2 y.2 hv⟩
    | _ => simpa [reifyF] using h

theorem reifyF_mono (w : World) {n m : Nat} (hnm : n ≤ m) (a : Value) (p : Compare.PValue) (h : reifyF w n a = some p) :
    reifyF w m a = some p := by
  induction hnm with
  | refl => exact h
  | step _ ih => exact reifyF_succ w _ a p ih

theorem reifyF_det (w : World) {n m : Nat} (a : Value) (p q : Compare.PValue) (hp : reifyF w n a = some p)
    (hq : reifyF w m a = some q) : p = q := by
  have h1 := reifyF_mono w (Nat.le_max_left n m) a p hp
  have h2 := reifyF_mono w (Nat.le_max_right n m) a q hq
  rw [h1] at h2; exact Option.some.inj h2

/-- the value that names cell `r` -/
def cellVal (w : World) (r : Nat) : Value :=
  match w.heap[r]? with
  | some (.arr _) => .arr r
  | some (.obj _) => .obj r
  | none => .null

theorem cellVal_arr (w : World) (r : Nat) (xs : List Value) (h : w.arr? r = some xs) : cellVal w r = .arr r ∧ r < w.heap.length := by
  unfold World.arr? at h; unfold cellVal
  cases hc : w.heap[r]? with
  | none => simp [hc] at h
  | some c =>
    have := (List.getElem?_eq_some_iff.mp hc).1
    cases c <;> simp_all

theorem cellVal_obj (w : World) (r : Nat) (xs : List (String × Value)) (h : w.obj? r = some xs) :
    cellVal w r = .obj r ∧ r < w.heap.length := by
  unfold World.obj? at h; unfold cellVal
  cases hc : w.heap[r]? with
  | none => simp [hc] at h
  | some c =>
    have := (List.getElem?_eq_some_iff.mp hc).1
    cases c <;> simp_all

end C11Bridge
