import BareProofs.C09Seq

/-!
# What a call of a concrete host can do

Every property of the machine that is parametric in the host states its own law on library interaction trees (`C09.HostExt`,
`C09.HostWF`, `C04.TreeWrites`, `C01.TreeOK`, `C01Syn.HostClean`, `HostLib.NoCall`).  Each law is proved, next to its
definition, for any host with a `HostShape`, by induction on `Shape`; `C09.implShape` and `HostLib.libShape` are the two hosts.
-/

open Machine

namespace C09

def Given (Q : Value → Prop) (args : List Value) : Prop := (∀ v, (∀ f, v ≠ .fn f) → Q v) ∧ ∀ a ∈ args, Q a

theorem Given.null {Q : Value → Prop} {args : List Value} (h : Given Q args) : Q .null := h.1 _ nofun
theorem Given.arr {Q : Value → Prop} {args : List Value} (h : Given Q args) (r : Nat) : Q (.arr r) := h.1 _ nofun
theorem Given.obj {Q : Value → Prop} {args : List Value} (h : Given Q args) (r : Nat) : Q (.obj r) := h.1 _ nofun

theorem Given.second {Q : Value → Prop} {a b : Value} {l : List Value} (h : Given Q (a :: b :: l)) : Q b :=
  h.2 _ (List.mem_cons_of_mem _ List.mem_cons_self)
theorem Given.third {Q : Value → Prop} {a b c : Value} {l : List Value} (h : Given Q (a :: b :: c :: l)) : Q c :=
  h.2 _ (List.mem_cons_of_mem _ (List.mem_cons_of_mem _ List.mem_cons_self))

end C09

/-- neither a function value nor a runtime error -/
def Machine.LibOut.noFn : LibOut → Bool
  | .ok (.fn _) | .fail (.fn _) | .rt _ => false
  | _ => true

namespace HostShape
open C09 (Given)

/-- What a host law may look at in a world: the values stored in its heap (`heapAll Q w`: each of them satisfies `Q`), its log,
its table of partial applications. -/
structure View (W : Type) where
  heapAll : (Value → Prop) → W → Prop
  mono : ∀ {Q Q' : Value → Prop} {w : W}, (∀ v, Q v → Q' v) → heapAll Q w → heapAll Q' w
  log : W → List String
  partials : W → List (Value × List Value)

variable {W : Type}

/-- The tree `t`, reached in world `w` during the call `fn(args)` that started in world `w0`, is one of the six things a call of
`HostImpl.lib` (library.py) or `HostImpl.other` does.
* `ret`: it returns at once, never with a runtime error: every call that has none of the forms below.  The table of partials
  is the same and the log is only appended to.  About values `hq` speaks for EVERY predicate `Q` that holds of the arguments and of whatever
  is not a function (`Given`): if `Q` holds throughout the heap at the start of the call and now, it holds throughout the heap
  afterwards and of the answer.  So a call makes up no function value, and each law puts its own invariant on values for `Q`
  (`C09.vok m n`, `C01Syn.clean F`).
* `newPartial`: `systemPartial(f, a, …)` appends `(f, a :: as)` to the table and answers the new entry as a callable.
* `each`: `arrayIndexOf(array, f)` with a match function calls `f` back on one element `x`; whatever `f` answers and does to the
  world, the rest is a shape again.  `f` and `x` come from the arguments and from the heap at the START of the call
  (`HostImpl.indexOfFn` walks the list it read then): this is what `w0` is for.
* `apply`: entry `k = (f, pre)` of the table, called with `args`, calls `f(pre ++ args)` and hands its answer on (the lambda that
  `_system_partial` returns).
* `globalGet`, `globalSet`: `systemGlobalGet(s, d)`, `systemGlobalSet(s, v)` issue their one request for the global `s` and
  answer the value read, else `d`, resp. `v`. -/
inductive Shape (V : View W) (fn : FnVal) (args : List Value) (w0 : W) : W → LibTree W → Prop
  | ret {w w' : W} {out : LibOut} (hp : V.partials w' = V.partials w) (hlog : V.log w <+: V.log w')
      (hq : ∀ Q, Given Q args → V.heapAll Q w0 → V.heapAll Q w → V.heapAll Q w' ∧ ∀ v, out.val? = some v → Q v)
      (hrt : ∀ msg, out ≠ .rt msg) : Shape V fn args w0 w (.ret out w')
  | newPartial {w w' : W} {f : FnVal} {a : Value} {as : List Value} (hn : fn = .lib "systemPartial")
      (ha : args = .fn f :: a :: as) (hp : V.partials w' = V.partials w ++ [(.fn f, a :: as)]) (hlog : V.log w' = V.log w)
      (hh : ∀ Q, V.heapAll Q w → V.heapAll Q w') :
      Shape V fn args w0 w (.ret (.ok (.fn (.other (V.partials w).length))) w')
  | each {w : W} {f x : Value} {k : Value → W → LibTree W} (hn : fn = .lib "arrayIndexOf") (ha : args.length = 2)
      (hq : ∀ Q, Given Q args → V.heapAll Q w0 → Q f ∧ Q x)
      (hk : ∀ v w1, Shape V fn args w0 w1 (k v w1)) : Shape V fn args w0 w (.call f [x] w k)
  | apply {w : W} {k : Nat} {f : Value} {pre : List Value} (hn : fn = .other k) (hk : (V.partials w)[k]? = some (f, pre)) :
      Shape V fn args w0 w (.call f (pre ++ args) w fun r w1 => .ret (.ok r) w1)
  | globalGet {w : W} {s : String} {rest : List Value} {d : Value} (hd : ∀ Q, Given Q args → Q d)
      (hn : fn = .lib "systemGlobalGet") (ha : args = .str s :: rest) :
      Shape V fn args w0 w (.globalGet (Name.ofString s) w fun v w1 => .ret (.ok (v.getD d)) w1)
  | globalSet {w : W} {s : String} {rest : List Value} {v : Value} (hv : ∀ Q, Given Q args → Q v)
      (hn : fn = .lib "systemGlobalSet") (ha : args = .str s :: rest) :
      Shape V fn args w0 w (.globalSet (Name.ofString s) v w fun w1 => .ret (.ok v) w1)

/-- a constant answer in the world handed in -/
theorem Shape.const {V : View W} {fn : FnVal} {args : List Value} {w0 w : W} {out : LibOut} (h : out.noFn = true) :
    Shape V fn args w0 w (.ret out w) :=
  .ret rfl (List.prefix_refl _) (fun Q hQ _ hh => ⟨hh, fun v hv => hQ.1 v fun f hf => by
    cases out <;> cases hv <;> rw [hf] at h <;> cases h⟩) (fun msg hm => by rw [hm] at h; cases h)

/-- Every tree of `host` is a shape, from the world the call starts in; what the machine asks of the host besides (operators,
the array of a `...` parameter, the two failure hooks, built-ins) makes up no function value and leaves log and table alone. -/
structure _root_.HostShape (V : View W) (host : Host W) : Prop where
  lib : ∀ name args w, Shape V (.lib name) args w w (host.lib name args w)
  other : ∀ k args w, Shape V (.other k) args w w (host.other k args w)
  binop : ∀ op a b w f, host.binop op a b w ≠ .fn f
  neg : ∀ v f, host.neg v ≠ .fn f
  notCallable : ∀ v w, host.notCallable v w = w
  logFailure : ∀ w, host.logFailure w = w
  newArray : ∀ xs w, (∃ r, (host.newArray xs w).1 = .arr r) ∧ V.partials (host.newArray xs w).2 = V.partials w ∧
    V.log (host.newArray xs w).2 = V.log w ∧
    ∀ Q, V.heapAll Q w → (∀ x ∈ xs, Q x) → V.heapAll Q (host.newArray xs w).2
  builtin : ∀ n, host.builtin n = none

end HostShape
