import BareProofs.C09Lib
import BareProofs.C15Lemmas

/-!
# `Lib.lib` never fabricates a function value

`LibParam.lib_q`: every value a call of the library model returns or stores satisfies any predicate that holds of its
arguments, of the heap and of all non-function values.  Proved along the definition: argument validation, the bodies of
both tables, `Eff.run`.
-/

open Machine
namespace C09

namespace LibParam
open Lib

variable (Q : Lib.Value → Prop)

def lcellVals : Lib.Cell → List Lib.Value
  | .arr xs => xs
  | .obj kvs => kvs.map (·.2)

def AllQ (xs : List Lib.Value) : Prop := ∀ x ∈ xs, Q x
def KvQ (kvs : List (String × Lib.Value)) : Prop := ∀ kv ∈ kvs, Q kv.2
def CellQ : Lib.Cell → Prop
  | .arr xs => AllQ Q xs
  | .obj kvs => KvQ Q kvs
def HeapQ (h : Lib.Heap) : Prop := ∀ c ∈ h, CellQ Q c
def VArgQ : VArg → Prop
  | .one v => Q v
  | .many vs => AllQ Q vs
def VArgsQ (va : List VArg) : Prop := ∀ a ∈ va, VArgQ Q a
def EffQ : Eff → Prop
  | .ret v => Q v
  | .fail v => Q v
  | .unmodelled => True
  | .store _ c v => CellQ Q c ∧ Q v
  | .alloc c => CellQ Q c
def BodyQ (b : List VArg → Heap → Eff) : Prop := ∀ va h, VArgsQ Q va → HeapQ Q h → EffQ Q (b va h)

variable {Q} (hQ : ∀ v, isFn v = false → Q v)

theorem getArr_q {h : Heap} (hh : HeapQ Q h) {r : Nat} {xs : List Lib.Value} (he : getArr h r = some xs) : AllQ Q xs := by
  unfold getArr at he
  split at he
  · next ys heq => cases he; exact hh _ (List.mem_of_getElem? heq)
  · cases he

theorem getObj_q {h : Heap} (hh : HeapQ Q h) {r : Nat} {kvs : List (String × Lib.Value)} (he : getObj h r = some kvs) :
    KvQ Q kvs := by
  unfold getObj at he
  split at he
  · next ys heq => cases he; exact hh _ (List.mem_of_getElem? heq)
  · cases he

theorem vq1 {a : VArg} {l : List VArg} (h : VArgsQ Q (a :: l)) : VArgQ Q a := h a List.mem_cons_self
theorem vq2 {a b : VArg} {l : List VArg} (h : VArgsQ Q (a :: b :: l)) : VArgQ Q b :=
  h b (List.mem_cons_of_mem _ List.mem_cons_self)
theorem vq3 {a b c : VArg} {l : List VArg} (h : VArgsQ Q (a :: b :: c :: l)) : VArgQ Q c :=
  h c (List.mem_cons_of_mem _ (List.mem_cons_of_mem _ List.mem_cons_self))

theorem pyGetItem_mem {xs : List Lib.Value} {i : Int} {v : Lib.Value} (h : pyGetItem xs i = some v) : v ∈ xs := by
  unfold pyGetItem at h
  split at h
  · split at h
    · exact List.mem_of_getElem? h
    · cases h
  · exact List.mem_of_getElem? h

theorem pySetItem_q {xs xs' : List Lib.Value} {i : Int} {v : Lib.Value} (h : pySetItem xs i v = some xs')
    (h1 : AllQ Q xs) (h2 : Q v) : AllQ Q xs' := by
  unfold pySetItem at h
  cases hk : pyIdx xs.length i with
  | none => rw [hk] at h; cases h
  | some k =>
    rw [hk] at h
    simp only [Option.map_some, Option.some.injEq] at h
    rw [← h]
    exact all_set h1 h2

theorem pyDelItem_q {xs xs' : List Lib.Value} {i : Int} (h : pyDelItem xs i = some xs') (h1 : AllQ Q xs) :
    AllQ Q xs' := by
  unfold pyDelItem at h
  cases hk : pyIdx xs.length i with
  | none => rw [hk] at h; cases h
  | some k =>
    rw [hk] at h
    simp only [Option.map_some, Option.some.injEq] at h
    rw [← h]
    intro x hx
    exact h1 x (List.mem_of_mem_eraseIdx hx)

theorem pySlice_q {xs : List Lib.Value} (s e : Int) (h1 : AllQ Q xs) : AllQ Q (pySlice xs s e) := by
  intro x hx
  unfold pySlice at hx
  exact h1 x (List.mem_of_mem_drop (List.mem_of_mem_take hx))

theorem replicate_q {n : Nat} {v : Lib.Value} (h : Q v) : AllQ Q (List.replicate n v) := by
  intro x hx
  rw [List.eq_of_mem_replicate hx]; exact h

theorem dictSet_q {kvs : List (String × Lib.Value)} {k : String} {v : Lib.Value} (h1 : KvQ Q kvs) (h2 : Q v) :
    KvQ Q (dictSet kvs k v) := by
  induction kvs with
  | nil => intro kv hkv; simp only [dictSet, List.mem_singleton] at hkv; rw [hkv]; exact h2
  | cons x rest ih =>
    obtain ⟨k', x⟩ := x
    intro kv hkv
    simp only [dictSet] at hkv
    split at hkv
    · rcases List.mem_cons.1 hkv with h | h
      · rw [h]; exact h2
      · exact h1 kv (List.mem_cons_of_mem _ h)
    · rcases List.mem_cons.1 hkv with h | h
      · rw [h]; exact h1 _ List.mem_cons_self
      · exact ih (fun kv hkv => h1 kv (List.mem_cons_of_mem _ hkv)) kv h

theorem dictDel_q {kvs : List (String × Lib.Value)} (k : String) (h1 : KvQ Q kvs) : KvQ Q (dictDel kvs k) :=
  fun kv hkv => h1 kv (List.mem_filter.1 hkv).1

theorem dictUpdate_q {kvs kvs2 : List (String × Lib.Value)} (h1 : KvQ Q kvs) (h2 : KvQ Q kvs2) :
    KvQ Q (dictUpdate kvs kvs2) := by
  unfold dictUpdate
  induction kvs2 generalizing kvs with
  | nil => exact h1
  | cons p rest ih =>
    simp only [List.foldl_cons]
    exact ih (dictSet_q h1 (h2 p List.mem_cons_self)) (fun kv hkv => h2 kv (List.mem_cons_of_mem _ hkv))

theorem dictGet_q {kvs : List (String × Lib.Value)} (k : String) (d : Lib.Value) (h1 : KvQ Q kvs) (h2 : Q d) :
    Q ((dictGet kvs k).getD d) := by
  unfold dictGet
  induction kvs with
  | nil => exact h2
  | cons p rest ih =>
    obtain ⟨k', x⟩ := p
    simp only [List.lookup]
    split
    · exact h1 _ List.mem_cons_self
    · exact ih (fun kv hkv => h1 kv (List.mem_cons_of_mem _ hkv))

include hQ in
theorem objectNewLoop_q (args : List Lib.Value) (acc o : List (String × Lib.Value)) (ha : AllQ Q args) (hacc : KvQ Q acc)
    (h : objectNewLoop args acc = some o) : KvQ Q o := by
  induction args, acc using objectNewLoop.induct with
  | case1 acc => simp only [objectNewLoop, Option.some.injEq] at h; rw [← h]; exact hacc
  | case2 k acc => simp only [objectNewLoop, Option.some.injEq] at h; rw [← h]; exact dictSet_q hacc (hQ _ rfl)
  | case3 k v rest acc ih =>
    simp only [objectNewLoop] at h
    exact ih (fun x hx => ha x (List.mem_cons_of_mem _ (List.mem_cons_of_mem _ hx)))
      (dictSet_q hacc (ha v (List.mem_cons_of_mem _ List.mem_cons_self))) h
  | case4 args acc h1 h2 h3 => rw [objectNewLoop] at h; cases h; all_goals assumption

include hQ in
theorem fromCodes_q : ∀ (vs : List Lib.Value) (acc : List Char), EffQ Q (fromCodes vs acc)
  | [], acc => hQ _ rfl
  | v :: vs, acc => by
      unfold fromCodes
      split
      · split
        · exact trivial
        · exact hQ _ rfl
      · exact hQ _ rfl
      · exact fromCodes_q vs _

include hQ in
theorem searchRes_q (o : Option (Option Int)) : EffQ Q (searchRes o) := by
  unfold searchRes
  split
  · exact trivial
  · exact hQ _ rfl
  · exact hQ _ rfl

theorem digits_nonfn {v : Lib.Value} (o : Option Nat) (f : Nat → Lib.Value) (hf : ∀ n, isFn (f n) = false)
    (h : o.map f = some v) : isFn v = false := by
  cases o with
  | none => cases h
  | some k => simp only [Option.map_some, Option.some.injEq] at h; rw [← h]; exact hf k

theorem parseDefault_nonfn {s : String} {v : Lib.Value} (h : parseDefault s = some v) : isFn v = false := by
  unfold parseDefault at h
  split at h
  · cases h; rfl
  · cases h; rfl
  · exact digits_nonfn _ _ (fun _ => rfl) h
  · split at h
    · split at h
      · cases h
      · cases h; rfl
    · cases h
  · exact digits_nonfn _ _ (fun _ => rfl) h
  · cases h

include hQ in
theorem checkArg_q {h : Heap} {m : Gen.ArgModel} {a v : Lib.Value} (ha : Q a) (hc : checkArg h m a = some v) : Q v := by
  unfold checkArg at hc
  split at hc
  · cases hc; exact ha
  · split at hc
    · cases hc; exact hQ _ rfl
    · split at hc
      · split at hc
        · cases hc; exact hQ _ rfl
        · cases hc
      · split at hc
        · cases hc
        · split at hc
          · cases hc
          · cases hc; exact hQ _ rfl
      · split at hc
        · cases hc
        · cases hc; exact ha

include hQ in
theorem missingArg_q {m : Gen.ArgModel} {a : VArg} (hm : missingArg m = some a) : VArgQ Q a := by
  unfold missingArg at hm
  split at hm
  · cases hm; intro x hx; cases hx
  · split at hm
    · next d hd =>
      cases hm
      cases hdef : m.default with
      | none => rw [hdef] at hd; cases hd
      | some s => rw [hdef] at hd; exact hQ _ (parseDefault_nonfn hd)
    · split at hm
      · cases hm; exact hQ _ rfl
      · split at hm
        · cases hm; exact hQ _ rfl
        · cases hm

theorem vargsQ_cons {a : VArg} {o : Option (List VArg)} {va : List VArg} (h : o.map (a :: ·) = some va)
    (ha : VArgQ Q a) (ho : ∀ va', o = some va' → VArgsQ Q va') : VArgsQ Q va := by
  cases o with
  | none => cases h
  | some va' =>
    simp only [Option.map_some, Option.some.injEq] at h
    rw [← h]
    intro x hx
    rcases List.mem_cons.1 hx with rfl | hx
    · exact ha
    · exact ho va' rfl x hx

include hQ in
theorem validate_q (h : Heap) : ∀ (ms : List Gen.ArgModel) (args : List Lib.Value) (va : List VArg), AllQ Q args →
    validate h ms args = some va → VArgsQ Q va
  | [], [], va, _, hv => by simp only [validate, Option.some.injEq] at hv; rw [← hv]; intro a ha; cases ha
  | [], _ :: _, va, _, hv => by simp [validate] at hv
  | m :: ms, [], va, ha, hv => by
      simp only [validate] at hv
      split at hv
      · cases hv
      · next a hma => exact vargsQ_cons hv (missingArg_q hQ hma) fun va' hr => validate_q h ms [] va' ha hr
  | m :: ms, a :: as, va, ha, hv => by
      simp only [validate] at hv
      split at hv
      · exact vargsQ_cons hv ha fun va' hr => validate_q h ms [] va' (fun _ h => by cases h) hr
      · split at hv
        · cases hv
        · next v hc =>
          exact vargsQ_cons hv (checkArg_q hQ (ha a List.mem_cons_self) hc) fun va' hr =>
            validate_q h ms as va' (fun y hy => ha y (List.mem_cons_of_mem _ hy)) hr

include hQ in
theorem bodies_q : ∀ nb ∈ bodies, BodyQ Q nb.2 := by
  intro nb hnb
  simp only [bodies, List.mem_cons, List.not_mem_nil, or_false] at hnb
  intro va h hva hh
  rcases hnb with h | h | h | h | h | h | h | h | h | h | h | h | h | h | h | h | h | h | h | h | h | h | h | h | h | h
    | h | h | h | h | h | h | h | h | h | h | h <;> subst h <;>
    dsimp only [arrayCopyB, arrayDeleteB, arrayExtendB, arrayGetB, arrayIndexOfB, arrayJoinB, arrayLastIndexOfB,
      arrayLengthB, arrayNewSizeB, arrayPopB, arrayPushB, arraySetB, arrayShiftB, arraySliceB, objectAssignB,
      objectCopyB, objectDeleteB, objectGetB, objectHasB, objectKeysB, objectSetB, stringCharCodeAtB, stringEndsWithB,
      stringIndexOfB, stringLastIndexOfB, stringLengthB, stringLowerB, stringRepeatB, stringReplaceB, stringSliceB,
      stringSplitB, stringStartsWithB, stringTrimB, stringUpperB, regexEscapeB, urlEncodeB]
  all_goals repeat' split
  all_goals first
    | exact trivial
    | exact hQ _ rfl
    | exact searchRes_q hQ _
    | exact getArr_q hh ‹_›
    | exact getObj_q hh ‹_›
    | exact ⟨pyDelItem_q ‹_› (getArr_q hh ‹_›), hQ _ rfl⟩
    | exact ⟨all_append (getArr_q hh ‹_›) (getArr_q hh ‹_›), hQ _ rfl⟩
    | exact getArr_q hh ‹_› _ (pyGetItem_mem ‹_›)
    | exact replicate_q (vq2 hva)
    | exact ⟨fun x hx => getArr_q hh ‹_› x (List.dropLast_subset _ hx), getArr_q hh ‹_› _ (List.mem_of_getLast? ‹_›)⟩
    | exact ⟨all_append (getArr_q hh ‹_›) (vq2 hva), hQ _ rfl⟩
    | exact ⟨pySetItem_q ‹_› (getArr_q hh ‹_›) (vq3 hva), vq3 hva⟩
    | exact ⟨fun y hy => getArr_q hh ‹_› y (List.mem_cons_of_mem _ hy), getArr_q hh ‹_› _ List.mem_cons_self⟩
    | exact pySlice_q _ _ (getArr_q hh ‹_›)
    | exact ⟨dictUpdate_q (getObj_q hh ‹_›) (getObj_q hh ‹_›), hQ _ rfl⟩
    | exact ⟨dictDel_q _ (getObj_q hh ‹_›), hQ _ rfl⟩
    | exact dictGet_q _ _ (getObj_q hh ‹_›) (vq3 hva)
    | exact ⟨dictSet_q (getObj_q hh ‹_›) (vq3 hva), vq3 hva⟩
    | (intro x hx; obtain ⟨p, _, rfl⟩ := List.mem_map.1 hx; exact hQ _ rfl)

include hQ in
theorem rawBodies_q : ∀ nb ∈ rawBodies, ∀ args h, AllQ Q args → EffQ Q (nb.2 args h) := by
  intro nb hnb args h ha
  simp only [rawBodies, List.mem_cons, List.not_mem_nil, or_false] at hnb
  rcases hnb with h | h | h <;> subst h <;> simp only
  · exact ha
  · unfold objectNewR
    split
    · next kvs heq => exact objectNewLoop_q hQ _ _ _ ha (fun _ h => by cases h) heq
    · exact hQ _ rfl
  · exact fromCodes_q hQ _ _

include hQ in
theorem failValue_q {txt : String} {args : List Lib.Value} {v : Lib.Value} (ha : AllQ Q args)
    (h : failValue txt args = some v) : Q v := by
  unfold failValue at h
  split at h
  · cases h; exact hQ _ rfl
  · split at h
    · cases h
      cases hg : args[2]? with
      | none => exact hQ _ rfl
      | some x => exact ha x (List.mem_of_getElem? hg)
    · exact hQ _ (parseDefault_nonfn h)

include hQ in
theorem eff_q (f : String) (args : List Lib.Value) (h : Heap) (ha : AllQ Q args) (hh : HeapQ Q h) :
    EffQ Q (eff f args h) := by
  unfold eff
  split
  · exact trivial
  · split
    · split
      · next b hb =>
        exact rawBodies_q hQ _ (C15.lookup_mem hb) args h ha
      · exact trivial
    · split
      · next ms b fv _ hb hfv =>
        split
        · exact failValue_q hQ ha hfv
        · next va hva =>
          exact bodies_q hQ _ (C15.lookup_mem hb) va h (validate_q hQ h _ _ _ ha hva) hh
      · exact trivial

def ResQ (Q : Lib.Value → Prop) : Lib.Res × Heap → Prop
  | (.ok v, h) => Q v ∧ HeapQ Q h
  | (.fail v, h) => Q v ∧ HeapQ Q h
  | (.unmodelled, _) => True

include hQ in
theorem run_q {e : Eff} {h : Heap} (he : EffQ Q e) (hh : HeapQ Q h) : ResQ Q (e.run h) := by
  cases e with
  | ret v => exact ⟨he, hh⟩
  | fail v => exact ⟨he, hh⟩
  | unmodelled => exact trivial
  | store r c v =>
    refine ⟨he.2, fun c' hc' => ?_⟩
    rcases List.mem_or_eq_of_mem_set hc' with h | h
    · exact hh c' h
    · rw [h]; exact he.1
  | alloc c =>
    refine ⟨?_, fun c' hc' => ?_⟩
    · cases c <;> exact hQ _ rfl
    · rcases List.mem_append.1 hc' with h | h
      · exact hh c' h
      · rw [List.mem_singleton.1 h]; exact he

include hQ in
/-- **Lib never fabricates function values**: for every predicate `Q` on values that holds of all non-function values, a
library call whose arguments and heap satisfy `Q` returns a value and a heap that satisfy `Q`. -/
theorem lib_q (f : String) (args : List Lib.Value) (h : Heap) (ha : AllQ Q args) (hh : HeapQ Q h) :
    ResQ Q (Lib.lib f args h) := run_q hQ (eff_q hQ f args h ha hh) hh

end LibParam

end C09
