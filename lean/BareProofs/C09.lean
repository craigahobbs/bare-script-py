import BareProofs.C08
import BareProofs.C09Good
import BareProofs.C09Fuel
import BareProofs.C09Sim
import BareProofs.C09Lib

/-!
# C09 — the statement budget is exact, complete and monotone

The counter `State.count` is incremented and tested at the head of every statement of `execM` exactly like
runtime.py:59-62; the top-level script, script functions however they are invoked (direct calls, call-backs from
library interaction trees) and included scripts all run through `execM` on the one shared `State`.  The theorems
hold for ALL configurations, hosts (library = arbitrary interaction trees), programs, states and fuel.

Three passes over the cache-free machine `execM₀` carry them: `goodM` (progress and bound, one invariant `Good`), `fuelMono`,
`simM` (the limited run against the unlimited run); the results are transferred to the mirror `execM`/`execute` with
`C08.cache_transparent`.
-/

open Machine
namespace C09
variable {W : Type}

/-- `cfg` with another statement limit (`options['maxStatements']`) -/
def withMax (cfg : Config W) (m : Nat) : Config W := { cfg with maxStatements := m }

def Res.count? : Res W → Option Nat
  | .done s => some s.count
  | .ret _ s => some s.count
  | .err _ s => some s.count
  | .oof => none

/-- **count_monotone.** Along any run — top level, function body or included script, from any statement index, with
any (valid) label cache — the statement counter of the final state is at least the initial one. -/
theorem count_monotone (cfg : Config W) (fuel : Nat) (P : List Stmt) (locals : Option Env) (base : Option String)
    (cache : Cache) (pc : Nat) (st : State W) (hc : C08.CacheValid P cache) :
    match execM cfg fuel P locals base cache pc st with
    | .done s' => st.count ≤ s'.count
    | .ret _ s' => st.count ≤ s'.count
    | .err _ s' => st.count ≤ s'.count
    | .oof => True := by
  rw [C08.cache_transparent cfg fuel P locals base cache pc st hc]
  have h := (goodM (Ext.triv W) cfg (hostExt_triv _) fuel).2.1 P locals base pc st
  generalize execM₀ cfg fuel P locals base pc st = r at h
  cases r <;> first | exact h.1.1 | trivial

/-- the same for a call of any function value (script function, library function with call-backs, host callable) and
for an include statement -/
theorem count_monotone_call (cfg : Config W) (fuel : Nat) (f : Value) (args : List Value) (st : State W) :
    match callValue cfg fuel f args st with
    | .ok _ s' => st.count ≤ s'.count
    | .err _ s' => st.count ≤ s'.count
    | .oof => True := by
  rw [C08.callValue_eq]
  have h := (goodM (Ext.triv W) cfg (hostExt_triv _) fuel).1 f args st
  generalize callValue₀ cfg fuel f args st = r at h
  cases r <;> first | exact h.1.1 | trivial

theorem count_monotone_include (cfg : Config W) (fuel : Nat) (base : Option String) (incs : List IncludeScript)
    (st : State W) :
    match execIncludes cfg fuel base incs st with
    | .done s' => st.count ≤ s'.count
    | .ret _ s' => st.count ≤ s'.count
    | .err _ s' => st.count ≤ s'.count
    | .oof => True := by
  rw [C08.execIncludes_eq]
  have h := (goodM (Ext.triv W) cfg (hostExt_triv _) fuel).2.2 base incs st
  generalize execIncludes₀ cfg fuel base incs st = r at h
  cases r <;> first | exact h.1.1 | trivial

/-- **started_statement_counts.** A statement that starts within the budget is counted: whatever happens afterwards,
the final counter is at least `count + 1`.  (Along any chain of statement executions the counter strictly increases.) -/
theorem started_statement_counts (cfg : Config W) (fuel : Nat) (P : List Stmt) (locals : Option Env)
    (base : Option String) (pc : Nat) (st : State W) (s : Stmt) (hs : P[pc]? = some s) (hb : C08.BudgetOk cfg st) :
    match execM₀ cfg fuel P locals base pc st with
    | .done s' => st.count + 1 ≤ s'.count
    | .ret _ s' => st.count + 1 ≤ s'.count
    | .err _ s' => st.count + 1 ≤ s'.count
    | .oof => True := by
  have hb' : ¬ overBudget cfg st = true := by
    unfold C08.BudgetOk at hb; rw [overBudget, hb]; exact Bool.false_ne_true
  have h := execM₀_tick_good (Ext.triv W) cfg (hostExt_triv _) fuel P locals base pc st s hs hb'
  generalize execM₀ cfg fuel P locals base pc st = r at h
  cases r <;> first | exact h.1.1 | trivial

/-- **count_le_limit.** With a positive limit `L`, started from a counter within the budget: a run that ends normally,
or with any error other than the budget error, ends with `count ≤ L` — at most `L` statements started and ran; the
budget error carries `L` and is raised with `count = L + 1`, i.e. exactly when statement `L + 1` would start. -/
theorem count_le_limit (cfg : Config W) (L : Nat) (hL : 0 < L) (hcfg : cfg.maxStatements = L) (fuel : Nat)
    (P : List Stmt) (locals : Option Env) (base : Option String) (cache : Cache) (pc : Nat) (st : State W)
    (hc : C08.CacheValid P cache) (hst : st.count ≤ L) :
    match execM cfg fuel P locals base cache pc st with
    | .done s' => s'.count ≤ L
    | .ret _ s' => s'.count ≤ L
    | .err (.exceeded m) s' => m = L ∧ s'.count = L + 1
    | .err _ s' => s'.count ≤ L
    | .oof => True := by
  rw [C08.cache_transparent cfg fuel P locals base cache pc st hc]
  have h := (goodM (Ext.triv W) cfg (hostExt_triv _) fuel).2.1 P locals base pc st
  rw [hcfg] at h
  generalize execM₀ cfg fuel P locals base pc st = r at h
  cases r with
  | done s' => exact h.2 (fun _ => hst) hL
  | ret v s' => exact h.2 (fun _ => hst) hL
  | oof => trivial
  | err e s' =>
    have := h.2 (fun _ => hst)
    cases e <;> first | exact this hL | exact ⟨this.2.1, this.2.2⟩

/-- the same for `execute_script` (which resets the counter to 0) -/
theorem count_le_limit_execute (cfg : Config W) (L : Nat) (hL : 0 < L) (hcfg : cfg.maxStatements = L) (fuel : Nat)
    (P : List Stmt) (base : Option String) (st : State W) :
    match execute cfg fuel P base st with
    | .done s' => s'.count ≤ L
    | .ret _ s' => s'.count ≤ L
    | .err (.exceeded m) s' => m = L ∧ s'.count = L + 1
    | .err _ s' => s'.count ≤ L
    | .oof => True :=
  count_le_limit cfg L hL hcfg fuel P none base [] 0 { st with count := 0 } (C08.cacheValid_nil P) (Nat.zero_le _)

/-- without a limit (`maxStatements = 0`) the budget error never occurs -/
theorem unlimited_never_exceeds (cfg : Config W) (hcfg : cfg.maxStatements = 0) (fuel : Nat) (P : List Stmt)
    (locals : Option Env) (base : Option String) (pc : Nat) (st s' : State W) (m : Nat) :
    execM₀ cfg fuel P locals base pc st ≠ .err (.exceeded m) s' := by
  intro heq
  have h := (goodM (Ext.triv W) cfg (hostExt_triv _) fuel).2.1 P locals base pc st
  rw [hcfg, heq] at h
  exact absurd (h.2 (fun h0 => absurd h0 (Nat.lt_irrefl 0))).1 (Nat.lt_irrefl 0)

/-- `simM` at `execute_script`: the run under no limit against the run under `L > 0`, same everything else -/
theorem execute_sim (E : Ext W) (cfg : Config W) (hE : HostExt E cfg.host) (L : Nat) (hL : 0 < L) (fuel : Nat)
    (P : List Stmt) (base : Option String) (st : State W) :
    SimR E L (execute (withMax cfg 0) fuel P base st) (execute (withMax cfg L) fuel P base st) := by
  rw [C08.execute_eq, C08.execute_eq]
  exact SimR.oc.2 ((simM E L (withMax cfg 0) (withMax cfg L) hE ⟨rfl, rfl, hL, rfl, rfl, rfl, rfl, rfl, rfl⟩ fuel).2.1 P none base 0
    { st with count := 0 } (Nat.zero_le _))

/-- **limit_monotone.** If the unlimited run completes (normally or with an error) after `N` statements, the run
under every limit `L ≥ N` — and under `L = 0` — is identical: same result, same final globals, world and counter. -/
theorem limit_monotone (cfg : Config W) (L : Nat) (fuel : Nat) (P : List Stmt) (base : Option String) (st : State W)
    (N : Nat) (hN : Res.count? (execute (withMax cfg 0) fuel P base st) = some N) (hLN : L = 0 ∨ N ≤ L) :
    execute (withMax cfg L) fuel P base st = execute (withMax cfg 0) fuel P base st := by
  rcases Nat.eq_zero_or_pos L with h0 | hL
  · rw [h0]
  · have hNL : N ≤ L := by rcases hLN with h | h; omega; exact h
    rcases execute_sim (Ext.triv W) cfg (hostExt_triv _) L hL fuel P base st with ⟨heq, _⟩ | ⟨s', _, _, hbey⟩
    · exact heq
    · exfalso
      generalize execute (withMax cfg 0) fuel P base st = r0 at hN hbey
      cases r0 <;> simp only [Res.count?, Option.some.injEq, reduceCtorEq] at hN <;>
        (have := hbey.1; omega)

/-- **limit_small_aborts.** If the unlimited run completes after `N` statements and `0 < L < N`, the run under limit
`L` is aborted with the budget error for `L`, raised with the counter at exactly `L + 1`. -/
theorem limit_small_aborts (cfg : Config W) (L : Nat) (hL : 0 < L) (fuel : Nat) (P : List Stmt) (base : Option String)
    (st : State W) (N : Nat) (hN : Res.count? (execute (withMax cfg 0) fuel P base st) = some N) (hLN : L < N) :
    ∃ s', execute (withMax cfg L) fuel P base st = .err (.exceeded L) s' ∧ s'.count = L + 1 := by
  rcases execute_sim (Ext.triv W) cfg (hostExt_triv _) L hL fuel P base st with ⟨_, hle⟩ | ⟨s', hb, hcnt, _⟩
  · exfalso
    generalize execute (withMax cfg 0) fuel P base st = r0 at hN hle
    cases r0 <;> simp only [Res.count?, Option.some.injEq, reduceCtorEq] at hN <;>
      (have : _ ≤ L := hle; omega)
  · exact ⟨s', Res.eq_of_fin_err hb, hcnt⟩

/-- **exceeded_iff.** For a program whose unlimited run completes after `N` statements: the run under `L > 0` ends with
the budget error iff `N > L`. -/
theorem exceeded_iff (cfg : Config W) (L : Nat) (hL : 0 < L) (fuel : Nat) (P : List Stmt) (base : Option String)
    (st : State W) (N : Nat) (hN : Res.count? (execute (withMax cfg 0) fuel P base st) = some N) :
    (∃ m s', execute (withMax cfg L) fuel P base st = .err (.exceeded m) s') ↔ L < N := by
  constructor
  · rintro ⟨m, s', h⟩
    rcases Nat.lt_or_ge L N with hlt | hge
    · exact hlt
    · exfalso
      rw [limit_monotone cfg L fuel P base st N hN (.inr hge), C08.execute_eq] at h
      exact unlimited_never_exceeds (withMax cfg 0) rfl fuel P none base 0 _ s' m h
  · intro hlt
    obtain ⟨s', h, _⟩ := limit_small_aborts cfg L hL fuel P base st N hN hlt
    exact ⟨L, s', h⟩

/-- **abort_exact.** Both directions in one statement: under limit `L > 0` the outcome is the unlimited outcome if it
needs at most `L` statements, and otherwise the budget error for `L` with the counter at `L + 1`. -/
theorem abort_exact (cfg : Config W) (L : Nat) (hL : 0 < L) (fuel : Nat) (P : List Stmt) (base : Option String)
    (st : State W) (N : Nat) (hN : Res.count? (execute (withMax cfg 0) fuel P base st) = some N) :
    (N ≤ L ∧ execute (withMax cfg L) fuel P base st = execute (withMax cfg 0) fuel P base st) ∨
    (L < N ∧ ∃ s', execute (withMax cfg L) fuel P base st = .err (.exceeded L) s' ∧ s'.count = L + 1) := by
  rcases Nat.lt_or_ge L N with hlt | hge
  · exact .inr ⟨hlt, limit_small_aborts cfg L hL fuel P base st N hN hlt⟩
  · exact .inl ⟨hge, limit_monotone cfg L fuel P base st N hN (.inr hge)⟩

def Res.world? : Res W → Option W
  | .done s => some s.world
  | .ret _ s => some s.world
  | .err _ s => some s.world
  | .oof => none

/-- **limit_prefix.** Observable effects of the limited run are a prefix of the unlimited run's.  "Observable effects"
over the abstract world are formulated as ANY preorder `E` on worlds that every host operation only extends
(`HostExt E cfg.host`: the library's interaction trees, `notCallable`, `logFailure`, `newArray`) — e.g. "the log of `w`
is a prefix of the log of `w'`" (`limit_prefix_log` below), "the fetch trace is a prefix", …  For every such `E`: when the
unlimited run completes and the limited run is aborted, the world at the abort is `E`-below the unlimited final world.
(Global writes are not in the world: that the globals at the abort are the unlimited run's globals at that point is
checked on the implementation by harness/props/C09.py, oracles `global-writes-prefix` and `globals-at-abort`.) -/
theorem limit_prefix (E : Ext W) (cfg : Config W) (hE : HostExt E cfg.host) (L : Nat) (hL : 0 < L) (fuel : Nat)
    (P : List Stmt) (base : Option String) (st : State W) (w0 : W)
    (h0 : Res.world? (execute (withMax cfg 0) fuel P base st) = some w0) :
    execute (withMax cfg L) fuel P base st = execute (withMax cfg 0) fuel P base st ∨
    ∃ s', execute (withMax cfg L) fuel P base st = .err (.exceeded L) s' ∧ s'.count = L + 1 ∧ E.le s'.world w0 := by
  rcases execute_sim E cfg hE L hL fuel P base st with ⟨heq, _⟩ | ⟨s', hb, hcnt, hbey⟩
  · exact .inl heq
  · refine .inr ⟨s', Res.eq_of_fin_err hb, hcnt, ?_⟩
    generalize execute (withMax cfg 0) fuel P base st = r0 at h0 hbey
    cases r0 <;> simp only [Res.world?, Option.some.injEq, reduceCtorEq] at h0 <;>
      (rw [← h0]; exact hbey.2)

theorem fuel_mono_execM (cfg : Config W) (f f' : Nat) (hff : f ≤ f') (P : List Stmt) (locals : Option Env)
    (base : Option String) (pc : Nat) (st : State W) (h : execM₀ cfg f P locals base pc st ≠ .oof) :
    execM₀ cfg f' P locals base pc st = execM₀ cfg f P locals base pc st :=
  ((fuelMono cfg f f' hff).2.1 P locals base pc st).resolve_left h

/-- **fuel_mono.** If a run with fuel `f` does not run out of fuel, every larger fuel gives the same result. -/
theorem fuel_mono (cfg : Config W) (f f' : Nat) (hff : f ≤ f') (P : List Stmt) (base : Option String) (st : State W)
    (h : execute cfg f P base st ≠ .oof) : execute cfg f' P base st = execute cfg f P base st := by
  rw [C08.execute_eq, C08.execute_eq] at *
  exact fuel_mono_execM cfg f f' hff P none base 0 _ h

/-- the limited run never needs more fuel than the unlimited run -/
theorem limited_needs_no_more_fuel (cfg : Config W) (L : Nat) (fuel : Nat) (P : List Stmt) (base : Option String)
    (st : State W) (h : execute (withMax cfg 0) fuel P base st ≠ .oof) :
    execute (withMax cfg L) fuel P base st ≠ .oof := by
  rcases Nat.eq_zero_or_pos L with h0 | hL
  · rw [h0]; exact h
  · rcases execute_sim (Ext.triv W) cfg (hostExt_triv _) L hL fuel P base st with ⟨heq, _⟩ | ⟨s', hb, _, _⟩
    · rw [heq]; exact h
    · rw [Res.eq_of_fin_err hb]; intro h'; cases h'

/-- **no_infinite_run_partial.**
Full statement wanted: for `L > 0`, `∃ fuel, execute (withMax cfg L) fuel P base st ≠ .oof` ("no script can run forever").
This is NOT provable for an arbitrary abstract host: fuel is also consumed by call nesting that starts no statement
(one unit per call level), and a host is free to supply `lib "f" args w = .call (.fn (.lib "f")) args w k` — a library
function whose interaction tree calls the same library function back for ever; no statement ever starts, the counter
never moves, and only the fuel ends that recursion.  (The Python library has no such function; `no_infinite_run` in `C09Term`
proves the full statement under the well-foundedness hypothesis `HostWF` on the host's trees.)
What IS proved, for all hosts: (1) statement starts are bounded — the counter strictly increases over every started
statement (`started_statement_counts`) and a run started within the budget never gets beyond `L + 1`
(`count_le_limit`); in particular a loop can go round at most `L` times; (2) whenever the unlimited run terminates with
some fuel, the limited run terminates with the same fuel (`limited_needs_no_more_fuel`), and more fuel never changes a
result (`fuel_mono`).  This theorem packages (1): every final state of a limited run has `count ≤ L + 1`. -/
theorem no_infinite_run_partial (cfg : Config W) (L : Nat) (hL : 0 < L) (fuel : Nat) (P : List Stmt)
    (base : Option String) (st : State W) (n : Nat)
    (hn : Res.count? (execute (withMax cfg L) fuel P base st) = some n) : n ≤ L + 1 := by
  have h := count_le_limit_execute (withMax cfg L) L hL rfl fuel P base st
  generalize execute (withMax cfg L) fuel P base st = r at h hn
  cases r with
  | done s' => simp only [Res.count?, Option.some.injEq] at hn; simp only at h; omega
  | ret v s' => simp only [Res.count?, Option.some.injEq] at hn; simp only at h; omega
  | oof => simp only [Res.count?, reduceCtorEq] at hn
  | err e s' =>
    simp only [Res.count?, Option.some.injEq] at hn
    cases e <;> simp only at h <;> omega

/-- **unknown_label_exact** (C08 ∩ C09): a taken jump ends the run with `Unknown jump label` *at that statement* — the
error state is the ticked state — iff the list has no such label.  (With the label present, anything that fails later has
started at least one more statement, so its counter is larger.) -/
theorem unknown_label_exact (cfg : Config W) (fuel : Nat) (P : List Stmt) (locals : Option Env) (base : Option String)
    (pc : Nat) (st : State W) (l : Name) (h : P[pc]? = some (.jump l none)) (hb : C08.BudgetOk cfg st) :
    execM₀ cfg (fuel+1) P locals base pc st = .err (.unknownLabel l) (C08.tick st) ↔ ∀ s ∈ P, isLabel l s = false := by
  constructor
  · intro heq
    rw [← C08.unknown_label_iff]
    cases hf : findLabel P l with
    | none => rfl
    | some i =>
      exfalso
      rw [C08.jump_taken cfg fuel P locals base pc st l h hb, hf] at heq
      simp only at heq
      cases hs : P[i+1]? with
      | none => rw [C08.step_end cfg fuel P locals base (i+1) _ hs] at heq; cases heq
      | some s2 =>
        by_cases hb2 : C08.BudgetOk cfg (C08.tick st)
        · have := started_statement_counts cfg fuel P locals base (i+1) (C08.tick st) s2 hs hb2
          rw [heq] at this
          simp only [C08.tick] at this
          omega
        · cases fuel with
          | zero => rw [execM₀.eq_1, hs] at heq; cases heq
          | succ f =>
            rw [C08.step_exceeded cfg f P locals base (i+1) _ s2 hs hb2] at heq
            cases heq
  · intro hno
    exact C08.jump_unknown cfg fuel P locals base pc st l h hb hno

/-- **own_budget.** `execute_script` starts the counter itself (runtime.py:43, `options['statementCount'] = 0`): the run
does not depend on the counter value the state it is given holds — the `statementCount` an earlier run left in the
host's options object, or a value the host put there.  All theorems above are stated for an arbitrary start state, so
they apply to every run of a host session separately. -/
theorem own_budget (cfg : Config W) (fuel : Nat) (P : List Stmt) (base : Option String) (st : State W) (c : Nat) :
    execute cfg fuel P base { st with count := c } = execute cfg fuel P base st := rfl

/-- … so two start states with the same globals and the same world give the same run -/
theorem own_budget_states (cfg : Config W) (fuel : Nat) (P : List Stmt) (base : Option String) (st st' : State W)
    (hg : st.globals = st'.globals) (hw : st.world = st'.world) :
    execute cfg fuel P base st = execute cfg fuel P base st' := by
  cases st; cases st'
  simp only at hg hw
  subst hg hw
  rfl

/-- **own_budget_session.** A run started on what ANY earlier run left behind (`s₁` with its counter — the final state of
a completed, aborted or failed run of another program under another limit) or on a state whose counter the host set to
`c`: if without a limit it completes after `N` statements (counted from 0, whatever `s₁.count` is), then under `L > 0` it
is the unlimited outcome when `N ≤ L` and otherwise the budget error for `L` with the counter at `L + 1`. -/
theorem own_budget_session (cfg : Config W) (L : Nat) (hL : 0 < L) (fuel : Nat) (P : List Stmt) (base : Option String)
    (s₁ : State W) (c : Nat) (N : Nat)
    (hN : Res.count? (execute (withMax cfg 0) fuel P base { s₁ with count := 0 }) = some N) :
    (N ≤ L ∧ execute (withMax cfg L) fuel P base { s₁ with count := c }
        = execute (withMax cfg 0) fuel P base { s₁ with count := 0 }) ∨
    (L < N ∧ ∃ s', execute (withMax cfg L) fuel P base { s₁ with count := c } = .err (.exceeded L) s' ∧
        s'.count = L + 1) :=
  abort_exact cfg L hL fuel P base { s₁ with count := 0 } N hN

section ConcreteHost
open HostImpl

/-- "the log of `w` is a prefix of the log of `w'`" -/
def logExt {W : Type} (V : HostShape.View W) : Ext W :=
  ⟨fun w w' => V.log w <+: V.log w', fun _ => List.prefix_refl _, fun h1 h2 => List.IsPrefix.trans h1 h2⟩

theorem prefix_of_eq {α : Type} {a b : List α} (h : b = a) : a <+: b := h ▸ List.prefix_refl a

theorem _root_.HostShape.Shape.ext {W : Type} {V : HostShape.View W} {fn : FnVal} {args : List Value} {w0 w : W}
    {t : LibTree W} (h : HostShape.Shape V fn args w0 w t) : TreeExt (logExt V) w t := by
  induction h with
  | ret _ hlog => exact .ret hlog
  | newPartial _ _ _ hlog => exact .ret (prefix_of_eq hlog)
  | each _ _ _ _ ih => exact .call (List.prefix_refl _) fun v w1 _ => ih v w1
  | apply => exact .call (List.prefix_refl _) fun _ w1 _ => .ret (List.prefix_refl _)
  | globalGet => exact .globalGet (List.prefix_refl _) fun _ => .ret (List.prefix_refl _)
  | globalSet => exact .globalSet (List.prefix_refl _) (.ret (List.prefix_refl _))

/-- a host whose trees are shapes only ever appends to the log -/
theorem hostExt {W : Type} {V : HostShape.View W} {host : Host W} (hs : HostShape V host) : HostExt (logExt V) host where
  lib := fun n a w => (hs.lib n a w).ext
  other := fun k a w => (hs.other k a w).ext
  notCallable := fun v w => prefix_of_eq (congrArg V.log (hs.notCallable v w))
  logFailure := fun w => prefix_of_eq (congrArg V.log (hs.logFailure w))
  newArray := fun xs w => prefix_of_eq (hs.newArray xs w).2.2.1

theorem lib_ext (name : String) (args : List Value) (w : World) : TreeExt (logExt implView) w (lib name args w) :=
  (lib_shape name args w).ext

theorem hostExt_log : HostExt (logExt implView) HostImpl.host := hostExt implShape

/-- **limit_prefix_log.** On the concrete host of the driver (`HostImpl`: heap + log + partials): if the unlimited run
completes with log `ℓ`, the run under any limit `L > 0` either is that same run or is aborted at `count = L + 1` with a
log that is a PREFIX of `ℓ`. -/
theorem limit_prefix_log (cfg : Config World) (hhost : cfg.host = HostImpl.host) (L : Nat) (hL : 0 < L) (fuel : Nat)
    (P : List Stmt) (base : Option String) (st : State World) (w0 : World)
    (h0 : Res.world? (execute (withMax cfg 0) fuel P base st) = some w0) :
    execute (withMax cfg L) fuel P base st = execute (withMax cfg 0) fuel P base st ∨
    ∃ s', execute (withMax cfg L) fuel P base st = .err (.exceeded L) s' ∧ s'.count = L + 1 ∧
      s'.world.log <+: w0.log :=
  limit_prefix (logExt implView) cfg (by rw [hhost]; exact hostExt_log) L hL fuel P base st w0 h0

section Examples
open C08 (Obs obs)

def libG : Env := ["systemLog", "arrayNew", "arrayIndexOf"].map fun n => (Name.user n, Value.fn (.lib n))
def s0 : State World := { globals := libG, world := {}, count := 0 }
def logS (s : String) : Stmt := .expr none (.function (.user "systemLog") [.string s])
def LL : Name := .user "L"

def xcfg (funs : List (Nat × FuncDef)) (files : List (String × List Stmt)) : Config World :=
  { host := host, funs := fun id => (funs.find? (·.1 == id)).map (·.2), maxStatements := 0,
    fetch := fun u => match files.find? (·.1 == u) with | some f => .script f.2 | none => .missing }

/-- an endless loop `L: systemLog('x'); jump L` under L = 5: aborted exactly when statement 6 would start -/
def loopP : List Stmt := [.label LL, logS "x", .jump LL none]

example : obs (execute (withMax (xcfg [] []) 5) 100 loopP none s0)
    = ⟨"err", some (.exceeded 5), none, 6, ["x", "x"], libG⟩ := by decide +kernel

/-- … and the unlimited run only ever ends by running out of (model) fuel -/
example : (obs (execute (withMax (xcfg [] []) 0) 100 loopP none s0)).kind = "oof" := by decide +kernel

/-- nested includes share the one counter: main → 'a' → 'b'; 6 statements in total -/
def files : List (String × List Stmt) :=
  [("a", [.include [⟨"b", false⟩], logS "a"]), ("b", [logS "b1", logS "b2"])]
def mainP : List Stmt := [.include [⟨"a", false⟩], logS "m"]

example : obs (execute (withMax (xcfg [] files) 0) 100 mainP none s0)
    = ⟨"done", none, none, 6, ["b1", "b2", "a", "m"], libG⟩ := by decide +kernel
example : obs (execute (withMax (xcfg [] files) 6) 100 mainP none s0)
    = ⟨"done", none, none, 6, ["b1", "b2", "a", "m"], libG⟩ := by decide +kernel
/-- L = 4: statement 5 (`systemLog('a')` in the outer include) does not start; the log is a prefix -/
example : obs (execute (withMax (xcfg [] files) 4) 100 mainP none s0)
    = ⟨"err", some (.exceeded 4), none, 5, ["b1", "b2"], libG⟩ := by decide +kernel

/-- call-backs from a library function are counted: `arrayIndexOf(arrayNew(0,0,0), p)` runs the 2-statement body of
`p` three times; 1 (function) + 1 (expr) + 3·2 = 8 statements -/
def pBody : List Stmt := [logS "p", .ret (some (.variable (.user "v")))]
def pDef : FuncDef := { name := .user "p", args := [.user "v"], lastArgArray := false, body := pBody }
def cbP : List Stmt :=
  [.function 0 (.user "p") [.user "v"] false false pBody,
   .expr (some (.user "r")) (.function (.user "arrayIndexOf")
     [.function (.user "arrayNew") [.number 0, .number 0, .number 0], .variable (.user "p")])]

example : (obs (execute (withMax (xcfg [(0, pDef)] []) 0) 100 cbP none s0)).count = 8 := by decide +kernel
example : (obs (execute (withMax (xcfg [(0, pDef)] []) 0) 100 cbP none s0)).log = ["p", "p", "p"] := by decide +kernel
example : obs (execute (withMax (xcfg [(0, pDef)] []) 5) 100 cbP none s0)
    = ⟨"err", some (.exceeded 5), none, 6, ["p", "p"], libG ++ [(.user "p", .fn (.script 0))]⟩ := by decide +kernel

/-- the theorems applied to these programs (their hypotheses are inhabited) -/
example : ∃ s', execute (withMax (xcfg [] files) 4) 100 mainP none s0 = .err (.exceeded 4) s' ∧ s'.count = 5 :=
  limit_small_aborts (xcfg [] files) 4 (by decide +kernel) 100 mainP none s0 6 (by decide +kernel) (by decide +kernel)

example : execute (withMax (xcfg [] files) 9) 100 mainP none s0 = execute (withMax (xcfg [] files) 0) 100 mainP none s0 :=
  limit_monotone (xcfg [] files) 9 100 mainP none s0 6 (by decide +kernel) (.inr (by decide +kernel))

example : (∃ m s', execute (withMax (xcfg [(0, pDef)] []) 7) 100 cbP none s0 = .err (.exceeded m) s') ↔ 7 < 8 :=
  exceeded_iff (xcfg [(0, pDef)] []) 7 (by decide +kernel) 100 cbP none s0 8 (by decide +kernel)

/-- recursion: `function f(): f() endfunction; f()` under L = 4 is aborted at count 5 (with enough fuel) -/
def recBody : List Stmt := [.expr none (.function (.user "f") [])]
def recP : List Stmt := [.function 0 (.user "f") [] false false recBody, .expr none (.function (.user "f") [])]
example : obs (execute (withMax (xcfg [(0, { name := .user "f", args := [], lastArgArray := false, body := recBody })] []) 4)
      100 recP none s0)
    = ⟨"err", some (.exceeded 4), none, 5, [], libG ++ [(.user "f", .fn (.script 0))]⟩ := by decide +kernel

/-- a session on one state: the endless loop under L = 5 leaves the counter at 6; the next run (nested includes, 6
statements) under L = 6 on that state completes and is the run from a fresh state; under L = 4 it is aborted at 5 -/
def s1 : State World := { s0 with count := 6 }
example : (obs (execute (withMax (xcfg [] []) 5) 100 loopP none s0)).count = s1.count := by decide +kernel
example : execute (withMax (xcfg [] files) 6) 100 mainP none s1 = execute (withMax (xcfg [] files) 6) 100 mainP none s0 :=
  own_budget _ _ _ _ s0 6
example : obs (execute (withMax (xcfg [] files) 6) 100 mainP none s1)
    = ⟨"done", none, none, 6, ["b1", "b2", "a", "m"], libG⟩ := by decide +kernel
example : ∃ s', execute (withMax (xcfg [] files) 4) 100 mainP none { s0 with count := 1000000000 }
      = .err (.exceeded 4) s' ∧ s'.count = 5 := by
  rcases own_budget_session (xcfg [] files) 4 (by decide) 100 mainP none s0 1000000000 6 (by decide +kernel) with h | h
  · exact absurd h.1 (by decide)
  · exact h.2

end Examples

end ConcreteHost

end C09
