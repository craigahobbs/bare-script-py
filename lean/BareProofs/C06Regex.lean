import BareModel.RxPatterns
import BareProofs.C06RegexLemmas

/-!
# C06Regex — the hand-written scanners of `Scan` / `Text` ARE the regular expressions of parser.py (extension of C06 / C10 / C02)

For every line without `'\n'` (logical lines never contain one: `C10.splitLines_no_newline`): the scanner of `Scan` applied the
way `Scan.shape` applies it (indentation stripped, offsets re-based) = `Rx.matchAt` on the pattern's AST (the first match of
a backtracking engine in priority order, with capture spans) followed by parser.py's reading of the groups
(`RxPatterns.rx…`).  The ASTs are tied to the pattern sources of the working tree in `BareProofs/C06RegexPins.lean`; the
engine itself is compared with CPython's `re` on the real compiled patterns by the streams of `harness/props/c06x.py`.

Here: the six keyword-only patterns, comment, `else:`, label, assignment, and the cascade `Scan.shape = rxShape` given the
equality for each of the other patterns (`shape_is_cascade_partial`); those follow in `C06Regex2` … `C06Regex5`.
-/

namespace C06Regex
open Rx RxPatterns Text Scan

/-! ## keyword-only lines -/

theorem kwOnly_rx (w : String) (sh : Shape) (hw : startsNonBlank w = true) (line : Chars) (hnl : '\n' ∉ line) :
    kwOnly? w sh (lstripL line) = rxKwOnly w sh line := by
  unfold rxKwOnly matchAt matchFrom RxPatterns.kwOnly kwOnly?
  rw [lead_kw w hw]
  cases hk : keyword? w (lstripL line) with
  | none => rfl
  | some r =>
    simp only []
    rw [ws_eol_seq _ _ (noNL_keyword (noNL_lstrip hnl) hk)]
    cases allSpace r <;> rfl

/-- **`^\s*kw\s*$`** (`break continue endif endwhile endfor endfunction`): `Scan.kwOnly?` on the stripped line = the first
backtracking match of the pattern on the line. -/
theorem kwOnly_regex (w : String) (sh : Shape) (c : Char) (cs : List Char) (hw : w.toList = c :: cs) (hc : isSpace c = false)
    (line : Chars) (hnl : '\n' ∉ line) :
    kwOnly? w sh (lstripL line) = rxKwOnly w sh line :=
  kwOnly_rx w sh (startsNonBlank_of hw hc) line hnl

/-! ## `else:` -/

/-- **`^\s*else\s*:\s*$`** -/
theorem else_regex (line : Chars) (hnl : '\n' ∉ line) : else? (lstripL line) = rxElse line := by
  unfold rxElse matchAt matchFrom ifElse else?
  rw [lead_kw "else" (by decide +kernel)]
  cases hk : keyword? "else" (lstripL line) with
  | none => rfl
  | some r =>
    simp only []
    rw [colon_tail _ _ (noNL_keyword (noNL_lstrip hnl) hk)]
    simp only []
    cases lstripL r with
    | nil => rfl
    | cons x r2 =>
      by_cases hx : x = ':'
      · subst hx; simp only []; cases allSpace r2 <;> rfl
      · have := head_ne hx r2
        simp only []; rfl

/-! ## labels -/

/-- **`^\s*(?P<name>[A-Za-z_]\w*)\s*:\s*$`** -/
theorem label_regex (line : Chars) (hnl : '\n' ∉ line) : label? (lstripL line) = rxLabel line := by
  unfold rxLabel matchAt matchFrom RxPatterns.label label?
  rw [lead _ _ _ ((avoids_cap_ident _ _).seq _ _), seq_m,
    cap_ident_det _ _ _ _ (by unfold lit; exact rejects_ws_lit isWord false ':' (word_ne (by decide)) _ _)]
  cases hk : ident? (lstripL line) with
  | none => rfl
  | some p =>
    obtain ⟨name, r⟩ := p
    have hg : slice line ((line.takeWhile isSpace).length, (line.takeWhile isSpace).length + name.length) = name :=
      slice_prefix line _ _ name r (drop_ind line ▸ C10.ident?_decomp hk) rfl
    simp only []
    rw [colon_tail _ _ (noNL_ident (noNL_lstrip hnl) hk)]
    simp only []
    cases lstripL r with
    | nil => rfl
    | cons x r2 =>
      by_cases hx : x = ':'
      · subst hx
        simp only []
        cases allSpace r2
        · rfl
        · simp only [if_true, Option.bind_some, St.group, St.span, List.lookup, beq_self_eq_true, Option.map_some, hg]
      · have := head_ne hx r2
        simp only []; rfl

/-! ## comment / blank lines -/

/-- `(?:#.*)?$` in front of a character -/
theorem comment_tail (p : Nat) (c : Char) (r : Chars) (hs : '\n' ∉ c :: r) :
    (Rx.opt (.ncg (lit '#' ⬝ .star (.one .dot))) ⬝ Rx.eol).m ⟨p, c :: r, []⟩ some =
      if c = '#' then some ⟨p + 1 + r.length, [], []⟩ else none := by
  rw [seq_m, opt_m, ncg_m, seq_m, lit, one_m', step_lit]
  by_cases hc : c = '#'
  · simp only [hc, if_true]
    rw [dotstar_eol _ _ (not_mem_tail hs)]; rfl
  · simp only [hc, if_false]
    rw [eol_none_of_ne _ _ hs (List.cons_ne_nil c r)]; rfl

/-- **`^\s*(?:#.*)?$`** -/
theorem comment_regex (line : Chars) (hnl : '\n' ∉ line) : isCommentL line = rxComment line := by
  unfold rxComment matchAt matchFrom comment isCommentL
  rw [lead']
  · cases hs : lstripL line with
    | nil => rfl
    | cons c r =>
      rw [comment_tail _ _ _ (hs ▸ noNL_lstrip hnl)]
      by_cases hc : c = '#'
      · simp only [hc, if_true, Option.isSome_some, beq_self_eq_true]
      · simp only [hc, if_false, Option.isSome_none, beq_eq_false_iff_ne.mpr hc]
  · intro j c r h1 h2
    rw [h1, comment_tail _ _ _ (h1 ▸ not_mem_drop hnl), if_neg (fun e => absurd (e ▸ h2) (by decide))]

/-! ## assignment -/

/-- **`^\s*(?P<name>[A-Za-z_]\w*)\s*=\s*(?P<expr>.+)$`**: the first `=` after the name; the expression is the rest of the
line without its leading blanks — or its last blank when nothing else follows. -/
theorem assign_regex (line : Chars) (hnl : '\n' ∉ line) :
    (assign? (lstripL line)).map (Shape.shift (line.length - (lstripL line).length)) = rxAssign line := by
  unfold rxAssign matchAt matchFrom assignment assign?
  rw [lead _ _ _ ((avoids_cap_ident _ _).seq _ _), seq_m,
    cap_ident_det _ _ _ _ (by unfold lit; exact rejects_ws_lit isWord false '=' (word_ne (by decide)) _ _)]
  cases hk : ident? (lstripL line) with
  | none => rfl
  | some p =>
    obtain ⟨name, r1⟩ := p
    have hsplit : line.drop (line.takeWhile isSpace).length = name ++ r1 := drop_ind line ▸ C10.ident?_decomp hk
    have hr1 : '\n' ∉ r1 := noNL_ident (noNL_lstrip hnl) hk
    simp only []
    rw [lit, ws_lit_det false '=' (by decide)]
    simp only []
    cases h3 : lstripL r1 with
    | nil => rfl
    | cons x r3 =>
      by_cases hx : x = '='
      · subst hx
        simp only [if_true]
        rw [dotPlus, ws_dotplus_eol _ _ _ (noNL_lstrip_tail hr1 h3)]
        simp only []
        cases hr3e : r3 with
        | nil => rfl
        | cons y r4 =>
          rw [← hr3e, if_neg (hr3e ▸ List.cons_ne_nil y r4)]
          have hd2 : line.drop ((line.takeWhile isSpace).length + name.length + (r1.takeWhile isSpace).length + 1) = r3 :=
            drop_ws_char (drop_add_of_drop line name r1 _ hsplit) h3
          have hle : (r3.drop (min (r3.takeWhile isSpace).length (r3.length - 1))).length ≤ (lstripL line).length := by
            rw [← drop_ind, hsplit]
            have := congrArg List.length (lstrip_cons_split h3)
            simp only [List.length_append, List.length_drop, List.length_singleton] at this ⊢
            omega
          simp only [Option.bind_some, St.group, St.span, List.lookup, Option.map_some, show (1 == 2) = false from rfl,
            beq_self_eq_true, slice_prefix line _ _ name r1 hsplit rfl,
            slice_suffix line r3 _ _ hd2 (Nat.le_trans (Nat.min_le_right _ _) (Nat.sub_le _ _))]
          cases he : lstripL r3 with
          | nil =>
            obtain ⟨c, hc⟩ : ∃ c, r3.getLast? = some c := by
              rw [hr3e]; exact ⟨_, List.getLast?_eq_some_getLast (List.cons_ne_nil y r4)⟩
            rw [drop_giveback_nil he hc] at hle ⊢
            rw [hc]
            exact congrArg some (congrArg (Shape.assign name · [c]) (off_shift line [c] hle))
          | cons z e =>
            rw [drop_giveback_cons he] at hle ⊢
            exact congrArg some (congrArg (Shape.assign name · (z :: e)) (off_shift line (z :: e) hle))
      · have := head_ne hx r3
        simp only [hx, if_false]; rfl

/-! ## instances: the hypotheses are met by ordinary lines -/

example : kwOnly? "break" .break_ (lstripL "  break \t".toList) = rxKwOnly "break" .break_ "  break \t".toList :=
  kwOnly_rx "break" .break_ (by decide +kernel) _ (by decide)

/-- the six keyword-only statement patterns -/
theorem kwOnly_regex_all (line : Chars) (hnl : '\n' ∉ line) :
    kwOnly? "endfunction" .funcEnd (lstripL line) = rxKwOnly "endfunction" .funcEnd line ∧
    kwOnly? "endif" .endif (lstripL line) = rxKwOnly "endif" .endif line ∧
    kwOnly? "endwhile" .endwhile (lstripL line) = rxKwOnly "endwhile" .endwhile line ∧
    kwOnly? "endfor" .endfor (lstripL line) = rxKwOnly "endfor" .endfor line ∧
    kwOnly? "break" .break_ (lstripL line) = rxKwOnly "break" .break_ line ∧
    kwOnly? "continue" .continue_ (lstripL line) = rxKwOnly "continue" .continue_ line :=
  ⟨kwOnly_rx _ _ (by decide +kernel) line hnl, kwOnly_rx _ _ (by decide +kernel) line hnl,
   kwOnly_rx _ _ (by decide +kernel) line hnl, kwOnly_rx _ _ (by decide +kernel) line hnl,
   kwOnly_rx _ _ (by decide +kernel) line hnl, kwOnly_rx _ _ (by decide +kernel) line hnl⟩

example : '\n' ∉ " a  =   ".toList ∧ rxAssign " a  =   ".toList = some (.assign ['a'] 7 [' ']) := by decide_lit
example : '\n' ∉ "x == y: z".toList ∧ rxAssign "x == y: z".toList = some (.assign ['x'] 3 "= y: z".toList) := by decide_lit
example : '\n' ∉ "\t lbl :  ".toList ∧ rxLabel "\t lbl :  ".toList = some (.label "lbl".toList) := by decide_lit
example : '\n' ∉ "  # if x:".toList ∧ rxComment "  # if x:".toList = true := by decide_lit
example : '\n' ∉ " else  : ".toList ∧ rxElse " else  : ".toList = some .else_ := by decide_lit

/-! ## the cascade -/

/-- a scanner of `Scan`, used the way `Scan.shape` uses it: on the line without its indentation, the offsets re-based -/
def onLine (f : Chars → Option Shape) (line : Chars) : Option Shape :=
  (f (lstripL line)).map (Shape.shift (line.length - (lstripL line).length))

theorem getD_shift (k : Nat) (x : Option Shape) : (x.getD .exprStmt).shift k = (x.map (Shape.shift k)).getD .exprStmt := by
  cases x <;> rfl

theorem kwOnly_shift (w : String) (sh : Shape) (k : Nat) (h : sh.shift k = sh) (s : Chars) :
    (kwOnly? w sh s).map (Shape.shift k) = kwOnly? w sh s := by
  unfold kwOnly?; split
  · split <;> simp [h]
  · rfl

theorem else_shift (k : Nat) (s : Chars) : (else? s).map (Shape.shift k) = else? s := by
  unfold else?; split
  · split
    · split <;> simp [Shape.shift]
    · rfl
  · rfl

theorem label_shift (k : Nat) (s : Chars) : (label? s).map (Shape.shift k) = label? s := by
  unfold label?; split
  · split
    · split <;> simp [Shape.shift]
    · rfl
  · rfl

/-- `Scan.shape` = the cascade of parser.py with every test done by the backtracking matcher on the pattern ASTs
(`RxPatterns.rxShape`), in the order `parse_script` tries them — given, for the patterns not treated in this module
(`function`, `if / elif / while`, `for`, `jump / jumpif`, `return`, `include`), that scanner and pattern agree on the line. -/
theorem shape_is_cascade_partial (line : Chars) (hnl : '\n' ∉ line)
    (hFunction : onLine funcBegin? line = rxFunction line)
    (hIf : onLine (kwExprColon? "if" .ifBegin) line = rxKwExprColon "if" .ifBegin line)
    (hElif : onLine (kwExprColon? "elif" .elif) line = rxKwExprColon "elif" .elif line)
    (hWhile : onLine (kwExprColon? "while" .whileBegin) line = rxKwExprColon "while" .whileBegin line)
    (hFor : onLine for? line = rxFor line)
    (hJump : onLine jump? line = rxJump line)
    (hReturn : onLine return? line = rxReturn line)
    (hInclude : onLine include? line = rxInclude line) :
    shape line = rxShape line := by
  obtain ⟨k1, k2, k3, k4, k5, k6⟩ := kwOnly_regex_all line hnl
  unfold onLine at hFunction hIf hElif hWhile hFor hJump hReturn hInclude
  unfold shape shapeS rxShape
  simp only [getD_shift, map_orElse']
  rw [assign_regex line hnl, hFunction, hIf, hElif, hWhile, hFor, hJump, hReturn, hInclude,
    kwOnly_shift _ _ _ rfl, kwOnly_shift _ _ _ rfl, kwOnly_shift _ _ _ rfl, kwOnly_shift _ _ _ rfl, kwOnly_shift _ _ _ rfl,
    kwOnly_shift _ _ _ rfl, else_shift, label_shift, k1, k2, k3, k4, k5, k6, else_regex line hnl, label_regex line hnl]

end C06Regex
