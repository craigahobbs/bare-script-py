import BareModel.LibH

/-!
# C12 — one number type: the int and float spellings of a number are interchangeable

`LibH` (host level, `PyNum = int | float`, partial Python-typed primitives) refines the one-number-type library over `Rat`
for the functions that use a number as index / count / size / radix / char code, for **all** arguments and whatever
argument-model table `extract.py` regenerates from library.py.

Scope note (also LEVEL_NOTE of harness/props/C12.py): for the *remaining* library functions numbers only flow into
comparison / arithmetic / stringification, where Python's int-vs-float mixed operations are exact on the values
(assumption, DESIGN §6); no theorem here speaks about them — they are covered by the `libnum` / `operators` / `script`
streams of the harness (implementation-side metamorphic oracle) only.  The model is by-value: aliasing between
arguments is covered by that oracle only.
-/

namespace C12
open LibH

theorem ratTrunc_intCast (n : Int) : ratTrunc (n : Rat) = n := by
  simp [ratTrunc]

@[simp] theorem abs_int (n : Int) : (PyNum.int n).abs = (n : Rat) := rfl
@[simp] theorem abs_float (q : Rat) : (PyNum.float q).abs = q := rfl

theorem toInt_abs (x : PyNum) : toInt x = ratTrunc x.abs := by
  cases x
  · exact (ratTrunc_intCast _).symm
  · rfl

theorem beq_intCast (a b : Int) : (a == b) = ((a : Rat) == (b : Rat)) := by
  rw [Bool.eq_iff_iff, beq_iff_eq, beq_iff_eq, Rat.intCast_inj]

theorem lt_intCast (a b : Int) : decide (a < b) = decide ((a : Rat) < (b : Rat)) :=
  decide_eq_decide.mpr Rat.intCast_lt_intCast.symm

theorem pyEq_abs (a b : PyNum) : pyEq a b = (a.abs == b.abs) := by
  cases a <;> cases b
  · exact beq_intCast _ _
  all_goals rfl

theorem pyLtI_abs (x : PyNum) (b : Int) : pyLtI x b = decide (x.abs < (b : Rat)) := by
  cases x
  · exact lt_intCast _ _
  · rfl

theorem pyLeI_abs (x : PyNum) (b : Int) : pyLeI x b = decide (x.abs ≤ (b : Rat)) := by
  cases x
  · exact decide_eq_decide.mpr Rat.intCast_le_intCast.symm
  · rfl

theorem pyNonzero_abs (x : PyNum) : pyNonzero x = (x.abs != 0) := by
  cases x
  · exact congrArg (!·) (beq_intCast _ 0)
  · rfl

/-- the int operand of a float operation is rounded, a float operand already is a double -/
theorem toFloatH_abs (rnd : Rat → Rat) (a : PyNum) (h : IsDouble rnd a) : toFloatH rnd a = rnd a.abs := by
  cases a
  · rfl
  · exact h.symm

theorem isDouble_of_fix (rnd : Rat → Rat) (a : PyNum) (h : rnd a.abs = a.abs) : IsDouble rnd a := by
  cases a
  · trivial
  · exact h

theorem mapL_eq {N M : Type} (f : N → M) (xs : List (Val N)) : Val.mapL f xs = xs.map (Val.map f) := by
  induction xs with
  | nil => rfl
  | cons x xs ih => rw [Val.mapL, ih, List.map_cons]

theorem mapKV_eq {N M : Type} (f : N → M) (kvs : List (String × Val N)) :
    Val.mapKV f kvs = kvs.map (fun p => (p.1, Val.map f p.2)) := by
  induction kvs with
  | nil => rfl
  | cons p r ih => rw [Val.mapKV, ih, List.map_cons]

@[simp] theorem absV_null : absV .null = .null := rfl
@[simp] theorem absV_bool (b : Bool) : absV (.bool b) = .bool b := rfl
@[simp] theorem absV_num (x : PyNum) : absV (.num x) = .num x.abs := rfl
@[simp] theorem absV_str (s : String) : absV (.str s) = .str s := rfl
@[simp] theorem absV_opaque (k : String) (i : Int) : absV (.opaque k i) = .opaque k i := rfl
@[simp] theorem absV_arr (xs : List HVal) : absV (.arr xs) = .arr (xs.map absV) :=
  congrArg Val.arr (mapL_eq _ xs)
@[simp] theorem absV_obj (kvs : List (String × HVal)) : absV (.obj kvs) = .obj (kvs.map (fun p => (p.1, absV p.2))) :=
  congrArg Val.obj (mapKV_eq _ kvs)

@[simp] theorem typeName_abs (v : HVal) : typeName (absV v) = typeName v := by
  cases v <;> rfl

theorem truthy_abs (v : HVal) : truthy pyNonzero v = truthy (fun (q : Rat) => q != 0) (absV v) := by
  cases v with
  | num x => exact pyNonzero_abs x
  | arr xs => cases xs <;> rfl
  | _ => rfl

theorem numOkH_abs (m : Gen.ArgModel) (x : PyNum) : numOkH m x = numOkA m x.abs := by
  simp only [numOkH, numOkA, pyEq_abs, toInt_abs, pyLtI_abs, pyLeI_abs, abs_int]

theorem typeOk_abs (t : String) (v : HVal) : typeOk t (absV v) = typeOk t v := by
  simp only [typeOk, typeName_abs]

theorem checkArg_abs (m : Gen.ArgModel) (v : HVal) :
    (checkArg pyNonzero numOkH m v).map absV = checkArg (fun (q : Rat) => q != 0) numOkA m (absV v) := by
  unfold checkArg
  cases m.type with
  | none => rfl
  | some t =>
    dsimp only
    by_cases hb : (t == "boolean") = true
    · rw [if_pos hb, if_pos hb, truthy_abs]; rfl
    · rw [if_neg hb, if_neg hb]
      cases v with
      | null => exact apply_ite (Option.map absV) _ _ _
      | num x =>
        dsimp only [absV_num]
        rw [numOkH_abs, apply_ite (Option.map absV), apply_ite (Option.map absV)]
        rfl
      | _ => exact apply_ite (Option.map absV) _ _ _

theorem parseDefault_abs (t : String) :
    absV (parseDefault PyNum PyNum.int t) = parseDefault Rat (fun (n : Int) => (n : Rat)) t := by
  unfold parseDefault
  rw [apply_ite absV, apply_ite absV, apply_ite absV]
  cases t.toInt? <;> rfl

theorem missingArg_abs (m : Gen.ArgModel) :
    (missingArg PyNum.int m).map absV = missingArg (fun (n : Int) => (n : Rat)) m := by
  unfold missingArg
  rw [apply_ite (Option.map absV)]
  cases m.default with
  | some t => exact congrArg (ite _ _) (congrArg some (parseDefault_abs t))
  | none => dsimp only; rw [apply_ite (Option.map absV), apply_ite (Option.map absV)]; rfl

/-- **value_args_validate is spelling-blind** (refinement form): for every argument-model table (whatever `library.py` says
    now — the table is data) and every argument list, host-level validation followed by forgetting the spelling equals
    one-number-type validation of the abstracted arguments, including which calls are rejected, the defaults filled in, the
    booleans coerced and the `lastArgArray` collection. -/
theorem validate_refines (ms : List Gen.ArgModel) (args : List HVal) :
    (validateH ms args).map (List.map absV) = validateA ms (args.map absV) := by
  unfold validateH validateA
  induction ms generalizing args with
  | nil => cases args <;> rfl
  | cons m ms ih =>
    cases args with
    | nil =>
      have h0 := ih []
      simp only [List.map_nil] at h0
      simp only [validate, List.map_nil, ← missingArg_abs, ← h0]
      cases missingArg PyNum.int m <;> cases validate pyNonzero numOkH PyNum.int ms [] <;> rfl
    | cons a as =>
      simp only [validate, List.map_cons]
      by_cases hl : m.lastArgArray = true
      · have h0 := ih []
        simp only [List.map_nil] at h0
        simp only [hl, if_true, ← h0]
        cases validate pyNonzero numOkH PyNum.int ms [] <;> simp
      · have h1 := ih as
        simp only [hl, ← checkArg_abs, ← h1]
        cases checkArg pyNonzero numOkH m a <;> cases validate pyNonzero numOkH PyNum.int ms as <;> rfl

mutual
theorem size_map {N M : Type} (f : N → M) : ∀ v : Val N, Val.size (Val.map f v) = Val.size v
  | .null => rfl
  | .bool _ => rfl
  | .num _ => rfl
  | .str _ => rfl
  | .opaque _ _ => rfl
  | .arr xs => by simp [Val.map, Val.size, sizeL_map f xs]
  | .obj kvs => by simp [Val.map, Val.size, sizeKV_map f kvs]
theorem sizeL_map {N M : Type} (f : N → M) : ∀ xs : List (Val N), Val.sizeL (Val.mapL f xs) = Val.sizeL xs
  | [] => rfl
  | x :: xs => by simp [Val.mapL, Val.sizeL, size_map f x, sizeL_map f xs]
theorem sizeKV_map {N M : Type} (f : N → M) : ∀ kvs : List (String × Val N), Val.sizeKV (Val.mapKV f kvs) = Val.sizeKV kvs
  | [] => rfl
  | (k, v) :: r => by simp [Val.mapKV, Val.sizeKV, size_map f v, sizeKV_map f r]
end

theorem insertKV_map {V W : Type} (g : V → W) (p : String × V) (l : List (String × V)) :
    insertKV (p.1, g p.2) (l.map (fun q => (q.1, g q.2))) = (insertKV p l).map (fun q => (q.1, g q.2)) := by
  induction l with
  | nil => rfl
  | cons q r ih =>
    simp only [List.map_cons, insertKV]
    split <;> simp only [List.map_cons, ih]

theorem sortKV_map {V W : Type} (g : V → W) (l : List (String × V)) :
    sortKV (l.map (fun q => (q.1, g q.2))) = (sortKV l).map (fun q => (q.1, g q.2)) := by
  induction l with
  | nil => rfl
  | cons p r ih => simp only [List.map_cons, sortKV, ih, insertKV_map]

/-- Only `num`/`num`, `arr`/`arr` and `obj`/`obj` look at numbers; every other pair of constructors is decided the same way
    on both sides. -/
theorem eqFuel_abs (strict : Bool) : ∀ (f : Nat) (a b : HVal),
    eqFuel pyEq strict f a b = eqFuel ratEq strict f (absV a) (absV b) := by
  intro f
  induction f with
  | zero => intro a b; rfl
  | succ f ih =>
    have ih' : eqFuel pyEq strict f = fun a b => eqFuel ratEq strict f (absV a) (absV b) := by
      funext a b; exact ih a b
    intro a b
    cases a with
    | num x => cases b with
      | num y => exact pyEq_abs x y
      | _ => rfl
    | arr xs => cases b with
      | arr ys => simp only [eqFuel, absV_arr, List.length_map, List.zipWith_map, ih']
      | _ => rfl
    | obj p => cases b with
      | obj q => simp only [eqFuel, absV_obj, sortKV_map, List.length_map, List.zipWith_map, ih']
      | _ => rfl
    | _ => cases b <;> rfl

/-- `value_compare(a, b) == 0` (used by arrayIndexOf / arrayLastIndexOf) depends only on the values, at every depth
    (arrays element-wise, objects through their sorted items). -/
theorem cmpEq_refines (a b : HVal) : cmpEq pyEq a b = cmpEq ratEq (absV a) (absV b) := by
  simp only [cmpEq, eqFuel_abs, absV, size_map]

theorem keyEq_abs (a b : HVal) : keyEq pyEq a b = keyEq ratEq (absV a) (absV b) := by
  simp only [keyEq, eqFuel_abs, absV, size_map]

def absFail : Fail PyNum → Fail Rat
  | .args r => .args (absV r)
  | .host e => .host e

def absBodyR (p : BodyR PyNum) : BodyR Rat := (absV p.1, p.2.map (List.map absV))

/-- forget the spelling in the outcome of a (sub)computation -/
def absE {α β : Type} (g : α → β) : Except (Fail PyNum) α → Except (Fail Rat) β
  | .ok a => .ok (g a)
  | .error e => .error (absFail e)

abbrev absB : Except (Fail PyNum) (BodyR PyNum) → Except (Fail Rat) (BodyR Rat) := absE absBodyR

/-! `absE` maps `>>=` to `>>=`, so a `do` block refines its one-number-type version as soon as each of its steps does.  The body
    lemmas below walk down the two blocks in step with `bind_ref`; what is left at the end is the host primitive. -/

/-- the continuation need only refine on a value the first step can produce -/
theorem bind_ref' {α α' β β' : Type} {f : α → α'} {g : β → β'} {x : Except (Fail PyNum) α} {y : Except (Fail Rat) α'}
    {k : α → Except (Fail PyNum) β} {k' : α' → Except (Fail Rat) β'}
    (hx : absE f x = y) (hk : ∀ a, x = .ok a → absE g (k a) = k' (f a)) : absE g (x >>= k) = y >>= k' := by
  subst hx
  cases x with
  | error e => rfl
  | ok a => exact hk a rfl

theorem bind_ref {α α' β β' : Type} {f : α → α'} {g : β → β'} {x : Except (Fail PyNum) α} {y : Except (Fail Rat) α'}
    {k : α → Except (Fail PyNum) β} {k' : α' → Except (Fail Rat) β'}
    (hx : absE f x = y) (hk : ∀ a, absE g (k a) = k' (f a)) : absE g (x >>= k) = y >>= k' :=
  bind_ref' hx fun a _ => hk a

theorem req_ref {α α' : Type} {f : α → α'} {o : Option α} {o' : Option α'} (h : o' = o.map f) :
    absE f (req o) = req o' := by
  subst h; cases o <;> rfl

/-- `if c: raise …` in front of the rest `x` of a block -/
theorem throwIf_ref {β β' : Type} {g : β → β'} {c c' : Bool} (e : Fail PyNum) {j : PUnit → Except (Fail PyNum) β}
    {j' : PUnit → Except (Fail Rat) β'} {x : Except (Fail PyNum) β} {x' : Except (Fail Rat) β'} (hc : c = c') (hx : absE g x = x') :
    absE g (if c = true then throw e >>= j else x) = if c' = true then throw (absFail e) >>= j' else x' := by
  subst hc hx; cases c <;> rfl

theorem req_ok {N α : Type} {o : Option α} {a : α} (h : (req o : Except (Fail N) α) = .ok a) : o = some a := by
  cases o with
  | none => cases h
  | some b => cases h; rfl

theorem list2_map {α β : Type} (f : α → β) (v : List α) : list2 (v.map f) = (list2 v).map (fun p => (f p.1, f p.2)) := by
  rcases v with _ | ⟨a, _ | ⟨b, _ | ⟨c, t⟩⟩⟩ <;> rfl

theorem list3_map {α β : Type} (f : α → β) (v : List α) :
    list3 (v.map f) = (list3 v).map (fun p => (f p.1, f p.2.1, f p.2.2)) := by
  rcases v with _ | ⟨a, _ | ⟨b, _ | ⟨c, _ | ⟨d, t⟩⟩⟩⟩ <;> rfl

theorem asArr_abs (a : HVal) : (absV a).asArr? = a.asArr?.map (List.map absV) := by
  cases a with
  | arr xs => exact congrArg some (mapL_eq _ xs)
  | _ => rfl
theorem asNum_abs (a : HVal) : (absV a).asNum? = a.asNum?.map PyNum.abs := by cases a <;> rfl
theorem asStr_abs (a : HVal) : (absV a).asStr? = a.asStr?.map id := by cases a <;> rfl
theorem asOptNum_abs (a : HVal) : (absV a).asOptNum? = a.asOptNum?.map (Option.map PyNum.abs) := by cases a <;> rfl

theorem geLen_abs (x : PyNum) (n : Nat) : geLen x n = geLenA x.abs n := congrArg (!·) (pyLtI_abs x n)
theorem gtLen_abs (x : PyNum) (n : Nat) : gtLen x n = gtLenA x.abs n := congrArg (!·) (pyLeI_abs x n)

theorem getD_abs (e : Option PyNum) (n : Int) : (e.map PyNum.abs).getD (n : Rat) = (e.getD (.int n)).abs := by
  cases e <;> rfl

/-- `xs[int]` at host level is the abstract indexing -/
theorem listIndex_ref {α β : Type} (f : α → β) (xs : List α) (k : Int) :
    absE f (hostE (listIndex xs (.int k))) = idxA (xs.map f) k := by
  simp only [hostE, listIndex, idxA, List.length_map]
  cases normIndex xs.length k with
  | none => rfl
  | some j =>
    simp only [Option.bind_some, List.getElem?_map]
    cases xs[j]? <;> rfl

theorem sliceI_map {α β : Type} (f : α → β) (xs : List α) (s e : Int) : sliceI (xs.map f) s e = (sliceI xs s e).map f := by
  simp only [sliceI, List.map_take, List.map_drop, List.length_map]

theorem eraseIdx_map {α β : Type} (f : α → β) : ∀ (xs : List α) (k : Nat), (xs.eraseIdx k).map f = (xs.map f).eraseIdx k
  | [], _ => rfl
  | _ :: _, 0 => rfl
  | x :: xs, k + 1 => congrArg (f x :: ·) (eraseIdx_map f xs k)

theorem arrayGet_ref (v : List HVal) : absB (arrayGetH v) = arrayGetA (v.map absV) := by
  refine bind_ref (req_ref (list2_map absV v)) fun (a, i) => ?_
  refine bind_ref (req_ref (asArr_abs a)) fun xs => ?_
  refine bind_ref (req_ref (asNum_abs i)) fun index => ?_
  refine throwIf_ref (.args .null) (by rw [geLen_abs, List.length_map]) ?_
  exact bind_ref (toInt_abs index ▸ listIndex_ref absV xs _) fun x => rfl

theorem arrayDelete_ref (v : List HVal) : absB (arrayDeleteH v) = arrayDeleteA (v.map absV) := by
  refine bind_ref (req_ref (list2_map absV v)) fun (a, i) => ?_
  refine bind_ref (req_ref (asArr_abs a)) fun xs => ?_
  refine bind_ref (req_ref (asNum_abs i)) fun index => ?_
  refine throwIf_ref (.args .null) (by rw [geLen_abs, List.length_map]) ?_
  simp only [hostE, listDel, atIndexA, List.length_map, toInt_abs]
  cases normIndex xs.length (ratTrunc index.abs) with
  | none => rfl
  | some j => exact congrArg (fun l => Except.ok (Val.null, some l)) (eraseIdx_map absV xs j)

theorem arraySet_ref (v : List HVal) : absB (arraySetH v) = arraySetA (v.map absV) := by
  refine bind_ref (req_ref (list3_map absV v)) fun (a, i, value) => ?_
  refine bind_ref (req_ref (asArr_abs a)) fun xs => ?_
  refine bind_ref (req_ref (asNum_abs i)) fun index => ?_
  refine throwIf_ref (.args .null) (by rw [geLen_abs, List.length_map]) ?_
  simp only [hostE, listSet, atIndexA, List.length_map, toInt_abs]
  cases normIndex xs.length (ratTrunc index.abs) with
  | none => rfl
  | some j => exact congrArg (fun l => Except.ok (absV value, some l)) List.map_set

theorem arraySlice_ref (v : List HVal) : absB (arraySliceH v) = arraySliceA (v.map absV) := by
  refine bind_ref (req_ref (list3_map absV v)) fun (a, s, e) => ?_
  refine bind_ref (req_ref (asArr_abs a)) fun xs => ?_
  refine bind_ref (req_ref (asNum_abs s)) fun start => ?_
  refine bind_ref (req_ref (asOptNum_abs e)) fun e' => ?_
  refine throwIf_ref (.args .null) (by rw [gtLen_abs, List.length_map]) ?_
  refine throwIf_ref (.args .null) (by rw [gtLen_abs, List.length_map, getD_abs]) ?_
  rw [List.length_map, getD_abs, sliceI_map, ← absV_arr, ← toInt_abs, ← toInt_abs]
  rfl

theorem arrayNewSize_ref (v : List HVal) : absB (arrayNewSizeH v) = arrayNewSizeA (v.map absV) := by
  refine bind_ref (req_ref (list2_map absV v)) fun (s, value) => ?_
  refine bind_ref (req_ref (asNum_abs s)) fun size => ?_
  rw [← toInt_abs, ← List.map_replicate, ← absV_arr]
  rfl

theorem search_ref (xs : List HVal) (value : HVal) (ixs : List Int) :
    absE id (searchH xs value ixs) = searchA (xs.map absV) (absV value) ixs := by
  induction ixs with
  | nil => rfl
  | cons ix rest ih =>
    refine bind_ref (listIndex_ref absV xs ix) fun x => ?_
    rw [← cmpEq_refines]
    cases cmpEq pyEq x value
    · exact ih
    · rfl

theorem arrayIndexOf_ref (v : List HVal) : absB (arrayIndexOfH v) = arrayIndexOfA (v.map absV) := by
  refine bind_ref (req_ref (list3_map absV v)) fun (a, value, i) => ?_
  refine bind_ref (req_ref (asArr_abs a)) fun xs => ?_
  refine bind_ref (req_ref (asNum_abs i)) fun index => ?_
  refine throwIf_ref (.args (.num (.int (-1)))) (by rw [geLen_abs, List.length_map]) ?_
  refine throwIf_ref (.host .typeError) (by rw [typeName_abs]) ?_
  rw [List.length_map, ← toInt_abs]
  exact bind_ref (f := id) (search_ref xs value _) fun _ => rfl

theorem arrayLastIndexOf_ref (v : List HVal) : absB (arrayLastIndexOfH v) = arrayLastIndexOfA (v.map absV) := by
  refine bind_ref (req_ref (list3_map absV v)) fun (a, value, i) => ?_
  refine bind_ref (req_ref (asArr_abs a)) fun xs => ?_
  refine bind_ref (req_ref (asOptNum_abs i)) fun i' => ?_
  refine throwIf_ref (.args (.num (.int (-1)))) (by rw [geLen_abs, List.length_map, getD_abs]) ?_
  refine throwIf_ref (.host .typeError) (by rw [typeName_abs]) ?_
  rw [List.length_map, getD_abs, ← toInt_abs]
  exact bind_ref (f := id) (search_ref xs value _) fun _ => rfl

theorem stringCharCodeAt_ref (v : List HVal) : absB (stringCharCodeAtH v) = stringCharCodeAtA (v.map absV) := by
  refine bind_ref (req_ref (list2_map absV v)) fun (a, i) => ?_
  refine bind_ref (req_ref (asStr_abs a)) fun s => ?_
  refine bind_ref (req_ref (asNum_abs i)) fun index => ?_
  refine throwIf_ref (.args .null) (geLen_abs _ _) ?_
  refine bind_ref (f := id) ?_ fun c => rfl
  rw [toInt_abs, listIndex_ref, List.map_id]; rfl

theorem stringIndexOf_ref (v : List HVal) : absB (stringIndexOfH v) = stringIndexOfA (v.map absV) := by
  refine bind_ref (req_ref (list3_map absV v)) fun (a, b, i) => ?_
  refine bind_ref (req_ref (asStr_abs a)) fun s => ?_
  refine bind_ref (req_ref (asStr_abs b)) fun search => ?_
  refine bind_ref (req_ref (asNum_abs i)) fun index => ?_
  refine throwIf_ref (.args (.num (.int (-1)))) (geLen_abs _ _) ?_
  rw [← toInt_abs]
  rfl

theorem stringLastIndexOf_ref (v : List HVal) : absB (stringLastIndexOfH v) = stringLastIndexOfA (v.map absV) := by
  refine bind_ref (req_ref (list3_map absV v)) fun (a, b, i) => ?_
  refine bind_ref (req_ref (asStr_abs a)) fun s => ?_
  refine bind_ref (req_ref (asStr_abs b)) fun search => ?_
  refine bind_ref (req_ref (asOptNum_abs i)) fun i' => ?_
  refine throwIf_ref (.args (.num (.int (-1)))) (by rw [geLen_abs, getD_abs]; rfl) ?_
  rw [getD_abs, ← toInt_abs]
  rfl

theorem stringRepeat_ref (v : List HVal) : absB (stringRepeatH v) = stringRepeatA (v.map absV) := by
  refine bind_ref (req_ref (list2_map absV v)) fun (a, c) => ?_
  refine bind_ref (req_ref (asStr_abs a)) fun s => ?_
  refine bind_ref (req_ref (asNum_abs c)) fun count => ?_
  rw [← toInt_abs]
  rfl

theorem stringSlice_ref (v : List HVal) : absB (stringSliceH v) = stringSliceA (v.map absV) := by
  refine bind_ref (req_ref (list3_map absV v)) fun (a, st, e) => ?_
  refine bind_ref (req_ref (asStr_abs a)) fun s => ?_
  refine bind_ref (req_ref (asNum_abs st)) fun start => ?_
  refine bind_ref (req_ref (asOptNum_abs e)) fun e' => ?_
  refine throwIf_ref (.args .null) (gtLen_abs _ _) ?_
  refine throwIf_ref (.args .null) (by rw [gtLen_abs, getD_abs]; rfl) ?_
  rw [getD_abs, ← toInt_abs, ← toInt_abs]
  rfl

theorem numberParseInt_ref (v : List HVal) : absB (numberParseIntH v) = numberParseIntA (v.map absV) := by
  refine bind_ref (req_ref (list2_map absV v)) fun (a, r) => ?_
  refine bind_ref (req_ref (asStr_abs a)) fun s => ?_
  refine bind_ref (req_ref (asNum_abs r)) fun radix => ?_
  simp only [← toInt_abs, intRadix, id]
  by_cases h : 2 ≤ toInt radix ∧ toInt radix ≤ 36
  · simp only [if_pos h]; cases parseIntText s (toInt radix).toNat <;> rfl
  · simp only [if_neg h]; rfl

theorem mapM_ref {α β α' β' : Type} (f : α → Except (Fail PyNum) β) (f' : α' → Except (Fail Rat) β') (ga : α → α') (gb : β → β')
    (h : ∀ a, absE gb (f a) = f' (ga a)) (l : List α) : absE (List.map gb) (l.mapM f) = (l.map ga).mapM f' := by
  induction l with
  | nil => rfl
  | cons a l ih =>
    rw [List.mapM_cons, List.map_cons, List.mapM_cons]
    exact bind_ref (h a) fun b => bind_ref ih fun bs => rfl

theorem charCodeOk_ref (c : HVal) : absE PyNum.abs (charCodeOkH c) = charCodeOkA (absV c) := by
  cases c with
  | num x =>
    simp only [charCodeOkH, charCodeOkA, absV_num, pyEq_abs, toInt_abs, pyLtI_abs, abs_int]
    split <;> rfl
  | _ => rfl

theorem pyChr_ref (x : PyNum) : absE (fun (c : Char) => c) (hostE (pyChr (.int (toInt x)))) = chrA (ratTrunc x.abs) := by
  simp only [pyChr, chrA, toInt_abs]
  split <;> rfl

theorem stringFromCharCode_ref (v : List HVal) : absB (stringFromCharCodeH v) = stringFromCharCodeA (v.map absV) := by
  refine bind_ref (mapM_ref _ _ absV PyNum.abs charCodeOk_ref v) fun nums => ?_
  refine bind_ref (mapM_ref _ (fun x => chrA (ratTrunc x)) PyNum.abs id pyChr_ref nums) fun cs => ?_
  rw [List.map_id]; rfl

theorem rowGet_ref (row field : HVal) : absE absV (rowGet row field) = rowGet (absV row) (absV field) := by
  cases row with
  | obj kvs =>
    cases field with
    | str k =>
      simp only [rowGet, absV_obj, absV_str, List.find?_map, Function.comp_def]
      cases kvs.find? (fun x => x.1 == k) <;> rfl
    | _ => rfl
  | _ => rfl

def absP (p : HVal × HVal) : AVal × AVal := (absV p.1, absV p.2)

theorem rowKey_ref (fields : List HVal) (r : HVal) : absE absP (rowKey fields r) = rowKey (fields.map absV) (absV r) :=
  bind_ref (mapM_ref _ _ absV absV (rowGet_ref r) fields) fun ks => congrArg (fun a => Except.ok (a, absV r)) (absV_arr ks)

theorem categoryKeys_ref (rows : List HVal) (cf : HVal) :
    absE (List.map absP) (categoryKeys rows cf) = categoryKeys (rows.map absV) (absV cf) := by
  cases cf with
  | null =>
    show Except.ok (List.map absP (rows.map _)) = Except.ok ((rows.map absV).map _)
    rw [List.map_map, List.map_map]; rfl
  | arr fields => rw [absV_arr]; exact mapM_ref _ _ absV absP (rowKey_ref fields) rows
  | _ => rfl

theorem firstSeen_ref (acc ks : List HVal) :
    (firstSeen pyEq acc ks).map absV = firstSeen ratEq (acc.map absV) (ks.map absV) := by
  induction ks generalizing acc with
  | nil => rfl
  | cons k ks ih =>
    simp only [firstSeen, List.map_cons, List.any_map, Function.comp_def, ← keyEq_abs]
    split
    · exact ih acc
    · have := ih (acc ++ [k]); simpa using this

theorem topRows_ref (n : Nat) (keyed : List (HVal × HVal)) :
    (topRows pyEq n keyed).map absV = topRows ratEq n (keyed.map absP) := by
  have hf := firstSeen_ref [] (keyed.map (·.1))
  simp only [List.map_nil, List.map_map] at hf
  simp only [topRows, List.map_flatMap, List.map_map]
  have hc : ((fun (x : AVal × AVal) => x.fst) ∘ absP) = (absV ∘ fun (x : HVal × HVal) => x.fst) := rfl
  rw [hc, ← hf, List.flatMap_map]
  congr 1
  funext c
  simp only [List.filter_map, Function.comp_def, absP, ← keyEq_abs, List.map_take, List.map_map]

theorem dataTop_ref (v : List HVal) : absB (dataTopH v) = dataTopA (v.map absV) := by
  refine bind_ref (req_ref (list3_map absV v)) fun (a, c, cf) => ?_
  refine bind_ref (req_ref (asArr_abs a)) fun rows => ?_
  refine bind_ref (req_ref (asNum_abs c)) fun count => ?_
  refine bind_ref (categoryKeys_ref rows cf) fun keyed => ?_
  rw [← topRows_ref, ← absV_arr, ← toInt_abs]
  rfl

/-- every modelled function body — written with Python-typed partial primitives and `int()` exactly where library.py has it —
    refines its one-number-type version: same value, same failure (class and failure value), same new contents of a mutated array. -/
theorem body_refines (name : String) (v : List HVal) : absB (bodyH name v) = bodyA name (v.map absV) := by
  unfold bodyH bodyA
  split
  · exact arrayDelete_ref v
  · exact arrayGet_ref v
  · exact arraySet_ref v
  · exact arraySlice_ref v
  · exact arrayNewSize_ref v
  · exact arrayIndexOf_ref v
  · exact arrayLastIndexOf_ref v
  · exact stringCharCodeAt_ref v
  · exact stringFromCharCode_ref v
  · exact stringIndexOf_ref v
  · exact stringLastIndexOf_ref v
  · exact stringRepeat_ref v
  · exact stringSlice_ref v
  · exact numberParseInt_ref v
  · exact dataTop_ref v
  · rfl

theorem wrap_abs (args : List HVal) (b : Except (Fail PyNum) (BodyR PyNum)) :
    absOut (wrap args b) = wrap (args.map absV) (absB b) := by
  cases b with
  | error e => cases e <;> rfl
  | ok p =>
    obtain ⟨r, _ | xs⟩ := p
    · rfl
    · exact congrArg (Out.mk (absV r)) (List.map_set.trans (congrArg _ (absV_arr xs)))

/-- the argument list the body receives -/
def validatedWith (table : Option (List Gen.ArgModel)) (args : List HVal) : Option (List HVal) :=
  match table with
  | none => some args
  | some ms => validateH ms args

theorem callWith_abs (fH : HVal) (table : Option (List Gen.ArgModel))
    (bH : List HVal → Except (Fail PyNum) (BodyR PyNum)) (bA : List AVal → Except (Fail Rat) (BodyR Rat)) (args : List HVal)
    (hb : ∀ v, validatedWith table args = some v → absB (bH v) = bA (v.map absV)) :
    absOut (callWith validateH fH table bH args) = callWith validateA (absV fH) table bA (args.map absV) := by
  unfold callWith
  cases table with
  | none => simp only [wrap_abs, hb args rfl]
  | some ms =>
    simp only [← validate_refines]
    cases hv : validateH ms args with
    | none => rfl
    | some vargs => simp only [Option.map_some, wrap_abs, hb vargs hv]

/-- for every modelled library function (any name: unmodelled names are the trivially failing body on
    both sides) and ALL argument lists, the wrapped host-level call, with spellings forgotten afterwards, equals the
    one-number-type call on the abstracted arguments: the value of the call expression (including the failure values null / -1
    produced by the call wrapper for `ValueArgsError` and for swallowed host exceptions) and the post-call contents of the
    argument objects. -/
theorem libH_refines_lib (name : String) (args : List HVal) :
    absOut (callH name args) = callA name (args.map absV) := by
  unfold callH callA
  rw [callWith_abs _ _ _ (bodyA name) _ fun v _ => body_refines name v]
  cases failInt name <;> rfl

/-- two argument lists that are equal up to the int/float spelling of their numbers (at every depth)
    give the same result and the same post-call arguments, up to spelling. In particular a script literal (always a float) works
    wherever an index, count, size, radix or char code is expected exactly like the int. -/
theorem spelling_irrelevant (name : String) (args args' : List HVal) (h : args.map absV = args'.map absV) :
    absOut (callH name args) = absOut (callH name args') := by
  rw [libH_refines_lib, libH_refines_lib, h]

/-- `value_args_validate` accepts / rejects / normalises two equal-valued argument lists alike. -/
theorem validate_spelling_irrelevant (ms : List Gen.ArgModel) (args args' : List HVal) (h : args.map absV = args'.map absV) :
    (validateH ms args).map (List.map absV) = (validateH ms args').map (List.map absV) := by
  rw [validate_refines, validate_refines, h]

/-- the number checks of value.py:303-322 taken alone: the type test `number`, `integer` (`int(x) != x`), `lt`/`lte`/`gt`/`gte`
    agree on `x` and `y` whenever they denote the same number. -/
theorem numcheck_spelling_irrelevant (m : Gen.ArgModel) (x y : PyNum) (h : x.abs = y.abs) :
    numOkH m x = numOkH m y ∧ typeOk "number" (Val.num x) = typeOk "number" (Val.num y) := by
  simp [numOkH_abs, h, typeOk, typeName]

/-- the theorem is not vacuous and not trivially true: the pre-fix body of arraySet (`array[index] = value`, finding F1) does NOT
    refine the one-number-type function — the witness is the float index 0.0. -/
theorem unfixed_arraySet_not_refines : ∃ v : List HVal, absB (arraySetUnfixedH v) ≠ arraySetA (v.map absV) := by
  refine ⟨[.arr [.num (.int 1)], .num (.float 0), .null], ?_⟩
  have h01 : (0 : Rat) < 1 := by decide
  simp [h01, absB, arraySetUnfixedH, arraySetA, list3, req, Val.asArr?, Val.asNum?, bind, Except.bind, geLen, pyLtI, geLenA, hostE, listSet,
    absE, absFail, atIndexA, normIndex, ratTrunc, pure, Except.pure]

/-- `value_round_number` (mathRound, numberToFixed, datetime millisecond rounding) with IEEE rounding as an abstract function:
    for an integral digit count `k ≥ 0` in either spelling the host computation equals the one-number-type one **provided
    `10^k` is a double** (`h_pow`, true exactly for k ≤ 22 — for k ≥ 23 the int spelling keeps the exact `10^k` while the float
    spelling has the rounded one: finding F15), rounding is idempotent, the truncation of a double is a double, and the value
    is a double (always true of a float; of an int when |n| < 2^53). -/
theorem roundNumber_refines (rnd : Rat → Rat) (value : PyNum) (k : Int) (digits : PyNum)
    (hk : 0 ≤ k) (hd : digits = .int k ∨ digits = .float (k : Rat))
    (h_idem : ∀ q, rnd (rnd q) = rnd q)
    (h_trunc : ∀ q, rnd ((ratTrunc (rnd q) : Int) : Rat) = ((ratTrunc (rnd q) : Int) : Rat))
    (h_pow : rnd ((10 : Rat) ^ k.toNat) = (10 : Rat) ^ k.toNat)
    (h_val : rnd value.abs = value.abs) :
    roundNumberH rnd value digits = roundNumberA rnd value.abs digits.abs := by
  rcases hd with rfl | rfl
  · cases value with
    | int n => simp [roundNumberH, roundNumberA, pow10H, hk, mulH, addHalfH, divH, ratTrunc_intCast, Rat.intCast_mul]
    | float q =>
      simp only [abs_float] at h_val
      simp [roundNumberH, roundNumberA, pow10H, hk, mulH, addHalfH, divH, ratTrunc_intCast, h_val, h_pow, h_idem]
  · cases value with
    | int n =>
      simp only [abs_int] at h_val
      simp [roundNumberH, roundNumberA, pow10H, hk, mulH, addHalfH, divH, ratTrunc_intCast, h_val, h_pow, h_idem, h_trunc]
    | float q =>
      simp only [abs_float] at h_val
      simp [roundNumberH, roundNumberA, pow10H, hk, mulH, addHalfH, divH, ratTrunc_intCast, h_val, h_pow, h_idem, h_trunc]

/-- the operator `*` as fixed (F24: `float(left) * right`): the product depends only on the values. -/
theorem opMul_refines (rnd : Rat → Rat) (a b : PyNum) (ha : IsDouble rnd a) (hb : IsDouble rnd b) :
    opMulH rnd a b = opMulA rnd a.abs b.abs := by
  rw [opMulH, toFloatH_abs rnd a ha, toFloatH_abs rnd b hb, opMulA]

/-- the operator `**` as fixed (F24: `float(left) ** right`) over an abstract double power function. -/
theorem opPow_refines (pw : Rat → Rat → Option Rat) (rnd : Rat → Rat) (a b : PyNum) (ha : IsDouble rnd a) (hb : IsDouble rnd b) :
    opPowH pw rnd a b = opPowA pw rnd a.abs b.abs := by
  rw [opPowH, toFloatH_abs rnd a ha, toFloatH_abs rnd b hb, opPowA]

/-- the pre-fix `*` (int * int exact, finding F24) does not refine the one-number-type product: with a rounding function that
    moves 6 (standing for an integer above 2^53) the int spelling keeps 6, the one-number-type product is the rounded 8. -/
theorem opMulUnfixed_not_refines : ∃ (rnd : Rat → Rat) (a b : Int), (∀ q, rnd (rnd q) = rnd q) ∧
    opMulUnfixedH rnd (.int a) (.int b) ≠ opMulA rnd a b := by
  refine ⟨fun q => if q = 6 then 8 else q, 2, 3, ?_, ?_⟩
  · intro q
    by_cases h : q = 6
    · simp only [h, if_true]; decide +kernel
    · simp [h]
  · simp only [opMulUnfixedH, opMulA]; decide +kernel

/-- arraySet with a float index succeeds and updates the array (the F1 witness, now fine) -/
example : (match (callH "arraySet" [.arr [.num (.int 1), .num (.int 2)], .num (.float 1), .str "x"]) with
    | ⟨.str "x", [.arr [.num (.int 1), .str "x"], _, _]⟩ => true
    | _ => false) = true := by decide +kernel

/-- dataTop with a float count (the F2 witness) -/
example : (match (callH "dataTop" [.arr [.obj [("a", .num (.int 1))], .obj [("a", .num (.int 2))]], .num (.float 1)]) with
    | ⟨.arr [.obj _], _⟩ => true
    | _ => false) = true := by decide +kernel

/-- a non-integral index is rejected by validation in both layers (failure value null) -/
example : (match (callH "arrayGet" [.arr [.num (.int 1)], .num (.float (1 / 2))]) with
    | ⟨.null, _⟩ => true
    | _ => false) = true := by decide +kernel

/-- the hypotheses of `spelling_irrelevant` are inhabited by a non-trivial pair (numbers at depth 2, both spellings) -/
example : List.map absV [Val.arr [.num (.int 1), .arr [.num (.float 2)]], .num (.float 0)]
    = List.map absV [Val.arr [.num (.float 1), .arr [.num (.int 2)]], .num (.int 0)] := by
  simp [abs_int, abs_float]

/-- the hypotheses of `roundNumber_refines` are inhabited: the identity rounding (exact arithmetic), k = 2 -/
example : roundNumberH id (.float (5 / 4)) (.float 2) = roundNumberA id (5 / 4) 2 :=
  roundNumber_refines id (.float (5 / 4)) 2 (.float 2) (by decide) (Or.inr rfl) (fun _ => rfl) (fun _ => rfl) rfl rfl

end C12
