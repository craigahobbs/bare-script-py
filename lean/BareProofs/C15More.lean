import BareProofs.C15MoreLemmas

/-!
# C15More — the extended library model `LibMore.effMore` (fewer `unmodelled` answers) keeps every C15 guarantee

Model: `BareModel/LibMore.lean` (`effMore T f args h`: `arrayJoin` over every element type, `stringNew`, `arraySort` without a
compare function; everything else falls back to `Lib.eff`).  `T : TextFns` is the text oracle for float `repr` and zoned datetime
text; every theorem holds for **every** `T`, every heap, argument list and history.
-/

namespace C15More
open Lib LibMore

/-- the mutators of the extended model: `arraySort` sorts in place -/
def mutatorsMore : List String := C15.mutators ++ ["arraySort"]

theorem newNames_not_alloc : ∀ f ∈ newNames, f ∉ C15.allocators := by decide +kernel

/-- what `C15.eff_shape` says of `Lib.eff` holds of the extended model, with `arraySort` one more mutator -/
theorem effMore_shape_all (T : TextFns) (f : String) (args : List Value) (h : Heap) :
    (f ∈ C15.allocators → C15.AllocLike (effMore T f args h)) ∧ (f ∉ C15.allocators → C15.NoAlloc (effMore T f args h)) ∧
    C15.FailsWith (Spec.docFail f args) (effMore T f args h) ∧
    ∀ r c v, effMore T f args h = .store r c v → f ∈ mutatorsMore ∧ C15.StoreFirst args r c := by
  by_cases hf : f ∈ newNames
  · have hs := effMore_shape T hf args h
    refine ⟨fun ha => absurd ha (newNames_not_alloc f hf), fun _ => hs.noAlloc (by unfold clsMore; split <;> nofun),
      docFail_new f hf args ▸ hs.fails, fun r c v he => ?_⟩
    obtain ⟨hm, hst⟩ := hs.store r c v he
    refine ⟨?_, hst⟩
    unfold clsMore at hm
    split at hm
    · subst f; decide
    · cases hm
  · rw [effMore_old T hf]
    obtain ⟨h1, h2, h3, h4⟩ := C15.eff_shape f args h
    exact ⟨h1, h2, h3, fun r c v he => (h4 r c v he).imp_left (List.mem_append_left _)⟩

theorem effMore_store (T : TextFns) (f : String) (args : List Value) (h : Heap) (r : Nat) (c : Cell) (v : Value)
    (he : effMore T f args h = .store r c v) : f ∈ mutatorsMore ∧ C15.StoreFirst args r c :=
  (effMore_shape_all T f args h).2.2.2 r c v he

/-- **Frame.** A call of the extended model changes no existing cell except — for the nine mutators of C15 and `arraySort` — the
cell of the container passed as first argument.  In particular `arrayJoin` and `stringNew` leave every container as it was, whatever
they read (nested containers included), and `arraySort` leaves every container other than the sorted array as it was. -/
theorem more_frame (T : TextFns) (f : String) (args : List Value) (h : Heap) (r : Nat) (hr : r < h.length)
    (hnot : ¬ (f ∈ mutatorsMore ∧ (args.head? = some (.arr r) ∨ args.head? = some (.obj r)))) :
    (libMore T f args h).2[r]? = h[r]? :=
  C15.run_frame_first h hr (effMore_store T f args h r) hnot

/-- hypotheses inhabited: sorting array 0 leaves array 1 (which it reads: it is an element) untouched -/
example : ¬ ("arraySort" ∈ mutatorsMore ∧
    (([.arr 0] : List Value).head? = some (.arr 1) ∨ ([.arr 0] : List Value).head? = some (.obj 1))) :=
  fun h => by rcases h.2 with h | h <;> cases h

/-- a mutator keeps the kind of the cell it overwrites -/
theorem more_frame_kind (T : TextFns) (f : String) (args : List Value) (h : Heap) (r : Nat) (c : Cell) (v : Value)
    (he : effMore T f args h = .store r c v) :
    (args.head? = some (.arr r) ∧ ∃ xs, c = .arr xs) ∨ (args.head? = some (.obj r) ∧ ∃ kvs, c = .obj kvs) :=
  (effMore_store T f args h r c v he).2.head

/-- the heap never shrinks and only the allocators of C15 grow it (the three new functions never do) -/
theorem more_length (T : TextFns) (f : String) (args : List Value) (h : Heap) :
    h.length ≤ (libMore T f args h).2.length ∧ (f ∉ C15.allocators → (libMore T f args h).2.length = h.length) :=
  ⟨C15.run_length_le _ _, fun hna => C15.run_length_of_noAlloc h ((effMore_shape_all T f args h).2.1 hna)⟩

/-- **Freshness.** A successful allocator returns a reference that is not allocated before the call, the heap after the call is
the old heap plus exactly that cell.  (Same list of allocators as C15: `arrayJoin`/`stringNew` return strings, `arraySort` returns its
argument — see `arraySort_returns_argument`.) -/
theorem more_fresh (T : TextFns) (f : String) (hf : f ∈ C15.allocators) (args : List Value) (h h' : Heap) (v : Value)
    (hok : libMore T f args h = (.ok v, h')) :
    ∃ c, h' = h ++ [c] ∧ v = refOf c h.length ∧ h'[h.length]? = some c ∧ ∀ r, r < h.length → h'[r]? = h[r]? := by
  unfold libMore at hok
  rw [effMore_old T fun hn => newNames_not_alloc f hn hf] at hok
  exact C15.lib_fresh f hf args h h' v hok

/-- hypotheses inhabited: a copy of an array that holds a nested array is a new cell -/
example : "arrayCopy" ∈ C15.allocators ∧
    libMore TextFns.none "arrayCopy" [.arr 0] [.arr [numN 1, .arr 0]] = (.ok (.arr 1), [.arr [numN 1, .arr 0], .arr [numN 1, .arr 0]]) := by
  rw [libMore_eq_specLibMore]
  decide +kernel

/-- `arraySort` is not an allocator: on success it returns the very reference it was given, and the heap keeps its length -/
theorem arraySort_returns_argument (T : TextFns) (args : List Value) (h h' : Heap) (v : Value)
    (hok : libMore T "arraySort" args h = (.ok v, h')) :
    args.head? = some v ∧ h'.length = h.length ∧ ∃ r xs, v = .arr r ∧ h' = h.set r (.arr xs) := by
  rw [libMore, effMore_arraySort, C15.callRow] at hok
  split at hok
  · cases hok
  · rename_i va hv
    rcases arraySortM_form va h with hu | ⟨r, xs, rest, rfl, hs⟩
    · rw [hu] at hok; cases hok
    · obtain ⟨as, rfl⟩ := C15.validate_head_ref h _ args _ _ hv (by simp [C15.IsRef])
      rw [hs] at hok
      obtain ⟨rfl, rfl⟩ : Value.arr r = v ∧ h.set r (.arr xs) = h' := by simpa [Eff.run] using hok
      exact ⟨rfl, by simp, r, xs, rfl, rfl⟩

/-- **Failure.** A failing call of the extended model — wrong-typed, missing or surplus argument; out-of-range index; …; for the new
functions also a non-function `compareFn`, and a container that reaches itself handed to `stringNew`/`arrayJoin` (`json` raises
`ValueError`) — leaves the heap exactly as it was and evaluates to the documented failure value (`null` for the three new
functions). -/
theorem more_fail_unchanged (T : TextFns) (f : String) (args : List Value) (h : Heap) (v : Value)
    (hf : (libMore T f args h).1 = .fail v) : (libMore T f args h).2 = h ∧ v = Spec.docFail f args :=
  C15.run_fail_unchanged hf (effMore_shape_all T f args h).2.2.1

/-- conversely, arguments that do not validate against the documented signature of a new function make the call fail -/
theorem more_invalid_fails (T : TextFns) (f : String) (hf : f ∈ newNames) (args : List Value) (h : Heap) (ms : List Gen.ArgModel)
    (hms : docSigMore.lookup f = some ms) (hbad : validate h ms args = none) :
    libMore T f args h = (.fail (Spec.docFail f args), h) := by
  obtain ⟨b, _, hb, _⟩ := newNames_lookup T hf
  unfold libMore
  rw [effMore_new T hb hms, C15.callRow, hbad, docFail_new f hf]
  rfl

/-- surplus, missing and wrong-typed arguments, a non-function comparator, a cyclic container: `null`, heap untouched -/
example : libMore TextFns.none "stringNew" [.null, .null] [] = (.fail .null, []) := by
  rw [libMore_eq_specLibMore]; decide +kernel
example : libMore TextFns.none "arraySort" [] [] = (.fail .null, []) := by
  rw [libMore_eq_specLibMore]; decide +kernel
example : libMore TextFns.none "arraySort" [.arr 0, numN 1] [.arr [numN 2, numN 1]] = (.fail .null, [.arr [numN 2, numN 1]]) := by
  rw [libMore_eq_specLibMore]; decide +kernel
example : libMore TextFns.none "arrayJoin" [.arr 0] [.arr []] = (.fail .null, [.arr []]) := by
  rw [libMore_eq_specLibMore]; decide +kernel
example : libMore TextFns.none "stringNew" [.arr 0] [.arr [.arr 0]] = (.fail .null, [.arr [.arr 0]]) := by
  rw [libMore_eq_specLibMore]; decide +kernel

/-- **history_refines_more.** For every sequence of calls (any length, any arguments, any initial pool, any oracle) the state
reached by the extended Python-shaped model — all variables and the whole heap — is the fold of the specification operations. -/
theorem history_refines_more (T : TextFns) (cs : List Call) (s : St) :
    runHistory (libMore T) cs s = runHistory (specLibMore T) cs s := by
  rw [libMore_eq_specLibMore]

theorem history_heap_le_more (T : TextFns) (cs : List Call) (s : St) :
    s.heap.length ≤ (runHistory (libMore T) cs s).heap.length :=
  C15.runHistory_heap_le (fun f args h => (more_length T f args h).1) cs s

/-- container `r` is never passed first to a mutator (incl. `arraySort`) along the history -/
def UntouchedMore (T : TextFns) (r : Nat) : List Call → St → Prop
  | [], _ => True
  | c :: cs, s =>
    ¬ (c.fn ∈ mutatorsMore ∧ ((c.args.map (evalArg s.env)).head? = some (.arr r) ∨ (c.args.map (evalArg s.env)).head? = some (.obj r))) ∧
    UntouchedMore T r cs (step (libMore T) s c)

/-- **history_frame_more.** Along any history of the extended model a container keeps its contents as long as it is not itself
passed first to a mutator — in particular a copy made before an `arraySort` of the original keeps the old order. -/
theorem history_frame_more (T : TextFns) (r : Nat) (cs : List Call) (s : St) (hr : r < s.heap.length)
    (hu : UntouchedMore T r cs s) : (runHistory (libMore T) cs s).heap[r]? = s.heap[r]? := by
  induction cs generalizing s with
  | nil => rfl
  | cons c cs ih =>
    obtain ⟨h1, h2⟩ := hu
    simp only [runHistory, List.foldl_cons] at ih ⊢
    have hlen : r < (step (libMore T) s c).heap.length := Nat.lt_of_lt_of_le hr (more_length T c.fn _ s.heap).1
    rw [ih (step (libMore T) s c) hlen h2]
    exact more_frame T c.fn _ s.heap r hr h1

/-- a history of the extended model in which `Lib` answers every call is the `Lib` history -/
def AllOld : List Call → St → Prop
  | [], _ => True
  | c :: cs, s => (lib c.fn (c.args.map (evalArg s.env)) s.heap).1 ≠ .unmodelled ∧ AllOld cs (step lib s c)

theorem history_conservative (T : TextFns) (cs : List Call) (s : St) (ho : AllOld cs s) :
    runHistory (libMore T) cs s = runHistory lib cs s := by
  induction cs generalizing s with
  | nil => rfl
  | cons c cs ih =>
    obtain ⟨h1, h2⟩ := ho
    simp only [runHistory, List.foldl_cons] at ih ⊢
    have : step (libMore T) s c = step lib s c := by
      simp only [step, libMore_conservative T _ _ _ h1]
    rw [this]
    exact ih _ h2

/-- hypotheses inhabited: a history of calls `Lib` already answers -/
example : AllOld [⟨"arrayPush", [.var 0, .lit (numN 4)]⟩, ⟨"arrayJoin", [.var 0, .lit (.str "+")]⟩] ⟨[.arr 0], [.arr [numN 3]]⟩ := by
  simp only [AllOld, step, lib, C15.lib_spec_partial]
  decide +kernel

/-- pool: cell 0 = `[3, 1, 2]`; `a = v0`, `alias = v1`; then `c = arrayCopy(a)`, `arraySort(alias)`, `s = arrayJoin(a, ",")`,
`t = stringNew(c)`, `x = arrayGet(a, 0)` -/
def demo : List Call := [⟨"arrayCopy", [.var 0]⟩, ⟨"arraySort", [.var 1]⟩, ⟨"arrayJoin", [.var 0, .lit (.str ",")]⟩,
  ⟨"stringNew", [.var 2]⟩, ⟨"arrayGet", [.var 0, .lit (numN 0)]⟩]
def demo0 : St := ⟨[.arr 0, .arr 0], [.arr [numN 3, numN 1, numN 2]]⟩

/-- the sort through one alias is seen through the other, the copy keeps the old order, `arraySort` returns its argument -/
example : runHistory (libMore TextFns.none) demo demo0 =
    ⟨[.arr 0, .arr 0, .arr 1, .arr 0, .str "1,2,3", .str "[3,1,2]", numN 1],
     [.arr [numN 1, numN 2, numN 3], .arr [numN 3, numN 1, numN 2]]⟩ := by
  rw [libMore_eq_specLibMore]
  decide +kernel

/-- `history_frame_more` applies to the copy (cell 1) in the rest of that history -/
example : UntouchedMore TextFns.none 1 (demo.drop 1) (runHistory (libMore TextFns.none) (demo.take 1) demo0) := by
  simp only [demo, List.drop, UntouchedMore]; decide +kernel

/-- nested containers, an object (keys sorted, `ensure_ascii`), a function and a regex inside JSON, oracle texts -/
example : libMore ⟨fun q => if q = mkRat 5 2 then some "2.5" else none, fun _ => some "2024-01-02T03:04:05+00:00"⟩ "stringNew" [.arr 0]
      [.arr [.num (mkRat 5 2), .obj 1, .dt 7, .fn 0, .regex 0], .obj [("é", .null), ("B", .bool true)]] =
    (.ok (.str "[2.5,{\"B\":true,\"\\u00e9\":null},\"2024-01-02T03:04:05+00:00\",\"<function>\",null]"),
      [.arr [.num (mkRat 5 2), .obj 1, .dt 7, .fn 0, .regex 0], .obj [("é", .null), ("B", .bool true)]]) := by
  rw [libMore_eq_specLibMore]
  decide +kernel

end C15More
