import BareModel.Text
import BareModel.Scan
import BareProofs.C02Lemmas

/-!
# C10 — the text layer and the statement cascade

Cuts of `Text.splitLinesL` and the line loop `loopK`; blank runs, first and last non-blank character; the recognisers of
`BareModel/Scan.lean` piece by piece (`keyword?`, `ident?`, the assignment pattern as a head `name = ` in front of any
expression text, the `for` and `function` patterns), each of them and the cascade under trailing blanks
(`shapeS_append_ws`); `shape` and `classifyL` under indentation (`EqUpToColumn`); the cascade `Scan.shapeS` as a fold over
patterns that exclude each other.
-/

namespace C10
open Text Scan

/-! ## physical lines -/

theorem splitLinesL_cons (c : Char) (rest : Chars) :
    splitLinesL (c :: rest) =
      if c = '\n' then [] :: splitLinesL rest
      else if c = '\r' ∧ rest.head? = some '\n' then [] :: splitLinesL rest.tail
      else consHead c (splitLinesL rest) := by
  by_cases h1 : c = '\n'
  · subst h1; simp [splitLinesL]
  · by_cases h2 : c = '\r' ∧ rest.head? = some '\n'
    · obtain ⟨hc, hr⟩ := h2
      subst hc
      cases rest with
      | nil => simp at hr
      | cons d rest' =>
        simp at hr; subst hr
        simp [splitLinesL]
    · simp only [h1, h2, if_false]
      rw [splitLinesL]
      · exact h1
      · intro r hc hr; exact h2 ⟨hc, by simp [hr]⟩

theorem splitLinesL_ne_nil (t : Chars) : splitLinesL t ≠ [] := by
  induction t with
  | nil => simp [splitLinesL]
  | cons c rest ih =>
    rw [splitLinesL_cons]; split
    · simp
    · split
      · simp
      · cases h : splitLinesL rest <;> simp [consHead]

theorem consHead_append (c : Char) {xs : List Chars} (ys : List Chars) (h : xs ≠ []) :
    consHead c (xs ++ ys) = consHead c xs ++ ys := by
  cases xs with
  | nil => exact absurd rfl h
  | cons x xs => simp [consHead]

theorem getLast?_cons_ne {α} (c : α) {l : List α} (h : l ≠ []) : (c :: l).getLast? = l.getLast? := by
  cases l with
  | nil => exact absurd rfl h
  | cons x xs => simp [List.getLast?_cons_cons]

theorem getLast?_tail_ne {α} {c x : α} {l : List α} (h : (c :: l).getLast? ≠ some x) : l.getLast? ≠ some x := by
  cases l with
  | nil => simp
  | cons y ys => rwa [getLast?_cons_ne c (by simp)] at h

/-- a cut at a line terminator (CRLF, or LF not preceded by `\r`) -/
theorem split_append_eol (a b : Chars) (crlf : Bool) (h : crlf = false → a.getLast? ≠ some '\r') :
    splitLinesL (a ++ (if crlf then ['\r', '\n'] else ['\n']) ++ b) = splitLinesL a ++ splitLinesL b := by
  fun_induction splitLinesL a with
  | case1 => cases crlf <;> simp [splitLinesL]
  | case2 rest ih => simpa [splitLinesL] using ih fun e => getLast?_tail_ne (h e)
  | case3 rest ih => simpa [splitLinesL] using ih fun e => getLast?_tail_ne (getLast?_tail_ne (h e))
  | case4 c rest hc hcr ih =>
    have h2 : ¬ (c = '\r' ∧ (rest ++ (if crlf then ['\r', '\n'] else ['\n']) ++ b).head? = some '\n') := by
      rintro ⟨e1, e2⟩
      cases rest with
      | nil =>
        cases crlf with
        | false => exact h rfl (by simp [e1])
        | true => simp at e2
      | cons x xs => simp at e2; exact hcr xs e1 (by rw [e2])
    rw [List.cons_append, List.cons_append, splitLinesL_cons, if_neg fun e => hc e, if_neg h2,
      ih fun e => getLast?_tail_ne (h e), consHead_append _ _ (splitLinesL_ne_nil rest)]

theorem split_append_lf (a b : Chars) (h : a.getLast? ≠ some '\r') :
    splitLinesL (a ++ '\n' :: b) = splitLinesL a ++ splitLinesL b := by
  simpa using split_append_eol a b false fun _ => h

theorem split_no_nl {l : Chars} (h : '\n' ∉ l) : splitLinesL l = [l] := by
  induction l with
  | nil => simp [splitLinesL]
  | cons c rest ih =>
    have hc : c ≠ '\n' := fun e => h (by simp [e])
    have hr : '\n' ∉ rest := fun m => h (List.mem_cons_of_mem _ m)
    have h2 : ¬ (c = '\r' ∧ rest.head? = some '\n') := fun ⟨_, e2⟩ => hr (List.mem_of_mem_head? e2)
    rw [splitLinesL_cons, if_neg hc, if_neg h2, ih hr]; rfl

theorem mem_consHead {c : Char} {xs : List Chars} {l : Chars} (h : l ∈ consHead c xs) :
    (∃ l', l = c :: l' ∧ (l' ∈ xs ∨ l' = [])) ∨ l ∈ xs := by
  cases xs with
  | nil => simp [consHead] at h; exact .inl ⟨[], h, .inr rfl⟩
  | cons x xs =>
    simp [consHead] at h
    rcases h with h | h
    · exact .inl ⟨x, h, .inl (by simp)⟩
    · exact .inr (by simp [h])

/-- a text ending in a line feed: its lines, then one empty line; the same lines start any text that continues it -/
theorem split_snoc_nl (a : Chars) :
    ∃ X, splitLinesL (a ++ ['\n']) = X ++ [[]] ∧ ∀ b, splitLinesL (a ++ '\n' :: b) = X ++ splitLinesL b := by
  by_cases h : a.getLast? = some '\r'
  · -- the final `\r` belongs to the terminator
    obtain ⟨a0, rfl⟩ := List.getLast?_eq_some_iff.mp h
    have := fun b => split_append_eol a0 b true nofun
    exact ⟨splitLinesL a0, by simpa [splitLinesL] using this [], fun b => by simpa using this b⟩
  · have := fun b => split_append_lf a b h
    exact ⟨splitLinesL a, by simpa [splitLinesL] using this [], this⟩

/-! ## the line loop -/

/-- the loop of `Text.loopL` over the numbered non-comment lines (`Text.kept`) -/
def loopK : List (Nat × Chars) → List Chars → Nat → LLOut
  | [], cont, ixLine => ([], if cont.isEmpty then none else some (ixLine, joinSp cont))
  | (i, part) :: rest, cont, ixLine =>
    let isContinued := !cont.isEmpty
    let ixLine := if isContinued then ixLine else i
    match contBody? part with
    | some nc => loopK rest (cont ++ [if isContinued then stripL nc else rstripL nc]) ixLine
    | none =>
      if isContinued then emit (ixLine, joinSp (cont ++ [stripL part])) (loopK rest [] ixLine)
      else emit (ixLine, part) (loopK rest [] ixLine)

theorem loopK_cons (i : Nat) (part : Chars) (rest : List (Nat × Chars)) (cont : List Chars) (ix : Nat) :
    loopK ((i, part) :: rest) cont ix =
      match contBody? part with
      | some nc => loopK rest (cont ++ [if cont.isEmpty then rstripL nc else stripL nc]) (if cont.isEmpty then i else ix)
      | none => emit (if cont.isEmpty then i else ix, if cont.isEmpty then part else joinSp (cont ++ [stripL part]))
          (loopK rest [] (if cont.isEmpty then i else ix)) := by
  rw [loopK]
  cases contBody? part <;> cases cont.isEmpty <;> rfl

theorem loopL_eq_loopK (lines : List Chars) : ∀ (i : Nat) (cont : List Chars) (ix : Nat),
    loopL i lines cont ix = loopK (kept i lines) cont ix := by
  induction lines with
  | nil => intro i cont ix; simp [loopL, kept, loopK]
  | cons l ls ih =>
    intro i cont ix
    by_cases hc : isCommentL l = true
    · simp [loopL, kept, hc, ih]
    · simp only [loopL, kept, hc, if_false, loopK, Bool.false_eq_true]
      cases contBody? l <;> simp [ih]

theorem loopK_nil_ix (xs : List (Nat × Chars)) (ix ix' : Nat) : loopK xs [] ix = loopK xs [] ix' := by
  cases xs with
  | nil => simp [loopK]
  | cons x xs => obtain ⟨i, p⟩ := x; simp [loopK]

/-! ### runs -/

theorem runs_open : ∀ (pend : List (Nat × Chars)), pend ≠ [] → (∀ p ∈ pend, hasCont p.2 = true) → runs pend = [pend]
  | [p], _, h => by simp [runs, h p]
  | p :: q :: qs, _, h => by
    rw [runs, if_pos (h p (by simp)), runs_open (q :: qs) (by simp) fun x hx => h x (List.mem_cons_of_mem _ hx)]

theorem runs_close (x : Nat × Chars) (xs : List (Nat × Chars)) (hx : hasCont x.2 = false) :
    ∀ pend : List (Nat × Chars), (∀ p ∈ pend, hasCont p.2 = true) → runs (pend ++ x :: xs) = (pend ++ [x]) :: runs xs
  | [], _ => by simp [runs, hx]
  | p :: ps, h => by
    rw [List.cons_append, runs, if_pos (h p (by simp)), runs_close x xs hx ps fun y hy => h y (List.mem_cons_of_mem _ hy)]
    rfl

theorem runParts_snoc (pend : List (Nat × Chars)) (x : Nat × Chars) :
    runParts (pend ++ [x]) =
      runParts pend ++ [if pend = [] then rstripL (stripContinuationL x.2) else stripL (stripContinuationL x.2)] := by
  cases pend <;> simp [runParts]

theorem runIndex_snoc (pend : List (Nat × Chars)) (x : Nat × Chars) :
    runIndex (pend ++ [x]) = if pend = [] then x.1 else runIndex pend := by
  cases pend <;> simp [runIndex]

theorem complete_snoc (pend : List (Nat × Chars)) (x : Nat × Chars) : complete (pend ++ [x]) = !hasCont x.2 := by
  simp [complete]

theorem runParts_isEmpty (pend : List (Nat × Chars)) : (runParts pend).isEmpty = pend.isEmpty := by
  cases pend <;> simp [runParts]

theorem loopK_eq_spec (xs : List (Nat × Chars)) : ∀ pend : List (Nat × Chars), (∀ p ∈ pend, hasCont p.2 = true) →
    loopK xs (runParts pend) (runIndex pend) = specRuns (runs (pend ++ xs)) := by
  induction xs with
  | nil =>
    intro pend h
    cases pend with
    | nil => rfl
    | cons p ps =>
      have hc : complete (p :: ps) = false := by
        simp only [complete]; split
        · next x hx => simp [h x (List.mem_of_getLast? hx)]
        · rfl
      rw [List.append_nil, runs_open _ (by simp) h]
      simp [specRuns, hc, loopK, runParts]
  | cons x xs ih =>
    intro pend h
    obtain ⟨i, part⟩ := x
    rw [loopK_cons, runParts_isEmpty]
    cases hb : contBody? part with
    | some nc =>
      -- a continued part: it joins the pending run
      have := ih (pend ++ [(i, part)]) fun p hp => by
        rcases List.mem_append.mp hp with hp | hp
        · exact h p hp
        · simp [List.mem_singleton.mp hp, hasCont, hb]
      rw [List.append_assoc, List.singleton_append, runParts_snoc, runIndex_snoc] at this
      rw [← this]
      cases pend <;> simp [stripContinuationL, hb]
    | none =>
      -- the part ends the run
      have hx : hasCont part = false := by simp [hasCont, hb]
      have ih0 : loopK xs [] 0 = specRuns (runs xs) := ih [] (by simp)
      rw [runs_close (i, part) xs hx pend h, specRuns, complete_snoc, hx, Bool.not_false, if_pos rfl, ← ih0]
      cases pend with
      | nil => simp [joinRun, loopK_nil_ix xs i 0]
      | cons p ps =>
        have hj : joinRun (p :: ps ++ [(i, part)]) = (runIndex (p :: ps), joinSp (runParts (p :: ps) ++ [stripL part])) := by
          cases ps <;> simp [joinRun, runIndex, runParts, stripContinuationL, hb]
        rw [hj]; simp [loopK_nil_ix xs _ 0, runParts]

/-! ### what the loop depends on -/

/-- the observable texts of a loop result: logical line texts and the dangling text -/
def texts (r : LLOut) : List Chars × Option Chars := (r.1.map Prod.snd, r.2.map Prod.snd)

def reindex (f : Nat → Nat) (r : LLOut) : LLOut :=
  (r.1.map (fun x => (f x.1, x.2)), r.2.map (fun x => (f x.1, x.2)))

theorem texts_emit (x : Nat × Chars) (r : LLOut) : texts (emit x r) = (x.2 :: (texts r).1, (texts r).2) := rfl

theorem reindex_emit (f : Nat → Nat) (x : Nat × Chars) (r : LLOut) :
    reindex f (emit x r) = emit (f x.1, x.2) (reindex f r) := rfl

theorem texts_reindex (f : Nat → Nat) (r : LLOut) : texts (reindex f r) = texts r := by
  obtain ⟨a, b⟩ := r
  simp [texts, reindex, Function.comp_def]

theorem loopK_texts : ∀ (xs ys : List (Nat × Chars)) (cont : List Chars) (ix ix' : Nat),
    xs.map Prod.snd = ys.map Prod.snd → texts (loopK xs cont ix) = texts (loopK ys cont ix')
  | [], [], cont, _, _, _ => by cases cont <;> rfl
  | [], _ :: _, _, _, _, h => by simp at h
  | _ :: _, [], _, _, _, h => by simp at h
  | (i, p) :: xs, (j, q) :: ys, cont, ix, ix', h => by
    obtain ⟨rfl, h'⟩ : p = q ∧ xs.map Prod.snd = ys.map Prod.snd := by simpa using h
    rw [loopK_cons, loopK_cons]
    cases contBody? p with
    | some nc => exact loopK_texts xs ys _ _ _ h'
    | none => rw [texts_emit, texts_emit, loopK_texts xs ys [] _ _ h']

theorem loopK_reindex (f : Nat → Nat) : ∀ (xs : List (Nat × Chars)) (cont : List Chars) (ix : Nat),
    loopK (xs.map (fun x => (f x.1, x.2))) cont (f ix) = reindex f (loopK xs cont ix)
  | [], cont, ix => by cases cont <;> rfl
  | (i, p) :: xs, cont, ix => by
    rw [List.map_cons, loopK_cons, loopK_cons, ← apply_ite f]
    cases contBody? p with
    | some nc => exact loopK_reindex f xs _ _
    | none => simp only [reindex_emit, loopK_reindex f xs]

/-! ### kept lines -/

theorem kept_map_snd (ls : List Chars) : ∀ i, (kept i ls).map Prod.snd = ls.filter (fun l => !isCommentL l) := by
  induction ls with
  | nil => intro i; rfl
  | cons l ls ih => intro i; by_cases h : isCommentL l = true <;> simp [kept, h, ih]

theorem kept_append (a b : List Chars) : ∀ i, kept i (a ++ b) = kept i a ++ kept (i + a.length) b := by
  induction a with
  | nil => intro i; simp [kept]
  | cons l ls ih =>
    intro i
    have e : i + 1 + ls.length = i + (ls.length + 1) := by omega
    by_cases h : isCommentL l = true <;> simp [kept, h, ih, e]

theorem kept_shift (k : Nat) (ls : List Chars) : ∀ i, kept (i + k) ls = (kept i ls).map (fun x => (x.1 + k, x.2)) := by
  induction ls with
  | nil => intro i; rfl
  | cons l ls ih =>
    intro i
    have e : i + k + 1 = i + 1 + k := by omega
    by_cases h : isCommentL l = true <;> simp [kept, h, e, ih]

theorem kept_bounds (ls : List Chars) : ∀ i, ∀ x ∈ kept i ls, i ≤ x.1 ∧ x.1 < i + ls.length := by
  induction ls with
  | nil => intro i x hx; simp [kept] at hx
  | cons l ls ih =>
    intro i x hx
    by_cases h : isCommentL l = true
    · simp [kept, h] at hx
      have := ih (i + 1) x hx
      simp; omega
    · simp [kept, h] at hx
      rcases hx with hx | hx
      · subst hx; simp
      · have := ih (i + 1) x hx
        simp; omega

theorem loopK_append_clean : ∀ (xs ys : List (Nat × Chars)) (cont : List Chars) (ix : Nat),
    (loopK xs cont ix).2 = none →
    loopK (xs ++ ys) cont ix = ((loopK xs cont ix).1 ++ (loopK ys [] 0).1, (loopK ys [] 0).2)
  | [], ys, [], ix, _ => by simp [loopK, loopK_nil_ix ys ix 0]
  | [], ys, _ :: _, ix, h => by simp [loopK] at h
  | (i, p) :: xs, ys, cont, ix, h => by
    rw [List.cons_append, loopK_cons]
    rw [loopK_cons] at h ⊢
    cases hb : contBody? p with
    | some nc => rw [hb] at h; exact loopK_append_clean xs ys _ _ h
    | none => rw [hb] at h; simp only [emit, loopK_append_clean xs ys _ _ h, List.cons_append]

/-! ## blank runs; first / last non-blank character -/

theorem dropWhile_eq_nil_iff' {α} (p : α → Bool) (l : List α) : l.dropWhile p = [] ↔ ∀ x ∈ l, p x = true := by
  induction l with
  | nil => simp
  | cons a l ih => by_cases h : p a = true <;> simp [h, ih]

theorem dropWhile_head_not {α} (p : α → Bool) {l : List α} {c : α} {cs : List α} (h : l.dropWhile p = c :: cs) :
    p c = false := by
  have := List.head?_dropWhile_not p l
  rwa [h] at this

theorem dropWhile_idem {α} (p : α → Bool) (l : List α) : (l.dropWhile p).dropWhile p = l.dropWhile p := by
  cases h : l.dropWhile p with
  | nil => rfl
  | cons c cs => simp [dropWhile_head_not p h]

theorem takeDrop_append_of_ne {α : Type} (p : α → Bool) : ∀ (t ws : List α), t.dropWhile p ≠ [] →
    (t ++ ws).takeWhile p = t.takeWhile p ∧ (t ++ ws).dropWhile p = t.dropWhile p ++ ws
  | [], _, h => by simp at h
  | a :: as, ws, h => by
    by_cases ha : p a = true
    · have h' : as.dropWhile p ≠ [] := by simpa [ha] using h
      have := takeDrop_append_of_ne p as ws h'
      simp [ha, this.1, this.2]
    · simp [ha]

def firstNS (l : Chars) : Option Char := (lstripL l).head?
def lastNS (l : Chars) : Option Char := (l.reverse.dropWhile isSpace).head?

theorem firstNS_append (a b : Chars) : firstNS (a ++ b) = (firstNS a).or (firstNS b) := by
  unfold firstNS lstripL
  rw [List.dropWhile_append]
  cases h : List.dropWhile isSpace a <;> simp

theorem lastNS_append (a b : Chars) : lastNS (a ++ b) = (lastNS b).or (lastNS a) := by
  unfold lastNS
  rw [List.reverse_append, List.dropWhile_append]
  cases h : List.dropWhile isSpace b.reverse <;> simp

theorem firstNS_none_iff (l : Chars) : firstNS l = none ↔ allSpace l = true := by
  unfold firstNS lstripL allSpace
  rw [List.head?_eq_none_iff, dropWhile_eq_nil_iff']; simp [List.all_eq_true]

theorem lastNS_none_iff (l : Chars) : lastNS l = none ↔ allSpace l = true := by
  unfold lastNS allSpace
  rw [List.head?_eq_none_iff, dropWhile_eq_nil_iff']; simp [List.all_eq_true]

theorem firstNS_allSpace {ws : Chars} (h : allSpace ws = true) : firstNS ws = none := (firstNS_none_iff ws).mpr h

theorem lastNS_allSpace {ws : Chars} (h : allSpace ws = true) : lastNS ws = none := (lastNS_none_iff ws).mpr h

theorem lstrip_allSpace {ws : Chars} (hws : allSpace ws = true) : lstripL ws = [] :=
  List.head?_eq_none_iff.mp (firstNS_allSpace hws)

theorem firstNS_cons_nonspace {c : Char} (l : Chars) (h : isSpace c = false) : firstNS (c :: l) = some c := by
  simp [firstNS, lstripL, List.dropWhile, h]

theorem lstrip_decomp (a : Chars) : ∃ ws, allSpace ws = true ∧ a = ws ++ lstripL a :=
  ⟨a.takeWhile isSpace, by simp [allSpace],
    (List.takeWhile_append_dropWhile (p := isSpace) (l := a)).symm⟩

theorem rstrip_decomp (a : Chars) : ∃ ws, allSpace ws = true ∧ a = rstripL a ++ ws := by
  refine ⟨(a.reverse.takeWhile isSpace).reverse, ?_, ?_⟩
  · simp [allSpace]
  · have := (List.takeWhile_append_dropWhile (p := isSpace) (l := a.reverse))
    have h2 := congrArg List.reverse this
    simp only [List.reverse_append, List.reverse_reverse] at h2
    exact h2.symm

theorem firstNS_rstrip (a : Chars) : firstNS (rstripL a) = firstNS a := by
  obtain ⟨ws, hws, ha⟩ := rstrip_decomp a
  conv => rhs; rw [ha]
  rw [firstNS_append, firstNS_allSpace hws]; simp

theorem lastNS_lstrip (a : Chars) : lastNS (lstripL a) = lastNS a := by
  obtain ⟨ws, hws, ha⟩ := lstrip_decomp a
  conv => rhs; rw [ha]
  rw [lastNS_append, lastNS_allSpace hws]; simp

theorem firstNS_lstrip (a : Chars) : firstNS (lstripL a) = firstNS a := by
  simp [firstNS, lstripL, dropWhile_idem]

theorem lastNS_rstrip (a : Chars) : lastNS (rstripL a) = lastNS a := by
  simp [lastNS, rstripL, dropWhile_idem]

theorem firstNS_strip (a : Chars) : firstNS (stripL a) = firstNS a := by
  simp [stripL, firstNS_rstrip, firstNS_lstrip]

theorem lastNS_strip (a : Chars) : lastNS (stripL a) = lastNS a := by
  simp [stripL, lastNS_rstrip, lastNS_lstrip]

theorem lstrip_append_ws {ws : Chars} (l : Chars) (h : allSpace ws = true) : lstripL (ws ++ l) = lstripL l := by
  unfold lstripL
  apply List.dropWhile_append_of_pos
  simpa [allSpace] using h

theorem dropWhile_length_le {α : Type} (p : α → Bool) (l : List α) : (l.dropWhile p).length ≤ l.length :=
  (List.dropWhile_sublist _).length_le

theorem lstrip_length_le (l : Chars) : (lstripL l).length ≤ l.length := dropWhile_length_le _ _

theorem allSpace_append (a b : Chars) : allSpace (a ++ b) = (allSpace a && allSpace b) := by
  simp [allSpace]

theorem lstrip_append_right (r ws : Chars) (hws : allSpace ws = true) :
    lstripL (r ++ ws) = if lstripL r = [] then [] else lstripL r ++ ws := by
  unfold lstripL
  rw [List.dropWhile_append]
  have : List.dropWhile isSpace ws = [] := lstrip_allSpace hws
  cases h : List.dropWhile isSpace r <;> simp [this]

/-- `\s*` in front of a text and of the same text followed by blanks: nothing else in both, or the same first
non-blank character -/
theorem lstrip_append_cases {ws : Chars} (hws : allSpace ws = true) (r : Chars) :
    (lstripL r = [] ∧ lstripL (r ++ ws) = []) ∨ ∃ c cs, lstripL r = c :: cs ∧ lstripL (r ++ ws) = c :: (cs ++ ws) := by
  rw [lstrip_append_right r ws hws]
  cases h : lstripL r with
  | nil => exact .inl ⟨rfl, rfl⟩
  | cons c cs => exact .inr ⟨c, cs, rfl, rfl⟩

theorem rev_dropWhile_append_ws (r ws : Chars) (hws : allSpace ws = true) :
    (r ++ ws).reverse.dropWhile isSpace = r.reverse.dropWhile isSpace := by
  rw [List.reverse_append]
  apply List.dropWhile_append_of_pos
  intro a ha; simp [allSpace] at hws; exact hws a (by simpa using ha)

theorem lstripL_cons_ns {d : Char} (hd : isSpace d = false) (r : Chars) : lstripL (d :: r) = d :: r := by
  simp [lstripL, hd]

theorem lstripL_ws_cons {w : Chars} (hw : allSpace w = true) {d : Char} (hd : isSpace d = false) (r : Chars) :
    lstripL (w ++ d :: r) = d :: r := by
  rw [lstrip_append_ws _ hw, lstripL_cons_ns hd]

theorem lstrip_self_head {e : Chars} (he : lstripL e = e) (hne : e ≠ []) : ∃ d e1, e = d :: e1 ∧ isSpace d = false := by
  cases e with
  | nil => exact absurd rfl hne
  | cons d e1 => exact ⟨d, e1, rfl, dropWhile_head_not _ he⟩

theorem isCommentL_iff (l : Chars) : isCommentL l = true ↔ firstNS l = none ∨ firstNS l = some '#' := by
  unfold isCommentL firstNS
  cases lstripL l with
  | nil => simp
  | cons c cs => simp

theorem contBody?_none_iff (l : Chars) : contBody? l = none ↔ lastNS l ≠ some '\\' := by
  unfold contBody? lastNS
  cases h : List.dropWhile isSpace l.reverse with
  | nil => simp
  | cons c cs =>
    by_cases hc : c = '\\'
    · subst hc; simp
    · simp [hc]

theorem contBody?_some_decomp {l body : Chars} (h : contBody? l = some body) :
    ∃ ws, allSpace ws = true ∧ l = body ++ '\\' :: ws := by
  obtain ⟨ws, hws, hl⟩ := rstrip_decomp l
  refine ⟨ws, hws, hl.trans ?_⟩
  unfold contBody? at h
  split at h
  · next r heq => cases h; simp [rstripL, heq]
  · cases h

/-- the two parts of a continued line, joined: `rstrip(A) + ' ' + strip(B)` -/
def joined (A B : Chars) : Chars := rstripL A ++ ' ' :: stripL B

theorem joined_eq_joinSp (A B : Chars) : joinSp [rstripL A, stripL B] = joined A B := rfl

theorem firstNS_joined (A B : Chars) : firstNS (joined A B) = (firstNS A).or (firstNS B) := by
  unfold joined
  rw [firstNS_append, firstNS_rstrip, show (' ' :: stripL B) = [' '] ++ stripL B from rfl, firstNS_append,
    firstNS_allSpace (ws := [' ']) (by decide), firstNS_strip]
  simp

theorem lastNS_joined (A B : Chars) : lastNS (joined A B) = (lastNS B).or (lastNS A) := by
  unfold joined
  rw [lastNS_append, lastNS_rstrip, show (' ' :: stripL B) = [' '] ++ stripL B from rfl, lastNS_append,
    lastNS_allSpace (ws := [' ']) (by decide), lastNS_strip]
  simp

theorem joined_plain {A' A B : Chars} (hA : isCommentL A' = false) (hc : contBody? A' = some A)
    (hB : isCommentL B = false) (hBc : contBody? B = none) :
    isCommentL (joined A B) = false ∧ contBody? (joined A B) = none := by
  obtain ⟨ws, hws, hdec⟩ := contBody?_some_decomp hc
  have hB1 : ¬ (firstNS B = none ∨ firstNS B = some '#') := by rw [← isCommentL_iff]; simp [hB]
  have hA1 : ¬ (firstNS A' = none ∨ firstNS A' = some '#') := by rw [← isCommentL_iff]; simp [hA]
  have hA2 : firstNS A' = (firstNS A).or (some '\\') := by
    rw [hdec, firstNS_append, firstNS_cons_nonspace ws (by decide)]
  constructor
  · have : ¬ (firstNS (joined A B) = none ∨ firstNS (joined A B) = some '#') := by
      rw [firstNS_joined]
      cases hfa : firstNS A with
      | none => simpa using hB1
      | some c => rw [hA2, hfa] at hA1; simpa using hA1
    rw [← isCommentL_iff] at this; simpa using this
  · rw [contBody?_none_iff, lastNS_joined]
    have hne : lastNS B ≠ none := by
      intro h; rw [lastNS_none_iff, ← firstNS_none_iff] at h; exact hB1 (.inl h)
    cases hl : lastNS B with
    | none => exact absurd hl hne
    | some d =>
      have := (contBody?_none_iff B).mp hBc
      rw [hl] at this; simpa using this

/-! ## the statement recognisers, piece by piece

White space and word characters are disjoint; the recognisers rely on it for what follows `\w*` or `\s*`. -/

theorem space_not_word {c : Char} (h : isSpace c = true) : isWord c = false :=
  C02.space_not_word ((C02.isPySpace_eq c).trans h)

theorem word_not_space {c : Char} (h : isWord c = true) : isSpace c = false :=
  (C02.isPySpace_eq c).symm.trans (C02.word_not_space h)

/-- the line scanners' `[A-Za-z_]` is the expression scanners' (`C02.isIdStart_iff`) -/
theorem idStart_isWord {c : Char} (h : isIdStart c = true) : isWord c = true := by
  refine C02.idStart_word (C02.isIdStart_iff.mpr ?_)
  simpa only [isIdStart, Bool.or_eq_true, Bool.and_eq_true, decide_eq_true_eq, beq_iff_eq, or_assoc] using h

theorem idStart_not_space {c : Char} (h : isIdStart c = true) : isSpace c = false := word_not_space (idStart_isWord h)

theorem word_ws_split {ws : Chars} (hws : allSpace ws = true) :
    ws.takeWhile isWord = [] ∧ ws.dropWhile isWord = ws := by
  cases ws with
  | nil => simp
  | cons w ws' =>
    have hw : isSpace w = true := by simp [allSpace] at hws; exact hws.1
    simp [space_not_word hw]

theorem keyword?_self (kw : String) (r : Chars) : keyword? kw (kw.toList ++ r) = some r := by
  unfold keyword?
  have h1 : kw.toList.isPrefixOf (kw.toList ++ r) = true := by
    rw [List.isPrefixOf_iff_prefix]; exact List.prefix_append _ _
  have h2 : kw.length = kw.toList.length := by rw [String.length_toList]
  rw [h1, h2]; simp

theorem keyword?_eq_some {kw : String} {s r : Chars} (h : keyword? kw s = some r) : s = kw.toList ++ r := by
  unfold keyword? at h
  split at h
  · next hp =>
    obtain ⟨t, rfl⟩ := List.isPrefixOf_iff_prefix.mp hp
    rw [← String.length_toList, List.drop_left] at h
    cases h; rfl
  · cases h

theorem keyword?_length {kw : String} {s r : Chars} (h : keyword? kw s = some r) : kw.length + r.length = s.length := by
  rw [keyword?_eq_some h, List.length_append, String.length_toList]

theorem keyword?_head_ne (kw : String) (k c : Char) (l : Chars) (hk : kw.toList.head? = some k) (h : k ≠ c) :
    keyword? kw (c :: l) = none := by
  unfold keyword?
  cases hl : kw.toList with
  | nil => simp [hl] at hk
  | cons a as =>
    simp [hl] at hk; subst hk
    simp [List.isPrefixOf, h]

/-- an identifier `[A-Za-z_]\w*` -/
def isIdent : Chars → Bool
  | c :: cs => isIdStart c && cs.all isWord
  | [] => false

/-- the text does not start with a `\w` -/
def noWordHead : Chars → Bool
  | c :: _ => !isWord c
  | [] => true

theorem ident?_ident {nm r : Chars} (h : isIdent nm = true) (hr : noWordHead r = true) : ident? (nm ++ r) = some (nm, r) := by
  cases nm with
  | nil => simp [isIdent] at h
  | cons c cs =>
    simp only [isIdent, Bool.and_eq_true, List.all_eq_true] at h
    have h1 : (cs ++ r).takeWhile isWord = cs ∧ (cs ++ r).dropWhile isWord = r := by
      rw [List.takeWhile_append_of_pos h.2, List.dropWhile_append_of_pos h.2]
      cases r with
      | nil => simp
      | cons d r' => simp [noWordHead] at hr; simp [hr]
    simp [ident?, h.1, h1.1, h1.2]

theorem ident?_some {s name r : Chars} (h : ident? s = some (name, r)) :
    ∃ c w, name = c :: w ∧ isIdStart c = true ∧ (∀ x ∈ w, isWord x = true) ∧ s = name ++ r := by
  cases s with
  | nil => cases h
  | cons c cs =>
    simp only [ident?] at h
    split at h
    · rename_i hc
      cases h
      exact ⟨c, _, rfl, hc, List.all_eq_true.mp List.all_takeWhile, by simp [List.takeWhile_append_dropWhile]⟩
    · cases h

theorem ident?_decomp {s name r : Chars} (h : ident? s = some (name, r)) : s = name ++ r :=
  let ⟨_, _, _, _, _, e⟩ := ident?_some h; e

theorem ident?_length {s name r : Chars} (h : ident? s = some (name, r)) : r.length < s.length := by
  obtain ⟨c, w, rfl, _, _, rfl⟩ := ident?_some h
  simp only [List.cons_append, List.length_cons, List.length_append]; omega

theorem ident?_isIdent {s nm r : Chars} (h : ident? s = some (nm, r)) : isIdent nm = true := by
  cases s with
  | nil => cases h
  | cons a as =>
    simp only [ident?] at h
    split at h
    · next ha => cases h; simp [isIdent, ha]
    · cases h

theorem noWordHead_ws {w : Chars} (hw : allSpace w = true) (hne : w ≠ []) (r : Chars) : noWordHead (w ++ r) = true := by
  cases w with
  | nil => exact absurd rfl hne
  | cons c w' =>
    have : isSpace c = true := by simp [allSpace] at hw; exact hw.1
    simp [noWordHead, space_not_word this]

theorem noWordHead_ws_cons {w : Chars} (hw : allSpace w = true) {d : Char} (hd : isWord d = false) (r : Chars) :
    noWordHead (w ++ d :: r) = true := by
  cases w with
  | nil => simp [noWordHead, hd]
  | cons c w' => exact noWordHead_ws hw (by simp) _

theorem noWordHead_allSpace {w : Chars} (hw : allSpace w = true) : noWordHead w = true := by
  cases w with
  | nil => rfl
  | cons c w' => exact List.append_nil (c :: w') ▸ noWordHead_ws hw nofun []

theorem isIdent_head_ns {nm : Chars} (h : isIdent nm = true) : ∃ c cs, nm = c :: cs ∧ isSpace c = false ∧ isIdStart c = true := by
  cases nm with
  | nil => simp [isIdent] at h
  | cons c cs =>
    simp only [isIdent, Bool.and_eq_true] at h
    exact ⟨c, cs, rfl, idStart_not_space h.1, h.1⟩

theorem lstripL_ident {nm : Chars} (h : isIdent nm = true) (r : Chars) : lstripL (nm ++ r) = nm ++ r := by
  obtain ⟨c, cs, rfl, hc, -⟩ := isIdent_head_ns h
  exact lstripL_cons_ns hc _

theorem isIdent_word {nm : Chars} (h : isIdent nm = true) : ∀ c ∈ nm, isWord c = true := by
  obtain ⟨c, cs, rfl, -, hc⟩ := isIdent_head_ns h
  simp only [isIdent, Bool.and_eq_true, List.all_eq_true] at h
  intro x hx
  rcases List.mem_cons.mp hx with rfl | hx
  · exact idStart_isWord hc
  · exact h.2 x hx

theorem isIdent_noSpace {nm : Chars} (h : isIdent nm = true) : ∀ c ∈ nm, isSpace c = false := fun c hc =>
  word_not_space (isIdent_word h c hc)

theorem assign?_none {nm r : Chars} (hid : isIdent nm = true) (hr : noWordHead r = true) (h : ∀ t, lstripL r ≠ '=' :: t) :
    assign? (nm ++ r) = none := by
  unfold assign?
  rw [ident?_ident hid hr]
  dsimp only
  split
  · next t heq => exact absurd heq (h t)
  · rfl

/-- `name`, blanks, `=`, blanks, then a text that starts with a non-blank: the assignment pattern captures that text -/
theorem assign?_build {nm w1 w2 : Chars} (d : Char) (e1 : Chars) (hid : isIdent nm = true) (hw1 : allSpace w1 = true)
    (hw2 : allSpace w2 = true) (hd : isSpace d = false) :
    assign? (nm ++ (w1 ++ '=' :: (w2 ++ d :: e1))) = some (.assign nm (nm ++ (w1 ++ '=' :: w2)).length (d :: e1)) := by
  unfold assign?
  rw [ident?_ident hid (noWordHead_ws_cons hw1 (by decide) _)]
  simp only [lstripL_ws_cons hw1 (show isSpace '=' = false by decide), lstripL_ws_cons hw2 hd]
  simp; omega

theorem label?_none {nm r : Chars} (hid : isIdent nm = true) (hr : noWordHead r = true)
    (h : ∀ t, lstripL r = ':' :: t → allSpace t = false) : label? (nm ++ r) = none := by
  unfold label?
  rw [ident?_ident hid hr]
  dsimp only
  split
  · next t heq => simp [h t heq]
  · rfl

/-- the text in front of the expression of an assignment: an identifier, blanks, `=`, blanks -/
def AssignHead (name hd : Chars) : Prop :=
  ∃ c w b1 b2, name = c :: w ∧ isIdStart c = true ∧ (∀ x ∈ w, isWord x = true) ∧ allSpace b1 = true ∧
    allSpace b2 = true ∧ hd = name ++ (b1 ++ '=' :: b2)

/-- behind such a head the assignment pattern captures every non-empty text that starts with a non-blank -/
theorem assign?_head {name hd e : Chars} (h : AssignHead name hd) (he : lstripL e = e) (hne : e ≠ []) :
    assign? (hd ++ e) = some (.assign name hd.length e) := by
  obtain ⟨c, w, b1, b2, rfl, hc, hw, hb1, hb2, rfl⟩ := h
  obtain ⟨d, e1, rfl, hd⟩ := lstrip_self_head he hne
  rw [List.append_assoc, List.append_assoc]
  exact assign?_build d e1 (by simpa [isIdent, hc] using hw) hb1 hb2 hd

/-- an assignment whose expression text starts with a non-blank is such a head followed by the expression -/
theorem assign?_inv {s name e : Chars} {off : Nat} (h : assign? s = some (.assign name off e)) (he : lstripL e = e) :
    ∃ hd, AssignHead name hd ∧ s = hd ++ e ∧ off = hd.length := by
  unfold assign? at h
  cases hi : ident? s with
  | none => rw [hi] at h; cases h
  | some p =>
    obtain ⟨nm, r1⟩ := p
    obtain ⟨c, w, rfl, hc, hw, hs⟩ := ident?_some hi
    obtain ⟨b1, hb1, hr1⟩ := lstrip_decomp r1
    simp only [hi] at h
    cases h1 : lstripL r1 with
    | nil => simp [h1] at h
    | cons x r3 =>
      by_cases hx : x = '='
      · subst hx
        obtain ⟨b2, hb2, hr3⟩ := lstrip_decomp r3
        simp only [h1] at h
        cases h3 : lstripL r3 with
        | nil =>
          -- `name = ` followed by blanks only: the expression is the last blank, excluded by `he`
          exfalso
          cases hg : r3.getLast? with
          | none => simp [h3, hg] at h
          | some c' =>
            simp only [h3, hg, Option.some.injEq, Shape.assign.injEq] at h
            obtain ⟨-, -, rfl⟩ := h
            have : isSpace c' = true := by
              have hall : allSpace r3 = true := by rw [hr3, h3, List.append_nil]; exact hb2
              simp only [allSpace, List.all_eq_true] at hall
              exact hall c' (List.mem_of_getLast? hg)
            simp [lstripL, this] at he
        | cons d e0 =>
          simp only [h3, Option.some.injEq, Shape.assign.injEq] at h
          obtain ⟨rfl, rfl, rfl⟩ := h
          refine ⟨c :: w ++ (b1 ++ '=' :: b2), ⟨c, w, b1, b2, rfl, hc, hw, hb1, hb2, rfl⟩, ?_, ?_⟩
          · rw [hs, hr1, h1, hr3, h3]; simp only [List.append_assoc, List.cons_append]
          · rw [hs, hr1, h1, hr3, h3]; simp only [List.length_append, List.length_cons]; omega
      · simp [h1, hx] at h

theorem assign?_lstrip {x : Chars} {sh : Shape} (h : assign? x = some sh) : lstripL x = x := by
  unfold assign? at h
  cases x with
  | nil => simp [ident?] at h
  | cons c cs =>
    cases hc : isIdStart c with
    | false => simp [ident?, hc] at h
    | true =>
      have : isSpace c = false := by
        cases hs : isSpace c with
        | false => rfl
        | true => have := space_not_word hs; rw [idStart_isWord hc] at this; cases this
      simp [lstripL, this]

theorem lastNS_eq_of_assign_blank {s name r1 r3 : Chars} (h1 : ident? s = some (name, r1))
    (h2 : lstripL r1 = '=' :: r3) (h3 : lstripL r3 = []) : lastNS s = some '=' := by
  obtain ⟨wsA, _, hA⟩ := lstrip_decomp r1
  have hr3 : allSpace r3 = true := by
    rw [← firstNS_none_iff]; simp [firstNS, h3]
  rw [ident?_decomp h1, hA, h2, lastNS_append, lastNS_append,
    show ('=' :: r3) = ['='] ++ r3 from rfl, lastNS_append, lastNS_allSpace hr3]
  simp [lastNS, isSpace, isSpaceN]

/-- the optional `, index` group of the `for` pattern -/
def forIdx (r : Chars) : Option Chars × Chars :=
  match lstripL r with
  | ',' :: r1 =>
    match ident? (lstripL r1) with
    | some (ix, r2) => (some ix, r2)
    | none => (none, r)
  | _ => (none, r)

def forTail (len : Nat) (value : Chars) (index : Option Chars) (r : Chars) : Option Shape :=
  (ws1? r).bind fun r => (keyword? "in" r).bind fun r =>
    (exprColon? r).map fun p => .forBegin value index (len - r.length + p.1) p.2

theorem for?_eq (s : Chars) : for? s = (keyword? "for" s).bind fun r => (ws1? r).bind fun r => (ident? r).bind fun p =>
    forTail s.length p.1 (forIdx p.2).1 (forIdx p.2).2 := by
  unfold for?
  cases keyword? "for" s with
  | none => rfl
  | some r =>
    dsimp only [Option.bind_some]
    cases ws1? r with
    | none => rfl
    | some r =>
      dsimp only [Option.bind_some]
      cases ident? r with
      | none => rfl
      | some p =>
        obtain ⟨value, r2⟩ := p
        dsimp only [Option.bind_some, forTail, forIdx]
        cases ws1? _ with
        | none => rfl
        | some r5 =>
          dsimp only [Option.bind_some]
          cases keyword? "in" r5 with
          | none => rfl
          | some r6 =>
            dsimp only [Option.bind_some]
            cases exprColon? r6 with
            | none => rfl
            | some p => rfl

/-- `Scan.funcBegin?` behind the optional `async`: the nested matches of `Scan.lean`, with `isAsync` as a parameter (what
`C06Regex.funcScan_spec` compares with the regex; the lemmas on built lines and trailing blanks use `funcBegin?_eq`) -/
def funcScan (isAsync : Bool) (s1 : Chars) : Option Shape :=
  match keyword? "function" s1 with
  | none => none
  | some r =>
    match ws1? r with
    | none => none
    | some r =>
      match ident? r with
      | none => none
      | some (name, r) =>
        match lstripL r with
        | '(' :: r =>
          let r := lstripL r
          let (args, r) := match ident? r with
            | some (a, r') => let (as, r'') := argsLoop r'.length r'; (a :: as, r'')
            | none => ([], r)
          let (laa, r) := match keyword? "..." (lstripL r) with
            | some r' => (true, r')
            | none => (false, r)
          match lstripL r with
          | ')' :: r =>
            match lstripL r with
            | ':' :: r => if allSpace r then some (.funcBegin name args laa isAsync) else none
            | _ => none
          | _ => none
        | _ => none

theorem funcBegin?_scan (s : Chars) :
    funcBegin? s = match keyword? "async" s with
      | some r => funcScan true (lstripL r)
      | none => funcScan false s := by
  unfold funcBegin? funcScan
  cases keyword? "async" s <;> rfl

/-- `Scan.funcBegin?` piece by piece: the optional `async`, the opening parenthesis, the parameter names, the optional
`...`, the closing `) :` -/
def fnAsync (s : Chars) : Bool × Chars :=
  match keyword? "async" s with
  | some r => (true, lstripL r)
  | none => (false, s)

def fnOpen (r : Chars) : Option Chars :=
  match lstripL r with
  | '(' :: r => some (lstripL r)
  | _ => none

def fnArgs (r : Chars) : List Chars × Chars :=
  match ident? r with
  | some (a, r') => let (as, r'') := Scan.argsLoop r'.length r'; (a :: as, r'')
  | none => ([], r)

def fnDots (r : Chars) : Bool × Chars :=
  match keyword? "..." (lstripL r) with
  | some r' => (true, r')
  | none => (false, r)

def fnClose (name : Chars) (args : List Chars) (laa isAsync : Bool) (r : Chars) : Option Shape :=
  match lstripL r with
  | ')' :: r =>
    match lstripL r with
    | ':' :: r => if allSpace r then some (.funcBegin name args laa isAsync) else none
    | _ => none
  | _ => none

theorem funcBegin?_eq (s : Chars) : funcBegin? s =
    (keyword? "function" (fnAsync s).2).bind fun r => (ws1? r).bind fun r => (ident? r).bind fun p =>
      (fnOpen p.2).bind fun r =>
        fnClose p.1 (fnArgs r).1 (fnDots (fnArgs r).2).1 (fnAsync s).1 (fnDots (fnArgs r).2).2 := by
  unfold funcBegin?
  dsimp only [fnAsync]
  cases keyword? "function" _ with
  | none => rfl
  | some r =>
    dsimp only [Option.bind_some]
    cases ws1? r with
    | none => rfl
    | some r =>
      dsimp only [Option.bind_some]
      cases ident? r with
      | none => rfl
      | some p =>
        obtain ⟨name, r2⟩ := p
        dsimp only [Option.bind_some, fnOpen]
        cases h : lstripL r2 with
        | nil => rfl
        | cons c cs =>
          by_cases hc : c = '('
          · subst hc
            rfl
          · simp [hc]

/-- the argument loop of the `function` pattern never needs more fuel than the length of the text -/
theorem argsLoop_fuel_step : ∀ (n : Nat) (r : Chars), r.length ≤ n → Scan.argsLoop (n + 1) r = Scan.argsLoop n r := by
  intro n
  induction n with
  | zero =>
    intro r hr
    have : r = [] := List.length_eq_zero_iff.mp (by omega)
    subst this; simp [Scan.argsLoop, lstripL]
  | succ n ih =>
    intro r hr
    rw [Scan.argsLoop, Scan.argsLoop]
    cases h : lstripL r with
    | nil => rfl
    | cons c r1 =>
      have h1 : r1.length < r.length := by
        have := lstrip_length_le r; rw [h] at this; simp at this; omega
      by_cases hc : c = ','
      · subst hc
        simp only []
        cases h2 : ident? (lstripL r1) with
        | none => rfl
        | some p =>
          obtain ⟨a, r2⟩ := p
          have h3 := ident?_length h2
          have h4 := lstrip_length_le r1
          simp only [ih r2 (by omega)]
      · simp [hc]

theorem argsLoop_fuel (r : Chars) (k : Nat) : Scan.argsLoop (r.length + k) r = Scan.argsLoop r.length r := by
  induction k with
  | zero => rfl
  | succ k ih => rw [← Nat.add_assoc, argsLoop_fuel_step _ _ (by omega), ih]

/-! ### trailing blanks -/

theorem isPrefixOf_append_ws (kw : Chars) : ∀ (s ws : Chars), (∀ k ∈ kw, isSpace k = false) → allSpace ws = true →
    kw.isPrefixOf (s ++ ws) = kw.isPrefixOf s := by
  induction kw with
  | nil => intros; simp
  | cons k ks ih =>
    intro s ws hk hws
    cases s with
    | nil =>
      cases ws with
      | nil => rfl
      | cons w ws' =>
        have hw : isSpace w = true := by simp [allSpace] at hws; exact hws.1
        have : k ≠ w := by intro e; rw [e] at hk; have := hk w (by simp); simp [hw] at this
        simp [List.isPrefixOf, this]
    | cons c s' =>
      simp only [List.cons_append, List.isPrefixOf]
      rw [ih s' ws (fun x hx => hk x (List.mem_cons_of_mem _ hx)) hws]

theorem keyword?_append_ws (kw : String) (s ws : Chars) (hkw : ∀ k ∈ kw.toList, isSpace k = false)
    (hws : allSpace ws = true) : keyword? kw (s ++ ws) = (keyword? kw s).map (· ++ ws) := by
  unfold keyword?
  rw [isPrefixOf_append_ws _ _ _ hkw hws]
  by_cases h : kw.toList.isPrefixOf s = true
  · have hp : kw.toList <+: s := List.isPrefixOf_iff_prefix.mp h
    have hl : kw.length ≤ s.length := by rw [← String.length_toList]; exact hp.length_le
    simp [h, List.drop_append_of_le_length hl]
  · simp [h]

theorem kwOnly?_append_ws (kw : String) (sh : Shape) (s ws : Chars) (hkw : ∀ k ∈ kw.toList, isSpace k = false)
    (hws : allSpace ws = true) : kwOnly? kw sh (s ++ ws) = kwOnly? kw sh s := by
  unfold kwOnly?
  rw [keyword?_append_ws kw s ws hkw hws]
  cases keyword? kw s <;> simp [allSpace_append, hws]

theorem exprColon?_append_ws (r ws : Chars) (hws : allSpace ws = true) : exprColon? (r ++ ws) = exprColon? r := by
  unfold exprColon?
  rw [rev_dropWhile_append_ws r ws hws]

theorem kwExprColon?_append_ws (kw : String) (mk : Nat → Chars → Shape) (s ws : Chars)
    (hkw : ∀ k ∈ kw.toList, isSpace k = false) (hws : allSpace ws = true) :
    kwExprColon? kw mk (s ++ ws) = kwExprColon? kw mk s := by
  unfold kwExprColon?
  rw [keyword?_append_ws kw s ws hkw hws]
  cases keyword? kw s <;> simp [exprColon?_append_ws _ _ hws]

theorem else?_append_ws (s ws : Chars) (hws : allSpace ws = true) : else? (s ++ ws) = else? s := by
  unfold else?
  rw [keyword?_append_ws "else" s ws (by decide) hws]
  cases keyword? "else" s with
  | none => rfl
  | some r =>
    rcases lstrip_append_cases hws r with ⟨h, h'⟩ | ⟨c, cs, h, h'⟩ <;> simp only [Option.map_some, h, h']
    by_cases hc : c = ':'
    · subst hc; simp [allSpace_append, hws]
    · simp [hc]

/-- append blanks to the expression text of a `return` -/
def addTrail (ws : Chars) : Shape → Shape
  | .ret (some (off, e)) => .ret (some (off, e ++ ws))
  | s => s

theorem return?_append_ws (s ws : Chars) (hws : allSpace ws = true) :
    return? (s ++ ws) = (return? s).map (addTrail ws) := by
  unfold return?
  rw [keyword?_append_ws "return" s ws (by decide) hws]
  cases hk : keyword? "return" s with
  | none => rfl
  | some r =>
    simp only [Option.map_some, allSpace_append, hws, Bool.and_true]
    by_cases hr : allSpace r = true
    · simp [hr, addTrail]
    · simp only [hr, Bool.false_eq_true, if_false]
      cases r with
      | nil => simp [allSpace] at hr
      | cons c r0 =>
        simp only [List.cons_append]
        by_cases hc : isSpace c = true
        · have hne : lstripL (c :: r0) ≠ [] := fun e =>
            hr ((firstNS_none_iff _).mp (by simp [firstNS, e]))
          have e1 : lstripL (c :: (r0 ++ ws)) = lstripL (c :: r0) ++ ws := by
            simpa [hne] using lstrip_append_right (c :: r0) ws hws
          simp only [hc, if_true, e1, Option.map_some, addTrail, List.length_append]
          congr 4; omega
        · simp [hc]

/-- append blanks to an expression text that runs to the end of the line (assignment, `return`) -/
def addTrailS (ws : Chars) : Shape → Shape
  | .assign n off e => .assign n off (e ++ ws)
  | .ret (some (off, e)) => .ret (some (off, e ++ ws))
  | s => s

section
variable {ws : Chars}

theorem map_of_plain {o o' : Option Shape} (h : o' = o) (hp : ∀ sh, o = some sh → addTrailS ws sh = sh) :
    o' = o.map (addTrailS ws) := by
  subst h
  cases o' with
  | none => rfl
  | some sh => simp [hp sh rfl]

theorem orElse_map (f : Shape → Shape) (a b : Option Shape) : (a.map f <|> b.map f) = (a <|> b).map f := by
  cases a <;> rfl

theorem kwOnly?_plain (kw : String) (sh0 : Shape) (hp : addTrailS ws sh0 = sh0) (s : Chars) :
    ∀ sh, kwOnly? kw sh0 s = some sh → addTrailS ws sh = sh := by
  intro sh h
  unfold kwOnly? at h
  split at h
  · split at h
    · cases h; exact hp
    · cases h
  · cases h

theorem kwExprColon?_plain (kw : String) (mk : Nat → Chars → Shape) (hp : ∀ n e, addTrailS ws (mk n e) = mk n e) (s : Chars) :
    ∀ sh, kwExprColon? kw mk s = some sh → addTrailS ws sh = sh := by
  intro sh h
  unfold kwExprColon? at h
  split at h
  · split at h
    · cases h; exact hp _ _
    · cases h
  · cases h

theorem else?_plain (s : Chars) : ∀ sh, else? s = some sh → addTrailS ws sh = sh := by
  intro sh h
  unfold else? at h
  split at h
  · split at h
    · split at h
      · cases h; rfl
      · cases h
    · cases h
  · cases h

theorem label?_plain (s : Chars) : ∀ sh, label? s = some sh → addTrailS ws sh = sh := by
  intro sh h
  unfold label? at h
  split at h
  · split at h
    · split at h
      · cases h; rfl
      · cases h
    · cases h
  · cases h

theorem for?_plain (s : Chars) : ∀ sh, for? s = some sh → addTrailS ws sh = sh := by
  intro sh h
  rw [for?_eq] at h
  simp only [Option.bind_eq_some_iff, forTail, Option.map_eq_some_iff] at h
  obtain ⟨_, _, _, _, _, _, _, _, _, _, _, _, rfl⟩ := h
  rfl

theorem funcBegin?_plain (s : Chars) : ∀ sh, funcBegin? s = some sh → addTrailS ws sh = sh := by
  intro sh h
  rw [funcBegin?_eq] at h
  simp only [Option.bind_eq_some_iff] at h
  obtain ⟨_, _, _, _, _, _, _, _, h⟩ := h
  unfold fnClose at h
  split at h
  · split at h
    · split at h
      · cases h; rfl
      · cases h
    · cases h
  · cases h

theorem jump?_plain (s : Chars) : ∀ sh, jump? s = some sh → addTrailS ws sh = sh := by
  intro sh h
  unfold jump? at h
  repeat' split at h
  all_goals first | cases h; rfl | cases h

theorem include?_plain (s : Chars) : ∀ sh, include? s = some sh → addTrailS ws sh = sh := by
  intro sh h
  unfold include? at h
  repeat' split at h
  all_goals try (simp only [] at h)
  all_goals try (split at h)
  all_goals first | (cases h; rfl) | cases h

end

section Trail
variable {ws : Chars} (hws : allSpace ws = true)
include hws

theorem ws_head_space {w : Char} {ws1 : Chars} (e : ws = w :: ws1) : isSpace w = true := by
  subst e; simp [allSpace] at hws; exact hws.1

theorem ws_bne {c : Char} (hc : isSpace c = false) : ∀ a ∈ ws, (a != c) = true := fun a ha =>
  bne_iff_ne.mpr fun e => by have := List.all_eq_true.mp hws a ha; rw [e, hc] at this; cases this

theorem ident?_append_ws (x : Chars) : ident? (x ++ ws) = (ident? x).map (fun p => (p.1, p.2 ++ ws)) := by
  cases x with
  | nil =>
    cases hw : ws with
    | nil => rfl
    | cons w ws1 =>
      have h1 := ws_head_space hws hw
      have : isIdStart w = false := by
        cases hi : isIdStart w with
        | false => rfl
        | true => have := space_not_word h1; rw [idStart_isWord hi] at this; cases this
      simp [ident?, this]
  | cons c cs =>
    obtain ⟨h1, h2⟩ := word_ws_split hws
    have key : ∀ l : Chars, List.takeWhile isWord (l ++ ws) = List.takeWhile isWord l ∧
        List.dropWhile isWord (l ++ ws) = List.dropWhile isWord l ++ ws := by
      intro l
      induction l with
      | nil => simp [h1, h2]
      | cons a as ih => by_cases ha : isWord a = true <;> simp [ha, ih]
    simp only [List.cons_append, ident?]
    split
    · simp [(key cs).1, (key cs).2]
    · rfl

/-- `\s+` then something that cannot start at the end of the text -/
theorem ws1?_bind_append {β : Type} (next : Chars → Option β) (hnil : next [] = none) (r : Chars) :
    (ws1? (r ++ ws)).bind next = (ws1? r).bind (fun x => if x = [] then none else next (x ++ ws)) := by
  cases r with
  | nil =>
    cases hw : ws with
    | nil => rfl
    | cons w ws1 =>
      have h1 := ws_head_space hws hw
      have h2 : lstripL ws1 = [] := lstrip_allSpace (by rw [hw] at hws; simp [allSpace] at hws ⊢; exact hws.2)
      simp [ws1?, h1, h2, hnil]
  | cons c cs =>
    simp only [List.cons_append, ws1?]
    split
    · simp only [Option.bind_some, lstrip_append_right cs ws hws]
      split
      · rename_i h0; simp [hnil]
      · simp
    · rfl

theorem label?_append_ws (s : Chars) : label? (s ++ ws) = label? s := by
  unfold label?
  rw [ident?_append_ws hws]
  cases ident? s with
  | none => rfl
  | some p =>
    obtain ⟨name, r⟩ := p
    rcases lstrip_append_cases hws r with ⟨h, h'⟩ | ⟨c, cs, h, h'⟩ <;> simp only [Option.map_some, h, h']
    by_cases hc : c = ':'
    · subst hc; simp [allSpace_append, hws]
    · simp [hc]

theorem wsNameEnd?_append_ws (r : Chars) : wsNameEnd? (r ++ ws) = wsNameEnd? r := by
  have key : ∀ x, (match ident? (x ++ ws) with
      | some (name, r) => if allSpace r then some name else none
      | none => none) = (match ident? x with
      | some (name, r) => if allSpace r then some name else none
      | none => none) := by
    intro x
    rw [ident?_append_ws hws]
    cases ident? x with
    | none => rfl
    | some p => simp [allSpace_append, hws]
  have e : ∀ y, wsNameEnd? y = (ws1? y).bind (fun r => match ident? r with
      | some (name, r) => if allSpace r then some name else none
      | none => none) := by
    intro y; unfold wsNameEnd?; cases ws1? y <;> rfl
  rw [e, e, ws1?_bind_append hws _ (by simp [ident?])]
  cases ws1? r with
  | none => rfl
  | some x =>
    simp only [Option.bind_some]
    split
    · rename_i h0; subst h0; simp [ident?]
    · exact key x

theorem splitLastParen_append_ws (r : Chars) :
    splitLastParen (r ++ ws) = (splitLastParen r).map (fun p => (p.1, p.2 ++ ws)) := by
  have hnp : ∀ a ∈ ws.reverse, (a != ')') = true := fun a ha => ws_bne hws (by decide) a (List.mem_reverse.mp ha)
  unfold splitLastParen
  simp only [List.reverse_append, List.dropWhile_append_of_pos hnp, List.takeWhile_append_of_pos hnp]
  cases List.dropWhile (fun x => x != ')') r.reverse with
  | nil => rfl
  | cons a as => simp

theorem jump?_append_ws (s : Chars) : jump? (s ++ ws) = jump? s := by
  unfold jump?
  rw [keyword?_append_ws "jump" s ws (by decide +kernel) hws]
  cases keyword? "jump" s with
  | none => rfl
  | some r =>
    simp only [Option.map_some, wsNameEnd?_append_ws hws]
    cases wsNameEnd? r with
    | some name => rfl
    | none =>
      simp only [keyword?_append_ws "if" r ws (by decide +kernel) hws]
      cases keyword? "if" r with
      | none => rfl
      | some r1 =>
        rcases lstrip_append_cases hws r1 with ⟨h, h'⟩ | ⟨c, cs, h, h'⟩ <;> simp only [Option.map_some, h, h']
        by_cases hc : c = '('
        · subst hc
          simp only [splitLastParen_append_ws hws]
          cases splitLastParen cs with
          | none => rfl
          | some p =>
            simp only [Option.map_some, wsNameEnd?_append_ws hws, List.length_append, Nat.add_sub_add_right]
        · simp [hc]

theorem include?_append_ws (s : Chars) : include? (s ++ ws) = include? s := by
  have hng : ∀ a ∈ ws, (a != '>') = true := ws_bne hws (by decide)
  have hd : List.dropWhile (fun x => x != '>') ws = [] := by
    rw [dropWhile_eq_nil_iff']; exact hng
  unfold include?
  rw [keyword?_append_ws "include" s ws (by decide +kernel) hws]
  cases keyword? "include" s with
  | none => rfl
  | some r =>
    simp only [Option.map_some]
    cases r with
    | nil =>
      cases hw : ws with
      | nil => rfl
      | cons w ws1 =>
        have h1 := ws_head_space hws hw
        have h2 : lstripL ws1 = [] := lstrip_allSpace (by rw [hw] at hws; simp [allSpace] at hws ⊢; exact hws.2)
        simp [ws1?, h1, h2]
    | cons c cs =>
      simp only [List.cons_append, ws1?]
      by_cases hc : isSpace c = true
      · simp only [hc, if_true, lstrip_append_right cs ws hws]
        cases hl : lstripL cs with
        | nil => simp
        | cons d t =>
          simp only [List.cons_append, reduceCtorEq, if_false]
          by_cases h1 : d = '\''
          · subst h1
            simp only [rev_dropWhile_append_ws t ws hws]
          · by_cases h2 : d = '<'
            · subst h2
              cases hdt : List.dropWhile (fun x => x != '>') t with
              | nil => simp [List.dropWhile_append, hdt, hd]
              | cons a as =>
                obtain ⟨k1, k2⟩ := takeDrop_append_of_ne (fun x => x != '>') t ws (by rw [hdt]; simp)
                simp [k1, k2, hdt, allSpace_append, hws]
            · simp [h1, h2]
      · simp [hc]

theorem assign?_append_ws (s : Chars) (hne : lastNS s ≠ some '=') :
    assign? (s ++ ws) = (assign? s).map (addTrailS ws) := by
  unfold assign?
  rw [ident?_append_ws hws]
  cases hi : ident? s with
  | none => rfl
  | some p =>
    obtain ⟨name, r1⟩ := p
    rcases lstrip_append_cases hws r1 with ⟨h, h'⟩ | ⟨c, r3, h, h'⟩ <;> simp only [Option.map_some, h, h']
    · rfl
    by_cases hc : c = '='
    · subst hc
      rcases lstrip_append_cases hws r3 with ⟨h3, -⟩ | ⟨d, e, h3, h3'⟩
      · exact absurd (lastNS_eq_of_assign_blank hi h h3) hne
      · simp only [h3, h3', Option.map_some, addTrailS, List.length_append, List.length_cons]
        congr 2; omega
    · simp [hc]

theorem return?_append_ws' (s : Chars) : return? (s ++ ws) = (return? s).map (addTrailS ws) := by
  rw [return?_append_ws s ws hws]
  unfold return?
  cases keyword? "return" s with
  | none => rfl
  | some r =>
    simp only
    split
    · rfl
    · split
      · split <;> rfl
      · rfl

theorem forIdx_append_ws (r : Chars) : forIdx (r ++ ws) = ((forIdx r).1, (forIdx r).2 ++ ws) := by
  unfold forIdx
  rcases lstrip_append_cases hws r with ⟨h, h'⟩ | ⟨c, cs, h, h'⟩ <;> simp only [h, h']
  by_cases hc : c = ','
  · subst hc
    rcases lstrip_append_cases hws cs with ⟨h2, h2'⟩ | ⟨d, e, h2, h2'⟩ <;> simp only [h2, h2']
    · simp [ident?]
    · rw [← List.cons_append, ident?_append_ws hws]
      cases ident? (d :: e) with
      | none => rfl
      | some p => rfl
  · simp [hc]

theorem forTail_append_ws (len : Nat) (value : Chars) (index : Option Chars) (r : Chars) :
    forTail (len + ws.length) value index (r ++ ws) = forTail len value index r := by
  unfold forTail
  rw [ws1?_bind_append hws _ (by simp [keyword?])]
  congr 1
  funext x
  by_cases hx : x = []
  · subst hx; simp [keyword?]
  · simp only [hx, if_false, keyword?_append_ws "in" x ws (by decide +kernel) hws]
    cases keyword? "in" x with
    | none => rfl
    | some r6 =>
      simp only [Option.map_some, Option.bind_some, exprColon?_append_ws r6 ws hws, List.length_append]
      have : len + ws.length - (r6.length + ws.length) = len - r6.length := by omega
      rw [this]

theorem for?_append_ws (s : Chars) : for? (s ++ ws) = for? s := by
  rw [for?_eq, for?_eq, keyword?_append_ws "for" s ws (by decide +kernel) hws]
  cases keyword? "for" s with
  | none => simp only [Option.map_none, Option.bind_none]
  | some r0 =>
    simp only [Option.map_some, Option.bind_some]
    rw [ws1?_bind_append hws _ (by simp [ident?])]
    congr 1
    funext x
    by_cases hx : x = []
    · subst hx; simp [ident?]
    · simp only [hx, if_false, ident?_append_ws hws]
      cases ident? x with
      | none => rfl
      | some p =>
        simp only [Option.map_some, Option.bind_some, forIdx_append_ws hws, List.length_append,
          forTail_append_ws hws]

theorem argsLoop_append_ws : ∀ (n : Nat) (r : Chars),
    Scan.argsLoop n (r ++ ws) = ((Scan.argsLoop n r).1, (Scan.argsLoop n r).2 ++ ws) := by
  intro n
  induction n with
  | zero => intro r; rfl
  | succ n ih =>
    intro r
    rw [Scan.argsLoop, Scan.argsLoop]
    rcases lstrip_append_cases hws r with ⟨h, h'⟩ | ⟨c, r1, h, h'⟩ <;> simp only [h, h']
    by_cases hc : c = ','
    · subst hc
      rcases lstrip_append_cases hws r1 with ⟨h2, h2'⟩ | ⟨d, e, h2, h2'⟩ <;> simp only [h2, h2']
      · simp [ident?]
      · rw [← List.cons_append, ident?_append_ws hws]
        cases ident? (d :: e) with
        | none => rfl
        | some p => simp only [Option.map_some, ih]
    · simp [hc]

theorem fnArgs_append_ws (x : Chars) : fnArgs (x ++ ws) = ((fnArgs x).1, (fnArgs x).2 ++ ws) := by
  unfold fnArgs
  rw [ident?_append_ws hws]
  cases ident? x with
  | none => rfl
  | some p =>
    obtain ⟨a, r'⟩ := p
    simp only [Option.map_some, List.length_append, argsLoop_append_ws hws, argsLoop_fuel]

theorem fnDots_append_ws (y : Chars) : fnDots (y ++ ws) = ((fnDots y).1, (fnDots y).2 ++ ws) := by
  unfold fnDots
  rw [lstrip_append_right y ws hws]
  cases h : lstripL y with
  | nil => simp [keyword?]
  | cons c cs =>
    simp only [reduceCtorEq, if_false, keyword?_append_ws "..." (c :: cs) ws (by decide +kernel) hws]
    cases keyword? "..." (c :: cs) with
    | none => rfl
    | some r' => rfl

theorem fnClose_append_ws (name : Chars) (args : List Chars) (laa isAsync : Bool) (z : Chars) :
    fnClose name args laa isAsync (z ++ ws) = fnClose name args laa isAsync z := by
  unfold fnClose
  rcases lstrip_append_cases hws z with ⟨h, h'⟩ | ⟨c, cs, h, h'⟩ <;> simp only [h, h']
  by_cases hc : c = ')'
  · subst hc
    rcases lstrip_append_cases hws cs with ⟨h2, h2'⟩ | ⟨d, e, h2, h2'⟩ <;> simp only [h2, h2']
    by_cases hd : d = ':'
    · subst hd; simp [allSpace_append, hws]
    · simp [hd]
  · simp [hc]

theorem fnAsync_append_ws (s : Chars) :
    (fnAsync (s ++ ws)).1 = (fnAsync s).1 ∧
    keyword? "function" (fnAsync (s ++ ws)).2 = (keyword? "function" (fnAsync s).2).map (· ++ ws) := by
  unfold fnAsync
  rw [keyword?_append_ws "async" s ws (by decide +kernel) hws]
  cases keyword? "async" s with
  | none => exact ⟨rfl, keyword?_append_ws "function" s ws (by decide +kernel) hws⟩
  | some r =>
    simp only [Option.map_some, lstrip_append_right r ws hws, true_and]
    cases h : lstripL r with
    | nil => simp [keyword?]
    | cons c cs =>
      simp only [reduceCtorEq, if_false]
      exact keyword?_append_ws "function" (c :: cs) ws (by decide +kernel) hws

theorem fnOpen_append_ws (r : Chars) : fnOpen (r ++ ws) = (fnOpen r).map (fun x => if x = [] then [] else x ++ ws) := by
  unfold fnOpen
  rcases lstrip_append_cases hws r with ⟨h, h'⟩ | ⟨c, cs, h, h'⟩ <;> simp only [h, h', Option.map_none]
  by_cases hc : c = '('
  · subst hc; simp only [lstrip_append_right cs ws hws, Option.map_some]
  · simp [hc]

theorem funcBegin?_append_ws (s : Chars) : funcBegin? (s ++ ws) = funcBegin? s := by
  rw [funcBegin?_eq, funcBegin?_eq]
  obtain ⟨ha, hk⟩ := fnAsync_append_ws hws s
  rw [ha, hk]
  cases keyword? "function" (fnAsync s).2 with
  | none => rfl
  | some r0 =>
    simp only [Option.map_some, Option.bind_some]
    rw [ws1?_bind_append hws _ (by simp [ident?])]
    congr 1
    funext x
    by_cases hx : x = []
    · subst hx; simp [ident?]
    · simp only [hx, if_false, ident?_append_ws hws]
      cases ident? x with
      | none => rfl
      | some p =>
        simp only [Option.map_some, Option.bind_some, fnOpen_append_ws hws]
        cases fnOpen p.2 with
        | none => rfl
        | some y =>
          simp only [Option.map_some, Option.bind_some]
          by_cases hy : y = []
          · simp [hy]
          · simp only [hy, if_false, fnArgs_append_ws hws, fnDots_append_ws hws, fnClose_append_ws hws]

/-- **The statement cascade and trailing blanks**: the same pattern matches with the same groups; an expression group that
runs to the end of the line (assignment, `return`) gets the blanks appended.  Excluded: a line that ends in `=`
(`a =` is an expression statement, `a = ` the assignment of the expression `' '`). -/
theorem shapeS_append_ws (s : Chars) (hne : lastNS s ≠ some '=') : shapeS (s ++ ws) = addTrailS ws (shapeS s) := by
  unfold shapeS
  rw [assign?_append_ws hws s hne,
    map_of_plain (ws := ws) (funcBegin?_append_ws hws s) (funcBegin?_plain s),
    map_of_plain (ws := ws) (kwOnly?_append_ws "endfunction" .funcEnd s ws (by decide +kernel) hws) (kwOnly?_plain _ _ rfl s),
    map_of_plain (ws := ws) (kwExprColon?_append_ws "if" .ifBegin s ws (by decide +kernel) hws) (kwExprColon?_plain _ _ (fun _ _ => rfl) s),
    map_of_plain (ws := ws) (kwExprColon?_append_ws "elif" .elif s ws (by decide +kernel) hws) (kwExprColon?_plain _ _ (fun _ _ => rfl) s),
    map_of_plain (ws := ws) (else?_append_ws s ws hws) (else?_plain s),
    map_of_plain (ws := ws) (kwOnly?_append_ws "endif" .endif s ws (by decide +kernel) hws) (kwOnly?_plain _ _ rfl s),
    map_of_plain (ws := ws) (kwExprColon?_append_ws "while" .whileBegin s ws (by decide +kernel) hws) (kwExprColon?_plain _ _ (fun _ _ => rfl) s),
    map_of_plain (ws := ws) (kwOnly?_append_ws "endwhile" .endwhile s ws (by decide +kernel) hws) (kwOnly?_plain _ _ rfl s),
    map_of_plain (ws := ws) (for?_append_ws hws s) (for?_plain s),
    map_of_plain (ws := ws) (kwOnly?_append_ws "endfor" .endfor s ws (by decide +kernel) hws) (kwOnly?_plain _ _ rfl s),
    map_of_plain (ws := ws) (kwOnly?_append_ws "break" .break_ s ws (by decide +kernel) hws) (kwOnly?_plain _ _ rfl s),
    map_of_plain (ws := ws) (kwOnly?_append_ws "continue" .continue_ s ws (by decide +kernel) hws) (kwOnly?_plain _ _ rfl s),
    map_of_plain (ws := ws) (label?_append_ws hws s) (label?_plain s),
    map_of_plain (ws := ws) (jump?_append_ws hws s) (jump?_plain s),
    return?_append_ws' hws s,
    map_of_plain (ws := ws) (include?_append_ws hws s) (include?_plain s)]
  simp only [orElse_map]
  cases (assign? s <|> funcBegin? s <|> kwOnly? "endfunction" .funcEnd s <|>
   kwExprColon? "if" .ifBegin s <|> kwExprColon? "elif" .elif s <|> else? s <|> kwOnly? "endif" .endif s <|>
   kwExprColon? "while" .whileBegin s <|> kwOnly? "endwhile" .endwhile s <|>
   for? s <|> kwOnly? "endfor" .endfor s <|> kwOnly? "break" .break_ s <|> kwOnly? "continue" .continue_ s <|>
   label? s <|> jump? s <|> return? s <|> include? s) <;> rfl

end Trail

/-! ## indentation: `shape` and `classifyL` behind leading blanks -/

theorem Shape.shift_shift (s : Shape) (a b : Nat) : (s.shift a).shift b = s.shift (a + b) := by
  cases s with
  | jump _ c | ret c =>
    cases c with
    | none => rfl
    | some p => simp [Shape.shift, Nat.add_assoc]
  | _ => simp [Shape.shift, Nat.add_assoc]

theorem Shape.shift_zero (s : Shape) : s.shift 0 = s := by
  cases s with
  | jump _ c | ret c =>
    cases c with
    | none => rfl
    | some p => obtain ⟨o, e⟩ := p; rfl
  | _ => rfl

theorem shape_leading_ws {ws : Chars} (l : Chars) (h : allSpace ws = true) :
    shape (ws ++ l) = (shape l).shift ws.length := by
  unfold shape
  simp only [lstrip_append_ws l h, Shape.shift_shift, List.length_append]
  have := lstrip_length_le l
  congr 1; omega

theorem shape_of_shapeS {s : Chars} (hs : lstripL s = s) (ind : Chars) (hi : allSpace ind = true) :
    shape (ind ++ s) = (shapeS s).shift ind.length := by
  rw [shape_leading_ws _ hi]
  unfold shape
  simp only [hs, Nat.sub_self]
  rw [Shape.shift_shift]; simp

theorem shape_eq_shapeS {s : Chars} (hs : lstripL s = s) : shape s = shapeS s := by
  have := shape_of_shapeS hs [] rfl
  rwa [List.nil_append, List.length_nil, Shape.shift_zero] at this

theorem addTrailS_shift (ws : Chars) (sh : Shape) (k : Nat) : (addTrailS ws sh).shift k = addTrailS ws (sh.shift k) := by
  cases sh with
  | jump n c => cases c with
    | none => rfl
    | some p => rfl
  | ret c => cases c with
    | none => rfl
    | some p => rfl
  | _ => rfl

theorem shift_assign_inv {sh : Shape} {k off : Nat} {name e : Chars} (h : sh.shift k = .assign name off e) :
    ∃ off0, sh = .assign name off0 e ∧ off = off0 + k := by
  cases sh with
  | assign n o x => simp only [Shape.shift, Shape.assign.injEq] at h; obtain ⟨rfl, rfl, rfl⟩ := h; exact ⟨o, rfl, rfl⟩
  | jump n c => cases c with
    | none => cases h
    | some p => cases h
  | ret c => cases c with
    | none => cases h
    | some p => cases h
  | _ => cases h

theorem shiftErr_shiftErr {α} (a b : Nat) (r : Except ParseErr α) : shiftErr b (shiftErr a r) = shiftErr (a + b) r := by
  cases r <;> simp [shiftErr, Nat.add_assoc]

theorem shiftErr_map {α β} (k : Nat) (f : α → β) (r : Except ParseErr α) :
    shiftErr k (r.map f) = (shiftErr k r).map f := by
  cases r <;> rfl

/-- equal results up to the error column -/
def EqUpToColumn {α} : Except ParseErr α → Except ParseErr α → Prop
  | .ok a, .ok b => a = b
  | .error e1, .error e2 => e1.error = e2.error
  | _, _ => False

theorem EqUpToColumn.refl {α} (r : Except ParseErr α) : EqUpToColumn r r := by
  cases r <;> simp [EqUpToColumn]

theorem EqUpToColumn.symm {α} {r1 r2 : Except ParseErr α} (h : EqUpToColumn r1 r2) : EqUpToColumn r2 r1 := by
  cases r1 <;> cases r2 <;> simp_all [EqUpToColumn]

theorem EqUpToColumn.trans {α} {r1 r2 r3 : Except ParseErr α} (h : EqUpToColumn r1 r2) (h' : EqUpToColumn r2 r3) :
    EqUpToColumn r1 r3 := by
  cases r1 <;> cases r2 <;> cases r3 <;> simp_all [EqUpToColumn]

theorem EqUpToColumn.shift2 {α β} (a b : Nat) (f : α → β) {r r' : Except ParseErr α} (h : EqUpToColumn r' r) :
    EqUpToColumn ((shiftErr a r').map f) ((shiftErr b r).map f) := by
  cases r <;> cases r' <;> simp_all [EqUpToColumn, shiftErr, Except.map]

theorem EqUpToColumn.shift {α} (k : Nat) (r : Except ParseErr α) : EqUpToColumn (shiftErr k r) r := by
  cases r <;> simp [EqUpToColumn, shiftErr]

theorem EqUpToColumn.map {α β} (f : α → β) {r1 r2 : Except ParseErr α} (h : EqUpToColumn r1 r2) :
    EqUpToColumn (r1.map f) (r2.map f) := by
  cases r1 <;> cases r2 <;> simp_all [EqUpToColumn, Except.map]

/-- what `classify` needs from the expression parser for indentation not to matter in an *expression statement*:
leading blanks are skipped — same tree, or the same error text.  (The error column is NOT simply moved: an error at the
very start of the text is reported at column 1 with or without leading blanks, parser.py:612/473.) -/
def SkipsLeadingBlanks (parseExpr : String → Except ParseErr Expr) : Prop :=
  ∀ ws s : Chars, allSpace ws = true →
    EqUpToColumn (parseExpr (String.ofList (ws ++ s))) (parseExpr (String.ofList s))

theorem classifyL_leading_ws_stmt (pe : String → Except ParseErr Expr) {ws : Chars} (l : Chars)
    (h : allSpace ws = true) (hs : shape l ≠ .exprStmt) :
    classifyL pe (ws ++ l) = shiftErr ws.length (classifyL pe l) := by
  unfold classifyL
  rw [shape_leading_ws l h]
  cases hs' : shape l with
  | exprStmt => exact absurd hs' hs
  | assign _ o e | ifBegin o e | elif o e | whileBegin o e | forBegin _ _ o e =>
    simp only [Shape.shift]; rw [← shiftErr_shiftErr, shiftErr_map]
  | jump _ c | ret c =>
    cases c with
    | none => rfl
    | some p => simp only [Shape.shift]; rw [← shiftErr_shiftErr, shiftErr_map]
  | _ => rfl

theorem classifyL_leading_ws (pe : String → Except ParseErr Expr) (hpe : SkipsLeadingBlanks pe) {ws : Chars} (l : Chars)
    (h : allSpace ws = true) : EqUpToColumn (classifyL pe (ws ++ l)) (classifyL pe l) := by
  by_cases hs : shape l = .exprStmt
  · unfold classifyL
    rw [shape_leading_ws l h, hs]
    simp only [Shape.shift]
    exact (hpe ws l h).map _
  · rw [classifyL_leading_ws_stmt pe l h hs]
    exact EqUpToColumn.shift _ _

/-! ## the cascade

`shapeS` is `assign? <|> (twelve patterns that begin with a keyword) <|> label? <|> jump? <|> return? <|> include?`.  No
statement keyword is a prefix of another, so no line is matched by two keyword patterns: one of them that succeeds decides
`shapeS s` once `assign?` (for the last three also `label?`) fails. -/

/-- the statement keywords (every pattern of the cascade except assignment and label starts with one of them) -/
def stmtKeywords : List String :=
  ["async", "function", "endfunction", "if", "elif", "else", "endif", "while", "endwhile", "for", "endfor", "break",
   "continue", "jump", "return", "include"]

/-- the two texts differ at a position that both have -/
def differ (a b : Chars) : Bool := (a.zip b).any fun p => p.1 != p.2

theorem isPrefixOf_of_differ : ∀ {a b : Chars}, differ a b = true → ∀ r, a.isPrefixOf (b ++ r) = false
  | [], _, h, _ => by simp [differ] at h
  | _ :: _, [], h, _ => by simp [differ] at h
  | x :: a, y :: b, h, r => by
    by_cases hxy : x = y
    · subst hxy
      have : differ a b = true := by simpa [differ] using h
      simpa [List.isPrefixOf] using isPrefixOf_of_differ this r
    · simp [List.isPrefixOf, hxy]

theorem stmtKeywords_differ :
    ∀ a ∈ stmtKeywords, ∀ b ∈ stmtKeywords, a = b ∨ differ a.toList b.toList = true := by decide +kernel

theorem stmtKeywords_ident : ∀ kw ∈ stmtKeywords, isIdent kw.toList = true := by decide +kernel

theorem keyword?_other {kw K : String} (hkw : kw ∈ stmtKeywords) (hK : K ∈ stmtKeywords) (hne : kw ≠ K) (r : Chars) :
    keyword? kw (K.toList ++ r) = none := by
  unfold keyword?
  rw [isPrefixOf_of_differ ((stmtKeywords_differ kw hkw K hK).resolve_left hne)]; rfl

/-- the patterns of the cascade between assignment and label (`afterLabel`: behind label), in its order, each with the
keywords it can begin with -/
def beforeLabel : List (List String × (Chars → Option Shape)) :=
  [(["async", "function"], funcBegin?), (["endfunction"], kwOnly? "endfunction" .funcEnd),
   (["if"], kwExprColon? "if" .ifBegin), (["elif"], kwExprColon? "elif" .elif), (["else"], else?),
   (["endif"], kwOnly? "endif" .endif), (["while"], kwExprColon? "while" .whileBegin),
   (["endwhile"], kwOnly? "endwhile" .endwhile), (["for"], for?), (["endfor"], kwOnly? "endfor" .endfor),
   (["break"], kwOnly? "break" .break_), (["continue"], kwOnly? "continue" .continue_)]

def afterLabel : List (List String × (Chars → Option Shape)) :=
  [(["jump"], jump?), (["return"], return?), (["include"], include?)]

theorem shapeS_eq (s : Chars) :
    shapeS s = (assign? s <|> beforeLabel.foldr (fun p acc => p.2 s <|> acc)
      (label? s <|> afterLabel.foldr (fun p acc => p.2 s <|> acc) none)).getD .exprStmt := by
  unfold shapeS beforeLabel afterLabel
  simp only [List.foldr]
  cases include? s <;> rfl

theorem foldr_orElse_of_none {α β} (f : α → Option β) (b : Option β) : ∀ l : List α, (∀ p ∈ l, f p = none) →
    l.foldr (fun p acc => f p <|> acc) b = b
  | [], _ => rfl
  | p :: l, h => by
    rw [List.foldr, h p (by simp), foldr_orElse_of_none f b l fun q hq => h q (by simp [hq])]; rfl

theorem foldr_orElse_of_some {α β} (f : α → Option β) (b : Option β) {x : β} : ∀ l : List α,
    l.Pairwise (fun p q => f p = none ∨ f q = none) → ∀ p ∈ l, f p = some x → l.foldr (fun p acc => f p <|> acc) b = some x
  | q :: l, hl, p, hp, hx => by
    rw [List.pairwise_cons] at hl
    rcases List.mem_cons.mp hp with rfl | hp
    · rw [List.foldr, hx]; rfl
    · have hq : f q = none := (hl.1 p hp).resolve_right (by simp [hx])
      rw [List.foldr, hq, foldr_orElse_of_some f b l hl.2 p hp hx]; rfl

/-- every one of them begins with `keyword?` of one of its keywords -/
theorem keywordPatterns_fail :
    ∀ p ∈ beforeLabel ++ afterLabel, ∀ s, (∀ kw ∈ p.1, keyword? kw s = none) → p.2 s = none := by
  simp only [beforeLabel, afterLabel, List.cons_append, List.nil_append, List.mem_cons, List.not_mem_nil, or_false,
    forall_eq_or_imp, forall_eq]
  and_intros <;> (intro s h; simp only [funcBegin?, kwOnly?, kwExprColon?, else?, for?, jump?, return?, include?, h])

theorem keywordPatterns_keys : ∀ p ∈ beforeLabel ++ afterLabel, ∀ kw ∈ p.1, kw ∈ stmtKeywords :=
  fun p hp _ hkw =>
    have e : (beforeLabel ++ afterLabel).flatMap (·.1) = stmtKeywords := rfl
    e ▸ List.mem_flatMap.mpr ⟨p, hp, hkw⟩

theorem beforeLabel_ident {i : Nat} {p : List String × (Chars → Option Shape)} (hi : beforeLabel[i]? = some p) :
    ∀ kw ∈ p.1, isIdent kw.toList = true := fun kw hkw =>
  stmtKeywords_ident kw (keywordPatterns_keys p (List.mem_append_left _ (List.mem_of_getElem? hi)) kw hkw)

theorem keywordPatterns_keys_disjoint : (beforeLabel ++ afterLabel).Pairwise fun p q => ∀ kw ∈ p.1, kw ∉ q.1 := by
  decide +kernel

/-- no line is matched by two keyword patterns -/
theorem keywordPatterns_exclusive (s : Chars) :
    (beforeLabel ++ afterLabel).Pairwise fun p q => p.2 s = none ∨ q.2 s = none := by
  refine keywordPatterns_keys_disjoint.imp_of_mem fun {p q} hp hq hd => ?_
  by_cases h : ∀ kw ∈ p.1, keyword? kw s = none
  · exact .inl (keywordPatterns_fail p hp s h)
  · -- a keyword `K` of `p` begins the line: the keywords of `q` are others, none of them begins it
    simp only [Classical.not_forall] at h
    obtain ⟨K, hK, hKs⟩ := h
    obtain ⟨r, hr⟩ := Option.ne_none_iff_exists'.mp hKs
    rw [keyword?_eq_some hr]
    exact .inr (keywordPatterns_fail q hq _ fun kw hkw =>
      keyword?_other (keywordPatterns_keys q hq kw hkw) (keywordPatterns_keys p hp K hK) (fun e => hd K hK (e ▸ hkw)) r)

theorem shapeS_of_beforeLabel {s : Chars} {sh : Shape} (i : Nat) {p : List String × (Chars → Option Shape)}
    (hi : beforeLabel[i]? = some p) (hp : p.2 s = some sh) (ha : assign? s = none) : shapeS s = sh := by
  rw [shapeS_eq, ha, foldr_orElse_of_some (·.2 s) _ _ (List.pairwise_append.mp (keywordPatterns_exclusive s)).1 p
    (List.mem_of_getElem? hi) hp]
  rfl

theorem shapeS_of_afterLabel {s : Chars} {sh : Shape} (i : Nat) {p : List String × (Chars → Option Shape)}
    (hi : afterLabel[i]? = some p) (hp : p.2 s = some sh) (ha : assign? s = none) (hl : label? s = none) :
    shapeS s = sh := by
  have hm := List.mem_of_getElem? hi
  obtain ⟨-, hafter, hcross⟩ := List.pairwise_append.mp (keywordPatterns_exclusive s)
  rw [shapeS_eq, ha, foldr_orElse_of_none (·.2 s) _ _ fun q hq => (hcross q hq p hm).resolve_right (by simp [hp]), hl,
    foldr_orElse_of_some (·.2 s) _ _ hafter p hm hp]
  rfl

theorem shapeS_of_noKeyword {s : Chars} (hk : ∀ kw ∈ stmtKeywords, keyword? kw s = none) (ha : assign? s = none)
    (hl : label? s = none) : shapeS s = .exprStmt := by
  have hf : ∀ p ∈ beforeLabel ++ afterLabel, p.2 s = none := fun p hp =>
    keywordPatterns_fail p hp s fun kw hkw => hk kw (keywordPatterns_keys p hp kw hkw)
  rw [shapeS_eq, ha, foldr_orElse_of_none (·.2 s) _ _ fun p hp => hf p (List.mem_append_left _ hp), hl,
    foldr_orElse_of_none (·.2 s) _ _ fun p hp => hf p (List.mem_append_right _ hp)]
  rfl

theorem shapeS_of_assign {x : Chars} {sh : Shape} (h : assign? x = some sh) : shapeS x = sh := by
  unfold shapeS; rw [h]; rfl

/-- no pattern of the cascade but the first yields an assignment: a shape that trailing blanks leave alone is none, and
`return?` yields `ret` -/
theorem orElse_not_assign {a b : Option Shape} {name e : Chars} {off : Nat} (ha : a ≠ some (.assign name off e))
    (hb : b ≠ some (.assign name off e)) : (a <|> b) ≠ some (.assign name off e) := by
  cases a with
  | none => exact hb
  | some x => exact ha

theorem plain_not_assign {o : Option Shape} (h : ∀ sh, o = some sh → addTrailS [' '] sh = sh) {name e : Chars} {off : Nat} :
    o ≠ some (.assign name off e) := fun ho => by
  have := h _ ho; simp [addTrailS] at this

theorem return?_not_assign (s : Chars) {name e : Chars} {off : Nat} : return? s ≠ some (.assign name off e) := by
  intro h
  unfold return? at h
  repeat' split at h
  all_goals cases h

theorem shapeS_assign_inv {s name e : Chars} {off : Nat} (h : shapeS s = .assign name off e) :
    assign? s = some (.assign name off e) := by
  unfold shapeS at h
  cases ha : assign? s with
  | some sh => rw [ha] at h; exact congrArg some h
  | none =>
    rw [ha, show ∀ X : Option Shape, (none <|> X) = X from fun _ => rfl] at h
    have hx : ∀ {X : Option Shape}, X.getD .exprStmt = .assign name off e → X = some (.assign name off e) := by
      intro X hX
      cases X with
      | none => cases hX
      | some y => exact congrArg some hX
    exact absurd (hx h) (orElse_not_assign (plain_not_assign (funcBegin?_plain (ws := [' ']) s)) <|
      orElse_not_assign (plain_not_assign (kwOnly?_plain (ws := [' ']) _ _ rfl s)) <|
      orElse_not_assign (plain_not_assign (kwExprColon?_plain (ws := [' ']) _ _ (fun _ _ => rfl) s)) <|
      orElse_not_assign (plain_not_assign (kwExprColon?_plain (ws := [' ']) _ _ (fun _ _ => rfl) s)) <|
      orElse_not_assign (plain_not_assign (else?_plain (ws := [' ']) s)) <|
      orElse_not_assign (plain_not_assign (kwOnly?_plain (ws := [' ']) _ _ rfl s)) <|
      orElse_not_assign (plain_not_assign (kwExprColon?_plain (ws := [' ']) _ _ (fun _ _ => rfl) s)) <|
      orElse_not_assign (plain_not_assign (kwOnly?_plain (ws := [' ']) _ _ rfl s)) <|
      orElse_not_assign (plain_not_assign (for?_plain (ws := [' ']) s)) <|
      orElse_not_assign (plain_not_assign (kwOnly?_plain (ws := [' ']) _ _ rfl s)) <|
      orElse_not_assign (plain_not_assign (kwOnly?_plain (ws := [' ']) _ _ rfl s)) <|
      orElse_not_assign (plain_not_assign (kwOnly?_plain (ws := [' ']) _ _ rfl s)) <|
      orElse_not_assign (plain_not_assign (label?_plain (ws := [' ']) s)) <|
      orElse_not_assign (plain_not_assign (jump?_plain (ws := [' ']) s)) <|
      orElse_not_assign (return?_not_assign s) (plain_not_assign (include?_plain (ws := [' ']) s)))

theorem shapeS_kwOnly (i : Nat) {kw : String} {sh : Shape} (hi : beforeLabel[i]? = some ([kw], kwOnly? kw sh))
    {ws : Chars} (hw : allSpace ws = true) : shapeS (kw.toList ++ ws) = sh :=
  shapeS_of_beforeLabel i hi (by simp only [kwOnly?, keyword?_self, hw, if_true])
    (assign?_none (beforeLabel_ident hi kw (.head _)) (noWordHead_allSpace hw) fun t => by simp [lstrip_allSpace hw])

theorem shapeS_return_bare {ws : Chars} (hw : allSpace ws = true) : shapeS ("return".toList ++ ws) = .ret none :=
  shapeS_of_afterLabel 1 rfl (by simp only [return?, keyword?_self, hw, if_true])
    (assign?_none (by decide) (noWordHead_allSpace hw) fun t => by simp [lstrip_allSpace hw])
    (label?_none (by decide) (noWordHead_allSpace hw) fun t => by simp [lstrip_allSpace hw])

end C10
