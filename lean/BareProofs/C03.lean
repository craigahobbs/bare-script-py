import BareModel.EvalSpec
import BareProofs.C03Lemmas

/-!
# C03 — expression evaluation follows the typed operator semantics

Model: `Machine.evalExpr` (mirror of runtime.py `evaluate_expression`, polymorphic in the world, the host operators and
the call-back), `HostImpl.binop / neg / truthy / compare` (the concrete operators of the correspondence driver),
`BareModel/Gen/Alias.lean` (regenerated from `library.EXPRESSION_FUNCTION_MAP` on every run).
Specification: `EvalSpec.valueOf / traceOf` (compositional: the trace of an expression is the concatenation, in source
order, of the traces of the sub-expressions the laziness rules select).

Evaluation order and laziness (`once_left_to_right`, `and_or_lazy`, `and_or_operand`, `if_lazy`, `args_before_lookup`,
`undefined_keeps_effects`, `keywords_win`), the operator table of the concrete host (`binop_table`, `binop_numeric_partial`,
`unsupported_is_null`, `relops_are_sign_tests`, `bool_is_not_number`, `neg_table`, `truthy_table`) and the expression
built-ins (`alias_table_documented`, `alias_resolves_to_target`, `binding_wins_over_builtin`); each theorem's comment says
what it claims about bare-script-py.

`binop_numeric_partial`: the model computes `/ % **` in exact rational arithmetic; the real code rounds to IEEE doubles.
The full statement "the result is the correctly rounded double of the rational result" is not expressible in this model
(no floating point, DESIGN §6); the correspondence keeps arithmetic exactly representable.
-/

namespace C03
open Machine EvalSpec

/-! ## evaluation order and laziness (TRACE instance) -/

/-- **once, left to right.**  In the TRACE instance (world = the sequence of calls made so far, a call records itself and
returns `result f args`, the host operators do not look at the trace) evaluating *any* expression `e` from *any* state
returns the specification value and appends exactly `traceOf e` to the trace: the concatenation, in source order, of the
traces of the sub-expressions selected by the laziness rules — nothing recorded earlier is lost or re-ordered, every
selected sub-expression contributes once.  Globals and the statement counter are untouched.  The same for argument lists. -/
theorem once_left_to_right (cfg : Config Trace) (hb : Blind cfg.host) (result : Value → List Value → Value)
    (locals : Option Env) (st : State Trace) :
    (∀ e : Expr, evalExpr cfg (traceCall result) locals e st =
        embed (valueOf (ctxOf cfg result locals st.globals) e) (traceOf (ctxOf cfg result locals st.globals) e) st) ∧
    (∀ as : List Expr, evalArgs cfg (traceCall result) locals as st =
        embedArgs (valuesOf (ctxOf cfg result locals st.globals) as) (tracesOf (ctxOf cfg result locals st.globals) as) st) :=
  ⟨fun e => eval_spec cfg hb result locals e st, fun as => args_spec cfg hb result locals as st⟩

/-- what the specification says about composite expressions, spelled out (each line is the definition of `traceOf`):
strict operators: left then right; unary / group: the operand; call: the arguments left to right, then the call itself. -/
theorem traceOf_shape (c : Ctx) :
    (∀ op l r lv, op ≠ .and → op ≠ .or → valueOf c l = .ok lv →
        traceOf c (.binary op l r) = traceOf c l ++ traceOf c r) ∧
    (∀ op e, traceOf c (.unary op e) = traceOf c e) ∧
    (∀ e, traceOf c (.group e) = traceOf c e) ∧
    (∀ a as v, valueOf c a = .ok v → tracesOf c (a :: as) = traceOf c a ++ tracesOf c as) ∧
    (∀ n args vs fv, n ≠ kwIf → valuesOf c args = .ok vs → callee c n = some fv →
        traceOf c (.function n args) = tracesOf c args ++ [(fv, vs)]) := by
  refine ⟨?_, ?_, ?_, ?_, ?_⟩
  · intro op l r lv h1 h2 hl
    rw [traceOf, hl]
    cases op <;> first | exact absurd rfl h1 | exact absurd rfl h2 | rfl
  · intro op e; rw [traceOf]
  · intro e; rw [traceOf]
  · intro a as v h; rw [tracesOf, h]
  · intro n args vs fv hn hv hc
    rw [traceOf]; simp [hn, hv, callTrace, hc]

/-- **`&&` and `||` are lazy and return an operand.**  If the left operand evaluates to `lv`:
`l && r` is `lv` itself with only the calls of `l` when `lv` is falsy, otherwise the outcome of `r` (its value, not a
boolean) with the calls of `l` followed by the calls of `r`; `l || r` the other way round.  So the right operand's trace
is absent exactly when the left decides. -/
theorem and_or_lazy (cfg : Config Trace) (hb : Blind cfg.host) (result : Value → List Value → Value)
    (locals : Option Env) (l r : Expr) (st : State Trace) (lv : Value)
    (hl : valueOf (ctxOf cfg result locals st.globals) l = .ok lv) :
    (evalExpr cfg (traceCall result) locals (.binary .and l r) st =
      if cfg.host.truthy lv [] then
        embed (valueOf (ctxOf cfg result locals st.globals) r)
          (traceOf (ctxOf cfg result locals st.globals) l ++ traceOf (ctxOf cfg result locals st.globals) r) st
      else .ok lv { st with world := st.world ++ traceOf (ctxOf cfg result locals st.globals) l }) ∧
    (evalExpr cfg (traceCall result) locals (.binary .or l r) st =
      if cfg.host.truthy lv [] then .ok lv { st with world := st.world ++ traceOf (ctxOf cfg result locals st.globals) l }
      else
        embed (valueOf (ctxOf cfg result locals st.globals) r)
          (traceOf (ctxOf cfg result locals st.globals) l ++ traceOf (ctxOf cfg result locals st.globals) r) st) := by
  constructor
  all_goals
    rw [eval_spec cfg hb result locals, valueOf, traceOf, hl]
    simp only [rightSelected, ctx_truthy]
    by_cases ht : cfg.host.truthy lv [] = true <;> simp [ht]

/-- the same fact for **every** world, host and call-back (in particular the real `callValue`): a successful `l && r`
(`l || r`) returns either the value of `l` in the state `l` left behind — `r` not evaluated at all — or whatever `r`
returns when evaluated after `l`; which one is decided by the truthiness of the left value alone. -/
theorem and_or_operand {W : Type} (cfg : Config W) (call : CallFn W) (locals : Option Env) (l r : Expr)
    (st st' : State W) (v : Value) :
    (evalExpr cfg call locals (.binary .and l r) st = .ok v st' →
      ∃ lv st1, evalExpr cfg call locals l st = .ok lv st1 ∧
        ((cfg.host.truthy lv st1.world = false ∧ v = lv ∧ st' = st1) ∨
         (cfg.host.truthy lv st1.world = true ∧ evalExpr cfg call locals r st1 = .ok v st'))) ∧
    (evalExpr cfg call locals (.binary .or l r) st = .ok v st' →
      ∃ lv st1, evalExpr cfg call locals l st = .ok lv st1 ∧
        ((cfg.host.truthy lv st1.world = true ∧ v = lv ∧ st' = st1) ∨
         (cfg.host.truthy lv st1.world = false ∧ evalExpr cfg call locals r st1 = .ok v st'))) := by
  constructor <;> intro h <;> rw [evalExpr] at h <;> split at h
  · refine ⟨_, _, ‹_›, ?_⟩
    split at h
    · exact .inr ⟨‹_›, h⟩
    · cases h; exact .inl ⟨Bool.eq_false_iff.2 ‹_›, rfl, rfl⟩
  · rename_i hno; exact (hno _ _ h).elim
  · refine ⟨_, _, ‹_›, ?_⟩
    split at h
    · cases h; exact .inl ⟨‹_›, rfl, rfl⟩
    · exact .inr ⟨Bool.eq_false_iff.2 ‹_›, h⟩
  · rename_i hno; exact (hno _ _ h).elim

/-- **`if` evaluates only the selected branch.**  With the condition evaluating to `cv`: `if(c, t, f, …)` is the outcome of
`t` (calls of `c` then of `t`) when `cv` is truthy, otherwise the outcome of `f` (calls of `c` then of `f`); arguments
after the third are never evaluated; `if(c, t)` with a falsy condition is null with the calls of `c` only; `if(c)` is
null after evaluating `c`; `if()` is null. -/
theorem if_lazy (cfg : Config Trace) (hb : Blind cfg.host) (result : Value → List Value → Value)
    (locals : Option Env) (c t f : Expr) (rest : List Expr) (st : State Trace) (cv : Value)
    (hc : valueOf (ctxOf cfg result locals st.globals) c = .ok cv) :
    (evalExpr cfg (traceCall result) locals (.function kwIf (c :: t :: f :: rest)) st =
      if cfg.host.truthy cv [] then
        embed (valueOf (ctxOf cfg result locals st.globals) t)
          (traceOf (ctxOf cfg result locals st.globals) c ++ traceOf (ctxOf cfg result locals st.globals) t) st
      else
        embed (valueOf (ctxOf cfg result locals st.globals) f)
          (traceOf (ctxOf cfg result locals st.globals) c ++ traceOf (ctxOf cfg result locals st.globals) f) st) ∧
    (evalExpr cfg (traceCall result) locals (.function kwIf [c, t]) st =
      if cfg.host.truthy cv [] then
        embed (valueOf (ctxOf cfg result locals st.globals) t)
          (traceOf (ctxOf cfg result locals st.globals) c ++ traceOf (ctxOf cfg result locals st.globals) t) st
      else .ok .null { st with world := st.world ++ traceOf (ctxOf cfg result locals st.globals) c }) ∧
    (evalExpr cfg (traceCall result) locals (.function kwIf [c]) st =
      .ok .null { st with world := st.world ++ traceOf (ctxOf cfg result locals st.globals) c }) ∧
    (evalExpr cfg (traceCall result) locals (.function kwIf []) st = .ok .null st) := by
  refine ⟨?_, ?_, ?_, ?_⟩
  all_goals
    rw [eval_spec cfg hb result locals, valueOf, traceOf]
    simp only [if_true, ifValue, ifTrace, hc, ctx_truthy]
  · by_cases ht : cfg.host.truthy cv [] = true <;> simp [ht]
  · by_cases ht : cfg.host.truthy cv [] = true <;> simp [ht]
  · simp
  · simp

/-- **arguments before lookup** — for every world, host and call-back: the arguments of a call (other than `if`) are
evaluated first; the function name is looked up in the globals *they leave behind*; an unbound name, or a name bound to
null, raises `Undefined function` in that state (the arguments' effects stay); an error in an argument is the result. -/
theorem args_before_lookup {W : Type} (cfg : Config W) (call : CallFn W) (locals : Option Env) (n : Name)
    (args : List Expr) (st : State W) (hn : n ≠ kwIf) :
    (∀ vs st1, evalArgs cfg call locals args st = .ok vs st1 →
      (lookupFunc cfg locals st1.globals n = none →
        evalExpr cfg call locals (.function n args) st = .err (.undefinedFunction n) st1) ∧
      (lookupFunc cfg locals st1.globals n = some .null →
        evalExpr cfg call locals (.function n args) st = .err (.undefinedFunction n) st1) ∧
      (∀ fv, lookupFunc cfg locals st1.globals n = some fv → fv ≠ .null →
        evalExpr cfg call locals (.function n args) st = call fv vs st1)) ∧
    (∀ e st1, evalArgs cfg call locals args st = .err e st1 →
      evalExpr cfg call locals (.function n args) st = .err e st1) := by
  constructor
  · intro vs st1 h
    refine ⟨?_, ?_, ?_⟩
    · intro hf; rw [evalExpr]; simp only [hn, if_false, h, hf]
    · intro hf; rw [evalExpr]; simp only [hn, if_false, h, hf]
    · intro fv hf hnn; rw [evalExpr]; simp only [hn, if_false, h, hf]
  · intro e st1 h
    rw [evalExpr]; simp only [hn, if_false, h]

/-- TRACE instance: a call of an undefined function (unbound, or bound to null) still evaluates its arguments, in order,
and the error keeps their effects; no call record is added for the undefined function itself. -/
theorem undefined_keeps_effects (cfg : Config Trace) (hb : Blind cfg.host) (result : Value → List Value → Value)
    (locals : Option Env) (n : Name) (args : List Expr) (st : State Trace) (vs : List Value) (hn : n ≠ kwIf)
    (hv : valuesOf (ctxOf cfg result locals st.globals) args = .ok vs)
    (hu : lookupFunc cfg locals st.globals n = none ∨ lookupFunc cfg locals st.globals n = some .null) :
    evalExpr cfg (traceCall result) locals (.function n args) st =
      .err (.undefinedFunction n) { st with world := st.world ++ tracesOf (ctxOf cfg result locals st.globals) args } := by
  rw [eval_spec cfg hb result locals, valueOf, traceOf]
  simp only [hn, if_false, hv, callTrace, callee, ctx_func]
  rcases hu with h | h <;> simp [h]

/-! ## keywords -/

/-- **keywords win** — for every world, host, call-back and environment: `null`, `false`, `true` evaluate to the
constants without consulting locals or globals, and a call of `if` is the lazy built-in without any function lookup. -/
theorem keywords_win {W : Type} (cfg : Config W) (call : CallFn W) (locals : Option Env) (st : State W) :
    evalExpr cfg call locals (.variable (.user "null")) st = .ok .null st ∧
    evalExpr cfg call locals (.variable (.user "false")) st = .ok (.bool false) st ∧
    evalExpr cfg call locals (.variable (.user "true")) st = .ok (.bool true) st ∧
    (∀ args, evalExpr cfg call locals (.function (.user "if") args) st = evalIf cfg call locals args st) := by
  refine ⟨?_, ?_, ?_, ?_⟩
  · rw [evalExpr]; simp [kwNull]
  · rw [evalExpr]; simp [kwNull, kwFalse]
  · rw [evalExpr]; simp [kwNull, kwFalse, kwTrue]
  · intro args; rw [evalExpr]; simp [kwIf]

/-! ## the typed operator table (concrete host) -/

open HostImpl in
/-- **operator table** (rows with exact results): `+` adds numbers, concatenates when either side is a string
(stringifying the other with `valueString?`; a value that cannot be stringified — a self-containing container, known
finding F18, null after fix F25 — gives null) and offsets a datetime by (integral) milliseconds from either side; `-`
subtracts numbers and gives the millisecond difference of two datetimes; `*` multiplies numbers. -/
theorem binop_table (w : World) :
    (∀ x y, binop .add (.num x) (.num y) w = .num (x + y)) ∧
    (∀ x y, binop .add (.str x) (.str y) w = .str (x ++ y)) ∧
    (∀ x b, binop .add (.str x) b w = match valueString? w b with | some s => .str (x ++ s) | none => .null) ∧
    (∀ a y, binop .add a (.str y) w = match valueString? w a with | some s => .str (s ++ y) | none => .null) ∧
    (∀ x y, y.den = 1 → binop .add (.dt x) (.num y) w = .dt (x + y.num)) ∧
    (∀ x y, x.den = 1 → binop .add (.num x) (.dt y) w = .dt (y + x.num)) ∧
    (∀ x y, binop .sub (.num x) (.num y) w = .num (x - y)) ∧
    (∀ x y, binop .sub (.dt x) (.dt y) w = .num ((x - y : Int) : Rat)) ∧
    (∀ x y, binop .mul (.num x) (.num y) w = .num (x * y)) :=
  ⟨fun _ _ => rfl, fun _ _ => rfl, fun _ b => by cases b <;> rfl, fun a _ => by cases a <;> rfl,
   fun _ _ h => if_pos (beq_iff_eq.2 h), fun _ _ h => if_pos (beq_iff_eq.2 h), fun _ _ => rfl, fun _ _ => rfl, fun _ _ => rfl⟩

open HostImpl in
/-- every value that is not a container stringifies (so concatenation with it is never null), with the documented text
for null and booleans, the value itself for a string -/
theorem stringify_scalars (w : World) :
    valueString? w .null = some "null" ∧ valueString? w (.bool true) = some "true" ∧
    valueString? w (.bool false) = some "false" ∧ (∀ s, valueString? w (.str s) = some s) ∧
    (∀ q, valueString? w (.num q) = some (ratText q)) ∧ (∀ f, valueString? w (.fn f) = some "<function>") ∧
    (∀ r, valueString? w (.regex r) = some "<regex>") :=
  ⟨rfl, rfl, rfl, fun _ => rfl, fun _ => rfl, fun _ => rfl, fun _ => rfl⟩

open HostImpl in
/-- **operator table, `/ % **` rows** (`_partial`: exact rational results; the real code rounds them to IEEE doubles):
division and modulo by zero, and `0 ** negative`, are null (F4); `%` takes the sign of the divisor; an integral exponent
is repeated multiplication, a negative one its reciprocal. -/
theorem binop_numeric_partial (w : World) :
    (∀ x y, y ≠ 0 → binop .div (.num x) (.num y) w = .num (x / y)) ∧
    (∀ x, binop .div (.num x) (.num 0) w = .null) ∧
    (∀ x y, y ≠ 0 → binop .mod (.num x) (.num y) w = .num (x - y * ((x / y).floor : Rat))) ∧
    (∀ x, binop .mod (.num x) (.num 0) w = .null) ∧
    (∀ x y, y.den = 1 → 0 ≤ y.num → binop .pow (.num x) (.num y) w = .num (ratPowNat x y.num.toNat)) ∧
    (∀ x y, y.den = 1 → y.num < 0 → x ≠ 0 → binop .pow (.num x) (.num y) w = .num (1 / ratPowNat x y.num.natAbs)) ∧
    (∀ y, y.den = 1 → y.num < 0 → binop .pow (.num 0) (.num y) w = .null) := by
  refine ⟨?_, ?_, ?_, ?_, ?_, ?_, ?_⟩
  · intro x y h; simp [binop, h]
  · intro x; simp [binop]
  · intro x y h; simp [binop, h, pyMod, ratFloor]
  · intro x; simp [binop]
  · intro x y h1 h2; simp [binop, h1, h2]
  · intro x y h1 h2 h3; simp [binop, h1, Int.not_le.2 h2, h3]
  · intro y h1 h2; simp [binop, h1, Int.not_le.2 h2]

theorem ratPowNat_eq (x : Rat) (n : Nat) : HostImpl.ratPowNat x n = x ^ n := by
  induction n with
  | zero => simp [HostImpl.ratPowNat]
  | succ k ih => rw [HostImpl.ratPowNat, ih, Rat.pow_succ, Rat.mul_comm]

open HostImpl in
/-- **comparisons are sign tests** of the single value order `compare?` (total preorder: property C11): when the
comparison of the two values terminates with `c`, the six operators are the six sign tests of `c`; when it does not (a pair
of self-containing containers: known finding F18, null after fix F25) all six are null. -/
theorem relops_are_sign_tests (w : World) (a b : Value) :
    (∀ c, compare? w a b = some c →
      binop .eq a b w = .bool (c == 0) ∧ binop .ne a b w = .bool (c != 0) ∧
      binop .le a b w = .bool (decide (c ≤ 0)) ∧ binop .lt a b w = .bool (decide (c < 0)) ∧
      binop .ge a b w = .bool (decide (c ≥ 0)) ∧ binop .gt a b w = .bool (decide (c > 0))) ∧
    (compare? w a b = none →
      ∀ op, isCompare op = true → binop op a b w = .null) := by
  constructor
  · intro c h; simp [binop, h]
  · intro h op hop
    cases op <;> simp [isCompare] at hop <;> simp [binop, h]

open HostImpl in
/-- hence the six comparisons are mutually consistent on every pair of values (of any types) whose comparison terminates -/
theorem relops_consistent (w : World) (a b : Value) (c : Int) (h : compare? w a b = some c) :
    ∃ eq lt : Bool, (eq && lt) = false ∧
      binop .eq a b w = .bool eq ∧ binop .ne a b w = .bool (!eq) ∧ binop .lt a b w = .bool lt ∧
      binop .le a b w = .bool (lt || eq) ∧ binop .ge a b w = .bool (!lt) ∧ binop .gt a b w = .bool (!lt && !eq) := by
  obtain ⟨h1, h2, h3, h4, h5, h6⟩ := (relops_are_sign_tests w a b).1 c h
  rw [h1, h2, h3, h4, h5, h6]
  rcases Int.lt_trichotomy c 0 with hc | hc | hc
  · exact ⟨false, true, rfl, by simp [hc, Int.ne_of_lt hc, Int.le_of_lt hc]⟩
  · subst hc; exact ⟨true, false, rfl, by decide⟩
  · exact ⟨false, false, rfl, by simp [Int.ne_of_gt hc, Int.not_lt.2 (Int.le_of_lt hc), Int.not_le.2 hc, hc, Int.le_of_lt hc]⟩

open HostImpl in
/-- values of different types (neither null) compare by type name, null is below everything else, and the comparison of
two scalars always terminates — so the sign-test reading applies to every pair of non-container values -/
theorem compare_scalars (w : World) :
    (∀ b, b ≠ .null → compare? w .null b = some (-1)) ∧ (∀ a, a ≠ .null → compare? w a .null = some 1) ∧
    compare? w .null .null = some 0 ∧
    (∀ x y : Rat, compare? w (.num x) (.num y) = some (if x < y then -1 else if x = y then 0 else 1)) ∧
    (∀ x y : String, compare? w (.str x) (.str y) = some (cmpOrd x y)) ∧
    (∀ (x : Bool) (y : Rat), compare? w (.bool x) (.num y) = some (cmpOrd "boolean" "number")) := by
  refine ⟨?_, ?_, ?_, ?_, ?_, ?_⟩
  · intro b hb; cases b <;> first | exact absurd rfl hb | simp [compare?, valueCompare]
  · intro a ha; cases a <;> first | exact absurd rfl ha | simp [compare?, valueCompare]
  · simp [compare?, valueCompare]
  · intro x y; simp [compare?, valueCompare]
  · intro x y; simp [compare?, valueCompare]
  · intro x y; simp [compare?, valueCompare, typeName]

theorem typeName_mem (v : Value) : HostImpl.typeName v ∈ typeNames := by
  cases v <;> repeat (first | exact List.Mem.head _ | apply List.Mem.tail)

open HostImpl in
/-- **unsupported operand types yield null**: for every operator and ALL 9 × 9 pairs of operand types, a combination
outside the table `supported` evaluates to null (whatever the values and the heap). -/
theorem unsupported_is_null (op : BinOp) (a b : Value) (w : World)
    (h : supported op (typeName a) (typeName b) = false) : binop op a b w = .null := by
  cases op
  case and | or => rfl
  case le | lt | ge | gt | eq | ne => cases h
  -- arithmetic: a left operand without a row is null whatever stands on the right; otherwise by the right operand,
  -- where either the operator computes null or the pair is a row of `supported` and `h` is false
  all_goals
    cases a <;> first | rfl | (cases b <;> first | rfl | simp [supported, typeName] at h)

/-- the table is neither empty nor everything: of the 12 × 81 (strict operator, type, type) triples 460 are unsupported -/
theorem unsupported_count :
    ((strictOps.flatMap fun op => typeNames.flatMap fun ta => typeNames.map fun tb => supported op ta tb).count false) = 460 ∧
    ((strictOps.flatMap fun op => typeNames.flatMap fun ta => typeNames.map fun tb => supported op ta tb).length) = 972 := by
  decide +kernel

open HostImpl in
/-- **booleans are not numbers** (F13): arithmetic on a boolean operand, on either side, and unary minus of a boolean,
are null — `true + 1` is not 2. -/
theorem bool_is_not_number (b : Bool) (x : Rat) (w : World) :
    (∀ op, op ∈ [BinOp.add, .sub, .mul, .div, .mod, .pow] →
      binop op (.bool b) (.num x) w = .null ∧ binop op (.num x) (.bool b) w = .null ∧
      binop op (.bool b) (.bool b) w = .null) ∧
    neg (.bool b) = .null := by
  refine ⟨?_, rfl⟩
  intro op hop
  simp only [List.mem_cons, List.not_mem_nil, or_false] at hop
  rcases hop with h | h | h | h | h | h <;> subst h <;> exact ⟨rfl, rfl, rfl⟩

open HostImpl in
/-- unary minus: numbers only -/
theorem neg_table : (∀ x, neg (.num x) = .num (-x)) ∧ (∀ v, typeName v ≠ "number" → neg v = .null) := by
  refine ⟨fun _ => rfl, ?_⟩
  intro v h; cases v <;> first | rfl | exact absurd rfl h

open HostImpl in
/-- truthiness (what decides `&&`, `||`, `!`, `if`): null, false, 0, '' and the empty array are falsy, all else truthy -/
theorem truthy_table (w : World) :
    truthy .null w = false ∧ (∀ b, truthy (.bool b) w = b) ∧ (∀ x, truthy (.num x) w = (x != 0)) ∧
    (∀ s, truthy (.str s) w = (s != "")) ∧ (∀ d, truthy (.dt d) w = true) ∧
    (∀ r, truthy (.arr r) w = (((w.arr? r).getD []).length != 0)) ∧
    (∀ r, truthy (.obj r) w = true) ∧ (∀ f, truthy (.fn f) w = true) ∧ (∀ r, truthy (.regex r) w = true) :=
  ⟨rfl, fun _ => rfl, fun _ => rfl, fun _ => rfl, fun _ => rfl, fun _ => rfl, fun _ => rfl, fun _ => rfl, fun _ => rfl⟩

/-! ## the built-in expression functions -/

/-- **the alias table is the documented one**: the table generated from `library.EXPRESSION_FUNCTION_MAP` of the working
tree equals the documented 46-entry list, for every alias `EXPRESSION_FUNCTIONS[alias] is SCRIPT_FUNCTIONS[target]` (the
same function object — "behaves exactly as" is identity, not a sampled claim), and `EXPRESSION_FUNCTIONS` has no other key. -/
theorem alias_table_documented :
    (Gen.aliases.map fun t => (t.1, t.2.1)) = documentedAliases ∧
    Gen.aliases.all (fun t => t.2.2) = true ∧
    Gen.aliasExtra = [] ∧
    documentedAliases.length = 46 ∧ (documentedAliases.map (·.1)).Nodup :=
  ⟨rfl, rfl, rfl, rfl, by decide +kernel⟩

theorem find?_key_of_mem {α β : Type} [BEq α] [LawfulBEq α] :
    ∀ {l : List (α × β)} {t : α × β}, (l.map (·.1)).Nodup → t ∈ l → l.find? (·.1 == t.1) = some t
  | x :: xs, t, hnd, ht => by
    rw [List.map_cons, List.nodup_cons] at hnd
    rw [List.find?_cons]
    rcases List.mem_cons.1 ht with rfl | ht
    · rw [beq_self_eq_true]
    · rw [beq_false_of_ne fun h : x.1 = t.1 => hnd.1 (h ▸ List.mem_map_of_mem ht)]
      exact find?_key_of_mem hnd.2 ht

/-- every documented built-in resolves to the library function it is documented to alias, and nothing else is a built-in -/
theorem alias_resolves_to_target :
    (∀ p ∈ documentedAliases, builtinOf (.user p.1) = some (.lib p.2)) ∧
    (∀ s, s ∉ documentedAliases.map (·.1) → builtinOf (.user s) = none) ∧ (∀ k n, builtinOf (.gen k n) = none) := by
  obtain ⟨htab, -, -, -, hnd⟩ := alias_table_documented
  rw [← htab] at hnd ⊢
  refine ⟨?_, ?_, fun _ _ => rfl⟩
  · -- the generated table has the documented keys, which are distinct: the lookup finds the entry itself
    intro p hp
    obtain ⟨t, ht, rfl⟩ := List.mem_map.1 hp
    rw [List.map_map] at hnd
    exact congrArg (Option.map _) (find?_key_of_mem hnd ht)
  · intro s hs
    simp only [builtinOf, Option.map_eq_none_iff, List.find?_eq_none]
    intro t ht heq
    exact hs (List.mem_map.2 ⟨_, List.mem_map_of_mem ht, by simpa using heq⟩)

/-- expression mode (`builtins`): an alias that is bound neither in the locals nor in the globals is looked up as the
library function it aliases — the call that follows is the very call a script makes through the target's own name. -/
theorem alias_lookup {W : Type} (cfg : Config W) (hbi : cfg.builtins = true) (hh : cfg.host.builtin = builtinOf)
    (locals : Option Env) (g : Env) (p : String × String) (hp : p ∈ documentedAliases)
    (hl : ∀ l, locals = some l → l.contains (.user p.1) = false) (hg : g.contains (.user p.1) = false) :
    lookupFunc cfg locals g (.user p.1) = some (.fn (.lib p.2)) := by
  have hb := alias_resolves_to_target.1 p hp
  cases locals with
  | none => simp [lookupFunc, hg, hbi, hh, hb]
  | some l => simp [lookupFunc, hg, hbi, hh, hb, hl l rfl]

/-- **a binding wins over the built-in** (and locals win over globals): the built-ins are consulted only for a name that
neither the locals nor the globals bind — even a binding to null shadows the built-in (the call is then undefined). -/
theorem binding_wins_over_builtin {W : Type} (cfg : Config W) (g : Env) (n : Name) :
    (∀ l : Env, l.contains n = true → lookupFunc cfg (some l) g n = l.get? n) ∧
    (∀ locals : Option Env, (∀ l, locals = some l → l.contains n = false) → g.contains n = true →
      lookupFunc cfg locals g n = g.get? n) ∧
    (cfg.builtins = false → ∀ locals : Option Env, (∀ l, locals = some l → l.contains n = false) → g.contains n = false →
      lookupFunc cfg locals g n = none) := by
  refine ⟨?_, ?_, ?_⟩
  · intro l h; simp [lookupFunc, h]
  · intro locals hl hg
    cases locals with
    | none => simp [lookupFunc, hg]
    | some l => simp [lookupFunc, hg, hl l rfl]
  · intro hb locals hl hg
    cases locals with
    | none => simp [lookupFunc, hg, hb]
    | some l => simp [lookupFunc, hg, hb, hl l rfl]

/-! ## non-vacuity: the hypotheses are inhabited and the statements say something on concrete expressions -/

section Examples

/-- a blind host: the concrete operators of `HostImpl` on the empty heap -/
def exHost : Host Trace where
  truthy := fun v _ => HostImpl.truthy v {}
  binop := fun op a b _ => HostImpl.binop op a b {}
  neg := HostImpl.neg
  lib := fun _ _ w => .ret (.ok .null) w
  other := fun _ _ w => .ret (.ok .null) w
  notCallable := fun _ w => w
  logFailure := fun w => w
  newArray := fun _ w => (.null, w)
  builtin := builtinOf

theorem exBlind : Blind exHost := ⟨fun _ _ _ => rfl, fun _ _ _ _ _ => rfl⟩

def exCfg : Config Trace := { host := exHost, funs := fun _ => none, maxStatements := 0, builtins := true }

/-- every function returns its second argument (`tr(tag, x)` is the logging identity) -/
def exResult : Value → List Value → Value
  | _, [_, x] => x
  | _, _ => .null

def tr (tag : String) (e : Expr) : Expr := .function (.user "tr") [.string tag, e]
def trV : Value := .fn (.lib "tr")

/-- globals that bind `tr`, and also the keywords `null` and `if` -/
def exGlobals : Env := [(.user "tr", trV), (.user "null", .num 5), (.user "if", trV), (.user "len", .null)]
def exState : State Trace := { globals := exGlobals, world := [(trV, [.str "earlier"])], count := 7 }

/-- value and complete trace, or the error and the trace -/
def run (e : Expr) : Sum (Value × Trace) (RtErr × Trace) :=
  match evalExpr exCfg (traceCall exResult) none e exState with
  | .ok v st => .inl (v, st.world)
  | .err e st => .inr (e, st.world)
  | .oof => .inr (.host "oof", [])

/-- `tr('a', 0) && tr('b', 1)` is the left operand's value 0 (not `false`); `b` is never called -/
example : run (.binary .and (tr "a" (.number 0)) (tr "b" (.number 1)))
    = .inl (.num 0, [(trV, [.str "earlier"]), (trV, [.str "a", .num 0])]) := by decide +kernel

/-- `tr('a', 2) && tr('b', 3)` is the right operand's value 3 (not `true`); a then b -/
example : run (.binary .and (tr "a" (.number 2)) (tr "b" (.number 3)))
    = .inl (.num 3, [(trV, [.str "earlier"]), (trV, [.str "a", .num 2]), (trV, [.str "b", .num 3])]) := by decide +kernel

/-- `tr('a', 's') || tr('b', 3)` is 's'; b is never called; `tr('a', '') || tr('b', 3)` is 3 -/
example : run (.binary .or (tr "a" (.string "s")) (tr "b" (.number 3)))
    = .inl (.str "s", [(trV, [.str "earlier"]), (trV, [.str "a", .str "s"])]) := by decide +kernel
example : run (.binary .or (tr "a" (.string "")) (tr "b" (.number 3)))
    = .inl (.num 3, [(trV, [.str "earlier"]), (trV, [.str "a", .str ""]), (trV, [.str "b", .num 3])]) := by decide +kernel

/-- `tr('a', 1) + tr('b', 2) * tr('c', 3)` = 7, calls in source order a, b, c (not in order of operator application) -/
example : run (.binary .add (tr "a" (.number 1)) (.binary .mul (tr "b" (.number 2)) (tr "c" (.number 3))))
    = .inl (.num 7, [(trV, [.str "earlier"]), (trV, [.str "a", .num 1]), (trV, [.str "b", .num 2]), (trV, [.str "c", .num 3])]) := by
  decide +kernel

/-- `if(tr('c', 0), tr('t', 1), tr('f', 2), tr('x', 3))` = 2 with calls c, f only — although a function is bound to the name `if` -/
example : run (.function (.user "if") [tr "c" (.number 0), tr "t" (.number 1), tr "f" (.number 2), tr "x" (.number 3)])
    = .inl (.num 2, [(trV, [.str "earlier"]), (trV, [.str "c", .num 0]), (trV, [.str "f", .num 2])]) := by decide +kernel

/-- `nope(tr('a', 1), tr('b', 2))`: Undefined function, after both arguments were evaluated in order -/
example : run (.function (.user "nope") [tr "a" (.number 1), tr "b" (.number 2)])
    = .inr (.undefinedFunction (.user "nope"), [(trV, [.str "earlier"]), (trV, [.str "a", .num 1]), (trV, [.str "b", .num 2])]) := by
  decide +kernel

/-- `null` is the constant although a global of that name is 5; `'x' + null` stringifies it -/
example : run (.binary .add (.string "x") (.variable (.user "null"))) = .inl (.str "xnull", [(trV, [.str "earlier"])]) := by decide +kernel

/-- expression mode: `abs` resolves to `mathAbs`; `len` is bound (to null) in the globals, which wins: undefined -/
example : lookupFunc exCfg none exGlobals (.user "abs") = some (.fn (.lib "mathAbs")) := by decide +kernel
example : run (.function (.user "abs") [.number 1]) = .inl (.null, [(trV, [.str "earlier"]), (.fn (.lib "mathAbs"), [.num 1])]) := by
  decide +kernel
example : run (.function (.user "len") [tr "a" (.string "s")])
    = .inr (.undefinedFunction (.user "len"), [(trV, [.str "earlier"]), (trV, [.str "a", .str "s"])]) := by decide +kernel

/-- the hypotheses of `and_or_lazy` / `if_lazy` / `undefined_keeps_effects` / `alias_lookup` hold on these instances -/
example : valueOf (ctxOf exCfg exResult none exGlobals) (tr "a" (.number 0)) = .ok (.num 0) := by decide +kernel
example : valuesOf (ctxOf exCfg exResult none exGlobals) [tr "a" (.number 1), tr "b" (.number 2)] = .ok [.num 1, .num 2] := by decide +kernel
example : lookupFunc exCfg none exGlobals (.user "nope") = none := by decide +kernel
example : exGlobals.contains (.user "abs") = false ∧ ("abs", "mathAbs") ∈ documentedAliases := by decide +kernel

/-- the operator table on concrete values: `'n=' + 2.5`, `true + 1` (null), `[] < 0` by type name ('array' < 'number') -/
example : HostImpl.binop .add (.str "n=") (.num (5/2)) {} = .str "n=2.5" := by decide +kernel
example : HostImpl.binop .add (.bool true) (.num 1) {} = .null := by decide +kernel
example : HostImpl.binop .lt (.arr 0) (.num 0) {} = .bool true := by
  simp [HostImpl.binop, HostImpl.compare?, HostImpl.valueCompare, HostImpl.cmpOrd, HostImpl.typeName]
example : HostImpl.compare? {} .null (.num 2) = some (-1) := by
  simp [HostImpl.compare?, HostImpl.valueCompare]
example : supported .sub "datetime" "number" = false ∧ supported .add "datetime" "number" = true := by decide +kernel

end Examples

end C03
