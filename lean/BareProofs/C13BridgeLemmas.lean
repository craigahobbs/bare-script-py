import BareProofs.C13
import BareModel.ExprParse
import BareProofs.C02Lemmas
import BareProofs.C13Scan

/-!
# C13Bridge — helper lemmas: `float()` on a literal with any Unicode decimal digits

`_PyUnicode_TransformDecimalAndSpaceToASCII` character by character (`pyTransform_fix`), the ASCII twin of a literal
(`ascTok`: same grammar, same value), hence `floatText_text_uni`.  The comparison of the two number scanners is in
`BareProofs/C13Scan.lean`; the property theorems are in `BareProofs/C13Bridge.lean`.
-/

namespace C13Bridge
open NumText C13

theorem digVal_lt {c : Char} (h : isDig c = true) : digVal c < 10 ∧ decDigit? c = some (digVal c) := by
  obtain ⟨d, hd⟩ := Option.isSome_iff_exists.mp h
  obtain ⟨z, _, h1, h2, e⟩ := decDigit?_eq_some.mp hd
  simp only [digVal, hd, Option.getD_some]
  exact ⟨by omega, trivial⟩

/-- the ASCII digit `_PyUnicode_TransformDecimalAndSpaceToASCII` writes for a decimal digit -/
def ascOf (c : Char) : Char := Char.ofNat (48 + digVal c)

/-- what the transformation does to one character of a literal -/
def fixChar (c : Char) : Char := if isDig c then ascOf c else c

theorem ascOf_ascii {c : Char} (h : isDig c = true) : isAsciiDigit (ascOf c) = true ∧ digVal (ascOf c) = digVal c :=
  ⟨ascii_digitChar _ (digVal_lt h).1, digVal_digitChar _ (digVal_lt h).1⟩

theorem ascOf_of_ascii {c : Char} (h : isAsciiDigit c = true) : ascOf c = c := by
  have hv : digVal c = c.toNat - 48 := by simp [digVal, decDigit?, h]
  simp only [isAsciiDigit, decide_eq_true_eq] at h
  have e : 48 + (c.toNat - 48) = c.toNat := by omega
  simp only [ascOf, hv, e, Char.ofNat_toNat]

/-- table fact: the non-ASCII spaces lie in three gaps of the digit table -/
theorem zeros_gaps : ∀ z ∈ 48 :: uniZeros,
    (z + 10 ≤ 0x85 ∨ 0xa0 < z) ∧ (z + 10 ≤ 0x1680 ∨ 0x1680 < z) ∧ (z + 10 ≤ 0x2000 ∨ 0x3000 < z) := by decide

theorem dig_not_uniSpace {c : Char} (h : isDig c = true) : isUniSpace c = false := by
  obtain ⟨z, hz, h1, h2, _⟩ := decDigit?_eq_some.mp (digVal_lt h).2
  have := zeros_gaps z hz
  simp only [isUniSpace, decide_eq_false_iff_not]
  omega

theorem pyTransform_fix {l : List Char} (h : ∀ c ∈ l, isDig c = true ∨ c.toNat < 128) : pyTransform l = some (l.map fixChar) := by
  induction l with
  | nil => rfl
  | cons c cs ih =>
    have ih' := ih (fun d hd => h d (List.mem_cons_of_mem _ hd))
    by_cases ha : c.toNat < 128
    · have hf : fixChar c = c := by
        unfold fixChar
        split
        · rename_i hd; exact ascOf_of_ascii (ascii_of_isDig hd ha)
        · rfl
      simp [pyTransform, ha, ih', hf]
    · have hd : isDig c = true := (h c (List.mem_cons_self ..)).resolve_right ha
      simp [pyTransform, ha, ih', dig_not_uniSpace hd, (digVal_lt hd).2, fixChar, hd, ascOf]

/-- the literal `float()` sees: every digit replaced by its ASCII digit -/
def ascTok (t : Tok) : Tok :=
  ⟨t.sign, t.ip.map ascOf, t.frac.map (fun fp => fp.map ascOf), t.exp.map (fun e => ⟨e.upper, e.sign, e.digits.map ascOf⟩)⟩

theorem map_fix_digs {l : List Char} (h : Digs l) : l.map fixChar = l.map ascOf :=
  List.map_congr_left (fun c hc => by simp [fixChar, h c hc])

theorem map_fix_sign (s : Sign) : s.text.map fixChar = s.text := by
  cases s <;> simp [Sign.text, fixChar] <;> decide

theorem text_fix {strict : Bool} {t : Tok} (h : TokWF strict t) : t.text.map fixChar = (ascTok t).text := by
  obtain ⟨sign, ip, frac, exp⟩ := t
  have h1 : (fracText frac).map fixChar = fracText (frac.map (fun fp => fp.map ascOf)) := by
    cases frac with
    | none => rfl
    | some fp =>
      have : fixChar '.' = '.' := by decide
      simp [fracText, this, map_fix_digs (h.fp fp rfl)]
  have h2 : (expText exp).map fixChar = expText (exp.map (fun e => ⟨e.upper, e.sign, e.digits.map ascOf⟩)) := by
    cases exp with
    | none => rfl
    | some e =>
      have he : fixChar 'e' = 'e' := by decide
      have hE : fixChar 'E' = 'E' := by decide
      simp only [expText, ExpPart.text, Option.map_some, List.map_cons, List.map_append, map_fix_sign,
        map_fix_digs (h.exp e rfl).digs]
      cases e.upper <;> simp [he, hE]
  simp only [Tok.text, ascTok, List.map_append, map_fix_sign, map_fix_digs h.ip, h1, h2]

theorem digs_map_asc {l : List Char} (h : Digs l) : AsciiDigs (l.map ascOf) := by
  intro c hc
  obtain ⟨d, hd, rfl⟩ := List.mem_map.mp hc
  exact (ascOf_ascii (h d hd)).1

theorem natOf_foldl_asc {l : List Char} (h : Digs l) (a : Nat) :
    (l.map ascOf).foldl (fun a c => a * 10 + digVal c) a = l.foldl (fun a c => a * 10 + digVal c) a := by
  induction l generalizing a with
  | nil => rfl
  | cons c l ih =>
    simp only [List.map_cons, List.foldl_cons, (ascOf_ascii (h c (List.mem_cons_self ..))).2]
    exact ih (fun d hd => h d (List.mem_cons_of_mem _ hd)) _

theorem natOf_map_asc {l : List Char} (h : Digs l) : natOf (l.map ascOf) = natOf l := natOf_foldl_asc h 0

theorem ascTok_ascii {strict : Bool} {t : Tok} (h : TokWF strict t) : TokAscii (ascTok t) := by
  refine ⟨digs_map_asc h.ip, ?_, ?_⟩
  · intro fp hfp
    obtain ⟨fp0, hf, rfl⟩ := Option.map_eq_some_iff.mp hfp
    exact digs_map_asc (h.fp fp0 hf)
  · intro e he
    obtain ⟨e0, hx, rfl⟩ := Option.map_eq_some_iff.mp he
    exact digs_map_asc (h.exp e0 hx).digs

theorem ascTok_wf {strict : Bool} {t : Tok} (h : TokWF strict t) : TokWF strict (ascTok t) := by
  have ha := ascTok_ascii h
  refine ⟨digs_of_ascii ha.ip, fun fp hfp => digs_of_ascii (ha.fp fp hfp), ?_, ?_⟩
  · rcases h.someDigit with hh | ⟨hs, fp, hfp, hne⟩
    · left; simpa [ascTok] using hh
    · right; exact ⟨hs, fp.map ascOf, by simp [ascTok, hfp], by simpa using hne⟩
  · intro e he
    obtain ⟨e0, hx, rfl⟩ := Option.map_eq_some_iff.mp he
    have hw := h.exp e0 hx
    exact ⟨digs_of_ascii (digs_map_asc hw.digs), by simpa using hw.ne, hw.strictE⟩

theorem ascTok_val {strict : Bool} {t : Tok} (h : TokWF strict t) : (ascTok t).val = t.val := by
  obtain ⟨sign, ip, frac, exp⟩ := t
  have h1 : fracVal (frac.map (fun fp => fp.map ascOf)) = fracVal frac := by
    cases frac with
    | none => rfl
    | some fp => simp [fracVal, natOf_map_asc (h.fp fp rfl)]
  have h2 : expVal (exp.map (fun e => (⟨e.upper, e.sign, e.digits.map ascOf⟩ : ExpPart))) = expVal exp := by
    cases exp with
    | none => rfl
    | some e => simp [expVal, ExpPart.val, natOf_map_asc (h.exp e rfl).digs]
  simp only [Tok.val, ascTok, natOf_map_asc h.ip, h1, h2]

/-- **`float()` never raises on what `_R_EXPR_NUMBER` matched**: on the text of a literal of the grammar — its digits any
Unicode decimal digits — `float()` sees exactly that literal (`float('١٢.٥e+٣') == 12500.0`); `C13.floatText_text`
is the case of ASCII digits, through which the proof goes. -/
theorem floatText_text_uni {strict : Bool} {t : Tok} (h : TokWF strict t) (hs : TokWF false t) :
    floatText (String.ofList t.text) = some (.fin t.val) := by
  have hcs : ∀ c ∈ t.text, isDig c = true ∨ c.toNat < 128 := by
    intro c hc
    rcases mem_text hc with hc | hc | ⟨fp, hf, hc⟩ | ⟨e, he, hc⟩
    · exact .inr ((by decide : ∀ c ∈ ['+', '-', '.', 'e', 'E'], c.toNat < 128) c hc)
    · exact .inl (h.ip c hc)
    · exact .inl (h.fp fp hf c hc)
    · exact .inl ((h.exp e he).digs c hc)
  have h1 : pyTransform t.text = some (ascTok t).text := by rw [pyTransform_fix hcs, text_fix h]
  have ha := ascTok_ascii h
  have h1' : pyTransform (ascTok t).text = some (ascTok t).text :=
    pyTransform_ascii (fun c hc => (numChar_plain (numChars_text ha c hc)).1)
  have e : floatText (String.ofList t.text) = floatText (String.ofList (ascTok t).text) := by
    simp only [floatText, floatBody, String.toList_ofList, h1, h1']
  rw [e, floatText_text (ascTok_wf hs) ha, ascTok_val h]

end C13Bridge
