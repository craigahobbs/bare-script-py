import BareModel.RxPatterns
import BareModel.Gen.Regex

/-!
# C06RegexPins — the regex ASTs of `RxPatterns` ARE the patterns of parser.py in the working tree

Kept in its own module: when a pattern in parser.py changes, exactly these obligations break (and name the tie that is lost),
while the theorems of `BareProofs/C06Regex.lean` about the ASTs keep checking; the streams of `harness/props/c06x.py` then
show on which texts the new pattern and the AST differ.
-/

namespace C06Regex
open Rx RxPatterns

/-! ## comparing strings in the kernel

The table is checked by evaluation.  For the kernel a string literal is `String.ofList` of its characters, and comparing two
strings means UTF-8 encoding both into byte arrays by appending byte after byte, which costs the square of the length.  So
the rendering of an AST is compared with the literal on the bytes (`sameBytes`: only the literal is encoded that way), and a
name is looked up by the number its bytes spell (`keyNat`): names with different numbers are different. -/

def sameBytes (l : List Char) (s : String) : Bool := l.flatMap String.utf8EncodeChar == s.toByteArray.data.toList

theorem ofList_eq_of_sameBytes {l : List Char} {s : String} (h : sameBytes l s = true) : String.ofList l = s := by
  refine String.toByteArray_inj.mp (ByteArray.ext ?_)
  rw [String.toByteArray_ofList, List.utf8Encode, List.data_toByteArray, eq_of_beq h, Array.toArray_toList]

def keyNat (s : String) : Nat := s.toByteArray.data.toList.foldl (fun n b => n * 256 + b.toNat) 0

theorem lookup_of_find {α β γ} [BEq α] [LawfulBEq α] [BEq γ] [LawfulBEq γ] (f : α → γ) (k : α) :
    ∀ (t : List (α × β)) (e : α × β), t.find? (fun e => f e.1 == f k) = some e → e.1 = k → t.lookup k = some e.2
  | [], _, h, _ => nomatch h
  | e' :: t, e, h, hk => by
    rw [List.find?_cons] at h
    rw [List.lookup_cons]
    split at h
    · cases h; rw [hk, beq_self_eq_true]
    · rename_i hne
      have : (k == e'.1) = false := beq_eq_false_iff_ne.mpr fun e0 => by rw [e0, beq_self_eq_true] at hne; cases hne
      rw [this]; exact lookup_of_find f k t e h hk

/-! ## the tie to the pattern sources -/

/-- every pattern AST renders, character for character, to the source regenerated from the working tree (flags 32) -/
theorem sources_pinned : patterns.all (fun p => Gen.regexes.lookup p.1 == some (p.2.source, 32)) = true := by
  have h : patterns.all (fun p => (Gen.regexes.find? fun e => keyNat e.1 == keyNat p.1).any fun e =>
      e.1 == p.1 && sameBytes p.2.render e.2.1 && e.2.2 == 32) = true := by decide +kernel
  rw [List.all_eq_true] at h ⊢
  intro p hp
  have := h p hp
  cases hf : Gen.regexes.find? (fun e => keyNat e.1 == keyNat p.1) with
  | none => rw [hf] at this; cases this
  | some e =>
    rw [hf, Option.any_some, Bool.and_eq_true, Bool.and_eq_true] at this
    rw [lookup_of_find keyNat p.1 _ e hf (eq_of_beq this.1.1), beq_iff_eq, Rx.source, ofList_eq_of_sameBytes this.1.2,
      ← eq_of_beq this.2]

/-- every module-level pattern of parser.py has an AST -/
theorem patterns_cover_parser :
    (Gen.regexes.filter (fun e => e.1.startsWith "parser.")).map (·.1) = patterns.map (·.1) := by decide +kernel

/-- no star over a nullable body; groups numbered as `re` numbers them -/
theorem patterns_wellformed : patterns.all (fun p => p.2.starsOK && p.2.numbered) = true := by decide +kernel

end C06Regex
