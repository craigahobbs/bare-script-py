import BareProofs.C18SemLemmas
import BareProofs.C18
import BareProofs.C09

/-!
# C18 — acting on a lint warning does not change any run (semantic half of the property)

"A reported unused variable or argument can be renamed, and a reported unused label or pointless statement deleted, without
changing the result, output or final globals of any run."

All theorems are about the documented (cache-free) machine `execM₀ / callValue₀ / execute₀`; `C08.cache_transparent` and
`C08.execute_eq` transfer them to `Machine.execM / execute`.  They hold for every host, every program, every state and all
fuel.  A script function value is an index into the function table `cfg.funs`, so "the body of function `id` was edited" is
a configuration whose table differs at `id` (`LintEdit.setFun`); the global statement list is an argument of `execute₀`.
`delFwd`, `delBwd`, `renAt` say of the two programs what `C18.Edit` asks (facts about the statement lists and the function
tables); the runs are then related by `Edit.sim`.

* deletions (`delete_sim`, `delete_unused_label`, `delete_pointless_stmt`, `…_fn`, `delete_runs`): the deleted statement
  costs one statement tick, so the two-way theorems are for the unlimited budget (`maxStatements = 0`) and relate states up to
  the counter (`StEq`: same globals, same world).  Forward direction with the same fuel, converse with fuel `2·f+1`;
  `RunsEquiv` packages both as "the original run ends in `r` iff the edited run ends in an `r'` equal to `r` up to the
  counter".  `delete_runs_budget` / `lint_delete_sound_budget` cover every budget `L` in the forward direction: a run of the
  original that the budget does not abort is matched by the edited run under the same budget (the edited run never counts
  more: `delete_sim_count`); `Tiny.delete_budget_counterexample` shows the converse fails by design.
* renamings (`rename_sim`, `rename_unused_local`, `rename_unused_arg`): nothing observable changes, not even the counter — the
  runs are *equal* (`callValue₀`, `execM₀`, `execute₀` of the two configurations are the same functions), for every budget;
  the new name only has to be unread (`Tiny.rename_read_target_counterexample`), not fresh.
* tie to the lint model: `unused_variable_exact`, `unused_argument_exact` (what the two variable warnings mean) and
  `lint_unused_label_sound`, `lint_pointless_sound`, `lint_unused_variable_sound`, `lint_unused_argument_sound`.
-/


namespace C18
open Machine Lint LintEdit

variable {W : Type}

abbrev CT : Nat → Nat → Prop := fun _ _ => True
abbrev UT : Name → Prop := fun _ => True

/-- the function tables of two configurations are related by deletions of skippable statements (possibly none) -/
structure DelFuns (cA cB : Config W) : Prop where
  onNone : ∀ id, cA.funs id = none → cB.funs id = none
  onSome : ∀ id fd, cA.funs id = some fd →
    ∃ body' sh, cB.funs id = some { fd with body := body' } ∧ Shift fd.body body' sh ∧ sh 0 = 0

theorem DelFuns.cases {cA cB : Config W} (h : DelFuns cA cB) (id : FnId) : (cA.funs id = none ∧ cB.funs id = none) ∨
    ∃ fd body' sh, cA.funs id = some fd ∧ cB.funs id = some { fd with body := body' } ∧ Shift fd.body body' sh ∧ sh 0 = 0 := by
  cases hA : cA.funs id with
  | none => exact Or.inl ⟨rfl, h.onNone id hA⟩
  | some fd =>
    obtain ⟨body', sh, hB, hsh, h00⟩ := h.onSome id fd hA
    exact Or.inr ⟨fd, body', sh, rfl, hB, hsh, h00⟩

/-- no function body was edited -/
theorem DelFuns.refl (cfg : Config W) : DelFuns cfg cfg where
  onNone := fun _ h => h
  onSome := fun _ fd h => ⟨fd.body, fun pc => pc, h, Shift.id _, rfl⟩

/-- the body of function `id` lost a skippable statement -/
theorem DelFuns.setFun {cfg : Config W} {id : FnId} {fd : FuncDef} (hfd : cfg.funs id = some fd) {k : Nat} {s : Stmt}
    (hk : fd.body[k]? = some s) (hskip : Skippable s)
    (hlab : ∀ lab c, Stmt.jump lab c ∈ fd.body → Machine.isLabel lab s = false) :
    DelFuns cfg (setFun cfg id { fd with body := deleteAt fd.body k }) where
  onNone := by
    intro i h
    by_cases hi : i = id
    · subst hi; rw [hfd] at h; cases h
    · simp only [LintEdit.setFun, hi, if_false]; exact h
  onSome := by
    intro i fd' h
    by_cases hi : i = id
    · subst hi
      rw [hfd] at h
      cases h
      exact ⟨_, shiftPc k, by simp only [LintEdit.setFun, if_true], Shift.erase hk hskip hlab, shiftPc_zero k⟩
    · exact ⟨fd'.body, fun pc => pc, by simp only [LintEdit.setFun, hi, if_false]; exact h, Shift.id _, rfl⟩

/-- `pc'` is the position of `pc` after the deletions; the locals agree on every name -/
def DelRel (U : Name → Prop) (_ : Bool) (P P' : List Stmt) (pc pc' : Nat) : Prop :=
  (∀ n, U n) ∧ ∃ sh, Shift P P' sh ∧ sh pc = pc'

/-- the original against the edited program, same fuel: the original passes the deleted statements -/
theorem delFwd {C : Nat → Nat → Prop} (hC1 : ∀ a b, C a b → C (a+1) (b+1)) (hC2 : ∀ a b, C a b → C (a+1) b)
    {cA cB : Config W} (hcfg : CfgSame cA cB) (h0 : cA.maxStatements = 0) (hf : DelFuns cA cB) :
    Edit True C cA cB id DelRel where
  cfg := hcfg
  tick := hC1
  bud := Or.inl h0
  fuel := fun _ => Nat.le_refl _
  pt := by
    rintro U b P P' pc _ ⟨hU, sh, hsh, rfl⟩
    rcases hsh.step pc with ⟨hA, hB⟩ | ⟨s, hA, hB, hn⟩ | ⟨s, hA, hskip, hn, -⟩
    · exact Or.inl (Or.inl ⟨hA, hB⟩)
    · exact Or.inl (Or.inr ⟨s, s, hA, hB, Or.inl rfl, fun n _ => hU n, ⟨hU, sh, hsh, hn⟩, fun lab c e =>
        (hsh.jump (e ▸ List.mem_of_getElem? hA)).imp_right fun ⟨i, j, h1, h2, h3⟩ => ⟨i, j, h1, h2, hU, sh, hsh, h3⟩⟩)
    · exact Or.inr (Or.inl ⟨trivial, h0, hC2, s, hA, hskip, hU, sh, hsh, hn⟩)
  funs := fun id => (hf.cases id).imp_right fun ⟨fd, body', sh, hA, hB, hsh, h00⟩ =>
    ⟨fd, _, UT, hA, hB, fun _ _ => ⟨LocAgree.refl _ _, rfl⟩, fun _ => trivial, sh, hsh, h00⟩
  same := fun P => ⟨fun _ => trivial, _, Shift.id P, rfl⟩

/-- the edited against the original program, which passes a deleted statement before the step: fuel `2·f+1` -/
theorem delBwd {cA cB : Config W} (hcfg : CfgSame cA cB) (h0 : cA.maxStatements = 0) (hf : DelFuns cA cB) :
    Edit True CT cB cA (2 * · + 1) fun U b P' P pc' pc => DelRel U b P P' pc pc' where
  cfg := hcfg.symm
  tick := fun _ _ _ => trivial
  bud := Or.inl (hcfg.max.trans h0)
  fuel := fun _ => Nat.le_succ _
  pt := by
    rintro U b P' P _ pc ⟨hU, sh, hsh, rfl⟩
    have step : ∀ {a s}, P[a]? = some s → P'[sh pc]? = some s → sh (a+1) = sh pc + 1 →
        StepAt (fun pc' pc => DelRel U b P P' pc pc') U b P' P (sh pc) a := fun {a s} hA hB hn =>
      Or.inr ⟨s, s, hB, hA, Or.inl rfl, fun n _ => hU n, ⟨hU, sh, hsh, hn⟩, fun lab c e =>
        (hsh.jump (e ▸ List.mem_of_getElem? hA)).imp And.symm fun ⟨i, j, h1, h2, h3⟩ => ⟨j, i, h2, h1, hU, sh, hsh, h3⟩⟩
    rcases hsh.step pc with ⟨hA, hB⟩ | ⟨s, hA, hB, hn⟩ | ⟨s, hA, hskip, hn, hsub⟩
    · exact Or.inl (Or.inl ⟨hB, hA⟩)
    · exact Or.inl (step hA hB hn)
    · refine Or.inr (Or.inr ⟨trivial, hcfg.max.trans h0, fun _ => ⟨Nat.le_add_left 1 _, Nat.le_refl _⟩,
        fun _ _ _ => trivial, s, hA, hskip, ?_⟩)
      rcases hsub with ⟨hA1, hB1⟩ | ⟨s2, hA1, hB1, hn2⟩
      · exact Or.inl ⟨hB1, hA1⟩
      · exact step hA1 hB1 hn2
  funs := fun id => (hf.cases id).imp And.symm fun ⟨fd, body', sh, hA, hB, hsh, h00⟩ =>
    ⟨_, fd, UT, hB, hA, fun _ _ => ⟨LocAgree.refl _ _, rfl⟩, fun _ => trivial, sh, hsh, h00⟩
  same := fun P => ⟨fun _ => trivial, _, Shift.id P, rfl⟩

/-- two states are equal up to the statement counter: same globals, same world (heap, log, output, …) -/
def StEq (s s' : State W) : Prop := s.globals = s'.globals ∧ s.world = s'.world

/-- the same kind of result with the same value / error and states equal up to the counter -/
def ResEq : Res W → Res W → Prop
  | .done s, .done s' => StEq s s'
  | .ret v s, .ret v' s' => v = v' ∧ StEq s s'
  | .err e s, .err e' s' => e = e' ∧ StEq s s'
  | .oof, .oof => True
  | _, _ => False

def OutEq : Out W → Out W → Prop
  | .ok v s, .ok v' s' => v = v' ∧ StEq s s'
  | .err e s, .err e' s' => e = e' ∧ StEq s s'
  | .oof, .oof => True
  | _, _ => False

theorem StEq.symm {s s' : State W} (h : StEq s s') : StEq s' s := ⟨h.1.symm, h.2.symm⟩
theorem StEq.refl (s : State W) : StEq s s := ⟨rfl, rfl⟩
theorem StEq.sr {s s' : State W} (h : StEq s s') : SR CT s s' := ⟨h.1, h.2, trivial⟩

theorem ResEq.symm {r r' : Res W} (h : ResEq r r') : ResEq r' r := by
  cases r <;> cases r' <;> try exact h.elim
  · exact StEq.symm h
  · exact ⟨h.1.symm, h.2.symm⟩
  · exact ⟨h.1.symm, h.2.symm⟩
  · trivial

theorem OutEq.symm {r r' : Out W} (h : OutEq r r') : OutEq r' r := by
  cases r <;> cases r' <;> try exact h.elim
  · exact ⟨h.1.symm, h.2.symm⟩
  · exact ⟨h.1.symm, h.2.symm⟩
  · trivial

theorem ResSim.toEq {C : Nat → Nat → Prop} {r r' : Res W} (h : ResSim True C r r') (hr : r ≠ .oof) : ResEq r r' := by
  cases r with
  | oof => exact absurd rfl hr
  | done s => obtain ⟨s', rfl, hs⟩ := h; exact ⟨hs.1, hs.2.1⟩
  | ret v s => obtain ⟨s', rfl, hs⟩ := h; exact ⟨rfl, hs.1, hs.2.1⟩
  | err e s => obtain ⟨s', rfl, hs⟩ := h; exact ⟨rfl, hs.1, hs.2.1⟩

theorem OutSim.toEq {C : Nat → Nat → Prop} {r r' : Out W} (h : OutSim True C r r') (hr : r ≠ .oof) : OutEq r r' := by
  cases r with
  | oof => exact absurd rfl hr
  | ok v s => obtain ⟨s', rfl, hs⟩ := h; exact ⟨rfl, hs.1, hs.2.1⟩
  | err e s => obtain ⟨s', rfl, hs⟩ := h; exact ⟨rfl, hs.1, hs.2.1⟩

theorem ResEq.ne_oof {r r' : Res W} (h : ResEq r r') (hr : r ≠ .oof) : r' ≠ .oof := by
  rintro rfl
  cases r <;> first | exact h.elim | exact hr rfl

/-- **the deletion theorem in general form**: the configurations differ by deletions of skippable statements in function
bodies (`DelFuns`), the list `P'` is `P` without some skippable statements (`Shift`); unlimited budget.  A run of the
original that ends (any fuel `f`) is matched by the run of the edited program with the same fuel; a run of the edited
program that ends is matched by the run of the original with fuel `2·f+1`.  "Matched" = the same kind of result, the same
value / error, the same globals and the same world. -/
theorem delete_sim {cfg cfg' : Config W} (hcfg : CfgSame cfg cfg') (h0 : cfg.maxStatements = 0) (hf : DelFuns cfg cfg')
    {P P' : List Stmt} {sh : Nat → Nat} (hsh : Shift P P' sh)
    (l : Option Env) (base : Option String) (pc : Nat) {st st' : State W} (hst : StEq st st') (f : Nat) :
    (execM₀ cfg f P l base pc st ≠ .oof →
      ResEq (execM₀ cfg f P l base pc st) (execM₀ cfg' f P' l base (sh pc) st')) ∧
    (execM₀ cfg' f P' l base (sh pc) st' ≠ .oof →
      ResEq (execM₀ cfg (2*f+1) P l base pc st) (execM₀ cfg' f P' l base (sh pc) st')) := by
  have hrel : DelRel UT l.isSome P P' pc (sh pc) := ⟨fun _ => trivial, sh, hsh, rfl⟩
  exact ⟨(((delFwd (C := CT) (fun _ _ _ => trivial) (fun _ _ _ => trivial) hcfg h0 hf).sim f f (Nat.le_refl f) (.inr rfl)).exec
      base hrel (LocAgree.refl _ _) hst.sr).toEq,
    fun hr => ((((delBwd hcfg h0 hf).sim f (2*f+1) (Nat.le_refl _) (.inl trivial)).exec base hrel (LocAgree.refl _ _)
      hst.symm.sr).toEq hr).symm⟩

/-- the same for calls of any function value (script function, library function with call-backs, anything else) -/
theorem delete_sim_call {cfg cfg' : Config W} (hcfg : CfgSame cfg cfg') (h0 : cfg.maxStatements = 0) (hf : DelFuns cfg cfg')
    (fv : Value) (args : List Value) {st st' : State W} (hst : StEq st st') (f : Nat) :
    (callValue₀ cfg f fv args st ≠ .oof → OutEq (callValue₀ cfg f fv args st) (callValue₀ cfg' f fv args st')) ∧
    (callValue₀ cfg' f fv args st' ≠ .oof → OutEq (callValue₀ cfg (2*f+1) fv args st) (callValue₀ cfg' f fv args st')) :=
  ⟨(((delFwd (C := CT) (fun _ _ _ => trivial) (fun _ _ _ => trivial) hcfg h0 hf).sim f f (Nat.le_refl f) (.inr rfl)).call
      fv args st st' hst.sr).toEq,
    fun hr => ((((delBwd hcfg h0 hf).sim f (2*f+1) (Nat.le_refl _) (.inl trivial)).call fv args st' st hst.symm.sr).toEq hr).symm⟩

/-- the run of the script `P` (as `execute_script` starts it) ends in `r` -/
def RunsTo (cfg : Config W) (P : List Stmt) (base : Option String) (st : State W) (r : Res W) : Prop :=
  r ≠ .oof ∧ ∃ f, execute₀ cfg f P base st = r

/-- every run of `(cfg, P)` that ends is matched by a run of `(cfg', P')` with the same result, globals and world, and
conversely (so one diverges iff the other does) -/
def RunsEquiv (cfg : Config W) (P : List Stmt) (cfg' : Config W) (P' : List Stmt) : Prop :=
  ∀ base st,
    (∀ r, RunsTo cfg P base st r → ∃ r', RunsTo cfg' P' base st r' ∧ ResEq r r') ∧
    (∀ r', RunsTo cfg' P' base st r' → ∃ r, RunsTo cfg P base st r ∧ ResEq r r')

theorem delete_runs {cfg cfg' : Config W} (hcfg : CfgSame cfg cfg') (h0 : cfg.maxStatements = 0) (hf : DelFuns cfg cfg')
    {P P' : List Stmt} {sh : Nat → Nat} (hsh : Shift P P' sh) (hsh0 : sh 0 = 0) : RunsEquiv cfg P cfg' P' := by
  intro base st
  constructor
  · rintro r ⟨hr, f, rfl⟩
    have h := (delete_sim hcfg h0 hf hsh none base 0 (StEq.refl { st with count := 0 }) f).1 hr
    rw [hsh0] at h
    exact ⟨_, ⟨h.ne_oof hr, f, rfl⟩, h⟩
  · rintro r' ⟨hr, f, rfl⟩
    have h := (delete_sim hcfg h0 hf hsh none base 0 (StEq.refl { st with count := 0 }) f).2 (by rw [hsh0]; exact hr)
    rw [hsh0] at h
    exact ⟨_, ⟨h.symm.ne_oof hr, 2*f+1, rfl⟩, h⟩

abbrev CLe : Nat → Nat → Prop := fun a b => b ≤ a

/-- the statement counter a finished run ends with -/
def resCount : Res W → Nat
  | .done s => s.count
  | .ret _ s => s.count
  | .err _ s => s.count
  | .oof => 0

theorem ResSim.count_le {r r' : Res W} (h : ResSim True CLe r r') (hr : r ≠ .oof) : resCount r' ≤ resCount r := by
  cases r with
  | oof => exact absurd rfl hr
  | done s => obtain ⟨s', rfl, hs⟩ := h; exact hs.2.2
  | ret v s => obtain ⟨s', rfl, hs⟩ := h; exact hs.2.2
  | err e s => obtain ⟨s', rfl, hs⟩ := h; exact hs.2.2

/-- the left run stays within `L` statements, so the right run, which counts no more, cannot have gone beyond `L` -/
theorem ResSim.not_beyond {r r' : Res W} (h : ResSim True CLe r r') (hr : r ≠ .oof) {L : Nat} (hle : C09.LeF L r.fin)
    {E : C09.Ext W} {s0 : State W} (hb : C09.Beyond E L s0 r'.fin) : False := by
  cases r with
  | oof => exact hr rfl
  | done s => obtain ⟨s', rfl, hs⟩ := h; exact Nat.lt_irrefl _ (Nat.lt_of_lt_of_le hb.1 (Nat.le_trans hs.2.2 hle))
  | ret v s => obtain ⟨s', rfl, hs⟩ := h; exact Nat.lt_irrefl _ (Nat.lt_of_lt_of_le hb.1 (Nat.le_trans hs.2.2 hle))
  | err e s => obtain ⟨s', rfl, hs⟩ := h; exact Nat.lt_irrefl _ (Nat.lt_of_lt_of_le hb.1 (Nat.le_trans hs.2.2 hle))

/-- forward direction with the counters: the edited run never counts more than the original -/
theorem delete_sim_count {cfg cfg' : Config W} (hcfg : CfgSame cfg cfg') (h0 : cfg.maxStatements = 0) (hf : DelFuns cfg cfg')
    {P P' : List Stmt} {sh : Nat → Nat} (hsh : Shift P P' sh)
    (l : Option Env) (base : Option String) (pc : Nat) {st st' : State W} (hst : StEq st st') (hcnt : st'.count ≤ st.count)
    (f : Nat) (hr : execM₀ cfg f P l base pc st ≠ .oof) :
    ResEq (execM₀ cfg f P l base pc st) (execM₀ cfg' f P' l base (sh pc) st') ∧
    resCount (execM₀ cfg' f P' l base (sh pc) st') ≤ resCount (execM₀ cfg f P l base pc st) := by
  have h := ((delFwd (C := CLe) (fun _ _ h => Nat.succ_le_succ h) (fun _ _ h => Nat.le_succ_of_le h) hcfg h0 hf).sim f f
    (Nat.le_refl f) (.inr rfl)).exec (U := UT) (pc := pc) (l := l) (l' := l) base ⟨fun _ => trivial, sh, hsh, rfl⟩ (LocAgree.refl _ _)
    ⟨hst.1, hst.2, hcnt⟩
  exact ⟨h.toEq hr, h.count_le hr⟩

/-- **the deletions under any statement budget `L`** (`0` = unlimited): if the run of the original under `L` ends and is not
aborted by the budget, the run of the edited program under the same budget and with the same fuel ends with the same
result, error, globals and world.  (The converse needs the unlimited budget: `Tiny.delete_budget_counterexample`.) -/
theorem delete_runs_budget {cfg cfg' : Config W} (hcfg : CfgSame cfg cfg') (hf : DelFuns cfg cfg')
    {P P' : List Stmt} {sh : Nat → Nat} (hsh : Shift P P' sh) (hsh0 : sh 0 = 0) (L f : Nat) (base : Option String)
    (st : State W) (hr : execute₀ (C09.withMax cfg L) f P base st ≠ .oof)
    (hx : ∀ m s, execute₀ (C09.withMax cfg L) f P base st ≠ .err (.exceeded m) s) :
    ResEq (execute₀ (C09.withMax cfg L) f P base st) (execute₀ (C09.withMax cfg' L) f P' base st) := by
  have hcfg0 : CfgSame (C09.withMax cfg 0) (C09.withMax cfg' 0) :=
    ⟨hcfg.host, hcfg.builtins, hcfg.debug, hcfg.resolve, hcfg.fetch, rfl⟩
  have hf0 : DelFuns (C09.withMax cfg 0) (C09.withMax cfg' 0) := ⟨hf.onNone, hf.onSome⟩
  have hfw : ResSim True CLe (execute₀ (C09.withMax cfg 0) f P base st) (execute₀ (C09.withMax cfg' 0) f P' base st) :=
    ((delFwd (C := CLe) (fun _ _ h => Nat.succ_le_succ h) (fun _ _ h => Nat.le_succ_of_le h) hcfg0 rfl hf0).sim f f
      (Nat.le_refl f) (.inr rfl)).exec (U := UT) (l := none) (l' := none) base ⟨fun _ => trivial, sh, hsh, hsh0⟩ trivial
      ⟨rfl, rfl, Nat.le_refl _⟩
  -- a run under the budget `L` is the unlimited run, which then stays within `L`, or it is aborted and the unlimited run goes
  -- beyond `L` (`C09.execute_sim`); the original's is not aborted, and the edited unlimited run counts no more (`hfw`)
  rcases Nat.eq_zero_or_pos L with rfl | hL
  · exact hfw.toEq hr
  · have hsA := C09.execute_sim (C09.Ext.triv W) cfg (C09.hostExt_triv _) L hL f P base st
    rw [C08.execute_eq, C08.execute_eq] at hsA
    rcases hsA with ⟨heq, hle⟩ | ⟨s', hb, _, _⟩
    · rw [heq] at hr ⊢
      have hsB := C09.execute_sim (C09.Ext.triv W) cfg' (C09.hostExt_triv _) L hL f P' base st
      rw [C08.execute_eq, C08.execute_eq] at hsB
      rcases hsB with ⟨heq', _⟩ | ⟨s', _, _, hbey⟩
      · rw [heq']; exact hfw.toEq hr
      · exact (hfw.not_beyond hr hle hbey).elim
    · exact absurd (C09.Res.eq_of_fin_err hb) (hx L s')

theorem label_not_target {P : List Stmt} {l : Name} (hnj : ∀ c, Stmt.jump l c ∉ P) :
    ∀ lab c, Stmt.jump lab c ∈ P → Machine.isLabel lab (.label l) = false := by
  intro lab c hmem
  have : l ≠ lab := by rintro rfl; exact hnj c hmem
  simp [Machine.isLabel, this]

/-- **delete_unused_label.**  `P[k]` is `label l` and no jump of `P` targets `l`.  Running `P` without statement `k` — from the
corresponding position `shiftPc k pc`, in a configuration whose function bodies may also have lost skippable statements
(`DelFuns`; `DelFuns.refl` for "the same configuration") — gives the same result, globals and world as running `P`:
forward with the same fuel, conversely with fuel `2·f+1`.  Unlimited budget: the label costs one statement tick. -/
theorem delete_unused_label {cfg cfg' : Config W} (hcfg : CfgSame cfg cfg') (h0 : cfg.maxStatements = 0) (hf : DelFuns cfg cfg')
    {P : List Stmt} {k : Nat} {l : Name} (hk : P[k]? = some (.label l)) (hnj : ∀ c, Stmt.jump l c ∉ P)
    (locals : Option Env) (base : Option String) (pc : Nat) {st st' : State W} (hst : StEq st st') (f : Nat) :
    (execM₀ cfg f P locals base pc st ≠ .oof →
      ResEq (execM₀ cfg f P locals base pc st) (execM₀ cfg' f (deleteAt P k) locals base (shiftPc k pc) st')) ∧
    (execM₀ cfg' f (deleteAt P k) locals base (shiftPc k pc) st' ≠ .oof →
      ResEq (execM₀ cfg (2*f+1) P locals base pc st) (execM₀ cfg' f (deleteAt P k) locals base (shiftPc k pc) st')) :=
  delete_sim hcfg h0 hf (Shift.erase hk (Or.inl ⟨l, rfl⟩) (label_not_target hnj)) locals base pc hst f

/-- every other label keeps its (first-occurrence) position, shifted -/
theorem delete_unused_label_findLabel {P : List Stmt} {k : Nat} {l : Name} (hk : P[k]? = some (.label l)) {l2 : Name}
    (hne : l2 ≠ l) :
    Machine.findLabel (deleteAt P k) l2 = (Machine.findLabel P l2).map fun i => if i < k then i else i - 1 := by
  cases h : Machine.findLabel P l2 with
  | none => exact findLabel_eraseIdx_none k h
  | some i =>
    have : Machine.isLabel l2 (.label l) = false := by simp [Machine.isLabel, Ne.symm hne]
    obtain ⟨hik, h'⟩ := findLabel_deleteAt_some hk this h
    rw [h', Option.map_some]
    rcases Nat.lt_or_gt_of_ne hik with hlt | hgt
    · rw [shiftPc_le (Nat.le_of_lt hlt), if_pos hlt]
    · rw [shiftPc_gt hgt, if_neg (Nat.lt_asymm hgt)]

/-- **delete_unused_label, function scope**: the label is deleted from the body of function `id`.  Every call of every
function value and every run of every statement list in the edited configuration matches the original one. -/
theorem delete_unused_label_fn {cfg : Config W} (h0 : cfg.maxStatements = 0) {id : FnId} {fd : FuncDef}
    (hfd : cfg.funs id = some fd) {k : Nat} {l : Name} (hk : fd.body[k]? = some (.label l))
    (hnj : ∀ c, Stmt.jump l c ∉ fd.body) :
    DelFuns cfg (setFun cfg id { fd with body := deleteAt fd.body k }) ∧
    (∀ Q, RunsEquiv cfg Q (setFun cfg id { fd with body := deleteAt fd.body k }) Q) ∧
    ∀ fv args st f,
      (callValue₀ cfg f fv args st ≠ .oof →
        OutEq (callValue₀ cfg f fv args st) (callValue₀ (setFun cfg id { fd with body := deleteAt fd.body k }) f fv args st)) ∧
      (callValue₀ (setFun cfg id { fd with body := deleteAt fd.body k }) f fv args st ≠ .oof →
        OutEq (callValue₀ cfg (2*f+1) fv args st)
          (callValue₀ (setFun cfg id { fd with body := deleteAt fd.body k }) f fv args st)) := by
  have hD := DelFuns.setFun hfd hk (Or.inl ⟨l, rfl⟩) (label_not_target hnj)
  exact ⟨hD, fun Q => delete_runs (CfgSame.setFun _ _ _) h0 hD (Shift.id Q) rfl,
    fun fv args st f => delete_sim_call (CfgSame.setFun _ _ _) h0 hD fv args (StEq.refl st) f⟩

/-- **delete_pointless_stmt.**  `P[k]` is an expression statement without assignment target whose expression contains no
function call (`Lint.isPointless`).  Such an expression cannot fail and has no effect (`evalExpr_pointless`), so deleting the
statement preserves every run — same formulation as `delete_unused_label`. -/
theorem delete_pointless_stmt {cfg cfg' : Config W} (hcfg : CfgSame cfg cfg') (h0 : cfg.maxStatements = 0)
    (hf : DelFuns cfg cfg') {P : List Stmt} {k : Nat} {e : Expr} (hk : P[k]? = some (.expr none e))
    (hp : isPointless e = true)
    (locals : Option Env) (base : Option String) (pc : Nat) {st st' : State W} (hst : StEq st st') (f : Nat) :
    (execM₀ cfg f P locals base pc st ≠ .oof →
      ResEq (execM₀ cfg f P locals base pc st) (execM₀ cfg' f (deleteAt P k) locals base (shiftPc k pc) st')) ∧
    (execM₀ cfg' f (deleteAt P k) locals base (shiftPc k pc) st' ≠ .oof →
      ResEq (execM₀ cfg (2*f+1) P locals base pc st) (execM₀ cfg' f (deleteAt P k) locals base (shiftPc k pc) st')) :=
  delete_sim hcfg h0 hf (Shift.erase hk (Or.inr ⟨e, rfl, hp⟩) (fun _ _ _ => rfl)) locals base pc hst f

/-- **delete_pointless_stmt, function scope** -/
theorem delete_pointless_stmt_fn {cfg : Config W} (h0 : cfg.maxStatements = 0) {id : FnId} {fd : FuncDef}
    (hfd : cfg.funs id = some fd) {k : Nat} {e : Expr} (hk : fd.body[k]? = some (.expr none e)) (hp : isPointless e = true) :
    DelFuns cfg (setFun cfg id { fd with body := deleteAt fd.body k }) ∧
    (∀ Q, RunsEquiv cfg Q (setFun cfg id { fd with body := deleteAt fd.body k }) Q) ∧
    ∀ fv args st f,
      (callValue₀ cfg f fv args st ≠ .oof →
        OutEq (callValue₀ cfg f fv args st) (callValue₀ (setFun cfg id { fd with body := deleteAt fd.body k }) f fv args st)) ∧
      (callValue₀ (setFun cfg id { fd with body := deleteAt fd.body k }) f fv args st ≠ .oof →
        OutEq (callValue₀ cfg (2*f+1) fv args st)
          (callValue₀ (setFun cfg id { fd with body := deleteAt fd.body k }) f fv args st)) := by
  have hD := DelFuns.setFun hfd hk (Or.inr ⟨e, rfl, hp⟩) (fun _ _ _ => rfl)
  exact ⟨hD, fun Q => delete_runs (CfgSame.setFun _ _ _) h0 hD (Shift.id Q) rfl,
    fun fv args st f => delete_sim_call (CfgSame.setFun _ _ _) h0 hD fv args (StEq.refl st) f⟩

/-- deleting from the script itself: the runs of `execute₀` are equivalent -/
theorem delete_skippable_runs {cfg : Config W} (h0 : cfg.maxStatements = 0) {P : List Stmt} {k : Nat} {s : Stmt}
    (hk : P[k]? = some s) (hskip : Skippable s) (hlab : ∀ lab c, Stmt.jump lab c ∈ P → Machine.isLabel lab s = false) :
    RunsEquiv cfg P cfg (deleteAt P k) :=
  delete_runs (CfgSame.withFuns cfg cfg.funs) h0 (DelFuns.refl cfg) (Shift.erase hk hskip hlab) (shiftPc_zero k)

abbrev CE : Nat → Nat → Prop := fun a b => a = b

/-- the function tables of two configurations are related by renamings of assignment targets and parameters that are
outside a set `U` of names containing every name the body reads (possibly no renaming at all) -/
structure RenFuns (cA cB : Config W) : Prop where
  onNone : ∀ id, cA.funs id = none → cB.funs id = none
  onSome : ∀ id fd, cA.funs id = some fd → ∃ fd', cB.funs id = some fd' ∧ fd'.lastArgArray = fd.lastArgArray ∧
    ∃ U : Name → Prop, (∀ n ∈ bodyUses fd.body, U n) ∧ RenBody U fd.body fd'.body ∧ ArgsRen U fd.args fd'.args

theorem RenFuns.setFun {cfg : Config W} {id : FnId} {fd fd' : FuncDef} (hfd : cfg.funs id = some fd)
    (hlaa : fd'.lastArgArray = fd.lastArgArray) {U : Name → Prop} (hU : ∀ n ∈ bodyUses fd.body, U n)
    (hbody : RenBody U fd.body fd'.body) (hargs : ArgsRen U fd.args fd'.args) : RenFuns cfg (setFun cfg id fd') where
  onNone := by
    intro i h
    by_cases hi : i = id
    · subst hi; rw [hfd] at h; cases h
    · simp only [LintEdit.setFun, hi, if_false]; exact h
  onSome := by
    intro i fd0 h
    by_cases hi : i = id
    · subst hi
      rw [hfd] at h
      cases h
      exact ⟨fd', by simp only [LintEdit.setFun, if_true], hlaa, U, hU, hbody, hargs⟩
    · exact ⟨fd0, by simp only [LintEdit.setFun, hi, if_false]; exact h, rfl, UT, fun _ _ => trivial,
        RenBody.refl _ _, ArgsRen.refl _ _⟩

/-- the same position of two lists related by `RenBody U`, where `U` holds what the first reads; an assignment target
differs only inside a function -/
def RenRel (U : Name → Prop) (inFn : Bool) (P P' : List Stmt) (pc pc' : Nat) : Prop :=
  pc' = pc ∧ RenBody U P P' ∧ (∀ n ∈ bodyUses P, U n) ∧ (inFn = true ∨ P' = P)

/-- the original against the renamed program: no skips, out-of-fuel matched by out-of-fuel, equal counters -/
theorem renAt {cA cB : Config W} (hcfg : CfgSame cA cB) (hf : RenFuns cA cB) : Edit False CE cA cB id RenRel where
  cfg := hcfg
  tick := fun a b h => by rw [h]
  bud := Or.inr fun _ _ h => h
  fuel := fun _ => Nat.le_refl _
  pt := by
    rintro U b P P' _ pc ⟨rfl, hren, hU, hP⟩
    rcases hren pc with ⟨hA, hB⟩ | ⟨sA, sB, hA, hB, hr⟩
    · exact Or.inl (Or.inl ⟨hA, hB⟩)
    · refine Or.inl (Or.inr ⟨sA, sB, hA, hB, ?_, fun n hn => hU n (List.mem_flatMap.2 ⟨sA, List.mem_of_getElem? hA, hn⟩),
        ⟨rfl, hren, hU, hP⟩, fun lab c _ => ?_⟩)
      · rcases hr with rfl | ⟨x, x', e, rfl, rfl, hx, hx'⟩
        · exact Or.inl rfl
        · rcases hP with hb | rfl
          · exact Or.inr ⟨x, x', e, rfl, rfl, hx, hx', hb⟩
          · rw [hA] at hB; exact Or.inl (Option.some.inj hB).symm
      · rw [hren.findLabel lab]
        cases Machine.findLabel P lab with
        | none => exact Or.inl ⟨rfl, rfl⟩
        | some i => exact Or.inr ⟨i, i, rfl, rfl, rfl, hren, hU, hP⟩
  funs := by
    intro id
    cases hA : cA.funs id with
    | none => exact Or.inl ⟨rfl, hf.onNone id hA⟩
    | some fdA =>
      obtain ⟨fdB, hB, hlaa, U, hU, hbody, hargs⟩ := hf.onSome id fdA hA
      exact Or.inr ⟨fdA, fdB, U, rfl, hB, fun args w => hlaa ▸
        bindArgs_ren cA.host fdA.lastArgArray hargs args [] [] w (LocAgree.refl U (some [])), rfl, hbody, hU, Or.inl rfl⟩
  same := fun P => ⟨rfl, RenBody.refl _ P, fun _ _ => trivial, Or.inr rfl⟩

theorem SR.eq {s s' : State W} (h : SR CE s s') : s' = s := by
  obtain ⟨g, w, c⟩ := s
  obtain ⟨g', w', c'⟩ := s'
  obtain ⟨h1, h2, h3⟩ := h
  simp only at h1 h2 h3
  subst h1; subst h2; subst h3
  rfl

theorem ResSim.eq {r r' : Res W} (h : ResSim False CE r r') : r' = r := by
  cases r with
  | done s => obtain ⟨s', rfl, hs⟩ := h; rw [hs.eq]
  | ret v s => obtain ⟨s', rfl, hs⟩ := h; rw [hs.eq]
  | err e s => obtain ⟨s', rfl, hs⟩ := h; rw [hs.eq]
  | oof => rcases h with h | h; exact h.elim; exact h

theorem OutSim.eq {r r' : Out W} (h : OutSim False CE r r') : r' = r := by
  cases r with
  | ok v s => obtain ⟨s', rfl, hs⟩ := h; rw [hs.eq]
  | err e s => obtain ⟨s', rfl, hs⟩ := h; rw [hs.eq]
  | oof => rcases h with h | h; exact h.elim; exact h

theorem SR.refl (s : State W) : SR CE s s := ⟨rfl, rfl, rfl⟩

/-- **the renaming theorem in general form**: two configurations whose function tables are related by `RenFuns` compute the
same function — every call, every run of every statement list and every include give *equal* results (value, error, globals,
world, statement counter, out-of-fuel), for every fuel and every budget. -/
theorem rename_sim {cfg cfg' : Config W} (hcfg : CfgSame cfg cfg') (hf : RenFuns cfg cfg') (f : Nat) :
    (∀ fv args st, callValue₀ cfg' f fv args st = callValue₀ cfg f fv args st) ∧
    (∀ P l base pc st, execM₀ cfg' f P l base pc st = execM₀ cfg f P l base pc st) ∧
    (∀ base incs st, execIncludes₀ cfg' f base incs st = execIncludes₀ cfg f base incs st) ∧
    (∀ P base st, execute₀ cfg' f P base st = execute₀ cfg f P base st) := by
  obtain ⟨hC, hE, hI⟩ := (renAt hcfg hf).sim f f (Nat.le_refl f) (.inr rfl)
  have hexec : ∀ P l base pc st, execM₀ cfg' f P l base pc st = execM₀ cfg f P l base pc st := fun P l base pc st =>
    (hE (U := UT) (l := l) (l' := l) base ⟨rfl, RenBody.refl _ P, fun _ _ => trivial, Or.inr rfl⟩ (LocAgree.refl _ _) (SR.refl st)).eq
  exact ⟨fun fv args st => (hC fv args st st (SR.refl st)).eq, hexec,
    fun base incs st => (hI base incs st st (SR.refl st)).eq, fun P base st => hexec P none base 0 _⟩

def Off (v v' : Name) : Name → Prop := fun n => n ≠ v ∧ n ≠ v'

theorem off_of_not_mem {v v' : Name} {ns : List Name} (hv : v ∉ ns) (hv' : v' ∉ ns) : ∀ n ∈ ns, Off v v' n :=
  fun _ hn => ⟨fun e => hv (e ▸ hn), fun e => hv' (e ▸ hn)⟩

/-- **rename_unused_local.**  In the body of function `id`, no expression reads `v` (as a variable or as the name of a called
function) nor `v'`.  Replace the assignment targets `v` by `v'` (`renameStmts`).  Then
* the edited configuration computes the same function as the original: every call (in particular of function `id`), every run
  of every script and every include give equal results — value, error, globals, world, counter — for all fuel and budgets;
* inside the function, the run of the renamed body on locals `lb` equals the run of the original body on locals `la`
  whenever `la` and `lb` agree on every name other than `v`, `v'` (from any position `pc`).
`v'` need not be fresh among the assignment targets or parameters: it only must not be read. -/
theorem rename_unused_local {cfg : Config W} {id : FnId} {fd : FuncDef} (hfd : cfg.funs id = some fd) {v v' : Name}
    (hv : v ∉ bodyUses fd.body) (hv' : v' ∉ bodyUses fd.body) (f : Nat) :
    (∀ fv args st, callValue₀ (setFun cfg id { fd with body := renameStmts v v' fd.body }) f fv args st =
        callValue₀ cfg f fv args st) ∧
    (∀ P l base pc st, execM₀ (setFun cfg id { fd with body := renameStmts v v' fd.body }) f P l base pc st =
        execM₀ cfg f P l base pc st) ∧
    (∀ P base st, execute₀ (setFun cfg id { fd with body := renameStmts v v' fd.body }) f P base st =
        execute₀ cfg f P base st) ∧
    (∀ la lb : Env, (∀ n, n ≠ v → n ≠ v' → la.get? n = lb.get? n) → ∀ base pc st,
      execM₀ (setFun cfg id { fd with body := renameStmts v v' fd.body }) f (renameStmts v v' fd.body) (some lb) base pc st =
        execM₀ cfg f fd.body (some la) base pc st) := by
  have hU := off_of_not_mem hv hv'
  have hnv : ¬ Off v v' v := fun h => h.1 rfl
  have hnv' : ¬ Off v v' v' := fun h => h.2 rfl
  have hbody := RenBody.renameStmts (Off v v') hnv hnv' fd.body
  have hR : RenFuns cfg (setFun cfg id { fd with body := renameStmts v v' fd.body }) :=
    RenFuns.setFun hfd rfl hU hbody (ArgsRen.refl _ _)
  obtain ⟨h1, h2, _, h4⟩ := rename_sim (CfgSame.setFun cfg id _) hR f
  refine ⟨h1, h2, h4, ?_⟩
  intro la lb hl base pc st
  exact (((renAt (CfgSame.setFun cfg id _) hR).sim f f (Nat.le_refl f) (.inr rfl)).exec (l := some la) (l' := some lb) base
    ⟨rfl, hbody, hU, Or.inl rfl⟩ (fun n hn => hl n hn.1 hn.2) (SR.refl st)).eq

/-- **rename_unused_arg.**  No expression of the body of function `id` reads `a` nor `a'`.  Rename the parameter `a` to `a'`
(every position named `a`).  The edited configuration computes the same function as the original (calls, runs, includes:
equal results, for all fuel and budgets), and the initial locals of a call agree off `{a, a'}`. -/
theorem rename_unused_arg {cfg : Config W} {id : FnId} {fd : FuncDef} (hfd : cfg.funs id = some fd) {a a' : Name}
    (ha : a ∉ bodyUses fd.body) (ha' : a' ∉ bodyUses fd.body) (f : Nat) :
    (∀ fv args st, callValue₀ (setFun cfg id { fd with args := renameArgs a a' fd.args }) f fv args st =
        callValue₀ cfg f fv args st) ∧
    (∀ P l base pc st, execM₀ (setFun cfg id { fd with args := renameArgs a a' fd.args }) f P l base pc st =
        execM₀ cfg f P l base pc st) ∧
    (∀ P base st, execute₀ (setFun cfg id { fd with args := renameArgs a a' fd.args }) f P base st =
        execute₀ cfg f P base st) ∧
    (∀ args w n, n ≠ a → n ≠ a' →
      (bindArgs cfg.host fd.lastArgArray fd.args args [] w).1.get? n =
        (bindArgs cfg.host fd.lastArgArray (renameArgs a a' fd.args) args [] w).1.get? n) := by
  have hU := off_of_not_mem ha ha'
  have hna : ¬ Off a a' a := fun h => h.1 rfl
  have hna' : ¬ Off a a' a' := fun h => h.2 rfl
  have hargs := ArgsRen.renameArgs (Off a a') hna hna' fd.args
  have hR : RenFuns cfg (setFun cfg id { fd with args := renameArgs a a' fd.args }) :=
    RenFuns.setFun hfd rfl hU (RenBody.refl _ _) hargs
  obtain ⟨h1, h2, _, h4⟩ := rename_sim (CfgSame.setFun cfg id _) hR f
  refine ⟨h1, h2, h4, ?_⟩
  intro args w n hn hn'
  exact (bindArgs_ren cfg.host fd.lastArgArray hargs args [] [] w (LocAgree.refl _ (some []))).1 n ⟨hn, hn'⟩

theorem keys_addUses (n : Name) (ix : Nat) : ∀ (ns : List Name) (u : Dict),
    n ∈ (addUses u ix ns).keys ↔ n ∈ u.keys ∨ n ∈ ns
  | [], u => by simp [addUses]
  | m :: ns, u => by
    have ih := keys_addUses n ix ns (u.setDefault m ix)
    simp only [addUses, List.foldl_cons] at ih ⊢
    rw [ih, keys_setDefault, List.mem_cons, or_assoc]

theorem varScan_cons (ix : Nat) (s : Stmt) (rest : List Stmt) (a u : Dict) :
    varScan ix (s :: rest) a u = varScan (ix + 1) rest (addUses a ix (assigned [s])) (addUses u ix (stmtUses s)) := by
  cases s with
  | expr nm e => cases nm <;> rfl
  | jump l c => cases c <;> rfl
  | ret e => cases e <;> rfl
  | _ => rfl

/-- the `uses` dictionary of lint's variable scan holds exactly the names the statements read -/
theorem varScan_uses_mem (n : Name) : ∀ (P : List Stmt) (ix : Nat) (a u : Dict),
    n ∈ (varScan ix P a u).2.keys ↔ n ∈ u.keys ∨ n ∈ bodyUses P
  | [], ix, a, u => by simp [varScan, bodyUses]
  | s :: rest, ix, a, u => by
    rw [varScan_cons, varScan_uses_mem n rest, keys_addUses, or_assoc]
    simp [bodyUses]

/-- the `assigns` dictionary holds exactly the assignment targets -/
theorem varScan_assigns_mem (n : Name) : ∀ (P : List Stmt) (ix : Nat) (a u : Dict),
    n ∈ (varScan ix P a u).1.keys ↔ n ∈ a.keys ∨ n ∈ assigned P
  | [], ix, a, u => by simp [varScan, assigned]
  | s :: rest, ix, a, u => by
    rw [varScan_cons, varScan_assigns_mem n rest, keys_addUses, or_assoc, ← List.mem_append]
    simp only [assigned, ← List.filterMap_append, List.singleton_append]

/-- **unused_variable_exact.**  Lint reports `Unused variable v` of function `f` (at some index) iff the script has a
top-level function statement named `f` whose body assigns `v` and reads it nowhere. -/
theorem unused_variable_exact (ss : List Stmt) (f v : Name) :
    (∃ ix, Warning.unusedVar f v ix ∈ lint ss) ↔
      ∃ (i : Nat) (k : Nat) (a : List Name) (laa y : Bool) (body : List Stmt),
        ss[i]? = some (Stmt.function k f a laa y body) ∧ v ∈ assigned body ∧ v ∉ bodyUses body := by
  simp only [mem_lint, mem_lintFunction, ScopeWarning, mem_usedBeforeW_iff, mem_unusedVarW_iff, mem_argLoop, reduceCtorEq,
    false_and, and_false, exists_false, or_false, false_or, Warning.unusedVar.injEq, varScan_assigns_mem,
    varScan_uses_mem, keys_nil, List.not_mem_nil]
  exact ⟨fun ⟨_, i, k, _, a, laa, y, body, hi, _, h1, h2, e, e', _⟩ => by subst e e'; exact ⟨i, k, a, laa, y, body, hi, h1, h2⟩,
    fun ⟨i, k, a, laa, y, body, hi, h1, h2⟩ => ⟨_, i, k, f, a, laa, y, body, hi, v, h1, h2, rfl, rfl, rfl⟩⟩

/-- **unused_argument_exact.**  Lint reports `Unused argument a` of function `f` at index `ix` iff statement `ix` of the
script is a function statement named `f`, `a` is one of its parameters and the body reads `a` nowhere. -/
theorem unused_argument_exact (ss : List Stmt) (f a : Name) (ix : Nat) :
    Warning.unusedArg f a ix ∈ lint ss ↔
      ∃ (k : Nat) (args : List Name) (laa y : Bool) (body : List Stmt),
        ss[ix]? = some (Stmt.function k f args laa y body) ∧ a ∈ args ∧ a ∉ bodyUses body := by
  simp only [mem_lint, mem_lintFunction, ScopeWarning, mem_usedBeforeW_iff, mem_unusedVarW_iff, mem_argLoop_unused,
    reduceCtorEq, false_and, and_false, exists_false, or_false, false_or, varScan_uses_mem, keys_nil, List.not_mem_nil]
  exact ⟨fun ⟨_, k, _, args, laa, y, body, hi, e, e', h⟩ => by subst e e'; exact ⟨k, args, laa, y, body, hi, h⟩,
    fun ⟨k, args, laa, y, body, hi, h⟩ => ⟨ix, k, f, args, laa, y, body, hi, rfl, rfl, h⟩⟩

theorem unused_label_facts {ss : List Stmt} {sc : Scope} {l : Name} {i : Nat} (h : Warning.unusedLabel sc l i ∈ lint ss) :
    ∃ body, ScopeOf ss sc body ∧ body[i]? = some (.label l) ∧ ∀ c, Stmt.jump l c ∉ body := by
  obtain ⟨body, hsc, ⟨_, hnj⟩, hfl⟩ := (unused_label_mem_lint ss sc l i).1 h
  exact ⟨body, hsc, ((findLabel_some l body i).1 hfl).1, fun c hc => hnj ⟨c, hc⟩⟩

/-- **lint_unused_label_sound.**  If lint reports `Unused label l` at index `i` of scope `sc`, the script has a scope of that
name (`ScopeOf`: the script itself, or the body of a top-level function statement) whose statement `i` is `label l` and which
no jump targets `l`; deleting that statement is sound: (a) for the list run as a script, (b) for the list installed as the
body of any function `id` of the table — in both cases every run of the original that ends is matched by a run of the edited
program with the same result, error, globals and world, and conversely (`RunsEquiv`; unlimited budget). -/
theorem lint_unused_label_sound (ss : List Stmt) (sc : Scope) (l : Name) (i : Nat)
    (h : Warning.unusedLabel sc l i ∈ lint ss) :
    ∃ body, ScopeOf ss sc body ∧ body[i]? = some (.label l) ∧ (∀ c, Stmt.jump l c ∉ body) ∧
      ∀ cfg : Config W, cfg.maxStatements = 0 →
        RunsEquiv cfg body cfg (deleteAt body i) ∧
        ∀ id fd, cfg.funs id = some fd → fd.body = body →
          ∀ Q, RunsEquiv cfg Q (setFun cfg id { fd with body := deleteAt body i }) Q := by
  obtain ⟨body, hsc, hi, hnj⟩ := unused_label_facts h
  refine ⟨body, hsc, hi, hnj, fun cfg h0 => ⟨?_, ?_⟩⟩
  · exact delete_skippable_runs h0 hi (Or.inl ⟨l, rfl⟩) (label_not_target hnj)
  · intro id fd hfd hb Q
    subst hb
    exact (delete_unused_label_fn h0 hfd hi hnj).2.1 Q

/-- **lint_pointless_sound.**  If lint reports a pointless statement at index `i` of scope `sc`, statement `i` of a scope of
that name is an un-assigned call-free expression statement, and deleting it is sound (as in `lint_unused_label_sound`). -/
theorem lint_pointless_sound (ss : List Stmt) (sc : Scope) (i : Nat) (h : Warning.pointless sc i ∈ lint ss) :
    ∃ body e, ScopeOf ss sc body ∧ body[i]? = some (.expr none e) ∧ isPointless e = true ∧
      ∀ cfg : Config W, cfg.maxStatements = 0 →
        RunsEquiv cfg body cfg (deleteAt body i) ∧
        ∀ id fd, cfg.funs id = some fd → fd.body = body →
          ∀ Q, RunsEquiv cfg Q (setFun cfg id { fd with body := deleteAt body i }) Q := by
  obtain ⟨body, hsc, e, hi, hp⟩ := (pointless_exact ss sc i).1 h
  refine ⟨body, e, hsc, hi, hp, fun cfg h0 => ⟨?_, ?_⟩⟩
  · exact delete_skippable_runs h0 hi (Or.inr ⟨e, rfl, hp⟩) (fun _ _ _ => rfl)
  · intro id fd hfd hb Q
    subst hb
    exact (delete_pointless_stmt_fn h0 hfd hi hp).2.1 Q

/-- **lint_unused_variable_sound.**  If lint reports `Unused variable v` of function `f`, the script has a top-level function
statement named `f` whose body assigns `v` and never reads it; for every name `v'` that the body does not read either, and
every configuration whose table holds that body at some `id`, renaming the assignment targets `v` to `v'` gives a
configuration that computes the *same* function: equal results of every call and of every run, for all fuel and budgets. -/
theorem lint_unused_variable_sound (ss : List Stmt) (f v : Name) (ix : Nat) (h : Warning.unusedVar f v ix ∈ lint ss) :
    ∃ (i : Nat) (k : Nat) (a : List Name) (laa y : Bool) (body : List Stmt), ss[i]? = some (Stmt.function k f a laa y body) ∧ v ∈ assigned body ∧ v ∉ bodyUses body ∧
      ∀ v', v' ∉ bodyUses body → ∀ (cfg : Config W) id fd, cfg.funs id = some fd → fd.body = body → ∀ fuel,
        (∀ fv args st, callValue₀ (setFun cfg id { fd with body := renameStmts v v' body }) fuel fv args st =
            callValue₀ cfg fuel fv args st) ∧
        (∀ Q base st, execute₀ (setFun cfg id { fd with body := renameStmts v v' body }) fuel Q base st =
            execute₀ cfg fuel Q base st) := by
  obtain ⟨i, k, a, laa, y, body, hi, hv, hnu⟩ := (unused_variable_exact ss f v).1 ⟨ix, h⟩
  refine ⟨i, k, a, laa, y, body, hi, hv, hnu, ?_⟩
  intro v' hv' cfg id fd hfd hb fuel
  subst hb
  obtain ⟨h1, _, h3, _⟩ := rename_unused_local hfd hnu hv' fuel
  exact ⟨h1, h3⟩

/-- **lint_unused_argument_sound.**  If lint reports `Unused argument a` of function `f` (statement `ix`), that statement is
a function statement named `f` with parameter `a` whose body never reads `a`; renaming the parameter to any `a'` the body
does not read gives a configuration that computes the same function. -/
theorem lint_unused_argument_sound (ss : List Stmt) (f a : Name) (ix : Nat) (h : Warning.unusedArg f a ix ∈ lint ss) :
    ∃ k args laa y body, ss[ix]? = some (Stmt.function k f args laa y body) ∧ a ∈ args ∧ a ∉ bodyUses body ∧
      ∀ a', a' ∉ bodyUses body → ∀ (cfg : Config W) id fd, cfg.funs id = some fd → fd.body = body → fd.args = args →
        ∀ fuel,
        (∀ fv vs st, callValue₀ (setFun cfg id { fd with args := renameArgs a a' args }) fuel fv vs st =
            callValue₀ cfg fuel fv vs st) ∧
        (∀ Q base st, execute₀ (setFun cfg id { fd with args := renameArgs a a' args }) fuel Q base st =
            execute₀ cfg fuel Q base st) := by
  obtain ⟨k, args, laa, y, body, hi, ha, hnu⟩ := (unused_argument_exact ss f a ix).1 h
  refine ⟨k, args, laa, y, body, hi, ha, hnu, ?_⟩
  intro a' ha' cfg id fd hfd hb hargs fuel
  subst hb; subst hargs
  obtain ⟨h1, _, h3, _⟩ := rename_unused_arg hfd hnu ha' fuel
  exact ⟨h1, h3⟩

/-- a skippable statement that no jump of the list targets: what both deletion warnings provide -/
theorem lint_delete_facts (ss : List Stmt) (sc : Scope) (i : Nat)
    (h : (∃ l, Warning.unusedLabel sc l i ∈ lint ss) ∨ Warning.pointless sc i ∈ lint ss) :
    ∃ body s, ScopeOf ss sc body ∧ body[i]? = some s ∧ Skippable s ∧
      ∀ lab c, Stmt.jump lab c ∈ body → Machine.isLabel lab s = false := by
  rcases h with ⟨l, h⟩ | h
  · obtain ⟨body, hsc, hi, hnj⟩ := unused_label_facts h
    exact ⟨body, _, hsc, hi, Or.inl ⟨l, rfl⟩, label_not_target hnj⟩
  · obtain ⟨body, hsc, e, hi, hp⟩ := (pointless_exact ss sc i).1 h
    exact ⟨body, _, hsc, hi, Or.inr ⟨e, rfl, hp⟩, fun _ _ _ => rfl⟩

/-- **lint_delete_sound_budget.**  Acting on an `Unused label` or `Pointless statement` warning under ANY statement budget
`L`: if the run of the original ends and is not aborted by the budget, the run of the edited program (same budget, same fuel)
ends with the same result, error, globals and world — for the scope run as the script, and for the scope installed as the
body of a function of the table and any script `Q` calling it. -/
theorem lint_delete_sound_budget (ss : List Stmt) (sc : Scope) (i : Nat)
    (h : (∃ l, Warning.unusedLabel sc l i ∈ lint ss) ∨ Warning.pointless sc i ∈ lint ss) :
    ∃ body, ScopeOf ss sc body ∧ ∀ (cfg : Config W) (L f : Nat) (base : Option String) (st : State W),
      ((execute₀ (C09.withMax cfg L) f body base st ≠ .oof) →
        (∀ m s, execute₀ (C09.withMax cfg L) f body base st ≠ .err (.exceeded m) s) →
        ResEq (execute₀ (C09.withMax cfg L) f body base st) (execute₀ (C09.withMax cfg L) f (deleteAt body i) base st)) ∧
      ∀ id fd, cfg.funs id = some fd → fd.body = body → ∀ Q,
        (execute₀ (C09.withMax cfg L) f Q base st ≠ .oof) →
        (∀ m s, execute₀ (C09.withMax cfg L) f Q base st ≠ .err (.exceeded m) s) →
        ResEq (execute₀ (C09.withMax cfg L) f Q base st)
          (execute₀ (C09.withMax (setFun cfg id { fd with body := deleteAt body i }) L) f Q base st) := by
  obtain ⟨body, s, hsc, hi, hskip, hlab⟩ := lint_delete_facts ss sc i h
  refine ⟨body, hsc, fun cfg L f base st => ⟨fun hr hx => ?_, ?_⟩⟩
  · exact delete_runs_budget (CfgSame.withFuns cfg cfg.funs) (DelFuns.refl cfg) (Shift.erase hi hskip hlab)
      (shiftPc_zero i) L f base st hr hx
  · intro id fd hfd hb Q hr hx
    subst hb
    exact delete_runs_budget (CfgSame.setFun cfg id _) (DelFuns.setFun hfd hi hskip hlab) (Shift.id Q) rfl L f base st hr hx

/-- `RunsTo` (hence `RunsEquiv`) speaks about `Machine.execute`, the mirror of `execute_script`, just as well -/
theorem runsTo_mirror (cfg : Config W) (P : List Stmt) (base : Option String) (st : State W) (r : Res W) :
    RunsTo cfg P base st r ↔ r ≠ .oof ∧ ∃ f, Machine.execute cfg f P base st = r := by
  simp only [RunsTo, C08.execute_eq]

/-- `rename_unused_local` on the mirror machine: the two configurations have the same call wrapper and the same `execute` -/
theorem rename_unused_local_mirror {cfg : Config W} {id : FnId} {fd : FuncDef} (hfd : cfg.funs id = some fd) {v v' : Name}
    (hv : v ∉ bodyUses fd.body) (hv' : v' ∉ bodyUses fd.body) (f : Nat) :
    callValue (setFun cfg id { fd with body := renameStmts v v' fd.body }) f = callValue cfg f ∧
    ∀ P base st, execute (setFun cfg id { fd with body := renameStmts v v' fd.body }) f P base st = execute cfg f P base st := by
  obtain ⟨h1, _, h3, _⟩ := rename_unused_local hfd hv hv' f
  refine ⟨?_, fun P base st => by rw [C08.execute_eq, C08.execute_eq]; exact h3 P base st⟩
  rw [C08.callValue_eq, C08.callValue_eq]
  funext fv args st
  exact h1 fv args st

theorem rename_unused_arg_mirror {cfg : Config W} {id : FnId} {fd : FuncDef} (hfd : cfg.funs id = some fd) {a a' : Name}
    (ha : a ∉ bodyUses fd.body) (ha' : a' ∉ bodyUses fd.body) (f : Nat) :
    callValue (setFun cfg id { fd with args := renameArgs a a' fd.args }) f = callValue cfg f ∧
    ∀ P base st, execute (setFun cfg id { fd with args := renameArgs a a' fd.args }) f P base st = execute cfg f P base st := by
  obtain ⟨h1, _, h3, _⟩ := rename_unused_arg hfd ha ha' f
  refine ⟨?_, fun P base st => by rw [C08.execute_eq, C08.execute_eq]; exact h3 P base st⟩
  rw [C08.callValue_eq, C08.callValue_eq]
  funext fv args st
  exact h1 fv args st

/-! ## non-vacuity and the role of the hypotheses, on a tiny host the kernel can evaluate -/

namespace Tiny

/-- world = the log -/
abbrev TW := List Value

def truthy : Value → TW → Bool
  | .bool b, _ => b
  | .num q, _ => q != 0
  | .null, _ => false
  | _, _ => true

def binop : BinOp → Value → Value → TW → Value
  | .add, .num x, .num y, _ => .num (x + y)
  | .lt, .num x, .num y, _ => .bool (x < y)
  | _, _, _, _ => .null

def lib (name : String) (args : List Value) (w : TW) : LibTree TW :=
  if name = "log" then .ret (.ok .null) (w ++ args) else .ret (.fail .null) w

def host : Host TW :=
  { truthy := truthy, binop := binop, neg := id, lib := lib, other := fun _ _ w => .ret (.fail .null) w,
    notCallable := fun _ w => w, logFailure := id, newArray := fun _ w => (.null, w), builtin := fun _ => none }

def u (s : String) : Name := .user s

def st0 : State TW := { globals := [(u "log", .fn (.lib "log"))], world := [], count := 0 }

/-- `function f(n, m): t = n + 1; spare: ; n; r = n + 2; log(r); return r` — `t` is an unused variable, `m` an unused
argument, `spare` an unused label, statement 2 is pointless -/
def fBody : List Stmt := [
  .expr (some (u "t")) (.binary .add (.variable (u "n")) (.number 1)),
  .label (u "spare"),
  .expr none (.variable (u "n")),
  .expr (some (u "r")) (.binary .add (.variable (u "n")) (.number 2)),
  .expr none (.function (u "log") [.variable (u "r")]),
  .ret (some (.variable (u "r")))]

/-- `function f …; i = 0; top: ; i = i + 1; unused: ; i + 7; log(f(i)); jumpif (i < 3) top` -/
def script : List Stmt := [
  .function 0 (u "f") [u "n", u "m"] false false fBody,
  .expr (some (u "i")) (.number 0),
  .label (u "top"),
  .expr (some (u "i")) (.binary .add (.variable (u "i")) (.number 1)),
  .label (u "unused"),
  .expr none (.binary .add (.variable (u "i")) (.number 7)),
  .expr none (.function (u "log") [.function (u "f") [.variable (u "i")]]),
  .jump (u "top") (some (.binary .lt (.variable (u "i")) (.number 3))) ]

def fDef : FuncDef := { name := u "f", args := [u "n", u "m"], lastArgArray := false, body := fBody }

def cfg (max : Nat) : Config TW :=
  { host := host, funs := fun id => if id = 0 then some fDef else none, maxStatements := max }

/-- log, statement count and error of a finished run -/
def resInfo : Res TW → Option (TW × Nat × Option RtErr)
  | .done s => some (s.world, s.count, none)
  | .ret _ s => some (s.world, s.count, none)
  | .err e s => some (s.world, s.count, some e)
  | .oof => none

theorem script_scope : ScopeOf script .global script := Or.inl ⟨rfl, rfl⟩
theorem fBody_scope : ScopeOf script (.fn (u "f")) fBody := Or.inr ⟨u "f", 0, 0, [u "n", u "m"], false, false, rfl, rfl⟩

/-! lint reports all six warnings on this script -/
example : Warning.unusedLabel .global (u "unused") 4 ∈ lint script :=
  (unused_label_mem_lint _ _ _ _).2
    ⟨_, script_scope, ⟨by simp [DefinedIn, script], by rintro ⟨c, hc⟩; simp [script, u] at hc⟩, by decide⟩
example : Warning.unusedLabel (.fn (u "f")) (u "spare") 1 ∈ lint script :=
  (unused_label_mem_lint _ _ _ _).2
    ⟨_, fBody_scope, ⟨by simp [DefinedIn, fBody], by rintro ⟨c, hc⟩; simp [fBody] at hc⟩, by decide⟩
example : Warning.pointless .global 5 ∈ lint script := (pointless_exact _ _ _).2 ⟨_, script_scope, _, rfl, rfl⟩
example : Warning.pointless (.fn (u "f")) 2 ∈ lint script := (pointless_exact _ _ _).2 ⟨_, fBody_scope, _, rfl, rfl⟩
example : ∃ ix, Warning.unusedVar (u "f") (u "t") ix ∈ lint script :=
  (unused_variable_exact _ _ _).2 ⟨0, 0, _, _, _, fBody, rfl, by decide, by decide⟩
example : Warning.unusedArg (u "f") (u "m") 0 ∈ lint script :=
  (unused_argument_exact _ _ _ _).2 ⟨0, _, _, _, fBody, rfl, by decide, by decide⟩

/-! the hypotheses of the four theorems are inhabited by these (non-trivial: loop, call, log) instances -/
example : RunsEquiv (cfg 0) script (cfg 0) (deleteAt script 4) :=
  delete_skippable_runs rfl rfl (Or.inl ⟨_, rfl⟩) (label_not_target (by intro c hc; simp [script, u] at hc))
example : RunsEquiv (cfg 0) script (cfg 0) (deleteAt script 5) :=
  delete_skippable_runs rfl rfl (Or.inr ⟨_, rfl, rfl⟩) (fun _ _ _ => rfl)
example : RunsEquiv (cfg 0) script (setFun (cfg 0) 0 { fDef with body := deleteAt fBody 1 }) script :=
  (delete_unused_label_fn (cfg := cfg 0) (id := 0) (fd := fDef) rfl rfl (k := 1) (l := u "spare") rfl
    (by intro c hc; simp [fDef, fBody] at hc)).2.1 script
example : RunsEquiv (cfg 0) script (setFun (cfg 0) 0 { fDef with body := deleteAt fBody 2 }) script :=
  (delete_pointless_stmt_fn (cfg := cfg 0) (id := 0) (fd := fDef) rfl rfl (k := 2) rfl rfl).2.1 script
example (max fuel : Nat) (st : State TW) :
    execute₀ (setFun (cfg max) 0 { fDef with body := renameStmts (u "t") (u "zz") fBody }) fuel script none st =
      execute₀ (cfg max) fuel script none st :=
  (rename_unused_local (cfg := cfg max) (id := 0) (fd := fDef) rfl (by decide) (by decide) fuel).2.2.1 script none st
example (max fuel : Nat) (st : State TW) :
    execute₀ (setFun (cfg max) 0 { fDef with args := renameArgs (u "m") (u "zz") fDef.args }) fuel script none st =
      execute₀ (cfg max) fuel script none st :=
  (rename_unused_arg (cfg := cfg max) (id := 0) (fd := fDef) rfl (by decide) (by decide) fuel).2.2.1 script none st

/-- **the computed runs**: the original script logs `3 3 4 4 5 5` in 36 statements; without the unused label (or without the
pointless statement, or without the label of the function body) the log is the same and the count is 33: the deletions
change the statement count and nothing else. -/
theorem delete_changes_count_only :
    resInfo (execute₀ (cfg 0) 100 script none st0) = some ([.num 3, .num 3, .num 4, .num 4, .num 5, .num 5], 36, none) ∧
    resInfo (execute₀ (cfg 0) 100 (deleteAt script 4) none st0) = some ([.num 3, .num 3, .num 4, .num 4, .num 5, .num 5], 33, none) ∧
    resInfo (execute₀ (cfg 0) 100 (deleteAt script 5) none st0) = some ([.num 3, .num 3, .num 4, .num 4, .num 5, .num 5], 33, none) ∧
    resInfo (execute₀ (setFun (cfg 0) 0 { fDef with body := deleteAt fBody 1 }) 100 script none st0) =
      some ([.num 3, .num 3, .num 4, .num 4, .num 5, .num 5], 33, none) := by
  decide +kernel

/-- **why the deletion theorems assume the unlimited budget** (`delete_budget_counterexample`): with `maxStatements = 35` the
original run is aborted by the budget (it needs 36 statements) while the run without the unused label finishes (33) — the
deleted statement alone decides.  This is the design of the counter, true of the implementation as well (the harness' oracle
compares deletions only for runs in which the budget is not the deciding factor). -/
theorem delete_budget_counterexample :
    resInfo (execute₀ (cfg 35) 100 script none st0) =
      some ([.num 3, .num 3, .num 4, .num 4, .num 5, .num 5], 36, some (.exceeded 35)) ∧
    resInfo (execute₀ (cfg 35) 100 (deleteAt script 4) none st0) =
      some ([.num 3, .num 3, .num 4, .num 4, .num 5, .num 5], 33, none) := by
  decide +kernel

theorem run36 : resInfo (execute₀ (C09.withMax (cfg 0) 36) 100 script none st0) =
    some ([.num 3, .num 3, .num 4, .num 4, .num 5, .num 5], 36, none) := by decide +kernel

/-- the budgeted theorem at work: with budget 36 the original just finishes, so the edited run must agree -/
example : ResEq (execute₀ (C09.withMax (cfg 0) 36) 100 script none st0)
    (execute₀ (C09.withMax (cfg 0) 36) 100 (deleteAt script 4) none st0) :=
  delete_runs_budget (CfgSame.withFuns _ _) (DelFuns.refl _)
    (Shift.erase (P := script) (k := 4) rfl (Or.inl ⟨_, rfl⟩) (label_not_target (by intro c hc; simp [script, u] at hc)))
    (shiftPc_zero 4) 36 100 none st0
    (by intro hc; have h := run36; rw [hc] at h; simp [resInfo] at h)
    (by intro m s hc; have h := run36; rw [hc] at h; simp [resInfo] at h)

/-- **why the new name must not be read** (`rename_read_target_counterexample`): renaming the unused `t` to `n`, which the
body reads, changes the result (`n = n + 1` now precedes `r = n + 2`): the log becomes `4 4 5 5 6 6`. -/
theorem rename_read_target_counterexample :
    u "n" ∈ bodyUses fBody ∧
    resInfo (execute₀ (setFun (cfg 0) 0 { fDef with body := renameStmts (u "t") (u "n") fBody }) 100 script none st0) =
      some ([.num 4, .num 4, .num 5, .num 5, .num 6, .num 6], 36, none) := by
  refine ⟨by decide, by decide +kernel⟩

end Tiny

end C18
