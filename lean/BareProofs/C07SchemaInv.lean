import BareProofs.C07SchemaLemmas

/-!
# C07Schema — converse direction: every validated copy is (the validated copy of) the JSON of an `Expr` / `Stmt`

`expr_repr` / `stmt_repr` / `script_repr`: by strong induction on the size of the *input* JSON, using the inversion lemmas of
`C07SchemaLemmas.lean`.  See `C07Schema.lean` for the property theorems.
-/

namespace C07Schema
open Schema PJson Gen

theorem isDefault_exprW (k : String) (e : Expr) : isDefault k (exprW e) = false := by
  cases e <;> rfl
theorem isDefault_obj (k : String) (kvs : List (String × PJson)) : isDefault k (.obj kvs) = false := rfl
theorem isDefault_str (k : String) (s : String) : isDefault k (.str s) = false := rfl
theorem isDefault_arr_nil (k : String) : isDefault k (.arr []) = (k == "args") := rfl
theorem isDefault_arr_cons (k : String) (x : PJson) (r : List PJson) : isDefault k (.arr (x :: r)) = false := rfl
theorem isDefault_bool (k : String) (b : Bool) : isDefault k (.bool b) = !b := by cases b <;> rfl

theorem isDefault_statements (l : List PJson) : isDefault "statements" (.arr l) = false := by cases l <;> rfl

theorem isDefault_includes (l : List PJson) : isDefault "includes" (.arr l) = false := by cases l <;> rfl

theorem isDefault_arr_ne (k : String) {l : List PJson} (h : l ≠ []) : isDefault k (.arr l) = false := by
  cases l with
  | nil => exact absurd rfl h
  | cons x r => rfl

theorem ratOf_ratToJson (q : Rat) : ratOf (Syntax.ratToJson q) = some q := by
  have hq := q.den_pos
  simp [ratOf, Syntax.ratToJson, hq, Rat.mkRat_self]

theorem dropD_ratToJson (q : Rat) : dropD (Syntax.ratToJson q) = Syntax.ratToJson q := by
  simp [Syntax.ratToJson, dropD, dropL]

theorem isDefault_ratToJson (k : String) (q : Rat) : isDefault k (Syntax.ratToJson q) = false := rfl

theorem nameOk_ofString (s : String) : nameOk (Name.ofString s) = true := by
  simp [nameOk, C02.ofString_render_ofString]

theorem binop_ofText (op : BinOp) : BinOp.ofText op.text = some op := by cases op <;> decide +kernel

theorem unop_ofText (op : UnOp) : unOpOf op.text = some op := by cases op <;> rfl

/-- arrays that agree up to defaults are dropped, or kept, together -/
theorem isDefault_arr_congr (k : String) {a b : List PJson} (h : dropL a = dropL b) :
    isDefault k (.arr a) = isDefault k (.arr b) := by
  cases a <;> cases b <;> simp [dropL] at h <;> rfl

def ExprRepr (j' : PJson) : Prop := ∃ e, exprOf j' = some e ∧ namesE e = true ∧ dropD (exprW e) = dropD j'

theorem isDefault_of_exprOf {j : PJson} {e : Expr} (h : exprOf j = some e) (k : String) : isDefault k j = false := by
  cases j with
  | obj kvs => rfl
  | _ => simp [exprOf] at h

theorem exprs_repr : ∀ {xs xs' : List PJson}, valArr S (.user "Expression") [] xs = some xs' →
    (∀ x ∈ xs, ∀ x', val S (.user "Expression") x = some x' → ExprRepr x') →
    ∃ es, exprsOf xs' = some es ∧ namesEs es = true ∧ dropL (exprsW es) = dropL xs'
  | [], xs', h, _ => by
      cases h
      exact ⟨[], rfl, rfl, rfl⟩
  | x :: r, xs', h, ih => by
      obtain ⟨x', r', h1, _, h3, rfl⟩ := valArr_cons_inv h
      obtain ⟨e, he, hn, hd⟩ := ih x List.mem_cons_self x' h1
      obtain ⟨es, hes, hns, hds⟩ := exprs_repr h3 (fun y hy => ih y (List.mem_cons_of_mem _ hy))
      exact ⟨e :: es, by simp [exprsOf, he, hes], by simp [namesEs, hn, hns], by simp [exprsW, dropL, hd, hds]⟩

theorem expr_repr_aux : ∀ (n : Nat) (j j' : PJson), sizeOf j < n → val S (.user "Expression") j = some j' → ExprRepr j' := by
  intro n
  induction n with
  | zero => intro j j' h; omega
  | succ n ih =>
    intro j j' hsz h
    obtain ⟨m, v, v', hm, rfl, hv, -, rfl⟩ := val_union_inv def_Expression msExpression_nodup h
    have hsv : sizeOf v < n := by simp at hsz; omega
    simp only [msExpression, List.mem_cons, List.not_mem_nil, or_false] at hm
    rcases hm with rfl | rfl | rfl | rfl | rfl | rfl | rfl
    · -- number
      obtain ⟨q, rfl⟩ := val_float_inv hv
      exact ⟨.number q, by simp [exprOf, ratOf_ratToJson], rfl, rfl⟩
    · -- string
      obtain ⟨s, rfl, rfl⟩ := val_string_inv hv
      exact ⟨.string s, by simp [exprOf], rfl, rfl⟩
    · -- variable
      obtain ⟨s, rfl, rfl⟩ := val_string_inv hv
      exact ⟨.variable (Name.ofString s), by simp [exprOf], by simp [namesE, nameOk_ofString],
        by simp [exprW, mk, C02.render_ofString]⟩
    · -- function
      obtain ⟨out, rfl, hmem⟩ := val_struct_inv def_FunctionExpression hv
      rcases hmem "name" _ rfl with ⟨-, ⟨⟩⟩ | ⟨nv, n', h1, -, hv1, -⟩
      obtain ⟨s, rfl, rfl⟩ := val_string_inv hv1
      rcases hmem "args" _ rfl with ⟨h2, -⟩ | ⟨av, a', h2, hs2, hv2, -⟩
      · refine ⟨.function (Name.ofString s) [], ?_, by simp [namesE, namesEs, nameOk_ofString], ?_⟩ <;>
          simp only [msFunctionExpression, order_cons, order_nil, h1, h2]
        · simp [exprOf, fnExprOf]
        · simp [exprW, exprsW, mk, dropD, dropK, isDefault_str, isDefault_arr_nil, isDefault_obj, C02.render_ofString]
      · obtain ⟨xs, xs', hxs, rfl, hsx⟩ := val_array_inv hv2
        obtain ⟨es, hes, hns, hds⟩ := exprs_repr hxs (fun x hx x' hx' => ih x x' (by have := hsx x hx; omega) hx')
        refine ⟨.function (Name.ofString s) es, ?_, by simp [namesE, hns, nameOk_ofString], ?_⟩ <;>
          simp only [msFunctionExpression, order_cons, order_nil, h1, h2]
        · simp [exprOf, fnExprOf, hes]
        · simp [exprW, mk, dropD, dropK, isDefault_arr_congr "args" hds, hds, isDefault_obj, isDefault_str, C02.render_ofString]
    · -- binary
      obtain ⟨out, rfl, hmem⟩ := val_struct_inv def_BinaryExpression hv
      rcases hmem "op" _ rfl with ⟨-, ⟨⟩⟩ | ⟨ov, o', h1, -, hv1, -⟩
      rcases hmem "left" _ rfl with ⟨-, ⟨⟩⟩ | ⟨lv, l', h2, hs2, hv2, -⟩
      rcases hmem "right" _ rfl with ⟨-, ⟨⟩⟩ | ⟨rv, r', h3, hs3, hv3, -⟩
      obtain ⟨s, rfl, hs⟩ := val_enum_inv def_BinaryExpressionOperator hv1
      obtain ⟨op, -, rfl⟩ := List.mem_map.1 hs
      obtain ⟨el, hel, hnl, hdl⟩ := ih lv l' (by omega) hv2
      obtain ⟨er, her, hnr, hdr⟩ := ih rv r' (by omega) hv3
      refine ⟨.binary op el er, ?_, by simp [namesE, hnl, hnr], ?_⟩ <;>
        simp only [msBinaryExpression, order_cons, order_nil, h1, h2, h3]
      · simp [exprOf, binOf, binop_ofText, hel, her]
      · simp [exprW, mk, dropD, dropK, isDefault_obj, isDefault_str, isDefault_exprW, isDefault_of_exprOf hel,
          isDefault_of_exprOf her, hdl, hdr]
    · -- unary
      obtain ⟨out, rfl, hmem⟩ := val_struct_inv def_UnaryExpression hv
      rcases hmem "op" _ rfl with ⟨-, ⟨⟩⟩ | ⟨ov, o', h1, -, hv1, -⟩
      rcases hmem "expr" _ rfl with ⟨-, ⟨⟩⟩ | ⟨ev, e', h2, hs2, hv2, -⟩
      obtain ⟨s, rfl, hs⟩ := val_enum_inv def_UnaryExpressionOperator hv1
      obtain ⟨op, rfl⟩ : ∃ op : UnOp, op.text = s := by
        simp only [List.mem_cons, List.not_mem_nil, or_false] at hs
        rcases hs with rfl | rfl
        · exact ⟨.neg, rfl⟩
        · exact ⟨.not, rfl⟩
      obtain ⟨el, hel, hnl, hdl⟩ := ih ev e' (by omega) hv2
      refine ⟨.unary op el, ?_, by simp [namesE, hnl], ?_⟩ <;>
        simp only [msUnaryExpression, order_cons, order_nil, h1, h2]
      · simp [exprOf, unOf, unop_ofText, hel]
      · simp [exprW, mk, dropD, dropK, isDefault_obj, isDefault_str, isDefault_exprW, isDefault_of_exprOf hel, hdl]
    · -- group
      obtain ⟨e, he, hn, hd⟩ := ih v v' hsv hv
      exact ⟨.group e, by simp [exprOf, he], by simp [namesE, hn],
        by simp [exprW, mk, dropD, dropK, isDefault_exprW, isDefault_of_exprOf he, hd]⟩

theorem expr_repr {j j' : PJson} (h : val S (.user "Expression") j = some j') : ExprRepr j' :=
  expr_repr_aux (sizeOf j + 1) j j' (by omega) h

theorem isDefault_stmtW (k : String) (s : Stmt) : isDefault k (stmtW s) = false := by
  cases s with
  | expr n e => cases n <;> rfl
  | jump l c => cases c <;> rfl
  | ret e => cases e <;> rfl
  | label l => rfl
  | function f n a l i b => rfl
  | «include» i => rfl

theorem isDefault_incW (k : String) (i : IncludeScript) : isDefault k (incW i) = false := rfl

theorem dropL_strs (ss : List String) : dropL (ss.map PJson.str) = ss.map PJson.str := by
  induction ss with
  | nil => rfl
  | cons a r ih => simp [dropL, dropD, ih]

theorem map_render_comp (ss : List String) :
    List.map ((fun a => PJson.str (Name.render a)) ∘ Name.ofString) ss = ss.map PJson.str := by
  induction ss with
  | nil => rfl
  | cons a r ih => simp [C02.render_ofString]

theorem names_all_ok (ss : List String) : (ss.map Name.ofString).all nameOk = true := by
  simp [List.all_map, nameOk_ofString]

theorem names_repr : ∀ {xs xs' : List PJson}, valArr S (.builtin "string") [] xs = some xs' →
    ∃ ss : List String, xs' = ss.map PJson.str ∧ strsOf xs' = some ss
  | [], xs', h => by cases h; exact ⟨[], rfl, rfl⟩
  | x :: r, xs', h => by
      obtain ⟨x', r', h1, _, h3, rfl⟩ := valArr_cons_inv h
      obtain ⟨s, rfl, rfl⟩ := val_string_inv h1
      obtain ⟨ss, rfl, hss⟩ := names_repr h3
      exact ⟨s :: ss, rfl, by simp [strsOf, hss]⟩

/-- an optional `bool` member of a validated struct: absent, or a bool -/
theorem optBool {j : PJson} {out : List (String × PJson)} {k : String} {m : SMember}
    (h : (lookupKV out k = none ∧ m.optional = true) ∨
      ∃ v v', lookupKV out k = some v' ∧ sizeOf v < sizeOf j ∧ val S m.type v = some v' ∧ attrOk m.attr v' = true)
    (ht : m.type = .builtin "bool") : ∃ ob : Option Bool, lookupKV out k = ob.map PJson.bool := by
  rcases h with ⟨h, -⟩ | ⟨v, v', h, -, hv, -⟩
  · exact ⟨none, h⟩
  · rw [ht] at hv
    obtain ⟨b, rfl⟩ := val_bool_inv hv
    exact ⟨some b, h⟩

theorem dropK_append (a b : List (String × PJson)) : dropK (a ++ b) = dropK a ++ dropK b := by
  induction a with
  | nil => rfl
  | cons x r ih => obtain ⟨k, v⟩ := x; by_cases h : isDefault k v = true <;> simp [dropK, h, ih]

/-- a flag of the validated copy, after dropping defaults: present exactly when `true` -/
theorem dropK_flag (k : String) {o : Option PJson} {ob : Option Bool} (h : o = ob.map PJson.bool) :
    dropK (o.map fun v => (k, v)).toList = if ob.getD false then [(k, PJson.bool true)] else [] := by
  subst h
  rcases ob with _ | _ | _ <;> rfl

theorem dropK_flagW (k : String) (c : Bool) :
    dropK (if c then [(k, PJson.bool true)] else []) = if c then [(k, PJson.bool true)] else [] := by
  cases c <;> rfl

theorem fnStmtOf_async {o : Option PJson} {ob : Option Bool} (h : o = ob.map PJson.bool) (r : List (String × PJson)) (acc : FnAcc) :
    fnStmtOf ((o.map fun v => ("async", v)).toList ++ r) acc = fnStmtOf r { acc with isAsync := ob.getD acc.isAsync } := by
  subst h
  rcases ob with _ | b <;> simp [fnStmtOf]

theorem fnStmtOf_laa {o : Option PJson} {ob : Option Bool} (h : o = ob.map PJson.bool) (r : List (String × PJson)) (acc : FnAcc) :
    fnStmtOf ((o.map fun v => ("lastArgArray", v)).toList ++ r) acc = fnStmtOf r { acc with laa := ob.getD acc.laa } := by
  subst h
  rcases ob with _ | b <;> simp [fnStmtOf]

theorem inc_repr {j j' : PJson} (h : val S (.user "IncludeScript") j = some j') :
    ∃ i, incOf j' = some i ∧ dropD (incW i) = dropD j' := by
  obtain ⟨out, rfl, hmem⟩ := val_struct_inv def_IncludeScript h
  rcases hmem "url" _ rfl with ⟨-, ⟨⟩⟩ | ⟨uv, u', h1, -, hv1, -⟩
  obtain ⟨u, rfl, rfl⟩ := val_string_inv hv1
  obtain ⟨ob, h2⟩ := optBool (hmem "system" _ rfl) rfl
  simp only [msIncludeScript, order_cons, order_nil, h1]
  refine ⟨⟨u, ob.getD false⟩, ?_, ?_⟩
  · rcases ob with _ | b <;> simp [h2, incOf, incFieldsOf]
  · simp [incW, mk, dropD, dropK_flag "system" h2, dropK_flagW, dropK, isDefault_str]

theorem incs_repr : ∀ {xs xs' : List PJson}, valArr S (.user "IncludeScript") [] xs = some xs' →
    ∃ is : List IncludeScript, incsOf xs' = some is ∧ dropL (is.map incW) = dropL xs' ∧ is.length = xs'.length
  | [], xs', h => by cases h; exact ⟨[], rfl, rfl, rfl⟩
  | x :: r, xs', h => by
      obtain ⟨x', r', h1, _, h3, rfl⟩ := valArr_cons_inv h
      obtain ⟨i, hi, hd⟩ := inc_repr h1
      obtain ⟨is, his, hds, hl⟩ := incs_repr h3
      exact ⟨i :: is, by simp [incsOf, hi, his], by simp [dropL, hd, hds], by simp [hl]⟩

/-- the conclusion of the statement theorem for one validated value -/
def StmtRepr (j' : PJson) : Prop :=
  ∃ s, stmtOf j' = some s ∧ wfS s = true ∧ namesS s = true ∧ dropD (stmtW s) = dropD j'

theorem stmts_repr : ∀ {xs xs' : List PJson}, valArr S (.user "ScriptStatement") [] xs = some xs' →
    (∀ x ∈ xs, ∀ x', val S (.user "ScriptStatement") x = some x' → StmtRepr x') →
    ∃ ss, stmtsOf xs' = some ss ∧ wfL ss = true ∧ namesL ss = true ∧ dropL (stmtsW ss) = dropL xs'
  | [], xs', h, _ => by
      cases h
      exact ⟨[], rfl, rfl, rfl, rfl⟩
  | x :: r, xs', h, ih => by
      obtain ⟨x', r', h1, _, h3, rfl⟩ := valArr_cons_inv h
      obtain ⟨s, hs, hw, hn, hd⟩ := ih x List.mem_cons_self x' h1
      obtain ⟨ss, hss, hws, hns, hds⟩ := stmts_repr h3 (fun y hy => ih y (List.mem_cons_of_mem _ hy))
      exact ⟨s :: ss, by simp [stmtsOf, hs, hss], by simp [wfL, hw, hws], by simp [namesL, hn, hns],
        by simp [stmtsW, dropL, hd, hds]⟩

theorem stmt_repr_aux : ∀ (n : Nat) (j j' : PJson), sizeOf j < n → val S (.user "ScriptStatement") j = some j' → StmtRepr j' := by
  intro n
  induction n with
  | zero => intro j j' h; omega
  | succ n ih =>
    intro j j' hsz h
    obtain ⟨m, v, v', hm, rfl, hv, -, rfl⟩ := val_union_inv def_ScriptStatement msScriptStatement_nodup h
    have hsv : sizeOf v < n := by simp at hsz; omega
    simp only [msScriptStatement, List.mem_cons, List.not_mem_nil, or_false] at hm
    rcases hm with rfl | rfl | rfl | rfl | rfl | rfl
    · -- expr
      obtain ⟨out, rfl, hmem⟩ := val_struct_inv def_ExpressionStatement hv
      rcases hmem "expr" _ rfl with ⟨-, ⟨⟩⟩ | ⟨ev, e', h1, -, hv1, -⟩
      obtain ⟨e, he, hn, hd⟩ := expr_repr hv1
      rcases hmem "name" _ rfl with ⟨h2, -⟩ | ⟨nv, n', h2, -, hv2, -⟩
      · simp only [msExpressionStatement, order_cons, order_nil, h1, h2]
        exact ⟨.expr none e, by simp [stmtOf, exprStmtOf, he], rfl, by simp [namesS, hn],
          by simp [stmtW, mk, dropD, dropK, isDefault_obj, isDefault_exprW, isDefault_of_exprOf he, hd]⟩
      · obtain ⟨nm, rfl, rfl⟩ := val_string_inv hv2
        simp only [msExpressionStatement, order_cons, order_nil, h1, h2]
        exact ⟨.expr (some (Name.ofString nm)) e, by simp [stmtOf, exprStmtOf, he], rfl, by simp [namesS, hn, nameOk_ofString],
          by simp [stmtW, mk, dropD, dropK, isDefault_obj, isDefault_str, isDefault_exprW, isDefault_of_exprOf he, hd,
            C02.render_ofString]⟩
    · -- jump
      obtain ⟨out, rfl, hmem⟩ := val_struct_inv def_JumpStatement hv
      rcases hmem "label" _ rfl with ⟨-, ⟨⟩⟩ | ⟨lv, l', h1, -, hv1, -⟩
      obtain ⟨l, rfl, rfl⟩ := val_string_inv hv1
      rcases hmem "expr" _ rfl with ⟨h2, -⟩ | ⟨ev, e', h2, -, hv2, -⟩
      · simp only [msJumpStatement, order_cons, order_nil, h1, h2]
        exact ⟨.jump (Name.ofString l) none, by simp [stmtOf, jumpOf], rfl, by simp [namesS, namesO, nameOk_ofString],
          by simp [stmtW, mk, C02.render_ofString]⟩
      · obtain ⟨e, he, hn, hd⟩ := expr_repr hv2
        simp only [msJumpStatement, order_cons, order_nil, h1, h2]
        exact ⟨.jump (Name.ofString l) (some e), by simp [stmtOf, jumpOf, he], rfl,
          by simp [namesS, namesO, hn, nameOk_ofString],
          by simp [stmtW, mk, dropD, dropK, isDefault_obj, isDefault_str, isDefault_exprW, isDefault_of_exprOf he, hd,
            C02.render_ofString]⟩
    · -- return
      obtain ⟨out, rfl, hmem⟩ := val_struct_inv def_ReturnStatement hv
      rcases hmem "expr" _ rfl with ⟨h2, -⟩ | ⟨ev, e', h2, -, hv2, -⟩
      · simp only [msReturnStatement, order_cons, order_nil, h2]
        exact ⟨.ret none, by simp [stmtOf, retOf], rfl, rfl, by simp [stmtW, mk]⟩
      · obtain ⟨e, he, hn, hd⟩ := expr_repr hv2
        simp only [msReturnStatement, order_cons, order_nil, h2]
        exact ⟨.ret (some e), by simp [stmtOf, retOf, he], rfl, by simp [namesS, namesO, hn],
          by simp [stmtW, mk, dropD, dropK, isDefault_obj, isDefault_exprW, isDefault_of_exprOf he, hd]⟩
    · -- label
      obtain ⟨l, rfl, rfl⟩ := val_string_inv hv
      exact ⟨.label (Name.ofString l), by simp [stmtOf], rfl, by simp [namesS, nameOk_ofString],
        by simp [stmtW, mk, C02.render_ofString]⟩
    · -- function
      obtain ⟨out, rfl, hmem⟩ := val_struct_inv def_FunctionStatement hv
      rcases hmem "name" _ rfl with ⟨-, ⟨⟩⟩ | ⟨nv, n', h1, -, hv1, -⟩
      rcases hmem "statements" _ rfl with ⟨-, ⟨⟩⟩ | ⟨bv, b', h2, hs2, hv2, -⟩
      obtain ⟨obA, hA⟩ := optBool (hmem "async" _ rfl) rfl
      obtain ⟨obL, hL⟩ := optBool (hmem "lastArgArray" _ rfl) rfl
      obtain ⟨nm, rfl, rfl⟩ := val_string_inv hv1
      obtain ⟨xs, xs', hxs, rfl, hsx⟩ := val_array_inv hv2
      obtain ⟨body, hbody, hwb, hnb, hdb⟩ :=
        stmts_repr hxs (fun x hx x' hx' => ih x x' (by have := hsx x hx; omega) hx')
      rcases hmem "args" _ rfl with ⟨h3, -⟩ | ⟨av, a', h3, -, hv3, hat3⟩
      · simp only [msFunctionStatement, order_cons, order_nil, h1, h2, h3]
        refine ⟨.function 0 (Name.ofString nm) [] (obL.getD false) (obA.getD false) body, ?_, by simpa [wfS] using hwb,
          by simp [namesS, hnb, nameOk_ofString], ?_⟩
        · simp [stmtOf, fnStmtOf_async hA, fnStmtOf_laa hL, fnStmtOf, hbody]
        · simp [stmtW, mk, dropD, dropK_append, dropK_flag "async" hA, dropK_flag "lastArgArray" hL, dropK_flagW, dropK, isDefault_obj, isDefault_str,
            isDefault_statements, C02.render_ofString, hdb]
      · obtain ⟨ys, ys', hys, rfl, -⟩ := val_array_inv hv3
        obtain ⟨ss, rfl, hss⟩ := names_repr hys
        have hne : ss.map PJson.str ≠ [] := by rintro h; simp [h, attrOk, attr1, jlen] at hat3
        simp only [msFunctionStatement, order_cons, order_nil, h1, h2, h3]
        refine ⟨.function 0 (Name.ofString nm) (ss.map Name.ofString) (obL.getD false) (obA.getD false) body, ?_,
          by simpa [wfS] using hwb, by simp [namesS, hnb, nameOk_ofString, List.all_map], ?_⟩
        · simp [stmtOf, fnStmtOf_async hA, fnStmtOf_laa hL, fnStmtOf, hss, hbody]
        · have hne' : ss ≠ [] := by simpa using hne
          simp [stmtW, mk, dropD, dropK_append, dropK_flag "async" hA, dropK_flag "lastArgArray" hL, dropK_flagW, dropK,
            isDefault_obj, isDefault_str, isDefault_statements, isDefault_arr_ne "args" hne, C02.render_ofString, hdb, dropL_strs,
            map_render_comp, hne']
    · -- include
      obtain ⟨out, rfl, hmem⟩ := val_struct_inv def_IncludeStatement hv
      rcases hmem "includes" _ rfl with ⟨-, ⟨⟩⟩ | ⟨iv, i', h1, -, hv1, hat1⟩
      obtain ⟨xs, xs', hxs, rfl, -⟩ := val_array_inv hv1
      obtain ⟨is, his, hds, hlen⟩ := incs_repr hxs
      have hne : is ≠ [] := by
        rintro rfl
        cases xs' with
        | nil => simp [attrOk, attr1, jlen] at hat1
        | cons a r => simp at hlen
      simp only [msIncludeStatement, order_cons, order_nil, h1]
      exact ⟨.include is, by simp [stmtOf, his], by simpa [wfS] using hne, rfl,
        by simp [stmtW, mk, dropD, dropK, isDefault_obj, isDefault_includes, hds]⟩

theorem stmt_repr {j j' : PJson} (h : val S (.user "ScriptStatement") j = some j') : StmtRepr j' :=
  stmt_repr_aux (sizeOf j + 1) j j' (by omega) h

/-- **the converse for whole scripts**: the validated copy of any schema-valid document reads as a statement list, and differs
from that list's own validated JSON only by optional members at their defaults -/
theorem script_repr {j j' : PJson} (h : validate S "BareScript" j = some j') :
    ∃ P, scriptOf j' = some P ∧ wfL P = true ∧ namesL P = true ∧ dropD (scriptW P) = dropD j' := by
  obtain ⟨out, rfl, hmem⟩ := val_struct_inv def_BareScript h
  rcases hmem "statements" _ rfl with ⟨-, ⟨⟩⟩ | ⟨bv, b', h1, -, hv1, -⟩
  obtain ⟨xs, xs', hxs, rfl, -⟩ := val_array_inv hv1
  obtain ⟨P, hP, hw, hn, hd⟩ := stmts_repr hxs (fun x _ x' hx' => stmt_repr hx')
  simp only [msBareScript, order_cons, order_nil, h1]
  exact ⟨P, by simp [scriptOf, hP], hw, hn, by simp [scriptW, mk, dropD, dropK, isDefault_statements, hd]⟩

end C07Schema
