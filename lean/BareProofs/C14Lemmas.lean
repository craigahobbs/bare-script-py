import BareModel.Json
import BareProofs.TextRun

/-! Lemmas for C14.  Stage 2 (the clean-up scanner) and the decoder are both followed along the layout the encoder produces:
escapes by their four forms (`EscForm`), number tokens as `NumPiece`s, containers as `block`s of items.  `SegF` / `ParseOK` say
what the scanner / the decoder does with a piece in any context that starts with a terminator. -/

namespace C14
open Json TextRun

/-! A string literal is `String.ofList` of its characters *by unification*: `String.toList_ofList` rewrites `"…".toList` to the
characters (see `decide_lit`), and with `rfl` for `hs` the lemma below does the same for an expected text that is a literal, so that
a test vector compares character lists and the kernel runs neither the UTF-8 decoder nor the encoder, which are slow there. -/

theorem ofList_eq_lit {l l' : List Char} {s : String} (hs : String.ofList l' = s) (h : l = l') : String.ofList l = s := h ▸ hs

theorem hexDigit_props : ∀ k, k < 16 →
    hexDigit k ≠ '"' ∧ hexDigit k ≠ '\\' ∧ hexVal (hexDigit k) = some k := by
  decide

theorem hex4Val_hex4 (n : Nat) (h : n < 65536) :
    hex4Val (hexDigit (n / 4096 % 16)) (hexDigit (n / 256 % 16)) (hexDigit (n / 16 % 16)) (hexDigit (n % 16)) = some n := by
  have hv (k : Nat) : hexVal (hexDigit (k % 16)) = some (k % 16) := (hexDigit_props _ (Nat.mod_lt _ (by decide))).2.2
  simp only [hex4Val, hv]
  congr 1; omega

theorem sur (n : Nat) (h : 65536 ≤ n) : 65536 + (n - 65536) / 1024 * 1024 + (n - 65536) % 1024 = n := by
  have := Nat.div_add_mod' (n - 65536) 1024
  omega

theorem char_valid (c : Char) : c.toNat < 0xd800 ∨ (0xdfff < c.toNat ∧ c.toNat < 0x110000) := by
  have := c.valid
  simp only [Char.toNat, UInt32.isValidChar, Nat.isValidChar] at *
  omega

/-- The four forms `escChar` produces: a named escape, the character itself, `\uXXXX`, a surrogate pair. -/
inductive EscForm (c : Char) : Str → Prop
  | named (x : Char) (h : simpleEsc x = some c) : EscForm c ['\\', x]
  | plain (h1 : c ≠ '"') (h2 : c ≠ '\\') (h : 32 ≤ c.toNat) : EscForm c [c]
  | bmp (h : c.toNat < 65536) : EscForm c ('\\' :: 'u' :: hex4 c.toNat)
  | pair (h : 65536 ≤ c.toNat) : EscForm c ('\\' :: 'u' :: hex4 (0xd800 + (c.toNat - 0x10000) / 1024) ++
      '\\' :: 'u' :: hex4 (0xdc00 + (c.toNat - 0x10000) % 1024))

theorem escForm_escChar (c : Char) : EscForm c (escChar c) := by
  unfold escChar
  refine iteInduction (by rintro rfl; exact .named '"' rfl) fun h1 => ?_
  refine iteInduction (by rintro rfl; exact .named '\\' rfl) fun h2 => ?_
  refine iteInduction (by rintro rfl; exact .named 'n' rfl) fun _ => ?_
  refine iteInduction (by rintro rfl; exact .named 'r' rfl) fun _ => ?_
  refine iteInduction (by rintro rfl; exact .named 't' rfl) fun _ => ?_
  refine iteInduction (by rintro rfl; exact .named 'b' rfl) fun _ => ?_
  refine iteInduction (by rintro rfl; exact .named 'f' rfl) fun _ => ?_
  refine iteInduction (fun h => .plain h1 h2 h.1) fun _ => ?_
  exact iteInduction .bmp fun h => .pair (Nat.le_of_not_lt h)

theorem simpleEsc_ne {x c : Char} (h : simpleEsc x = some c) : x ≠ 'u' ∧ x ≠ '\n' := by
  constructor <;> (rintro rfl; cases h)

theorem escStep_u (n : Nat) (h : n < 65536) (hs : n < 55296 ∨ 57344 ≤ n) (tail : Str) :
    escStep ('\\' :: 'u' :: (hex4 n ++ tail)) = some (Char.ofNat n, tail) := by
  have h1 : ¬ (55296 ≤ n ∧ n < 56320) := by omega
  have h2 : ¬ (56320 ≤ n ∧ n < 57344) := by omega
  simp [hex4, escStep, uEsc, hex4Val_hex4 n h, h1, h2]

theorem escStep_pair (hi lo : Nat) (h1 : 55296 ≤ hi ∧ hi < 56320) (h2 : 56320 ≤ lo ∧ lo < 57344) (tail : Str) :
    escStep ('\\' :: 'u' :: (hex4 hi ++ '\\' :: 'u' :: (hex4 lo ++ tail))) =
      some (Char.ofNat (65536 + (hi - 55296) * 1024 + (lo - 56320)), tail) := by
  simp only [hex4, escStep, uEsc, lowEsc, List.cons_append, List.nil_append, hex4Val_hex4 hi (by omega),
    hex4Val_hex4 lo (by omega)]
  simp [h1, h2]

theorem EscForm.escStep {c : Char} {e : Str} (h : EscForm c e) (tail : Str) : escStep (e ++ tail) = some (c, tail) := by
  cases h with
  | named x h => simp [Json.escStep, h, (simpleEsc_ne h).1]
  | plain h1 h2 h =>
    have : ¬ c.toNat < 32 := by omega
    simp [Json.escStep, h2, this]
  | bmp h =>
    have := escStep_u c.toNat h (by have := char_valid c; omega) tail
    simpa using this
  | pair h =>
    have hv := char_valid c
    have := escStep_pair (55296 + (c.toNat - 65536) / 1024) (56320 + (c.toNat - 65536) % 1024) (by omega) (by omega) tail
    simpa [Nat.add_sub_cancel_left, sur _ h] using this

theorem EscForm.head {c : Char} {e : Str} (h : EscForm c e) : ∃ x t, e = x :: t ∧ x ≠ '"' := by
  cases h with
  | plain h1 _ _ => exact ⟨c, [], rfl, h1⟩
  | _ => exact ⟨'\\', _, rfl, by decide⟩

theorem escBody_length (s : Str) : s.length ≤ (escBody s).length := by
  induction s with
  | nil => exact Nat.le_refl _
  | cons c s ih =>
    obtain ⟨x, t, e, _⟩ := (escForm_escChar c).head
    simp only [escBody, e, List.length_append, List.length_cons]; omega

theorem unescF_body (s rest : Str) : ∀ f, s.length < f → unescF f (escBody s ++ '"' :: rest) = some (s, rest) := by
  induction s with
  | nil => intro f hf; cases f with
    | zero => cases hf
    | succ f => simp [escBody, unescF]
  | cons c s ih =>
    intro f hf
    cases f with
    | zero => cases hf
    | succ f =>
      have hc := escForm_escChar c
      obtain ⟨x, t, e, hx⟩ := hc.head
      have hs := hc.escStep (escBody s ++ '"' :: rest)
      rw [escBody, List.append_assoc]
      rw [e, List.cons_append] at hs ⊢
      rw [unescF, if_neg hx, hs]
      simp [ih f (by simpa using hf), consFst]

/-- **the escape / unescape round trip** for every string over every Unicode scalar value -/
theorem unesc_body (s rest : Str) : unesc (escBody s ++ '"' :: rest) = some (s, rest) := by
  apply unescF_body
  have := escBody_length s
  simp only [List.length_append, List.length_cons]; omega

/-! ### the clean-up scanner on string literals -/

/-- what the clean-up scanner needs to know about a piece `e` of a literal body -/
def LitOK (e : Str) : Prop :=
  ∀ tail, litClosesAux false (e ++ tail) = litClosesAux false tail ∧ clean .lit (e ++ tail) = e ++ clean .lit tail

theorem litOK_bs (x : Char) (hx : x ≠ '\n') : LitOK ['\\', x] := by
  intro tail; simp [litClosesAux, clean, hx]

theorem litOK_plain (c : Char) (h1 : c ≠ '"') (h2 : c ≠ '\\') : LitOK [c] := by
  intro tail; simp [litClosesAux, clean, h1, h2]

theorem LitOK.append {a b : Str} (ha : LitOK a) (hb : LitOK b) : LitOK (a ++ b) := by
  intro tail
  rw [List.append_assoc, (ha _).1, (ha _).2, (hb _).1, (hb _).2]; simp

theorem litOK_u (n : Nat) : LitOK ('\\' :: 'u' :: hex4 n) := by
  have h (k : Nat) : LitOK [hexDigit (k % 16)] :=
    have hk := hexDigit_props _ (Nat.mod_lt k (by decide))
    litOK_plain _ hk.1 hk.2.1
  exact (litOK_bs 'u' (by decide)).append (((h _).append (h _)).append ((h _).append (h _)))

theorem EscForm.litOK {c : Char} {e : Str} (h : EscForm c e) : LitOK e := by
  cases h with
  | named x h => exact litOK_bs x (simpleEsc_ne h).2
  | plain h1 h2 _ => exact litOK_plain c h1 h2
  | bmp _ => exact litOK_u _
  | pair _ => exact (litOK_u _).append (litOK_u _)

theorem litOK_escBody (s : Str) : LitOK (escBody s) := by
  induction s with
  | nil => intro tail; exact ⟨rfl, rfl⟩
  | cons c s ih => exact (escForm_escChar c).litOK.append ih

/-- **a string literal is copied verbatim, whatever follows it** -/
theorem clean_encStr (s rest : Str) : clean .out (encStr s ++ rest) = encStr s ++ clean .out rest := by
  have h := litOK_escBody s ('"' :: rest)
  simp only [encStr, List.cons_append, List.append_assoc, List.nil_append]
  simp [clean, litCloses, h.1, h.2, litClosesAux]

/-! ### the clean-up scanner on punctuation and numbers -/

/-- the text after a number: nothing, or a terminator (`,` `]` `}` or white space) -/
def Follow : Str → Prop
  | [] => True
  | c :: _ => isTerm c = true

/-- text without quotes and dots: the scanner copies it -/
def Plain (p : Str) : Prop := ∀ c ∈ p, c ≠ '"' ∧ c ≠ '.'

theorem clean_plain (p : Str) (hp : Plain p) (rest : Str) : clean .out (p ++ rest) = p ++ clean .out rest := by
  induction p with
  | nil => rfl
  | cons c p ih =>
    have hc := hp c (by simp)
    simp [clean, hc.1, hc.2, ih (fun d hd => hp d (by simp [hd]))]

theorem Plain.append {a b : Str} (ha : Plain a) (hb : Plain b) : Plain (a ++ b) :=
  List.forall_mem_append.mpr ⟨ha, hb⟩

theorem isTerm_ne {c : Char} (h : isTerm c = true) : c ≠ '0' ∧ c ≠ '"' ∧ c ≠ '.' := by
  refine ⟨?_, ?_, ?_⟩ <;> (rintro rfl; revert h; decide)

theorem clean_dot0 (rest : Str) (h : Follow rest) : clean .out ('.' :: '0' :: rest) = clean .out rest := by
  cases rest with
  | nil => simp [clean, dotZeroMatch, afterZeros]
  | cons c r =>
    have ht : isTerm c = true := h
    obtain ⟨h0, hq, hd⟩ := isTerm_ne ht
    simp [clean, dotZeroMatch, afterZeros, h0, hq, hd, ht]

/-- The digits and the number characters are finitely many: what holds of each is found by trying them all. -/
def digitChars : Str := ['0', '1', '2', '3', '4', '5', '6', '7', '8', '9']

def numChars : Str := digitChars ++ ['-', '+', '.', 'e', 'E']

theorem digit_mem {c : Char} (h : isDigit c = true) : c ∈ digitChars := by
  have key : ∀ n < 58, 48 ≤ n → Char.ofNat n ∈ digitChars := by decide
  have ⟨(h1 : 48 ≤ c.toNat), (h2 : c.toNat ≤ 57)⟩ := Char.isDigit_iff_toNat.mp h
  simpa using key c.toNat (by omega) h1

theorem numChar_mem {c : Char} (h : isNumChar c = true) : c ∈ numChars := by
  simp only [isNumChar, Bool.or_eq_true, beq_iff_eq] at h
  rcases h with ((((h | rfl) | rfl) | rfl) | rfl) | rfl
  · exact List.mem_append_left _ (digit_mem h)
  all_goals decide

theorem isDigit_props {c : Char} (h : isDigit c = true) : c ≠ '"' ∧ c ≠ '.' ∧ c ≠ '-' ∧ isTerm c = false :=
  (by decide : ∀ d ∈ digitChars, d ≠ '"' ∧ d ≠ '.' ∧ d ≠ '-' ∧ isTerm d = false) c (digit_mem h)

theorem numChar_props {c : Char} (h : isNumChar c = true) :
    isTerm c = false ∧ isWs c = false ∧ c ≠ '"' ∧ c ≠ '[' ∧ c ≠ '{' ∧ c ≠ 'n' ∧ c ≠ 't' ∧ c ≠ 'f' ∧ c ≠ ']' :=
  (by decide : ∀ d ∈ numChars,
      isTerm d = false ∧ isWs d = false ∧ d ≠ '"' ∧ d ≠ '[' ∧ d ≠ '{' ∧ d ≠ 'n' ∧ d ≠ 't' ∧ d ≠ 'f' ∧ d ≠ ']') c (numChar_mem h)

theorem allDigits_iff (ds : Str) : allDigits ds = true ↔ ∀ c ∈ ds, isDigit c = true := by
  induction ds with
  | nil => simp [allDigits]
  | cons c ds ih => simp [allDigits, ih]

theorem natText_digits (n : Nat) : allDigits (natText n) = true :=
  (allDigits_iff _).mpr fun _ hc => Nat.isDigit_of_mem_toDigits (by decide) (by decide) hc

theorem natText_ne_nil (n : Nat) : natText n ≠ [] := Nat.toDigits_ne_nil

/-! the run scanners of the model are core's `takeWhile` / `dropWhile` -/

theorem takeDigits_eq : ∀ l : Str, takeDigits l = (l.takeWhile isDigit, l.dropWhile isDigit)
  | [] => rfl
  | c :: cs => by
    rw [takeDigits, takeDigits_eq cs, List.takeWhile_cons, List.dropWhile_cons]
    split <;> rfl

theorem spanNum_eq : ∀ l : Str, spanNum l = (l.takeWhile isNumChar, l.dropWhile isNumChar)
  | [] => rfl
  | c :: cs => by
    rw [spanNum, spanNum_eq cs, List.takeWhile_cons, List.dropWhile_cons]
    split <;> rfl

theorem skipWs_eq : ∀ l : Str, skipWs l = l.dropWhile isWs
  | [] => rfl
  | c :: cs => by
    rw [skipWs, skipWs_eq cs, List.dropWhile_cons]

theorem td_append (cs : Str) : (takeDigits cs).1 ++ (takeDigits cs).2 = cs := by
  rw [takeDigits_eq]; exact List.takeWhile_append_dropWhile

theorem td_all (cs : Str) : allDigits (takeDigits cs).1 = true := by
  rw [takeDigits_eq]; exact (allDigits_iff _).mpr fun _ => mem_takeWhile

/-- a piece of number text without a point: sign, digits, exponent -/
def NumPiece (p : Str) : Prop := ∀ c ∈ p, isNumChar c = true ∧ c ≠ '.'

theorem NumPiece.plain {p : Str} (h : NumPiece p) : Plain p :=
  fun c hc => ⟨(numChar_props (h c hc).1).2.2.1, (h c hc).2⟩

theorem NumPiece.append {a b : Str} (ha : NumPiece a) (hb : NumPiece b) : NumPiece (a ++ b) :=
  List.forall_mem_append.mpr ⟨ha, hb⟩

theorem numPiece_digits {ds : Str} (h : allDigits ds = true) : NumPiece ds := fun c hc =>
  have hd := (allDigits_iff ds).mp h c hc
  ⟨by simp [isNumChar, hd], (isDigit_props hd).2.1⟩

theorem numPiece_sign (neg : Bool) : NumPiece (signText neg) := by
  cases neg <;> simp [signText, NumPiece]; decide

theorem reprExp_shape {x : Str} (h : reprExp x = true) :
    ∃ s ds, x = 'e' :: s :: ds ∧ (s = '+' ∨ s = '-') ∧ ds ≠ [] ∧ allDigits ds = true := by
  match x, h with
  | e :: s :: d1 :: d2 :: ds, h =>
    simp only [reprExp, Bool.and_eq_true, Bool.or_eq_true, beq_iff_eq] at h
    obtain ⟨⟨⟨⟨rfl, hs⟩, h1⟩, h2⟩, h3⟩ := h
    exact ⟨s, d1 :: d2 :: ds, rfl, hs, List.cons_ne_nil _ _, by simp [allDigits, h1, h2, h3]⟩

theorem numPiece_exp {x : Str} (h : reprExp x = true) : NumPiece x := by
  obtain ⟨s, ds, rfl, hs, -, hds⟩ := reprExp_shape h
  intro c hc
  rcases List.mem_cons.mp hc with rfl | hc
  · decide
  rcases List.mem_cons.mp hc with rfl | hc
  · rcases hs with rfl | rfl <;> decide
  · exact numPiece_digits hds c hc

theorem afterZeros_false (xs rest : Str) (h : allDigits xs = true)
    (hx : xs.any (· != '0') = true ∨ afterZeros rest = false) : afterZeros (xs ++ rest) = false := by
  induction xs with
  | nil => exact hx.resolve_left (by simp)
  | cons x xs ih =>
    simp only [allDigits, Bool.and_eq_true] at h
    by_cases hx0 : x = '0'
    · subst hx0
      simp only [List.cons_append, afterZeros, if_true]
      exact ih h.2 (hx.imp_left (by simpa using ·))
    · simp [afterZeros, hx0, (isDigit_props h.1).2.2.2]

theorem dotZeroMatch_false {cs : Str} (h : afterZeros cs = false) : dotZeroMatch cs = false := by
  cases cs with
  | nil => rfl
  | cons c cs =>
    simp only [afterZeros, dotZeroMatch] at h ⊢
    split <;> simp_all

theorem stripSign_shape (t : Str) : ∃ neg, t = signText neg ++ stripSign t := by
  cases t with
  | nil => exact ⟨false, rfl⟩
  | cons c r =>
    simp only [stripSign]
    split
    · subst_vars; exact ⟨true, rfl⟩
    · exact ⟨false, rfl⟩

/-- after the integer digits of a `repr` text: an exponent, or `.` and digits, of which one is not `0` unless an exponent follows -/
theorem reprTail_shape {one : Bool} {tl : Str} (h : reprTail one tl = true) :
    reprExp tl = true ∨ ∃ r, tl = '.' :: r ∧ (takeDigits r).1 ≠ [] ∧
      (((takeDigits r).2 = [] ∧ (takeDigits r).1.any (· != '0') = true) ∨ reprExp (takeDigits r).2 = true) := by
  cases tl with
  | nil => cases h
  | cons c r =>
    simp only [reprTail] at h
    split at h
    · subst_vars
      simp only [Bool.and_eq_true, Bool.not_eq_true', List.isEmpty_eq_false_iff] at h
      refine .inr ⟨r, rfl, h.1, ?_⟩
      have h2 := h.2
      split at h2
      · exact .inl ⟨List.isEmpty_iff.mp ‹_›, h2⟩
      · simp only [Bool.and_eq_true] at h2; exact .inr h2.2
    · split at h
      · simp only [Bool.and_eq_true] at h; exact .inl h.2
      · cases h

/-- A `repr` text that is not of the form `D+.0` is a sign and digits, followed by an exponent or by `.`, digits and
possibly an exponent; the clean-up pattern `\.0+(?=…)` does not match at its point. -/
theorem reprDec_shape (t : Str) (h : reprDec t = true) :
    ∃ hd tl, t = hd ++ tl ∧ NumPiece hd ∧
      (NumPiece tl ∨ ∃ fx, tl = '.' :: fx ∧ NumPiece fx ∧ ∀ rest, dotZeroMatch (fx ++ rest) = false) := by
  simp only [reprDec, Bool.and_eq_true] at h
  obtain ⟨neg, hsg⟩ := stripSign_shape t
  refine ⟨signText neg ++ (takeDigits (stripSign t)).1, (takeDigits (stripSign t)).2,
    by rw [List.append_assoc, td_append]; exact hsg, (numPiece_sign neg).append (numPiece_digits (td_all _)), ?_⟩
  rcases reprTail_shape h.2 with he | ⟨r, e, -, hx⟩
  · exact .inl (numPiece_exp he)
  · refine .inr ⟨r, e, ?_, fun rest => dotZeroMatch_false ?_⟩ <;> rw [← td_append r]
    · refine (numPiece_digits (td_all r)).append ?_
      rcases hx with ⟨e0, -⟩ | he
      · rw [e0]; exact fun _ hc => nomatch hc
      · exact numPiece_exp he
    · rw [List.append_assoc]
      refine afterZeros_false _ _ (td_all r) (hx.imp (·.2) fun he => ?_)
      obtain ⟨s, ds, e, -⟩ := reprExp_shape he
      rw [e]; rfl

theorem clean_dec (t rest : Str) (h : reprDec t = true) : clean .out (t ++ rest) = t ++ clean .out rest := by
  obtain ⟨hd, tl, rfl, hhd, htl | ⟨fx, rfl, hfx, hdz⟩⟩ := reprDec_shape t h
  · exact clean_plain _ (hhd.append htl).plain rest
  · rw [List.append_assoc, clean_plain hd hhd.plain, List.cons_append]
    simp only [clean, hdz]
    rw [clean_plain fx hfx.plain]
    simp

theorem intText_eq (k : Int) : ∃ neg n, intText k = signText neg ++ natText n ∧ k = if neg then -(n : Int) else n := by
  cases k with
  | ofNat n => exact ⟨false, n, rfl, rfl⟩
  | negSucc n => exact ⟨true, n + 1, rfl, rfl⟩

theorem numPiece_signed (neg : Bool) (n : Nat) : NumPiece (signText neg ++ natText n) :=
  (numPiece_sign neg).append (numPiece_digits (natText_digits n))

/-- stage 2 on one number token: `repr` text in, spec text out -/
theorem clean_num (n : JNum) (hn : ∀ t, n = .dec t → reprDec t = true) (rest : Str) (hf : Follow rest) :
    clean .out (numRepr n ++ rest) = numSpec n ++ clean .out rest := by
  cases n with
  | int k =>
    obtain ⟨neg, m, e, -⟩ := intText_eq k
    simp only [numRepr, numSpec, e]
    exact clean_plain _ (numPiece_signed neg m).plain rest
  | fint neg k =>
    rw [numRepr, numSpec, List.append_assoc, clean_plain _ (numPiece_signed neg k).plain]
    exact congrArg _ (clean_dot0 rest hf)
  | dec t => exact clean_dec t rest (hn t rfl)

/-! ### induction over values (`JValue` is a nested inductive) -/
section
variable {P : JValue → Prop}
  (hnull : P .null) (hbool : ∀ b, P (.bool b)) (hnum : ∀ n, P (.num n)) (hstr : ∀ s, P (.str s))
  (harr : ∀ xs, (∀ x ∈ xs, P x) → P (.arr xs)) (hobj : ∀ kvs : List (Str × JValue), (∀ p ∈ kvs, P p.2) → P (.obj kvs))
include hnull hbool hnum hstr harr hobj
set_option linter.unusedSectionVars false

mutual
theorem valInd : ∀ v, P v
  | .null => hnull
  | .bool b => hbool b
  | .num n => hnum n
  | .str s => hstr s
  | .arr xs => harr xs (valIndList xs)
  | .obj kvs => hobj kvs (valIndMembers kvs)
theorem valIndList : ∀ xs : List JValue, ∀ x ∈ xs, P x
  | [] => fun _ h => nomatch h
  | y :: ys => List.forall_mem_cons.mpr ⟨valInd y, valIndList ys⟩
theorem valIndMembers : ∀ kvs : List (Str × JValue), ∀ p ∈ kvs, P p.2
  | [] => fun _ h => nomatch h
  | (_, v) :: kvs => List.forall_mem_cons.mpr ⟨valInd v, valIndMembers kvs⟩
end
end

/-! ### the list functions of the mutual definitions are maps -/

theorem encList_eq (f : JNum → Str) (ind lvl : Nat) (xs : List JValue) :
    encList f ind lvl xs = xs.map (encWith f ind lvl) := by
  induction xs with
  | nil => simp [encList]
  | cons x xs ih => simp [encList, ih]

theorem encMembers_eq (f : JNum → Str) (ind lvl : Nat) (kvs : List (Str × JValue)) :
    encMembers f ind lvl kvs = kvs.map (fun p => (p.1, encWith f ind lvl p.2)) := by
  induction kvs with
  | nil => simp [encMembers]
  | cons p kvs ih => obtain ⟨k, v⟩ := p; simp [encMembers, ih]

theorem normList_eq (xs : List JValue) : normList xs = xs.map norm := by
  induction xs with
  | nil => simp [normList]
  | cons x xs ih => simp [normList, ih]

theorem normMembers_eq (kvs : List (Str × JValue)) : normMembers kvs = kvs.map (fun p => (p.1, norm p.2)) := by
  induction kvs with
  | nil => simp [normMembers]
  | cons p kvs ih => obtain ⟨k, v⟩ := p; simp [normMembers, ih]

theorem wfList_iff (xs : List JValue) : WFList xs ↔ ∀ x ∈ xs, WF x := by
  induction xs with
  | nil => simp [WFList]
  | cons x xs ih => simp [WFList, ih]

theorem wfMembers_iff (kvs : List (Str × JValue)) : WFMembers kvs ↔ ∀ p ∈ kvs, WF p.2 := by
  induction kvs with
  | nil => simp [WFMembers]
  | cons p kvs ih => obtain ⟨k, v⟩ := p; simp [WFMembers, ih]

theorem wf_num {n : JNum} : WF (.num n) ↔ ∀ t, n = .dec t → reprDec t = true := by
  cases n <;> simp [WF]

theorem wf_arr {xs : List JValue} : WF (.arr xs) ↔ ∀ x ∈ xs, WF x := by rw [WF, wfList_iff]

theorem wf_obj {kvs : List (Str × JValue)} : WF (.obj kvs) ↔ (kvs.map Prod.fst).Nodup ∧ ∀ p ∈ kvs, WF p.2 := by
  rw [WF, wfMembers_iff]

theorem insertKey_map {α β} (g : α → β) (p : Str × α) (l : List (Str × α)) :
    insertKey (p.1, g p.2) (l.map fun q => (q.1, g q.2)) = (insertKey p l).map fun q => (q.1, g q.2) := by
  induction l with
  | nil => simp [insertKey]
  | cons q qs ih =>
    simp only [List.map_cons, insertKey]
    split <;> simp [ih]

theorem sortKeys_map {α β} (g : α → β) (l : List (Str × α)) :
    sortKeys (l.map fun q => (q.1, g q.2)) = (sortKeys l).map fun q => (q.1, g q.2) := by
  induction l with
  | nil => simp [sortKeys]
  | cons p ps ih => simp only [List.map_cons, sortKeys, ih]; exact insertKey_map g p _

theorem insertKey_perm {α} (p : Str × α) (l : List (Str × α)) : (insertKey p l).Perm (p :: l) := by
  induction l with
  | nil => exact List.Perm.refl _
  | cons q qs ih =>
    simp only [insertKey]
    split
    · exact ((List.Perm.cons q ih).trans (List.Perm.swap p q qs))
    · exact List.Perm.refl _

theorem sortKeys_perm {α} (l : List (Str × α)) : (sortKeys l).Perm l := by
  induction l with
  | nil => exact List.Perm.refl _
  | cons p ps ih => exact (insertKey_perm p _).trans (List.Perm.cons p ih)

theorem mem_sortKeys {α} (x : Str × α) (l : List (Str × α)) : x ∈ sortKeys l ↔ x ∈ l := (sortKeys_perm l).mem_iff

theorem length_sortKeys {α} (l : List (Str × α)) : (sortKeys l).length = l.length := (sortKeys_perm l).length_eq

theorem norm_arr (xs : List JValue) : norm (.arr xs) = .arr (xs.map norm) := by rw [norm, normList_eq]

theorem norm_obj (kvs : List (Str × JValue)) : norm (.obj kvs) = .obj ((sortKeys kvs).map fun p => (p.1, norm p.2)) := by
  rw [norm, normMembers_eq, sortKeys_map]

/-- opening bracket, the items one level deeper separated by `,`, closing bracket on the level of the container -/
def block (ind lvl : Nat) (o c : Char) (items : List Str) : Str :=
  o :: nl ind (lvl + 1) ++ joinItems (',' :: nl ind (lvl + 1)) items ++ nl ind lvl ++ [c]

theorem encWith_arr (f : JNum → Str) (ind lvl : Nat) (x : JValue) (xs : List JValue) :
    encWith f ind lvl (.arr (x :: xs)) = block ind lvl '[' ']' ((x :: xs).map (encWith f ind (lvl + 1))) := by
  rw [encWith, encList_eq]; rfl

theorem encWith_obj (f : JNum → Str) (ind lvl : Nat) (p : Str × JValue) (ps : List (Str × JValue)) :
    encWith f ind lvl (.obj (p :: ps)) =
      block ind lvl '{' '}' ((sortKeys (p :: ps)).map fun q => member ind (q.1, encWith f ind (lvl + 1) q.2)) := by
  rw [encWith, encMembers_eq, sortKeys_map, List.map_map]; rfl

/-! ### stage 2 over the layout of stage 1 -/

theorem nl_chars (ind lvl : Nat) : ∀ c ∈ nl ind lvl, c = '\n' ∨ c = ' ' := by
  unfold nl; split
  · simp
  · simp only [List.mem_cons, List.mem_replicate]
    exact fun c hc => hc.imp_right (·.2)

theorem plain_nl (ind lvl : Nat) : Plain (nl ind lvl) :=
  fun c hc => by rcases nl_chars ind lvl c hc with rfl | rfl <;> decide

theorem plain_colon (ind : Nat) : Plain (colon ind) := by
  unfold colon; split <;> (intro c hc; simp at hc; rcases hc with rfl | rfl <;> decide)

theorem follow_nl (ind lvl : Nat) (c : Char) (hc : isTerm c = true) (r : Str) : Follow (nl ind lvl ++ c :: r) := by
  unfold nl; split
  · exact hc
  · show isTerm '\n' = true; decide

/-- `SegF m s`: the scanner turns the piece `m` into `s` whenever a terminator (or nothing) follows -/
def SegF (m s : Str) : Prop := ∀ rest, Follow rest → clean .out (m ++ rest) = s ++ clean .out rest

theorem SegF.clean_eq {m s : Str} (h : SegF m s) : clean .out m = s := by simpa [clean] using h [] trivial

theorem segF_plain {p : Str} (hp : Plain p) : SegF p p := fun rest _ => clean_plain p hp rest

theorem clean_join {α} (fm fs : α → Str) (sep : Str) (hsep : Plain sep) (hsepF : ∀ r, Follow (sep ++ r)) :
    ∀ xs : List α, (∀ x ∈ xs, SegF (fm x) (fs x)) → SegF (joinItems sep (xs.map fm)) (joinItems sep (xs.map fs))
  | [], _ => fun rest _ => by simp [joinItems]
  | [x], h => fun rest hr => by simpa [joinItems] using h x (by simp) rest hr
  | x :: y :: ys, h => fun rest hr => by
    have ih := clean_join fm fs sep hsep hsepF (y :: ys) (fun z hz => h z (by simp [hz])) rest hr
    simp only [List.map_cons, joinItems, List.append_assoc] at ih ⊢
    rw [h x (by simp) _ (hsepF _), clean_plain sep hsep, ih]

theorem clean_cons {c : Char} (h1 : c ≠ '"') (h2 : c ≠ '.') (rest : Str) : clean .out (c :: rest) = c :: clean .out rest := by
  simp [clean, h1, h2]

theorem segF_block (ind lvl : Nat) {o c : Char} (ho : o ≠ '"' ∧ o ≠ '.') (hc : isTerm c = true) {α} (fm fs : α → Str)
    (xs : List α) (h : ∀ x ∈ xs, SegF (fm x) (fs x)) :
    SegF (block ind lvl o c (xs.map fm)) (block ind lvl o c (xs.map fs)) := by
  intro rest _
  have hsep : Plain (',' :: nl ind (lvl + 1)) := Plain.append (a := [',']) (by simp [Plain]) (plain_nl _ _)
  have hj := clean_join fm fs _ hsep (fun _ => (by decide : isTerm ',' = true)) xs h
  simp only [block, List.cons_append, List.append_assoc]
  rw [clean_cons ho.1 ho.2, clean_plain _ (plain_nl _ _), hj _ (follow_nl ind lvl c hc _), clean_plain _ (plain_nl _ _),
    clean_cons (isTerm_ne hc).2.1 (isTerm_ne hc).2.2]
  rfl

/-- **stage 2 ∘ stage 1 = spec**, in any context that starts with a terminator -/
theorem clean_encWith (ind : Nat) : ∀ v, WF v → ∀ lvl, SegF (encWith numRepr ind lvl v) (encWith numSpec ind lvl v) := by
  intro v
  induction v using valInd with
  | hnull => intro _ lvl; exact segF_plain (by simp [Plain, encWith])
  | hbool b => intro _ lvl; cases b <;> exact segF_plain (by simp [Plain, encWith])
  | hnum n => intro h lvl; exact clean_num n (wf_num.mp h)
  | hstr s => intro _ lvl rest _; exact clean_encStr s rest
  | harr xs ih =>
    intro h lvl
    cases xs with
    | nil => exact segF_plain (by simp [Plain, encWith])
    | cons x xs =>
      rw [encWith_arr, encWith_arr]
      exact segF_block ind lvl (by decide) (by decide) _ _ _ fun y hy => ih y hy (wf_arr.mp h y hy) (lvl + 1)
  | hobj kvs ih =>
    intro h lvl
    cases kvs with
    | nil => exact segF_plain (by simp [Plain, encWith])
    | cons p ps =>
      rw [encWith_obj, encWith_obj]
      refine segF_block ind lvl (by decide) (by decide) _ _ _ fun q hq rest hr => ?_
      have hq' := (mem_sortKeys q _).mp hq
      simp only [member, List.append_assoc]
      rw [clean_encStr, clean_plain _ (plain_colon ind), ih q hq' ((wf_obj.mp h).2 q hq') (lvl + 1) rest hr]

/-! ### numbers: text → token → value -/

theorem takeDigits_digits {ds : Str} (h : allDigits ds = true) : takeDigits ds = (ds, []) := by
  have hd := (allDigits_iff ds).mp h
  have h1 := takeWhile_append_stop hd (stops_nil isDigit)
  have h2 := dropWhile_append_stop hd (stops_nil isDigit)
  rw [List.append_nil] at h1 h2
  rw [takeDigits_eq, h1, h2]

/-- no leading zero -/
theorem natText_head {n : Nat} (hn : n ≠ 0) : ∃ c r, natText n = c :: r ∧ c ≠ '0' := by
  induction n using Nat.strongRecOn with
  | _ n ih =>
    unfold natText
    rw [Nat.toDigits_eq_if (by decide)]
    split
    · have key : ∀ m < 10, m ≠ 0 → Nat.digitChar m ≠ '0' := by decide
      exact ⟨_, [], rfl, key n ‹_› hn⟩
    · obtain ⟨c, r, e, h0⟩ := ih (n / 10) (by omega) (by omega)
      exact ⟨c, r ++ [Nat.digitChar (n % 10)], by rw [← natText, e]; rfl, h0⟩

theorem validInt_natText (n : Nat) : validInt (natText n) = true := by
  by_cases hn : n = 0
  · subst hn; rfl
  · obtain ⟨c, r, e, h0⟩ := natText_head hn
    have hall := natText_digits n
    rw [e] at hall ⊢
    cases r with
    | nil => simpa [validInt, allDigits] using hall
    | cons d ds =>
      simp only [allDigits, Bool.and_eq_true] at hall
      simp [validInt, allDigits, hall, h0]

theorem parseNum_signed (neg : Bool) (n : Nat) :
    parseNum (signText neg ++ natText n) = some (.int (if neg then -(n : Int) else n)) := by
  have ht := takeDigits_digits (natText_digits n)
  have hv : Nat.ofDigitChars 10 (natText n) 0 = n := Nat.ofDigitChars_ten_toDigits
  cases neg with
  | true => simp [parseNum, signText, stripSign, ht, validInt_natText, hv]
  | false =>
    obtain ⟨c, r, e⟩ := List.exists_cons_of_ne_nil (natText_ne_nil n)
    have hc : c ≠ '-' := (isDigit_props ((allDigits_iff _).mp (natText_digits n) c (by simp [e]))).2.2.1
    have hs : stripSign (natText n) = natText n := by rw [e]; simp [stripSign, hc]
    have hh : (natText n).head? ≠ some '-' := by rw [e]; simpa using hc
    simp [parseNum, signText, hs, hh, ht, validInt_natText, hv]

theorem reprExp_jsonExp {x : Str} (h : reprExp x = true) : jsonExp x = true := by
  obtain ⟨s, ds, rfl, hs, hne, hds⟩ := reprExp_shape h
  cases ds with
  | nil => exact absurd rfl hne
  | cons d ds => rcases hs with rfl | rfl <;> simp [jsonExp, hds]

theorem reprTail_jsonTail (one : Bool) (tl : Str) (h : reprTail one tl = true) : jsonTail tl = true ∧ tl ≠ [] := by
  rcases reprTail_shape h with he | ⟨r, rfl, hne, hx⟩
  · obtain ⟨s, ds, rfl, -⟩ := reprExp_shape he
    exact ⟨reprExp_jsonExp he, List.cons_ne_nil _ _⟩
  · refine ⟨?_, List.cons_ne_nil _ _⟩
    rcases hx with ⟨e0, -⟩ | he
    · simp [jsonTail, hne, e0]
    · simp [jsonTail, hne, reprExp_jsonExp he]

theorem parseNum_dec (t : Str) (h : reprDec t = true) : parseNum t = some (.dec t) := by
  simp only [reprDec, Bool.and_eq_true] at h
  obtain ⟨hj, hne⟩ := reprTail_jsonTail _ _ h.2
  have : (takeDigits (stripSign t)).2.isEmpty = false := by
    cases hh : (takeDigits (stripSign t)).2 with
    | nil => exact absurd hh hne
    | cons _ _ => rfl
  simp [parseNum, h.1, this, hj]

theorem parseNum_numSpec (n : JNum) (hn : ∀ t, n = .dec t → reprDec t = true) : parseNum (numSpec n) = some (normNum n) := by
  cases n with
  | int k =>
    obtain ⟨neg, m, e, rfl⟩ := intText_eq k
    rw [numSpec, e, parseNum_signed]; rfl
  | fint neg k => exact parseNum_signed neg k
  | dec t => exact parseNum_dec t (hn t rfl)

theorem numSpec_chars (n : JNum) (hn : ∀ t, n = .dec t → reprDec t = true) : ∀ c ∈ numSpec n, isNumChar c = true := by
  cases n with
  | int k =>
    obtain ⟨neg, m, e, -⟩ := intText_eq k
    rw [numSpec, e]; exact fun c hc => (numPiece_signed neg m c hc).1
  | fint neg k => exact fun c hc => (numPiece_signed neg k c hc).1
  | dec t =>
    obtain ⟨hd, tl, rfl, hhd, htl | ⟨fx, rfl, hfx, -⟩⟩ := reprDec_shape t (hn t rfl)
    · exact fun c hc => (hhd.append htl c hc).1
    · intro c hc
      rcases List.mem_append.mp hc with hc | hc
      · exact (hhd c hc).1
      rcases List.mem_cons.mp hc with rfl | hc
      · decide
      · exact (hfx c hc).1

theorem numSpec_ne_nil (n : JNum) (hn : ∀ t, n = .dec t → reprDec t = true) : numSpec n ≠ [] := by
  intro h
  have := parseNum_numSpec n hn
  rw [h] at this; cases this

theorem Follow.stops {rest : Str} (hr : Follow rest) : Stops isNumChar rest := by
  cases rest with
  | nil => exact stops_nil _
  | cons c r =>
    refine stops_cons (Bool.eq_false_iff.mpr fun hh => ?_)
    have := (numChar_props hh).1; rw [show isTerm c = true from hr] at this; cases this

theorem spanNum_append (t rest : Str) (ht : ∀ c ∈ t, isNumChar c = true) (hr : Follow rest) :
    spanNum (t ++ rest) = (t, rest) := by
  rw [spanNum_eq, takeWhile_append_stop ht hr.stops, dropWhile_append_stop ht hr.stops]

/-! ### the decoder on the layout of the encoder -/

theorem skipWs_cons {c : Char} (h : isWs c = false) (r : Str) : skipWs (c :: r) = c :: r := by simp [skipWs, h]

theorem skipWs_idem (cs : Str) : skipWs (skipWs cs) = skipWs cs := by
  simp only [skipWs_eq]; exact (stops_dropWhile isWs cs).dropWhile

theorem skipWs_ws (w t : Str) (hw : ∀ c ∈ w, isWs c = true) : skipWs (w ++ t) = skipWs t := by
  rw [skipWs_eq, skipWs_eq, List.dropWhile_append_of_pos hw]

theorem ws_nl (ind lvl : Nat) : ∀ c ∈ nl ind lvl, isWs c = true :=
  fun c hc => by rcases nl_chars ind lvl c hc with rfl | rfl <;> decide

theorem skipWs_close (ind lvl : Nat) {c : Char} (hc : isWs c = false) (r : Str) : skipWs (nl ind lvl ++ c :: r) = c :: r := by
  rw [skipWs_ws _ _ (ws_nl ind lvl), skipWs_cons hc]

theorem parseVal_skip (f : Nat) (cs : Str) : parseVal f (skipWs cs) = parseVal f cs := by
  cases f <;> simp [parseVal, skipWs_idem]

theorem parseVal_ws (f : Nat) (w t : Str) (hw : ∀ c ∈ w, isWs c = true) : parseVal f (w ++ t) = parseVal f t := by
  rw [← parseVal_skip, skipWs_ws w t hw, parseVal_skip]

theorem parseElems_skip (f : Nat) (cs : Str) : parseElems f (skipWs cs) = parseElems f cs := by
  cases f <;> simp [parseElems, parseVal_skip]

theorem parseMembers_skip (f : Nat) (cs : Str) : parseMembers f (skipWs cs) = parseMembers f cs := by
  cases f <;> simp [parseMembers, skipWs_idem]

theorem parseVal_atom (f : Nat) {c : Char} (r : Str) (hw : isWs c = false) (h1 : c ≠ '[') (h2 : c ≠ '{') :
    parseVal f (c :: r) = parseAtom (c :: r) := by
  cases f <;> simp [parseVal, skipWs_cons hw, h1, h2]

theorem parseVal_arr (f : Nat) (w : Str) (hw : ∀ c ∈ w, isWs c = true) {t : Str} {c : Char} {r : Str} (ht : t = c :: r)
    (hc : isWs c = false) (hb : c ≠ ']') :
    parseVal (f + 1) ('[' :: (w ++ t)) = (parseElems f t).map fun p => (.arr p.1, p.2) := by
  subst ht
  rw [parseVal, skipWs_cons (by decide)]
  simp only [if_true, skipWs_ws _ _ hw, skipWs_cons hc, hb, if_false]
  cases parseElems f (c :: r) <;> rfl

theorem parseVal_obj (f : Nat) (w : Str) (hw : ∀ c ∈ w, isWs c = true) {t : Str} {c : Char} {r : Str} (ht : t = c :: r)
    (hc : isWs c = false) (hb : c ≠ '}') :
    parseVal (f + 1) ('{' :: (w ++ t)) = (parseMembers f t).map fun p => (.obj p.1, p.2) := by
  subst ht
  rw [parseVal, skipWs_cons (by decide)]
  simp only [show ¬ ('{' = '[') by decide, if_false, if_true, skipWs_ws _ _ hw, skipWs_cons hc, hb]
  cases parseMembers f (c :: r) <;> rfl

/-- `ParseOK e v`: the text `e` parses to `v` with enough fuel in any context that starts with a terminator -/
def ParseOK (e : Str) (v : JValue) : Prop :=
  ∀ f rest, e.length ≤ f → Follow rest → parseVal f (e ++ rest) = some (v, rest)

theorem decode_of_parseOK {e : Str} {v : JValue} (h : ParseOK e v) : decode e = some v := by
  have := h (e.length + 1) [] (Nat.le_succ _) trivial
  rw [List.append_nil] at this
  simp [decode, this, skipWs]

/-- `P` (`parseElems`, `parseMembers`) reads the item `e` as `v` and goes on with `,` and more items, or stops at the closing
bracket -/
def ItemOK {β} (P : Nat → Str → Option (List β × Str)) (close : Char) (e : Str) (v : β) : Prop :=
  ∀ f rest, e.length ≤ f → Follow rest →
    (∀ r vs rest', skipWs rest = ',' :: r → P f r = some (vs, rest') → P (f + 1) (e ++ rest) = some (v :: vs, rest')) ∧
    (∀ r, skipWs rest = close :: r → P (f + 1) (e ++ rest) = some ([v], r))

theorem parse_join {α β} (P : Nat → Str → Option (List β × Str)) (hskip : ∀ f cs, P f (skipWs cs) = P f cs) {close : Char}
    (ht : isTerm close = true) (hw : isWs close = false) (it : α → Str) (val : α → β) (ind lvl lvl' : Nat) (rest : Str) :
    ∀ xs : List α, xs ≠ [] → (∀ x ∈ xs, ItemOK P close (it x) (val x)) →
      ∀ f, (joinItems (',' :: nl ind lvl) (xs.map it)).length + 1 ≤ f →
        P f (joinItems (',' :: nl ind lvl) (xs.map it) ++ (nl ind lvl' ++ close :: rest)) = some (xs.map val, rest)
  | [], h, _, _, _ => absurd rfl h
  | [x], _, h, f, hf => by
    cases f with
    | zero => simp at hf
    | succ f =>
      simp only [List.map_cons, List.map_nil, joinItems] at hf ⊢
      exact (h x (by simp) f _ (by omega) (follow_nl ind lvl' close ht rest)).2 _ (skipWs_close ind lvl' hw _)
  | x :: y :: ys, _, h, f, hf => by
    cases f with
    | zero => simp at hf
    | succ f =>
      have ih := parse_join P hskip ht hw it val ind lvl lvl' rest (y :: ys) (by simp) (fun z hz => h z (by simp [hz])) f
      simp only [List.map_cons, joinItems, List.length_append, List.length_cons, List.append_assoc, List.cons_append] at hf ih ⊢
      refine (h x (by simp) f _ (by omega) (by show isTerm ',' = true; decide)).1 _ _ _ (skipWs_cons (by decide) _) ?_
      rw [← hskip, skipWs_ws _ _ (ws_nl ind lvl), hskip, ih (by omega)]

theorem parseElems_item {e : Str} {v : JValue} (hv : ParseOK e v) : ItemOK parseElems ']' e v := by
  intro f rest hf hr
  refine ⟨fun r vs rest' h1 h2 => ?_, fun r h1 => ?_⟩ <;> (rw [parseElems, hv f rest hf hr]; simp [*])

theorem member_head (ind : Nat) (k e : Str) : member ind (k, e) = '"' :: (escBody k ++ '"' :: (colon ind ++ e)) := by
  simp [member, encStr]

theorem parseMembers_member (ind : Nat) (k : Str) {e : Str} {v : JValue} (hv : ParseOK e v) :
    ItemOK parseMembers '}' (member ind (k, e)) (k, v) := by
  intro f rest hf hr
  obtain ⟨w, hw, hc⟩ : ∃ w, (∀ c ∈ w, isWs c = true) ∧ colon ind = ':' :: w := by
    unfold colon; split
    · exact ⟨[], nofun, rfl⟩
    · exact ⟨[' '], by simp; decide, rfl⟩
  have hl : e.length ≤ f := by rw [member_head] at hf; simp at hf; omega
  refine ⟨fun r vs rest' h1 h2 => ?_, fun r h1 => ?_⟩ <;>
  · rw [member_head, hc]
    simp only [List.cons_append, List.append_assoc]
    rw [parseMembers, skipWs_cons (c := '"') (by decide)]
    simp only [if_true, unesc_body, skipWs_cons (c := ':') (by decide)]
    rw [parseVal_ws f w _ hw, hv f rest hl hr]
    simp [*]

theorem joinItems_head (sep a : Str) (l : List Str) : ∃ t, joinItems sep (a :: l) = a ++ t := by
  cases l with
  | nil => exact ⟨[], by simp [joinItems]⟩
  | cons b l => exact ⟨sep ++ joinItems sep (b :: l), by simp [joinItems]⟩

/-- A container with at least one item: after the opening bracket (`hopen` is `parseVal_arr`, `parseVal_obj`) `P` reads the
items, the first of which starts with neither white space nor the closing bracket. -/
theorem parse_block {α β} (P : Nat → Str → Option (List β × Str)) (hskip : ∀ f cs, P f (skipWs cs) = P f cs) {o close : Char}
    (mk : List β → JValue)
    (hopen : ∀ f w, (∀ c ∈ w, isWs c = true) → ∀ {t c r}, t = c :: r → isWs c = false → c ≠ close →
      parseVal (f + 1) (o :: (w ++ t)) = (P f t).map fun p => (mk p.1, p.2))
    (ht : isTerm close = true) (hw : isWs close = false) (it : α → Str) (val : α → β) (ind lvl : Nat) (x : α) (xs : List α)
    (hit : ∀ y ∈ x :: xs, ItemOK P close (it y) (val y)) {c : Char} {r : Str} (hx : it x = c :: r) (hc : isWs c = false)
    (hb : c ≠ close) :
    ParseOK (block ind lvl o close ((x :: xs).map it)) (mk ((x :: xs).map val)) := by
  intro f rest hf _
  obtain ⟨t, et⟩ := joinItems_head (',' :: nl ind (lvl + 1)) (it x) (xs.map it)
  cases f with
  | zero => simp [block] at hf
  | succ f =>
    simp only [block, List.cons_append, List.append_assoc, List.nil_append, List.length_cons, List.length_append] at hf ⊢
    rw [hopen f _ (ws_nl ind (lvl + 1)) (by rw [List.map_cons, et, hx]; rfl) hc hb,
      parse_join P hskip ht hw it val ind (lvl + 1) lvl rest (x :: xs) (List.cons_ne_nil _ _) hit f (by omega)]
    rfl

theorem enc_head (ind lvl : Nat) (v : JValue) (h : WF v) :
    ∃ c r, encWith numSpec ind lvl v = c :: r ∧ isWs c = false ∧ c ≠ ']' := by
  cases v with
  | num n =>
    obtain ⟨c, r, e⟩ := List.exists_cons_of_ne_nil (numSpec_ne_nil n (wf_num.mp h))
    have hc := numChar_props (numSpec_chars n (wf_num.mp h) c (by simp [e]))
    exact ⟨c, r, e, hc.2.1, hc.2.2.2.2.2.2.2.2⟩
  | bool b => cases b <;> exact ⟨_, _, rfl, by decide, by decide⟩
  | arr xs => cases xs <;> exact ⟨_, _, rfl, by decide, by decide⟩
  | obj kvs => cases kvs <;> exact ⟨_, _, rfl, by decide, by decide⟩
  | _ => exact ⟨_, _, rfl, by decide, by decide⟩

/-- **decode ∘ spec-encode = norm**, in any context that starts with a terminator -/
theorem parse_encWith (ind : Nat) : ∀ v, WF v → ∀ lvl, ParseOK (encWith numSpec ind lvl v) (norm v) := by
  intro v
  induction v using valInd with
  | hnull => intro _ lvl f rest _ _; rw [encWith, List.cons_append, parseVal_atom f _ (by decide) (by decide) (by decide)]; rfl
  | hbool b =>
    intro _ lvl f rest _ _
    cases b <;> (rw [encWith, List.cons_append, parseVal_atom f _ (by decide) (by decide) (by decide)]; rfl)
  | hnum n =>
    intro h lvl f rest _ hr
    have hn := wf_num.mp h
    obtain ⟨c, r, e⟩ := List.exists_cons_of_ne_nil (numSpec_ne_nil n hn)
    obtain ⟨-, hws, hq, hb1, hb2, h1, h2, h3, -⟩ := numChar_props (numSpec_chars n hn c (by simp [e]))
    have hsp := spanNum_append _ rest (numSpec_chars n hn) hr
    rw [encWith]
    rw [e, List.cons_append] at hsp ⊢
    rw [parseVal_atom f _ hws hb1 hb2]
    simp only [parseAtom, hq, h1, h2, h3, if_false, hsp]
    rw [← e, parseNum_numSpec n hn]; rfl
  | hstr s =>
    intro _ lvl f rest _ _
    simp only [encWith, encStr, List.cons_append, List.append_assoc, List.nil_append]
    rw [parseVal_atom f _ (by decide) (by decide) (by decide)]
    simp [parseAtom, unesc_body, norm]
  | harr xs ih =>
    intro h lvl
    cases xs with
    | nil => intro f rest hf _; cases f <;> simp [encWith, parseVal, skipWs, isWs, norm, normList] at hf ⊢
    | cons x xs =>
      have hw := wf_arr.mp h
      obtain ⟨c, r, ec, hcw, hcb⟩ := enc_head ind (lvl + 1) x (hw x (by simp))
      rw [encWith_arr, norm_arr]
      exact parse_block parseElems parseElems_skip .arr parseVal_arr (by decide) (by decide) _ norm ind lvl x xs
        (fun y hy => parseElems_item (ih y hy (hw y hy) (lvl + 1))) ec hcw hcb
  | hobj kvs ih =>
    intro h lvl
    cases kvs with
    | nil => intro f rest hf _; cases f <;> simp [encWith, parseVal, skipWs, isWs, norm, normMembers, sortKeys] at hf ⊢
    | cons p ps =>
      have hw := (wf_obj.mp h).2
      obtain ⟨q, qs, es⟩ := List.exists_cons_of_ne_nil (l := sortKeys (p :: ps))
        (by intro hn; have := length_sortKeys (p :: ps); rw [hn] at this; cases this)
      rw [encWith_obj, norm_obj, es]
      refine parse_block (o := '{') (close := '}') parseMembers parseMembers_skip JValue.obj parseVal_obj (by decide) (by decide)
        (fun q : Str × JValue => member ind (q.1, encWith numSpec ind (lvl + 1) q.2)) (fun q => (q.1, norm q.2)) ind lvl q qs
        (fun y hy => ?_) (member_head ind _ _) (by decide) (by decide)
      have hy' := (mem_sortKeys y _).mp (es ▸ hy)
      exact parseMembers_member ind y.1 (ih y hy' (hw y hy') (lvl + 1))

theorem insertKey_sorted {α} (p : Str × α) (l : List (Str × α)) (h : l.Pairwise (fun a b => a.1 ≤ b.1)) :
    (insertKey p l).Pairwise (fun a b => a.1 ≤ b.1) := by
  induction l with
  | nil => simp [insertKey]
  | cons q qs ih =>
    rw [List.pairwise_cons] at h
    simp only [insertKey]
    split
    · rename_i hlt
      refine List.pairwise_cons.mpr ⟨fun x hx => ?_, ih h.2⟩
      rcases List.mem_cons.mp ((insertKey_perm p qs).mem_iff.mp hx) with rfl | hx
      · exact List.le_of_lt hlt
      · exact h.1 x hx
    · rename_i hnlt
      have hpq : p.1 ≤ q.1 := List.not_lt.mp hnlt
      refine List.pairwise_cons.mpr ⟨fun x hx => ?_, List.pairwise_cons.mpr h⟩
      rcases List.mem_cons.mp hx with rfl | hx
      · exact hpq
      · exact List.le_trans hpq (h.1 x hx)

theorem sortKeys_sorted {α} (l : List (Str × α)) : (sortKeys l).Pairwise (fun a b => a.1 ≤ b.1) := by
  induction l with
  | nil => simp [sortKeys]
  | cons p ps ih => exact insertKey_sorted p _ ih

theorem keysSortedList_iff (xs : List JValue) : KeysSortedList xs ↔ ∀ x ∈ xs, KeysSorted x := by
  induction xs with
  | nil => simp [KeysSortedList]
  | cons x xs ih => simp [KeysSortedList, ih]

theorem keysSortedMembers_iff (kvs : List (Str × JValue)) : KeysSortedMembers kvs ↔ ∀ p ∈ kvs, KeysSorted p.2 := by
  induction kvs with
  | nil => simp [KeysSortedMembers]
  | cons p kvs ih => obtain ⟨k, v⟩ := p; simp [KeysSortedMembers, ih]

theorem keysSorted_norm (v : JValue) : KeysSorted (norm v) := by
  induction v using valInd with
  | harr xs ih =>
    rw [norm_arr, KeysSorted, keysSortedList_iff]
    exact List.forall_mem_map.mpr ih
  | hobj kvs ih =>
    rw [norm_obj, KeysSorted, keysSortedMembers_iff, ← sortKeys_map]
    exact ⟨sortKeys_sorted _, fun p hp => by
      obtain ⟨q, hq, rfl⟩ := List.mem_map.mp ((mem_sortKeys p _).mp hp)
      exact ih q hq⟩
  | _ => simp [norm, KeysSorted]

theorem sortKeys_of_sorted {α} (l : List (Str × α)) (h : l.Pairwise (fun a b => a.1 ≤ b.1)) : sortKeys l = l := by
  induction l with
  | nil => rfl
  | cons p ps ih =>
    rw [List.pairwise_cons] at h
    rw [sortKeys, ih h.2]
    cases ps with
    | nil => rfl
    | cons q qs =>
      have : ¬ q.1 < p.1 := List.not_lt.mpr (h.1 q (by simp))
      simp [insertKey, this]

theorem norm_norm (v : JValue) : norm (norm v) = norm v := by
  induction v using valInd with
  | hnum n => cases n <;> rfl
  | harr xs ih =>
    rw [norm_arr, norm_arr, List.map_map]
    exact congrArg _ (List.map_congr_left ih)
  | hobj kvs ih =>
    rw [norm_obj, norm_obj, ← sortKeys_map norm kvs, sortKeys_of_sorted _ (sortKeys_sorted _), sortKeys_map, List.map_map]
    exact congrArg _ (List.map_congr_left fun p hp => by simp [ih p ((mem_sortKeys p _).mp hp)])
  | _ => rfl

/-- the canonical form of a well-formed value is well-formed: in particular the decoded object keys are unique, so the
member list *is* a dictionary -/
theorem wf_norm (v : JValue) : WF v → WF (norm v) := by
  induction v using valInd with
  | hnum n => intro h; cases n <;> simp_all [norm, WF, normNum]
  | harr xs ih =>
    intro h
    rw [norm_arr, wf_arr]
    exact List.forall_mem_map.mpr fun x hx => ih x hx (wf_arr.mp h x hx)
  | hobj kvs ih =>
    intro h
    obtain ⟨hk, hw⟩ := wf_obj.mp h
    rw [norm_obj, wf_obj, ← sortKeys_map]
    refine ⟨?_, fun p hp => ?_⟩
    · rw [((sortKeys_perm _).map Prod.fst).nodup_iff]
      simpa [List.map_map, Function.comp_def] using hk
    · obtain ⟨q, hq, rfl⟩ := List.mem_map.mp ((mem_sortKeys p _).mp hp)
      exact ih q hq (hw q hq)
  | _ => intro _; simp [norm, WF]

end C14
