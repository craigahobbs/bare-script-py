import BareModel.Url

/-!
# C17 — lemmas about the URL resolver: the Python-shaped pieces equal the property-shaped ones
-/

namespace C17
open Url

theorem rfindSlash_ge (s : Str) : -1 ≤ rfindSlash s := by
  induction s with
  | nil => simp [rfindSlash]
  | cons c cs ih =>
    simp only [rfindSlash]; split
    · omega
    · split <;> omega

theorem rfindSlash_nonneg_iff (s : Str) : 0 ≤ rfindSlash s ↔ '/' ∈ s := by
  induction s with
  | nil => simp [rfindSlash]
  | cons c cs ih =>
    simp only [rfindSlash, List.mem_cons]
    by_cases h : 0 ≤ rfindSlash cs
    · have := ih.mp h
      simp [h, this]; omega
    · have hn : '/' ∉ cs := fun hm => h (ih.mpr hm)
      by_cases hc : c = '/'
      · simp [h, hc]
      · simp [h, hc, hn]
        intro h'; exact hc h'.symm

theorem dirPart_no_slash {s : Str} (h : '/' ∉ s) : dirPart s = [] := by
  cases s with
  | nil => rfl
  | cons c cs =>
    simp only [List.mem_cons, not_or] at h
    have h1 : ¬ c = '/' := fun e => h.1 e.symm
    simp [dirPart, h.2, h1]

/-- `s[:s.rfind('/') + 1]` is the part of `s` up to and including its last slash -/
theorem take_rfind (s : Str) : s.take (rfindSlash s + 1).toNat = dirPart s := by
  induction s with
  | nil => simp [rfindSlash, dirPart]
  | cons c cs ih =>
    simp only [rfindSlash, dirPart]
    by_cases h : 0 ≤ rfindSlash cs
    · have hm := (rfindSlash_nonneg_iff cs).mp h
      simp only [h, if_true, hm]
      have : (rfindSlash cs + 1 + 1).toNat = (rfindSlash cs + 1).toNat + 1 := by omega
      rw [this, List.take_succ_cons, ih]
    · have hn : '/' ∉ cs := fun hm => h ((rfindSlash_nonneg_iff cs).mpr hm)
      by_cases hc : c = '/'
      · simp [h, hc, hn]
      · simp [h, hc, hn]

theorem dirPart_append_slash (d name : Str) (h : '/' ∉ name) : dirPart (d ++ '/' :: name) = d ++ ['/'] := by
  induction d with
  | nil => simp [dirPart, h]
  | cons c cs ih => simp [dirPart, ih]

theorem ne_replicate_iff (l : Str) : (l != List.replicate l.length '/') = !l.all (· == '/') := by
  by_cases h : l = List.replicate l.length '/'
  · have : l.all (· == '/') = true := by
      rw [List.all_eq_true]; intro x hx; rw [h] at hx
      simp [(List.mem_replicate.mp hx).2]
    simp [this]; exact h
  · have : l.all (· == '/') = false := by
      rw [Bool.eq_false_iff]; intro ha
      apply h
      rw [List.eq_replicate_iff]
      refine ⟨rfl, ?_⟩
      intro b hb; rw [List.all_eq_true] at ha; simpa using ha b hb
    simp [this]; exact h

theorem dirname_eq (p : Str) : dirname p = dirSpec p := by
  unfold dirname dirSpec
  simp only [take_rfind, ne_replicate_iff, rstripSlash, dropTrailingSlashes]
  cases hd : dirPart p with
  | nil => simp
  | cons c cs =>
    by_cases ha : (c :: cs).all (· == '/') = true
    · simp [ha]
    · simp only [Bool.not_eq_true] at ha; simp [ha]

theorem splitSlash_ne_nil (s : Str) : splitSlash s ≠ [] := by
  induction s with
  | nil => simp [splitSlash]
  | cons c cs ih =>
    simp only [splitSlash]
    split
    · simp
    · split <;> simp

theorem joinSlash_cons_cons (a b : Str) (r : List Str) : joinSlash (a :: b :: r) = a ++ '/' :: joinSlash (b :: r) := rfl

theorem join_split (s : Str) : joinSlash (splitSlash s) = s := by
  induction s with
  | nil => rfl
  | cons c cs ih =>
    simp only [splitSlash]
    by_cases hc : c = '/'
    · simp only [hc, if_true]
      cases hs : splitSlash cs with
      | nil => exact absurd hs (splitSlash_ne_nil cs)
      | cons a r => rw [joinSlash_cons_cons, ← hs, ih]; rfl
    · simp only [hc, if_false]
      cases hs : splitSlash cs with
      | nil => exact absurd hs (splitSlash_ne_nil cs)
      | cons a r =>
        rw [hs] at ih
        cases r with
        | nil => simp only [joinSlash] at ih ⊢; rw [ih]
        | cons b r' => rw [joinSlash_cons_cons] at ih ⊢; rw [← ih]; rfl

theorem splitSlash_no_slash (s : Str) : ∀ seg ∈ splitSlash s, '/' ∉ seg := by
  induction s with
  | nil => simp [splitSlash]
  | cons c cs ih =>
    simp only [splitSlash]
    by_cases hc : c = '/'
    · simp only [hc, if_true]
      intro seg hseg
      rcases List.mem_cons.mp hseg with rfl | h
      · simp
      · exact ih seg h
    · simp only [hc, if_false]
      cases hs : splitSlash cs with
      | nil => exact absurd hs (splitSlash_ne_nil cs)
      | cons a r =>
        rw [hs] at ih
        intro seg hseg
        rcases List.mem_cons.mp hseg with rfl | h
        · have := ih a (List.mem_cons_self ..)
          simp only [List.mem_cons, not_or]
          exact ⟨fun e => hc e.symm, this⟩
        · exact ih seg (List.mem_cons_of_mem _ h)

theorem segments_slash_cons (s : Str) : segments ('/' :: s) = segments s := by
  simp [segments, splitSlash, realSeg]

theorem segments_dropWhile (s : Str) : segments (s.dropWhile (· == '/')) = segments s := by
  induction s with
  | nil => rfl
  | cons c cs ih =>
    by_cases hc : c = '/'
    · subst hc; simp only [List.dropWhile, beq_self_eq_true]; rw [ih, segments_slash_cons]
    · have : (c == '/') = false := by simpa using hc
      simp [List.dropWhile, this]

theorem segments_no_slash (s : Str) : ∀ seg ∈ segments s, '/' ∉ seg ∧ seg ≠ [] := by
  intro seg h
  simp only [segments, List.mem_filter] at h
  refine ⟨splitSlash_no_slash s seg h.1, ?_⟩
  intro e; subst e; simp [realSeg] at h

theorem head_joinSlash (l : List Str) (h : ∀ seg ∈ l, '/' ∉ seg ∧ seg ≠ []) : (joinSlash l).head? ≠ some '/' := by
  cases l with
  | nil => simp [joinSlash]
  | cons a r =>
    obtain ⟨h1, h2⟩ := h a (List.mem_cons_self ..)
    cases a with
    | nil => exact absurd rfl h2
    | cons x xs =>
      have hx : x ≠ '/' := fun e => h1 (e ▸ List.mem_cons_self ..)
      cases r with
      | nil => simpa [joinSlash] using hx
      | cons b r' => rw [joinSlash_cons_cons]; simpa using hx

/-- all path components are real names: the path is already in pathlib's normal form -/
def CleanRel (r : Str) : Prop := ∀ seg ∈ splitSlash r, realSeg seg = true

instance (r : Str) : Decidable (CleanRel r) := by unfold CleanRel; infer_instance

theorem segments_clean {r : Str} (h : CleanRel r) : segments r = splitSlash r := by
  simp only [segments]; exact List.filter_eq_self.mpr h

theorem normRel_clean {r : Str} (h : CleanRel r) : normRel r = r := by
  have hne := splitSlash_ne_nil r
  simp only [normRel, segments_clean h, join_split]
  simp [hne]

theorem cleanRel_head {r : Str} (h : CleanRel r) : r.head? ≠ some '/' := by
  cases r with
  | nil => simp
  | cons c cs =>
    intro e
    simp only [List.head?_cons, Option.some.injEq] at e
    subst e
    have := h [] (by simp [splitSlash])
    simp [realSeg] at this

theorem dot_if_empty (l : List Str) (hmem : ∀ seg ∈ l, '/' ∉ seg ∧ seg ≠ []) :
    (if (joinSlash l).isEmpty then ['.'] else joinSlash l) = if l = [] then ['.'] else joinSlash l := by
  cases l with
  | nil => simp [joinSlash]
  | cons a r =>
    have hne : joinSlash (a :: r) ≠ [] := by
      have := (hmem a (List.mem_cons_self ..)).2
      cases a with
      | nil => exact absurd rfl this
      | cons x xs =>
        cases r with
        | nil => simp [joinSlash]
        | cons b r' => rw [joinSlash_cons_cons]; simp
    simp [hne]

theorem pathStr_rel (p : Str) (h : p.head? ≠ some '/') : pathStr p = normRel p := by
  have hs : splitroot p = ([], p) := by
    cases p with
    | nil => simp [splitroot]
    | cons c cs =>
      have hc : c ≠ '/' := by simpa using h
      simp [splitroot, hc]
  simp only [pathStr, hs, normRel, List.nil_append]
  exact dot_if_empty _ (segments_no_slash p)

theorem pathStr_abs (r : Str) : pathStr ('/' :: r) = normAbs ('/' :: r) := by
  unfold pathStr normAbs
  cases r with
  | nil => simp [splitroot, segments, splitSlash, realSeg, joinSlash]
  | cons c cs =>
    by_cases hc : c = '/'
    · subst hc
      cases cs with
      | nil => simp [splitroot, segments, splitSlash, realSeg, joinSlash]
      | cons d ds =>
        by_cases hd : d = '/'
        · subst hd
          have hseg := segments_dropWhile ds
          simp only [segments] at hseg
          simp [splitroot, List.takeWhile, List.dropWhile, segments, hseg, splitSlash, realSeg]
        · have hdb : (d == '/') = false := by simpa using hd
          simp [splitroot, List.takeWhile, List.dropWhile, hdb, segments]
    · have hcb : (c == '/') = false := by simpa using hc
      simp [splitroot, List.takeWhile, List.dropWhile, hcb, hc, segments]

theorem join_eq (a b : Str) (hb : b.head? ≠ some '/') : join a b = joinDir a b := by
  unfold join joinDir
  have : (b.head? == some '/') = false := by simpa using hb
  simp only [this]
  by_cases ha : a = []
  · simp [ha]
  · simp [ha]

theorem normRel_head (p : Str) : (normRel p).head? ≠ some '/' := by
  unfold normRel
  split
  · simp
  · exact head_joinSlash _ (segments_no_slash p)

/-- mirror = spec on every pair of strings (POSIX model of pathlib / posixpath) -/
theorem resolve_matches_spec (file url : Str) : urlFileRelativeL file url = resolveSpecL file url := by
  unfold urlFileRelativeL resolveSpecL
  by_cases h1 : IsUrl url
  · simp [(matchUrl_iff url).mpr h1, h1]
  · have m1 : matchUrl url = false := by
      rw [Bool.eq_false_iff]; exact fun h => h1 ((matchUrl_iff url).mp h)
    simp only [m1, h1, if_false, Bool.false_eq_true]
    by_cases h2 : url.head? = some '/'
    · have hb : (url.head? == some '/') = true := by simp [h2]
      simp only [h2, if_true]
      cases url with
      | nil => simp at h2
      | cons c cs =>
        simp only [List.head?_cons, Option.some.injEq] at h2
        subst h2; exact pathStr_abs cs
    · have hb : (url.head? == some '/') = false := by simpa using h2
      simp only [hb, h2, if_false, Bool.false_eq_true]
      by_cases h3 : IsUrl file
      · simp [(matchUrl_iff file).mpr h3, h3, take_rfind]
      · have m3 : matchUrl file = false := by
          rw [Bool.eq_false_iff]; exact fun h => h3 ((matchUrl_iff file).mp h)
        simp only [m3, h3, if_false, Bool.false_eq_true]
        rw [dirname_eq, pathStr_rel url h2, join_eq _ _ (normRel_head url)]

end C17
