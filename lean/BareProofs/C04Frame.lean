import BareProofs.C04Lemmas
import BareProofs.RunRel

/-!
# C04 — the frame invariant of the globals

One induction on the fuel (`frameAt`, over the machine with the label cache) that yields every statement of the form
"running … changes the globals only by …".  The evaluator's part is `C09.RunRel.evalExpr_rel` at the diagonal relation
`frameRel`; library trees are walked under `TreeWrites`.  It is parametric in

* `S : Name → Prop` — the names that MAY be written in the globals (by a `function` statement, a `globalSet` request of a
  library tree, a top-level assignment of an included script),
* `I : Prop` — whether `include` statements are allowed at all,
* `R : Env → Env → Prop` — a reflexive, transitive relation between the globals before and after that every allowed write
  respects (`R g (g.set n v)` for `S n`).

Instances used by `C04.lean`: `S = ∅, R = Eq` (nothing is written: `globals' = globals`, theorem `assign_local_only`) and
`R g g' = ∀ n, ¬ S n → g'[n] = g[n]` (theorem `globals_frame`: names outside `S` keep their binding).
-/

open Machine Scope C09
namespace C04
variable {W α β : Type}

/-- the library tree writes (by `globalSet`) only names in `S`, whatever its call-backs return -/
inductive TreeWrites (S : Name → Prop) : LibTree W → Prop
  | ret (o : LibOut) (w : W) : TreeWrites S (.ret o w)
  | call (f : Value) (args : List Value) (w : W) (k : Value → W → LibTree W) :
      (∀ v w', TreeWrites S (k v w')) → TreeWrites S (.call f args w k)
  | globalGet (n : Name) (w : W) (k : Option Value → W → LibTree W) :
      (∀ v w', TreeWrites S (k v w')) → TreeWrites S (.globalGet n w k)
  | globalSet (n : Name) (v : Value) (w : W) (k : W → LibTree W) :
      S n → (∀ w', TreeWrites S (k w')) → TreeWrites S (.globalSet n v w k)

/-- **the predicate on `LibTree`**: the tree never issues a `globalSet` request (on any path, for any call-back result) -/
def NoGlobalSet (t : LibTree W) : Prop := TreeWrites (fun _ => False) t

/-- what a statement may do to the globals: inside a function (`inFn`) an assignment is free (it writes the locals); at
top level it must name a member of `S`; a `function` statement must name a member of `S`; `include` needs `I` -/
def StmtOK (S : Name → Prop) (I : Prop) (inFn : Bool) : Stmt → Prop
  | .expr (some n) _ => inFn = true ∨ S n
  | .function _ name _ _ _ _ => S name
  | .include _ => I
  | _ => True

/-- the hypotheses on the configuration: library and other host callables, every function body of the table, every
script that an include can fetch -/
structure Frame (cfg : Config W) (S : Name → Prop) (I : Prop) : Prop where
  lib : ∀ name args w, TreeWrites S (cfg.host.lib name args w)
  other : ∀ k args w, TreeWrites S (cfg.host.other k args w)
  funs : ∀ id fd, cfg.funs id = some fd → ∀ s ∈ fd.body, StmtOK S I true s
  fetch : I → ∀ url ss, cfg.fetch url = .script ss → ∀ s ∈ ss, StmtOK S I false s

/-- the relation every allowed write respects -/
structure Respects (S : Name → Prop) (R : Env → Env → Prop) : Prop where
  refl : ∀ g, R g g
  trans : ∀ {a b c}, R a b → R b c → R a c
  set : ∀ g n v, S n → R g (g.set n v)

def OutRel (R : Env → Env → Prop) (g : Env) : Out W → Prop
  | .ok _ st => R g st.globals
  | .err _ st => R g st.globals
  | .oof => True

def ArgsRel (R : Env → Env → Prop) (g : Env) : ArgsOut W → Prop
  | .ok _ st => R g st.globals
  | .err _ st => R g st.globals
  | .oof => True

def ResRel (R : Env → Env → Prop) (g : Env) : Res W → Prop
  | .done st => R g st.globals
  | .ret _ st => R g st.globals
  | .err _ st => R g st.globals
  | .oof => True

section
variable {S : Name → Prop} {R : Env → Env → Prop}

theorem OutRel.trans (hR : Respects S R) {a b : Env} {o : Out W} (h1 : R a b) (h2 : OutRel R b o) : OutRel R a o := by
  cases o <;> first | exact hR.trans h1 h2 | trivial

theorem ResRel.trans (hR : Respects S R) {a b : Env} {o : Res W} (h1 : R a b) (h2 : ResRel R b o) : ResRel R a o := by
  cases o <;> first | exact hR.trans h1 h2 | trivial

theorem OutRel.bind (hR : Respects S R) {g : Env} {o : Out W} {k : Value → State W → Out W} (h1 : OutRel R g o)
    (h2 : ∀ v st1, OutRel R st1.globals (k v st1)) :
    OutRel R g (match (generalizing := false) o with | .ok v st1 => k v st1 | o => o) := by
  cases o with
  | ok v st1 => exact OutRel.trans hR h1 (h2 v st1)
  | err e st1 => exact h1
  | oof => trivial

theorem ResRel.bind (hR : Respects S R) {g : Env} {o : Out W} {k : Value → State W → Res W} (h1 : OutRel R g o)
    (h2 : ∀ v st1, ResRel R st1.globals (k v st1)) :
    ResRel R g (match (generalizing := false) o with | .ok v st1 => k v st1 | .err e st1 => .err e st1 | .oof => .oof) := by
  cases o with
  | ok v st1 => exact ResRel.trans hR h1 (h2 v st1)
  | err e st1 => exact h1
  | oof => trivial

/-! ### expressions: they touch the globals only through the calls they make -/

/-- the globals at the end of a run, whatever the shape of its outcome -/
def OcRel (R : Env → Env → Prop) (g : Env) : Oc α W → Prop
  | .ok _ st => R g st.globals
  | .err _ st => R g st.globals
  | .oof => True

theorem OutRel.oc {g : Env} {o : Out W} : OutRel R g o ↔ OcRel R g o.oc := by cases o <;> exact Iff.rfl

theorem ArgsRel.oc {g : Env} {o : ArgsOut W} : ArgsRel R g o ↔ OcRel R g o.oc := by cases o <;> exact Iff.rfl

theorem OcRel.bind (hR : Respects S R) {g : Env} {o : Oc α W} {k : α → State W → Oc β W} (h1 : OcRel R g o)
    (h2 : ∀ a st, OcRel R st.globals (k a st)) : OcRel R g (o.bind k) := by
  cases o with
  | ok a st =>
    have h := h2 a st
    show OcRel R g (k a st)
    generalize k a st = r at h ⊢
    cases r <;> first | exact hR.trans h1 h | trivial
  | err e st => exact h1
  | oof => trivial

/-- the frame of one run as a relation between runs (the right run is the left run) -/
def frameRel (hR : Respects S R) : RunRel W Unit :=
  .diag (fun s o => OcRel R s.globals o) (fun _ s => hR.refl s.globals) (fun _ s _ => hR.refl s.globals) (OcRel.bind hR)

theorem frameRel.holds (hR : Respects S R) {s : State W} {o : Oc α W} {S' : Unit → Oc α W} (h : (frameRel hR).R s o S') :
    OcRel R s.globals o := h.2

variable (hR : Respects S R) (cfg : Config W) (call : CallFn W) (locals : Option Env)
  (hcall : ∀ f args st, OutRel R st.globals (call f args st))
include hR hcall

omit hcall in
theorem frameRel.agree : EvalAgree (frameRel (W := W) hR) cfg cfg locals locals fun _ => True :=
  .of_eq (fun _ _ h => h) rfl rfl locals _

theorem frameRel.calls : (frameRel hR).Call call fun _ => call :=
  RunRel.diag_call fun f a s => OutRel.oc.1 (hcall f a s)

theorem evalExpr_rel : ∀ (e : Expr) (st : State W), OutRel R st.globals (evalExpr cfg call locals e st) :=
  fun e st => OutRel.oc.2 (frameRel.holds hR ((frameRel hR).evalExpr_rel (frameRel.agree hR cfg locals)
    (frameRel.calls hR call hcall) e st st (fun _ _ => trivial) rfl))

theorem evalArgs_rel : ∀ (es : List Expr) (st : State W), ArgsRel R st.globals (evalArgs cfg call locals es st) :=
  fun es st => ArgsRel.oc.2 (frameRel.holds hR ((frameRel hR).evalArgs_rel (frameRel.agree hR cfg locals)
    (frameRel.calls hR call hcall) es st st (fun _ _ => trivial) rfl))

theorem evalIf_rel : ∀ (es : List Expr) (st : State W), OutRel R st.globals (evalIf cfg call locals es st) :=
  fun es st => OutRel.oc.2 (frameRel.holds hR ((frameRel hR).evalIf_rel (frameRel.agree hR cfg locals)
    (frameRel.calls hR call hcall) es st st (fun _ _ => trivial) rfl))

/-! ### library trees: `globalSet` requests and call-backs -/

theorem runTree_rel {t : LibTree W} (ht : TreeWrites S t) : ∀ st : State W, OutRel R st.globals (runTree cfg call t st) := by
  induction ht with
  | ret o w =>
    intro st
    cases o <;> simp only [runTree] <;> exact hR.refl _
  | call f args w k _ ih =>
    intro st
    rw [runTree]
    exact OutRel.bind hR (hcall f args { st with world := w }) fun v st1 => ih v st1.world st1
  | globalGet n w k _ ih =>
    intro st
    simp only [runTree]
    exact ih _ _ { st with world := w }
  | globalSet n v w k hS _ ih =>
    intro st
    simp only [runTree]
    exact OutRel.trans hR (hR.set st.globals n v hS) (ih w { st with globals := st.globals.set n v, world := w })

end

/-- the statements proved together by induction on the fuel -/
def FrameAt (cfg : Config W) (S : Name → Prop) (I : Prop) (R : Env → Env → Prop) (fuel : Nat) : Prop :=
  (∀ f args st, OutRel R st.globals (callValue cfg fuel f args st)) ∧
  (∀ P locals base cache pc st, (∀ s ∈ P, StmtOK S I locals.isSome s) →
      ResRel R st.globals (execM cfg fuel P locals base cache pc st)) ∧
  (I → ∀ base incs st, ResRel R st.globals (execIncludes cfg fuel base incs st))

theorem frameAt {cfg : Config W} {S : Name → Prop} {I : Prop} {R : Env → Env → Prop}
    (hF : Frame cfg S I) (hR : Respects S R) : ∀ fuel, FrameAt cfg S I R fuel
  | 0 => by
    refine ⟨?_, ?_, ?_⟩
    · intro f args st; rw [callValue.eq_def]; trivial
    · intro P locals base cache pc st _
      rw [execM.eq_1]
      cases P[pc]? with
      | none => exact hR.refl _
      | some s => trivial
    · intro hI base incs st
      cases incs with
      | nil => rw [execIncludes.eq_1]; exact hR.refl _
      | cons i r =>
        rw [execIncludes.eq_2]
        cases cfg.fetch (cfg.resolve base i) with
        | script ss => trivial
        | _ => exact hR.refl _
  | fuel+1 => by
    obtain ⟨ihC, ihE, ihI⟩ := frameAt hF hR fuel
    refine ⟨?_, ?_, ?_⟩
    · intro f args st
      rw [callValue.eq_def]
      simp only
      split
      · rename_i id
        split
        · rename_i fd hfd
          generalize bindArgs cfg.host fd.lastArgArray fd.args args [] st.world = bw
          obtain ⟨loc, w1⟩ := bw
          simp only
          have h := ihE fd.body (some loc) none [] 0 { st with world := w1 } (hF.funs id fd hfd)
          generalize execM cfg fuel fd.body (some loc) none [] 0 { st with world := w1 } = r at h ⊢
          cases r <;> exact h
        · exact hR.refl _
      · exact runTree_rel hR cfg _ ihC (hF.lib _ _ _) st
      · exact runTree_rel hR cfg _ ihC (hF.other _ _ _) st
      · exact hR.refl _
    · intro P locals base cache pc st hP
      rw [execM.eq_1]
      cases hs : P[pc]? with
      | none => exact hR.refl _
      | some s =>
        have hsP : StmtOK S I locals.isSome s := hP s (List.mem_of_getElem? hs)
        simp only
        split
        · exact hR.refl _
        · have hev := fun e => evalExpr_rel hR cfg (callValue cfg fuel) locals ihC e { st with count := st.count + 1 }
          cases s with
          | expr name e =>
            refine ResRel.bind hR (hev e) fun v st2 => ?_
            cases name with
            | none => exact ihE _ _ _ _ _ _ hP
            | some n =>
              cases locals with
              | some l => exact ihE P (some (l.set n v)) _ _ _ _ hP
              | none =>
                exact ResRel.trans hR (hR.set _ n v (hsP.resolve_left Bool.false_ne_true)) (ihE P none _ _ _ _ hP)
          | jump l c =>
            cases c with
            | none =>
              dsimp only
              cases jumpTarget P cache l with
              | none => exact hR.refl _
              | some ci => exact ihE _ _ _ _ _ _ hP
            | some c =>
              refine ResRel.bind hR (hev c) fun v st2 => ?_
              split
              · cases jumpTarget P cache l with
                | none => exact hR.refl _
                | some ci => exact ihE _ _ _ _ _ _ hP
              · exact ihE _ _ _ _ _ _ hP
          | ret e =>
            cases e with
            | none => exact hR.refl _
            | some e => exact ResRel.bind hR (hev e) fun v st2 => hR.refl _
          | label l => exact ihE _ _ _ _ _ _ hP
          | function fid name args laa isAsync body =>
            exact ResRel.trans hR (hR.set st.globals name _ hsP) (ihE _ _ _ _ _ _ hP)
          | «include» incs =>
            simp only
            have hi := ihI hsP base incs { st with count := st.count + 1 }
            generalize execIncludes cfg fuel base incs { st with count := st.count + 1 } = r at hi ⊢
            cases r with
            | done st2 => exact ResRel.trans hR hi (ihE _ _ _ _ _ _ hP)
            | _ => exact hi
    · intro hI base incs st
      cases incs with
      | nil => rw [execIncludes.eq_1]; exact hR.refl _
      | cons i r =>
        rw [execIncludes.eq_2]
        simp only
        cases hf : cfg.fetch (cfg.resolve base i) with
        | script ss =>
          simp only
          have h := ihE ss none (some (cfg.resolve base i)) [] 0 st (hF.fetch hI _ ss hf)
          generalize execM cfg fuel ss none (some (cfg.resolve base i)) [] 0 st = r' at h ⊢
          cases r' with
          | done st' => exact ResRel.trans hR h (ihI hI base r st')
          | ret v st' => exact ResRel.trans hR h (ihI hI base r st')
          | _ => exact h
        | _ => exact hR.refl _

end C04
