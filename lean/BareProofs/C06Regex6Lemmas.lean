import BareProofs.C06Regex5
import BareProofs.C10

/-!
# C06Regex6Lemmas — the text layer: `\r?\n` splitting by the engine = `Text.splitLinesL`; logical lines never contain `'\n'`
-/

namespace C06Regex
open Rx Text Scan RxPatterns

/-! ## `_R_SCRIPT_LINE_SPLIT.split(text)` -/

theorem ctrl_test (l x : Char) : (Atom.ctrl l).test x = (x == ctrlChar l) := rfl

/-- `\r?\n` at one position -/
theorem lineSplit_match (c : Char) (t : Chars) :
    matchFrom lineSplit 0 (c :: t) =
      if c = '\n' then some ⟨1, t, []⟩
      else if c = '\r' then
        match t with
        | d :: t' => if d = '\n' then some ⟨2, t', []⟩ else none
        | [] => none
      else none := by
  unfold matchFrom lineSplit
  simp only [seq_m, opt_m, one_m', step, ctrl_test, show ctrlChar 'r' = '\r' from rfl, show ctrlChar 'n' = '\n' from rfl,
    beq_iff_eq]
  by_cases h1 : c = '\n'
  · subst h1; simp
  · by_cases h2 : c = '\r'
    · subst h2
      cases t with
      | nil => simp
      | cons d t' => by_cases hd : d = '\n' <;> simp [hd]
    · simp [h1, h2]

def prependHead (p : Chars) : List Chars → List Chars
  | [] => [p]
  | l :: ls => (p ++ l) :: ls

theorem prependHead_nil (x : List Chars) (h : x ≠ []) : prependHead [] x = x := by
  cases x with
  | nil => exact absurd rfl h
  | cons l ls => rfl

theorem prependHead_consHead (p : Chars) (c : Char) (x : List Chars) (h : x ≠ []) :
    prependHead p (consHead c x) = prependHead (p ++ [c]) x := by
  cases x with
  | nil => exact absurd rfl h
  | cons l ls => simp [prependHead, consHead]

theorem splitAux_lineSplit : ∀ (fuel : Nat) (s cur : Chars), s.length ≤ fuel →
    splitAux lineSplit fuel cur s = prependHead cur.reverse (splitLinesL s)
  | 0, s, cur, h => by
    have : s = [] := List.length_eq_zero_iff.mp (by omega)
    subst this; simp [splitAux, splitLinesL, prependHead]
  | n + 1, [], cur, _ => by simp [splitAux, splitLinesL, prependHead]
  | n + 1, c :: t, cur, h => by
    have hl : t.length ≤ n := by simpa using h
    rw [splitAux, lineSplit_match, C10.splitLinesL_cons]
    by_cases h1 : c = '\n'
    · subst h1
      simp only [if_true, show ¬ ((1 : Nat) = 0) from by decide, if_false]
      rw [splitAux_lineSplit n t [] hl, List.reverse_nil, prependHead_nil _ (C10.splitLinesL_ne_nil t)]
      simp [prependHead]
    · simp only [h1, if_false]
      by_cases h2 : c = '\r'
      · subst h2
        cases t with
        | nil =>
          simp only [List.head?_nil, reduceCtorEq, and_false, if_false, if_true]
          rw [splitAux_lineSplit n [] _ hl, prependHead_consHead _ _ _ (C10.splitLinesL_ne_nil [])]
          simp
        | cons d t' =>
          by_cases hd : d = '\n'
          · subst hd
            simp only [if_true, List.head?_cons, and_self, show ¬ ((2 : Nat) = 0) from by decide, if_false, List.tail_cons]
            rw [splitAux_lineSplit n t' [] (by simp at hl; omega), List.reverse_nil, prependHead_nil _ (C10.splitLinesL_ne_nil t')]
            simp [prependHead]
          · simp only [if_true, hd, if_false, List.head?_cons, Option.some.injEq, and_false]
            rw [splitAux_lineSplit n (d :: t') _ hl, prependHead_consHead _ _ _ (C10.splitLinesL_ne_nil _)]
            simp
      · simp only [h2, if_false, false_and]
        rw [splitAux_lineSplit n t _ hl, prependHead_consHead _ _ _ (C10.splitLinesL_ne_nil t)]
        simp

/-- **`Text.splitLinesL` IS `_R_SCRIPT_LINE_SPLIT.split`** (pattern `\r?\n`, by the engine on the pinned AST) — for every text -/
theorem splitLines_regex (t : Chars) : splitLinesL t = split lineSplit t := by
  unfold split
  rw [splitAux_lineSplit t.length t [] (Nat.le_refl _), List.reverse_nil, prependHead_nil _ (C10.splitLinesL_ne_nil t)]

/-! ## no `'\n'` in physical and logical lines -/

theorem noNL_rstripL {l : Chars} (h : '\n' ∉ l) : '\n' ∉ rstripL l := by
  unfold rstripL
  intro hm
  exact h (List.mem_reverse.mp ((List.dropWhile_sublist _).subset (List.mem_reverse.mp hm)))

theorem noNL_stripL {l : Chars} (h : '\n' ∉ l) : '\n' ∉ stripL l := noNL_rstripL (not_mem_dropWhile h)

theorem noNL_contBody {l nc : Chars} (h : '\n' ∉ l) (hc : contBody? l = some nc) : '\n' ∉ nc := by
  obtain ⟨w, _, e⟩ := C10.contBody?_some_decomp hc
  rw [e] at h; exact fun hm => h (List.mem_append_left _ hm)

theorem noNL_joinSp : ∀ ps : List Chars, (∀ p ∈ ps, '\n' ∉ p) → '\n' ∉ joinSp ps
  | [], _ => by simp [joinSp]
  | [p], h => by simpa [joinSp] using h p (by simp)
  | p :: q :: ps, h => by
    show '\n' ∉ p ++ ' ' :: joinSp (q :: ps)
    intro hm
    rcases List.mem_append.mp hm with h1 | h1
    · exact h p (by simp) h1
    · rcases List.mem_cons.mp h1 with h2 | h2
      · exact absurd h2 (by decide)
      · exact noNL_joinSp (q :: ps) (fun x hx => h x (List.mem_cons_of_mem _ hx)) h2

theorem loopL_noNL : ∀ (lines : List Chars) (i : Nat) (cont : List Chars) (ix : Nat), (∀ l ∈ lines, '\n' ∉ l) →
    (∀ c ∈ cont, '\n' ∉ c) → ∀ x ∈ (loopL i lines cont ix).1, '\n' ∉ x.2
  | [], i, cont, ix, _, _ => by simp [loopL]
  | part :: rest, i, cont, ix, hl, hc => by
    have hp : '\n' ∉ part := hl part (by simp)
    have hrest : ∀ l ∈ rest, '\n' ∉ l := fun l hm => hl l (List.mem_cons_of_mem _ hm)
    rw [loopL]
    by_cases hcm : isCommentL part = true
    · simp only [hcm, if_true]; exact loopL_noNL rest _ _ _ hrest hc
    · simp only [hcm, Bool.false_eq_true, if_false]
      cases hcb : contBody? part with
      | some nc =>
        simp only []
        apply loopL_noNL rest _ _ _ hrest
        intro c hm
        rcases List.mem_append.mp hm with h1 | h1
        · exact hc c h1
        · have hn := noNL_contBody hp hcb
          simp only [List.mem_singleton] at h1
          rw [h1]; split
          · exact noNL_stripL hn
          · exact noNL_rstripL hn
      | none =>
        simp only []
        split
        · intro x hx
          simp only [emit, List.mem_cons] at hx
          rcases hx with rfl | hx
          · apply noNL_joinSp
            intro p hm
            rcases List.mem_append.mp hm with h1 | h1
            · exact hc p h1
            · simp only [List.mem_singleton] at h1; rw [h1]; exact noNL_stripL hp
          · exact loopL_noNL rest _ _ _ hrest (by simp) x hx
        · intro x hx
          simp only [emit, List.mem_cons] at hx
          rcases hx with rfl | hx
          · exact hp
          · exact loopL_noNL rest _ _ _ hrest (by simp) x hx

end C06Regex
