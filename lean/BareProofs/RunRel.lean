import BareModel.Lint
import BareProofs.C09Seq

/-!
# Two runs of the evaluator side by side, for any relation with a rule for `Oc.bind`

`RunRel W ι` is what a binary simulation between runs consists of: a relation `St` on states and a relation `R s₀ o S`
between an outcome `o` of the left run started in `s₀` and a family `S : ι → Oc α W` of outcomes of right runs (`ι = Unit`
for one run against one run, `ι = Nat` for a run against the runs at every fuel), with three rules: `ok`, `err`
(leaves) and `bind`.  `evalExpr_rel` walks `evalExpr` / `evalArgs` / `evalIf` once for such a relation, `runTree_rel` a library
tree that both runs follow.  A property of one run is the case `RunRel.diag`.
-/

open Machine Lint
set_option linter.unusedSectionVars false
namespace C09
variable {W ι α β : Type}

structure RunRel (W ι : Type) where
  St : State W → State W → Prop
  R : {α : Type} → State W → Oc α W → (ι → Oc α W) → Prop
  ok : ∀ {α : Type} (a : α) {s s' : State W}, St s s' → R s (.ok a s) fun _ => .ok a s'
  /-- an error raised on the spot; the budget error is not one of these, it belongs to the tick -/
  err : ∀ {α : Type} (e : RtErr) {s s' : State W}, (∀ m, e ≠ .exceeded m) → St s s' →
    R (α := α) s (.err e s) fun _ => .err e s'
  bind : ∀ {α β : Type} {s₀ : State W} {o : Oc α W} {S : ι → Oc α W} {k : α → State W → Oc β W}
    {k' : ι → α → State W → Oc β W}, R s₀ o S → (∀ a s s', St s s' → R s (k a s) fun i => k' i a s') →
    R s₀ (o.bind k) fun i => (S i).bind (k' i)

/-- the right run evaluates with the same operators, and reads what the left run reads wherever a name satisfies `N` -/
structure EvalAgree (E : RunRel W ι) (c c' : Config W) (l l' : Option Env) (N : Name → Prop) : Prop where
  truthy : ∀ v s s', E.St s s' → c'.host.truthy v s'.world = c.host.truthy v s.world
  binop : ∀ op a b s s', E.St s s' → c'.host.binop op a b s'.world = c.host.binop op a b s.world
  neg : c'.host.neg = c.host.neg
  var : ∀ n s s', N n → E.St s s' → lookupVar l' s'.globals n = lookupVar l s.globals n
  func : ∀ n s s', N n → E.St s s' → lookupFunc c' l' s'.globals n = lookupFunc c l s.globals n

/-- related states are equal and the configurations differ in nothing the evaluator looks at -/
theorem EvalAgree.of_eq {E : RunRel W ι} (heq : ∀ s s', E.St s s' → s' = s) {c c' : Config W} (hh : c'.host = c.host)
    (hbi : c'.builtins = c.builtins) (l : Option Env) (N : Name → Prop) : EvalAgree E c c' l l N where
  truthy := fun _ s s' hs => by rw [heq s s' hs, hh]
  binop := fun _ _ _ s s' hs => by rw [heq s s' hs, hh]
  neg := by rw [hh]
  var := fun _ s s' _ hs => by rw [heq s s' hs]
  func := fun _ s s' _ hs => by rw [heq s s' hs]; simp only [lookupFunc, hh, hbi]

/-- the diagonal: a property `Q s₀ o` of one run with a rule for `bind` is the relation "the right run is the left run, and `Q`" -/
def RunRel.diag (Q : {α : Type} → State W → Oc α W → Prop) (ok : ∀ {α : Type} (a : α) (s : State W), Q s (.ok a s))
    (err : ∀ {α : Type} (e : RtErr) (s : State W), (∀ m, e ≠ .exceeded m) → Q (α := α) s (.err e s))
    (bind : ∀ {α β : Type} {s₀ : State W} {o : Oc α W} {k : α → State W → Oc β W}, Q s₀ o → (∀ a s, Q s (k a s)) →
      Q s₀ (o.bind k)) : RunRel W Unit where
  St := fun s s' => s' = s
  R := fun s₀ o S => S () = o ∧ Q s₀ o
  ok := fun a s _ hs => ⟨hs ▸ rfl, ok a s⟩
  err := fun e s _ he hs => ⟨hs ▸ rfl, err e s he⟩
  bind := by
    intro α β s₀ o S k k' h hk
    refine ⟨?_, bind h.2 fun a s => (hk a s s rfl).2⟩
    show Oc.bind (S ()) _ = _
    rw [h.1]
    cases o with
    | ok a s => exact (hk a s s rfl).1
    | err e s => rfl
    | oof => rfl

namespace RunRel
variable (E : RunRel W ι)

theorem ite (b : Bool) {s₀ : State W} {x y : Oc α W} {x' y' : ι → Oc α W} (hx : E.R s₀ x x') (hy : E.R s₀ y y') :
    E.R s₀ (if b then x else y) fun i => if b then x' i else y' i := by
  cases b
  · exact hy
  · exact hx

def Call (call : CallFn W) (call' : ι → CallFn W) : Prop :=
  ∀ f args s s', E.St s s' → E.R s (call f args s).oc fun i => (call' i f args s').oc

theorem diag_call {Q : {α : Type} → State W → Oc α W → Prop} {ok err bind} {call : CallFn W}
    (h : ∀ f a s, Q s (call f a s).oc) : (RunRel.diag Q ok err bind).Call call fun _ => call :=
  fun f a s s' hs => by cases hs; exact ⟨rfl, h f a s⟩

theorem callRes_rel {call : CallFn W} {call' : ι → CallFn W} (hc : E.Call call call') (n : Name) (r : Option Value)
    (vs : List Value) {s s' : State W} (hs : E.St s s') :
    E.R s (callRes call n r vs s) fun i => callRes (call' i) n r vs s' := by
  cases r with
  | none => exact E.err _ nofun hs
  | some fv =>
    cases fv with
    | null => exact E.err _ nofun hs
    | _ => exact hc _ vs s s' hs

section Eval
variable {c c' : Config W} {l l' : Option Env} {N : Name → Prop} (ha : EvalAgree E c c' l l' N)
  {call : CallFn W} {call' : ι → CallFn W} (hc : E.Call call call')
include ha hc

mutual
/-- **the evaluator respects every `RunRel`**: an expression whose names satisfy `N` evaluates to related outcomes -/
theorem evalExpr_rel : ∀ (e : Expr) (st st' : State W), (∀ n ∈ exprUses e, N n) → E.St st st' →
    E.R st (evalExpr c call l e st).oc fun i => (evalExpr c' (call' i) l' e st').oc
  | .number q, st, st', _, hs => by simp only [evalExpr]; exact E.ok _ hs
  | .string q, st, st', _, hs => by simp only [evalExpr]; exact E.ok _ hs
  | .variable n, st, st', hn, hs => by
      simp only [evalExpr_variable, varValue, ha.var n st st' (hn n List.mem_cons_self) hs]
      exact E.ok _ hs
  | .function n args, st, st', hn, hs => by
      have hA : ∀ m ∈ argsUses args, N m := fun m hm => hn m (List.mem_cons_of_mem _ hm)
      by_cases h : n = kwIf
      · simp only [evalExpr_function, h, if_true]
        exact evalIf_rel args st st' hA hs
      · simp only [evalExpr_function, h, if_false]
        refine E.bind (evalArgs_rel args st st' hA hs) fun vs s s' hs1 => ?_
        simp only [callNamed, ha.func n s s' (hn n List.mem_cons_self) hs1]
        exact E.callRes_rel hc n _ vs hs1
  | .binary op a b, st, st', hn, hs => by
      have hA := evalExpr_rel a st st' (fun m hm => hn m (List.mem_append_left _ hm)) hs
      have hB := fun s s' => evalExpr_rel b s s' (fun m hm => hn m (List.mem_append_right _ hm))
      simp only [evalExpr_binary]
      refine E.bind hA fun v s s' hs1 => ?_
      by_cases h1 : op = .and
      · subst h1
        simp only [binRest_and, ha.truthy v s s' hs1]
        exact E.ite _ (hB s s' hs1) (E.ok _ hs1)
      · by_cases h2 : op = .or
        · subst h2
          simp only [binRest_or, ha.truthy v s s' hs1]
          exact E.ite _ (E.ok _ hs1) (hB s s' hs1)
        · simp only [binRest_strict _ _ _ h1 h2]
          refine E.bind (hB s s' hs1) fun v2 s2 s2' hs2 => ?_
          rw [ha.binop op v v2 s2 s2' hs2]
          exact E.ok _ hs2
  | .unary op a, st, st', hn, hs => by
      simp only [evalExpr_unary]
      refine E.bind (evalExpr_rel a st st' hn hs) fun v s s' hs1 => ?_
      cases op
      · simp only [unValue, ha.truthy v s s' hs1]; exact E.ok _ hs1
      · simp only [unValue, ha.neg]; exact E.ok _ hs1
  | .group a, st, st', hn, hs => by
      simp only [evalExpr]
      exact evalExpr_rel a st st' hn hs

theorem evalArgs_rel : ∀ (as : List Expr) (st st' : State W), (∀ n ∈ argsUses as, N n) → E.St st st' →
    E.R st (evalArgs c call l as st).oc fun i => (evalArgs c' (call' i) l' as st').oc
  | [], st, st', _, hs => by simp only [evalArgs]; exact E.ok _ hs
  | a :: as, st, st', hn, hs => by
      simp only [evalArgs_cons]
      refine E.bind (evalExpr_rel a st st' (fun m hm => hn m (List.mem_append_left _ hm)) hs) fun v s s' hs1 => ?_
      exact E.bind (evalArgs_rel as s s' (fun m hm => hn m (List.mem_append_right _ hm)) hs1) fun vs s2 s2' hs2 =>
        E.ok _ hs2

theorem evalIf_rel : ∀ (as : List Expr) (st st' : State W), (∀ n ∈ argsUses as, N n) → E.St st st' →
    E.R st (evalIf c call l as st).oc fun i => (evalIf c' (call' i) l' as st').oc
  | [], st, st', _, hs => by simp only [evalIf]; exact E.ok _ hs
  | [x], st, st', hn, hs => by
      simp only [evalIf_one]
      exact E.bind (evalExpr_rel x st st' (fun m hm => hn m (List.mem_append_left _ hm)) hs) fun v s s' hs1 => E.ok _ hs1
  | [x, t], st, st', hn, hs => by
      simp only [evalIf_two]
      refine E.bind (evalExpr_rel x st st' (fun m hm => hn m (List.mem_append_left _ hm)) hs) fun v s s' hs1 => ?_
      simp only [condRest, ha.truthy v s s' hs1]
      exact E.ite _ (evalExpr_rel t s s' (fun m hm => hn m (List.mem_append_right _ (List.mem_append_left _ hm))) hs1)
        (E.ok _ hs1)
  | x :: t :: f :: r, st, st', hn, hs => by
      simp only [evalIf_three]
      refine E.bind (evalExpr_rel x st st' (fun m hm => hn m (List.mem_append_left _ hm)) hs) fun v s s' hs1 => ?_
      simp only [condRest, ha.truthy v s s' hs1]
      exact E.ite _ (evalExpr_rel t s s' (fun m hm => hn m (List.mem_append_right _ (List.mem_append_left _ hm))) hs1)
        (evalExpr_rel f s s'
          (fun m hm => hn m (List.mem_append_right _ (List.mem_append_right _ (List.mem_append_left _ hm)))) hs1)
end
end Eval

/-- every name the tree reads or writes in the globals satisfies `A` -/
inductive TreeNames (A : Name → Prop) : LibTree W → Prop
  | ret (out : LibOut) (w : W) : TreeNames A (.ret out w)
  | call (f : Value) (args : List Value) (w : W) (k : Value → W → LibTree W) :
      (∀ v w', TreeNames A (k v w')) → TreeNames A (.call f args w k)
  | globalGet (n : Name) (w : W) (k : Option Value → W → LibTree W) :
      A n → (∀ ov w', TreeNames A (k ov w')) → TreeNames A (.globalGet n w k)
  | globalSet (n : Name) (v : Value) (w : W) (k : W → LibTree W) :
      A n → (∀ w', TreeNames A (k w')) → TreeNames A (.globalSet n v w k)

omit E in
theorem treeNames_all : ∀ t : LibTree W, TreeNames (fun _ => True) t
  | .ret o w => .ret o w
  | .call f a w k => .call f a w k fun v w' => treeNames_all (k v w')
  | .globalGet n w k => .globalGet n w k trivial fun ov w' => treeNames_all (k ov w')
  | .globalSet n v w k => .globalSet n v w k trivial fun w' => treeNames_all (k w')

/-- what the relation must respect for both runs to follow the same tree: the world the tree hands over, reads and writes
of the names `A` -/
structure TreeAgree (E : RunRel W ι) (c c' : Config W) (A : Name → Prop) : Prop where
  sameWorld : ∀ s s', E.St s s' → s'.world = s.world
  debug : c'.debug = c.debug
  logFailure : c'.host.logFailure = c.host.logFailure
  world : ∀ {α : Type} (a : α) s s' w, E.St s s' → E.R s (.ok a { s with world := w }) fun _ => .ok a { s' with world := w }
  fail : ∀ {α : Type} (e : RtErr) s s' w, (∀ m, e ≠ .exceeded m) → E.St s s' →
    E.R (α := α) s (.err e { s with world := w }) fun _ => .err e { s' with world := w }
  get : ∀ n s s', A n → E.St s s' → s'.globals.get? n = s.globals.get? n
  set : ∀ n v s s' w, A n → E.St s s' → E.R s (.ok () { s with globals := s.globals.set n v, world := w }) fun _ =>
    .ok () { s' with globals := s'.globals.set n v, world := w }

theorem runTree_rel {c c' : Config W} {A : Name → Prop} (ta : TreeAgree E c c' A) {call : CallFn W} {call' : ι → CallFn W}
    (hc : E.Call call call') {t : LibTree W} (ht : TreeNames A t) : ∀ st st' : State W, E.St st st' →
    E.R st (runTree c call t st).oc fun i => (runTree c' (call' i) t st').oc := by
  induction ht with
  | ret out w =>
    intro st st' hs
    cases out with
    | ok v => exact ta.world v st st' w hs
    | fail v => simp only [runTree, ta.debug, ta.logFailure]; exact ta.world v st st' _ hs
    | rt msg => exact ta.fail _ st st' w nofun hs
  | call f args w k _ ih =>
    intro st st' hs
    simp only [runTree_call]
    refine E.bind (k := fun _ s => (call f args s).oc.bind _) (k' := fun i _ s => (call' i f args s).oc.bind _)
      (ta.world () st st' w hs) fun _ s s' hs1 => ?_
    refine E.bind (hc f args s s' hs1) fun v s1 s1' hs2 => ?_
    rw [ta.sameWorld s1 s1' hs2]
    exact ih v _ s1 s1' hs2
  | globalGet n w k hn _ ih =>
    intro st st' hs
    simp only [runTree, ta.get n st st' hn hs]
    exact E.bind (k := fun _ s => (runTree c call (k (st.globals.get? n) w) s).oc)
      (k' := fun i _ s => (runTree c' (call' i) (k (st.globals.get? n) w) s).oc) (ta.world () st st' w hs)
      fun _ s s' hs1 => ih _ _ s s' hs1
  | globalSet n v w k hn _ ih =>
    intro st st' hs
    simp only [runTree]
    exact E.bind (k := fun _ s => (runTree c call (k w) s).oc) (k' := fun i _ s => (runTree c' (call' i) (k w) s).oc)
      (ta.set n v st st' w hn hs) fun _ s s' hs1 => ih _ s s' hs1

end RunRel
end C09
