import BareProofs.C06Regex5Lemmas
import BareModel.ExprParse

/-!
# C06Regex7Lemmas — engine lemmas for the expression token patterns `_R_EXPR_*`

None of these patterns uses `.` or `$`, so every statement here holds for ALL texts (a `'\n'` is just a `\s` character).
-/

namespace C06Regex
open Rx Text RxPatterns

/-! ## the character classes of `ExprScan` are the ones of the engine -/

theorem isPySpace_eq : ExprScan.isPySpace = isSpace := funext C02.isPySpace_eq

theorem skipWs_eq (t : Chars) : ExprScan.skipWs t = lstripL t := by
  unfold ExprScan.skipWs lstripL; rw [isPySpace_eq]

theorem exIdStart_eq : ExprScan.isIdStart = isIdStart := by
  funext c
  have e : (c = '_') ↔ c.toNat = 95 := by rw [← Char.toNat_inj]; rfl
  simp only [ExprScan.isIdStart, isIdStart]
  rw [Bool.eq_iff_iff]
  simp [e]

theorem exIsWord_eq : ExprScan.isWord = isWord := rfl

theorem digit_test : Atom.digit.test = ExprScan.isDigit := rfl

theorem space_not_digit {c : Char} (h : isSpace c = true) : isDigitU c = false := by
  cases hd : isDigitU c with
  | false => rfl
  | true => rw [← C02.isPySpace_eq, C02.digit_not_space hd] at h; cases h

/-! ## a greedy star whose continuation accepts the longest run -/

def Total (k : K) : Prop := ∀ s : St, (k s).isSome = true

theorem total_some_of {k : K} (hk : Total k) (s : St) : ∃ v, k s = some v := by
  cases h : k s with
  | none => have := hk s; rw [h] at this; cases this
  | some v => exact ⟨v, rfl⟩

theorem star_atom_first (a : Atom) (st : St) (k : K) (v : St) (h : k (skip a.test st) = some v) :
    (Rx.star (.one a)).m st k = some v := by
  rw [star_atom_backoff]
  exact backoff_some k st v _ (by rw [adv_takeWhile]; exact h)

/-- `[A-Za-z_]\w*` in front of a continuation that accepts after ALL word characters -/
theorem ident_first (st : St) (k : K) (hk : Total k) :
    ident.m st k = match Scan.ident? st.rest with
      | some (name, r) => k ⟨st.pos + name.length, r, st.caps⟩
      | none => none := by
  simp only [ident, seq_m, one_m', step, idStart_test]
  cases hr : st.rest with
  | nil => simp [Scan.ident?]
  | cons c cs =>
    by_cases hc : isIdStart c = true
    · simp only [hc, if_true, Scan.ident?]
      obtain ⟨v, hv⟩ := total_some_of hk (skip Atom.word.test ⟨st.pos + 1, cs, st.caps⟩)
      rw [star_atom_first _ _ _ v hv, ← hv]
      simp [skip, word_test, Nat.add_assoc, Nat.add_comm 1]
    · simp [hc, Scan.ident?]

/-- a non-empty sequence of literal characters, each with its own escape spelling -/
def litSeq : Bool × Char → List (Bool × Char) → Rx
  | x, [] => .one (.lit x.1 x.2)
  | x, y :: ys => .one (.lit x.1 x.2) ⬝ litSeq y ys

theorem litSeq_m : ∀ (xs : List (Bool × Char)) (x : Bool × Char) (st : St) (k : K),
    (litSeq x xs).m st k = match ExprScan.stripPrefix? ((x :: xs).map (·.2)) st.rest with
      | some r => k ⟨st.pos + (xs.length + 1), r, st.caps⟩
      | none => none
  | [], x, st, k => by
    simp only [litSeq, one_m', step_lit, List.map]
    cases st.rest with
    | nil => rfl
    | cons c t =>
      by_cases hc : c = x.2
      · subst hc; simp [ExprScan.stripPrefix?]
      · have : ¬ x.2 = c := fun e => hc e.symm
        simp [ExprScan.stripPrefix?, hc, this]
  | y :: ys, x, st, k => by
    simp only [litSeq, seq_m, one_m', step_lit, List.map]
    cases st.rest with
    | nil => simp [ExprScan.stripPrefix?]
    | cons c t =>
      by_cases hc : c = x.2
      · subst hc
        simp only [if_true, ExprScan.stripPrefix?]
        rw [litSeq_m ys y]
        simp only [List.map, List.length_cons]
        cases ExprScan.stripPrefix? (y.2 :: ys.map (·.2)) t with
        | none => rfl
        | some r => simp [Nat.add_assoc, Nat.add_comm 1]
      · have : ¬ x.2 = c := fun e => hc e.symm
        simp [ExprScan.stripPrefix?, hc, this]

theorem stripPrefix_len {p t r : List Char} (h : ExprScan.stripPrefix? p t = some r) : p.length + r.length = t.length := by
  rw [C02.stripPrefix_spec p t r h, List.length_append]

/-- the alternation of literal sequences, in order -/
def altsLit {α : Type} : (Bool × Char) × List (Bool × Char) × α → List ((Bool × Char) × List (Bool × Char) × α) → Rx
  | a, [] => litSeq a.1 a.2.1
  | a, b :: bs => .alt (litSeq a.1 a.2.1) (altsLit b bs)

def plainAlts {α : Type} (L : List ((Bool × Char) × List (Bool × Char) × α)) : List (List Char × α) :=
  L.map fun a => ((a.1 :: a.2.1).map (·.2), a.2.2)

/-- **an alternation of literals in front of a continuation that always accepts = `ExprScan.firstAlt`** -/
theorem altsLit_m {α : Type} (k : K) (hk : Total k) :
    ∀ (bs : List ((Bool × Char) × List (Bool × Char) × α)) (a : (Bool × Char) × List (Bool × Char) × α) (st : St),
      (altsLit a bs).m st k = match ExprScan.firstAlt (plainAlts (a :: bs)) st.rest with
        | some (_, r) => k ⟨st.pos + (st.rest.length - r.length), r, st.caps⟩
        | none => none
  | [], a, st => by
    simp only [altsLit, litSeq_m, plainAlts, List.map, ExprScan.firstAlt]
    cases hs : ExprScan.stripPrefix? (a.1.2 :: a.2.1.map (·.2)) st.rest with
    | none => rfl
    | some r =>
      have := stripPrefix_len hs
      simp only [List.length_cons, List.length_map] at this
      simp only []
      rw [show st.rest.length - r.length = a.2.1.length + 1 from by omega]
  | b :: bs, a, st => by
    rw [altsLit, alt_m, litSeq_m, altsLit_m k hk bs b st]
    simp only [plainAlts, List.map, ExprScan.firstAlt]
    cases hs : ExprScan.stripPrefix? (a.1.2 :: a.2.1.map (·.2)) st.rest with
    | none => simp
    | some r =>
      have := stripPrefix_len hs
      simp only [List.length_cons, List.length_map] at this
      simp only []
      rw [show st.rest.length - r.length = a.2.1.length + 1 from by omega]
      obtain ⟨v, hv⟩ := total_some_of hk ⟨st.pos + (a.2.1.length + 1), r, st.caps⟩
      simp [hv]

theorem ws_lit_end (e : Bool) (c : Char) (hc : isSpace c = false) (st : St) (k : K) :
    (ws ⬝ Rx.one (.lit e c)).m st k = match lstripL st.rest with
      | x :: r => if x = c then k ⟨st.pos + (st.rest.takeWhile isSpace).length + 1, r, st.caps⟩ else none
      | [] => none := by
  rw [seq_m, ws_det _ _ (avoids_lit e hc k), one_m']
  exact step_lit e c _ _

theorem rejects_ws_lit_end (p : Char → Bool) (e : Bool) (c : Char) (hp : ∀ x, p x = true → isSpace x = false ∧ x ≠ c) (k : K) :
    RejectsHead p (fun st => (ws ⬝ Rx.one (.lit e c)).m st k) :=
  (Avoids.ws_seq (avoids_one (a := .lit e c) fun x hx => beq_eq_false_iff_ne.mpr (hp x hx).2) fun x hx => (hp x hx).1) k

/-! ## `_R_EXPR_NUMBER`: the pieces, in front of a continuation that always accepts -/

theorem sign_test (x : Char) : (Atom.cls false [.ch false '+', .ch false '-']).test x = (x == '+' || x == '-') := by
  simp only [Atom.test, Item.test, List.any_cons, List.any_nil, Bool.or_false]
  cases (x == '+' || x == '-') <;> rfl

theorem scanFrac_len (x : Chars) : (ExprScan.scanFrac x).2.length ≤ x.length := by
  have := congrArg List.length (C13.scanFrac_sound x).1
  rw [C13Bridge.scanFrac_bridge]
  rw [List.length_append] at this
  dsimp only; omega

/-- the digit run `\d*` / tail of `\d+` in front of a total continuation -/
theorem digits_first (st : St) (k : K) (hk : Total k) :
    (Rx.star (.one .digit)).m st k = k ⟨st.pos + (st.rest.takeWhile ExprScan.isDigit).length, st.rest.dropWhile ExprScan.isDigit, st.caps⟩ := by
  obtain ⟨v, hv⟩ := total_some_of hk (skip Atom.digit.test st)
  rw [star_atom_first _ _ _ v hv, ← hv]; rfl

end C06Regex
