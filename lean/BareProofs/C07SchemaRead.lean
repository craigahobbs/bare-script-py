import BareProofs.C07SchemaInv

/-!
# C07Schema — reading inverts writing (`scriptOf (scriptW P) = zeroL P`), and `renumber` changes nothing but the function ids
-/

namespace C07Schema
open Schema PJson Gen

mutual
/-- all function ids set to 0 (what `scriptOf` produces: the schema has no such member) -/
def zeroS : Stmt → Stmt
  | .function _ n args laa isAsync body => .function 0 n args laa isAsync (zeroL body)
  | s => s
def zeroL : List Stmt → List Stmt
  | [] => []
  | s :: r => zeroS s :: zeroL r
end

mutual
/-- the function ids of a statement list in source (pre-)order -/
def fidsS : Stmt → List Nat
  | .function f _ _ _ _ body => f :: fidsL body
  | _ => []
def fidsL : List Stmt → List Nat
  | [] => []
  | s :: r => fidsS s ++ fidsL r
end

mutual
theorem zeroS_renumS : ∀ (s : Stmt) (i : Nat), zeroS (renumS s i).1 = zeroS s
  | .function _ n args laa isAsync body, i => by simp [renumS, zeroS, zeroL_renumL body (i + 1)]
  | .expr .., _ | .jump .., _ | .ret _, _ | .label _, _ | .include _, _ => rfl
theorem zeroL_renumL : ∀ (ss : List Stmt) (i : Nat), zeroL (renumL ss i).1 = zeroL ss
  | [], _ => rfl
  | s :: r, i => by simp [renumL, zeroL, zeroS_renumS s i, zeroL_renumL r]
end

mutual
theorem stmtJ_zeroS : ∀ s : Stmt, stmtJ (zeroS s) = stmtJ s
  | .function _ n args laa isAsync body => by simp [zeroS, stmtJ, stmtsJ_zeroL body]
  | .expr .. | .jump .. | .ret _ | .label _ | .include _ => rfl
theorem stmtsJ_zeroL : ∀ ss : List Stmt, stmtsJ (zeroL ss) = stmtsJ ss
  | [] => rfl
  | s :: r => by simp [zeroL, stmtsJ, stmtJ_zeroS s, stmtsJ_zeroL r]
end

mutual
theorem stmtW_zeroS : ∀ s : Stmt, stmtW (zeroS s) = stmtW s
  | .function _ n args laa isAsync body => by simp [zeroS, stmtW, stmtsW_zeroL body]
  | .expr .. | .jump .. | .ret _ | .label _ | .include _ => rfl
theorem stmtsW_zeroL : ∀ ss : List Stmt, stmtsW (zeroL ss) = stmtsW ss
  | [] => rfl
  | s :: r => by simp [zeroL, stmtsW, stmtW_zeroS s, stmtsW_zeroL r]
end

mutual
theorem wfS_zeroS : ∀ s : Stmt, wfS (zeroS s) = wfS s
  | .function _ n args laa isAsync body => by simp [zeroS, wfS, wfL_zeroL body]
  | .expr .. | .jump .. | .ret _ | .label _ | .include _ => rfl
theorem wfL_zeroL : ∀ ss : List Stmt, wfL (zeroL ss) = wfL ss
  | [] => rfl
  | s :: r => by simp [zeroL, wfL, wfS_zeroS s, wfL_zeroL r]
end

mutual
theorem namesS_zeroS : ∀ s : Stmt, namesS (zeroS s) = namesS s
  | .function _ n args laa isAsync body => by simp [zeroS, namesS, namesL_zeroL body]
  | .expr .. | .jump .. | .ret _ | .label _ | .include _ => rfl
theorem namesL_zeroL : ∀ ss : List Stmt, namesL (zeroL ss) = namesL ss
  | [] => rfl
  | s :: r => by simp [zeroL, namesL, namesS_zeroS s, namesL_zeroL r]
end

mutual
theorem renumS_zeroS : ∀ (s : Stmt) (i : Nat), renumS (zeroS s) i = renumS s i
  | .function _ n args laa isAsync body, i => by simp [renumS, zeroS, renumL_zeroL body (i + 1)]
  | .expr .., _ | .jump .., _ | .ret _, _ | .label _, _ | .include _, _ => rfl
theorem renumL_zeroL : ∀ (ss : List Stmt) (i : Nat), renumL (zeroL ss) i = renumL ss i
  | [], _ => rfl
  | s :: r, i => by simp [renumL, zeroL, renumS_zeroS s i, renumL_zeroL r]
end

theorem renumber_zeroL (P : List Stmt) : renumber (zeroL P) = renumber P := by simp [renumber, renumL_zeroL]

theorem zeroL_renumber (P : List Stmt) : zeroL (renumber P) = zeroL P := zeroL_renumL P 0

/-- whatever does not look at function ids does not see `renumber` -/
theorem renumber_invariant {α : Type} {f : List Stmt → α} (hf : ∀ P, f (zeroL P) = f P) (P : List Stmt) :
    f (renumber P) = f P := by
  rw [← hf (renumber P), zeroL_renumber, hf]

theorem scriptJ_renumber (P : List Stmt) : scriptJ (renumber P) = scriptJ P :=
  renumber_invariant (f := scriptJ) (fun P => by simp only [scriptJ, stmtsJ_zeroL]) P

theorem scriptW_renumber (P : List Stmt) : scriptW (renumber P) = scriptW P :=
  renumber_invariant (f := scriptW) (fun P => by simp only [scriptW, stmtsW_zeroL]) P

theorem wfL_renumber (P : List Stmt) : wfL (renumber P) = wfL P := renumber_invariant wfL_zeroL P

theorem namesL_renumber (P : List Stmt) : namesL (renumber P) = namesL P := renumber_invariant namesL_zeroL P

mutual
theorem fidsS_renumS : ∀ (s : Stmt) (i : Nat),
    fidsS (renumS s i).1 = List.range' i (fidsS s).length ∧ (renumS s i).2 = i + (fidsS s).length
  | .function _ n args laa isAsync body, i => by
      obtain ⟨h1, h2⟩ := fidsL_renumL body (i + 1)
      refine ⟨?_, ?_⟩
      · simp [renumS, fidsS, h1, List.range'_succ]
      · simp [renumS, fidsS, h2]; omega
  | .expr .., _ | .jump .., _ | .ret _, _ | .label _, _ | .include _, _ => by simp [renumS, fidsS]
theorem fidsL_renumL : ∀ (ss : List Stmt) (i : Nat),
    fidsL (renumL ss i).1 = List.range' i (fidsL ss).length ∧ (renumL ss i).2 = i + (fidsL ss).length
  | [], _ => by simp [renumL, fidsL]
  | s :: r, i => by
      obtain ⟨h1, h2⟩ := fidsS_renumS s i
      obtain ⟨h3, h4⟩ := fidsL_renumL r (renumS s i).2
      rw [h2] at h3 h4
      refine ⟨?_, ?_⟩
      · simp only [renumL, fidsL, h1, h3, h2, List.length_append]
        rw [List.range'_append_1]
      · simp only [renumL, fidsL, h4, h2, List.length_append]; omega
end

/-- `renumber` assigns `0, 1, …, n-1` in source order (so the ids are pairwise distinct) -/
theorem fids_renumber (P : List Stmt) : fidsL (renumber P) = List.range (fidsL P).length := by
  rw [renumber, (fidsL_renumL P 0).1, List.range_eq_range']

/-! ## reading the validated copy of `exprJ e` / `stmtJ s` gives `e` / `s` back -/

theorem nameOk_eq {n : Name} (h : nameOk n = true) : Name.ofString n.render = n := by simpa [nameOk] using h

mutual
theorem exprOf_exprW : ∀ e : Expr, namesE e = true → exprOf (exprW e) = some e
  | .number q, _ => by simp [exprW, mk, exprOf, ratOf_ratToJson]
  | .string s, _ => by simp [exprW, mk, exprOf]
  | .variable n, h => by
      have hn : nameOk n = true := by simpa [namesE] using h
      simp [exprW, mk, exprOf, nameOk_eq hn]
  | .group e, h => by
      have he : namesE e = true := by simpa [namesE] using h
      simp [exprW, mk, exprOf, exprOf_exprW e he]
  | .unary op e, h => by
      have he : namesE e = true := by simpa [namesE] using h
      simp [exprW, mk, exprOf, unOf, unop_ofText, exprOf_exprW e he]
  | .binary op l r, h => by
      have hlr : namesE l = true ∧ namesE r = true := by simpa [namesE] using h
      simp [exprW, mk, exprOf, binOf, binop_ofText, exprOf_exprW l hlr.1, exprOf_exprW r hlr.2]
  | .function n args, h => by
      have hna : nameOk n = true ∧ namesEs args = true := by simpa [namesE] using h
      simp [exprW, mk, exprOf, fnExprOf, exprsOf_exprsW args hna.2, nameOk_eq hna.1]
theorem exprsOf_exprsW : ∀ es : List Expr, namesEs es = true → exprsOf (exprsW es) = some es
  | [], _ => rfl
  | e :: r, h => by
      have her : namesE e = true ∧ namesEs r = true := by simpa [namesEs] using h
      simp [exprsW, exprsOf, exprOf_exprW e her.1, exprsOf_exprsW r her.2]
end

theorem strsOf_names : ∀ args : List Name, strsOf (args.map fun a => PJson.str a.render) = some (args.map Name.render)
  | [] => rfl
  | a :: r => by simp [strsOf, strsOf_names r]

theorem ofString_renders : ∀ args : List Name, args.all nameOk = true → (args.map Name.render).map Name.ofString = args
  | [], _ => rfl
  | a :: r, h => by
      have har : nameOk a = true ∧ r.all nameOk = true := by simpa using h
      simp [nameOk_eq har.1, ofString_renders r har.2]

theorem incOf_incW (i : IncludeScript) : incOf (incW i) = some i := by
  cases i with
  | mk url system => cases system <;> simp [incW, mk, incOf, incFieldsOf]

theorem incsOf_incW : ∀ incs : List IncludeScript, incsOf (incs.map incW) = some incs
  | [] => rfl
  | i :: r => by simp [incsOf, incOf_incW i, incsOf_incW r]

mutual
theorem stmtOf_stmtW : ∀ s : Stmt, namesS s = true → stmtOf (stmtW s) = some (zeroS s)
  | .expr none e, h => by
      have he : namesE e = true := by simpa [namesS] using h
      simp [stmtW, mk, stmtOf, exprStmtOf, exprOf_exprW e he, zeroS]
  | .expr (some n) e, h => by
      have hne : nameOk n = true ∧ namesE e = true := by simpa [namesS] using h
      simp [stmtW, mk, stmtOf, exprStmtOf, exprOf_exprW e hne.2, nameOk_eq hne.1, zeroS]
  | .jump l none, h => by
      have hl : nameOk l = true := by simpa [namesS, namesO] using h
      simp [stmtW, mk, stmtOf, jumpOf, nameOk_eq hl, zeroS]
  | .jump l (some c), h => by
      have hlc : nameOk l = true ∧ namesE c = true := by simpa [namesS, namesO] using h
      simp [stmtW, mk, stmtOf, jumpOf, exprOf_exprW c hlc.2, nameOk_eq hlc.1, zeroS]
  | .ret none, _ => by simp [stmtW, mk, stmtOf, retOf, zeroS]
  | .ret (some e), h => by
      have he : namesE e = true := by simpa [namesS, namesO] using h
      simp [stmtW, mk, stmtOf, retOf, exprOf_exprW e he, zeroS]
  | .label l, h => by
      have hl : nameOk l = true := by simpa [namesS] using h
      simp [stmtW, mk, stmtOf, nameOk_eq hl, zeroS]
  | .include incs, _ => by simp [stmtW, mk, stmtOf, incsOf_incW, zeroS]
  | .function fid n args laa isAsync body, h => by
      have hh : (nameOk n = true ∧ args.all nameOk = true) ∧ namesL body = true := by simpa [namesS] using h
      have hb := stmtsOf_stmtsW body hh.2
      cases args with
      | nil =>
        cases laa <;> cases isAsync <;> simp [stmtW, mk, stmtOf, fnStmtOf, hb, nameOk_eq hh.1.1, zeroS]
      | cons a as =>
        have h1 := strsOf_names (a :: as)
        have h2 := ofString_renders (a :: as) hh.1.2
        simp only [List.map_cons] at h1 h2
        have h2' : Name.ofString a.render = a ∧ List.map (Name.ofString ∘ Name.render) as = as := by simpa using h2
        cases laa <;> cases isAsync <;> simp [stmtW, mk, stmtOf, fnStmtOf, hb, h1, h2', nameOk_eq hh.1.1, zeroS]
theorem stmtsOf_stmtsW : ∀ ss : List Stmt, namesL ss = true → stmtsOf (stmtsW ss) = some (zeroL ss)
  | [], _ => rfl
  | s :: r, h => by
      have hsr : namesS s = true ∧ namesL r = true := by simpa [namesL] using h
      simp [stmtsW, stmtsOf, stmtOf_stmtW s hsr.1, stmtsOf_stmtsW r hsr.2, zeroL]
end

theorem scriptOf_scriptW (P : List Stmt) (h : namesL P = true) : scriptOf (scriptW P) = some (zeroL P) := by
  simp [scriptW, mk, scriptOf, stmtsOf_stmtsW P h]

end C07Schema
