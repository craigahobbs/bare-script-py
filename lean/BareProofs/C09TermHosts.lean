import BareProofs.C09TermLemmas
import BareProofs.HostLibBridge

/-!
# C09Term, hosts file — `HostWF` for the two concrete hosts, on the part of the state space where it is true

`HostImpl.host` / `HostLib.hostLib` are **not** well-founded on all states (`C09.Counter` in `C09Term.lean`: the
partial application `systemPartial(arrayIndexOf, a)` stored in `a` makes `arrayIndexOf(a, p)` call itself back for
ever).  The only call-backs of the two hosts are the match-function form of `arrayIndexOf` and partial applications
(`Shape.each`, `Shape.apply`), and a call-back cycle needs both.  `hostWF hs m` establishes `HostWF` for any host with a
`HostShape`, for the two maximal ways of excluding that, each as a value-level invariant (`vok m`) that every host
operation preserves:

* `m = true`:  no value is the function `systemPartial` or a partial application;
* `m = false`: no value is the function `arrayIndexOf`; partial applications are allowed, but every `other j` that occurs
  anywhere refers to an existing table entry (`j < partials.length` — no dangling or forward reference, so a partial's
  target is an earlier partial or a library/script function: rank `k + 2` for entry `k`).
-/

open Machine
namespace C09
open HostShape (View Shape)

def vok (m : Bool) (n : Nat) : Value → Bool
  | .fn (.lib name) => if m then name != "systemPartial" else name != "arrayIndexOf"
  | .fn (.other j) => if m then false else decide (j < n)
  | _ => true

theorem vok_mono {m : Bool} {n n' : Nat} (h : n ≤ n') {v : Value} (hv : vok m n v = true) : vok m n' v = true := by
  unfold vok at *
  split <;> simp_all
  omega

theorem vok_nonfn {m : Bool} {n : Nat} {v : Value} (h : ∀ f, v ≠ .fn f) : vok m n v = true := by
  cases v <;> first | rfl | exact absurd rfl (h _)

def PartialsOk (m : Bool) (ps : List (Value × List Value)) : Prop :=
  m = false → ∀ k f pre, ps[k]? = some (f, pre) → vok false k f = true ∧ ∀ a ∈ pre, vok false ps.length a = true

/-- rank of a call of a host callable: the match-function form of `arrayIndexOf` (two arguments) calls back with one
argument; a partial application calls its target, which is an earlier partial or a library function -/
def hostRank : FnVal → List Value → Nat
  | .lib name, args => if name == "arrayIndexOf" && args.length == 2 then 1 else 0
  | .other k, _ => k + 2
  | .script _, _ => 0

section
variable {W : Type} {V : View W} {m : Bool}

def lenExt (V : View W) : Ext W :=
  ⟨fun w w' => (V.partials w).length ≤ (V.partials w').length, fun _ => Nat.le_refl _, fun h1 h2 => Nat.le_trans h1 h2⟩

def WorldOk (V : View W) (m : Bool) (w : W) : Prop :=
  V.heapAll (vok m (V.partials w).length · = true) w ∧ PartialsOk m (V.partials w)

def wfData (V : View W) (m : Bool) : WFData W :=
  { E := lenExt V, ok := fun w v => vok m (V.partials w).length v = true, okW := WorldOk V m, rank := fun _ => hostRank }

theorem ret_wf {r : Nat} {w w' : W} {out : LibOut} (hp : V.partials w' = V.partials w)
    (hh : V.heapAll (vok m (V.partials w).length · = true) w') (hw : WorldOk V m w)
    (hv : ∀ v, out.val? = some v → vok m (V.partials w).length v = true) : TreeWF (wfData V m) r w (.ret out w') := by
  refine .ret ?_ ?_ ?_
  · show (V.partials w).length ≤ (V.partials w').length
    rw [hp]; exact Nat.le_refl _
  · show WorldOk V m w'
    unfold WorldOk; rw [hp]; exact ⟨hh, hw.2⟩
  · show ∀ v, out.val? = some v → vok m (V.partials w').length v = true
    rw [hp]; exact hv

/-- `systemPartial` appends an entry whose target and arguments were admissible before: the new reference is the only
one to it -/
theorem partial_wf {r : Nat} {w w' : W} {f : FnVal} {a : Value} {as : List Value} (hw : WorldOk V false w)
    (ha : ∀ x ∈ Value.fn f :: a :: as, vok false (V.partials w).length x = true)
    (hp : V.partials w' = V.partials w ++ [(.fn f, a :: as)]) (hh : ∀ Q, V.heapAll Q w → V.heapAll Q w') :
    TreeWF (wfData V false) r w (.ret (.ok (.fn (.other (V.partials w).length))) w') := by
  have hlen : (V.partials w').length = (V.partials w).length + 1 := by rw [hp]; simp
  refine .ret ?_ ⟨?_, ?_⟩ ?_
  · show (V.partials w).length ≤ (V.partials w').length
    omega
  · exact hh _ (V.mono (fun _ => vok_mono (by omega)) hw.1)
  · intro _ k f' pre hk
    rw [hlen]
    rw [hp] at hk
    by_cases hlt : k < (V.partials w).length
    · rw [List.getElem?_append_left hlt] at hk
      obtain ⟨h1, h2⟩ := hw.2 rfl k f' pre hk
      exact ⟨h1, fun x hx => vok_mono (by omega) (h2 x hx)⟩
    · rw [List.getElem?_append_right (by omega), List.getElem?_singleton] at hk
      split at hk
      · cases hk
        obtain rfl : k = (V.partials w).length := by omega
        exact ⟨ha _ List.mem_cons_self, fun x hx => vok_mono (by omega) (ha x (List.mem_cons_of_mem _ hx))⟩
      · cases hk
  · intro v hv
    cases hv
    show vok false (V.partials w').length (.fn (.other (V.partials w).length)) = true
    simp [vok, hlen]

/-- an admissible match function is a script function or a library function; called with one argument it has rank 0 -/
theorem each_rank {w : W} {f x : Value} {n : Nat} (hf : vok true n f = true) :
    callRank (fun _ => hostRank) w f [x] ≤ 1 := by
  cases f with
  | fn fv =>
    cases fv with
    | script id => exact Nat.zero_le _
    | lib n => show hostRank (.lib n) [x] + 1 ≤ 1; simp [hostRank]
    | other k => simp [vok] at hf
  | _ => exact Nat.zero_le _

/-- entry `k` of the table calls its target, an earlier entry or a library / script function, then returns its answer -/
theorem apply_wf {w : W} {k : Nat} {f : Value} {pre args : List Value} (hw : WorldOk V false w)
    (hk : (V.partials w)[k]? = some (f, pre)) (hlt : k < (V.partials w).length)
    (ha : ∀ a ∈ args, vok false (V.partials w).length a = true) :
    TreeWF (wfData V false) (k + 2) w (.call f (pre ++ args) w fun r w1 => .ret (.ok r) w1) := by
  obtain ⟨h1, h2⟩ := hw.2 rfl k f pre hk
  refine .call (Nat.le_refl _) hw (vok_mono (Nat.le_of_lt hlt) h1)
    (fun a ha' => (List.mem_append.1 ha').elim (h2 a) (ha a)) ?_
    fun v w1 _ hw1 hv => ret_wf rfl hw1.1 hw1 fun x hx => by cases hx; exact hv
  show callRank (fun _ => hostRank) w f (pre ++ args) ≤ k + 2
  cases f with
  | fn fv =>
    cases fv with
    | script id => exact Nat.zero_le _
    | lib n => simp only [callRank, hostRank]; split <;> omega
    | other j =>
      have : j < k := by simpa [vok] using h1
      simp only [callRank, hostRank]; omega
  | _ => exact Nat.zero_le _

/-- the tree of an admissible callable, called with admissible arguments in an admissible world `w0`, from any later
admissible world on: `vok m n` is monotone in the length `n` of the table, which only grows -/
theorem _root_.HostShape.Shape.wf {fn : FnVal} {args : List Value} {w0 w : W} {t : LibTree W}
    (h : Shape V fn args w0 w t) (hf : vok m (V.partials w0).length (.fn fn) = true)
    (ha : ∀ a ∈ args, vok m (V.partials w0).length a = true)
    (h0 : V.heapAll (vok m (V.partials w0).length · = true) w0) :
    (V.partials w0).length ≤ (V.partials w).length → WorldOk V m w → TreeWF (wfData V m) (hostRank fn args) w t := by
  have hG : ∀ {n}, (V.partials w0).length ≤ n → Given (vok m n · = true) args :=
    fun hn => ⟨fun v h => vok_nonfn h, fun a h => vok_mono hn (ha a h)⟩
  have h0' : ∀ {n}, (V.partials w0).length ≤ n → V.heapAll (vok m n · = true) w0 :=
    fun hn => V.mono (fun _ => vok_mono hn) h0
  induction h with
  | ret hp _ hq =>
    intro hle hw
    have hq := hq _ (hG hle) (h0' hle) hw.1
    exact ret_wf hp hq.1 hw hq.2
  | newPartial hn ha' hp _ hh =>
    intro hle hw
    subst hn ha'
    cases m with
    | true => simp [vok] at hf
    | false => exact partial_wf hw (fun x hx => vok_mono hle (ha x hx)) hp hh
  | each hn ha2 hq _ ih =>
    intro hle hw
    subst hn
    cases m with
    | false => simp [vok] at hf
    | true =>
      have hfx := hq _ (hG hle) (h0' hle)
      refine .call (Nat.le_refl _) hw hfx.1 (fun a ha' => List.mem_singleton.1 ha' ▸ hfx.2) ?_
        fun v w1 hle1 hw1 _ => ih v w1 (Nat.le_trans hle hle1) hw1
      have : hostRank (.lib "arrayIndexOf") args = 1 := by simp [hostRank, ha2]
      rw [this]
      exact each_rank hfx.1
  | apply hn hk =>
    intro hle hw
    subst hn
    cases m with
    | true => simp [vok] at hf
    | false =>
      exact apply_wf hw hk (Nat.lt_of_lt_of_le (by simpa [vok] using hf) hle) fun a h => vok_mono hle (ha a h)
  | globalGet hd =>
    intro hle hw
    refine .globalGet (Nat.le_refl _) hw fun v w1 hle1 hw1 hv => ret_wf rfl hw1.1 hw1 fun x hx => ?_
    cases hx
    cases v with
    | none => exact hd _ (hG (Nat.le_trans hle hle1))
    | some y => exact hv y rfl
  | globalSet hv =>
    intro hle hw
    exact .globalSet (Nat.le_refl _) hw (hv _ (hG hle)) fun w1 hle1 hw1 =>
      ret_wf rfl hw1.1 hw1 fun x hx => by cases hx; exact hv _ (hG (Nat.le_trans hle hle1))

/-- **hostWF.** A host whose trees are shapes is well-founded on the states without `systemPartial` and partial values
(`m = true`), and on the states without the function value `arrayIndexOf` (`m = false`, partial applications allowed). -/
def hostWF {host : Host W} (hs : HostShape V host) (m : Bool) : HostWF host where
  toWFData := wfData V m
  ok_mono := fun hle hv => vok_mono hle hv
  ok_null := fun _ => rfl
  ok_bool := fun _ _ => rfl
  ok_num := fun _ _ => rfl
  ok_str := fun _ _ => rfl
  ok_script := fun _ _ => rfl
  ok_builtin := fun _ n f h => by rw [hs.builtin] at h; cases h
  binop_ok := fun op a b w _ _ _ => vok_nonfn (hs.binop op a b w)
  neg_ok := fun v _ _ => vok_nonfn (hs.neg v)
  notCallable_ok := fun v w hw => (hs.notCallable v w).symm ▸ ⟨Nat.le_refl _, hw⟩
  logFailure_ok := fun w hw => (hs.logFailure w).symm ▸ ⟨Nat.le_refl _, hw⟩
  newArray_ok := fun xs w hw hx => by
    obtain ⟨⟨r, hr⟩, hp, _, hh⟩ := hs.newArray xs w
    refine ⟨Nat.le_of_eq (congrArg List.length hp).symm, ?_, ?_⟩
    · show WorldOk V m _
      unfold WorldOk; rw [hp]; exact ⟨hh _ hw.1 hx, hw.2⟩
    · show vok m _ (host.newArray xs w).1 = true
      rw [hr]; rfl
  lib_wf := fun name args w hw hf ha => (hs.lib name args w).wf hf ha hw.1 (Nat.le_refl _) hw
  other_wf := fun k args w hw hf ha => (hs.other k args w).wf hf ha hw.1 (Nat.le_refl _) hw

end

def hostImplWF (m : Bool) : HostWF HostImpl.host := hostWF implShape m

def hostLibWF (m : Bool) : HostWF HostLib.hostLib := hostWF HostLib.libShape m

theorem lib_wf (m : Bool) (name : String) (args : List Value) (w : HostImpl.World) (hw : WorldOk implView m w)
    (hf : vok m w.partials.length (.fn (.lib name)) = true) (ha : ∀ a ∈ args, vok m w.partials.length a = true) :
    TreeWF (wfData implView m) (hostRank (.lib name) args) w (HostImpl.lib name args w) :=
  (hostImplWF m).lib_wf name args w hw hf ha

section Checkers
open HostImpl HostLib

def partialsOkB (m : Bool) (ps : List (Value × List Value)) : Bool :=
  m || (List.range ps.length).all fun k =>
    match ps[k]? with
    | some (f, pre) => vok false k f && pre.all (vok false ps.length)
    | none => true

def globalsOkB (m : Bool) (n : Nat) (g : Env) : Bool := g.all fun p => vok m n p.2

def heapOkB (m : Bool) (n : Nat) (heap : List Cell) : Bool := heap.all fun c => (cellVals c).all (vok m n)

def lheapOkB (m : Bool) (n : Nat) (heap : Lib.Heap) : Bool :=
  heap.all fun c => (LibParam.lcellVals c).all fun v => vok m n (ofLib v)

/-- **admissible start state of `HostImpl`** (decidable): every value in the globals, in the heap and (for `m = false`)
in the table of partial applications passes `vok m`, and every partial's target is an earlier entry -/
def implStateOk (m : Bool) (st : State World) : Bool :=
  heapOkB m st.world.partials.length st.world.heap && partialsOkB m st.world.partials &&
    globalsOkB m st.world.partials.length st.globals

/-- **admissible start state of `HostLib`** (decidable) -/
def libStateOk (m : Bool) (st : State LWorld) : Bool :=
  lheapOkB m st.world.partials.length st.world.heap && partialsOkB m st.world.partials &&
    globalsOkB m st.world.partials.length st.globals

theorem partialsOkB_sound {m : Bool} {ps : List (Value × List Value)} (h : partialsOkB m ps = true) :
    PartialsOk m ps := by
  intro hm k f pre hk
  subst hm
  simp only [partialsOkB, Bool.false_or, List.all_eq_true, List.mem_range] at h
  obtain ⟨hlt, _⟩ := List.getElem?_eq_some_iff.1 hk
  have := h k hlt
  rw [hk] at this
  simp only [Bool.and_eq_true, List.all_eq_true] at this
  exact this

theorem globalsOkB_sound {m : Bool} {n : Nat} {g : Env} (h : globalsOkB m n g = true) : ∀ p ∈ g, vok m n p.2 = true := by
  simpa only [globalsOkB, List.all_eq_true] using h

theorem implStateOk_sound {m : Bool} {st : State World} (h : implStateOk m st = true) : SOK (hostImplWF m) st := by
  simp only [implStateOk, Bool.and_eq_true] at h
  refine ⟨⟨?_, partialsOkB_sound h.1.2⟩, globalsOkB_sound h.2⟩
  intro c hc v hv
  have := h.1.1
  simp only [heapOkB, List.all_eq_true] at this
  exact this c hc v hv

theorem libStateOk_sound {m : Bool} {st : State LWorld} (h : libStateOk m st = true) : SOK (hostLibWF m) st := by
  simp only [libStateOk, Bool.and_eq_true] at h
  refine ⟨⟨?_, partialsOkB_sound h.1.2⟩, globalsOkB_sound h.2⟩
  intro c hc
  have := h.1.1
  simp only [lheapOkB, List.all_eq_true] at this
  have hc' := this c hc
  cases c with
  | arr xs => exact fun x hx => hc' x hx
  | obj kvs => exact fun kv hkv => hc' kv.2 (List.mem_map.2 ⟨kv, hkv, rfl⟩)

end Checkers

end C09
