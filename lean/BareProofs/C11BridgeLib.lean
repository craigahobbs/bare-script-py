import BareProofs.C11BridgeHostLib
import BareProofs.HostLibBridge
import BareProofs.C15MoreSortLemmas

/-!
# C11Bridge, third comparison — `Lib.valueCompare` (the comparison inside the `Lib` library model)

`HostLib.hostLib` answers `arrayIndexOf` (value needle) with the `Lib` model, whose search compares with `Lib.valueCompare`
(`Lib.vcmp`, fuel `heap.length + 1`, `none` on dangling references) over `Lib.Value`s.  On the values of an `LWorld` that denote
*well-formed* closed values (`Compare.WFValue`: the keys of every object are pairwise different — `Lib.sortKV` is an insertion
sort from the right, `Compare.sortItems` one from the left; they agree when no key repeats, which is always the case
for a Python `dict`) it is again `Compare.valueCompare`, so the value-needle searches of `hostLib` are `Compare.arrayIndexOf` /
`Compare.arrayLastIndexOf` on the closed values.  The searches are read off the reference bodies `Lib.Spec.arrayIndexOfS` /
`arrayLastIndexOfS` (`C15.lib_eq_specLib`), which walk the list where the Python-shaped bodies walk a range of indices.
-/

namespace C11Bridge
open Machine HostLib Lib.Spec

theorem lib_typeName (v : Lib.Value) : Lib.typeName v = HostImpl.typeName (ofLib v) := by cases v <;> rfl

theorem toImpl_arr? (w : LWorld) (r : Nat) : w.toImpl.arr? r = (Lib.getArr w.heap r).map (·.map ofLib) := by
  simp only [HostImpl.World.arr?, LWorld.toImpl, Lib.getArr, List.getElem?_map]
  cases w.heap[r]? with
  | none => rfl
  | some c => cases c <;> rfl

theorem toImpl_obj? (w : LWorld) (r : Nat) :
    w.toImpl.obj? r = (Lib.getObj w.heap r).map (·.map fun kv => (kv.1, ofLib kv.2)) := by
  simp only [HostImpl.World.obj?, LWorld.toImpl, Lib.getObj, List.getElem?_map]
  cases w.heap[r]? with
  | none => rfl
  | some c => cases c <;> rfl

/-- what the projection of an `LWorld` reifies to, when well-formed, is what `C15More.reify` reads back from the `Lib` heap -/
theorem reify_lib (w : LWorld) : ∀ (n : Nat) (x : Lib.Value) (p : Compare.PValue),
    reifyF w.toImpl n (ofLib x) = some p → Compare.WFValue p = true → C15More.reify n w.heap x = some p := by
  intro n
  induction n with
  | zero => intro _ _ h; cases h
  | succ n ih =>
    intro x p h hw
    cases x with
    | arr r =>
      obtain ⟨xs, pxs, hxs, hm, rfl⟩ := (reifyF_arr w.toImpl n r p).mp h
      rw [toImpl_arr?] at hxs
      obtain ⟨lxs, hg, rfl⟩ := Option.map_eq_some_iff.mp hxs
      rw [mapOpt_map] at hm
      rw [C15More.reify_arr, hg, Option.bind_some, mapM_eq_mapOpt,
        mapOpt_congr _ _ lxs pxs (fun x _ y hy hxy => ih x y hxy (C11.wfList_mem pxs hw y hy)) hm]
      rfl
    | obj r =>
      obtain ⟨kvs, pkvs, hxs, hm, rfl⟩ := (reifyF_obj w.toImpl n r p).mp h
      rw [toImpl_obj?] at hxs
      obtain ⟨lkvs, hg, rfl⟩ := Option.map_eq_some_iff.mp hxs
      obtain ⟨hk, hwi⟩ := Bool.and_eq_true_iff.mp hw
      have hm' : mapOpt (itemOpt (C15More.reify n w.heap)) lkvs = some pkvs :=
        mapOpt_congr _ _ lkvs pkvs (fun x _ y hy hxy => (itemOpt_iff _ x y).mpr
          (((reifyItem_iff _ _ y).mp hxy).imp id (ih x.2 y.2 · (C11.wfItems_mem pkvs hwi y hy)))) (mapOpt_map _ _ lkvs ▸ hm)
      rw [C15More.reify_obj, hg, Option.bind_some, if_pos (mapOpt_item_keys _ _ _ hm' ▸ of_decide_eq_true hk)]
      exact (congrArg (Option.map _) ((mapM_eq_mapOpt _ lkvs).trans hm') :)
    | fn i => cases h; exact congrArg (some ∘ Compare.PValue.fn) (encFn_decFn i).symm
    | _ => cases h; rfl

theorem vcmp_bridge (w : LWorld) (n : Nat) (a : Lib.Value) (pa : Compare.PValue) (ha : reifyF w.toImpl n (ofLib a) = some pa)
    (hwa : Compare.WFValue pa = true) (m : Nat) (b : Lib.Value) (pb : Compare.PValue)
    (hb : reifyF w.toImpl m (ofLib b) = some pb) (hwb : Compare.WFValue pb = true) (fuel : Nat) (hf : n ≤ fuel) :
    Lib.vcmp fuel w.heap a b = some (Compare.valueCompare pa pb) :=
  C15More.vcmp_reify_le fuel w.heap n m a b pa pb (reify_lib w n a pa ha hwa) (reify_lib w m b pb hb hwb) hf

theorem reify_of_reifyL (w : LWorld) (v : Value) (p : Compare.PValue) (h : reifyL w v = some p) (hw : Compare.WFValue p = true) :
    C15More.reify (w.heap.length + 1) w.heap (toLib v) = some p := by
  have hl : w.toImpl.heap.length = w.heap.length := by simp [LWorld.toImpl]
  unfold reifyL reify at h
  rw [hl] at h
  exact reify_lib w _ _ p (by rw [HostLib.ofLib_toLib]; exact h) hw

/-- **Bridge for the `Lib` comparison.**  On values of an `LWorld` that denote well-formed closed values, `Lib.valueCompare`
(fuel `heap.length + 1`) is `Compare.valueCompare` of the closed values. -/
theorem lib_compare_bridge (w : LWorld) (a b : Value) (pa pb : Compare.PValue) (ha : reifyL w a = some pa)
    (hb : reifyL w b = some pb) (hwa : Compare.WFValue pa = true) (hwb : Compare.WFValue pb = true) :
    Lib.valueCompare w.heap (toLib a) (toLib b) = some (Compare.valueCompare pa pb) :=
  C15More.vcmp_reify_le _ w.heap _ _ _ _ pa pb (reify_of_reifyL w a pa ha hwa) (reify_of_reifyL w b pb hb hwb) (Nat.le_refl _)

/-- the three comparisons of the framework agree: the `Lib` comparison on the heap of an `LWorld` and the machine comparison on
its projection both compute `Compare.valueCompare` of the denoted closed values -/
theorem lib_compare_agrees (w : LWorld) (a b : Value) (pa pb : Compare.PValue) (ha : reifyL w a = some pa)
    (hb : reifyL w b = some pb) (hwa : Compare.WFValue pa = true) (hwb : Compare.WFValue pb = true) :
    Lib.valueCompare w.heap (toLib a) (toLib b) = HostImpl.compare? w.toImpl a b := by
  rw [lib_compare_bridge w a b pa pb ha hb hwa hwb, hostLib_compare_bridge w a b pa pb ha hb]

example : Compare.WFValue exP0 = true ∧ Compare.WFValue exP1 = true ∧
    Lib.valueCompare exLW.heap (.arr 2) (.arr 3) = some 0 := by
  have h0 : Compare.WFValue exP0 = true := by decide
  have h1 : Compare.WFValue exP1 = true := by decide
  refine ⟨h0, h1, ?_⟩
  have := lib_compare_bridge exLW (.arr 2) (.arr 3) _ _ exLW_reify.1 exLW_reify.2.1 h0 h1
  rw [exP_cmp.1] at this
  exact this

theorem indexOfN_bridge (h : Lib.Heap) (lv : Lib.Value) (pv : Compare.PValue) (f : Lib.Value → Option Compare.PValue)
    (H : ∀ x px, f x = some px → Lib.valueCompare h x lv = some (Compare.valueCompare px pv)) :
    ∀ (suf : List Lib.Value) (psuf : List Compare.PValue) (s : Nat), mapOpt f suf = some psuf →
      searchResN (indexOfN h lv suf s) = .ret (Lib.numI (Compare.scanFrom pv s psuf))
  | [], psuf, s, hm => by rw [(mapOpt_nil_iff _ _).mp hm]; rfl
  | x :: suf, psuf, s, hm => by
    obtain ⟨px, psuf', h1, h2, rfl⟩ := (mapOpt_cons_iff _ _ _ _).mp hm
    simp only [indexOfN, H x px h1, Compare.scanFrom]
    by_cases h0 : Compare.valueCompare px pv = 0
    · simp [h0, searchResN, Lib.numN, Lib.numI]
    · simp only [h0, if_false, beq_iff_eq]; exact indexOfN_bridge h lv pv f H suf psuf' (s + 1) h2

theorem lib_search_setup (w : LWorld) (r : Nat) (v : Value) (pxs : List Compare.PValue) (pv : Compare.PValue)
    (hr : reifyL w (.arr r) = some (.arr pxs)) (hv : reifyL w v = some pv)
    (hwx : Compare.WFValue (.arr pxs) = true) (hwv : Compare.WFValue pv = true) :
    ∃ lxs, Lib.getArr w.heap r = some lxs ∧ mapOpt (C15More.reify w.heap.length w.heap) lxs = some pxs ∧
      ∀ x px, C15More.reify w.heap.length w.heap x = some px →
        Lib.valueCompare w.heap x (toLib v) = some (Compare.valueCompare px pv) := by
  have h := reify_of_reifyL w (.arr r) _ hr hwx
  rw [toLib, C15More.reify_arr] at h
  obtain ⟨lxs, hg, h⟩ := Option.bind_eq_some_iff.mp h
  obtain ⟨pxs', hm, e⟩ := Option.map_eq_some_iff.mp h
  cases e
  exact ⟨lxs, hg, mapM_eq_mapOpt _ lxs ▸ hm, fun x px hx =>
    C15More.vcmp_reify_le _ w.heap _ _ x (toLib v) px pv hx (reify_of_reifyL w v pv hv hwv) (Nat.le_succ _)⟩

theorem toLib_not_fn {v : Value} (hfn : ∀ f, v ≠ .fn f) : ∀ n, toLib v ≠ .fn n := fun n e => by
  cases v <;> first | exact absurd rfl (hfn _) | cases e

/-- `arrayIndexOf(array, value)` on `hostLib` — answered by the `Lib` model, whose search uses `Lib.valueCompare` — is
`Compare.arrayIndexOf` on the denoted (well-formed) closed values, exactly as on the first host (`machine_indexOf`). -/
theorem hostLib_indexOf (w : LWorld) (r : Nat) (v : Value) (pxs : List Compare.PValue) (pv : Compare.PValue)
    (hr : reifyL w (.arr r) = some (.arr pxs)) (hv : reifyL w v = some pv) (hfn : ∀ f, v ≠ .fn f)
    (hwx : Compare.WFValue (.arr pxs) = true) (hwv : Compare.WFValue pv = true) :
    ∃ i, Compare.arrayIndexOf pxs pv 0 = some i ∧
      hostLib.lib "arrayIndexOf" [.arr r, v] w =
        .ret (if pxs.length = 0 then .fail (.num ((-1 : Int) : Rat)) else .ok (.num (i : Rat))) w := by
  obtain ⟨lxs, hgx, hmx, H⟩ := lib_search_setup w r v pxs pv hr hv hwx hwv
  have hlen := mapOpt_length _ lxs pxs hmx
  refine ⟨_, C11.arrayIndexOf_value (reify_not_fn w.toImpl v pv hv hfn) pxs 0, ?_⟩
  have hlib : Lib.Spec.specLib "arrayIndexOf" ([.arr r, v].map toLib) w.heap =
      (arrayIndexOfS [.one (.arr r), .one (toLib v), .one (Lib.numN 0)] w.heap).run w.heap := rfl
  have hsearch := indexOfN_bridge w.heap (toLib v) pv _ H lxs pxs 0 hmx
  have hS : arrayIndexOfS [.one (.arr r), .one (toLib v), .one (Lib.numN 0)] w.heap =
      if 0 < lxs.length then searchResN (indexOfN w.heap (toLib v) lxs 0) else .fail (Lib.numI (-1)) := by
    rw [Lib.numN, arrayIndexOfS, hgx]
    have := toLib_not_fn hfn
    cases hv' : toLib v <;> first | rfl | exact absurd hv' (this _)
  rw [hostLib_lib, HostLib.lib, C15.lib_eq_specLib, hlib, hS, hsearch, hlen]
  by_cases h0 : lxs.length = 0
  · simp only [h0, Nat.lt_irrefl, if_false, if_true, Lib.Eff.run]
    rfl
  · have h0' : ¬ 0 ≥ lxs.length := by omega
    simp only [h0, h0', Nat.pos_of_ne_zero h0, if_true, if_false]
    rfl

/-- … so both hosts answer `arrayIndexOf(array, value)` identically (same outcome, each in its own unchanged world) although
they search with different comparison functions -/
theorem hostLib_indexOf_agrees (w : LWorld) (r : Nat) (v : Value) (pxs : List Compare.PValue) (pv : Compare.PValue)
    (hr : reifyL w (.arr r) = some (.arr pxs)) (hv : reifyL w v = some pv) (hfn : ∀ f, v ≠ .fn f)
    (hwx : Compare.WFValue (.arr pxs) = true) (hwv : Compare.WFValue pv = true) :
    ∃ o, hostLib.lib "arrayIndexOf" [.arr r, v] w = .ret o w ∧
      HostImpl.host.lib "arrayIndexOf" [.arr r, v] w.toImpl = .ret o w.toImpl := by
  obtain ⟨i, hi, h1⟩ := hostLib_indexOf w r v pxs pv hr hv hfn hwx hwv
  obtain ⟨i', hi', h2⟩ := machine_indexOf w.toImpl r v pxs pv hr hv hfn
  rw [hi] at hi'; cases hi'
  refine ⟨_, h1, ?_⟩
  rw [h2]
  have e : (((-1 : Int) : Rat)) = -1 := by rfl
  rw [e]

/-- in `exLW` cell 4 = `[a, a, copy]`: the copy `.arr 3` is found at position 0 by the `Lib` search as well -/
example : hostLib.lib "arrayIndexOf" [.arr 4, .arr 3] exLW = .ret (.ok (.num 0)) exLW := by
  have hw4 : Compare.WFValue (.arr [exP0, exP0, exP1]) = true := by decide
  have hw1 : Compare.WFValue exP1 = true := by decide
  obtain ⟨i, hi, h⟩ := hostLib_indexOf exLW 4 (.arr 3) _ _ exLW_reify.2.2.1 exLW_reify.2.1 (by simp) hw4 hw1
  have h01 : Compare.valueCompare exP0 (.arr [.obj [("a", .str "x"), ("b", .num 1)], .num 2]) = 0 := exP_cmp.1
  simp [Compare.arrayIndexOf, Compare.scanFrom, exP1, h01] at hi
  subst hi
  simpa using h

/-- the reference backward search below `n` = the downward scan of the C11 model over the reversed closed prefix of length `n` -/
theorem lastIndexOfN_bridge (h : Lib.Heap) (lxs : List Lib.Value) (lv : Lib.Value) (pv : Compare.PValue)
    (f : Lib.Value → Option Compare.PValue) (pxs : List Compare.PValue) (hm : mapOpt f lxs = some pxs)
    (H : ∀ x px, f x = some px → Lib.valueCompare h x lv = some (Compare.valueCompare px pv)) :
    ∀ n, n ≤ lxs.length →
      searchResN (lastIndexOfN h lv lxs n) = .ret (Lib.numI (Compare.scanDown pv (n - 1) (pxs.take n).reverse))
  | 0, _ => rfl
  | n+1, hn => by
    obtain ⟨px, hpx, hx⟩ := mapOpt_getElem f lxs pxs hm n lxs[n] (List.getElem?_eq_getElem hn)
    rw [List.take_add_one, hpx]
    simp only [lastIndexOfN, List.getElem?_eq_getElem hn, H _ px hx, Option.toList_some, List.reverse_append,
      List.reverse_singleton, List.singleton_append, Compare.scanDown, Nat.add_sub_cancel]
    by_cases h0 : Compare.valueCompare px pv = 0
    · simp [h0, searchResN, Lib.numN, Lib.numI]
    · simp only [h0, if_false, beq_iff_eq]
      exact lastIndexOfN_bridge h lxs lv pv f pxs hm H n (Nat.le_of_succ_le hn)

/-- `arrayLastIndexOf(array, value)` (value needle, default start = last position) on `hostLib` — answered by the `Lib` model
with `Lib.valueCompare` — is `Compare.arrayLastIndexOf` on the denoted (well-formed) closed values: always `ok`, the last
position whose element compares equal to the needle, or -1 (`C11.lastIndexOf_last`). -/
theorem hostLib_lastIndexOf (w : LWorld) (r : Nat) (v : Value) (pxs : List Compare.PValue) (pv : Compare.PValue)
    (hr : reifyL w (.arr r) = some (.arr pxs)) (hv : reifyL w v = some pv) (hfn : ∀ f, v ≠ .fn f)
    (hwx : Compare.WFValue (.arr pxs) = true) (hwv : Compare.WFValue pv = true) :
    ∃ i, Compare.arrayLastIndexOf pxs pv none = some i ∧
      hostLib.lib "arrayLastIndexOf" [.arr r, v] w = .ret (.ok (.num (i : Rat))) w := by
  obtain ⟨lxs, hgx, hmx, H⟩ := lib_search_setup w r v pxs pv hr hv hwx hwv
  have hlen := mapOpt_length _ lxs pxs hmx
  refine ⟨_, C11.arrayLastIndexOf_value (reify_not_fn w.toImpl v pv hv hfn) pxs none, ?_⟩
  have hlib : Lib.Spec.specLib "arrayLastIndexOf" ([.arr r, v].map toLib) w.heap =
      (arrayLastIndexOfS [.one (.arr r), .one (toLib v), .one .null] w.heap).run w.heap := rfl
  have hsearch := lastIndexOfN_bridge w.heap lxs (toLib v) pv _ pxs hmx H lxs.length (Nat.le_refl _)
  rw [show pxs.take lxs.length = pxs by rw [← hlen, List.take_length]] at hsearch
  have hS : arrayLastIndexOfS [.one (.arr r), .one (toLib v), .one .null] w.heap =
      searchResN (lastIndexOfN w.heap (toLib v) lxs lxs.length) := by
    unfold arrayLastIndexOfS
    simp only [hgx]
    have := toLib_not_fn hfn
    cases lxs with
    | nil => cases hv' : toLib v <;> first | rfl | exact absurd hv' (this _)
    | cons x xs =>
      simp only [lastStart, List.length_cons, Nat.add_one_ne_zero, if_false, Nat.add_sub_cancel, Nat.lt_add_one, if_true]
  rw [hostLib_lib, HostLib.lib, C15.lib_eq_specLib, hlib, hS, hsearch, hlen]
  rfl

/-- in `exLW` cell 4 = `[a, a, copy]`: searching for `a` from the end finds the copy at position 2 -/
example : hostLib.lib "arrayLastIndexOf" [.arr 4, .arr 2] exLW = .ret (.ok (.num 2)) exLW := by
  have hw4 : Compare.WFValue (.arr [exP0, exP0, exP1]) = true := by decide
  have hw0 : Compare.WFValue exP0 = true := by decide
  obtain ⟨i, hi, h⟩ := hostLib_lastIndexOf exLW 4 (.arr 2) _ _ exLW_reify.2.2.1 exLW_reify.1 (by simp) hw4 hw0
  have h10 : Compare.valueCompare exP1 (.arr [.obj [("b", .num 1), ("a", .str "x")], .num 2]) = 0 := by
    have := C11.cmp_antisymm exP1 exP0
    rw [exP_cmp.1] at this
    exact this
  simp [Compare.arrayLastIndexOf, Compare.scanDown, exP0, h10] at hi
  subst hi
  simpa using h

end C11Bridge
