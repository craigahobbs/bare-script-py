import BareProofs.RunRel

/-!
# Two runs of the cache-free machine on the same program, for any `RunRel` whose related states are equal

`MachAgree E cA cB`: the two configurations differ in nothing the relation cannot absorb: same tables, same operators; the
tick, the state updates of the call wrapper and of an assignment, and the library trees are `E`-related steps.
`stepStmt_rel` is the statement clause: the effect of one statement (`stepStmt`) under two related call and include runners,
without fuel.  `machine_rel` walks `callValue₀` / `execM₀` / `execIncludes₀` once, by induction on the fuel of the left run.
-/

open Machine Lint
set_option linter.unusedSectionVars false
namespace C09
variable {W α β : Type}

theorem bindArgs_congr {hA hB : Host W} (hn : hB.newArray = hA.newArray) (laa : Bool) :
    ∀ (ps : List Name) (as : List Value) (env : Env) (w : W), bindArgs hB laa ps as env w = bindArgs hA laa ps as env w
  | [], _, _, _ => rfl
  | [p], as, env, w => by simp only [bindArgs, hn]
  | p :: q :: ps, as, env, w => by
      rw [bindArgs, bindArgs]
      exact bindArgs_congr hn laa (q :: ps) as.tail _ w

structure MachAgree (E : RunRel W Unit) (cA cB : Config W) : Prop where
  eq : ∀ s s', E.St s s' → s' = s
  funs : cB.funs = cA.funs
  builtins : cB.builtins = cA.builtins
  resolve : cB.resolve = cA.resolve
  fetch : cB.fetch = cA.fetch
  truthy : cB.host.truthy = cA.host.truthy
  binop : cB.host.binop = cA.host.binop
  neg : cB.host.neg = cA.host.neg
  builtin : cB.host.builtin = cA.host.builtin
  notCallable : cB.host.notCallable = cA.host.notCallable
  newArray : cB.host.newArray = cA.host.newArray
  oof : ∀ {α : Type} (s : State W), E.R (α := α) s .oof fun _ => .oof
  tick : ∀ s, E.St s s → E.R s (tickOc cA s) fun _ => tickOc cB s
  -- the three state changes outside evaluator and trees: binding the parameters, the swallowed `TypeError`, an assignment
  enter : ∀ fd args s, E.St s s → E.R s (.ok () (enterFn cA fd args s).2) fun _ => .ok () (enterFn cA fd args s).2
  typeError : ∀ v s, E.St s s → E.R s (.ok Value.null { s with world := cA.host.notCallable v s.world }) fun _ =>
    .ok .null { s with world := cA.host.notCallable v s.world }
  setGlobals : ∀ s g, E.St s s → E.R s (.ok () { s with globals := g }) fun _ => .ok () { s with globals := g }
  lib : ∀ {call call' : CallFn W}, E.Call call (fun _ => call') → ∀ name args s, E.St s s →
    E.R s (runTree cA call (cA.host.lib name args s.world) s).oc fun _ => (runTree cB call' (cB.host.lib name args s.world) s).oc
  other : ∀ {call call' : CallFn W}, E.Call call (fun _ => call') → ∀ k args s, E.St s s →
    E.R s (runTree cA call (cA.host.other k args s.world) s).oc fun _ => (runTree cB call' (cB.host.other k args s.world) s).oc

def MachRel (E : RunRel W Unit) (cA cB : Config W) (fA fB : Nat) : Prop :=
  (∀ f a s, E.St s s → E.R s (callValue₀ cA fA f a s).oc fun _ => (callValue₀ cB fB f a s).oc) ∧
  (∀ P l base pc s, E.St s s → E.R s (execM₀ cA fA P l base pc s).oc fun _ => (execM₀ cB fB P l base pc s).oc) ∧
  (∀ base incs s, E.St s s → E.R s (execIncludes₀ cA fA base incs s).oc fun _ => (execIncludes₀ cB fB base incs s).oc)

namespace MachAgree
variable {E : RunRel W Unit} {cA cB : Config W} (ma : MachAgree E cA cB)
include ma

theorem evalAgree (l : Option Env) : EvalAgree E cA cB l l fun _ => True where
  truthy := fun _ s s' hs => by rw [ma.eq s s' hs, ma.truthy]
  binop := fun _ _ _ s s' hs => by rw [ma.eq s s' hs, ma.binop]
  neg := ma.neg
  var := fun _ s s' _ hs => by rw [ma.eq s s' hs]
  func := fun _ s s' _ hs => by rw [ma.eq s s' hs]; simp only [lookupFunc, ma.builtin, ma.builtins]

theorem call_of {fA fB : Nat} (h : ∀ f a s, E.St s s → E.R s (callValue₀ cA fA f a s).oc fun _ => (callValue₀ cB fB f a s).oc) :
    E.Call (callValue₀ cA fA) fun _ => callValue₀ cB fB :=
  fun f a s s' hs => by cases ma.eq s s' hs; exact h f a s hs

/-- a continuation that only needs equal related states -/
theorem cont {s₀ : State W} {o : Oc α W} {S : Unit → Oc α W} {k k' : α → State W → Oc β W} (h : E.R s₀ o S)
    (hk : ∀ a s, E.St s s → E.R s (k a s) fun _ => k' a s) : E.R s₀ (o.bind k) fun i => (S i).bind k' :=
  E.bind (k' := fun _ => k') h fun a s s' hs => by cases ma.eq s s' hs; exact hk a s hs

/-- a step that is related with the trivial result is related with any -/
theorem okAt {s₀ s : State W} (h : E.R s₀ (.ok () s) fun _ => .ok () s) (a : α) : E.R s₀ (.ok a s) fun _ => .ok a s :=
  ma.cont (k := fun _ s => .ok a s) (k' := fun _ s => .ok a s) h fun _ _ hs => E.ok a hs

/-- **the effect of one statement**, for any two related call and include runners: no fuel, no continuation -/
theorem stepStmt_rel {call call' : CallFn W} (hc : E.Call call fun _ => call')
    {incl incl' : List IncludeScript → State W → Res W}
    (hi : ∀ incs s, E.St s s → E.R s (incl incs s).oc fun _ => (incl' incs s).oc) (l : Option Env) (st : Stmt)
    (s1 : State W) (hs1 : E.St s1 s1) :
    E.R s1 (stepStmt cA call incl l st s1).oc fun _ => (stepStmt cB call' incl' l st s1).oc := by
  have hev := fun e => E.evalExpr_rel (ma.evalAgree l) hc e s1 s1 (fun _ _ => trivial) hs1
  cases st with
  | expr name e =>
    rw [stepStmt_expr, stepStmt_expr]
    refine ma.cont (hev e) fun v s2 hs2 => ma.okAt ?_ _
    unfold assign
    split
    · exact E.ok _ hs2
    · exact E.ok _ hs2
    · exact ma.setGlobals s2 _ hs2
  | jump lab c =>
    cases c with
    | none => exact E.ok _ hs1
    | some c =>
      rw [stepStmt_jumpIf, stepStmt_jumpIf, ma.truthy]
      exact ma.cont (hev c) fun _ _ hs2 => E.ok _ hs2
  | ret e =>
    cases e with
    | none => exact E.ok _ hs1
    | some e =>
      rw [stepStmt_ret, stepStmt_ret]
      exact ma.cont (hev e) fun _ _ hs2 => E.ok _ hs2
  | label lab => exact E.ok _ hs1
  | function fid name args laa isAsync body => exact ma.okAt (ma.setGlobals s1 _ hs1) _
  | «include» incs =>
    rw [stepStmt_include, stepStmt_include]
    exact ma.cont (hi incs s1 hs1) fun _ _ hs2 => E.ok _ hs2

/-- going on after the statement, given the statement lists at the fuels below -/
theorem goRun_rel {fA fB : Nat}
    (ihE : ∀ P l base pc s, E.St s s → E.R s (execM₀ cA fA P l base pc s).oc fun _ => (execM₀ cB fB P l base pc s).oc)
    (P : List Stmt) (l : Option Env) (base : Option String) (pc : Nat) (g : Go) (s : State W) (hs : E.St s s) :
    E.R s (Go.run P (fun l' pc' st' => execM₀ cA fA P l' base pc' st') l pc g s) fun _ =>
      Go.run P (fun l' pc' st' => execM₀ cB fB P l' base pc' st') l pc g s := by
  cases g with
  | next l' => exact ihE _ _ _ _ _ hs
  | goto lab =>
    simp only [Go.run]
    cases findLabel P lab with
    | some i => exact ihE _ _ _ _ _ hs
    | none => exact E.err _ nofun hs
  | halt o => exact E.ok _ hs

/-- one statement after the tick and what follows it, given the three clauses at the fuels below -/
theorem stmt_rel {fA fB : Nat} (ih : MachRel E cA cB fA fB) (P : List Stmt) (l : Option Env) (base : Option String)
    (pc : Nat) (st : Stmt) (s1 : State W) (hs1 : E.St s1 s1) :
    E.R s1 ((stepStmt cA (callValue₀ cA fA) (execIncludes₀ cA fA base) l st s1).oc.bind
        (Go.run P (fun l' pc' st' => execM₀ cA fA P l' base pc' st') l pc)) fun _ =>
      (stepStmt cB (callValue₀ cB fB) (execIncludes₀ cB fB base) l st s1).oc.bind
        (Go.run P (fun l' pc' st' => execM₀ cB fB P l' base pc' st') l pc) :=
  ma.cont (ma.stepStmt_rel (ma.call_of ih.1) (ih.2.2 base) l st s1 hs1) (ma.goRun_rel ih.2.1 P l base pc)

/-- **the machine respects every such relation.**  The right run has the same fuel, or at least as much when an
out-of-fuel left run is related to everything. -/
theorem machine_rel : ∀ fA fB : Nat,
    (fA = fB ∨ (fA ≤ fB ∧ ∀ {α : Type} (s : State W) (x : Unit → Oc α W), E.R s .oof x)) → MachRel E cA cB fA fB
  | 0, fB, hf => by
    -- `x`: the right run as a function of its fuel; at `fB = 0` it is out of fuel too, otherwise `.oof` is related to anything
    have hoof : ∀ {α : Type} (s : State W) (x : Nat → Oc α W), x 0 = .oof → E.R s .oof fun _ => x fB := by
      intro α s x hx
      rcases hf with rfl | ⟨_, lax⟩
      · rw [hx]; exact ma.oof s
      · exact lax s _
    refine ⟨fun f a s _ => ?_, fun P l base pc s hs => ?_, fun base incs s hs => ?_⟩
    · rw [callValue₀.eq_1]; exact hoof s (fun n => (callValue₀ cB n f a s).oc) (by simp only [callValue₀.eq_1]; rfl)
    · cases hP : P[pc]? with
      | none => rw [execM₀_end hP, execM₀_end hP]; exact E.ok _ hs
      | some st => rw [execM₀_zero hP]; exact hoof s (fun n => (execM₀ cB n P l base pc s).oc) (by simp only [execM₀_zero hP]; rfl)
    · cases incs with
      | nil => rw [execIncludes₀.eq_1, execIncludes₀.eq_1]; exact E.ok _ hs
      | cons i r =>
        simp only [execIncludes₀_cons, ma.resolve, ma.fetch]
        cases cA.fetch (cA.resolve base i) with
        | missing => exact E.err _ nofun hs
        | broken => exact E.err _ nofun hs
        | script ss =>
          exact hoof s (fun n => match n with
            | 0 => .oof
            | f+1 => (execM₀ cB f ss none _ 0 s).oc.bind fun _ st' => (execIncludes₀ cB f base r st').oc) rfl
  | fA+1, fB, hf => by
    obtain ⟨fB', rfl, hf'⟩ : ∃ fB', fB = fB' + 1 ∧ (fA = fB' ∨ (fA ≤ fB' ∧ ∀ {α : Type} (s : State W) (x : Unit → Oc α W), E.R s .oof x)) := by
      rcases hf with rfl | ⟨hle, lax⟩
      · exact ⟨fA, rfl, .inl rfl⟩
      · exact ⟨fB - 1, by omega, .inr ⟨by omega, lax⟩⟩
    obtain ⟨ihC, ihE, ihI⟩ := machine_rel fA fB' hf'
    have hcall := ma.call_of ihC
    refine ⟨fun f a s hs => ?_, fun P l base pc s hs => ?_, fun base incs s hs => ?_⟩
    · cases callee cA f with
      | script id fd hf hfd =>
        subst hf
        rw [callValue₀_script cA fA hfd, callValue₀_script cB fB' (ma.funs ▸ hfd), resOut_oc, resOut_oc]
        simp only [enterFn, bindArgs_congr ma.newArray]
        refine ma.cont (k := fun _ s1 => (execM₀ cA fA fd.body _ none 0 s1).oc.bind _)
          (k' := fun _ s1 => (execM₀ cB fB' fd.body _ none 0 s1).oc.bind _) (ma.enter fd a s hs) fun _ s1 hs1 => ?_
        exact ma.cont (ihE _ _ _ _ _ hs1) fun _ _ hs2 => E.ok _ hs2
      | lib name hf => subst hf; rw [callValue₀_lib, callValue₀_lib]; exact ma.lib hcall name a s hs
      | other k hf => subst hf; rw [callValue₀_other, callValue₀_other]; exact ma.other hcall k a s hs
      | none h hl ho =>
        rw [callValue₀_notCallable cA fA h hl ho, callValue₀_notCallable cB fB' (ma.funs ▸ h) hl ho, ma.notCallable]
        exact ma.typeError f s hs
    · cases hP : P[pc]? with
      | none => rw [execM₀_end hP, execM₀_end hP]; exact E.ok _ hs
      | some st =>
        rw [execM₀_tick hP, execM₀_tick hP]
        refine ma.cont (ma.tick s hs) fun _ s1 hs1 => ?_
        exact ma.stmt_rel ⟨ihC, ihE, ihI⟩ P l base pc st s1 hs1
    · cases incs with
      | nil => rw [execIncludes₀.eq_1, execIncludes₀.eq_1]; exact E.ok _ hs
      | cons i r =>
        simp only [execIncludes₀_cons, ma.resolve, ma.fetch]
        cases cA.fetch (cA.resolve base i) with
        | missing => exact E.err _ nofun hs
        | broken => exact E.err _ nofun hs
        | script ss => exact ma.cont (ihE _ _ _ _ _ hs) fun _ s' hs' => ihI base r s' hs'

end MachAgree
end C09
