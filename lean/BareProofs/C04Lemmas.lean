import BareModel.Scope

/-!
# C04 — helper lemmas: insertion-ordered dictionaries (`Env`), library injection, parameter binding

Everything the property file `C04.lean` needs about `Env.get?/contains/set`, about `Scope.inject` and about the
equality of the mirror `Machine.bindArgs` (shaped like the loop of `_script_function`) with the spec `Scope.bindSpec`.
-/

open Machine Scope
namespace C04
variable {W : Type}

/-! ## `Env` as a dictionary -/

theorem get?_nil (n : Name) : Env.get? [] n = none := rfl

theorem get?_cons (k : Name) (x : Value) (e : Env) (n : Name) :
    Env.get? ((k, x) :: e) n = if k = n then some x else Env.get? e n := by
  unfold Env.get?
  by_cases h : k = n <;> simp [h]

theorem contains_cons (k : Name) (x : Value) (e : Env) (n : Name) :
    Env.contains ((k, x) :: e) n = (decide (k = n) || Env.contains e n) := by
  unfold Env.contains
  by_cases h : k = n <;> simp [h]

/-- `name in d` is `d.get(name)` being defined -/
theorem contains_eq_isSome (e : Env) (n : Name) : e.contains n = (e.get? n).isSome := by
  induction e with
  | nil => rfl
  | cons kv e ih =>
    obtain ⟨k, x⟩ := kv
    rw [contains_cons, get?_cons, ih]
    by_cases h : k = n <;> simp [h]

theorem contains_true_iff (e : Env) (n : Name) : e.contains n = true ↔ ∃ v, e.get? n = some v := by
  rw [contains_eq_isSome, Option.isSome_iff_exists]

theorem contains_false_iff (e : Env) (n : Name) : e.contains n = false ↔ e.get? n = none := by
  rw [contains_eq_isSome]; cases e.get? n <;> simp

theorem contains_iff_mem_keys (e : Env) (n : Name) : e.contains n = true ↔ n ∈ e.map (·.1) := by
  induction e with
  | nil => simp [Env.contains]
  | cons kv e ih =>
    obtain ⟨k, x⟩ := kv
    rw [contains_cons, Bool.or_eq_true, ih]
    simp only [decide_eq_true_eq, List.map_cons, List.mem_cons]
    rw [eq_comm]

/-- `d[n] = v; d[n]` -/
theorem get?_set_same (e : Env) (n : Name) (v : Value) : (e.set n v).get? n = some v := by
  induction e with
  | nil => simp [Env.set, get?_cons]
  | cons kv e ih =>
    obtain ⟨k, x⟩ := kv
    unfold Env.set
    by_cases h : k = n
    · simp [h, get?_cons]
    · simp [h, get?_cons, ih]

/-- `d[n] = v` leaves every other key alone -/
theorem get?_set_other (e : Env) (n m : Name) (v : Value) (h : m ≠ n) : (e.set n v).get? m = e.get? m := by
  induction e with
  | nil => simp [Env.set, get?_cons, get?_nil, Ne.symm h]
  | cons kv e ih =>
    obtain ⟨k, x⟩ := kv
    unfold Env.set
    by_cases hk : k = n
    · subst hk
      simp [get?_cons, Ne.symm h]
    · simp only [beq_iff_eq, hk, if_false, get?_cons, ih]

theorem get?_set (e : Env) (n m : Name) (v : Value) : (e.set n v).get? m = if m = n then some v else e.get? m := by
  by_cases h : m = n
  · subst h; simp [get?_set_same]
  · simp [h, get?_set_other e n m v h]

theorem contains_set (e : Env) (n m : Name) (v : Value) :
    (e.set n v).contains m = (decide (m = n) || e.contains m) := by
  rw [contains_eq_isSome, contains_eq_isSome, get?_set]
  by_cases h : m = n <;> simp [h]

/-- the keys of `d` after `d[n] = v`: unchanged if `n` was bound, else `n` is appended (insertion order) -/
theorem keys_set (e : Env) (n : Name) (v : Value) :
    (e.set n v).map (·.1) = if e.contains n then e.map (·.1) else e.map (·.1) ++ [n] := by
  induction e with
  | nil => simp [Env.set, Env.contains]
  | cons kv e ih =>
    obtain ⟨k, x⟩ := kv
    unfold Env.set
    rw [contains_cons]
    by_cases hk : k = n
    · simp [hk]
    · simp only [beq_iff_eq, hk, if_false, List.map_cons, ih, decide_false, Bool.false_or]
      split <;> simp

/-- what is read is a binding of the dictionary -/
theorem mem_of_get? {e : Env} {n : Name} {v : Value} (h : e.get? n = some v) : (n, v) ∈ e := by
  obtain ⟨⟨k, x⟩, hf, hx⟩ := Option.map_eq_some_iff.1 h
  cases hx
  exact beq_iff_eq.1 (List.find?_some (p := fun q : Name × Value => q.1 == n) hf) ▸ List.mem_of_find?_eq_some hf

/-- `d[n] = v` adds no binding but `(n, v)` -/
theorem mem_set {e : Env} {n : Name} {v : Value} {p : Name × Value} : p ∈ e.set n v → p = (n, v) ∨ p ∈ e := by
  induction e with
  | nil => exact fun h => .inl (List.mem_singleton.1 h)
  | cons kx e ih =>
    obtain ⟨k, x⟩ := kx
    unfold Env.set
    split
    · next hk => rw [beq_iff_eq.1 hk, List.mem_cons, List.mem_cons]; exact Or.imp_right .inr
    · rw [List.mem_cons, List.mem_cons]
      exact fun h => h.elim (fun h => .inr (.inl h)) fun h => (ih h).imp_right .inr

theorem get?_append (a b : Env) (n : Name) : Env.get? (a ++ b) n = (Env.get? a n).or (Env.get? b n) := by
  induction a with
  | nil => simp [get?_nil]
  | cons kv a ih =>
    obtain ⟨k, x⟩ := kv
    rw [List.cons_append, get?_cons, get?_cons, ih]
    by_cases h : k = n <;> simp [h]

theorem contains_append (a b : Env) (n : Name) : Env.contains (a ++ b) n = (Env.contains a n || Env.contains b n) := by
  simp [Env.contains]

/-! ## library injection -/

theorem inject_nil (host : Env) : inject [] host = host := rfl

theorem inject_cons (kv : Name × Value) (lib : List (Name × Value)) (host : Env) :
    inject (kv :: lib) host = inject lib (if host.contains kv.1 then host else host ++ [kv]) := rfl

/-- the dictionary after injection: the host's binding if there is one, else the library's (first) binding -/
theorem inject_get? (lib : List (Name × Value)) (host : Env) (k : Name) :
    (inject lib host).get? k = (host.get? k).or (Env.get? lib k) := by
  induction lib generalizing host with
  | nil => simp [inject_nil, get?_nil]
  | cons kv lib ih =>
    obtain ⟨n, x⟩ := kv
    rw [inject_cons, ih, get?_cons]
    rcases Bool.eq_false_or_eq_true (host.contains n) with hc | hc
    · simp only [hc, if_true]
      by_cases hn : n = k
      · subst hn
        obtain ⟨v, hv⟩ := (contains_true_iff host n).1 hc
        simp [hv]
      · simp [hn]
    · simp only [hc, Bool.false_eq_true, if_false, get?_append, get?_cons, get?_nil]
      by_cases hn : n = k
      · subst hn
        rw [(contains_false_iff host n).1 hc]
        simp
      · cases host.get? k <;> simp [hn]

/-- the caller's dictionary is extended at the end, never re-ordered or shortened; what is appended are library entries
under names the caller did not bind -/
theorem inject_keeps_host_order (lib : List (Name × Value)) (host : Env) :
    ∃ extra, inject lib host = host ++ extra ∧ ∀ kv ∈ extra, kv ∈ lib ∧ host.contains kv.1 = false := by
  induction lib generalizing host with
  | nil => exact ⟨[], by simp [inject_nil]⟩
  | cons kv lib ih =>
    rw [inject_cons]
    rcases Bool.eq_false_or_eq_true (host.contains kv.1) with hc | hc
    · simp only [hc, if_true]
      obtain ⟨extra, he, hx⟩ := ih host
      exact ⟨extra, he, fun x hxm => ⟨List.mem_cons_of_mem _ (hx x hxm).1, (hx x hxm).2⟩⟩
    · simp only [hc, Bool.false_eq_true, if_false]
      obtain ⟨extra, he, hx⟩ := ih (host ++ [kv])
      refine ⟨kv :: extra, by simp [he], ?_⟩
      intro x hxm
      rcases List.mem_cons.1 hxm with rfl | hxm
      · exact ⟨List.mem_cons_self, hc⟩
      · have h2 := (hx x hxm).2
        rw [contains_append, Bool.or_eq_false_iff] at h2
        exact ⟨List.mem_cons_of_mem _ (hx x hxm).1, h2.1⟩

/-- for a table with distinct names (a dict) the fold is the filter of the property's reading -/
theorem inject_eq_spec (lib : List (Name × Value)) (host : Env) (hd : DistinctKeys lib) :
    inject lib host = injectSpec lib host := by
  unfold injectSpec
  induction lib generalizing host with
  | nil => simp [inject_nil]
  | cons kv lib ih =>
    have hd' : DistinctKeys lib := (List.nodup_cons.1 hd).2
    have hnot : kv.1 ∉ lib.map (·.1) := (List.nodup_cons.1 hd).1
    rw [inject_cons]
    rcases Bool.eq_false_or_eq_true (host.contains kv.1) with hc | hc
    · simp only [hc, if_true, ih host hd', List.filter_cons, Bool.not_true, Bool.false_eq_true, if_false]
    · simp only [hc, Bool.false_eq_true, if_false, ih _ hd', List.filter_cons, Bool.not_false, if_true,
        List.append_assoc, List.singleton_append]
      congr 2
      apply List.filter_congr
      intro x hx
      rw [contains_append]
      have : Env.contains [kv] x.1 = false := by
        rw [contains_false_iff]
        obtain ⟨k, v⟩ := kv
        rw [get?_cons, get?_nil]
        have : k ≠ x.1 := fun h => hnot (by simpa [h] using List.mem_map_of_mem (f := (·.1)) hx)
        simp [this]
      simp [this]

/-! ## parameter binding: `bindArgs` (mirror) = `bindSpec` (spec) -/

/-- assigning a list of pairs in order -/
def setAll (e : Env) (kvs : List (Name × Value)) : Env := kvs.foldl (fun e kv => e.set kv.1 kv.2) e

theorem setAll_nil (e : Env) : setAll e [] = e := rfl
theorem setAll_cons (e : Env) (kv) (kvs) : setAll e (kv :: kvs) = setAll (e.set kv.1 kv.2) kvs := rfl
theorem setAll_append (e : Env) (a b) : setAll e (a ++ b) = setAll (setAll e a) b := by simp [setAll]
theorem fromPairs_eq (kvs) : fromPairs kvs = setAll [] kvs := rfl

theorem setAll_get?_notin (e : Env) (kvs : List (Name × Value)) (p : Name) (h : p ∉ kvs.map (·.1)) :
    (setAll e kvs).get? p = e.get? p := by
  induction kvs generalizing e with
  | nil => rfl
  | cons kv kvs ih =>
    simp only [List.map_cons, List.mem_cons, not_or] at h
    rw [setAll_cons, ih _ h.2, get?_set_other _ _ _ _ h.1]

/-- the LAST assignment to a key is the one that is read back -/
theorem setAll_get?_last (e : Env) (A B : List (Name × Value)) (p : Name) (v : Value) (h : p ∉ B.map (·.1)) :
    (setAll e (A ++ (p, v) :: B)).get? p = some v := by
  rw [setAll_append, setAll_cons, setAll_get?_notin _ _ _ h, get?_set_same]

theorem setAll_contains (e : Env) (kvs : List (Name × Value)) (p : Name) :
    (setAll e kvs).contains p = true ↔ (e.contains p = true ∨ p ∈ kvs.map (·.1)) := by
  induction kvs generalizing e with
  | nil => simp [setAll_nil]
  | cons kv kvs ih =>
    rw [setAll_cons, ih, contains_set]
    simp only [Bool.or_eq_true, decide_eq_true_eq, List.map_cons, List.mem_cons]
    rw [or_comm (a := p = kv.1), or_assoc]

/-- the pairs the spec assigns, for the parameters at positions `k, k+1, …` of `n` -/
def specPairs (laa : Bool) (n : Nat) (full : List Value) (rest : Value) (ps : List Name) (k : Nat) : List (Name × Value) :=
  (ps.zipIdx k).map fun pi => (pi.1, paramValue laa n full rest pi.2)

theorem specPairs_keys (laa n full rest) (ps : List Name) (k : Nat) : (specPairs laa n full rest ps k).map (·.1) = ps := by
  unfold specPairs
  rw [List.map_map]
  have : ((fun x : Name × Value => x.1) ∘ fun pi : Name × Nat => (pi.1, paramValue laa n full rest pi.2)) = Prod.fst := rfl
  rw [this, List.zipIdx_map_fst]

/-- the loop of `_script_function`, started at parameter position `k` with the arguments from position `k` on -/
theorem bindArgs_general (host : Host W) (laa : Bool) :
    ∀ (ps : List Name) (full : List Value) (k : Nat) (env : Env) (w : W),
      bindArgs host laa ps (full.drop k) env w =
        (setAll env (specPairs laa (k + ps.length) full (host.newArray (restArgs (k + ps.length) full) w).1 ps k),
         if laa = true ∧ ps ≠ [] then (host.newArray (restArgs (k + ps.length) full) w).2 else w)
  | [], full, k, env, w => by simp [bindArgs, specPairs, setAll_nil]
  | [p], full, k, env, w => by
      unfold bindArgs
      cases laa <;> simp [specPairs, setAll_cons, setAll_nil, paramValue, restArgs]
  | p :: q :: ps, full, k, env, w => by
      unfold bindArgs
      rw [show (full.drop k).tail = full.drop (k + 1) by simp [List.tail_drop],
        bindArgs_general host laa (q :: ps) full (k + 1),
        show k + 1 + (q :: ps).length = k + (p :: q :: ps).length by simp; omega]
      simp [specPairs, List.zipIdx_cons, setAll_cons, paramValue, List.head?_drop]

/-- **mirror = spec**: the loop of `_script_function` computes the documented binding -/
theorem bindArgs_eq_bindSpec (host : Host W) (laa : Bool) (ps : List Name) (as : List Value) (w : W) :
    bindArgs host laa ps as [] w = bindSpec host laa ps as w := by
  have := bindArgs_general host laa ps as 0 [] w
  simp only [List.drop_zero, Nat.zero_add] at this
  rw [this]
  unfold bindSpec
  cases laa <;> cases ps <;> simp [fromPairs_eq, specPairs, paramValue]

end C04
