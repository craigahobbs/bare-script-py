import BareProofs.C17BridgeLemmas
import BareProofs.C08
import BareProofs.C09

/-!
# C17Bridge — the include semantics of the statement machine IS the include model of C17

`BareProofs/C17.lean` proves the include property about the abstract machine `Include.runScript`.  This file ties that
machine to `Machine.execM` / `execIncludes` / `execute` (the machine of C01, C08, C09, …), instantiated with C17's
resolution and a virtual file map (`IncludeBridge.instCfg`).

For ALL programs (jumps, calls, any host, any fuel):

* `executeT_res`, `execMT_res`, `execIncludesT_res`  the traced machine computes exactly the machine's results: its event
  list is an observation of `Machine.execute`, not a second semantics
* `machine_resolve_spec`            `cfg.resolve` of the instantiation is `Include.specLocation` (so `C17.resolve_*` apply)
* `machine_include_global_scope`    an included script runs with `locals = none` (also when the include statement sits in
  a function body), from index 0, with a fresh label cache, with `base` = its own resolved location, on the includer's state
* `machine_return_ends_only_include`  a `return` of the included script: the next entry / the includer goes on
* `machine_base_restored`           after the include statement the includer continues with its own `base`, `locals`, cache
* `machine_include_error_step`      a failing entry: `includeFailed` / `includeParse` carrying the RESOLVED location, state untouched
* `machine_include_counts`          the included statements count against the includer's counter (C09 tie)
* `machine_dead_after_return`       what follows a `return` in a jump-free list is never looked at

For jump-free programs and file systems (`Straight`, `FilesStraight`; `Include.Item` has no jumps), any tagging of statements:

* `machine_refines_include`         events and outcome of `Include.run` on `itemsOf P` = those of the machine
* `machine_run_spec`, `machine_fetch_order`, `machine_fetch_prefix`, `machine_include_errors`  the theorems of C17, about
  `executeT` (= `Machine.execute` by `executeT_res`)

Outside the bridge (stated, with Lean examples at the end): include statements executed inside *function bodies* — the
machine runs a callee with `base = none` (runtime.py hands the caller's `urlFn` on; DESIGN finding F42) and their events
are not in the trace; programs with jumps are covered by the step theorems only.
-/

namespace C17Bridge
open Machine IncludeBridge
variable {W : Type}

/-- **executeT_res**: for every program, configuration, fuel and state the traced machine returns the result of
`Machine.execute`. -/
theorem executeT_res (tag : Stmt → String) (cfg : Config W) (fuel : Nat) (P : List Stmt) (base : Option String) (st : State W) :
    (executeT tag cfg fuel P base st).res = execute cfg fuel P base st :=
  execMT_res ..

/-- the classification of a traced run only depends on the machine's result and on who raised the error -/
theorem stop_fin_iff (m : TRes W) : m.stop = .fin ↔ (∃ st, m.res = .done st) ∨ (∃ v st, m.res = .ret v st) := by
  unfold TRes.stop
  cases hr : m.res with
  | done st => simp [stopOf]
  | ret v st => simp [stopOf]
  | err e st => simp [stopOf_err_ne_fin]
  | oof => simp [stopOf]

theorem stopOf_inc {r : Res W} {b : Bool} {u : String} :
    (stopOf r b = .incFailed u → ∃ st, r = .err (.includeFailed u) st) ∧
    (stopOf r b = .incParse u → ∃ st, r = .err (.includeParse u) st) := by
  unfold stopOf
  split <;> simp

theorem selfOf_urlFnOf (base : Option String) : Include.selfOf (urlFnOf base) = base := by cases base <;> rfl

/-- **machine_resolve_spec**: the location the machine asks `cfg.fetch` for is the one the property prescribes — system
includes against the configured prefix, everything else against the INCLUDING file `base` (verbatim without one). -/
theorem machine_resolve_spec (tag : Stmt → String) (cfg : Config W) (sp : Option String) (fs : String → VFile)
    (base : Option String) (inc : IncludeScript) :
    (instCfg cfg sp fs).resolve base inc = Include.specLocation (icfgOf tag sp fs) base (entryOf inc) := by
  have := C17.resolveEntry_eq_spec (icfgOf tag sp fs) (urlFnOf base) (entryOf inc)
  rw [selfOf_urlFnOf] at this
  exact this

example : (instCfg (W := Unit) ⟨⟨fun _ _ => true, fun _ _ _ _ => .null, id, fun _ _ w => .ret (.ok .null) w,
      fun _ _ w => .ret (.ok .null) w, fun _ w => w, id, fun _ w => (.null, w), fun _ => none⟩, fun _ => none, 0, false, false,
      fun _ i => i.url, fun _ => .missing⟩ (some "/sys/") (fun _ => .missing)).resolve (some "http://h/a/b.bare") ⟨"../c.bare", false⟩
    = "http://h/a/../c.bare" := by decide

/-- **machine_base_restored**: an include statement (at top level, in an included script or in a function body) runs its
entries against the `base` of the list it is written in, and afterwards THAT list continues — next statement, same
`base`, same `locals`, same label cache, from the state the included scripts left; anything else the entries end with
(an error, out of fuel) ends the list. -/
theorem machine_base_restored (cfg : Config W) (fuel : Nat) (P : List Stmt) (locals : Option Env) (base : Option String)
    (cache : Cache) (pc : Nat) (st : State W) (incs : List IncludeScript)
    (h : P[pc]? = some (.include incs)) (hb : C08.BudgetOk cfg st) :
    execM cfg (fuel+1) P locals base cache pc st =
      match execIncludes cfg fuel base incs (C08.tick st) with
      | .done st2 => execM cfg fuel P locals base cache (pc+1) st2
      | o => o := by
  rw [execM.eq_1, h]
  simp only [C08.BudgetOk] at hb
  simp only [hb, C08.tick]
  rfl

/-- **machine_include_global_scope**: the script an entry resolves to runs in GLOBAL scope (`locals = none`, whatever the
locals of the including list are — they are not an argument of `execIncludes`), from its first statement, with an empty
label cache, with `base` = its own resolved location, on the state of the includer; when it ends — by running off its
end or by `return` (**machine_return_ends_only_include**) — the next entry is run against the includer's `base`, from the
state it left. -/
theorem machine_include_global_scope (cfg : Config W) (fuel : Nat) (base : Option String) (inc : IncludeScript)
    (rest : List IncludeScript) (st : State W) (stmts : List Stmt)
    (hf : cfg.fetch (cfg.resolve base inc) = .script stmts) :
    execIncludes cfg (fuel+1) base (inc :: rest) st =
      match execM cfg fuel stmts none (some (cfg.resolve base inc)) [] 0 st with
      | .done st' => execIncludes cfg fuel base rest st'
      | .ret _ st' => execIncludes cfg fuel base rest st'
      | o => o := by
  rw [execIncludes.eq_2]
  simp only [hf]
  generalize execM cfg fuel stmts none _ [] 0 st = r
  cases r <;> rfl

/-- **machine_return_ends_only_include**: a `return` in an included script ends that script only. -/
theorem machine_return_ends_only_include (cfg : Config W) (fuel : Nat) (base : Option String) (inc : IncludeScript)
    (rest : List IncludeScript) (st st' : State W) (stmts : List Stmt) (v : Value)
    (hf : cfg.fetch (cfg.resolve base inc) = .script stmts)
    (hret : execM cfg fuel stmts none (some (cfg.resolve base inc)) [] 0 st = .ret v st') :
    execIncludes cfg (fuel+1) base (inc :: rest) st = execIncludes cfg fuel base rest st' := by
  rw [machine_include_global_scope cfg fuel base inc rest st stmts hf, hret]

/-- **machine_include_error_step**: an entry whose RESOLVED location cannot be fetched (no text / fetchFn raised) ends the
run with `Include of "<resolved>" failed`; text that does not parse with the parser error `Included from "<resolved>"`;
the state is untouched, no further entry is looked at. -/
theorem machine_include_error_step (cfg : Config W) (fuel : Nat) (base : Option String) (inc : IncludeScript)
    (rest : List IncludeScript) (st : State W) :
    (cfg.fetch (cfg.resolve base inc) = .missing →
      execIncludes cfg fuel base (inc :: rest) st = .err (.includeFailed (cfg.resolve base inc)) st) ∧
    (cfg.fetch (cfg.resolve base inc) = .broken →
      execIncludes cfg fuel base (inc :: rest) st = .err (.includeParse (cfg.resolve base inc)) st) := by
  constructor <;> intro h <;> rw [execIncludes.eq_2] <;> simp only [h]

/-- **machine_include_counts**: the statements of included scripts count against the SAME counter: an include statement
that starts at counter `n` hands its included scripts the counter `n + 1`, and the includer goes on from the counter
they reached, which is at least that (`C09.count_monotone_include`); a budget error inside is the includer's error
(`machine_base_restored`: any non-`done` result is passed on). -/
theorem machine_include_counts (cfg : Config W) (fuel : Nat) (P : List Stmt) (locals : Option Env) (base : Option String)
    (cache : Cache) (pc : Nat) (st : State W) (incs : List IncludeScript)
    (h : P[pc]? = some (.include incs)) (hb : C08.BudgetOk cfg st) :
    (∀ st2, execIncludes cfg fuel base incs (C08.tick st) = .done st2 →
      st.count + 1 ≤ st2.count ∧
      execM cfg (fuel+1) P locals base cache pc st = execM cfg fuel P locals base cache (pc+1) st2) ∧
    (∀ e st2, execIncludes cfg fuel base incs (C08.tick st) = .err e st2 →
      execM cfg (fuel+1) P locals base cache pc st = .err e st2) := by
  have hstep := machine_base_restored cfg fuel P locals base cache pc st incs h hb
  have hmono := C09.count_monotone_include cfg fuel base incs (C08.tick st)
  constructor
  · intro st2 hd
    rw [hd] at hstep hmono
    exact ⟨hmono, hstep⟩
  · intro e st2 he
    rw [he] at hstep
    exact hstep

theorem getElem?_ret_prefix (A B : List Stmt) (e : Option Expr) (pc : Nat) (h : pc ≤ A.length) :
    (A ++ .ret e :: B)[pc]? = (A ++ [.ret e])[pc]? := by
  rcases Nat.lt_or_ge pc A.length with hlt | hge
  · rw [List.getElem?_append_left hlt, List.getElem?_append_left hlt]
  · have : pc = A.length := by omega
    subst this
    simp

theorem dead_after_return_aux (cfg : Config W) (A B : List Stmt) (e : Option Expr) (hA : Straight A = true) :
    ∀ (fuel : Nat) (locals : Option Env) (base : Option String) (pc : Nat) (st : State W), pc ≤ A.length →
      execM₀ cfg fuel (A ++ .ret e :: B) locals base pc st = execM₀ cfg fuel (A ++ [.ret e]) locals base pc st
  | 0, locals, base, pc, st, hpc => by
    rw [execM₀.eq_1, execM₀.eq_1 cfg 0 (A ++ [Stmt.ret e]), getElem?_ret_prefix A B e pc hpc]
  | fuel+1, locals, base, pc, st, hpc => by
    have hget := getElem?_ret_prefix A B e pc hpc
    rcases Nat.lt_or_ge pc A.length with hlt | hge
    · -- both lists take the same step; a jump-free statement's step is no `goto`, so they differ only in how they go on at `pc + 1`
      have hs : (A ++ [Stmt.ret e])[pc]? = some A[pc] := by rw [List.getElem?_append_left hlt, List.getElem?_eq_getElem hlt]
      have hstr : straight A[pc] = true := List.all_eq_true.mp hA _ (List.getElem_mem hlt)
      rw [C09.execM₀_succ (hget.trans hs), C09.execM₀_succ hs]
      refine ite_congr rfl (fun _ => rfl) fun _ => ?_
      have hsh := C09.stepStmt_shape cfg (callValue₀ cfg fuel) (execIncludes₀ cfg fuel base) locals A[pc] { st with count := st.count + 1 }
      generalize C09.stepStmt cfg (callValue₀ cfg fuel) (execIncludes₀ cfg fuel base) locals A[pc] _ = x at hsh ⊢
      cases x with
      | next l st' => exact dead_after_return_aux cfg A B e hA fuel l base (pc + 1) st' hlt
      | goto lab st' => obtain ⟨c, hc⟩ := hsh; rw [hc] at hstr; cases hstr
      | halt r => rfl
    · -- the `return` itself ends the list
      have hs : (A ++ [Stmt.ret e])[pc]? = some (.ret e) := by
        rw [show pc = A.length by omega, List.getElem?_append_right (Nat.le_refl _), Nat.sub_self]; rfl
      rw [execM₀.eq_1, execM₀.eq_1 cfg (fuel+1) (A ++ [Stmt.ret e]), hget, hs]
      cases e <;> rfl

/-- **machine_dead_after_return**: in a list whose statements before a `return` are jump-free, what follows that `return`
is never run, fetched or counted — `B` is arbitrary (it may contain jumps, labels, includes): the list behaves exactly as
if it ended at the `return`.  With `machine_return_ends_only_include` (the includer goes on) this is the machine form of
`C17.return_ends_only_include`. -/
theorem machine_dead_after_return (cfg : Config W) (fuel : Nat) (A B : List Stmt) (e : Option Expr) (locals : Option Env)
    (base : Option String) (st : State W) (hA : Straight A = true) :
    execM cfg fuel (A ++ .ret e :: B) locals base [] 0 st = execM cfg fuel (A ++ [.ret e]) locals base [] 0 st := by
  rw [C08.cache_transparent_nil, C08.cache_transparent_nil]
  exact dead_after_return_aux cfg A B e hA fuel locals base 0 st (Nat.zero_le _)

/-- the include model's outcome that corresponds to how a machine run ended in the script tree -/
def outcomeOf : Stop → Option Include.Outcome
  | .fin => some .ok
  | .incFailed u => some (.includeFailed u)
  | .incParse u => some (.parseError u)
  | .stmt => none
  | .oof => none

section Bridge
variable {σ : Type} (tag : Stmt → String) (cfg : Config W) (sp : Option String) (fs : String → VFile)

/-- the abstracted file map -/
def ifs : String → Include.File := fun u => fileOf tag (fs u)

/-- **machine_refines_include**: for every jump-free program `P` over a jump-free file system, every tagging of
statements, every host / function table / statement budget of the machine, every initial state, every fuel, every
semantics `eff` and state of the include model and every gas `g ≥ fuel`:

* the events of the machine run (= `Machine.execute`, `executeT_res`) are an initial part of the events of
  `Include.run` on the abstraction `itemsOf P`;
* if the machine run ended in the script tree — normally, or with an include statement's `includeFailed` /
  `includeParse` — the two event lists are EQUAL and the include model's outcome is the corresponding one.

(When a plain statement fails — runtime error, statement budget, out of fuel — the machine stops there, while the include
model, whose statements cannot fail, runs on: only the prefix statement holds.) -/
theorem machine_refines_include (eff : String → σ → σ) (hfs : FilesStraight fs) (P : List Stmt) (hP : Straight P = true)
    (base : Option String) (fuel g : Nat) (hg : fuel ≤ g) (st : State W) (s : σ) :
    let m := executeT tag (instCfg cfg sp fs) fuel P base st
    let r := Include.run (icfgOf tag sp fs) eff (g + 1) (urlFnOf base) (itemsOf tag P) s
    m.trace <+: r.trace ∧ ∀ out, outcomeOf m.stop = some out → r.trace = m.trace ∧ r.outcome = out := by
  intro m r
  have h := (simAt tag cfg sp fs eff hfs fuel).1 g hg P none base [] 0 { st with count := 0 } ⟨urlFnOf base, 0⟩ s hP rfl
  have hm : execMT tag (instCfg cfg sp fs) fuel P none base [] 0 { st with count := 0 } = m := rfl
  have hr : Include.runItems (icfgOf tag sp fs) eff (Include.runScript (icfgOf tag sp fs) eff g) ⟨urlFnOf base, 0⟩
      (itemsOf tag (P.drop 0)) s = r := rfl
  rw [hm, hr] at h
  refine ⟨simS_prefix h, ?_⟩
  intro out hout
  unfold Sim at h
  cases hs : m.stop <;> rw [hs] at h hout <;> simp only [outcomeOf, Option.some.injEq, reduceCtorEq] at hout <;>
    subst hout <;> exact h

/-- the run ended in the script tree (not inside a plain statement, not on the fuel of the model) -/
def InTree (s : Stop) : Bool := (outcomeOf s).isSome

/-- **machine_run_spec** (`C17.run_spec` for the machine): the events of a machine run that ended in the script tree ARE the
depth-first, program-order walk of the include tree of `P` — each entry resolved against the file that contains it, once
per entry, its statements right after it — up to and including the first location that cannot be loaded; and the way the
run ended is what that location dictates. -/
theorem machine_run_spec (hfs : FilesStraight fs) (P : List Stmt) (hP : Straight P = true) (base : Option String)
    (fuel g : Nat) (hg : fuel ≤ g) (st : State W) (out : Include.Outcome)
    (hout : outcomeOf (executeT tag (instCfg cfg sp fs) fuel P base st).stop = some out) :
    let E := Include.expectedEvents (icfgOf tag sp fs) (ifs tag fs) (g + 1) base (itemsOf tag P)
    (executeT tag (instCfg cfg sp fs) fuel P base st).trace = Include.cutAt (Include.failing (ifs tag fs)) E ∧
    out = Include.specOutcome (ifs tag fs) E := by
  intro E
  obtain ⟨_, h⟩ := machine_refines_include tag cfg sp fs (fun _ (u : Unit) => u) hfs P hP base fuel g hg st ()
  obtain ⟨ht, ho⟩ := h out hout
  have hne : out ≠ .exceeded ∧ out ≠ .outOfGas := by
    cases hs : (executeT tag (instCfg cfg sp fs) fuel P base st).stop <;> rw [hs] at hout <;>
      simp only [outcomeOf, Option.some.injEq, reduceCtorEq] at hout <;> subst hout <;> simp
  have := C17.run_spec (icfgOf tag sp fs) (fun _ (u : Unit) => u) (ifs tag fs) rfl (g + 1) ⟨urlFnOf base, 0⟩ (itemsOf tag P) ()
  rw [selfOf_urlFnOf] at this
  obtain ⟨h1, h2⟩ := this (fun e => hne.1 (ho.symm.trans e)) (fun e => hne.2 (ho.symm.trans e))
  exact ⟨ht.symm.trans h1, ho.symm.trans h2⟩

/-- **machine_fetch_order** (`C17.include_fetch_order` for the machine): a machine run that completes has asked
`cfg.fetch` for exactly the locations of the include tree, depth-first, in program order, once per include entry, each
resolved against its including file. -/
theorem machine_fetch_order (hfs : FilesStraight fs) (P : List Stmt) (hP : Straight P = true) (base : Option String)
    (fuel g : Nat) (hg : fuel ≤ g) (st : State W)
    (hfin : (executeT tag (instCfg cfg sp fs) fuel P base st).stop = .fin) :
    Include.fetchesOf (executeT tag (instCfg cfg sp fs) fuel P base st).trace =
      Include.expectedFetches (icfgOf tag sp fs) (ifs tag fs) (g + 1) base (itemsOf tag P) := by
  obtain ⟨ht, ho⟩ := machine_run_spec tag cfg sp fs hfs P hP base fuel g hg st .ok (by rw [hfin]; rfl)
  rw [ht, (C17.spec _ _).ok ho.symm]
  rfl

/-- a run that ends with an include error has asked for an initial part of them -/
theorem machine_fetch_prefix (hfs : FilesStraight fs) (P : List Stmt) (hP : Straight P = true) (base : Option String)
    (fuel g : Nat) (hg : fuel ≤ g) (st : State W) (out : Include.Outcome)
    (hout : outcomeOf (executeT tag (instCfg cfg sp fs) fuel P base st).stop = some out) :
    Include.fetchesOf (executeT tag (instCfg cfg sp fs) fuel P base st).trace <+:
      Include.expectedFetches (icfgOf tag sp fs) (ifs tag fs) (g + 1) base (itemsOf tag P) := by
  obtain ⟨ht, _⟩ := machine_run_spec tag cfg sp fs hfs P hP base fuel g hg st out hout
  rw [ht]
  exact (C17.cutAt_prefix _ _).filterMap _

theorem fetchOf_of_fileOf (u : String) :
    (ifs tag fs u = .missing ∨ ifs tag fs u = .throws → fetchOf fs u = .missing) ∧ (ifs tag fs u = .broken → fetchOf fs u = .broken) := by
  unfold ifs fetchOf
  cases fs u <;> simp [fileOf]

/-- **machine_include_errors** (`C17.include_errors` for the machine): if an include statement of the script tree ends the
run with `includeFailed u` (resp. `includeParse u`), then the machine's result is that error, `u` is a RESOLVED location of
the tree, the file map has nothing loadable (resp. a text that does not parse) there, the request for `u` is the LAST
event, nothing before it failed, and the whole event list is an initial part of the tree's walk. -/
theorem machine_include_errors (hfs : FilesStraight fs) (P : List Stmt) (hP : Straight P = true) (base : Option String)
    (fuel g : Nat) (hg : fuel ≤ g) (st : State W) (u : String) :
    let m := executeT tag (instCfg cfg sp fs) fuel P base st
    let E := Include.expectedEvents (icfgOf tag sp fs) (ifs tag fs) (g + 1) base (itemsOf tag P)
    (m.stop = .incFailed u →
      (∃ st', execute (instCfg cfg sp fs) fuel P base st = .err (.includeFailed u) st') ∧
      fetchOf fs u = .missing ∧
      ∃ pre post, E = pre ++ .fetch u :: post ∧ m.trace = pre ++ [.fetch u] ∧ ∀ ev ∈ pre, Include.failing (ifs tag fs) ev = false) ∧
    (m.stop = .incParse u →
      (∃ st', execute (instCfg cfg sp fs) fuel P base st = .err (.includeParse u) st') ∧
      fetchOf fs u = .broken ∧
      ∃ pre post, E = pre ++ .fetch u :: post ∧ m.trace = pre ++ [.fetch u] ∧ ∀ ev ∈ pre, Include.failing (ifs tag fs) ev = false) := by
  intro m E
  -- the include model's run has the machine's events and the corresponding outcome: `C17.include_errors` is read there
  have href := (machine_refines_include tag cfg sp fs (fun _ (u : Unit) => u) hfs P hP base fuel g hg st ()).2
  have herr := C17.include_errors (icfgOf tag sp fs) (fun _ (u : Unit) => u) (ifs tag fs) rfl (g + 1) ⟨urlFnOf base, 0⟩ (itemsOf tag P) () u
  rw [selfOf_urlFnOf] at herr
  constructor <;> intro hs
  · obtain ⟨ht, ho⟩ := href (.includeFailed u) (by rw [hs]; rfl)
    obtain ⟨hv, pre, post, e1, e2, e3⟩ := herr.1 ho
    obtain ⟨st', hres⟩ := stopOf_inc.1 hs
    exact ⟨⟨st', by rw [← executeT_res tag]; exact hres⟩, (fetchOf_of_fileOf tag fs u).1 hv, pre, post, e1, ht ▸ e2, e3⟩
  · obtain ⟨ht, ho⟩ := href (.parseError u) (by rw [hs]; rfl)
    obtain ⟨hv, pre, post, e1, e2, e3⟩ := herr.2 ho
    obtain ⟨st', hres⟩ := stopOf_inc.2 hs
    exact ⟨⟨st', by rw [← executeT_res tag]; exact hres⟩, (fetchOf_of_fileOf tag fs u).2 hv, pre, post, e1, ht ▸ e2, e3⟩

end Bridge

/-- `filesStraight` (a `Bool`) implies the hypothesis `FilesStraight` of the bridge theorems for `ofList` file systems -/
theorem filesStraight_sound (files : List (String × VFile)) (h : filesStraight files = true) : FilesStraight (ofList files) := by
  intro u ss hu
  unfold ofList at hu
  cases hf : files.find? (·.1 == u) with
  | none => simp [hf] at hu
  | some p =>
    simp only [hf, Option.map_some, Option.getD_some] at hu
    have hm := List.mem_of_find?_eq_some hf
    have := List.all_eq_true.mp h p hm
    rw [hu] at this
    exact this

section Examples
open HostImpl C08

def exTag : Stmt → String
  | .expr none (.function _ [.string t]) => t
  | .expr (some n) _ => n.render
  | .label l => l.render
  | .function _ n _ _ _ _ => n.render
  | _ => "?"

/-- the tree of `C17`'s example as REAL statement lists: depth 3, path and URL bases, a system include, two `return`s, a
broken file; `sys.bare` assigns a global -/
def exFiles : List (String × VFile) := [
  ("/r/sub/a.bare", .stmts [logS "a1", .include [⟨"http://h/x/b.bare", false⟩, ⟨"../c.bare", false⟩], .ret none, logS "never"]),
  ("http://h/x/b.bare", .stmts [logS "b1", .include [⟨"lib/d.bare", false⟩, ⟨"sys.bare", true⟩], logS "b2"]),
  ("http://h/x/lib/d.bare", .stmts [logS "d1", .ret (some (.number 5)), .include [⟨"never.bare", false⟩]]),
  ("/sys/sys.bare", .stmts [.expr (some (.user "x")) (.number 1)]),
  ("/r/sub/../c.bare", .stmts [.label (.user "L"), logS "c1"]),
  ("/r/bad.bare", .broken)]

def exRoot : List Stmt :=
  [logS "m1", .include [⟨"sub/a.bare", false⟩], logS "m2", .include [⟨"bad.bare", false⟩, ⟨"x.bare", false⟩], logS "never"]

def exCfg : Config World := instCfg (xcfg [] 1000) (some "/sys/") (ofList exFiles)

example : Straight exRoot = true := by decide
example : FilesStraight (ofList exFiles) := filesStraight_sound _ (by decide)
example : Straight [.jump (.user "L") none] = false := by decide

/-- the machine run: every reference resolved against ITS includer, `d` and `a` end by `return` and their includers go on,
the log and the global written by the system include are in the ONE state, `bad.bare` stops everything with the resolved
location, 15 statements were counted (those of the included scripts too) -/
example :
    let m := executeT exTag exCfg 100 exRoot (some "/r/main.bare") g0
    m.trace = [.exec "m1", .fetch "/r/sub/a.bare", .exec "a1", .fetch "http://h/x/b.bare", .exec "b1",
               .fetch "http://h/x/lib/d.bare", .exec "d1", .fetch "/sys/sys.bare", .exec "x", .exec "b2",
               .fetch "/r/sub/../c.bare", .exec "L", .exec "c1", .exec "m2", .fetch "/r/bad.bare"] ∧
    m.stop = .incParse "/r/bad.bare" ∧
    (obs m.res).err = some (.includeParse "/r/bad.bare") ∧
    (obs m.res).log = ["m1", "a1", "b1", "d1", "b2", "c1", "m2"] ∧
    (obs m.res).globals = g0.globals ++ [(.user "x", .num 1)] ∧
    (obs m.res).count = 15 := by decide +kernel

/-- … and `Include.run` on the abstraction produces the same events and the corresponding outcome (`machine_refines_include`) -/
example :
    let r := Include.run (icfgOf exTag (some "/sys/") (ofList exFiles)) (fun t l => l ++ [t]) 101 (.relativeTo "/r/main.bare")
      (itemsOf exTag exRoot) []
    r.trace = (executeT exTag exCfg 100 exRoot (some "/r/main.bare") g0).trace ∧
    r.outcome = .parseError "/r/bad.bare" := by decide +kernel

/-- a run that completes (`machine_fetch_order` is not vacuous) -/
example :
    let m := executeT exTag exCfg 100 (exRoot.take 3) (some "/r/main.bare") g0
    m.stop = .fin ∧ Include.fetchesOf m.trace =
      ["/r/sub/a.bare", "http://h/x/b.bare", "http://h/x/lib/d.bare", "/sys/sys.bare", "/r/sub/../c.bare"] := by decide +kernel

/-- a missing file (`machine_include_errors`, first half) -/
example : (executeT exTag exCfg 100 [.include [⟨"../nope.bare", false⟩], logS "never"] (some "http://h/x/y/main.bare") g0).stop
    = .incFailed "http://h/x/y/../nope.bare" := by decide +kernel

/-- a plain statement that fails: the machine stops (`Stop.stmt`), the include model would run on — only the prefix
statement of `machine_refines_include` applies -/
example :
    let P : List Stmt := [logS "m1", .expr none (.function (.user "nope") []), .include [⟨"sub/a.bare", false⟩]]
    (executeT exTag exCfg 100 P (some "/r/main.bare") g0).stop = .stmt ∧
    (executeT exTag exCfg 100 P (some "/r/main.bare") g0).trace = [.exec "m1", .exec "?"] ∧
    (Include.run (icfgOf exTag (some "/sys/") (ofList exFiles)) (fun t l => l ++ [t]) 101 (.relativeTo "/r/main.bare")
      (itemsOf exTag P) []).trace.length = 14 := by decide +kernel

/-- the hypothesis of `machine_dead_after_return` holds of a prefix with an include statement -/
example : Straight [logS "a", .include [⟨"sub/a.bare", false⟩]] = true := by decide

/-! ### outside the bridge: an include statement inside a function body (DESIGN finding F42)

`Machine.callValue` runs a function body with `base = none`: the include of `lib.bare` inside `f`, called from
`/r/main.bare`, is resolved verbatim (and fails here, because only `/r/lib.bare` exists), where runtime.py hands the
caller's `urlFn` to the callee and fetches `/r/lib.bare`.  The error is raised inside a plain statement (`Stop.stmt`), and
the request is not an event of the script tree. -/
def f42Body : List Stmt := [.include [⟨"lib.bare", false⟩]]
def f42Cfg : Config World :=
  instCfg (xcfg [(0, { name := .user "f", args := [], lastArgArray := false, body := f42Body })] 1000) none
    (ofList [("/r/lib.bare", .stmts [logS "lib"])])
def f42Root : List Stmt := [.function 0 (.user "f") [] false false f42Body, .expr none (.function (.user "f") [])]

example :
    let m := executeT exTag f42Cfg 100 f42Root (some "/r/main.bare") g0
    (obs m.res).err = some (.includeFailed "lib.bare") ∧ m.stop = .stmt ∧ m.trace = [.exec "f", .exec "?"] := by decide +kernel

/-- the same include statement at top level of `/r/main.bare` is resolved against the including file -/
example :
    let m := executeT exTag f42Cfg 100 f42Body (some "/r/main.bare") g0
    m.stop = .fin ∧ m.trace = [.fetch "/r/lib.bare", .exec "lib"] := by decide +kernel

end Examples

end C17Bridge
