import BareProofs.C14Bridge
import BareProofs.C11BridgeHostLib

/-!
# C14Bridge, second host — `HostLib.hostLib` (world `LWorld`) and `Lib.valueString`

`hostLib` concatenates (`binop .add`) with HostImpl's code on the projection `LWorld.toImpl`, and `systemLog` — which `Lib` does
not model — is HostImpl's tree, lifted.  With `reifyL w v = reify w.toImpl v` the theorems of `C14Bridge` transfer:
`hostLib_add_str`, `hostLib_str_add`, `hostLib_systemLog`, `hostLib_json_roundtrip`, `hostLib_json_injective`,
`hostLib_keys_sorted`, `hostLib_integral_no_fraction`, `hostLib_text_cycle`.

`Lib.valueString` (the `value_string` of the `Lib` library model, used by `arrayJoin`) is defined on null / booleans / strings /
integral numbers / functions / regexes only; where it is defined it is `strOf` (`lib_valueString_agrees`), and it is defined
exactly on those kinds (`lib_valueString_defined`).
-/

namespace C14Bridge
open Machine HostImpl HostLib C11Bridge

theorem hostLib_valueString_bridge (w : LWorld) (v : Value) (p : Compare.PValue) (h : reifyL w v = some p) :
    HostImpl.valueString? w.toImpl v = some (strOf p) := valueString_bridge w.toImpl v p h

/-- `"s" + v` on the second host -/
theorem hostLib_add_str (w : LWorld) (s : String) (v : Value) (p : Compare.PValue) (h : reifyL w v = some p) :
    hostLib.binop .add (.str s) v w = .str (s ++ strOf p) := machine_add_str w.toImpl s v p h

theorem hostLib_str_add (w : LWorld) (s : String) (v : Value) (p : Compare.PValue) (h : reifyL w v = some p) :
    hostLib.binop .add v (.str s) w = .str (strOf p ++ s) := machine_str_add w.toImpl s v p h

theorem putBack_log (w : LWorld) (l : List String) :
    putBack w.heap { w.toImpl with log := l } = { w with log := l } := by cases w; rfl

/-- `Lib` does not model `systemLog`: the second host runs HostImpl's tree -/
theorem hostLib_systemLog_eq (w : LWorld) (v : Value) :
    hostLib.lib "systemLog" [v] w = lift (HostImpl.lib "systemLog" [v] w.toImpl) w.heap :=
  lib_keeps_noBody (by decide) (by decide) _ _

/-- `systemLog(v)` on the second host; the `Lib` heap is kept -/
theorem hostLib_systemLog (w : LWorld) (v : Value) (p : Compare.PValue) (h : reifyL w v = some p) :
    hostLib.lib "systemLog" [v] w = .ret (.ok .null) { w with log := w.log ++ [strOf p] } := by
  rw [hostLib_systemLog_eq, show HostImpl.lib "systemLog" [v] w.toImpl = _ from machine_systemLog w.toImpl v p h, lift]
  exact congrArg _ (putBack_log w _)

/-- a self-containing container on the second host: `+` yields null, `systemLog` fails, world unchanged -/
theorem hostLib_text_cycle (w : LWorld) (s : String) (v : Value) (h : ∃ c, ReachesEq w.toImpl v c ∧ Reaches w.toImpl c c) :
    hostLib.binop .add (.str s) v w = .null ∧ hostLib.lib "systemLog" [v] w = .ret (.fail .null) w ∧ reifyL w v = none := by
  obtain ⟨h1, h2⟩ := machine_text_cycle w.toImpl s v h
  refine ⟨h1, ?_, (valueString_none_of_cycle w.toImpl v h).2⟩
  rw [hostLib_systemLog_eq, show HostImpl.lib "systemLog" [v] w.toImpl = _ from h2, lift, putBack_toImpl]

theorem hostLib_json_roundtrip (w : LWorld) (s : String) (v : Value) (p : Compare.PValue) (h : reifyL w v = some p)
    (hcont : IsContainer p = true) (hc : JClass p = true) :
    ∃ t : String,
      hostLib.binop .add (.str s) v w = .str (s ++ t) ∧
      hostLib.lib "systemLog" [v] w = .ret (.ok .null) { w with log := w.log ++ [t] } ∧
      t.toList = Json.mirrorEncode (toJson p) 0 ∧
      ∃ j, Json.decode t.toList = some j ∧ Json.Equiv j (toJson p) ∧ j = Json.norm (toJson p) :=
  ⟨strOf p, hostLib_add_str w s v p h, hostLib_systemLog w v p h, strOf_roundtrip p hcont hc⟩

theorem hostLib_json_injective (w₁ w₂ : LWorld) (s : String) (v₁ v₂ : Value) (p₁ p₂ : Compare.PValue)
    (h₁ : reifyL w₁ v₁ = some p₁) (h₂ : reifyL w₂ v₂ = some p₂) (hk₁ : IsContainer p₁ = true) (hk₂ : IsContainer p₂ = true)
    (hc₁ : JClass p₁ = true) (hc₂ : JClass p₂ = true)
    (heq : hostLib.binop .add (.str s) v₁ w₁ = hostLib.binop .add (.str s) v₂ w₂) :
    Json.Equiv (toJson p₁) (toJson p₂) ∧ (Plain p₁ = true → Plain p₂ = true → Compare.valueCompare p₁ p₂ = 0) :=
  machine_json_injective w₁.toImpl w₂.toImpl s v₁ v₂ p₁ p₂ h₁ h₂ hk₁ hk₂ hc₁ hc₂ heq

theorem hostLib_keys_sorted (w : LWorld) (s : String) (v : Value) (p : Compare.PValue) (h : reifyL w v = some p)
    (hcont : IsContainer p = true) (hc : JClass p = true) :
    ∃ t : String, hostLib.binop .add (.str s) v w = .str (s ++ t) ∧
      ∃ j, Json.decode t.toList = some j ∧ Json.KeysSorted j ∧ Json.WF j :=
  ⟨strOf p, hostLib_add_str w s v p h, strOf_keys_sorted p hcont hc⟩

theorem hostLib_integral_no_fraction (w : LWorld) (s : String) (q : Rat) (hq : q.den = 1) :
    hostLib.binop .add (.str s) (.num q) w = .str (s ++ NumText.valueStringNum (.int q.num)) ∧
    hostLib.lib "systemLog" [.num q] w = .ret (.ok .null) { w with log := w.log ++ [NumText.valueStringNum (.int q.num)] } ∧
    '.' ∉ (NumText.valueStringNum (.int q.num)).toList := by
  obtain ⟨e, _, hd, _⟩ := strOf_integral q hq
  have h1 := hostLib_add_str w s (.num q) (.num q) rfl
  have h2 := hostLib_systemLog w (.num q) (.num q) rfl
  rw [e] at h1 h2 hd
  exact ⟨h1, h2, hd⟩

/-- where the `value_string` of the `Lib` model is defined it is the machine's -/
theorem lib_valueString_agrees (w : LWorld) (v : Value) (p : Compare.PValue) (h : reifyL w v = some p) (s : String)
    (hs : Lib.valueString (toLib v) = some s) : s = strOf p ∧ HostImpl.valueString? w.toImpl v = some s := by
  have hb := hostLib_valueString_bridge w v p h
  have : s = strOf p := by
    cases v with
    | null | bool _ | str _ | fn _ | regex _ => cases hs; simp only [reifyL, reify, reifyF, Option.some.injEq] at h; subst h; rfl
    | num q =>
      simp only [reifyL, reify, reifyF, Option.some.injEq] at h; subst h
      simp only [toLib, Lib.valueString] at hs
      by_cases hq : q.den = 1
      · simp only [hq, beq_self_eq_true, if_true, Option.some.injEq] at hs
        simp only [strOf, ratText_integral q hq, ← hs]
      · simp [hq] at hs
    | dt _ | arr _ | obj _ => simp [toLib, Lib.valueString] at hs
  exact ⟨this, by rw [hb, this]⟩

/-- … and it is defined exactly on null, booleans, strings, integral numbers, functions and regexes -/
theorem lib_valueString_defined (v : Value) :
    (Lib.valueString (toLib v)).isSome = true ↔
      (match v with | .null | .bool _ | .str _ | .fn _ | .regex _ => True | .num q => q.den = 1 | _ => False) := by
  cases v <;> simp [toLib, Lib.valueString]

/-- non-vacuity on the `LWorld` of the `C11Bridge` examples -/
example : hostLib.binop .add (.str "v=") (.arr 2) exLW = .str "v=[{\"a\":\"x\",\"b\":1},2]" ∧
    hostLib.lib "systemLog" [.arr 3] exLW = .ret (.ok .null) { exLW with log := ["[{\"a\":\"x\",\"b\":1},2]"] } ∧
    hostLib.binop .add (.str "v=") (.arr 5) exLW = .null := by
  refine ⟨?_, ?_, ?_⟩
  · rw [hostLib_add_str exLW _ _ _ exLW_reify.1, exP_text.1]; rfl
  · rw [hostLib_systemLog exLW _ _ exLW_reify.2.1, exP_text.2.1]; rfl
  · have hc : ∃ c, ReachesEq exLW.toImpl (.arr 5) c ∧ Reaches exLW.toImpl c c :=
      ⟨.arr 5, Or.inl rfl, .step (.arr (xs := [.arr 5]) rfl (by simp))⟩
    exact (hostLib_text_cycle exLW "v=" _ hc).1

example : Lib.valueString (toLib (.num 7)) = some "7" ∧ Lib.valueString (toLib (.num (1/2))) = none ∧
    Lib.valueString (toLib (.arr 0)) = none := by decide +kernel

end C14Bridge
