import BareProofs.C12More
import BareModel.LibH3

/-!
# C12HistLemmas — refinement lemmas for `LibH3` (bodies generic in the number primitives), the operators on values and the pool
operations, used by `C12Hist`.
-/

namespace C12Hist
open LibH LibH2 LibH3 C12 C12More

def absBodyR3 (p : BodyR3 PyNum) : BodyR3 Rat := (absV p.1, p.2.map absV)

abbrev absB3 : Except (Fail PyNum) (BodyR3 PyNum) → Except (Fail Rat) (BodyR3 Rat) := absE absBodyR3

set_option quotPrecheck false in
local notation "absKV" => (fun (p : String × HVal) => ((p.1, absV p.2) : String × AVal))

theorem absV_obj' (kvs : List (String × HVal)) : absV (.obj kvs) = .obj (kvs.map absKV) :=
  absV_obj kvs

theorem asObj_abs (a : HVal) : (absV a).asObj? = a.asObj?.map (List.map absKV) := by
  cases a with
  | obj kvs => exact congrArg some (mapKV_eq _ kvs)
  | _ => rfl

/-! ### dict primitives commute with a map on the values -/

theorem objSet_map {V W : Type} (g : V → W) (k : String) (v : V) (l : List (String × V)) :
    (objSet k v l).map (fun p => (p.1, g p.2)) = objSet k (g v) (l.map (fun p => (p.1, g p.2))) := by
  induction l with
  | nil => rfl
  | cons p r ih =>
    simp only [objSet, List.map_cons]
    split <;> simp only [List.map_cons, ih]

theorem objSet_abs (k : String) (v : HVal) (l : List (String × HVal)) :
    (objSet k v l).map absKV = objSet k (absV v) (l.map absKV) := objSet_map absV k v l

theorem objUpdate_abs (d2 d : List (String × HVal)) : (objUpdate d d2).map absKV = objUpdate (d.map absKV) (d2.map absKV) := by
  unfold objUpdate
  induction d2 generalizing d with
  | nil => rfl
  | cons p r ih => simp only [List.foldl_cons, List.map_cons, ih, objSet_abs]

theorem objGet_abs (k : String) (l : List (String × HVal)) : objGet? k (l.map absKV) = (objGet? k l).map absV := by
  simp only [objGet?, List.find?_map, Option.map_map, Function.comp_def]

theorem filter_abs (key : String) (d : List (String × HVal)) :
    (d.filter (fun p => !(p.1 == key))).map absKV = (d.map absKV).filter (fun p => !(p.1 == key)) := by
  simp only [List.filter_map, Function.comp_def]

theorem any_abs (key : String) (d : List (String × HVal)) :
    (d.map absKV).any (fun p => p.1 == key) = d.any (fun p => p.1 == key) := by
  simp only [List.any_map, Function.comp_def]

theorem keys_abs (d : List (String × HVal)) :
    (d.map (fun p => (Val.str p.1 : HVal))).map absV = (d.map absKV).map (fun p => (Val.str p.1 : AVal)) := by
  simp only [List.map_map, Function.comp_def, absV_str]

theorem objectAssign_ref (v : List HVal) : absB3 (objectAssignG v) = objectAssignG (v.map absV) := by
  refine bind_ref (req_ref (list2_map absV v)) fun (a, b) => ?_
  refine bind_ref (req_ref (asObj_abs a)) fun d => ?_
  refine bind_ref (req_ref (asObj_abs b)) fun d2 => ?_
  rw [← objUpdate_abs, ← absV_obj']; rfl

theorem objectCopy_ref (v : List HVal) : absB3 (objectCopyG v) = objectCopyG (v.map absV) := by
  refine bind_ref (req_ref (list1_map absV v)) fun a => ?_
  exact bind_ref (req_ref (asObj_abs a)) fun d => congrArg (fun o => Except.ok (o, none)) (absV_obj' d)

theorem objectDelete_ref (v : List HVal) : absB3 (objectDeleteG v) = objectDeleteG (v.map absV) := by
  refine bind_ref (req_ref (list2_map absV v)) fun (a, k) => ?_
  refine bind_ref (req_ref (asObj_abs a)) fun d => ?_
  refine bind_ref (req_ref (asStr_abs k)) fun key => ?_
  rw [← filter_abs, ← absV_obj']; rfl

theorem objectGet_ref (v : List HVal) : absB3 (objectGetG v) = objectGetG (v.map absV) := by
  refine bind_ref (req_ref (list3_map absV v)) fun (a, k, dflt) => ?_
  refine bind_ref (req_ref (asObj_abs a)) fun d => ?_
  refine bind_ref (req_ref (asStr_abs k)) fun key => ?_
  rw [objGet_abs, Option.getD_map]; rfl

theorem objectHas_ref (v : List HVal) : absB3 (objectHasG v) = objectHasG (v.map absV) := by
  refine bind_ref (req_ref (list2_map absV v)) fun (a, k) => ?_
  refine bind_ref (req_ref (asObj_abs a)) fun d => ?_
  refine bind_ref (req_ref (asStr_abs k)) fun key => ?_
  rw [any_abs]; rfl

theorem objectKeys_ref (v : List HVal) : absB3 (objectKeysG v) = objectKeysG (v.map absV) := by
  refine bind_ref (req_ref (list1_map absV v)) fun a => ?_
  refine bind_ref (req_ref (asObj_abs a)) fun d => ?_
  rw [← keys_abs, ← absV_arr]; rfl

theorem objectSet_ref (v : List HVal) : absB3 (objectSetG v) = objectSetG (v.map absV) := by
  refine bind_ref (req_ref (list3_map absV v)) fun (a, k, value) => ?_
  refine bind_ref (req_ref (asObj_abs a)) fun d => ?_
  refine bind_ref (req_ref (asStr_abs k)) fun key => ?_
  rw [← objSet_abs, ← absV_obj']; rfl

theorem objectNewLoop_ref : ∀ (n : Nat) (v : List HVal) (acc : List (String × HVal)), v.length ≤ n →
    absE (List.map absKV) (objectNewLoop v acc) = objectNewLoop (v.map absV) (acc.map absKV)
  | _, [], acc, _ => rfl
  | _, [k], acc, _ => by
    simp only [objectNewLoop, List.map_cons, List.map_nil, asStr_abs]
    cases k.asStr? with
    | none => rfl
    | some s => exact congrArg Except.ok (objSet_abs s .null acc)
  | n + 1, k :: value :: r, acc, h => by
    simp only [objectNewLoop, List.map_cons, asStr_abs]
    cases k.asStr? with
    | none => rfl
    | some s =>
      simp only [Option.map_some, id]
      rw [objectNewLoop_ref n r (objSet s value acc) (by simp at h; omega), objSet_abs]

theorem objectNew_ref (v : List HVal) : absB3 (objectNewG v) = objectNewG (v.map absV) :=
  bind_ref (objectNewLoop_ref v.length v [] (Nat.le_refl _)) fun d => congrArg (fun o => Except.ok (o, none)) (absV_obj' d)

theorem systemType_ref (v : List HVal) : absB3 (systemTypeG v) = systemTypeG (v.map absV) :=
  bind_ref (req_ref (list1_map absV v)) fun a => congrArg (fun t => Except.ok (Val.str t, none)) (typeName_abs a).symm

theorem systemBoolean_ref (v : List HVal) : absB3 (systemBooleanG hOps v) = systemBooleanG aOps (v.map absV) :=
  bind_ref (req_ref (list1_map absV v)) fun a => congrArg (fun b => Except.ok (Val.bool b, none)) (truthy_abs a)

theorem isSame_abs (a b : HVal) : isSame hOps a b = isSame aOps (absV a) (absV b) := by
  cases a with
  | num x => cases b with
    | num y => exact pyEq_abs x y
    | _ => rfl
  | _ => cases b <;> rfl

theorem identityFree_abs (a b : HVal) : identityFree (absV a) (absV b) = identityFree a b := by
  cases a <;> cases b <;> rfl

theorem systemIs_ref (v : List HVal) : absB3 (systemIsG hOps v) = systemIsG aOps (v.map absV) :=
  bind_ref (req_ref (list2_map absV v)) fun (a, b) => congrArg (fun c => Except.ok (Val.bool c, none)) (isSame_abs a b)

theorem insSorted_abs (x : HVal) (l : List HVal) :
    (insSorted (valCmp pyCmp) x l).map absV = insSorted (valCmp ratCmp) (absV x) (l.map absV) := by
  induction l with
  | nil => rfl
  | cons y r ih =>
    simp only [insSorted, List.map_cons, ← cmp_abs]
    split <;> simp only [List.map_cons, ih]

/-- sorting by `value_compare` commutes with forgetting the spelling: the order of a mixed int / float array does not depend on the
    spelling, and every element keeps its own spelling -/
theorem sortVals_abs (l : List HVal) : (sortVals (valCmp pyCmp) l).map absV = sortVals (valCmp ratCmp) (l.map absV) := by
  induction l with
  | nil => rfl
  | cons x r ih => simp only [sortVals, List.map_cons, insSorted_abs, ih]

theorem arraySort_ref (v : List HVal) : absB3 (arraySortG hOps v) = arraySortG aOps (v.map absV) := by
  refine bind_ref (req_ref (list2_map absV v)) fun (a, cf) => ?_
  refine bind_ref (req_ref (asArr_abs a)) fun xs => ?_
  cases cf with
  | null => exact congrArg (fun o => Except.ok (o, some o)) ((absV_arr _).trans (congrArg Val.arr (sortVals_abs xs)))
  | _ => rfl

theorem datetimeField_ref (f : Datetime.DT → Int) (v : List HVal) :
    absB3 (datetimeFieldG hOps f v) = datetimeFieldG aOps f (v.map absV) := by
  refine bind_ref (req_ref (list1_map absV v)) fun a => ?_
  cases a with
  | «opaque» k i => dsimp only [absV_opaque]; cases Datetime.ofLocalMs i <;> rfl
  | _ => rfl

theorem numberParseFloat_ref (rnd : Rat → Rat) (v : List HVal) :
    absB3 (numberParseFloatG hOps rnd v) = numberParseFloatG aOps rnd (v.map absV) := by
  refine bind_ref (req_ref (list1_map absV v)) fun a => ?_
  refine bind_ref (req_ref (asStr_abs a)) fun s => ?_
  dsimp only [id]
  cases NumText.numberParseFloat s <;> rfl

mutual
/-- the value `json.loads` builds, with spellings forgotten, is the one-number-type value: the int / float typing of the number tokens
    is invisible after abstraction -/
theorem ofJ_abs (rnd : Rat → Rat) : ∀ j : Json.JValue, absV (ofJ hOps rnd j) = ofJ aOps rnd j
  | .null => by simp [ofJ]
  | .bool b => by simp [ofJ]
  | .num n => by cases n <;> simp [ofJ, hOps, aOps]
  | .str s => by simp [ofJ]
  | .arr xs => by simp [ofJ, ofJL_abs rnd xs]
  | .obj kvs => by
    have h := ofJM_abs rnd kvs []
    simp only [List.map_nil] at h
    simp [ofJ, h]
theorem ofJL_abs (rnd : Rat → Rat) : ∀ xs : List Json.JValue, (ofJL hOps rnd xs).map absV = ofJL aOps rnd xs
  | [] => by simp [ofJL]
  | x :: r => by simp [ofJL, ofJ_abs rnd x, ofJL_abs rnd r]
theorem ofJM_abs (rnd : Rat → Rat) : ∀ (kvs : List (Json.Str × Json.JValue)) (acc : List (String × HVal)),
    (ofJM hOps rnd kvs acc).map absKV = ofJM aOps rnd kvs (acc.map absKV)
  | [], acc => by simp [ofJM]
  | (k, x) :: r, acc => by
    simp only [ofJM]
    rw [ofJM_abs rnd r, objSet_abs, ofJ_abs rnd x]
end

theorem jsonParse_ref (rnd : Rat → Rat) (v : List HVal) : absB3 (jsonParseG hOps rnd v) = jsonParseG aOps rnd (v.map absV) := by
  refine bind_ref (req_ref (list1_map absV v)) fun a => ?_
  refine bind_ref (req_ref (asStr_abs a)) fun s => ?_
  dsimp only [id]
  cases Json.decode s.toList with
  | none => rfl
  | some j => exact congrArg (fun o => Except.ok (o, none)) (ofJ_abs rnd j)

/-- every body of `LibH3` refines its one-number-type instance: same value, same failure (class and failure value), same new contents
    of a mutated argument - for ALL argument lists, without any hypothesis. -/
theorem body3_refines (rnd : Rat → Rat) (name : String) (v : List HVal) :
    absB3 (bodyG3 hOps rnd name v) = bodyG3 aOps rnd name (v.map absV) := by
  unfold bodyG3
  split
  · exact objectAssign_ref v
  · exact objectCopy_ref v
  · exact objectDelete_ref v
  · exact objectGet_ref v
  · exact objectHas_ref v
  · exact objectKeys_ref v
  · exact objectNew_ref v
  · exact objectSet_ref v
  · exact systemType_ref v
  · exact systemBoolean_ref v
  · exact systemIs_ref v
  · exact arraySort_ref v
  · exact datetimeField_ref _ v
  · exact datetimeField_ref _ v
  · exact datetimeField_ref _ v
  · exact datetimeField_ref _ v
  · exact datetimeField_ref _ v
  · exact datetimeField_ref _ v
  · exact datetimeField_ref _ v
  · exact numberParseFloat_ref rnd v
  · exact jsonParse_ref rnd v
  · rfl

theorem wrap3_abs (args : List HVal) (b : Except (Fail PyNum) (BodyR3 PyNum)) :
    absOut (wrap3 args b) = wrap3 (args.map absV) (absB3 b) := by
  cases b with
  | error e => cases e <;> rfl
  | ok p =>
    obtain ⟨r, _ | a0⟩ := p
    · rfl
    · exact congrArg (Out.mk (absV r)) List.map_set

theorem failRet3_abs (name : String) (args : List HVal) : absV (failRet3 name args) = failRet3 name (args.map absV) := by
  unfold failRet3
  rw [apply_ite absV, apply_ite absV, List.getD_eq_getElem?_getD, List.getD_eq_getElem?_getD, List.getElem?_map]
  cases args[2]? <;> rfl

/-- for every function of the `LibH3` table (any name: unmodelled names are the trivially failing body on both
    sides), ALL argument lists and ANY rounding function, the wrapped host-level call with spellings forgotten afterwards equals the
    one-number-type call on the abstracted arguments - the value of the call expression (including the failure values: null,
    `false` for objectHas, the caller's own third argument for objectGet; a number KEY is such a failure in either spelling) and the
    post-call contents of the argument objects.  No hypothesis: these functions move, compare, test and produce numbers but never print
    or round one. -/
theorem libH3_refines_lib (rnd : Rat → Rat) (name : String) (args : List HVal) :
    absOut (callH3 rnd name args) = callA3 rnd name (args.map absV) := by
  unfold callH3 callA3 callWith3
  cases (modelName3 name).map argModel with
  | none => simp only [wrap3_abs, body3_refines]
  | some ms =>
    simp only [← validate_refines]
    cases validateH ms args with
    | none => exact congrArg (Out.mk · _) (failRet3_abs name args)
    | some vargs => simp only [Option.map_some, wrap3_abs, body3_refines]

/-! ### the Boolean hypotheses imply the hypotheses of the `LibH2` theorems -/

theorem smallInt_of (n : Int) (h : smallIntB n = true) : smallInt n := of_decide_eq_true h

theorem textOk_of (v : HVal) (h : textOkB v = true) : TextOk v := by
  cases v with
  | num x => cases x with
    | int n => exact smallInt_of n h
    | float q => trivial
  | _ => trivial

theorem numOk_of (E : Env) (x : PyNum) (h : numOkB E x = true) : NumOk E x := by
  cases x with
  | int n => exact smallInt_of n h
  | float q => exact (of_decide_eq_true h : E.rnd q = q)

theorem digitsOk_of (d : PyNum) (h : digitsOkB d = true) : DigitsOk d := of_decide_eq_true h

theorem list1_some {α : Type} {v : List α} {a : α} (h : list1 v = some a) : v = [a] := by
  rcases v with _ | ⟨x, _ | ⟨y, t⟩⟩ <;> cases h; rfl

theorem list2_some {α : Type} {v : List α} {a b : α} (h : list2 v = some (a, b)) : v = [a, b] := by
  rcases v with _ | ⟨x, _ | ⟨y, _ | ⟨z, t⟩⟩⟩ <;> cases h; rfl

theorem list3_some {α : Type} {v : List α} {a b c : α} (h : list3 v = some (a, b, c)) : v = [a, b, c] := by
  rcases v with _ | ⟨x, _ | ⟨y, _ | ⟨z, _ | ⟨w, t⟩⟩⟩⟩ <;> cases h; rfl

theorem asNum_some {N : Type} {a : Val N} {x : N} (h : a.asNum? = some x) : a = .num x := by
  cases a <;> cases h; rfl

theorem asArr_some {N : Type} {a : Val N} {xs : List (Val N)} (h : a.asArr? = some xs) : a = .arr xs := by
  cases a <;> cases h; rfl

theorem preBody_of_argsOkB (E : Env) (name : String) (v : List HVal) (h : argsOkB E name v = true) : PreBody E name v := by
  unfold PreBody
  split
  · intro a ha
    cases list1_some ha
    exact textOk_of a h
  · intro a s xs hv ha x hx
    cases list2_some hv; cases asArr_some ha
    exact textOk_of x (List.all_eq_true.mp h x hx)
  · intro a d x dg hv ha hd
    cases list2_some hv; cases asNum_some ha; cases asNum_some hd
    exact ⟨numOk_of E x (Bool.and_eq_true _ _ ▸ h).1, digitsOk_of dg (Bool.and_eq_true _ _ ▸ h).2⟩
  · intro a d t x dg hv ha hd
    cases list3_some hv; cases asNum_some ha; cases asNum_some hd
    exact ⟨numOk_of E x (Bool.and_eq_true _ _ ▸ h).1, digitsOk_of dg (Bool.and_eq_true _ _ ▸ h).2⟩
  · trivial
theorem dbl_of (E : Env) (x : PyNum) (h : dblB E x = true) : E.rnd x.abs = x.abs := by
  simpa [dblB] using h

theorem isDouble_of (E : Env) (x : PyNum) (h : dblB E x = true) : IsDouble E.rnd x :=
  isDouble_of_fix E.rnd x (dbl_of E x h)

theorem intRes_of (E : Env) (f : Int → Int → Int) (a b : PyNum) (h : intResB E f a b = true) :
    ∀ m n, a = .int m → b = .int n → E.rnd ((f m n : Int) : Rat) = ((f m n : Int) : Rat) := by
  intro m n ha hb
  subst ha hb
  simpa [intResB] using h

theorem opAddV_ref (E : Env) (hE : Sane E) (l r : HVal) (h : opOkB E .add l r = true) :
    absV (opAddVH E l r) = opAddVA E (absV l) (absV r) := by
  cases l with
  | num a => cases r with
    | num b =>
      simp only [opOkB, Bool.and_eq_true] at h
      exact congrArg Val.num (opAdd_refines E.rnd a b (dbl_of E a h.1.1) (dbl_of E b h.1.2) (intRes_of E (· + ·) a b h.2))
    | str s => exact congrArg (fun t => Val.str (t ++ s)) (valueString_abs E hE _ (textOk_of _ h))
    | _ => rfl
  | str s =>
    have ht : TextOk r := textOk_of r (by cases r <;> exact h)
    cases r <;> exact congrArg (fun t => Val.str (s ++ t)) (valueString_abs E hE _ ht)
  | _ => cases r with
    | str s => exact congrArg (fun t => Val.str (t ++ s)) (valueString_abs E hE _ trivial)
    | _ => rfl

theorem arith_ref (E : Env) (op : BinOp) (a b : PyNum) (hop : isArith op = true) (h : opOkB E op (.num a) (.num b) = true) :
    absV (arithH E op a b) = arithA E op a.abs b.abs := by
  cases op <;> cases hop <;> simp only [opOkB, Bool.and_eq_true] at h
  · exact congrArg Val.num (opSub_refines E.rnd a b (dbl_of E a h.1.1) (dbl_of E b h.1.2) (intRes_of E (· - ·) a b h.2))
  · exact congrArg Val.num (opMul_refines E.rnd a b (isDouble_of E a h.1) (isDouble_of E b h.2))
  · simp only [arithH, arithA, opDiv_refines E.rnd a b (dbl_of E a h.1) (dbl_of E b h.2)]
    cases opDivA E.rnd a.abs b.abs <;> rfl
  · simp only [arithH, arithA, ← opMod_refines E.rnd a b (dbl_of E a h.1.1) (dbl_of E b h.1.2) (intRes_of E (fun m n => Int.tmod m n + n) a b h.2)]
    cases opModH E.rnd a b <;> rfl

/-- `- * / %` on two values: null unless both are numbers -/
theorem arithV_ref (E : Env) (op : BinOp) (l r : HVal) (hop : isArith op = true) (h : opOkB E op l r = true) :
    absV (match (generalizing := false) l, r with | .num a, .num b => arithH E op a b | _, _ => .null)
      = (match absV l, absV r with | .num a, .num b => arithA E op a b | _, _ => .null) := by
  cases l with
  | num a => cases r with
    | num b => exact arith_ref E op a b hop h
    | _ => rfl
  | _ => cases r <;> rfl

/-- every binary operator of the history language on ANY two values (`+` on numbers / strings / string and
    value, `- * / %` on numbers, the six comparisons through `value_compare`, `&&`, `||` by truthiness), with the spelling forgotten
    afterwards, is the one-number-type operator on the abstracted operands - the failure value null included - provided the operands meet
    `opOkB` (number operands are doubles, the exact result of `int + int`, `int - int`, the adjusted `int % int` is a double, a host int
    whose text is taken is below 1e15). -/
theorem opBin_refines (E : Env) (hE : Sane E) (op : BinOp) (l r : HVal) (h : opOkB E op l r = true) :
    absV (opBinH E op l r) = opBinA E op (absV l) (absV r) := by
  unfold opBinH opBinA
  by_cases hadd : op = .add
  · subst op; exact opAddV_ref E hE l r h
  rw [if_neg hadd, if_neg hadd]
  by_cases har : isArith op = true
  · rw [if_pos har, if_pos har]; exact arithV_ref E op l r har h
  rw [if_neg har, if_neg har, ← truthy_abs, ← cmp_abs]
  by_cases hand : op = .and
  · rw [if_pos hand, if_pos hand]; exact apply_ite absV _ r l
  rw [if_neg hand, if_neg hand]
  by_cases hor : op = .or
  · rw [if_pos hor, if_pos hor]; exact apply_ite absV _ l r
  rw [if_neg hor, if_neg hor]; rfl

/-- the unary operators: `-` (exact in both spellings; null on a non-number) and `!` (truthiness: `0` and `0.0` alike). -/
theorem opUn_refines (op : UnOp) (v : HVal) : absV (opUnH op v) = opUnA op (absV v) := by
  cases op
  · cases v <;> simp [opUnH, opUnA, opNeg_refines]
  · simp [opUnH, opUnA, ← truthy_abs]

theorem getVar_abs (p : Pool PyNum) (i : Nat) : absV (getVar p i) = getVar (p.map absV) i := by
  simp only [getVar, List.getD_eq_getElem?_getD, List.getElem?_map]
  cases p[i]? <;> simp

theorem writeBack_abs (p : Pool PyNum) : ∀ (ixs : List Nat) (vs : List HVal),
    (writeBack p ixs vs).map absV = writeBack (p.map absV) ixs (vs.map absV)
  | [], _ => rfl
  | _ :: _, [] => rfl
  | i :: is, v :: vs => by rw [writeBack, List.map_set, writeBack_abs p is vs]; rfl

end C12Hist
