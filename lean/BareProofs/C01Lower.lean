import BareModel.Lower

/-!
# The recursive lowering: its label counter, the code of an `if` chain, the labels of a chain

`syntax_induct`: induction over the syntax.  `chain_labels`: one branch of an `if` chain and what follows it define pairwise
distinct labels, `done` or generated with indices from the chain's own counter range, if the then-block and the rest of the
chain do.  (What a block defines: `C07Lemmas`.)
-/

namespace C01
open Lower

/-- The induction principle of statements, blocks and else-chains: the three recursors of the nested type, with the cases
named.  A walk over the syntax is `syntax_induct (expr := …) (ite := fun c t e hT hE => …) …`. -/
theorem syntax_induct {mS : SStmt → Prop} {mB : List SStmt → Prop} {mE : SElse → Prop}
    (expr : ∀ n e, mS (.expr n e)) (ret : ∀ e, mS (.ret e))
    (ite : ∀ c t e, mB t → mE e → mS (.ite c t e)) (while_ : ∀ c b, mB b → mS (.while c b))
    (for_ : ∀ v ix vals b, mB b → mS (.for v ix vals b)) (brk : mS .brk) (cont : mS .cont)
    (func : ∀ fid n args laa a b, mB b → mS (.func fid n args laa a b)) (label : ∀ l, mS (.label l))
    (jump : ∀ l c, mS (.jump l c)) (incl : ∀ incs, mS (.include incs))
    (nil : mB []) (cons : ∀ s ss, mS s → mB ss → mB (s :: ss))
    (none : mE .none) (els : ∀ b, mB b → mE (.els b)) (elif : ∀ c t e, mB t → mE e → mE (.elif c t e)) :
    (∀ s, mS s) ∧ (∀ B, mB B) ∧ (∀ e, mE e) :=
  ⟨fun s => SStmt.rec (motive_1 := mS) (motive_2 := mE) (motive_3 := mB) expr ret ite while_ for_ brk cont func label jump incl
      none els elif nil cons s,
   fun B => SStmt.rec_1 (motive_1 := mS) (motive_2 := mE) (motive_3 := mB) expr ret ite while_ for_ brk cont func label jump incl
      none els elif nil cons B,
   fun e => SElse.rec (motive_1 := mS) (motive_2 := mE) (motive_3 := mB) expr ret ite while_ for_ brk cont func label jump incl
      none els elif nil cons e⟩

mutual
theorem lowerS_cnt (lp : Option (Name × Name)) : ∀ (s : SStmt) (i : Nat), (lowerS lp s i).2 = cntS s i
  | .expr _ _, _ => rfl
  | .ret _, _ => rfl
  | .label _, _ => rfl
  | .jump _ _, _ => rfl
  | .include _, _ => rfl
  | .brk, _ => rfl
  | .cont, _ => rfl
  | .ite _ t e, i =>
      (lowerElse_cnt lp (lIf i) (lDone i) e _).trans (congrArg (cntE e) (lowerB_cnt lp t (i+1)))
  | .while _ b, i => lowerB_cnt _ b (i+1)
  | .for _ _ _ b, i => lowerB_cnt _ b (i+1)
  | .func _ _ _ _ _ b, i => lowerB_cnt none b i
theorem lowerB_cnt (lp : Option (Name × Name)) : ∀ (B : List SStmt) (i : Nat), (lowerB lp B i).2 = cntB B i
  | [], _ => rfl
  | s :: ss, i => (lowerB_cnt lp ss _).trans (congrArg (cntB ss) (lowerS_cnt lp s i))
theorem lowerElse_cnt (lp : Option (Name × Name)) (cur done : Name) : ∀ (e : SElse) (i : Nat),
    (lowerElse lp cur done e i).2 = cntE e i
  | .none, _ => rfl
  | .els b, i => lowerB_cnt lp b i
  | .elif _ t e, i => (lowerElse_cnt lp (lIf i) done e _).trans (congrArg (cntE e) (lowerB_cnt lp t (i+1)))
end

mutual
theorem cntS_le : ∀ (s : SStmt) (i : Nat), i ≤ cntS s i
  | .expr _ _, _ => Nat.le_refl _
  | .ret _, _ => Nat.le_refl _
  | .label _, _ => Nat.le_refl _
  | .jump _ _, _ => Nat.le_refl _
  | .include _, _ => Nat.le_refl _
  | .brk, _ => Nat.le_refl _
  | .cont, _ => Nat.le_refl _
  | .ite _ t e, i => Nat.le_of_lt (Nat.lt_of_lt_of_le (Nat.lt_of_lt_of_le i.lt_succ_self (cntB_le t (i+1))) (cntE_le e _))
  | .while _ b, i => Nat.le_of_lt (Nat.lt_of_lt_of_le i.lt_succ_self (cntB_le b (i+1)))
  | .for _ _ _ b, i => Nat.le_of_lt (Nat.lt_of_lt_of_le i.lt_succ_self (cntB_le b (i+1)))
  | .func _ _ _ _ _ b, i => cntB_le b i
theorem cntB_le : ∀ (B : List SStmt) (i : Nat), i ≤ cntB B i
  | [], _ => Nat.le_refl _
  | s :: ss, i => Nat.le_trans (cntS_le s i) (cntB_le ss (cntS s i))
theorem cntE_le : ∀ (e : SElse) (i : Nat), i ≤ cntE e i
  | .none, _ => Nat.le_refl _
  | .els b, i => cntB_le b i
  | .elif _ t e, i => Nat.le_of_lt (Nat.lt_of_lt_of_le (Nat.lt_of_lt_of_le i.lt_succ_self (cntB_le t (i+1))) (cntE_le e _))
end

theorem cnt_ite_lt (t : List SStmt) (e : SElse) (i : Nat) : i < cntE e (cntB t (i+1)) :=
  Nat.lt_of_lt_of_le (Nat.lt_of_lt_of_le i.lt_succ_self (cntB_le t (i+1))) (cntE_le e _)

/-! ## the code of an `if` chain

`lowerS (.ite c t e)` and `lowerElse (.elif c t e)` emit the same thing, `chainCode`; `elseBody` is an else-chain from
the point where control enters it. -/

/-- target of a branch's conditional jump: `done` when it is the last branch and no else follows, else its own `If` label -/
def chainTgt (e : SElse) (k : Nat) (done : Name) : Name :=
  match e with
  | .none => done
  | _ => lIf k

/-- one branch of an `if` chain and all that follows: conditional jump, then-block, rest of the chain -/
def chainCode (lp : Option (Name × Name)) (done : Name) (c : Expr) (t : List SStmt) (e : SElse) (k : Nat) : List Stmt :=
  .jump (chainTgt e k done) (some (notE c)) :: ((lowerB lp t (k+1)).1 ++ (lowerElse lp (lIf k) done e (cntB t (k+1))).1)

/-- what closes the branch before an else-chain: `jump done; label cur`, or just `label done` when the chain is empty -/
def elseHead (cur done : Name) : SElse → List Stmt
  | .none => [.label done]
  | _ => [.jump done none, .label cur]

def elseBody (lp : Option (Name × Name)) (done : Name) : SElse → Nat → List Stmt
  | .none, _ => []
  | .els b, j => (lowerB lp b j).1 ++ [.label done]
  | .elif c t e, j => chainCode lp done c t e j

theorem elseHead_of_ne {e : SElse} (cur done : Name) (he : e ≠ .none) :
    elseHead cur done e = [.jump done none, .label cur] := by
  cases e with
  | none => exact absurd rfl he
  | els _ => rfl
  | elif _ _ _ => rfl

theorem lowerB_cons (lp : Option (Name × Name)) (s : SStmt) (ss : List SStmt) (i : Nat) :
    (lowerB lp (s :: ss) i).1 = (lowerS lp s i).1 ++ (lowerB lp ss (cntS s i)).1 :=
  lowerS_cnt lp s i ▸ rfl

theorem lowerS_ite_eq (lp : Option (Name × Name)) (c : Expr) (t : List SStmt) (e : SElse) (i : Nat) :
    (lowerS lp (.ite c t e) i).1 = chainCode lp (lDone i) c t e i := by
  rw [chainCode, ← lowerB_cnt lp t (i+1)]; cases e <;> rfl

theorem lowerS_while_eq (lp : Option (Name × Name)) (c : Expr) (b : List SStmt) (i : Nat) :
    (lowerS lp (.while c b) i).1 = .jump (lDone i) (some (notE c)) :: .label (lLoop i) ::
      ((lowerB (some (lDone i, lLoop i)) b (i+1)).1 ++ [.jump (lLoop i) (some c), .label (lDone i)]) := by
  show [_, _] ++ _ ++ [_, _] = _
  simp only [List.cons_append, List.nil_append]

theorem lowerS_for_eq (lp : Option (Name × Name)) (v : Name) (ix : Option Name) (vals : Expr) (b : List SStmt) (i : Nat) :
    (lowerS lp (.for v ix vals b) i).1 = forHeader i v (ix.getD (vIndex i)) vals ++
      ((lowerB (some (lDone i, lCont i)) b (i+1)).1 ++ forFooter i (ix.getD (vIndex i)) (usesContB b)) :=
  List.append_assoc ..

theorem lowerElse_eq (lp : Option (Name × Name)) (cur done : Name) : ∀ (e : SElse) (j : Nat),
    (lowerElse lp cur done e j).1 = elseHead cur done e ++ elseBody lp done e j
  | .none, _ => rfl
  | .els _, _ => List.append_assoc ..
  | .elif _ t e, j => by
      show _ = [_, _] ++ chainCode lp done _ t e j
      rw [chainCode, ← lowerB_cnt lp t (j+1)]; cases e <;> rfl

theorem lowerElse_last (lp : Option (Name × Name)) (done : Name) : ∀ (e : SElse) (cur : Name) (j : Nat),
    ∃ init, (lowerElse lp cur done e j).1 = init ++ [.label done]
  | .none, _, _ => ⟨[], rfl⟩
  | .els _, _, _ => ⟨_, rfl⟩
  | .elif _ t e, _, j =>
      let ⟨init, h⟩ := lowerElse_last lp done e (lIf j) (lowerB lp t (j+1)).2
      ⟨_, (congrArg (_ ++ ·) h).trans (List.append_assoc _ init [_]).symm⟩

theorem chainCode_last (lp : Option (Name × Name)) (done : Name) (c : Expr) (t : List SStmt) (e : SElse) (k : Nat) :
    ∃ init, chainCode lp done c t e k = init ++ [.label done] := by
  obtain ⟨init, h⟩ := lowerElse_last lp done e (lIf k) (cntB t (k+1))
  exact ⟨.jump (chainTgt e k done) (some (notE c)) :: ((lowerB lp t (k+1)).1 ++ init), by
    rw [chainCode, h, List.cons_append, List.append_assoc]⟩

theorem elseBody_last (lp : Option (Name × Name)) (done : Name) : ∀ (e : SElse) (j : Nat), e ≠ .none →
    ∃ init, elseBody lp done e j = init ++ [.label done]
  | .none, _, h => absurd rfl h
  | .els b, j, _ => ⟨(lowerB lp b j).1, rfl⟩
  | .elif c t e, j, _ => chainCode_last lp done c t e j

theorem lowerS_ends_done (lp : Option (Name × Name)) (s : SStmt) (i : Nat)
    (hs : match s with | .ite .. | .while .. | .for .. => True | _ => False) :
    ∃ init, (lowerS lp s i).1 = init ++ [.label (lDone i)] := by
  cases s with
  | ite c t e => exact lowerS_ite_eq lp c t e i ▸ chainCode_last lp (lDone i) c t e i
  | «while» c b => exact ⟨_, (List.append_assoc _ [_] [_]).symm⟩
  | «for» v ix vals b =>
    exact ⟨_, ((List.append_assoc _ _ [_]).trans (congrArg (_ ++ ·) (List.append_assoc _ [_, _] [_]))).symm⟩
  | _ => exact hs.elim

mutual
/-- no raw `label` / `jump` statements (they have no structured meaning; C01 quantifies over structured programs) -/
def NoRawS : SStmt → Prop
  | .label _ => False
  | .jump _ _ => False
  | .ite _ t e => NoRawB t ∧ NoRawE e
  | .while _ b => NoRawB b
  | .for _ _ _ b => NoRawB b
  | .func _ _ _ _ _ b => NoRawB b
  | _ => True
def NoRawB : List SStmt → Prop
  | [] => True
  | s :: ss => NoRawS s ∧ NoRawB ss
def NoRawE : SElse → Prop
  | .none => True
  | .els b => NoRawB b
  | .elif _ t e => NoRawB t ∧ NoRawE e
end

/-- every label of the (top-level) list is a generated one with index in `[i, j)` -/
def InRange (L : List Stmt) (i j : Nat) : Prop :=
  ∀ l, Stmt.label l ∈ L → ∃ K k, l = .gen K k ∧ i ≤ k ∧ k < j

/-- no generated label with index in `[i, j)` occurs in the (top-level) list -/
def Fresh (L : List Stmt) (i j : Nat) : Prop :=
  ∀ K k, i ≤ k → k < j → Stmt.label (.gen K k) ∉ L

theorem inRange_nil (i j : Nat) : InRange [] i j := fun _ hl => nomatch hl

def labelOf? : Stmt → Option Name
  | .label l => some l
  | _ => none

def labelsOf (L : List Stmt) : List Name := L.filterMap labelOf?

theorem mem_labelsOf {l : Name} {L : List Stmt} : l ∈ labelsOf L ↔ Stmt.label l ∈ L := by
  simp only [labelsOf, List.mem_filterMap]
  constructor
  · rintro ⟨x, hx, h⟩; cases x <;> cases h; exact hx
  · exact fun h => ⟨_, h, rfl⟩

theorem labelsOf_append (A B : List Stmt) : labelsOf (A ++ B) = labelsOf A ++ labelsOf B := List.filterMap_append

def GenLabels (L : List Stmt) (i j : Nat) : Prop := (labelsOf L).Nodup ∧ InRange L i j

def LabelsIn (L : List Stmt) (done : Name) (i j : Nat) : Prop :=
  (labelsOf L).Nodup ∧ ∀ l ∈ labelsOf L, l = done ∨ ∃ K k, l = .gen K k ∧ i ≤ k ∧ k < j

theorem chain_labels {lp : Option (Name × Name)} {done : Name} {c : Expr} {t : List SStmt} {e : SElse} {k : Nat}
    (hd : ∀ K n, done = .gen K n → n ≤ k) (hd' : done ≠ lIf k)
    (ht : GenLabels (lowerB lp t (k+1)).1 (k+1) (cntB t (k+1)))
    (he : LabelsIn (elseBody lp done e (cntB t (k+1))) done (cntB t (k+1)) (cntE e (cntB t (k+1)))) :
    LabelsIn (chainCode lp done c t e k) done k (cntE e (cntB t (k+1))) := by
  have h1 := cntB_le t (k+1)
  have h2 := cntE_le e (cntB t (k+1))
  have hT : ∀ l ∈ labelsOf (lowerB lp t (k+1)).1, ∃ K n, l = .gen K n ∧ k + 1 ≤ n ∧ n < cntB t (k+1) :=
    fun l hl => ht.2 l (mem_labelsOf.mp hl)
  have hl : labelsOf (chainCode lp done c t e k) = labelsOf (lowerB lp t (k+1)).1 ++
      (labelsOf (elseHead (lIf k) done e) ++ labelsOf (elseBody lp done e (cntB t (k+1)))) := by
    rw [chainCode, lowerElse_eq, ← labelsOf_append, ← labelsOf_append]; rfl
  rw [LabelsIn, hl]
  by_cases hn : e = .none
  · subst hn
    refine ⟨List.nodup_append.mpr ⟨ht.1, List.nodup_cons.mpr ⟨List.not_mem_nil, List.nodup_nil⟩, ?_⟩, ?_⟩
    · intro a ha b hb hab
      obtain ⟨K, n, rfl, h3, -⟩ := hT a ha
      cases List.mem_singleton.mp hb
      exact Nat.not_succ_le_self k (Nat.le_trans h3 (hd K n hab.symm))
    · intro l hl
      rcases List.mem_append.mp hl with hl | hl
      · obtain ⟨K, n, rfl, h3, h4⟩ := hT l hl
        exact .inr ⟨K, n, rfl, Nat.le_of_succ_le h3, Nat.lt_of_lt_of_le h4 h2⟩
      · exact .inl (List.mem_singleton.mp hl)
  · rw [elseHead_of_ne _ _ hn]
    refine ⟨List.nodup_append.mpr ⟨ht.1, List.nodup_cons.mpr ⟨?_, he.1⟩, ?_⟩, ?_⟩
    · intro hm
      rcases he.2 _ hm with h | ⟨K, n, h, h3, -⟩
      · exact hd' h.symm
      · cases h; exact Nat.not_succ_le_self k (Nat.le_trans h1 h3)
    · intro a ha b hb hab
      obtain ⟨K, n, rfl, h3, h4⟩ := hT a ha
      rcases List.mem_cons.mp hb with rfl | hb
      · cases hab; exact Nat.not_succ_le_self k h3
      · rcases he.2 _ hb with rfl | ⟨K', n', rfl, h5, -⟩
        · exact Nat.not_succ_le_self k (Nat.le_trans h3 (hd K n hab.symm))
        · cases hab; exact Nat.lt_irrefl _ (Nat.lt_of_lt_of_le h4 h5)
    · intro l hl
      rcases List.mem_append.mp hl with hl | hl
      · obtain ⟨K, n, rfl, h3, h4⟩ := hT l hl
        exact .inr ⟨K, n, rfl, Nat.le_of_succ_le h3, Nat.lt_of_lt_of_le h4 h2⟩
      · rcases List.mem_cons.mp hl with rfl | hl
        · exact .inr ⟨_, _, rfl, Nat.le_refl _, Nat.lt_of_lt_of_le (Nat.lt_of_succ_le h1) h2⟩
        · rcases he.2 _ hl with h | ⟨K, n, rfl, h3, h4⟩
          · exact .inl h
          · exact .inr ⟨K, n, rfl, Nat.le_trans (Nat.le_of_succ_le h1) h3, h4⟩

end C01
