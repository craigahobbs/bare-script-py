import BareProofs.C01Lower
import BareProofs.C08

/-!
# C07 — lemmas: the lowering emits well-formed code (labels and jumps per scope)

About the *spec* lowering `Lower.lowerS / lowerB / lowerElse` (BareModel/Lower.lean); the line-at-a-time parser comes in for
its include lists only (`parseLines_incNEL`).
A *scope* is one statement list: the global list or a function body.  Labels and jumps of a scope are what the
machine (`Machine.findLabel`) and lint look at: the `label`/`jump` statements that are direct members of that list.
-/

namespace C07

open Lower

/-- labels defined at the top level of a statement list (= one scope) -/
def labelsOf : List Stmt → List Name
  | [] => []
  | .label l :: r => l :: labelsOf r
  | _ :: r => labelsOf r

def jumpsOf : List Stmt → List Name
  | [] => []
  | .jump l _ :: r => l :: jumpsOf r
  | _ :: r => jumpsOf r

mutual
/-- the function bodies below a statement, recursively -/
def bodiesS : Stmt → List (List Stmt)
  | .function _ _ _ _ _ body => body :: bodiesL body
  | _ => []
def bodiesL : List Stmt → List (List Stmt)
  | [] => []
  | s :: r => bodiesS s ++ bodiesL r
end

/-- all scopes of a script: the list itself and, recursively, every function body -/
def scopes (P : List Stmt) : List (List Stmt) := P :: bodiesL P

def isGen : Name → Bool
  | .gen _ _ => true
  | .user _ => false

def genLabels (L : List Stmt) : List Name := (labelsOf L).filter isGen

/-- `l` is a generated name whose construct number lies in `[i, j)` -/
def InR (l : Name) (i j : Nat) : Prop := ∃ k n, l = .gen k n ∧ i ≤ n ∧ n < j

theorem labelsOf_eq : ∀ L : List Stmt, labelsOf L = C01.labelsOf L
  | [] => rfl
  | s :: r => by
      cases s with
      | label l => exact congrArg (l :: ·) (labelsOf_eq r)
      | _ => exact labelsOf_eq r

theorem mem_labelsOf {l : Name} {L : List Stmt} : l ∈ labelsOf L ↔ Stmt.label l ∈ L :=
  labelsOf_eq L ▸ C01.mem_labelsOf

theorem mem_jumpsOf {t : Name} : ∀ {L : List Stmt}, t ∈ jumpsOf L ↔ ∃ c, Stmt.jump t c ∈ L
  | [] => by simp [jumpsOf]
  | s :: r => by
      have ih := @mem_jumpsOf t r
      cases s with
      | jump l c =>
          rw [jumpsOf, List.mem_cons, ih]
          constructor
          · rintro (rfl | ⟨c', h⟩)
            · exact ⟨c, .head _⟩
            · exact ⟨c', .tail _ h⟩
          · rintro ⟨c', _ | ⟨_, h⟩⟩
            · exact .inl rfl
            · exact .inr ⟨c', h⟩
      | _ => simp [jumpsOf, ih]

theorem findLabel_of_mem {P : List Stmt} {l : Name} (h : Stmt.label l ∈ P) : ∃ n, Machine.findLabel P l = some n :=
  Option.ne_none_iff_exists'.1 fun hn => by
    have := (C08.unknown_label_iff P l).1 hn _ h
    simp [Machine.isLabel] at this

theorem mem_of_findLabel {P : List Stmt} {l : Name} {n : Nat} (h : Machine.findLabel P l = some n) : Stmt.label l ∈ P :=
  List.mem_of_getElem? ((C08.findLabel_some_iff P l n).1 h).1

theorem labelsOf_append (A B : List Stmt) : labelsOf (A ++ B) = labelsOf A ++ labelsOf B := by
  simp only [labelsOf_eq, C01.labelsOf_append]

theorem jumpsOf_append (A B : List Stmt) : jumpsOf (A ++ B) = jumpsOf A ++ jumpsOf B := by
  induction A with
  | nil => rfl
  | cons s r ih => cases s <;> simp [jumpsOf, ih]

theorem bodiesL_append (A B : List Stmt) : bodiesL (A ++ B) = bodiesL A ++ bodiesL B := by
  induction A with
  | nil => simp [bodiesL]
  | cons s r ih => simp [bodiesL, ih]

theorem genLabels_append (A B : List Stmt) : genLabels (A ++ B) = genLabels A ++ genLabels B := by
  simp [genLabels, labelsOf_append]

theorem mem_genLabels {l : Name} {L : List Stmt} : l ∈ genLabels L ↔ Stmt.label l ∈ L ∧ isGen l = true := by
  simp [genLabels, mem_labelsOf]

mutual
/-- the labels the user wrote at the level of this scope (not inside nested function definitions) -/
def ulS : SStmt → List Name
  | .label l => [l]
  | .ite _ t e => ulB t ++ ulE e
  | .while _ b => ulB b
  | .for _ _ _ b => ulB b
  | _ => []
def ulB : List SStmt → List Name
  | [] => []
  | s :: ss => ulS s ++ ulB ss
def ulE : SElse → List Name
  | .none => []
  | .els b => ulB b
  | .elif _ t e => ulB t ++ ulE e
end

mutual
/-- the targets of the raw `jump`/`jumpif` statements the user wrote at the level of this scope -/
def ujS : SStmt → List Name
  | .jump l _ => [l]
  | .ite _ t e => ujB t ++ ujE e
  | .while _ b => ujB b
  | .for _ _ _ b => ujB b
  | _ => []
def ujB : List SStmt → List Name
  | [] => []
  | s :: ss => ujS s ++ ujB ss
def ujE : SElse → List Name
  | .none => []
  | .els b => ujB b
  | .elif _ t e => ujB t ++ ujE e
end

mutual
/-- the bodies of all function definitions below a structured statement (recursively) -/
def fbS : SStmt → List (List SStmt)
  | .func _ _ _ _ _ b => b :: fbB b
  | .ite _ t e => fbB t ++ fbE e
  | .while _ b => fbB b
  | .for _ _ _ b => fbB b
  | _ => []
def fbB : List SStmt → List (List SStmt)
  | [] => []
  | s :: ss => fbS s ++ fbB ss
def fbE : SElse → List (List SStmt)
  | .none => []
  | .els b => fbB b
  | .elif _ t e => fbB t ++ fbE e
end

/-- the structured scopes of a program: the program and every function body -/
def sscopes (B : List SStmt) : List (List SStmt) := B :: fbB B

mutual
def noResS : SStmt → Bool
  | .label l => !isGen l
  | .jump l _ => !isGen l
  | .ite _ t e => noResB t && noResE e
  | .while _ b => noResB b
  | .for _ _ _ b => noResB b
  | .func _ _ _ _ _ b => noResB b
  | _ => true
def noResB : List SStmt → Bool
  | [] => true
  | s :: ss => noResS s && noResB ss
def noResE : SElse → Bool
  | .none => true
  | .els b => noResB b
  | .elif _ t e => noResB t && noResE e
end

/-- **NoReserved**: structured code does not itself use the reserved `__bareScript` prefix for labels / jump targets -/
def NoReserved (B : List SStmt) : Prop := noResB B = true

instance (B : List SStmt) : Decidable (NoReserved B) := by unfold NoReserved; infer_instance

mutual
/-- `break`/`continue` only inside a loop of the same function; no `function` inside a function body
(exactly what `parse_script` accepts); the same function as `C01.wnS` (`wnS_eq` in `C07`) -/
def wnS (inLoop inFunc : Bool) : SStmt → Bool
  | .brk => inLoop
  | .cont => inLoop
  | .ite _ t e => wnB inLoop inFunc t && wnE inLoop inFunc e
  | .while _ b => wnB true inFunc b
  | .for _ _ _ b => wnB true inFunc b
  | .func _ _ _ _ _ b => !inFunc && wnB false true b
  | _ => true
def wnB (inLoop inFunc : Bool) : List SStmt → Bool
  | [] => true
  | s :: ss => wnS inLoop inFunc s && wnB inLoop inFunc ss
def wnE (inLoop inFunc : Bool) : SElse → Bool
  | .none => true
  | .els b => wnB inLoop inFunc b
  | .elif _ t e => wnB inLoop inFunc t && wnE inLoop inFunc e
end

def WellNested (B : List SStmt) : Prop := wnB false false B = true

instance (B : List SStmt) : Decidable (WellNested B) := by unfold WellNested; infer_instance

mutual
/-- no raw `include` statement with an empty list (such a statement has no source text: `renderS` gives no line) -/
def incOkS : SStmt → Bool
  | .include incs => !incs.isEmpty
  | .ite _ t e => incOkB t && incOkE e
  | .while _ b => incOkB b
  | .for _ _ _ b => incOkB b
  | .func _ _ _ _ _ b => incOkB b
  | _ => true
def incOkB : List SStmt → Bool
  | [] => true
  | s :: ss => incOkS s && incOkB ss
def incOkE : SElse → Bool
  | .none => true
  | .els b => incOkB b
  | .elif _ t e => incOkB t && incOkE e
end

/-- the target of the conditional jump of an `if` / `elif` branch -/
def ifTarget (e : SElse) (i : Nat) (done : Name) : Name := match e with | .none => done | _ => lIf i

theorem lowerS_ite (lp) (c : Expr) (t : List SStmt) (e : SElse) (i : Nat) :
    (lowerS lp (.ite c t e) i).1 =
      .jump (ifTarget e i (lDone i)) (some (notE c)) :: ((lowerB lp t (i+1)).1 ++
        (lowerElse lp (lIf i) (lDone i) e (cntB t (i+1))).1) :=
  C01.lowerS_ite_eq lp c t e i

theorem lowerS_func (lp) (fid n args laa isAsync) (b : List SStmt) (i : Nat) :
    (lowerS lp (.func fid n args laa isAsync b) i).1 = [.function fid n args laa isAsync (lowerB none b i).1] := rfl

theorem lowerElse_els (lp) (cur done : Name) (b : List SStmt) (i : Nat) :
    (lowerElse lp cur done (.els b) i).1 =
      .jump done none :: .label cur :: ((lowerB lp b i).1 ++ [.label done]) :=
  C01.lowerElse_eq lp cur done (.els b) i

theorem lowerElse_elif (lp) (cur done : Name) (c : Expr) (t : List SStmt) (e : SElse) (i : Nat) :
    (lowerElse lp cur done (.elif c t e) i).1 =
      .jump done none :: .label cur :: .jump (ifTarget e i done) (some (notE c)) :: ((lowerB lp t (i+1)).1 ++
        (lowerElse lp (lIf i) done e (cntB t (i+1))).1) :=
  C01.lowerElse_eq lp cur done (.elif c t e) i

theorem ifTarget_none (i : Nat) (done : Name) : ifTarget .none i done = done := rfl
theorem ifTarget_ne {e : SElse} (h : e ≠ .none) (i : Nat) (done : Name) : ifTarget e i done = lIf i := by
  cases e <;> first | rfl | exact absurd rfl h

theorem InR.mono {l : Name} {a b i j : Nat} (h : InR l a b) (h1 : i ≤ a := by omega) (h2 : b ≤ j := by omega) : InR l i j := by
  obtain ⟨k, n, rfl, h3, h4⟩ := h
  exact ⟨k, n, rfl, by omega, by omega⟩

theorem InR.of_eq {l : Name} {k : GK} {n i j : Nat} (h : l = .gen k n) (h1 : i ≤ n := by omega) (h2 : n < j := by omega) :
    InR l i j := ⟨k, n, h, h1, h2⟩

theorem InR.isGen {l : Name} {i j : Nat} (h : InR l i j) : isGen l = true := by
  obtain ⟨k, n, rfl, -, -⟩ := h; rfl

@[simp] theorem InR_gen_iff {k n i j} : InR (.gen k n) i j ↔ i ≤ n ∧ n < j := by
  constructor
  · rintro ⟨k', n', h, h1, h2⟩; cases h; exact ⟨h1, h2⟩
  · rintro ⟨h1, h2⟩; exact ⟨k, n, rfl, h1, h2⟩

theorem InR.disj {x : Name} {a b c d : Nat} (h1 : InR x a b) (h2 : InR x c d) (h : b ≤ c) : False := by
  obtain ⟨k, n, rfl, h3, h4⟩ := h1
  simp at h2; omega

theorem forHeader_label {i v ix vals} {l : Name} : Stmt.label l ∈ forHeader i v ix vals ↔ l = lLoop i := by
  simp [forHeader]

theorem forFooter_label {i ix hc} {l : Name} :
    Stmt.label l ∈ forFooter i ix hc ↔ (l = lCont i ∧ hc = true) ∨ l = lDone i := by
  cases hc <;> simp [forFooter]

/-- `t` is supplied by the enclosing loop: its break target, or its continue target if a `continue` binds to it -/
def LpJ (lp : Option (Name × Name)) (uc : Bool) (t : Name) : Prop :=
  ∃ x c, lp = some (x, c) ∧ (t = x ∨ (t = c ∧ uc = true))

theorem LpJ.mono {lp uc uc' t} (h : LpJ lp uc t) (hu : uc = true → uc' = true) : LpJ lp uc' t := by
  obtain ⟨x, c, h1, h2⟩ := h
  exact ⟨x, c, h1, h2.imp id (fun h => ⟨h.1, hu h.2⟩)⟩

theorem LpJ.left {lp a b t} (h : LpJ lp a t) : LpJ lp (a || b) t := h.mono fun h => by simp [h]

theorem LpJ.right {lp a b t} (h : LpJ lp b t) : LpJ lp (a || b) t := h.mono fun h => by simp [h]

theorem LpJ.none {uc t} : ¬ LpJ none uc t := by rintro ⟨x, c, h, -⟩; cases h

theorem LpJ_some {x c : Name} {uc t} : LpJ (some (x, c)) uc t ↔ t = x ∨ (t = c ∧ uc = true) := by
  constructor
  · rintro ⟨x', c', h, h'⟩; cases h; exact h'
  · exact fun h => ⟨x, c, rfl, h⟩

theorem doneE (lp cur done) (e : SElse) (i : Nat) : Stmt.label done ∈ (lowerElse lp cur done e i).1 :=
  let ⟨_, h⟩ := C01.lowerElse_last lp done e cur i
  h ▸ List.mem_append_right _ (List.mem_singleton_self _)

theorem curE (lp cur done) (e : SElse) (i : Nat) (h : e ≠ .none) : Stmt.label cur ∈ (lowerElse lp cur done e i).1 := by
  rw [C01.lowerElse_eq, C01.elseHead_of_ne cur done h]
  exact List.mem_append_left _ (List.mem_cons_of_mem _ (List.mem_singleton_self _))

theorem ifTarget_label (lp done) (e : SElse) (i j : Nat) :
    Stmt.label (ifTarget e i done) ∈ (lowerElse lp (lIf i) done e j).1 := by
  by_cases h : e = .none
  · subst h; exact doneE ..
  · rw [ifTarget_ne h]; exact curE _ _ _ e j h

theorem jumpsOf_forHeader (i v ix vals) : jumpsOf (forHeader i v ix vals) = [lDone i] := rfl

theorem jumpsOf_forFooter (i ix hc) : jumpsOf (forFooter i ix hc) = [lLoop i] := by cases hc <;> rfl

/-! ## lowered code as a fragment that is label-clean up to its interface

`lower_scopes_clean` (C07) says of every scope of a lowered program: each label is jumped to, each jump goes to a label of the
scope.  `Frag` is that statement for a piece `L` of a scope, with what `L` leaves to its surroundings made explicit; a
construct is frame ++ body ++ frame, and its frame supplies what the body left open. -/

/-- `L` is a piece of one scope whose
* labels are the user's `U` or satisfy `G` (`range`);
* jumps go to the user's targets `UJ`, to what the enclosing loop `lp` supplies (`LpJ`), to a label of `L`, or to `X`, which the
  surroundings still have to define (`closed`);
* labels are the user's, or the target of a jump of `L`, or in `Y`, which the surroundings still have to target (`targeted`);
* jumps include the user's (`ujIn`) and, if a `continue` binds to the enclosing loop (`uc`), one to its continue label (`ucIn`). -/
structure Frag (lp : Option (Name × Name)) (uc : Bool) (U UJ : List Name) (G X Y : Name → Prop) (L : List Stmt) : Prop where
  range : ∀ l ∈ labelsOf L, l ∈ U ∨ G l
  closed : ∀ t ∈ jumpsOf L, t ∈ UJ ∨ LpJ lp uc t ∨ t ∈ labelsOf L ∨ X t
  targeted : ∀ l ∈ labelsOf L, l ∈ U ∨ l ∈ jumpsOf L ∨ Y l
  ujIn : ∀ t ∈ UJ, t ∈ jumpsOf L
  ucIn : uc = true → ∀ x cl, lp = some (x, cl) → cl ∈ jumpsOf L

namespace Frag

/-- a `break` / `continue` outside a loop lowers to nothing -/
theorem noLoop {uc G X Y} : Frag none uc [] [] G X Y [] :=
  ⟨fun _ h => (nomatch h), fun _ h => (nomatch h), fun _ h => (nomatch h), fun _ h => (nomatch h), fun _ _ _ e => (nomatch e)⟩

/-- statements the user wrote -/
theorem user (lp : Option (Name × Name)) (L : List Stmt) {G X Y} : Frag lp false (labelsOf L) (jumpsOf L) G X Y L :=
  ⟨fun _ h => .inl h, fun _ h => .inl h, fun _ h => .inl h, fun _ h => h, fun h => (nomatch h)⟩

/-- a frame: its labels wait for a jump, its jumps for a label -/
theorem raw (lp : Option (Name × Name)) (L : List Stmt) :
    Frag lp false [] [] (· ∈ labelsOf L) (· ∈ jumpsOf L) (· ∈ labelsOf L) L :=
  ⟨fun _ h => .inr h, fun _ h => .inr (.inr (.inr h)), fun _ h => .inr (.inr h), fun _ h => (nomatch h), fun h => (nomatch h)⟩

/-- the jump a `break` / `continue` lowers to -/
theorem loopJump {x cl t : Name} {uc G X Y} (ht : t = x ∨ (t = cl ∧ uc = true)) (hc : uc = true → cl = t) :
    Frag (some (x, cl)) uc [] [] G X Y [.jump t none] :=
  ⟨fun _ h => (nomatch h), fun _ h => .inr (.inl (LpJ_some.2 (List.mem_singleton.1 h ▸ ht))), fun _ h => (nomatch h),
    fun _ h => (nomatch h), fun h _ _ e => by cases e; exact List.mem_singleton.2 (hc h)⟩

theorem append {lp uc₁ uc₂ U₁ U₂ UJ₁ UJ₂ G₁ G₂ X₁ X₂ Y₁ Y₂ A B}
    (hA : Frag lp uc₁ U₁ UJ₁ G₁ X₁ Y₁ A) (hB : Frag lp uc₂ U₂ UJ₂ G₂ X₂ Y₂ B) :
    Frag lp (uc₁ || uc₂) (U₁ ++ U₂) (UJ₁ ++ UJ₂) (fun l => G₁ l ∨ G₂ l) (fun t => X₁ t ∨ X₂ t) (fun l => Y₁ l ∨ Y₂ l)
      (A ++ B) where
  range l h := by
    simp only [labelsOf_append, List.mem_append] at h ⊢
    exact h.elim (fun h => (hA.range l h).imp .inl .inl) (fun h => (hB.range l h).imp .inr .inr)
  closed t h := by
    simp only [labelsOf_append, jumpsOf_append, List.mem_append] at h ⊢
    exact h.elim (fun h => (hA.closed t h).imp .inl (Or.imp LpJ.left (Or.imp .inl .inl)))
      (fun h => (hB.closed t h).imp .inr (Or.imp LpJ.right (Or.imp .inr .inr)))
  targeted l h := by
    simp only [labelsOf_append, jumpsOf_append, List.mem_append] at h ⊢
    exact h.elim (fun h => (hA.targeted l h).imp .inl (Or.imp .inl .inl))
      (fun h => (hB.targeted l h).imp .inr (Or.imp .inr .inr))
  ujIn t h := by
    simp only [jumpsOf_append, List.mem_append] at h ⊢
    exact h.imp (hA.ujIn t) (hB.ujIn t)
  ucIn h x cl e := by
    simp only [Bool.or_eq_true, jumpsOf_append, List.mem_append] at h ⊢
    exact h.imp (hA.ucIn · x cl e) (hB.ucIn · x cl e)

/-- a frame behind a fragment (in front of it: `(raw lp F).append h`, where `false || uc`, `[] ++ U` reduce by themselves) -/
theorem post {lp uc U UJ G X Y L} (h : Frag lp uc U UJ G X Y L) (F : List Stmt) :
    Frag lp uc U UJ (fun l => G l ∨ l ∈ labelsOf F) (fun t => X t ∨ t ∈ jumpsOf F) (fun l => Y l ∨ l ∈ labelsOf F) (L ++ F) := by
  have := h.append (raw lp F)
  rwa [Bool.or_false, List.append_nil, List.append_nil] at this

/-- narrow the interface: an open jump target that `L` itself defines, an open label that `L` itself targets, is closed -/
theorem close {lp uc U UJ G X Y G' X' Y' L} (h : Frag lp uc U UJ G X Y L) (hG : ∀ l, G l → G' l)
    (hX : ∀ t, X t → t ∈ labelsOf L ∨ X' t) (hY : ∀ l, Y l → l ∈ jumpsOf L ∨ Y' l) : Frag lp uc U UJ G' X' Y' L :=
  ⟨fun l hl => (h.range l hl).imp_right (hG l),
    fun t ht => (h.closed t ht).imp_right (Or.imp_right fun h => h.elim .inl (hX t)),
    fun l hl => (h.targeted l hl).imp_right fun h => h.elim .inl (hY l), h.ujIn, h.ucIn⟩

/-- the body of a loop seen from outside: what the loop supplies becomes an open target -/
theorem bind {x cl uc U UJ G X Y L} (lp : Option (Name × Name)) (h : Frag (some (x, cl)) uc U UJ G X Y L) :
    Frag lp false U UJ G (fun t => X t ∨ t = x ∨ (t = cl ∧ uc = true)) Y L :=
  ⟨h.range, fun t ht => (h.closed t ht).imp_right fun h => .inr <| h.elim (fun h => .inr (.inr (LpJ_some.1 h)))
      (Or.imp_right .inl), h.targeted, h.ujIn, fun h => (nomatch h)⟩

end Frag

mutual
theorem fragS (lp : Option (Name × Name)) : ∀ (s : SStmt) (i : Nat),
    Frag lp (usesContS s) (ulS s) (ujS s) (InR · i (cntS s i)) (fun _ => False) (fun _ => False) (lowerS lp s i).1
  | .label l, _ => .user lp [.label l]
  | .jump l c, _ => .user lp [.jump l c]
  | .expr n e, _ => .user lp [.expr n e]
  | .ret e, _ => .user lp [.ret e]
  | .include incs, _ => .user lp [.include incs]
  | .func fid n args laa isAsync b, i => .user lp [.function fid n args laa isAsync (lowerB none b i).1]
  | .brk, _ =>
      match lp with
      | none => .noLoop
      | some (_, _) => .loopJump (.inl rfl) nofun
  | .cont, _ =>
      match lp with
      | none => .noLoop
      | some (_, _) => .loopJump (.inr ⟨rfl, rfl⟩) fun _ => rfl
  | .while c b, i => by
      have m1 := C01.cntB_le b (i+1)
      rw [C01.lowerS_while_eq]
      refine ((Frag.raw lp [.jump (lDone i) (some (notE c)), .label (lLoop i)]).append
        (((fragB _ b (i+1)).bind lp).post [.jump (lLoop i) (some c), .label (lDone i)])).close ?_ ?_ ?_
      · simp only [cntS, labelsOf, List.mem_singleton]
        rintro l (rfl | h | rfl)
        · exact .of_eq rfl
        · exact h.mono
        · exact .of_eq rfl
      · simp only [jumpsOf, labelsOf, labelsOf_append, List.mem_cons, List.mem_append, List.not_mem_nil, false_or, or_false]
        rintro t (rfl | (rfl | ⟨rfl, -⟩) | rfl)
        · exact .inr (.inr rfl)
        · exact .inr (.inr rfl)
        · exact .inl rfl
        · exact .inl rfl
      · simp only [jumpsOf, labelsOf, jumpsOf_append, List.mem_cons, List.mem_append, List.not_mem_nil, false_or, or_false]
        rintro l (rfl | rfl)
        · exact .inr (.inr rfl)
        · exact .inl rfl
  | .for v ix vals b, i => by
      have m1 := C01.cntB_le b (i+1)
      have hb := fragB (some (lDone i, lCont i)) b (i+1)
      rw [C01.lowerS_for_eq]
      refine ((Frag.raw lp (forHeader ..)).append ((hb.bind lp).post (forFooter ..))).close ?_ ?_ ?_
      · simp only [cntS, mem_labelsOf, forHeader_label, forFooter_label]
        rintro l (rfl | h | ⟨rfl, -⟩ | rfl)
        · exact .of_eq rfl
        · exact h.mono
        · exact .of_eq rfl
        · exact .of_eq rfl
      · simp only [jumpsOf_forHeader, jumpsOf_forFooter, mem_labelsOf, List.mem_singleton, List.mem_append, forHeader_label,
          forFooter_label, false_or, or_false]
        rintro t (rfl | (rfl | ⟨rfl, h⟩) | rfl)
        · exact .inr (.inr (.inr rfl))
        · exact .inr (.inr (.inr rfl))
        · exact .inr (.inr (.inl ⟨rfl, h⟩))
        · exact .inl rfl
      · simp only [jumpsOf_append, jumpsOf_forHeader, jumpsOf_forFooter, mem_labelsOf, List.mem_singleton, List.mem_append,
          forHeader_label, forFooter_label, false_or, or_false]
        rintro l (rfl | ⟨rfl, h⟩ | rfl)
        · exact .inr (.inr rfl)
        · exact .inr (.inl (hb.ucIn h _ _ rfl))
        · exact .inl rfl
  | .ite c t e, i => by
      have m1 := C01.cntB_le t (i+1); have m2 := C01.cntE_le e (cntB t (i+1))
      rw [lowerS_ite]
      refine ((Frag.raw lp [.jump (ifTarget e i (lDone i)) (some (notE c))]).append
        ((fragB lp t (i+1)).append (fragE lp (lIf i) (lDone i) e (cntB t (i+1))))).close ?_ ?_ ?_
      · simp only [cntS, labelsOf, List.not_mem_nil, false_or]
        rintro l (h | rfl | ⟨rfl, -⟩ | h)
        · exact h.mono
        · exact .of_eq rfl
        · exact .of_eq rfl
        · exact h.mono
      · simp only [jumpsOf, labelsOf, labelsOf_append, List.mem_cons, List.mem_append, List.not_mem_nil, false_or, or_false]
        rintro t rfl
        exact .inr (mem_labelsOf.2 (ifTarget_label ..))
      · simp only [jumpsOf, labelsOf, jumpsOf_append, List.mem_cons, List.mem_append, List.not_mem_nil, false_or, or_false]
        rintro l (⟨rfl, h⟩ | ⟨rfl, rfl⟩)
        · exact .inl (ifTarget_ne h ..).symm
        · exact .inl rfl
theorem fragB (lp : Option (Name × Name)) : ∀ (B : List SStmt) (i : Nat),
    Frag lp (usesContB B) (ulB B) (ujB B) (InR · i (cntB B i)) (fun _ => False) (fun _ => False) (lowerB lp B i).1
  | [], _ => .user lp []
  | s :: ss, i => by
      have m1 := C01.cntS_le s i; have m2 := C01.cntB_le ss (cntS s i)
      rw [C01.lowerB_cons]; simp only [cntB]
      exact ((fragS lp s i).append (fragB lp ss (cntS s i))).close
        (fun l h => h.elim (·.mono) (·.mono)) (fun _ h => h.elim False.elim False.elim) (fun _ h => h.elim False.elim False.elim)
/-- an else-chain is open in its `cur` label, which the conditional jump of the branch before it targets, and, if it is
empty, in its `done` label -/
theorem fragE (lp : Option (Name × Name)) (cur done : Name) : ∀ (e : SElse) (i : Nat),
    Frag lp (usesContE e) (ulE e) (ujE e) (fun l => l = done ∨ (l = cur ∧ e ≠ .none) ∨ InR l i (cntE e i)) (fun _ => False)
      (fun l => (l = cur ∧ e ≠ .none) ∨ (l = done ∧ e = .none)) (lowerElse lp cur done e i).1
  | .none, _ => (Frag.raw lp [.label done]).close (fun _ h => .inl (List.mem_singleton.1 h)) nofun
      (fun _ h => .inr (.inr ⟨List.mem_singleton.1 h, rfl⟩))
  | .els b, i => by
      rw [lowerElse_els]
      refine ((Frag.raw lp [.jump done none, .label cur]).append ((fragB lp b i).post [.label done])).close ?_ ?_ ?_
      · simp only [cntE, labelsOf, List.mem_singleton]
        rintro l (rfl | h | rfl)
        · exact .inr (.inl ⟨rfl, nofun⟩)
        · exact .inr (.inr h)
        · exact .inl rfl
      · simp only [jumpsOf, labelsOf, labelsOf_append, List.mem_cons, List.mem_append, List.not_mem_nil, or_false]
        rintro t rfl
        exact .inr (.inr rfl)
      · simp only [jumpsOf, labelsOf, jumpsOf_append, List.mem_cons, List.mem_append, List.not_mem_nil, false_or, or_false]
        rintro l (rfl | rfl)
        · exact .inr (.inl ⟨rfl, nofun⟩)
        · exact .inl (.inl rfl)
  | .elif c t e, i => by
      have m1 := C01.cntB_le t (i+1); have m2 := C01.cntE_le e (cntB t (i+1))
      rw [lowerElse_elif]
      refine ((Frag.raw lp [.jump done none, .label cur, .jump (ifTarget e i done) (some (notE c))]).append
        ((fragB lp t (i+1)).append (fragE lp (lIf i) done e (cntB t (i+1))))).close ?_ ?_ ?_
      · simp only [cntE, labelsOf, List.mem_singleton]
        rintro l (rfl | h | rfl | ⟨rfl, -⟩ | h)
        · exact .inr (.inl ⟨rfl, nofun⟩)
        · exact .inr (.inr h.mono)
        · exact .inl rfl
        · exact .inr (.inr (.of_eq rfl))
        · exact .inr (.inr h.mono)
      · simp only [jumpsOf, labelsOf, labelsOf_append, List.mem_cons, List.mem_append, List.not_mem_nil, or_false]
        rintro t (rfl | rfl)
        · exact .inr (.inr (mem_labelsOf.2 (doneE ..)))
        · exact .inr (.inr (mem_labelsOf.2 (ifTarget_label ..)))
      · simp only [jumpsOf, labelsOf, jumpsOf_append, List.mem_cons, List.mem_append, List.not_mem_nil, false_or, or_false]
        rintro l (rfl | ⟨rfl, h⟩ | ⟨rfl, rfl⟩)
        · exact .inr (.inl ⟨rfl, nofun⟩)
        · exact .inl (.inl (.inr (ifTarget_ne h ..).symm))
        · exact .inl (.inl (.inl rfl))
end

/-! ### the fields, read off: `lab` range of the labels, `jmp` every jump resolved, `tgt` every label targeted, `uc` a bound
`continue` jumps to the continue label, `ujIn` the user's raw jumps are emitted -/

theorem labB (lp : Option (Name × Name)) : ∀ (B : List SStmt) (i : Nat) (l : Name),
    Stmt.label l ∈ (lowerB lp B i).1 → l ∈ ulB B ∨ InR l i (cntB B i) := fun B i l h =>
  (fragB lp B i).range l (mem_labelsOf.2 h)

theorem jmpS (lp : Option (Name × Name)) : ∀ (s : SStmt) (i : Nat) (t : Name) (c : Option Expr),
    Stmt.jump t c ∈ (lowerS lp s i).1 →
      t ∈ ujS s ∨ LpJ lp (usesContS s) t ∨ Stmt.label t ∈ (lowerS lp s i).1 := fun s i t c h =>
  ((fragS lp s i).closed t (mem_jumpsOf.2 ⟨c, h⟩)).imp_right (Or.imp_right fun h => mem_labelsOf.1 (h.resolve_right id))
theorem jmpB (lp : Option (Name × Name)) : ∀ (B : List SStmt) (i : Nat) (t : Name) (c : Option Expr),
    Stmt.jump t c ∈ (lowerB lp B i).1 →
      t ∈ ujB B ∨ LpJ lp (usesContB B) t ∨ Stmt.label t ∈ (lowerB lp B i).1 := fun B i t c h =>
  ((fragB lp B i).closed t (mem_jumpsOf.2 ⟨c, h⟩)).imp_right (Or.imp_right fun h => mem_labelsOf.1 (h.resolve_right id))
theorem jmpE (lp : Option (Name × Name)) (cur done : Name) : ∀ (e : SElse) (i : Nat) (t : Name) (c : Option Expr),
    Stmt.jump t c ∈ (lowerElse lp cur done e i).1 →
      t ∈ ujE e ∨ LpJ lp (usesContE e) t ∨ Stmt.label t ∈ (lowerElse lp cur done e i).1 := fun e i t c h =>
  ((fragE lp cur done e i).closed t (mem_jumpsOf.2 ⟨c, h⟩)).imp_right
    (Or.imp_right fun h => mem_labelsOf.1 (h.resolve_right id))

theorem ucS (x cl : Name) : ∀ (s : SStmt) (i : Nat), usesContS s = true →
    ∃ c, Stmt.jump cl c ∈ (lowerS (some (x, cl)) s i).1 := fun s i h => mem_jumpsOf.1 ((fragS _ s i).ucIn h x cl rfl)
theorem ucE (x cl cur done : Name) : ∀ (e : SElse) (i : Nat), usesContE e = true →
    ∃ c, Stmt.jump cl c ∈ (lowerElse (some (x, cl)) cur done e i).1 := fun e i h =>
  mem_jumpsOf.1 ((fragE _ cur done e i).ucIn h x cl rfl)

theorem tgtS (lp : Option (Name × Name)) : ∀ (s : SStmt) (i : Nat) (l : Name),
    Stmt.label l ∈ (lowerS lp s i).1 → l ∈ ulS s ∨ ∃ c, Stmt.jump l c ∈ (lowerS lp s i).1 := fun s i l h =>
  ((fragS lp s i).targeted l (mem_labelsOf.2 h)).imp_right fun h => mem_jumpsOf.1 (h.resolve_right id)
theorem tgtB (lp : Option (Name × Name)) : ∀ (B : List SStmt) (i : Nat) (l : Name),
    Stmt.label l ∈ (lowerB lp B i).1 → l ∈ ulB B ∨ ∃ c, Stmt.jump l c ∈ (lowerB lp B i).1 := fun B i l h =>
  ((fragB lp B i).targeted l (mem_labelsOf.2 h)).imp_right fun h => mem_jumpsOf.1 (h.resolve_right id)
theorem tgtE (lp : Option (Name × Name)) (cur done : Name) : ∀ (e : SElse) (i : Nat) (l : Name),
    Stmt.label l ∈ (lowerElse lp cur done e i).1 →
      l ∈ ulE e ∨ (∃ c, Stmt.jump l c ∈ (lowerElse lp cur done e i).1) ∨ (l = cur ∧ e ≠ .none) ∨ (l = done ∧ e = .none) :=
  fun e i l h => ((fragE lp cur done e i).targeted l (mem_labelsOf.2 h)).imp_right (Or.imp_left mem_jumpsOf.1)

theorem ujInS (lp : Option (Name × Name)) : ∀ (s : SStmt) (i : Nat) (t : Name), t ∈ ujS s →
    ∃ c, Stmt.jump t c ∈ (lowerS lp s i).1 := fun s i t h => mem_jumpsOf.1 ((fragS lp s i).ujIn t h)
theorem ujInB (lp : Option (Name × Name)) : ∀ (B : List SStmt) (i : Nat) (t : Name), t ∈ ujB B →
    ∃ c, Stmt.jump t c ∈ (lowerB lp B i).1 := fun B i t h => mem_jumpsOf.1 ((fragB lp B i).ujIn t h)
theorem ujInE (lp : Option (Name × Name)) (cur done : Name) : ∀ (e : SElse) (i : Nat) (t : Name), t ∈ ujE e →
    ∃ c, Stmt.jump t c ∈ (lowerElse lp cur done e i).1 := fun e i t h => mem_jumpsOf.1 ((fragE lp cur done e i).ujIn t h)

/-! ## under `NoReserved` the non-generated labels of the lowered scope are exactly the user's labels, in order -/

def userLabels (L : List Stmt) : List Name := (labelsOf L).filter (fun l => !isGen l)

@[simp] theorem userLabels_nil : userLabels [] = [] := rfl
@[simp] theorem userLabels_jump (t c r) : userLabels (.jump t c :: r) = userLabels r := rfl
@[simp] theorem userLabels_expr (n e r) : userLabels (.expr n e :: r) = userLabels r := rfl
@[simp] theorem userLabels_ret (e r) : userLabels (.ret e :: r) = userLabels r := rfl
@[simp] theorem userLabels_include (e r) : userLabels (.include e :: r) = userLabels r := rfl
@[simp] theorem userLabels_function (a b c d e f r) : userLabels (.function a b c d e f :: r) = userLabels r := rfl
theorem userLabels_label {l : Name} (h : isGen l = false) (r) : userLabels (.label l :: r) = l :: userLabels r := by
  simp [userLabels, labelsOf, h]
theorem userLabels_label_gen {l : Name} (h : isGen l = true) (r) : userLabels (.label l :: r) = userLabels r := by
  simp [userLabels, labelsOf, h]
@[simp] theorem userLabels_gen (k n r) : userLabels (.label (.gen k n) :: r) = userLabels r := userLabels_label_gen rfl r
theorem userLabels_append (A B : List Stmt) : userLabels (A ++ B) = userLabels A ++ userLabels B := by
  simp [userLabels, labelsOf_append]
@[simp] theorem userLabels_forHeader (i v ix vals) : userLabels (forHeader i v ix vals) = [] := by
  simp [forHeader, lLoop]
@[simp] theorem userLabels_forFooter (i ix hc) : userLabels (forFooter i ix hc) = [] := by
  cases hc <;> simp [forFooter, lCont, lDone]

theorem mem_userLabels {l : Name} {L : List Stmt} : l ∈ userLabels L ↔ Stmt.label l ∈ L ∧ isGen l = false := by
  simp [userLabels, mem_labelsOf]

mutual
theorem usrS (lp : Option (Name × Name)) : ∀ (s : SStmt) (i : Nat), noResS s = true →
    userLabels (lowerS lp s i).1 = ulS s
  | .label l', i, hn => by
      simp only [noResS, Bool.not_eq_true'] at hn
      simp [lowerS, ulS, userLabels_label hn]
  | .expr .., _, _ | .ret _, _, _ | .jump .., _, _ | .include _, _, _ | .func .., _, _ => by simp [lowerS, ulS]
  | .brk, _, _ | .cont, _, _ => by cases lp <;> simp [lowerS, ulS]
  | .ite c t e, i, hn => by
      simp only [noResS, Bool.and_eq_true] at hn
      rw [lowerS_ite, userLabels_jump, userLabels_append, usrB lp t (i+1) hn.1,
        usrE lp _ _ rfl rfl e _ hn.2, ulS]
  | .while c b, i, hn => by
      simp only [noResS] at hn
      rw [C01.lowerS_while_eq]
      simp only [lLoop, lDone, userLabels_jump, userLabels_gen, userLabels_append, userLabels_nil, List.append_nil]
      rw [usrB _ b (i+1) hn, ulS]
  | .for v ix vals b, i, hn => by
      simp only [noResS] at hn
      rw [C01.lowerS_for_eq]
      simp only [userLabels_append, userLabels_forHeader, userLabels_forFooter, List.append_nil, List.nil_append]
      rw [usrB _ b (i+1) hn, ulS]
theorem usrB (lp : Option (Name × Name)) : ∀ (B : List SStmt) (i : Nat), noResB B = true →
    userLabels (lowerB lp B i).1 = ulB B
  | [], i, _ => by simp [lowerB, ulB]
  | s :: ss, i, hn => by
      simp only [noResB, Bool.and_eq_true] at hn
      rw [C01.lowerB_cons, userLabels_append, usrS lp s i hn.1, usrB lp ss _ hn.2, ulB]
theorem usrE (lp : Option (Name × Name)) (cur done : Name) (hc : isGen cur = true) (hd : isGen done = true) :
    ∀ (e : SElse) (i : Nat), noResE e = true → userLabels (lowerElse lp cur done e i).1 = ulE e
  | .none, i, _ => by simp [lowerElse, ulE, userLabels_label_gen hd]
  | .els b, i, hn => by
      simp only [noResE] at hn
      rw [lowerElse_els]
      simp only [userLabels_jump, userLabels_label_gen hc, userLabels_append, userLabels_label_gen hd, userLabels_nil,
        List.append_nil]
      rw [usrB lp b i hn, ulE]
  | .elif c t e, i, hn => by
      simp only [noResE, Bool.and_eq_true] at hn
      rw [lowerElse_elif]
      simp only [userLabels_jump, userLabels_label_gen hc, userLabels_append]
      rw [usrB lp t (i+1) hn.1, usrE lp _ done rfl hd e _ hn.2, ulE]
end

theorem ulS_user (s : SStmt) (hn : noResS s = true) : ∀ l ∈ ulS s, isGen l = false := fun _ h =>
  (mem_userLabels.1 (usrS none s 0 hn ▸ h)).2

theorem ulB_user (B : List SStmt) (hn : noResB B = true) : ∀ l ∈ ulB B, isGen l = false := fun _ h =>
  (mem_userLabels.1 (usrB none B 0 hn ▸ h)).2

theorem ulE_user (e : SElse) (hn : noResE e = true) : ∀ l ∈ ulE e, isGen l = false := fun _ h =>
  (mem_userLabels.1 (usrE none (lIf 0) (lDone 0) rfl rfl e 0 hn ▸ h)).2

theorem ulInB (lp : Option (Name × Name)) (B : List SStmt) (i : Nat) (hn : noResB B = true) (l : Name) (h : l ∈ ulB B) :
    Stmt.label l ∈ (lowerB lp B i).1 :=
  (mem_userLabels.1 (usrB lp B i hn ▸ h)).1

/-! ## under `NoReserved`, the user's jump targets are not generated names either -/

mutual
theorem ujS_user : ∀ (s : SStmt), noResS s = true → ∀ l ∈ ujS s, isGen l = false
  | .jump l' _, hn, l, h => by simp [ujS] at h; simp [noResS] at hn; simp [h, hn]
  | .expr .., _, _, h | .ret _, _, _, h | .label _, _, _, h | .include _, _, _, h | .brk, _, _, h | .cont, _, _, h
  | .func .., _, _, h => by simp [ujS] at h
  | .ite c t e, hn, l, h => by
      simp only [noResS, Bool.and_eq_true] at hn
      simp only [ujS, List.mem_append] at h
      exact h.elim (ujB_user t hn.1 l) (ujE_user e hn.2 l)
  | .while c b, hn, l, h => ujB_user b hn l h
  | .for v ix vals b, hn, l, h => ujB_user b hn l h
theorem ujB_user : ∀ (B : List SStmt), noResB B = true → ∀ l ∈ ujB B, isGen l = false
  | [], _, l, h => by simp [ujB] at h
  | s :: ss, hn, l, h => by
      simp only [noResB, Bool.and_eq_true] at hn
      simp only [ujB, List.mem_append] at h
      exact h.elim (ujS_user s hn.1 l) (ujB_user ss hn.2 l)
theorem ujE_user : ∀ (e : SElse), noResE e = true → ∀ l ∈ ujE e, isGen l = false
  | .none, _, l, h => by simp [ujE] at h
  | .els b, hn, l, h => ujB_user b hn l h
  | .elif c t e, hn, l, h => by
      simp only [noResE, Bool.and_eq_true] at hn
      simp only [ujE, List.mem_append] at h
      exact h.elim (ujB_user t hn.1 l) (ujE_user e hn.2 l)
end

/-! ## generated labels of a scope are in range and pairwise distinct -/

theorem glS {lp s i l} (hn : noResS s = true) (h : l ∈ genLabels (lowerS lp s i).1) : InR l i (cntS s i) := by
  rw [mem_genLabels] at h
  exact ((fragS lp s i).range l (mem_labelsOf.2 h.1)).resolve_left fun h1 => by simp [ulS_user s hn l h1] at h

theorem glB {lp B i l} (hn : noResB B = true) (h : l ∈ genLabels (lowerB lp B i).1) : InR l i (cntB B i) := by
  rw [mem_genLabels] at h
  exact (labB lp B i l h.1).resolve_left fun h1 => by simp [ulB_user B hn l h1] at h

theorem glE {lp cur done e i l} (hn : noResE e = true) (h : l ∈ genLabels (lowerElse lp cur done e i).1) :
    l = done ∨ l = cur ∨ InR l i (cntE e i) := by
  rw [mem_genLabels] at h
  rcases (fragE lp cur done e i).range l (mem_labelsOf.2 h.1) with h1 | h1 | h1 | h1
  · simp [ulE_user e hn l h1] at h
  · exact Or.inl h1
  · exact Or.inr (Or.inl h1.1)
  · exact Or.inr (Or.inr h1)

theorem gen_not_mem {lp B i k n} (hn : noResB B = true) (h : n < i) : Name.gen k n ∉ genLabels (lowerB lp B i).1 := fun hx => by
  have := glB hn hx; simp at this; omega

/-- a list in brackets: the head, the body, a tail — distinct when each part is and the brackets do not occur in the body -/
theorem nodup_bracket {α : Type} {a : α} {L R : List α} (hL : L.Nodup) (hR : (a :: R).Nodup) (h : ∀ x ∈ a :: R, x ∉ L) :
    (a :: (L ++ R)).Nodup := by
  rw [List.nodup_cons] at hR ⊢
  rw [List.nodup_append]
  exact ⟨by simp [hR.1, h a List.mem_cons_self], hL, hR.2, fun x hx y hy hxy => h y (List.mem_cons_of_mem _ hy) (hxy ▸ hx)⟩

@[simp] theorem genLabels_nil : genLabels [] = [] := rfl
@[simp] theorem genLabels_jump (t c r) : genLabels (.jump t c :: r) = genLabels r := rfl
@[simp] theorem genLabels_expr (n e r) : genLabels (.expr n e :: r) = genLabels r := rfl
@[simp] theorem genLabels_function (a b c d e f r) : genLabels (.function a b c d e f :: r) = genLabels r := rfl
@[simp] theorem genLabels_gen (k n r) : genLabels (.label (.gen k n) :: r) = .gen k n :: genLabels r := by
  simp [genLabels, labelsOf, List.filter_cons, isGen]

mutual
theorem ndS (lp : Option (Name × Name)) : ∀ (s : SStmt) (i : Nat), noResS s = true →
    (genLabels (lowerS lp s i).1).Nodup
  | .label l', i, _ => by
      simp only [lowerS, genLabels, labelsOf]
      cases h : isGen l' <;> simp [h]
  | .expr .., _, _ | .ret _, _, _ | .jump .., _, _ | .include _, _, _ | .func .., _, _ => by simp [lowerS, genLabels, labelsOf]
  | .brk, _, _ | .cont, _, _ => by cases lp <;> simp [lowerS, genLabels, labelsOf]
  | .ite c t e, i, hn => by
      have m1 := C01.cntB_le t (i+1)
      simp only [noResS, Bool.and_eq_true] at hn
      rw [lowerS_ite, genLabels_jump, genLabels_append, List.nodup_append]
      refine ⟨ndB lp t (i+1) hn.1, ndE lp i i e _ hn.2 (by omega) (by omega), ?_⟩
      rintro x hx y hy rfl
      have h1 := glB hn.1 hx
      rcases glE hn.2 hy with h2 | h2 | h2
      · subst h2; simp [lDone] at h1; omega
      · subst h2; simp [lIf] at h1; omega
      · exact h1.disj h2 (Nat.le_refl _)
  | .while c b, i, hn => by
      simp only [noResS] at hn
      rw [C01.lowerS_while_eq]
      simp only [lLoop, lDone, genLabels_gen, genLabels_append, genLabels_jump, genLabels_nil]
      exact nodup_bracket (ndB _ b (i+1) hn) (by simp) (by simp [gen_not_mem hn (Nat.lt_succ_self i)])
  | .for v ix vals b, i, hn => by
      simp only [noResS] at hn
      rw [C01.lowerS_for_eq]
      cases usesContB b <;>
        simp only [forHeader, forFooter, lLoop, lDone, lCont, genLabels_gen, genLabels_append, genLabels_jump, genLabels_nil,
          genLabels_expr, List.cons_append, List.nil_append, if_true, if_false, Bool.false_eq_true] <;>
        exact nodup_bracket (ndB _ b (i+1) hn) (by simp) (by simp [gen_not_mem hn (Nat.lt_succ_self i)])
theorem ndB (lp : Option (Name × Name)) : ∀ (B : List SStmt) (i : Nat), noResB B = true →
    (genLabels (lowerB lp B i).1).Nodup
  | [], i, _ => by simp [lowerB]
  | s :: ss, i, hn => by
      simp only [noResB, Bool.and_eq_true] at hn
      rw [C01.lowerB_cons, genLabels_append, List.nodup_append]
      refine ⟨ndS lp s i hn.1, ndB lp ss _ hn.2, ?_⟩
      rintro x hx y hy rfl
      exact (glS hn.1 hx).disj (glB hn.2 hy) (Nat.le_refl _)
theorem ndE (lp : Option (Name × Name)) (a d : Nat) : ∀ (e : SElse) (i : Nat), noResE e = true → a < i → d < i →
    (genLabels (lowerElse lp (lIf a) (lDone d) e i).1).Nodup
  | .none, i, _, _, _ => by simp [lowerElse, lDone]
  | .els b, i, hn, ha, hd => by
      simp only [noResE] at hn
      rw [lowerElse_els]
      simp only [lIf, lDone, genLabels_gen, genLabels_append, genLabels_jump, genLabels_nil]
      exact nodup_bracket (ndB _ b i hn) (by simp) (by simp [gen_not_mem hn ha, gen_not_mem hn hd])
  | .elif c t e, i, hn, ha, hd => by
      have m1 := C01.cntB_le t (i+1)
      simp only [noResE, Bool.and_eq_true] at hn
      rw [lowerElse_elif]
      simp only [lIf, genLabels_gen, genLabels_append, genLabels_jump]
      rw [List.nodup_cons, List.nodup_append]
      refine ⟨?_, ndB lp t (i+1) hn.1, ndE lp i d e _ hn.2 (by omega) (by omega), ?_⟩
      · simp only [List.mem_append, not_or]
        refine ⟨gen_not_mem hn.1 (by omega), fun hy => ?_⟩
        rcases glE hn.2 hy with h2 | h2 | h2
        · simp [lDone] at h2
        · simp at h2; omega
        · simp at h2; omega
      · rintro x hx y hy rfl
        have h1 := glB hn.1 hx
        rcases glE hn.2 hy with h2 | h2 | h2
        · subst h2; simp [lDone] at h1; omega
        · subst h2; simp at h1; omega
        · exact h1.disj h2 (Nat.le_refl _)
end

theorem nodup_of_filter {α : Type} (p : α → Bool) : ∀ {l : List α},
    (l.filter p).Nodup → (l.filter (fun x => !p x)).Nodup → l.Nodup
  | [], _, _ => List.nodup_nil
  | a :: r, h1, h2 => by
      cases hp : p a
      · simp only [List.filter_cons, hp, Bool.false_eq_true, if_false, Bool.not_false, if_true, List.nodup_cons] at h1 h2
        refine List.nodup_cons.2 ⟨fun ha => h2.1 (List.mem_filter.2 ⟨ha, by simp [hp]⟩), nodup_of_filter p h1 h2.2⟩
      · simp only [List.filter_cons, hp, if_true, Bool.not_true, Bool.false_eq_true, if_false, List.nodup_cons] at h1 h2
        refine List.nodup_cons.2 ⟨fun ha => h1.1 (List.mem_filter.2 ⟨ha, hp⟩), nodup_of_filter p h1.2 h2⟩

theorem labels_nodup {lp : Option (Name × Name)} (B : List SStmt) (i : Nat) (hn : noResB B = true) (hu : (ulB B).Nodup) :
    (labelsOf (lowerB lp B i).1).Nodup :=
  nodup_of_filter isGen (ndB lp B i hn) (show (userLabels _).Nodup from usrB lp B i hn ▸ hu)

/-! ## the scopes of lowered code are the lowerings (with `lp = none`) of the structured function bodies -/

@[simp] theorem bodiesL_nil : bodiesL [] = [] := by simp [bodiesL]
@[simp] theorem bodiesL_jump (t c r) : bodiesL (.jump t c :: r) = bodiesL r := by simp [bodiesL, bodiesS]
@[simp] theorem bodiesL_label (l r) : bodiesL (.label l :: r) = bodiesL r := by simp [bodiesL, bodiesS]
@[simp] theorem bodiesL_expr (n e r) : bodiesL (.expr n e :: r) = bodiesL r := by simp [bodiesL, bodiesS]
@[simp] theorem bodiesL_ret (e r) : bodiesL (.ret e :: r) = bodiesL r := by simp [bodiesL, bodiesS]
@[simp] theorem bodiesL_include (e r) : bodiesL (.include e :: r) = bodiesL r := by simp [bodiesL, bodiesS]
@[simp] theorem bodiesL_function (a b c d e f r) :
    bodiesL (.function a b c d e f :: r) = f :: (bodiesL f ++ bodiesL r) := by simp [bodiesL, bodiesS]

@[simp] theorem bodiesL_forHeader (i v ix vals) : bodiesL (forHeader i v ix vals) = [] := by simp [forHeader]
@[simp] theorem bodiesL_forFooter (i ix hc) : bodiesL (forFooter i ix hc) = [] := by cases hc <;> simp [forFooter]

/-- `body` is the lowering (no enclosing loop) of a structured function body from `F`, with counter range inside `[i, j)` -/
def IsLowered (F : List (List SStmt)) (i j : Nat) (body : List Stmt) : Prop :=
  ∃ b k, b ∈ F ∧ body = (lowerB none b k).1 ∧ i ≤ k ∧ cntB b k ≤ j

theorem IsLowered.mono {F F' : List (List SStmt)} {a b i j body} (h : IsLowered F a b body)
    (hF : ∀ x ∈ F, x ∈ F') (h1 : i ≤ a := by omega) (h2 : b ≤ j := by omega) : IsLowered F' i j body := by
  obtain ⟨x, k, hx, hb, h3, h4⟩ := h
  exact ⟨x, k, hF x hx, hb, by omega, by omega⟩

mutual
theorem scS (lp : Option (Name × Name)) : ∀ (s : SStmt) (i : Nat) (body : List Stmt),
    body ∈ bodiesL (lowerS lp s i).1 → IsLowered (fbS s) i (cntS s i) body
  | .expr .., _, _, h | .ret _, _, _, h | .label _, _, _, h | .jump .., _, _, h | .include _, _, _, h => by
      simp [lowerS] at h
  | .brk, _, _, h | .cont, _, _, h => by cases lp <;> simp [lowerS] at h
  | .func _ _ _ _ _ b, i, body, h => by
      rw [lowerS_func] at h
      simp only [bodiesL_function, bodiesL_nil, List.append_nil, List.mem_cons] at h
      simp only [fbS, cntS]
      rcases h with h | h
      · exact ⟨b, i, by simp, h, Nat.le_refl _, Nat.le_refl _⟩
      · exact (scB none b i body h).mono (fun x hx => by simp [hx])
  | .ite c t e, i, body, h => by
      have m1 := C01.cntB_le t (i+1); have m2 := C01.cntE_le e (cntB t (i+1))
      rw [lowerS_ite] at h
      simp only [bodiesL_jump, bodiesL_append, List.mem_append] at h
      simp only [fbS, cntS]
      rcases h with h | h
      · exact (scB lp t (i+1) body h).mono (fun x hx => by simp [hx])
      · exact (scE lp _ _ e _ body h).mono (fun x hx => by simp [hx])
  | .while c b, i, body, h => by
      have m1 := C01.cntB_le b (i+1)
      rw [C01.lowerS_while_eq] at h
      simp only [bodiesL_jump, bodiesL_label, bodiesL_append, bodiesL_nil, List.append_nil] at h
      simp only [fbS, cntS]
      exact (scB _ b (i+1) body h).mono (fun x hx => hx)
  | .for v ix vals b, i, body, h => by
      have m1 := C01.cntB_le b (i+1)
      rw [C01.lowerS_for_eq] at h
      simp only [bodiesL_append, bodiesL_forHeader, bodiesL_forFooter, List.append_nil, List.nil_append] at h
      simp only [fbS, cntS]
      exact (scB _ b (i+1) body h).mono (fun x hx => hx)
theorem scB (lp : Option (Name × Name)) : ∀ (B : List SStmt) (i : Nat) (body : List Stmt),
    body ∈ bodiesL (lowerB lp B i).1 → IsLowered (fbB B) i (cntB B i) body
  | [], i, body, h => by simp [lowerB] at h
  | s :: ss, i, body, h => by
      have m1 := C01.cntS_le s i; have m2 := C01.cntB_le ss (cntS s i)
      rw [C01.lowerB_cons] at h
      simp only [bodiesL_append, List.mem_append] at h
      simp only [fbB, cntB]
      rcases h with h | h
      · exact (scS lp s i body h).mono (fun x hx => by simp [hx])
      · exact (scB lp ss _ body h).mono (fun x hx => by simp [hx])
theorem scE (lp : Option (Name × Name)) (cur done : Name) : ∀ (e : SElse) (i : Nat) (body : List Stmt),
    body ∈ bodiesL (lowerElse lp cur done e i).1 → IsLowered (fbE e) i (cntE e i) body
  | .none, i, body, h => by simp [lowerElse] at h
  | .els b, i, body, h => by
      rw [lowerElse_els] at h
      simp only [bodiesL_jump, bodiesL_label, bodiesL_append, bodiesL_nil, List.append_nil] at h
      exact scB lp b i body h
  | .elif c t e, i, body, h => by
      have m1 := C01.cntB_le t (i+1); have m2 := C01.cntE_le e (cntB t (i+1))
      rw [lowerElse_elif] at h
      simp only [bodiesL_jump, bodiesL_label, bodiesL_append, List.mem_append] at h
      simp only [fbE, cntE]
      rcases h with h | h
      · exact (scB lp t (i+1) body h).mono (fun x hx => by simp [hx])
      · exact (scE lp _ done e _ body h).mono (fun x hx => by simp [hx])
end

mutual
theorem noResS_fb : ∀ (s : SStmt), noResS s = true → ∀ b ∈ fbS s, noResB b = true
  | .expr .., _, _, h | .ret _, _, _, h | .label _, _, _, h | .jump .., _, _, h | .include _, _, _, h | .brk, _, _, h
  | .cont, _, _, h => by simp [fbS] at h
  | .func _ _ _ _ _ b', hn, b, h => by
      simp only [fbS, List.mem_cons] at h
      rcases h with rfl | h
      · exact hn
      · exact noResB_fb b' hn b h
  | .ite c t e, hn, b, h => by
      simp only [noResS, Bool.and_eq_true] at hn
      simp only [fbS, List.mem_append] at h
      exact h.elim (noResB_fb t hn.1 b) (noResE_fb e hn.2 b)
  | .while c b', hn, b, h => noResB_fb b' hn b h
  | .for v ix vals b', hn, b, h => noResB_fb b' hn b h
theorem noResB_fb : ∀ (B : List SStmt), noResB B = true → ∀ b ∈ fbB B, noResB b = true
  | [], _, b, h => by simp [fbB] at h
  | s :: ss, hn, b, h => by
      simp only [noResB, Bool.and_eq_true] at hn
      simp only [fbB, List.mem_append] at h
      exact h.elim (noResS_fb s hn.1 b) (noResB_fb ss hn.2 b)
theorem noResE_fb : ∀ (e : SElse), noResE e = true → ∀ b ∈ fbE e, noResB b = true
  | .none, _, b, h => by simp [fbE] at h
  | .els b', hn, b, h => noResB_fb b' hn b h
  | .elif c t e, hn, b, h => by
      simp only [noResE, Bool.and_eq_true] at hn
      simp only [fbE, List.mem_append] at h
      exact h.elim (noResB_fb t hn.1 b) (noResE_fb e hn.2 b)
end

theorem NoReserved.sscopes {B : List SStmt} (h : NoReserved B) : ∀ b ∈ sscopes B, NoReserved b := by
  intro b hb
  simp only [C07.sscopes, List.mem_cons] at hb
  rcases hb with rfl | hb
  · exact h
  · exact noResB_fb B h b hb

/-! ## lowered code has no `include` with an empty list -/

mutual
/-- no `include` statement with an empty list, in this statement and (recursively) in function bodies -/
def incNES : Stmt → Bool
  | .include incs => !incs.isEmpty
  | .function _ _ _ _ _ body => incNEL body
  | _ => true
def incNEL : List Stmt → Bool
  | [] => true
  | s :: r => incNES s && incNEL r
end

theorem incNEL_append (A B : List Stmt) : incNEL (A ++ B) = (incNEL A && incNEL B) := by
  induction A with
  | nil => simp [incNEL]
  | cons s r ih => simp [incNEL, ih, Bool.and_assoc]

theorem incNEL_forHeader (i v ix vals) : incNEL (forHeader i v ix vals) = true := by simp [forHeader, incNEL, incNES]
theorem incNEL_forFooter (i ix hc) : incNEL (forFooter i ix hc) = true := by cases hc <;> simp [forFooter, incNEL, incNES]

mutual
theorem incS (lp : Option (Name × Name)) : ∀ (s : SStmt) (i : Nat), incOkS s = true → incNEL (lowerS lp s i).1 = true
  | .include incs, i, h => by simp only [incOkS] at h; simp [lowerS, incNEL, incNES, h]
  | .expr .., _, _ | .ret _, _, _ | .label _, _, _ | .jump .., _, _ => by simp [lowerS, incNEL, incNES]
  | .brk, _, _ | .cont, _, _ => by cases lp <;> simp [lowerS, incNEL, incNES]
  | .func _ _ _ _ _ b, i, h => by simp [lowerS_func, incNEL, incNES, incB none b i h]
  | .ite c t e, i, h => by
      simp only [incOkS, Bool.and_eq_true] at h
      rw [lowerS_ite]
      simp [incNEL, incNES, incNEL_append, incB lp t (i+1) h.1, incE lp _ _ e _ h.2]
  | .while c b, i, h => by
      rw [C01.lowerS_while_eq]
      simp [incNEL, incNES, incNEL_append, incB _ b (i+1) h]
  | .for v ix vals b, i, h => by
      rw [C01.lowerS_for_eq]
      simp [incNEL_append, incNEL_forHeader, incNEL_forFooter, incB _ b (i+1) h]
theorem incB (lp : Option (Name × Name)) : ∀ (B : List SStmt) (i : Nat), incOkB B = true → incNEL (lowerB lp B i).1 = true
  | [], i, _ => by simp [lowerB, incNEL]
  | s :: ss, i, h => by
      simp only [incOkB, Bool.and_eq_true] at h
      rw [C01.lowerB_cons]
      simp [incNEL_append, incS lp s i h.1, incB lp ss _ h.2]
theorem incE (lp : Option (Name × Name)) (cur done : Name) : ∀ (e : SElse) (i : Nat), incOkE e = true →
    incNEL (lowerElse lp cur done e i).1 = true
  | .none, i, _ => by simp [lowerElse, incNEL, incNES]
  | .els b, i, h => by
      rw [lowerElse_els]
      simp [incNEL, incNES, incNEL_append, incB lp b i h]
  | .elif c t e, i, h => by
      simp only [incOkE, Bool.and_eq_true] at h
      rw [lowerElse_elif]
      simp [incNEL, incNES, incNEL_append, incB lp t (i+1) h.1, incE lp _ done e _ h.2]
end

theorem incNEL_mem : ∀ (P : List Stmt), incNEL P = true → Stmt.include [] ∉ P
  | [], _, h => by simp at h
  | s :: r, hP, h => by
      simp only [incNEL, Bool.and_eq_true] at hP
      simp only [List.mem_cons] at h
      rcases h with h | h
      · subst h; simp [incNES] at hP
      · exact incNEL_mem r hP.2 h

mutual
theorem incNES_bodies : ∀ (s : Stmt), incNES s = true → ∀ body ∈ bodiesS s, incNEL body = true
  | .function _ _ _ _ _ f, h, body, hb => by
      simp only [bodiesS, List.mem_cons] at hb
      rcases hb with rfl | hb
      · exact h
      · exact incNEL_bodies f h body hb
  | .expr .., _, _, hb | .jump .., _, _, hb | .ret _, _, _, hb | .label _, _, _, hb | .include _, _, _, hb => by
      simp [bodiesS] at hb
theorem incNEL_bodies : ∀ (P : List Stmt), incNEL P = true → ∀ body ∈ bodiesL P, incNEL body = true
  | [], _, body, hb => by simp at hb
  | s :: r, h, body, hb => by
      simp only [incNEL, Bool.and_eq_true] at h
      simp only [bodiesL, List.mem_append] at hb
      exact hb.elim (incNES_bodies s h.1 body) (incNEL_bodies r h.2 body)
end

/-! ### the mirror: `stepLine` never creates an empty include list (for *any* line sequence) -/

/-- the invariant: both statement lists under construction are free of empty includes (it reads `stmts` and `func` only, so an
update of `defs` / `idx` keeps it by definitional unfolding) -/
def PInv (s : PState) : Prop :=
  incNEL s.stmts = true ∧ ∀ f, s.func = some f → incNEL f.body = true

theorem PInv.cur {s : PState} (h : PInv s) : incNEL s.cur = true := by
  unfold PState.cur
  cases hf : s.func with
  | none => simpa [hf] using h.1
  | some f => simpa [hf] using h.2 f hf

theorem PInv.setCur {s : PState} (h : PInv s) {ss : List Stmt} (hs : incNEL ss = true) : PInv (s.setCur ss) := by
  unfold PState.setCur
  cases hf : s.func with
  | none => exact ⟨by simpa using hs, fun f hf' => by simp at hf'⟩
  | some f =>
    refine ⟨by simpa using h.1, fun f' hf' => ?_⟩
    simp only [Option.some.injEq] at hf'
    subst hf'; simpa using hs

theorem PInv.emit {s : PState} (h : PInv s) {ss : List Stmt} (hs : incNEL ss = true) : PInv (s.emit ss) := by
  unfold PState.emit
  exact h.setCur (by rw [incNEL_append, h.cur, hs]; rfl)

theorem incNEL_set (ss : List Stmt) (n : Nat) (x : Stmt) (hx : incNES x = true) (h : incNEL ss = true) :
    incNEL (ss.set n x) = true := by
  induction ss generalizing n with
  | nil => simpa using h
  | cons a r ih =>
    simp only [incNEL, Bool.and_eq_true] at h
    cases n with
    | zero => simp [incNEL, hx, h.2]
    | succ n => simp [incNEL, h.1, ih n h.2]

theorem incNEL_retarget (ss : List Stmt) (n : Nat) (l : Name) (h : incNEL ss = true) : incNEL (retarget ss n l) = true := by
  unfold retarget
  split
  · exact incNEL_set ss n _ rfl h
  · exact h

theorem incNEL_dropLast (ss : List Stmt) (h : incNEL ss = true) : incNEL ss.dropLast = true := by
  induction ss with
  | nil => simpa using h
  | cons a r ih =>
    simp only [incNEL, Bool.and_eq_true] at h
    cases r with
    | nil => simp [incNEL]
    | cons b r' => simp only [List.dropLast_cons_cons, incNEL, Bool.and_eq_true]; exact ⟨h.1, ih h.2⟩

theorem stepLine_inv (s : PState) (ln : Line) (s' : PState) (h : PInv s) (hs : stepLine s ln = .ok s') : PInv s' := by
  match ln, hs with
  | .assign .., hs | .exprStmt _, hs | .label _, hs | .jump .., hs | .ret _, hs =>
    simp only [stepLine, Except.ok.injEq] at hs; subst hs; exact h.emit rfl
  | .include url sys, hs =>
    simp only [stepLine] at hs
    split at hs
    · simp only [Except.ok.injEq] at hs; subst hs
      refine h.setCur ?_
      rw [incNEL_append, incNEL_dropLast _ h.cur]
      simp [incNEL, incNES]
    · simp only [Except.ok.injEq] at hs; subst hs
      exact h.emit (by simp [incNEL, incNES])
  | .funcBegin n args laa isAsync, hs =>
    simp only [stepLine] at hs
    split at hs
    · cases hs
    · simp only [Except.ok.injEq] at hs; subst hs
      exact ⟨h.1, fun f hf => by simp only [Option.some.injEq] at hf; subst hf; rfl⟩
  | .funcEnd, hs =>
    simp only [stepLine] at hs
    split at hs
    · cases hs
    · rename_i f hf
      split at hs
      · cases hs
      · simp only [Except.ok.injEq] at hs; subst hs
        refine ⟨?_, fun f' hf' => by simp at hf'⟩
        show incNEL (s.stmts ++ _) = true
        rw [incNEL_append, h.1]
        simp [incNEL, incNES, h.2 f hf]
  | .ifBegin c, hs =>
    simp only [stepLine, Except.ok.injEq] at hs; subst hs
    exact h.emit (ss := [.jump (lIf s.idx) (some (notE c))]) rfl
  | .whileBegin c, hs =>
    simp only [stepLine, Except.ok.injEq] at hs; subst hs
    exact h.emit (by simp [incNEL, incNES])
  | .forBegin v ix vals, hs =>
    simp only [stepLine, Except.ok.injEq] at hs; subst hs
    exact h.emit (incNEL_forHeader ..)
  | .elif c, hs =>
    simp only [stepLine] at hs
    split at hs
    · split at hs
      · cases hs
      · simp only [Except.ok.injEq] at hs; subst hs
        exact h.emit (by simp [incNEL, incNES])
    · cases hs
  | .else_, hs =>
    simp only [stepLine] at hs
    split at hs
    · split at hs
      · cases hs
      · simp only [Except.ok.injEq] at hs; subst hs
        exact h.emit (by simp [incNEL, incNES])
    · cases hs
  | .endif, hs =>
    simp only [stepLine] at hs
    split at hs
    · simp only [Except.ok.injEq] at hs; subst hs
      refine h.setCur ?_
      rw [incNEL_append]
      split
      · simp [h.cur, incNEL, incNES]
      · simp [incNEL_retarget _ _ _ h.cur, incNEL, incNES]
    · cases hs
  | .endwhile, hs =>
    simp only [stepLine] at hs
    split at hs
    · simp only [Except.ok.injEq] at hs; subst hs
      exact h.emit (by simp [incNEL, incNES])
    · cases hs
  | .endfor, hs =>
    simp only [stepLine] at hs
    split at hs
    · simp only [Except.ok.injEq] at hs; subst hs
      exact h.emit (incNEL_forFooter ..)
    · cases hs
  | .break_, hs =>
    simp only [stepLine] at hs
    split at hs
    · simp only [Except.ok.injEq] at hs; subst hs; exact h.emit rfl
    · simp only [Except.ok.injEq] at hs; subst hs; exact h.emit rfl
    · cases hs
  | .continue_, hs =>
    simp only [stepLine] at hs
    split at hs
    · simp only [Except.ok.injEq] at hs; subst hs; exact h.emit rfl
    · simp only [Except.ok.injEq] at hs; subst hs
      exact h.emit (ss := [.jump (lCont _) none]) rfl
    · cases hs

theorem parseLinesFrom_inv : ∀ (ls : List Line) (s s' : PState), PInv s → parseLinesFrom s ls = .ok s' → PInv s'
  | [], s, s', h, hs => by simp only [parseLinesFrom, Except.ok.injEq] at hs; subst hs; exact h
  | l :: ls, s, s', h, hs => by
      simp only [parseLinesFrom] at hs
      split at hs
      · rename_i s1 h1
        exact parseLinesFrom_inv ls s1 s' (stepLine_inv s l s1 h h1) hs
      · cases hs

theorem parseLines_incNEL (ls : List Line) (P : List Stmt) (h : parseLines ls = .ok P) : incNEL P = true := by
  simp only [parseLines] at h
  split at h
  · rename_i s hs
    have hi := parseLinesFrom_inv ls PState.init s ⟨rfl, fun f hf => by simp [PState.init] at hf⟩ hs
    simp only [finish] at h
    split at h
    · cases h
    · split at h
      · cases h
      · simp only [Except.ok.injEq] at h; subst h; exact hi.1
  · cases h

/-! ## programs without raw `label` / `jump` statements -/

mutual
def noRawS : SStmt → Bool
  | .label _ => false
  | .jump _ _ => false
  | .ite _ t e => noRawB t && noRawE e
  | .while _ b => noRawB b
  | .for _ _ _ b => noRawB b
  | .func _ _ _ _ _ b => noRawB b
  | _ => true
def noRawB : List SStmt → Bool
  | [] => true
  | s :: ss => noRawS s && noRawB ss
def noRawE : SElse → Bool
  | .none => true
  | .els b => noRawB b
  | .elif _ t e => noRawB t && noRawE e
end

mutual
theorem noRawS_spec : ∀ (s : SStmt), noRawS s = true →
    ulS s = [] ∧ ujS s = [] ∧ noResS s = true ∧ ∀ b ∈ fbS s, noRawB b = true
  | .label _, h | .jump _ _, h => by simp [noRawS] at h
  | .expr .., _ | .ret _, _ | .include _, _ | .brk, _ | .cont, _ => by simp [ulS, ujS, noResS, fbS]
  | .func _ _ _ _ _ b, h => by
      obtain ⟨-, -, h3, h4⟩ := noRawB_spec b h
      refine ⟨rfl, rfl, h3, fun x hx => ?_⟩
      simp only [fbS, List.mem_cons] at hx
      rcases hx with rfl | hx
      · exact h
      · exact h4 x hx
  | .ite c t e, h => by
      simp only [noRawS, Bool.and_eq_true] at h
      obtain ⟨a1, a2, a3, a4⟩ := noRawB_spec t h.1
      obtain ⟨b1, b2, b3, b4⟩ := noRawE_spec e h.2
      refine ⟨by simp [ulS, a1, b1], by simp [ujS, a2, b2], by simp [noResS, a3, b3], fun x hx => ?_⟩
      simp only [fbS, List.mem_append] at hx
      exact hx.elim (a4 x) (b4 x)
  | .while c b, h => noRawB_spec b h
  | .for v ix vals b, h => noRawB_spec b h
theorem noRawB_spec : ∀ (B : List SStmt), noRawB B = true →
    ulB B = [] ∧ ujB B = [] ∧ noResB B = true ∧ ∀ b ∈ fbB B, noRawB b = true
  | [], _ => by simp [ulB, ujB, noResB, fbB]
  | s :: ss, h => by
      simp only [noRawB, Bool.and_eq_true] at h
      obtain ⟨a1, a2, a3, a4⟩ := noRawS_spec s h.1
      obtain ⟨b1, b2, b3, b4⟩ := noRawB_spec ss h.2
      refine ⟨by simp [ulB, a1, b1], by simp [ujB, a2, b2], by simp [noResB, a3, b3], fun x hx => ?_⟩
      simp only [fbB, List.mem_append] at hx
      exact hx.elim (a4 x) (b4 x)
theorem noRawE_spec : ∀ (e : SElse), noRawE e = true →
    ulE e = [] ∧ ujE e = [] ∧ noResE e = true ∧ ∀ b ∈ fbE e, noRawB b = true
  | .none, _ => by simp [ulE, ujE, noResE, fbE]
  | .els b, h => noRawB_spec b h
  | .elif c t e, h => by
      simp only [noRawE, Bool.and_eq_true] at h
      obtain ⟨a1, a2, a3, a4⟩ := noRawB_spec t h.1
      obtain ⟨b1, b2, b3, b4⟩ := noRawE_spec e h.2
      refine ⟨by simp [ulE, a1, b1], by simp [ujE, a2, b2], by simp [noResE, a3, b3], fun x hx => ?_⟩
      simp only [fbE, List.mem_append] at hx
      exact hx.elim (a4 x) (b4 x)
end

mutual
theorem noRawS_iff : ∀ s : SStmt, C01.NoRawS s ↔ noRawS s = true
  | .label _ | .jump .. => by simp [C01.NoRawS, noRawS]
  | .expr .. | .ret _ | .include _ | .brk | .cont => by simp [C01.NoRawS, noRawS]
  | .func _ _ _ _ _ b | .while _ b | .for _ _ _ b => by simp only [C01.NoRawS, noRawS, noRawB_iff b]
  | .ite _ t e => by simp only [C01.NoRawS, noRawS, noRawB_iff t, noRawE_iff e, Bool.and_eq_true]
theorem noRawB_iff : ∀ B : List SStmt, C01.NoRawB B ↔ noRawB B = true
  | [] => by simp [C01.NoRawB, noRawB]
  | s :: ss => by simp only [C01.NoRawB, noRawB, noRawS_iff s, noRawB_iff ss, Bool.and_eq_true]
theorem noRawE_iff : ∀ e : SElse, C01.NoRawE e ↔ noRawE e = true
  | .none => by simp [C01.NoRawE, noRawE]
  | .els b => by simp only [C01.NoRawE, noRawE, noRawB_iff b]
  | .elif _ t e => by simp only [C01.NoRawE, noRawE, noRawB_iff t, noRawE_iff e, Bool.and_eq_true]
end

end C07
