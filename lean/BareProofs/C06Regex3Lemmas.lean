import BareProofs.C06Regex2Lemmas

/-!
# C06Regex3Lemmas — pieces for `jump` / `jumpif` and `include`
-/

namespace C06Regex
open Rx Text Scan RxPatterns

/-! ## `\s+(?P<name>[A-Za-z_]\w*)\s*$` -/

/-- where the name found by `wsNameEnd?` starts -/
def nameOff (r : Chars) : Nat := 1 + (r.tail.takeWhile isSpace).length

theorem wsNameEnd?_some {r name : Chars} (h : wsNameEnd? r = some name) :
    ∃ c r0 tl, r = c :: r0 ∧ isSpace c = true ∧ ident? (lstripL r0) = some (name, tl) ∧ allSpace tl = true := by
  unfold wsNameEnd? at h
  cases r with
  | nil => cases h
  | cons c r0 =>
    by_cases hc : isSpace c = true
    · simp only [ws1?, hc, if_true] at h
      cases hi : ident? (lstripL r0) with
      | none => rw [hi] at h; cases h
      | some nr =>
        obtain ⟨nm, tl⟩ := nr
        rw [hi] at h
        by_cases ha : allSpace tl = true
        · simp only [ha, if_true, Option.some.injEq] at h
          exact ⟨c, r0, tl, rfl, hc, h ▸ hi, ha⟩
        · simp only [ha, Bool.false_eq_true, if_false] at h; cases h
    · simp only [ws1?, hc, Bool.false_eq_true, if_false] at h; cases h

theorem name_tail (p : Nat) (r : Chars) (caps : List (Nat × Nat × Nat)) (h : '\n' ∉ r) :
    (ws1 ⬝ Rx.cap 3 (some "name") ident ⬝ ws ⬝ Rx.eol).m ⟨p, r, caps⟩ some =
      match wsNameEnd? r with
      | some name => some ⟨p + r.length, [], (3, p + nameOff r, p + nameOff r + name.length) :: caps⟩
      | none => none := by
  rw [ws1_det _ _ _ ((avoids_cap_ident _ _).seq _ _)]
  unfold wsNameEnd? ws1?
  cases r with
  | nil => rfl
  | cons c r0 =>
    by_cases hc : isSpace c = true
    · simp only [hc, if_true]
      rw [seq_m, cap_ident_det _ _ _ _ ((Avoids.ws_seq (avoids_eol (by decide)) fun _ hx => C10.word_not_space hx) _)]
      cases hi : ident? (lstripL r0) with
      | none => rfl
      | some nr =>
        obtain ⟨name, tl⟩ := nr
        have hl := lstrip_split_length r0
        rw [C10.ident?_decomp hi, List.length_append] at hl
        simp only []
        rw [ws_eol_seq _ _ (noNL_ident (noNL_lstrip (not_mem_tail h)) hi)]
        cases allSpace tl with
        | false => rfl
        | true =>
          simp only [if_true, nameOff, List.tail_cons, List.length_cons, Option.some.injEq, St.mk.injEq, true_and,
            List.cons.injEq, Prod.mk.injEq, and_true]
          omega
    · simp only [hc, Bool.false_eq_true, if_false]

theorem wsNameEnd?_drop {r name : Chars} (h : wsNameEnd? r = some name) : ∃ tl, r.drop (nameOff r) = name ++ tl := by
  obtain ⟨c, r0, tl, rfl, _, hi, _⟩ := wsNameEnd?_some h
  exact ⟨tl, by rw [nameOff, Nat.add_comm 1, List.drop_succ_cons, List.tail_cons, drop_ind, C10.ident?_decomp hi]⟩

/-- the text `wsNameEnd?` accepts is blanks, word characters, blanks: no `)` in it -/
theorem wsNameEnd?_no_paren {r name : Chars} (h : wsNameEnd? r = some name) : ')' ∉ r := by
  obtain ⟨c, r0, tl, rfl, hc, hi, ha⟩ := wsNameEnd?_some h
  have hword : ∀ x, isWord x = true → x ≠ ')' := fun x hx e => absurd (e ▸ hx) (by decide)
  have hspace : ∀ x, isSpace x = true → x ≠ ')' := fun x hx e => absurd (e ▸ hx) (by decide)
  intro hm
  rcases List.mem_cons.mp hm with e | hm
  · exact hspace c hc e.symm
  · rw [← List.takeWhile_append_dropWhile (p := isSpace) (l := r0), show r0.dropWhile isSpace = name ++ tl from C10.ident?_decomp hi] at hm
    rcases List.mem_append.mp hm with h1 | h1
    · exact hspace _ (TextRun.mem_takeWhile h1) rfl
    · rcases List.mem_append.mp h1 with h2 | h2
      · exact hword _ (ident?_word hi _ h2) rfl
      · exact hspace _ (List.all_eq_true.mp ha _ h2) rfl

/-! ## the last `)` -/

theorem splitLastParen_some {r e after : Chars} (h : splitLastParen r = some (e, after)) :
    r = e ++ ')' :: after ∧ ')' ∉ after := by
  unfold splitLastParen at h
  simp only [] at h
  have e1 := List.takeWhile_append_dropWhile (p := fun x : Char => x != ')') (l := r.reverse)
  cases hd : r.reverse.dropWhile (fun x : Char => x != ')') with
  | nil => rw [hd] at h; cases h
  | cons y br =>
    rw [hd] at h e1
    simp only [Option.some.injEq, Prod.mk.injEq] at h
    obtain rfl : y = ')' := by simpa using C10.dropWhile_head_not _ hd
    refine ⟨?_, ?_⟩
    · have e2 := congrArg List.reverse e1
      simp only [List.reverse_append, List.reverse_cons, List.reverse_reverse, List.append_assoc, List.singleton_append] at e2
      rw [← h.1, ← h.2]; exact e2.symm
    · rw [← h.2]
      intro hm
      simpa using TextRun.mem_takeWhile (List.mem_reverse.mp hm)

theorem splitLastParen_none {r : Chars} (h : splitLastParen r = none) : ')' ∉ r := by
  unfold splitLastParen at h
  simp only [] at h
  cases hd : r.reverse.dropWhile (fun x : Char => x != ')') with
  | cons y br => rw [hd] at h; cases h
  | nil =>
    intro hm
    simpa using (C10.dropWhile_eq_nil_iff' _ _).mp hd ')' (List.mem_reverse.mpr hm)

/-! ## `jumpif (…)`: `.+\)` backing off to the last `)` in front of `\s+name\s*$` -/

/-- after group `jump` closes: `\s+(?P<name>…)\s*$` -/
def jumpK : K := fun st' =>
  (ws1 ⬝ Rx.cap 3 (some "name") ident ⬝ ws ⬝ Rx.eol).m ⟨st'.pos, st'.rest, (1, 0, st'.pos) :: st'.caps⟩ some

/-- after `(?P<expr>.+)`: close the group, `\)`, then `jumpK` -/
def parenK (q : Nat) : K := fun st' => (elit ')').m ⟨st'.pos, st'.rest, (2, q, st'.pos) :: st'.caps⟩ jumpK

theorem parenK_eval (q : Nat) (st' : St) (h : '\n' ∉ st'.rest) :
    parenK q st' = match st'.rest with
      | x :: tail =>
        if x = ')' then
          match wsNameEnd? tail with
          | some name =>
            some ⟨st'.pos + 1 + tail.length, [],
              (3, st'.pos + 1 + nameOff tail, st'.pos + 1 + nameOff tail + name.length) :: (1, 0, st'.pos + 1) :: (2, q, st'.pos) :: st'.caps⟩
          | none => none
        else none
      | [] => none := by
  unfold parenK elit
  rw [one_m', step_lit]
  cases hr : st'.rest with
  | nil => rfl
  | cons x tail =>
    by_cases hx : x = ')'
    · simp only [hx, if_true, jumpK]
      rw [name_tail _ _ _ (not_mem_tail (hr ▸ h))]
    · simp only [hx, if_false]

theorem parenK_none (q : Nat) (st' : St) (h : '\n' ∉ st'.rest)
    (hh : ∀ tail, st'.rest = ')' :: tail → wsNameEnd? tail = none) : parenK q st' = none := by
  rw [parenK_eval _ _ h]
  cases hr : st'.rest with
  | nil => rfl
  | cons x tail =>
    by_cases hx : x = ')'
    · simp only [hx, if_true, hh tail (hx ▸ hr)]
    · simp only [hx, if_false]

/-- **`(?P<expr>.+)\)` in front of `\s+name\s*$`** = `Scan.splitLastParen`: the group ends before the LAST `)` of the line -/
theorem paren_rx (p2 : Nat) (r2 : Chars) (h : '\n' ∉ r2) :
    (Rx.cap 2 (some "expr") dotPlus ⬝ elit ')').m ⟨p2, r2, []⟩ jumpK =
      match splitLastParen r2 with
      | some (e, after) =>
        if e = [] then none
        else match wsNameEnd? after with
          | some name =>
            some ⟨p2 + r2.length, [],
              [(3, p2 + e.length + 1 + nameOff after, p2 + e.length + 1 + nameOff after + name.length),
               (1, 0, p2 + e.length + 1), (2, p2, p2 + e.length)]⟩
          | none => none
      | none => none := by
  -- a `)` can only be taken where none follows: a name has none in it
  have hlast : ∀ (l tail : Chars), ')' ∈ tail → l = ')' :: tail → wsNameEnd? tail = none := fun l tail hm _ => by
    cases hw : wsNameEnd? tail with
    | none => rfl
    | some nm => exact absurd hm (wsNameEnd?_no_paren hw)
  have hnone : ∀ (l tail : Chars), ')' ∉ l → l = ')' :: tail → wsNameEnd? tail = none :=
    fun l tail hn e => absurd (e ▸ List.mem_cons_self) hn
  cases hs : splitLastParen r2 with
  | none =>
    have hp := splitLastParen_none hs
    cases r2 with
    | nil => rfl
    | cons y rest' =>
      rw [seq_m, dotPlus, cap_dotplus_m _ _ _ _ h]
      exact backoff_none _ _ _ fun j _ => parenK_none _ _ (not_mem_drop (not_mem_tail h))
        (hnone _ · (not_mem_drop (not_mem_tail hp)))
  | some ea =>
    obtain ⟨e, after⟩ := ea
    obtain ⟨rfl, hna⟩ := splitLastParen_some hs
    cases e with
    | nil =>
      rw [List.nil_append] at h ⊢
      rw [seq_m, dotPlus, cap_dotplus_m _ _ _ _ h]
      exact backoff_none _ _ _ fun j _ => parenK_none _ _ (not_mem_drop (not_mem_tail h)) (hnone _ · (not_mem_drop hna))
    | cons y e' =>
      rw [List.cons_append] at h ⊢
      have hn' : '\n' ∉ e' ++ ')' :: after := not_mem_tail h
      rw [seq_m, dotPlus, cap_dotplus_m _ _ _ _ h]
      simp only [reduceCtorEq, if_false]
      refine (backoff_unique _ _ e'.length _ (by simp) fun j _ hj => parenK_none _ _ (not_mem_drop hn') ?_).trans ?_
      · intro tail hr
        simp only [adv] at hr
        rcases Nat.lt_or_gt_of_ne hj with hlt | hgt
        · rw [List.drop_append_of_le_length (Nat.le_of_lt hlt)] at hr
          cases hd : e'.drop j with
          | nil => exact absurd hd (drop_ne_nil hlt)
          | cons z zs =>
            rw [hd, List.cons_append] at hr
            exact hlast _ tail ((List.cons.inj hr).2 ▸ List.mem_append_right _ List.mem_cons_self) hr
        · obtain ⟨k, rfl⟩ : ∃ k, j = e'.length + (k + 1) := ⟨j - e'.length - 1, by omega⟩
          rw [← List.drop_drop, List.drop_left, List.drop_succ_cons] at hr
          exact hnone _ tail (not_mem_drop hna) hr
      · show parenK p2 _ = _
        rw [parenK_eval _ _ (not_mem_drop hn')]
        simp only [adv, List.drop_left]
        cases wsNameEnd? after with
        | none => rfl
        | some name =>
          simp only [if_true, List.length_cons, List.length_append, Option.some.injEq, St.mk.injEq, true_and, List.cons.injEq,
            Prod.mk.injEq, and_true]
          omega

/-! ## `include`: the common prefix, the `<…>` form -/

theorem cls_neg1_test (e : Bool) (c x : Char) : (Atom.cls true [.ch e c]).test x = (x != c) := by
  simp only [Atom.test, Item.test, List.any_cons, List.any_nil, Bool.or_false]
  show ((x == c) != true) = !(x == c)
  cases (x == c) <;> rfl

/-- `\s+(?P<delim>d)R` for a non-blank delimiter `d` -/
theorem delim_prefix (e : Bool) (d : Char) (hd : isSpace d = false) (R : Rx) (p0 : Nat) (r : Chars) :
    (ws1 ⬝ Rx.cap 1 (some "delim") (.one (.lit e d)) ⬝ R).m ⟨p0, r, []⟩ some =
      match ws1? r with
      | some (x :: t) =>
        if x = d then R.m ⟨p0 + nameOff r + 1, t, [(1, p0 + nameOff r, p0 + nameOff r + 1)]⟩ some else none
      | _ => none := by
  rw [ws1_det _ _ _ ((((avoids_lit e hd).cap 1 _).seq R) _)]
  cases r with
  | nil => rfl
  | cons c r0 =>
    by_cases hc : isSpace c = true
    · simp only [hc, if_true, ws1?, seq_m, cap_m, one_m', step_lit, nameOff, List.tail_cons]
      cases lstripL r0 with
      | nil => rfl
      | cons x t => simp only [Nat.add_assoc]
    · simp only [hc, ws1?, Bool.false_eq_true, if_false]

/-- `(?P<url>[^>]*)>\s*$` -/
theorem system_tail (q : Nat) (t : Chars) (caps : List (Nat × Nat × Nat)) (h : '\n' ∉ t) :
    (Rx.cap 2 (some "url") (.star (.one (.cls true [.ch false '>']))) ⬝ lit '>' ⬝ ws ⬝ Rx.eol).m ⟨q, t, caps⟩ some =
      match t.dropWhile (· != '>') with
      | _ :: tail =>
        if allSpace tail then some ⟨q + t.length, [], (2, q, q + (t.takeWhile (· != '>')).length) :: caps⟩ else none
      | [] => none := by
  have htest : (Atom.cls true [.ch false '>']).test = (· != '>') := by funext x; exact cls_neg1_test _ _ _
  rw [seq_m, cap_m, star_atom_det _ _ _ (by rw [htest, lit]; exact rejects_caps _ _ _ (((avoids_lit false rfl).seq _) some))]
  · simp only [skip, htest, seq_m, lit, one_m', step_lit]
    have hl : (t.takeWhile (· != '>')).length + (t.dropWhile (· != '>')).length = t.length := by
      have := congrArg List.length (List.takeWhile_append_dropWhile (p := (· != '>')) (l := t))
      rwa [List.length_append] at this
    cases hd : t.dropWhile (· != '>') with
    | nil => rfl
    | cons x tail =>
      have hx : x = '>' := by simpa using C10.dropWhile_head_not _ hd
      have htl : '\n' ∉ tail := by
        have : '\n' ∉ t.dropWhile (· != '>') := not_mem_dropWhile h
        rw [hd] at this; exact fun hm => this (List.mem_cons_of_mem _ hm)
      rw [hd] at hl
      simp only [hx, if_true]
      rw [ws_eol _ _ (by exact htl)]
      by_cases ha : allSpace tail = true
      · simp only [ha, if_true, List.length_cons, Option.some.injEq, St.mk.injEq, and_true] at hl ⊢
        omega
      · simp [ha]

/-! ## `include '…'`: the star over `\\'|[^']` -/

/-- mirror of the engine on `(?:\\'|[^'])*'\s*$`: the length of the url of the FIRST match in priority order
(an escaped quote is taken as a pair first; if the rest then fails, the backslash is taken alone) -/
def quoteEnd : Chars → Option Nat
  | [] => none
  | c :: t =>
    if c = '\'' then (if allSpace t then some 0 else none)
    else if c = '\\' then
      ((match t with
        | d :: t' => if d = '\'' then (quoteEnd t').map (· + 2) else none
        | [] => none) <|> (quoteEnd t).map (· + 1))
    else (quoteEnd t).map (· + 1)

/-- `(?:\\'|[^'])` -/
def quoteB : Rx := .ncg (.alt (elit '\\' ⬝ elit '\'') (.one (.cls true [.ch true '\''])))

/-- after the url: close the group, `'`, `\s*$` -/
def qK (q : Nat) : K := fun st' => (elit '\'' ⬝ ws ⬝ Rx.eol).m ⟨st'.pos, st'.rest, (2, q, st'.pos) :: st'.caps⟩ some

theorem qK_eval (q : Nat) (st' : St) (h : '\n' ∉ st'.rest) :
    qK q st' = match st'.rest with
      | x :: tail =>
        if x = '\'' then
          (if allSpace tail then some ⟨st'.pos + 1 + tail.length, [], (2, q, st'.pos) :: st'.caps⟩ else none)
        else none
      | [] => none := by
  unfold qK elit
  rw [seq_m, one_m', step_lit]
  cases hr : st'.rest with
  | nil => rfl
  | cons x tail =>
    by_cases hx : x = '\''
    · simp only [hx, if_true]
      rw [ws_eol_seq _ _ (fun hm => h (by rw [hr]; exact List.mem_cons_of_mem _ hm))]
    · simp [hx]

theorem quoteB_m (st : St) (K'' : K) :
    quoteB.m st K'' = match st.rest with
      | c :: t =>
        if c = '\\' then
          ((match t with
            | d :: t' => if d = '\'' then K'' ⟨st.pos + 2, t', st.caps⟩ else none
            | [] => none) <|> K'' ⟨st.pos + 1, t, st.caps⟩)
        else if c = '\'' then none
        else K'' ⟨st.pos + 1, t, st.caps⟩
      | [] => none := by
  unfold quoteB elit
  rw [ncg_m, alt_m, seq_m, one_m', step_lit, one_m']
  unfold step
  cases hr : st.rest with
  | nil => rfl
  | cons c t =>
    simp only [cls_neg1_test]
    by_cases hc : c = '\\'
    · subst hc
      simp only [if_true, one_m', step_lit, show ('\\' != '\'') = true from by decide]
      cases t with
      | nil => rfl
      | cons d t' => by_cases hd : d = '\'' <;> simp [hd, Nat.add_assoc]
    · by_cases hq : c = '\''
      · subst hq; simp
      · have : (c != '\'') = true := by simpa using hq
        simp [hc, hq, this]

theorem quoteEnd_quote (t : Chars) : quoteEnd ('\'' :: t) = if allSpace t then some 0 else none := by
  rw [quoteEnd.eq_def]; simp

theorem quoteEnd_bs_quote (t' : Chars) :
    quoteEnd ('\\' :: '\'' :: t') = ((quoteEnd t').map (· + 2) <|> (quoteEnd ('\'' :: t')).map (· + 1)) := by
  rw [quoteEnd]; simp

theorem quoteEnd_bs_other (d : Char) (t' : Chars) (hd : ¬ d = '\'') :
    quoteEnd ('\\' :: d :: t') = (quoteEnd (d :: t')).map (· + 1) := by
  rw [quoteEnd]; simp [hd]

theorem quoteEnd_bs_nil : quoteEnd ['\\'] = none := by
  rw [quoteEnd]; simp [quoteEnd]

theorem quoteEnd_other (c : Char) (t : Chars) (hq : ¬ c = '\'') (hc : ¬ c = '\\') :
    quoteEnd (c :: t) = (quoteEnd t).map (· + 1) := by
  rw [quoteEnd.eq_def]; simp [hq, hc]

/-- **the star over `\\'|[^']` in front of `'\s*$` = `quoteEnd`**; the match ends where the text ends (`E`) all along the
loop, only the end of the url moves -/
theorem quote_loop_end (q E : Nat) (caps : List (Nat × Nat × Nat)) : ∀ (fuel pos : Nat) (u : Chars), u.length ≤ fuel → '\n' ∉ u →
    pos + u.length = E →
    loop quoteB.m fuel ⟨pos, u, caps⟩ (qK q) = (quoteEnd u).map (fun n => ⟨E, [], (2, q, pos + n) :: caps⟩)
  | 0, pos, u, hl, hn, hE => by
    obtain rfl : u = [] := List.length_eq_zero_iff.mp (Nat.le_zero.mp hl)
    rfl
  | n + 1, pos, [], hl, hn, hE => rfl
  | n + 1, pos, c :: t, hl, hn, hE => by
    have ht : '\n' ∉ t := not_mem_tail hn
    have hE1 : pos + 1 + t.length = E := by rw [← hE, List.length_cons]; omega
    have iht := quote_loop_end q E caps n (pos + 1) t (Nat.le_of_succ_le_succ hl) ht hE1
    rw [loop, quoteB_m, qK_eval _ _ hn]
    simp only [List.length_cons, Nat.lt_add_one, if_true, iht]
    by_cases hq : c = '\''
    · subst hq
      rw [quoteEnd_quote]
      simp only [show ¬ ('\'' = '\\') from by decide, if_false, if_true, none_orElse]
      cases allSpace t
      · rfl
      · simp only [if_true, Option.map_some, Nat.add_zero, ← hE1]
    · simp only [hq, if_false, orElse_none']
      by_cases hc : c = '\\'
      · subst hc
        simp only [if_true]
        cases t with
        | nil => rfl
        | cons d t' =>
          by_cases hd : d = '\''
          · subst hd
            have iht' := quote_loop_end q E caps n (pos + 2) t' (by simp at hl; omega) (not_mem_tail ht)
              (by rw [← hE1, List.length_cons]; omega)
            rw [quoteEnd_bs_quote, map_orElse', Option.map_map, Option.map_map]
            simp only [if_true, List.length_cons, show t'.length < t'.length + 1 + 1 from by omega, iht', Function.comp_def,
              Nat.add_assoc, Nat.add_comm 1, Nat.add_comm 2]
          · rw [quoteEnd_bs_other d t' hd, Option.map_map]
            simp only [hd, if_false, none_orElse, Function.comp_def, Nat.add_assoc, Nat.add_comm 1]
      · rw [quoteEnd_other c t hq hc, Option.map_map]
        simp only [hc, if_false, Function.comp_def, Nat.add_assoc, Nat.add_comm 1]

theorem quote_loop (q : Nat) : ∀ (fuel pos : Nat) (u : Chars) (caps : List (Nat × Nat × Nat)), u.length ≤ fuel → '\n' ∉ u →
    loop quoteB.m fuel ⟨pos, u, caps⟩ (qK q) =
      (quoteEnd u).map (fun n => ⟨pos + u.length, [], (2, q, pos + n) :: caps⟩) :=
  fun fuel pos u caps hl hn => quote_loop_end q _ caps fuel pos u hl hn rfl

end C06Regex
