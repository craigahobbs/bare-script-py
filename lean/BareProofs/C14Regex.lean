import BareModel.Gen.Regex

/-! C14 — generated-table obligation, in a module of its own so that a changed pattern breaks exactly this. -/

namespace C14

/-- The clean-up pattern of `value.py` (regenerated from the working tree on every run) is the one `Json.clean` re-implements. -/
theorem cleanup_regex_is_modelled :
    Gen.regexes.filter (fun e => e.1 == "value._R_VALUE_JSON_NUMBER_CLEANUP") =
      [("value._R_VALUE_JSON_NUMBER_CLEANUP", "(\"(?:[^\"\\\\]|\\\\.)*\")|\\.0+(?=[,}\\]\\s]|$)", 32)] := by
  decide +kernel

end C14
