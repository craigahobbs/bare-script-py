import BareModel.Gen.Includes

/-!
# C20 — the shipped include library parses, validates and is lint-clean

`Gen/Includes.lean` is regenerated from the working tree on every check run: one row per `src/bare_script/include/*.bare`
with what `parse_script`, `validate_script` and `lint_script` report (and the sha256 of the text, for the evidence only — it
is deliberately not checked: a behaviour-preserving edit of an include must not break anything).  The theorem below is the
kernel-side record of the finite fact; the `includes` stream of `harness/props/C20.py` checks the same on the implementation
and that the table compiled into the driver is the current one.
-/

namespace C20

/-- **Every shipped include script parses, validates against the schema and is lint-clean** — the finite fact, as
`parse_script`, `validate_script` and `lint_script` of the working tree report it (table regenerated on every run). -/
theorem includes_parse_validate_lintclean :
    ∀ inc ∈ Gen.includes, inc.parses = true ∧ inc.validates = true ∧ inc.lint = [] := by
  decide

/-- the table is not empty and `diff.bare` is in it -/
example : "diff.bare" ∈ Gen.includes.map (·.name) ∧ 0 < Gen.includes.length := by decide +kernel

end C20
