/-!
# TextRun — what the text-level groups share below their own grammars

A scanner that takes the longest run of a class `p` reads a piece back exactly when what follows `Stops p`; a digit string read
positionally by a reader that is right on `'0'..'9'` is core's `Nat.ofDigitChars 10`, the inverse of `Nat.toDigits 10`.
-/

/-- The kernel has the characters of a string literal only through the UTF-8 coder: `"…".toList` costs it the square of the length, again in
every declaration and for every occurrence.  For the elaborator a literal is `String.ofList` of its characters by unification, so
`String.toList_ofList` puts the characters in place of every `"…".toList` of the goal before the kernel evaluates it. -/
macro "decide_lit" : tactic => `(tactic| ((repeat rw [String.toList_ofList]); decide +kernel))

namespace TextRun

theorem mem_takeWhile {α} {p : α → Bool} {l : List α} {a : α} (h : a ∈ l.takeWhile p) : p a = true :=
  List.all_eq_true.mp List.all_takeWhile a h

/-- empty, or begins with an element on which `p` fails -/
def Stops {α} (p : α → Bool) (b : List α) : Prop := ∀ c, b.head? = some c → p c = false

theorem stops_nil {α} (p : α → Bool) : Stops p [] := nofun

theorem stops_cons {α} {p : α → Bool} {c : α} {t : List α} (h : p c = false) : Stops p (c :: t) := by
  intro d hd; cases hd; exact h

theorem stops_iff {α} {p : α → Bool} {b : List α} : Stops p b ↔ ∀ c t, b = c :: t → p c = false := by
  cases b with
  | nil => exact ⟨nofun, fun _ => stops_nil p⟩
  | cons x xs => exact ⟨fun h c t e => by cases e; exact h x rfl, fun h => stops_cons (h x xs rfl)⟩

theorem Stops.takeWhile {α} {p : α → Bool} {b : List α} (hb : Stops p b) : b.takeWhile p = [] := by
  cases b with
  | nil => rfl
  | cons c t => exact List.takeWhile_cons_of_neg (by simp [hb c rfl])

theorem Stops.dropWhile {α} {p : α → Bool} {b : List α} (hb : Stops p b) : b.dropWhile p = b := by
  cases b with
  | nil => rfl
  | cons c t => exact List.dropWhile_cons_of_neg (by simp [hb c rfl])

theorem stops_dropWhile {α} (p : α → Bool) (l : List α) : Stops p (l.dropWhile p) := fun c h => by
  have := List.head?_dropWhile_not p l; rw [h] at this; simpa using this

theorem takeWhile_append_stop {α} {p : α → Bool} {a b : List α} (ha : ∀ c ∈ a, p c = true) (hb : Stops p b) :
    (a ++ b).takeWhile p = a := by
  rw [List.takeWhile_append_of_pos ha, hb.takeWhile, List.append_nil]

theorem dropWhile_append_stop {α} {p : α → Bool} {a b : List α} (ha : ∀ c ∈ a, p c = true) (hb : Stops p b) :
    (a ++ b).dropWhile p = b := by
  rw [List.dropWhile_append_of_pos ha, hb.dropWhile]

theorem foldl_pos (val : Char → Nat) (l : List Char) (x : Nat) :
    l.foldl (fun a c => a * 10 + val c) x = x * 10 ^ l.length + l.foldl (fun a c => a * 10 + val c) 0 := by
  induction l generalizing x with
  | nil => simp
  | cons c cs ih =>
    simp only [List.foldl_cons, List.length_cons, Nat.zero_mul, Nat.zero_add]
    rw [ih, ih (val c), Nat.pow_succ, Nat.add_mul, Nat.mul_assoc, Nat.add_assoc, Nat.mul_comm 10]

theorem foldl_pos_append (val : Char → Nat) (a b : List Char) :
    (a ++ b).foldl (fun a c => a * 10 + val c) 0 =
      a.foldl (fun a c => a * 10 + val c) 0 * 10 ^ b.length + b.foldl (fun a c => a * 10 + val c) 0 := by
  rw [List.foldl_append, foldl_pos]

theorem foldl_pos_eq_ofDigitChars {val : Char → Nat} {l : List Char} (h : ∀ c ∈ l, val c = c.toNat - 48) (x : Nat) :
    l.foldl (fun a c => a * 10 + val c) x = Nat.ofDigitChars 10 l x := by
  rw [Nat.ofDigitChars_eq_foldl]
  induction l generalizing x with
  | nil => rfl
  | cons c cs ih =>
    simp only [List.foldl_cons]
    rw [h c List.mem_cons_self, Nat.mul_comm x 10]
    exact ih (fun d hd => h d (List.mem_cons_of_mem _ hd)) _

theorem toNat_of_isDigit {c : Char} (h : c.isDigit = true) : 48 ≤ c.toNat ∧ c.toNat ≤ 57 := by
  simpa [Char.isDigit, UInt32.le_iff_toNat_le] using h

theorem toNat_of_mem_toDigits {n : Nat} {c : Char} (h : c ∈ Nat.toDigits 10 n) : 48 ≤ c.toNat ∧ c.toNat ≤ 57 :=
  toNat_of_isDigit (Nat.isDigit_of_mem_toDigits (by decide) (by decide) h)

theorem foldl_pos_toDigits {val : Char → Nat} (h : ∀ c : Char, 48 ≤ c.toNat → c.toNat ≤ 57 → val c = c.toNat - 48) (n : Nat) :
    (Nat.toDigits 10 n).foldl (fun a c => a * 10 + val c) 0 = n := by
  rw [foldl_pos_eq_ofDigitChars fun c hc => h c (toNat_of_mem_toDigits hc).1 (toNat_of_mem_toDigits hc).2]
  exact Nat.ofDigitChars_ten_toDigits

end TextRun
