import BareModel.LintEdit
import BareProofs.C01EraseLemmas
import BareProofs.C08
import BareProofs.RunRel

/-!
# C18, semantic clauses — two runs side by side, up to what an edit may change

States are related by `SR C`: same globals, same world, statement counters related by `C` (equality for a renaming; for a
deletion, which costs one tick, anything or `≥`).  Results are related by `OutSim` / `ArgsSim` / `ResSim esc C`: the same kind of
result with the same value / error and related states; an out-of-fuel left run is matched by anything when `esc` holds, by
out-of-fuel otherwise.  Locals are related by `LocAgree U`: they agree on the names satisfying `U` (all names for a deletion, all
but the two names of a renaming).  The result relations form a `C09.RunRel` (`simRel`), so evaluator and library trees are walked
by `C09.RunRel.evalExpr_rel` / `runTree_rel` (`evalExpr_sim`, `runTree_sim`); `stepStmt_sim` relates one `C09.stepStmt` of the
two runs, `Edit.sim` all runs of two programs whose points are related as `Edit` asks.  `Shift` (positions and labels after a
deletion) and `RenBody` / `ArgsRen` (renamed bodies and parameter lists) are what its instances in `C18Sem` are stated with.
-/

namespace C18
open Machine Lint LintEdit
open C09 (StmtStep stepStmt stepStmt_shape execM₀_succ overBudget resOut)

variable {W : Type}

def SR (C : Nat → Nat → Prop) (s s' : State W) : Prop :=
  s.globals = s'.globals ∧ s.world = s'.world ∧ C s.count s'.count

def OutSim (esc : Prop) (C : Nat → Nat → Prop) (o o' : Out W) : Prop :=
  match o with
  | .ok v s => ∃ s', o' = .ok v s' ∧ SR C s s'
  | .err e s => ∃ s', o' = .err e s' ∧ SR C s s'
  | .oof => esc ∨ o' = .oof

def ArgsSim (esc : Prop) (C : Nat → Nat → Prop) (o o' : ArgsOut W) : Prop :=
  match o with
  | .ok v s => ∃ s', o' = .ok v s' ∧ SR C s s'
  | .err e s => ∃ s', o' = .err e s' ∧ SR C s s'
  | .oof => esc ∨ o' = .oof

def ResSim (esc : Prop) (C : Nat → Nat → Prop) (r r' : Res W) : Prop :=
  match r with
  | .done s => ∃ s', r' = .done s' ∧ SR C s s'
  | .ret v s => ∃ s', r' = .ret v s' ∧ SR C s s'
  | .err e s => ∃ s', r' = .err e s' ∧ SR C s s'
  | .oof => esc ∨ r' = .oof

def CallSim (esc : Prop) (C : Nat → Nat → Prop) (call call' : CallFn W) : Prop :=
  ∀ f args s s', SR C s s' → OutSim esc C (call f args s) (call' f args s')

def InclSim (esc : Prop) (C : Nat → Nat → Prop) (incl incl' : Option String → List IncludeScript → State W → Res W) : Prop :=
  ∀ base incs s s', SR C s s' → ResSim esc C (incl base incs s) (incl' base incs s')

/-- the same relation on `C09.Oc`, the form of `Out`, `ArgsOut` and `Res` in which a `C09.RunRel` is stated -/
def OcSim {α : Type} (esc : Prop) (C : Nat → Nat → Prop) (o o' : C09.Oc α W) : Prop :=
  match o with
  | .ok a s => ∃ s', o' = .ok a s' ∧ SR C s s'
  | .err e s => ∃ s', o' = .err e s' ∧ SR C s s'
  | .oof => esc ∨ o' = .oof

def simRel (esc : Prop) (C : Nat → Nat → Prop) : C09.RunRel W Unit where
  St := SR C
  R := fun _ o S => OcSim esc C o (S ())
  ok := fun _ _ _ hs => ⟨_, rfl, hs⟩
  err := fun _ _ _ _ hs => ⟨_, rfl, hs⟩
  bind := by
    intro α β s₀ o S k k' h hk
    cases o with
    | ok a s => obtain ⟨s', h', hs⟩ := h; show OcSim esc C _ (C09.Oc.bind (S ()) _); rw [h']; exact hk a s s' hs
    | err e s => obtain ⟨s', h', hs⟩ := h; show OcSim esc C _ (C09.Oc.bind (S ()) _); rw [h']; exact ⟨s', rfl, hs⟩
    | oof => exact h.imp id fun h' => by show C09.Oc.bind (S ()) _ = _; rw [h']; rfl

section
variable {esc : Prop} {C : Nat → Nat → Prop}

theorem OutSim.oc {o o' : Out W} : OutSim esc C o o' ↔ OcSim esc C o.oc o'.oc := by
  cases o
  · exact exists_congr fun s' => and_congr_left' C09.Out.oc_eq.symm
  · exact exists_congr fun s' => and_congr_left' C09.Out.oc_eq.symm
  · exact or_congr_right C09.Out.oc_eq.symm

theorem ArgsSim.oc {o o' : ArgsOut W} : ArgsSim esc C o o' ↔ OcSim esc C o.oc o'.oc := by
  cases o
  · exact exists_congr fun s' => and_congr_left' C09.ArgsOut.oc_eq.symm
  · exact exists_congr fun s' => and_congr_left' C09.ArgsOut.oc_eq.symm
  · exact or_congr_right C09.ArgsOut.oc_eq.symm

theorem ResSim.oc {r r' : Res W} : ResSim esc C r r' ↔ OcSim esc C r.oc r'.oc := by
  cases r
  · exact exists_congr fun s' => and_congr_left' (C09.Res.oc_eq (a := r') (b := .done s')).symm
  · exact exists_congr fun s' => and_congr_left' (C09.Res.oc_eq (a := r') (b := .ret _ s')).symm
  · exact exists_congr fun s' => and_congr_left' C09.Res.oc_eq.symm
  · exact or_congr_right C09.Res.oc_eq.symm

theorem ResSim.resOut {r r' : Res W} (h : ResSim esc C r r') :
    OutSim esc C (resOut r) (resOut r') := by
  cases r with
  | done s => obtain ⟨s', rfl, hs⟩ := h; exact ⟨s', rfl, hs⟩
  | ret v s => obtain ⟨s', rfl, hs⟩ := h; exact ⟨s', rfl, hs⟩
  | err e s => obtain ⟨s', rfl, hs⟩ := h; exact ⟨s', rfl, hs⟩
  | oof => exact h.imp id fun h => by rw [h]; rfl

end

def LocAgree (U : Name → Prop) : Option Env → Option Env → Prop
  | some a, some b => ∀ n, U n → a.get? n = b.get? n
  | none, none => True
  | _, _ => False

theorem LocAgree.refl (U : Name → Prop) : ∀ l : Option Env, LocAgree U l l
  | none => trivial
  | some _ => fun _ _ => rfl

theorem LocAgree.isSome {U : Name → Prop} : ∀ {l l' : Option Env}, LocAgree U l l' → l'.isSome = l.isSome
  | none, none, _ => rfl
  | some _, some _, _ => rfl
  | none, some _, h => h.elim
  | some _, none, h => h.elim

theorem lookupVar_agree {U : Name → Prop} {l l' : Option Env} (hl : LocAgree U l l') (g : Env) {n : Name} (hn : U n) :
    lookupVar l g n = lookupVar l' g n := by
  cases l <;> cases l' <;> simp only [LocAgree] at hl
  · rfl
  · simp only [lookupVar, C04.contains_eq_isSome, hl n hn]

theorem lookupFunc_agree (cfg : Config W) {U : Name → Prop} {l l' : Option Env} (hl : LocAgree U l l') (g : Env) {n : Name}
    (hn : U n) : lookupFunc cfg l g n = lookupFunc cfg l' g n := by
  cases l <;> cases l' <;> simp only [LocAgree] at hl
  · rfl
  · simp only [lookupFunc, C04.contains_eq_isSome, hl n hn]

theorem LocAgree.set {U : Name → Prop} {a b : Env} (h : LocAgree U (some a) (some b)) (n : Name) (v : Value) :
    LocAgree U (some (a.set n v)) (some (b.set n v)) := by
  intro m hm
  simp only [C04.get?_set, h m hm]

theorem LocAgree.set_off {U : Name → Prop} {a b : Env} (h : LocAgree U (some a) (some b)) {x x' : Name}
    (hx : ¬ U x) (hx' : ¬ U x') (v v' : Value) : LocAgree U (some (a.set x v)) (some (b.set x' v')) := by
  intro m hm
  have h1 : m ≠ x := fun e => hx (e ▸ hm)
  have h2 : m ≠ x' := fun e => hx' (e ▸ hm)
  simp only [C04.get?_set, h1, h2, if_false, h m hm]

theorem LocAgree.set_ren {U : Name → Prop} {a b : Env} (h : LocAgree U (some a) (some b)) {x x' : Name}
    (hx : x' = x ∨ (¬ U x ∧ ¬ U x')) (v : Value) : LocAgree U (some (a.set x v)) (some (b.set x' v)) := by
  rcases hx with rfl | ⟨h1, h2⟩
  · exact h.set _ v
  · exact h.set_off h1 h2 v v

theorem evalAgree (cfg : Config W) {esc : Prop} {C : Nat → Nat → Prop} {U : Name → Prop} {l l' : Option Env}
    (hl : LocAgree U l l') : C09.EvalAgree (simRel esc C) cfg cfg l l' U where
  truthy := fun _ _ _ hs => by rw [hs.2.1]
  binop := fun _ _ _ _ _ hs => by rw [hs.2.1]
  neg := rfl
  var := fun n s s' hn hs => by rw [← hs.1, lookupVar_agree hl _ hn]
  func := fun n s s' hn hs => by rw [← hs.1, lookupFunc_agree cfg hl _ hn]

theorem CallSim.rel {esc : Prop} {C : Nat → Nat → Prop} {call call' : CallFn W} (hc : CallSim esc C call call') :
    (simRel esc C).Call call fun _ => call' := fun f a s s' hs => OutSim.oc.1 (hc f a s s' hs)

section
variable (cfg : Config W) {esc : Prop} {C : Nat → Nat → Prop} {call call' : CallFn W} (hc : CallSim esc C call call')
  {U : Name → Prop} {l l' : Option Env} (hl : LocAgree U l l')
include hc hl

theorem evalExpr_sim : ∀ (e : Expr) (st st' : State W), (∀ n ∈ exprUses e, U n) → SR C st st' →
    OutSim esc C (evalExpr cfg call l e st) (evalExpr cfg call' l' e st') :=
  fun e st st' hn hs => OutSim.oc.2 ((simRel esc C).evalExpr_rel (evalAgree cfg hl) hc.rel e st st' hn hs)

theorem evalArgs_sim : ∀ (as : List Expr) (st st' : State W), (∀ n ∈ argsUses as, U n) → SR C st st' →
    ArgsSim esc C (evalArgs cfg call l as st) (evalArgs cfg call' l' as st') :=
  fun as st st' hn hs => ArgsSim.oc.2 ((simRel esc C).evalArgs_rel (evalAgree cfg hl) hc.rel as st st' hn hs)

theorem evalIf_sim : ∀ (as : List Expr) (st st' : State W), (∀ n ∈ argsUses as, U n) → SR C st st' →
    OutSim esc C (evalIf cfg call l as st) (evalIf cfg call' l' as st') :=
  fun as st st' hn hs => OutSim.oc.2 ((simRel esc C).evalIf_rel (evalAgree cfg hl) hc.rel as st st' hn hs)
end

theorem treeAgree (cfg : Config W) {esc : Prop} {C : Nat → Nat → Prop} :
    C09.RunRel.TreeAgree (simRel esc C) cfg cfg fun _ => True where
  sameWorld := fun _ _ hs => hs.2.1.symm
  debug := rfl
  logFailure := rfl
  world := fun _ _ _ _ hs => ⟨_, rfl, hs.1, rfl, hs.2.2⟩
  fail := fun _ _ _ _ _ hs => ⟨_, rfl, hs.1, rfl, hs.2.2⟩
  get := fun _ _ _ _ hs => by rw [hs.1]
  set := fun _ _ _ _ _ _ hs => ⟨_, rfl, by simp only [hs.1], rfl, hs.2.2⟩

theorem runTree_sim (cfg : Config W) {esc : Prop} {C : Nat → Nat → Prop} {call call' : CallFn W}
    (hc : CallSim esc C call call') : ∀ (t : LibTree W) (s s' : State W), SR C s s' →
    OutSim esc C (runTree cfg call t s) (runTree cfg call' t s') :=
  fun t s s' hs => OutSim.oc.2 ((simRel esc C).runTree_rel (treeAgree cfg) hc.rel (C09.RunRel.treeNames_all t) s s' hs)

theorem stepStmt_cfg {c c' : Config W} (hh : c'.host = c.host) (hb : c'.builtins = c.builtins) (call : CallFn W)
    (incl : List IncludeScript → State W → Res W) (l : Option Env) (s : Stmt) (st : State W) :
    stepStmt c' call incl l s st = stepStmt c call incl l s st := by
  cases s with
  | jump lab c => cases c <;> simp only [stepStmt, C01.evalExpr_cfg hh hb, hh]
  | ret e => cases e <;> simp only [stepStmt, C01.evalExpr_cfg hh hb]
  | _ => simp only [stepStmt, C01.evalExpr_cfg hh hb]

/-- the same statement, or the same expression assigned to two names outside `U`; this only inside a function, where the two
names are locals (at top level the assignment writes a global, and `SR` asks for equal globals) -/
def StmtRen (U : Name → Prop) (inFn : Bool) (s s' : Stmt) : Prop :=
  s' = s ∨ ∃ x x' e, s = .expr (some x) e ∧ s' = .expr (some x') e ∧ ¬ U x ∧ ¬ U x' ∧ inFn = true

/-- a left step that is out of fuel is matched, under `esc`, by any step of the right run, not only by one that halts -/
def StepSim (esc : Prop) (C : Nat → Nat → Prop) (U : Name → Prop) (x x' : StmtStep W) : Prop :=
  match x with
  | .next l s => ∃ l' s', x' = .next l' s' ∧ LocAgree U l l' ∧ SR C s s'
  | .goto lab s => ∃ s', x' = .goto lab s' ∧ SR C s s'
  | .halt r => (r = .oof ∧ esc) ∨ ∃ r', x' = .halt r' ∧ ResSim esc C r r'

theorem StepSim.ofOut {esc : Prop} {C : Nat → Nat → Prop} {U : Name → Prop} {o o' : Out W} (h : OutSim esc C o o')
    {K K' : Value → State W → StmtStep W} (hK : ∀ v s s', SR C s s' → StepSim esc C U (K v s) (K' v s')) :
    StepSim esc C U (match o with | .ok v s => K v s | .err e s => .halt (.err e s) | .oof => .halt .oof)
      (match (generalizing := false) o' with
        | .ok v s => K' v s | .err e s => .halt (.err e s) | .oof => .halt .oof) := by
  cases o with
  | ok v s => obtain ⟨s', rfl, hs⟩ := h; exact hK v s s' hs
  | err e s => obtain ⟨s', rfl, hs⟩ := h; exact Or.inr ⟨_, rfl, s', rfl, hs⟩
  | oof =>
    rcases h with h | rfl
    · exact Or.inl ⟨rfl, h⟩
    · exact Or.inr ⟨_, rfl, Or.inr rfl⟩

theorem stepStmt_sim (cfg : Config W) {esc : Prop} {C : Nat → Nat → Prop} {call call' : CallFn W}
    (hc : CallSim esc C call call') {incl incl' : List IncludeScript → State W → Res W}
    (hi : ∀ incs s s', SR C s s' → ResSim esc C (incl incs s) (incl' incs s'))
    {U : Name → Prop} {l l' : Option Env} (hl : LocAgree U l l') {s s' : Stmt} (hs : StmtRen U l.isSome s s')
    (hU : ∀ n ∈ stmtUses s, U n) {st st' : State W} (hst : SR C st st') :
    StepSim esc C U (stepStmt cfg call incl l s st) (stepStmt cfg call' incl' l' s' st') := by
  have hexpr : ∀ (name name' : Option Name) (e : Expr), (∀ n ∈ exprUses e, U n) →
      (name' = name ∨ ∃ x x', name = some x ∧ name' = some x' ∧ ¬ U x ∧ ¬ U x' ∧ l.isSome = true) →
      StepSim esc C U (stepStmt cfg call incl l (.expr name e) st) (stepStmt cfg call' incl' l' (.expr name' e) st') := by
    intro name name' e hUe hn
    simp only [stepStmt]
    refine StepSim.ofOut (evalExpr_sim cfg hc hl e st st' hUe hst) fun v st2 st2' hs2 => ?_
    rcases hn with rfl | ⟨x, x', rfl, rfl, hx, hx', hsome⟩
    · cases name' with
      | none => exact ⟨l', st2', rfl, hl, hs2⟩
      | some n =>
        cases l with
        | none =>
          cases l' with
          | none => exact ⟨none, _, rfl, trivial, by simp only [hs2.1], hs2.2.1, hs2.2.2⟩
          | some b => exact hl.elim
        | some a =>
          cases l' with
          | none => exact hl.elim
          | some b => exact ⟨_, st2', rfl, LocAgree.set hl n v, hs2⟩
    · cases l with
      | none => cases hsome
      | some a =>
        cases l' with
        | none => exact hl.elim
        | some b => exact ⟨_, st2', rfl, LocAgree.set_off hl hx hx' v v, hs2⟩
  rcases hs with rfl | ⟨x, x', e, rfl, rfl, hx, hx', hsome⟩
  · cases s' with
    | expr name e => exact hexpr name name e hU (Or.inl rfl)
    | jump lab c =>
      cases c with
      | none => exact ⟨st', rfl, hst⟩
      | some c =>
        simp only [stepStmt]
        refine StepSim.ofOut (evalExpr_sim cfg hc hl c st st' hU hst) fun v st2 st2' hs2 => ?_
        simp only [← hs2.2.1]
        split
        · exact ⟨st2', rfl, hs2⟩
        · exact ⟨l', st2', rfl, hl, hs2⟩
    | ret e =>
      cases e with
      | none => exact Or.inr ⟨_, rfl, st', rfl, hst⟩
      | some e =>
        simp only [stepStmt]
        exact StepSim.ofOut (evalExpr_sim cfg hc hl e st st' hU hst) fun v st2 st2' hs2 =>
          Or.inr ⟨_, rfl, st2', rfl, hs2⟩
    | label lab => exact ⟨l', st', rfl, hl, hst⟩
    | function fid name args laa isAsync body =>
      exact ⟨l', _, rfl, hl, by simp only [hst.1], hst.2.1, hst.2.2⟩
    | «include» incs =>
      have h := hi incs st st' hst
      simp only [stepStmt]
      cases hX : incl incs st with
      | done st2 => rw [hX] at h; obtain ⟨st2', h', hs2⟩ := h; rw [h']; exact ⟨l', st2', rfl, hl, hs2⟩
      | ret v st2 => rw [hX] at h; obtain ⟨st2', h', hs2⟩ := h; rw [h']; exact Or.inr ⟨_, rfl, st2', rfl, hs2⟩
      | err e st2 => rw [hX] at h; obtain ⟨st2', h', hs2⟩ := h; rw [h']; exact Or.inr ⟨_, rfl, st2', rfl, hs2⟩
      | oof =>
        rw [hX] at h
        rcases h with h | h
        · exact Or.inl ⟨rfl, h⟩
        · rw [h]; exact Or.inr ⟨_, rfl, Or.inr rfl⟩
  · exact hexpr (some x) (some x') e hU (Or.inr ⟨x, x', rfl, rfl, hx, hx', hsome⟩)

/-- **a pointless expression is pointless**: evaluating an expression without a function call returns normally and leaves the
state (globals, world, statement counter) exactly as it was — whatever the call runner, the locals, the host -/
theorem evalExpr_pointless (cfg : Config W) (call : CallFn W) (l : Option Env) :
    ∀ (e : Expr) (st : State W), isPointless e = true → ∃ v, evalExpr cfg call l e st = .ok v st
  | .number q, st, _ => ⟨.num q, by simp only [evalExpr]⟩
  | .string q, st, _ => ⟨.str q, by simp only [evalExpr]⟩
  | .variable n, st, _ => ⟨_, C01.evalExpr_variable cfg call l n st⟩
  | .function n args, st, h => by simp [isPointless] at h
  | .binary op a b, st, h => by
      simp only [isPointless, Bool.and_eq_true] at h
      obtain ⟨va, ha⟩ := evalExpr_pointless cfg call l a st h.1
      obtain ⟨vb, hb⟩ := evalExpr_pointless cfg call l b st h.2
      by_cases h1 : op = .and
      · subst h1
        rw [C01.evalExpr_and_ok cfg call l ha]
        split
        · exact ⟨vb, hb⟩
        · exact ⟨va, rfl⟩
      · by_cases h2 : op = .or
        · subst h2
          rw [C01.evalExpr_or_ok cfg call l ha]
          split
          · exact ⟨va, rfl⟩
          · exact ⟨vb, hb⟩
        · exact ⟨_, C01.evalExpr_binary_ok cfg call l h1 h2 ha hb⟩
  | .unary op a, st, h => by
      simp only [isPointless] at h
      obtain ⟨va, ha⟩ := evalExpr_pointless cfg call l a st h
      exact ⟨_, C01.evalExpr_unary_ok cfg call l ha⟩
  | .group a, st, h => by
      simp only [isPointless] at h
      simp only [evalExpr]
      exact evalExpr_pointless cfg call l a st h

theorem stepStmt_skip (cfg : Config W) (call : CallFn W) (incl : List IncludeScript → State W → Res W) (l : Option Env)
    {s : Stmt} (hs : Skippable s) (st : State W) : stepStmt cfg call incl l s st = .next l st := by
  rcases hs with ⟨lab, rfl⟩ | ⟨e, rfl, he⟩
  · rfl
  · obtain ⟨v, hv⟩ := evalExpr_pointless cfg call l e st he
    simp only [stepStmt, hv]

theorem execM₀_skip (cfg : Config W) (h0 : cfg.maxStatements = 0) {f : Nat} {P : List Stmt} {l : Option Env}
    {base : Option String} {pc : Nat} {s : Stmt} (hP : P[pc]? = some s) (hs : Skippable s) (st : State W) :
    execM₀ cfg (f+1) P l base pc st = execM₀ cfg f P l base (pc+1) { st with count := st.count + 1 } := by
  rw [execM₀_succ hP st, stepStmt_skip cfg _ _ l hs]
  simp [h0, StmtStep.run, overBudget]

structure CfgSame (c c' : Config W) : Prop where
  host : c'.host = c.host
  builtins : c'.builtins = c.builtins
  debug : c'.debug = c.debug
  resolve : c'.resolve = c.resolve
  fetch : c'.fetch = c.fetch
  max : c'.maxStatements = c.maxStatements

theorem CfgSame.symm {c c' : Config W} (h : CfgSame c c') : CfgSame c' c :=
  ⟨h.host.symm, h.builtins.symm, h.debug.symm, h.resolve.symm, h.fetch.symm, h.max.symm⟩

theorem CfgSame.withFuns (c : Config W) (funs : FnId → Option FuncDef) : CfgSame c { c with funs := funs } :=
  ⟨rfl, rfl, rfl, rfl, rfl, rfl⟩

theorem CfgSame.setFun (c : Config W) (id : FnId) (fd : FuncDef) : CfgSame c (setFun c id fd) :=
  ⟨rfl, rfl, rfl, rfl, rfl, rfl⟩

/-- the runs of the two machines at fuels `f`, `f'` are related: every call, the lists from `Rel`-related points, every include -/
structure MSim (esc : Prop) (C : Nat → Nat → Prop) (Rel : (Name → Prop) → Bool → List Stmt → List Stmt → Nat → Nat → Prop)
    (cA cB : Config W) (f f' : Nat) : Prop where
  call : CallSim esc C (callValue₀ cA f) (callValue₀ cB f')
  exec : ∀ {U P P' pc pc' l l'} (base : Option String) {s s'}, Rel U l.isSome P P' pc pc' → LocAgree U l l' → SR C s s' →
    ResSim esc C (execM₀ cA f P l base pc s) (execM₀ cB f' P' l' base pc' s')
  incl : InclSim esc C (execIncludes₀ cA f) (execIncludes₀ cB f')

/-- the two lists take a step together: both end here, or they hold statements related by `StmtRen` whose successors are
`R`-related and whose jump target is unknown in both or found at `R`-related positions -/
def StepAt (R : Nat → Nat → Prop) (U : Name → Prop) (inFn : Bool) (P P' : List Stmt) (pc pc' : Nat) : Prop :=
  (P[pc]? = none ∧ P'[pc']? = none) ∨
  ∃ s s', P[pc]? = some s ∧ P'[pc']? = some s' ∧ StmtRen U inFn s s' ∧ (∀ n ∈ stmtUses s, U n) ∧ R (pc+1) (pc'+1) ∧
    ∀ lab c, s = .jump lab c → (findLabel P lab = none ∧ findLabel P' lab = none) ∨
      ∃ i j, findLabel P lab = some i ∧ findLabel P' lab = some j ∧ R (i+1) (j+1)

/-- What `Edit.sim` needs of two configurations: `cA` runs on the left with fuel `f`, `cB` has to match it on the right.
`Rel U inFn P P' pc pc'` relates a point of the list `P` to a point of `P'`; `U` holds the names on which the locals of the two
runs agree, `inFn` says that the lists run inside a function (`StmtRen`).  `pt`: at related points the lists take a step
together, or `P` is at a skippable statement whose successor is related to the same `pc'`, or `P'` is at a skippable statement
and the step is taken after it.  A skip needs `esc` (the list that skips spends a unit of fuel the other keeps); without skips
the theorem holds at `esc = False`, where out-of-fuel is matched by out-of-fuel.  `g f` is a fuel that suffices on the right for
`f` on the left: one more for every unit (`fuel`), two more, and never none, where `P'` may skip.  `C` relates the statement
counters: a tick on both sides keeps it, a skip keeps it on its side; under a statement budget the two runs have to be aborted at
the same statement, so there `C` is equality (`bud`) and nothing is skipped.  `funs`: at each index the tables hold no function, or
functions that bind their parameters to agreeing locals and whose bodies are related from the start; `same`: a list is related
to itself (what `include` runs). -/
structure Edit (esc : Prop) (C : Nat → Nat → Prop) (cA cB : Config W) (g : Nat → Nat)
    (Rel : (Name → Prop) → Bool → List Stmt → List Stmt → Nat → Nat → Prop) : Prop where
  cfg : CfgSame cA cB
  tick : ∀ a b, C a b → C (a+1) (b+1)
  bud : cA.maxStatements = 0 ∨ ∀ a b, C a b → a = b
  fuel : ∀ f, g f + 1 ≤ g (f+1)
  pt : ∀ {U inFn P P' pc pc'}, Rel U inFn P P' pc pc' →
    StepAt (Rel U inFn P P') U inFn P P' pc pc' ∨
    (esc ∧ cA.maxStatements = 0 ∧ (∀ a b, C a b → C (a+1) b) ∧
      ∃ s, P[pc]? = some s ∧ Skippable s ∧ Rel U inFn P P' (pc+1) pc') ∨
    (esc ∧ cA.maxStatements = 0 ∧ (∀ f, 1 ≤ g f ∧ g f + 2 ≤ g (f+1)) ∧ (∀ a b, C a b → C a (b+1)) ∧
      ∃ s, P'[pc']? = some s ∧ Skippable s ∧ StepAt (Rel U inFn P P') U inFn P P' pc (pc'+1))
  funs : ∀ id, (cA.funs id = none ∧ cB.funs id = none) ∨ ∃ fdA fdB U, cA.funs id = some fdA ∧ cB.funs id = some fdB ∧
    (∀ args w, LocAgree U (some (bindArgs cA.host fdA.lastArgArray fdA.args args [] w).1)
        (some (bindArgs cA.host fdB.lastArgArray fdB.args args [] w).1) ∧
      (bindArgs cA.host fdB.lastArgArray fdB.args args [] w).2 = (bindArgs cA.host fdA.lastArgArray fdA.args args [] w).2) ∧
    Rel U true fdA.body fdB.body 0 0
  same : ∀ P, Rel (fun _ => True) false P P 0 0

theorem fuel_succ {a b : Nat} (h1 : a + 1 ≤ b) : ∀ {f' : Nat}, b ≤ f' → ∃ f'', f' = f'' + 1 ∧ a ≤ f''
  | 0, h2 => absurd (Nat.le_trans h1 h2) (Nat.not_succ_le_zero a)
  | f''+1, h2 => ⟨f'', rfl, Nat.le_of_succ_le_succ (Nat.le_trans h1 h2)⟩

section
variable {esc : Prop} {C : Nat → Nat → Prop}

theorem call_zero_sim (cA cB : Config W) {fB : Nat} (h0 : esc ∨ fB = 0) :
    CallSim esc C (callValue₀ cA 0) (callValue₀ cB fB) := by
  intro f args s s' _
  rw [callValue₀.eq_1]
  rcases h0 with h | rfl
  · exact Or.inl h
  · rw [callValue₀.eq_1]; exact Or.inr rfl

theorem incl_zero_sim {cA cB : Config W} (hcfg : CfgSame cA cB) {fB : Nat} (h0 : esc ∨ fB = 0) :
    InclSim esc C (execIncludes₀ cA 0) (execIncludes₀ cB fB) := by
  intro base incs s s' hs
  cases incs with
  | nil => rw [execIncludes₀.eq_1, execIncludes₀.eq_1]; exact ⟨s', rfl, hs⟩
  | cons inc rest =>
    rw [ResSim.oc, C09.execIncludes₀_cons, C09.execIncludes₀_cons, hcfg.resolve, hcfg.fetch]
    cases cA.fetch (cA.resolve base inc) with
    | missing => exact ⟨s', rfl, hs⟩
    | broken => exact ⟨s', rfl, hs⟩
    | script stmts =>
      rcases h0 with h | rfl
      · exact Or.inl h
      · exact Or.inr rfl

end

section
variable {esc : Prop} {C : Nat → Nat → Prop} {cA cB : Config W} {g : Nat → Nat}
  {Rel : (Name → Prop) → Bool → List Stmt → List Stmt → Nat → Nat → Prop} (h : Edit esc C cA cB g Rel)
include h

theorem exec_step_sim {f f' : Nat} (ih : MSim esc C Rel cA cB f f') {U : Name → Prop} {P P' : List Stmt} {pc pc' : Nat}
    {l l' : Option Env} (hst : StepAt (Rel U l.isSome P P') U l.isSome P P' pc pc') (hl : LocAgree U l l')
    (base : Option String) {s s' : State W} (hs : SR C s s') :
    ResSim esc C (execM₀ cA (f+1) P l base pc s) (execM₀ cB (f'+1) P' l' base pc' s') := by
  rcases hst with ⟨hA, hB⟩ | ⟨sA, sB, hA, hB, hren, hU, hnext, hj⟩
  · rw [C09.execM₀_end hA, C09.execM₀_end hB]; exact ⟨s', rfl, hs⟩
  rw [execM₀_succ hA s, execM₀_succ hB s']
  have hs1 : SR C { s with count := s.count + 1 } { s' with count := s'.count + 1 } := ⟨hs.1, hs.2.1, h.tick _ _ hs.2.2⟩
  have hcond : overBudget cB s' = overBudget cA s := by
    simp only [overBudget]
    rw [h.cfg.max]
    rcases h.bud with h0 | hEq
    · simp [h0]
    · rw [hEq _ _ hs.2.2]
  rw [hcond]
  split
  · exact ⟨_, by rw [h.cfg.max], hs1⟩
  · have hstep := stepStmt_sim cA ih.call (ih.incl base) hl hren hU hs1
    have hsh := stepStmt_shape cA (callValue₀ cA f) (execIncludes₀ cA f base) l sA { s with count := s.count + 1 }
    rw [stepStmt_cfg h.cfg.host h.cfg.builtins]
    cases hX : stepStmt cA (callValue₀ cA f) (execIncludes₀ cA f base) l sA { s with count := s.count + 1 } with
    | next l1 s1 =>
      rw [hX] at hstep hsh
      obtain ⟨l1', s1', h', hl1, hs1⟩ := hstep
      rw [h']
      exact ih.exec base (hsh ▸ hnext) hl1 hs1
    | goto lab s1 =>
      rw [hX] at hstep hsh
      obtain ⟨s1', h', hs1⟩ := hstep
      rw [h']
      obtain ⟨c, rfl⟩ := hsh
      simp only [StmtStep.run]
      rcases hj lab c rfl with ⟨h1, h2⟩ | ⟨i, j, h1, h2, hr⟩
      · rw [h1, h2]; exact ⟨s1', rfl, hs1⟩
      · rw [h1, h2]; exact ih.exec base hr hl hs1
    | halt r =>
      rw [hX] at hstep
      rcases hstep with ⟨rfl, he⟩ | ⟨r', h', hr⟩
      · exact Or.inl he
      · rw [h']; exact hr

theorem call_step_sim {f f' : Nat} (ih : MSim esc C Rel cA cB f f') :
    CallSim esc C (callValue₀ cA (f+1)) (callValue₀ cB (f'+1)) := by
  intro fv args s s' hs
  cases C09.callee cA fv with
  | script id fdA hf hA =>
    subst hf
    rcases h.funs id with ⟨hN, -⟩ | ⟨fdA', fdB, U, hA', hB, hbind, hrel⟩
    · rw [hA] at hN; cases hN
    · cases hA.symm.trans hA'
      obtain ⟨hb1, hb2⟩ := hbind args s.world
      rw [C09.callValue₀_script cA f hA, C09.callValue₀_script cB f' hB]
      simp only [C09.enterFn]
      rw [h.cfg.host, ← hs.2.1, hb2]
      exact ResSim.resOut (ih.exec none hrel hb1 ⟨hs.1, rfl, hs.2.2⟩)
  | lib name hf =>
    subst hf
    rw [C09.callValue₀_lib, C09.callValue₀_lib, C01.runTree_cfg h.cfg.host h.cfg.debug, h.cfg.host, ← hs.2.1]
    exact runTree_sim cA ih.call _ s s' hs
  | other k hf =>
    subst hf
    rw [C09.callValue₀_other, C09.callValue₀_other, C01.runTree_cfg h.cfg.host h.cfg.debug, h.cfg.host, ← hs.2.1]
    exact runTree_sim cA ih.call _ s s' hs
  | none hn hl ho =>
    have hB : ∀ id, fv = .fn (.script id) → cB.funs id = none := fun id e => by
      rcases h.funs id with ⟨-, hB⟩ | ⟨_, _, _, hA, -⟩
      · exact hB
      · rw [hn id e] at hA; cases hA
    rw [C09.callValue₀_notCallable cA f hn hl ho, C09.callValue₀_notCallable cB f' hB hl ho]
    exact ⟨_, rfl, hs.1, by simp only [h.cfg.host, hs.2.1], hs.2.2⟩

theorem incl_step_sim {f f' : Nat} (ih : MSim esc C Rel cA cB f f') :
    InclSim esc C (execIncludes₀ cA (f+1)) (execIncludes₀ cB (f'+1)) := by
  intro base incs s s' hs
  cases incs with
  | nil => rw [execIncludes₀.eq_1, execIncludes₀.eq_1]; exact ⟨s', rfl, hs⟩
  | cons inc rest =>
    rw [ResSim.oc, C09.execIncludes₀_cons, C09.execIncludes₀_cons, h.cfg.resolve, h.cfg.fetch]
    cases cA.fetch (cA.resolve base inc) with
    | missing => exact ⟨s', rfl, hs⟩
    | broken => exact ⟨s', rfl, hs⟩
    | script stmts =>
      exact (simRel esc C).bind (s₀ := s) (S := fun _ => (execM₀ cB f' stmts none _ 0 s').oc)
        (k' := fun _ _ st' => (execIncludes₀ cB f' base rest st').oc)
        (ResSim.oc.1 (ih.exec (l := none) (l' := none) _ (h.same stmts) trivial hs))
        fun _ s2 s2' hs2 => ResSim.oc.1 (ih.incl base rest s2 s2' hs2)

/-- **simulation for an edit**: the left runs with fuel `f` are matched by the right runs with any fuel from `g f` on
(with `f` exactly, where an out-of-fuel run has to be matched by one) -/
theorem Edit.sim : ∀ f f', g f ≤ f' → (esc ∨ f' = f) → MSim esc C Rel cA cB f f'
  | 0, f', hg, h0 => by
    refine ⟨call_zero_sim cA cB h0, ?_, incl_zero_sim h.cfg h0⟩
    intro U P P' pc pc' l l' base s s' hrel hl hs
    rcases h.pt hrel with hst | ⟨e, -, -, sA, hA, -⟩ | ⟨e, hm, hg2, hC, sB, hB, hskip, hst⟩
    · rcases hst with ⟨hA, hB⟩ | ⟨sA, sB, hA, hB, -⟩
      · rw [C09.execM₀_end hA, C09.execM₀_end hB]; exact ⟨s', rfl, hs⟩
      · rw [C09.execM₀_zero hA]
        exact h0.imp id fun e => by rw [e, C09.execM₀_zero hB]
    · rw [C09.execM₀_zero hA]; exact Or.inl e
    · rcases hst with ⟨hA, hB1⟩ | ⟨sA, _, hA, -⟩
      · obtain ⟨f'', rfl, -⟩ := fuel_succ (a := 0) (hg2 0).1 hg
        rw [C09.execM₀_end hA, execM₀_skip cB (h.cfg.max.trans hm) hB hskip s', C09.execM₀_end hB1]
        exact ⟨_, rfl, hs.1, hs.2.1, hC _ _ hs.2.2⟩
      · rw [C09.execM₀_zero hA]; exact Or.inl e
  | f+1, f', hg, he => by
    obtain ⟨f'', rfl, hg'⟩ := fuel_succ (h.fuel f) hg
    have ih := Edit.sim f f'' hg' (he.imp id Nat.succ.inj)
    refine ⟨call_step_sim h ih, ?_, incl_step_sim h ih⟩
    intro U P P' pc pc' l l' base s s' hrel hl hs
    rcases h.pt hrel with hst | ⟨e, hm, hC, sA, hA, hskip, hrel1⟩ | ⟨e, hm, hg2, hC, sB, hB, hskip, hst⟩
    · exact exec_step_sim h ih hst hl base hs
    · rw [execM₀_skip cA hm hA hskip s]
      exact (Edit.sim f (f''+1) (Nat.le_succ_of_le hg') (Or.inl e)).exec base hrel1 hl ⟨hs.1, hs.2.1, hC _ _ hs.2.2⟩
    · obtain ⟨f₃, rfl, hg₃⟩ := fuel_succ (Nat.le_refl _) (Nat.le_of_succ_le_succ (Nat.le_trans (hg2 f).2 hg))
      rw [execM₀_skip cB (h.cfg.max.trans hm) hB hskip s']
      exact exec_step_sim h (Edit.sim f f₃ hg₃ (Or.inl e)) hst hl base ⟨hs.1, hs.2.1, hC _ _ hs.2.2⟩

end

/-- `P'` is `P` without some skippable statements (no two adjacent), `sh` maps the positions of `P` to those of `P'`
(a deleted position to its successor's), and every label that a jump of `P` targets is found at corresponding positions -/
structure Shift (P P' : List Stmt) (sh : Nat → Nat) : Prop where
  step : ∀ pc, (P[pc]? = none ∧ P'[sh pc]? = none) ∨
      (∃ s, P[pc]? = some s ∧ P'[sh pc]? = some s ∧ sh (pc+1) = sh pc + 1) ∨
      (∃ s, P[pc]? = some s ∧ Skippable s ∧ sh (pc+1) = sh pc ∧
          ((P[pc+1]? = none ∧ P'[sh pc]? = none) ∨
           (∃ s2, P[pc+1]? = some s2 ∧ P'[sh pc]? = some s2 ∧ sh (pc+1+1) = sh pc + 1)))
  jumpN : ∀ lab c, Stmt.jump lab c ∈ P → findLabel P lab = none → findLabel P' lab = none
  jumpS : ∀ lab c i, Stmt.jump lab c ∈ P → findLabel P lab = some i → ∃ j, findLabel P' lab = some j ∧ sh (i+1) = j + 1

theorem Shift.id (P : List Stmt) : Shift P P (fun pc => pc) where
  step := by
    intro pc
    cases h : P[pc]? with
    | none => exact Or.inl ⟨rfl, rfl⟩
    | some s => exact Or.inr (Or.inl ⟨s, rfl, rfl, rfl⟩)
  jumpN := fun _ _ _ h => h
  jumpS := fun _ _ i _ h => ⟨i, h, rfl⟩

theorem Shift.jump {P P' : List Stmt} {sh : Nat → Nat} (h : Shift P P' sh) {lab : Name} {c : Option Expr}
    (hj : Stmt.jump lab c ∈ P) : (findLabel P lab = none ∧ findLabel P' lab = none) ∨
      ∃ i j, findLabel P lab = some i ∧ findLabel P' lab = some j ∧ sh (i+1) = j + 1 := by
  cases hF : findLabel P lab with
  | none => exact Or.inl ⟨rfl, h.jumpN lab c hj hF⟩
  | some i =>
    obtain ⟨j, hj', hsh⟩ := h.jumpS lab c i hj hF
    exact Or.inr ⟨i, j, rfl, hj', hsh⟩

theorem findLabel_eraseIdx_none {P : List Stmt} (k : Nat) {lab : Name} (h : findLabel P lab = none) :
    findLabel (P.eraseIdx k) lab = none := by
  rw [C08.unknown_label_iff] at h ⊢
  intro s hs
  exact h s (List.mem_of_mem_eraseIdx hs)

theorem shiftPc_le {k pc : Nat} (h : pc ≤ k) : shiftPc k pc = pc := if_pos h

theorem shiftPc_gt {k pc : Nat} (h : k < pc) : shiftPc k pc = pc - 1 := if_neg (Nat.not_le.2 h)

theorem shiftPc_zero (k : Nat) : shiftPc k 0 = 0 := shiftPc_le (Nat.zero_le k)

theorem shiftPc_succ {k pc : Nat} (h : pc ≠ k) : shiftPc k (pc + 1) = shiftPc k pc + 1 := by
  rcases Nat.lt_or_gt_of_ne h with h | h
  · rw [shiftPc_le h, shiftPc_le (Nat.le_of_lt h)]
  · rw [shiftPc_gt (Nat.lt_succ_of_lt h), shiftPc_gt h]
    omega

theorem getElem?_deleteAt (P : List Stmt) {k pc : Nat} (h : pc ≠ k) : (deleteAt P k)[shiftPc k pc]? = P[pc]? := by
  rw [deleteAt, List.getElem?_eraseIdx]
  rcases Nat.lt_or_gt_of_ne h with h | h
  · rw [shiftPc_le (Nat.le_of_lt h), if_pos h]
  · rw [shiftPc_gt h, if_neg (by omega), Nat.sub_add_cancel (by omega)]

theorem findLabel_deleteAt_some {P : List Stmt} {k : Nat} {s : Stmt} (hk : P[k]? = some s) {lab : Name}
    (hs : Machine.isLabel lab s = false) {i : Nat} (h : findLabel P lab = some i) :
    i ≠ k ∧ findLabel (deleteAt P k) lab = some (shiftPc k i) := by
  rw [C08.findLabel_some_iff] at h ⊢
  obtain ⟨hi, hlt⟩ := h
  have hik : i ≠ k := by
    rintro rfl
    rw [hk] at hi
    cases hi
    simp [Machine.isLabel] at hs
  refine ⟨hik, by rw [getElem?_deleteAt P hik]; exact hi, fun j hj => ?_⟩
  -- position `j` of the shorter list is position `j` or `j + 1` of `P`, in both cases before `i`
  rw [deleteAt, List.getElem?_eraseIdx]
  rcases Nat.lt_or_gt_of_ne hik with h | h
  · rw [shiftPc_le (Nat.le_of_lt h)] at hj
    rw [if_pos (Nat.lt_trans hj h)]
    exact hlt j hj
  · rw [shiftPc_gt h] at hj
    split
    · exact hlt j (by omega)
    · exact hlt (j + 1) (by omega)

/-- **deleting statement `k`**, skippable and not a label that a jump of the list targets -/
theorem Shift.erase {P : List Stmt} {k : Nat} {s : Stmt} (hk : P[k]? = some s) (hskip : Skippable s)
    (hlab : ∀ lab c, Stmt.jump lab c ∈ P → Machine.isLabel lab s = false) : Shift P (deleteAt P k) (shiftPc k) where
  step := by
    intro pc
    by_cases h : pc = k
    · subst h
      have e : shiftPc pc (pc + 1) = shiftPc pc pc := by
        rw [shiftPc_gt (Nat.lt_add_one pc), shiftPc_le (Nat.le_refl pc), Nat.add_sub_cancel]
      refine Or.inr (Or.inr ⟨s, hk, hskip, e, ?_⟩)
      rw [← e, getElem?_deleteAt P (Nat.succ_ne_self pc), shiftPc_succ (Nat.succ_ne_self pc)]
      cases P[pc + 1]? with
      | none => exact Or.inl ⟨rfl, rfl⟩
      | some s2 => exact Or.inr ⟨s2, rfl, rfl, rfl⟩
    · rw [getElem?_deleteAt P h, shiftPc_succ h]
      cases P[pc]? with
      | none => exact Or.inl ⟨rfl, rfl⟩
      | some s1 => exact Or.inr (Or.inl ⟨s1, rfl, rfl, rfl⟩)
  jumpN := fun lab c _ h => findLabel_eraseIdx_none k h
  jumpS := by
    intro lab c i hj h
    obtain ⟨hik, h1⟩ := findLabel_deleteAt_some hk (hlab lab c hj) h
    exact ⟨_, h1, shiftPc_succ hik⟩

/-- `StmtRen U true`, for the statements of a function body -/
def StmtRen' (U : Name → Prop) (s s' : Stmt) : Prop :=
  s' = s ∨ ∃ x x' e, s = .expr (some x) e ∧ s' = .expr (some x') e ∧ ¬ U x ∧ ¬ U x'

def RenBody (U : Name → Prop) (P P' : List Stmt) : Prop :=
  ∀ i : Nat, (P[i]? = none ∧ P'[i]? = none) ∨ ∃ s s', P[i]? = some s ∧ P'[i]? = some s' ∧ StmtRen' U s s'

theorem RenBody.refl (U : Name → Prop) (P : List Stmt) : RenBody U P P := by
  intro i
  cases h : P[i]? with
  | none => exact Or.inl ⟨rfl, rfl⟩
  | some s => exact Or.inr ⟨s, s, rfl, rfl, Or.inl rfl⟩

theorem RenBody.label_iff {U : Name → Prop} {P P' : List Stmt} (h : RenBody U P P') (lab : Name) (i : Nat) :
    P'[i]? = some (.label lab) ↔ P[i]? = some (.label lab) := by
  rcases h i with ⟨h1, h2⟩ | ⟨s, s', h1, h2, hr⟩
  · rw [h1, h2]
  · rw [h1, h2]
    rcases hr with rfl | ⟨x, x', e, rfl, rfl, _, _⟩
    · exact Iff.rfl
    · constructor <;> intro hc <;> cases hc

theorem RenBody.findLabel {U : Name → Prop} {P P' : List Stmt} (h : RenBody U P P') (lab : Name) :
    Machine.findLabel P' lab = Machine.findLabel P lab := by
  cases hF : Machine.findLabel P lab with
  | none =>
    rw [C08.unknown_label_iff] at hF ⊢
    intro s' hs'
    cases hb : Machine.isLabel lab s' with
    | false => rfl
    | true =>
      obtain ⟨i, hi⟩ := List.mem_iff_getElem?.1 hs'
      rw [(C08.isLabel_iff lab s').1 hb] at hi
      have := hF _ (List.mem_of_getElem? ((h.label_iff lab i).1 hi))
      rw [(C08.isLabel_iff lab _).2 rfl] at this
      cases this
  | some i =>
    rw [C08.findLabel_some_iff] at hF ⊢
    exact ⟨(h.label_iff lab i).2 hF.1, fun j hj hc => hF.2 j hj ((h.label_iff lab j).1 hc)⟩

theorem RenBody.renameStmts (U : Name → Prop) {v v' : Name} (hv : ¬ U v) (hv' : ¬ U v') (P : List Stmt) :
    RenBody U P (LintEdit.renameStmts v v' P) := by
  intro i
  unfold LintEdit.renameStmts
  rw [List.getElem?_map]
  cases h : P[i]? with
  | none => exact Or.inl ⟨rfl, rfl⟩
  | some s =>
    refine Or.inr ⟨s, renameStmt v v' s, rfl, rfl, ?_⟩
    cases s with
    | expr name e =>
      cases name with
      | none => exact Or.inl rfl
      | some n =>
        by_cases hn : n = v
        · subst hn
          exact Or.inr ⟨n, v', e, rfl, by simp [renameStmt], hv, hv'⟩
        · exact Or.inl (by simp [renameStmt, hn])
    | _ => exact Or.inl rfl

/-- parameter lists that differ only in names outside `U` -/
inductive ArgsRen (U : Name → Prop) : List Name → List Name → Prop
  | nil : ArgsRen U [] []
  | cons {a a' : Name} {as as' : List Name} : (a' = a ∨ (¬ U a ∧ ¬ U a')) → ArgsRen U as as' → ArgsRen U (a :: as) (a' :: as')

theorem ArgsRen.refl (U : Name → Prop) : ∀ as : List Name, ArgsRen U as as
  | [] => .nil
  | _ :: as => .cons (Or.inl rfl) (ArgsRen.refl U as)

theorem ArgsRen.renameArgs (U : Name → Prop) {a a' : Name} (ha : ¬ U a) (ha' : ¬ U a') :
    ∀ as : List Name, ArgsRen U as (LintEdit.renameArgs a a' as)
  | [] => .nil
  | x :: as => by
    unfold LintEdit.renameArgs
    rw [List.map_cons]
    refine .cons ?_ (ArgsRen.renameArgs U ha ha' as)
    by_cases hx : x = a
    · subst hx; simp only [if_true]; exact Or.inr ⟨ha, ha'⟩
    · simp only [hx, if_false]; exact Or.inl trivial

theorem bindArgs_ren (host : Host W) (laa : Bool) {U : Name → Prop} {ps ps' : List Name} (h : ArgsRen U ps ps') :
    ∀ (as : List Value) (env env' : Env) (w : W), LocAgree U (some env) (some env') →
      LocAgree U (some (bindArgs host laa ps as env w).1) (some (bindArgs host laa ps' as env' w).1) ∧
      (bindArgs host laa ps' as env' w).2 = (bindArgs host laa ps as env w).2 := by
  induction h with
  | nil => intro as env env' w he; exact ⟨he, rfl⟩
  | @cons a a' t t' ha ht ih =>
    intro as env env' w he
    cases ht with
    | nil =>
      simp only [bindArgs]
      cases laa with
      | true => exact ⟨he.set_ren ha _, rfl⟩
      | false => exact ⟨he.set_ren ha _, rfl⟩
    | @cons q q' r r' hq hr =>
      simp only [bindArgs]
      exact ih as.tail _ _ w (he.set_ren ha _)

end C18
