import BareProofs.C01Lower

/-!
# Helper definitions and lemmas for `C01.parseLines_render` (T1)

The hypotheses of T1 as decidable recursive predicates (`WellNested`, `FidsInOrder`, `NoAdjacentIncludes`).  A parser state is
written `upd s cur (sc ++ below) i n`: a frame `s` (which function is open, the other statement list), the current statement
list, the `label_defs` stack split at the function floor (`below.length = s.floor`), the counter and `nextFid`.  `markCont`, the
effect of a block on the stack (`hasContinue` of the innermost loop); one equation per `stepLine` branch on a state of that form;
`ExactS / ExactB / ExactE`, what T1 says of the statement list after a block.
-/

namespace C01
open Lower

mutual
/-- `inLoop`: inside a `while`/`for` of the same function; `inFunc`: inside a function body -/
def wnS (inLoop inFunc : Bool) : SStmt → Bool
  | .brk => inLoop
  | .cont => inLoop
  | .ite _ t e => wnB inLoop inFunc t && wnE inLoop inFunc e
  | .while _ b => wnB true inFunc b
  | .for _ _ _ b => wnB true inFunc b
  | .func _ _ _ _ _ b => !inFunc && wnB false true b
  | _ => true
def wnB (inLoop inFunc : Bool) : List SStmt → Bool
  | [] => true
  | s :: ss => wnS inLoop inFunc s && wnB inLoop inFunc ss
def wnE (inLoop inFunc : Bool) : SElse → Bool
  | .none => true
  | .els b => wnB inLoop inFunc b
  | .elif _ t e => wnB inLoop inFunc t && wnE inLoop inFunc e
end

/-- every `break`/`continue` lies inside a loop of the same function; no function definition inside a function body -/
def WellNested (B : List SStmt) : Prop := wnB false false B = true
instance (B : List SStmt) : Decidable (WellNested B) := by unfold WellNested; exact inferInstance

mutual
/-- number of function definitions -/
def nfS : SStmt → Nat
  | .ite _ t e => nfB t + nfE e
  | .while _ b => nfB b
  | .for _ _ _ b => nfB b
  | .func _ _ _ _ _ b => 1 + nfB b
  | _ => 0
def nfB : List SStmt → Nat
  | [] => 0
  | s :: ss => nfS s + nfB ss
def nfE : SElse → Nat
  | .none => 0
  | .els b => nfB b
  | .elif _ t e => nfB t + nfE e
end

mutual
/-- the `fid` fields are `n, n+1, …` in source (pre-)order -/
def fidsS (n : Nat) : SStmt → Bool
  | .ite _ t e => fidsB n t && fidsE (n + nfB t) e
  | .while _ b => fidsB n b
  | .for _ _ _ b => fidsB n b
  | .func fid _ _ _ _ b => fid == n && fidsB (n+1) b
  | _ => true
def fidsB (n : Nat) : List SStmt → Bool
  | [] => true
  | s :: ss => fidsS n s && fidsB (n + nfS s) ss
def fidsE (n : Nat) : SElse → Bool
  | .none => true
  | .els b => fidsB n b
  | .elif _ t e => fidsB n t && fidsE (n + nfB t) e
end

/-- the function definitions carry the identifiers 0, 1, 2, … in source order -/
def FidsInOrder (B : List SStmt) : Prop := fidsB 0 B = true
instance (B : List SStmt) : Decidable (FidsInOrder B) := by unfold FidsInOrder; exact inferInstance

def isInc : SStmt → Bool
  | .include _ => true
  | _ => false

def startsInc : List SStmt → Bool
  | s :: _ => isInc s
  | [] => false

mutual
/-- include statements are non-empty and no two of them are adjacent in one block -/
def incS : SStmt → Bool
  | .include incs => !incs.isEmpty
  | .ite _ t e => incB t && incE e
  | .while _ b => incB b
  | .for _ _ _ b => incB b
  | .func _ _ _ _ _ b => incB b
  | _ => true
def incB : List SStmt → Bool
  | [] => true
  | s :: ss => incS s && !(isInc s && startsInc ss) && incB ss
def incE : SElse → Bool
  | .none => true
  | .els b => incB b
  | .elif _ t e => incB t && incE e
end

/-- every `include` node has at least one entry and no two `include` nodes are adjacent in a block (the parser merges
consecutive include lines into one statement, so such a program is not in the image of "un-rendering") -/
def NoAdjacentIncludes (B : List SStmt) : Prop := incB B = true
instance (B : List SStmt) : Decidable (NoAdjacentIncludes B) := by unfold NoAdjacentIncludes; exact inferInstance

/-- the state `s` with the current statement list, `defs`, `idx`, `nextFid` replaced -/
def upd (s : PState) (c : List Stmt) (d : List LabelDef) (i n : Nat) : PState :=
  { (s.setCur c) with defs := d, idx := i, nextFid := n }

@[simp] theorem upd_cur (s c d i n) : (upd s c d i n).cur = c := by
  cases s with | mk st f ds ix nf => cases f <;> rfl
@[simp] theorem upd_defs (s c d i n) : (upd s c d i n).defs = d := rfl
@[simp] theorem upd_idx (s c d i n) : (upd s c d i n).idx = i := rfl
@[simp] theorem upd_nextFid (s c d i n) : (upd s c d i n).nextFid = n := rfl
@[simp] theorem upd_floor (s c d i n) : (upd s c d i n).floor = s.floor := by
  cases s with | mk st f ds ix nf => cases f <;> rfl
@[simp] theorem upd_upd (s c d i n c' d' i' n') : upd (upd s c d i n) c' d' i' n' = upd s c' d' i' n' := by
  cases s with | mk st f ds ix nf => cases f <;> rfl
theorem upd_self (s : PState) : upd s s.cur s.defs s.idx s.nextFid = s := by
  cases s with | mk st f ds ix nf => cases f <;> rfl
theorem upd_func_isSome (s c d i n) : (upd s c d i n).func.isSome = s.func.isSome := by
  cases s with | mk st f ds ix nf => cases f <;> rfl
theorem emit_eq_upd (s : PState) (l : List Stmt) : s.emit l = upd s (s.cur ++ l) s.defs s.idx s.nextFid := by
  cases s with | mk st f ds ix nf => cases f <;> rfl
theorem setCur_eq_upd (s : PState) (l : List Stmt) : s.setCur l = upd s l s.defs s.idx s.nextFid := by
  cases s with | mk st f ds ix nf => cases f <;> rfl
theorem emit_upd (s : PState) (cur d i n) (l : List Stmt) :
    (upd s cur d i n).emit l = upd s (cur ++ l) d i n := by
  cases s with | mk st f ds ix nf => cases f <;> rfl
theorem emit_upd_with (s : PState) (cur d i n) (l : List Stmt) (d' : List LabelDef) (i' : Nat) :
    ({ (upd s cur d i n).emit l with defs := d', idx := i' } : PState) = upd s (cur ++ l) d' i' n := by
  cases s with | mk st f ds ix nf => cases f <;> rfl
theorem emit_upd_defs (s : PState) (cur d i n) (l : List Stmt) (d' : List LabelDef) :
    ({ (upd s cur d i n).emit l with defs := d' } : PState) = upd s (cur ++ l) d' i n := by
  cases s with | mk st f ds ix nf => cases f <;> rfl
theorem setCur_upd_defs (s : PState) (cur d i n) (c : List Stmt) (d' : List LabelDef) :
    ({ (upd s cur d i n).setCur c with defs := d' } : PState) = upd s c d' i n := by
  cases s with | mk st f ds ix nf => cases f <;> rfl
theorem upd_scope (s : PState) (cur sc below i n) (hfl : below.length = s.floor) :
    (upd s cur (sc ++ below) i n).scopeDefs = sc := by
  rw [PState.scopeDefs, upd_defs, upd_floor, ← hfl, List.length_append, Nat.add_sub_cancel, List.take_left']
  rfl

/-- (break label, continue label) of the innermost loop entry, skipping `if` entries -/
def loopOf (ds : List LabelDef) : Option (Name × Name) :=
  match findLoop ds with
  | some (_, .whileD loop done _, _) => some (done, loop)
  | some (_, .forD i _ _, _) => some (lDone i, lCont i)
  | _ => none

/-- set `hasContinue` (or-ed with `b`) in the innermost loop entry -/
def markCont (b : Bool) : List LabelDef → List LabelDef
  | [] => []
  | .ifD a l d h :: rest => .ifD a l d h :: markCont b rest
  | .forD i ix h :: rest => .forD i ix (h || b) :: rest
  | .whileD l d c :: rest => .whileD l d c :: rest

@[simp] theorem markCont_nil (b) : markCont b [] = [] := rfl
@[simp] theorem markCont_ifD (b a l d h rest) :
    markCont b (.ifD a l d h :: rest) = .ifD a l d h :: markCont b rest := rfl
@[simp] theorem markCont_forD (b i ix h rest) :
    markCont b (.forD i ix h :: rest) = .forD i ix (h || b) :: rest := rfl
@[simp] theorem markCont_whileD (b l d c rest) :
    markCont b (.whileD l d c :: rest) = .whileD l d c :: rest := rfl

@[simp] theorem markCont_false : ∀ ds, markCont false ds = ds
  | [] => rfl
  | .ifD .. :: rest => by simp [markCont_false rest]
  | .forD .. :: rest => by simp
  | .whileD .. :: rest => by simp

@[simp] theorem markCont_markCont (a b) : ∀ ds, markCont b (markCont a ds) = markCont (a || b) ds
  | [] => rfl
  | .ifD .. :: rest => by simp [markCont_markCont a b rest]
  | .forD .. :: rest => by simp [Bool.or_assoc]
  | .whileD .. :: rest => by simp

@[simp] theorem loopOf_ifD (a l d h rest) : loopOf (.ifD a l d h :: rest) = loopOf rest := by
  simp only [loopOf, findLoop]
  cases findLoop rest with
  | none => rfl
  | some x => obtain ⟨p, l, q⟩ := x; cases l <;> rfl

@[simp] theorem loopOf_whileD (l d c rest) : loopOf (.whileD l d c :: rest) = some (d, l) := rfl
@[simp] theorem loopOf_forD (i ix h rest) : loopOf (.forD i ix h :: rest) = some (lDone i, lCont i) := rfl
@[simp] theorem loopOf_nil : loopOf [] = none := rfl

@[simp] theorem loopOf_markCont (b) : ∀ ds, loopOf (markCont b ds) = loopOf ds
  | [] => rfl
  | .ifD .. :: rest => by simp [loopOf_markCont b rest]
  | .forD .. :: rest => by simp
  | .whileD .. :: rest => by simp

/-- what `findLoop` returns, relative to `markCont` -/
theorem findLoop_spec : ∀ (ds : List LabelDef) {pre l post}, findLoop ds = some (pre, l, post) →
    ds = pre ++ l :: post ∧
    (match l with
     | .ifD .. => False
     | .whileD .. => markCont true ds = ds
     | .forD i ix _ => markCont true ds = pre ++ .forD i ix true :: post)
  | [], _, _, _, h => by simp [findLoop] at h
  | .whileD .. :: rest, _, _, _, h => by
      simp [findLoop] at h; obtain ⟨rfl, rfl, rfl⟩ := h; simp
  | .forD .. :: rest, _, _, _, h => by
      simp [findLoop] at h; obtain ⟨rfl, rfl, rfl⟩ := h; simp
  | .ifD a l d hh :: rest, pre, lp, post, h => by
      simp only [findLoop, Option.map_eq_some_iff] at h
      obtain ⟨⟨p, l', q⟩, h1, h2⟩ := h
      simp at h2
      obtain ⟨rfl, rfl, rfl⟩ := h2
      have ih := findLoop_spec rest h1
      refine ⟨by simp [← ih.1], ?_⟩
      cases l' with
      | ifD => exact ih.2
      | whileD => simpa using ih.2
      | forD => simpa using ih.2

theorem pl_cons {s s' : PState} {l : Line} (ls : List Line) (h : stepLine s l = .ok s') :
    parseLinesFrom s (l :: ls) = parseLinesFrom s' ls := by
  rw [parseLinesFrom, h]

theorem step_assign (s : PState) (cur d i n x e) :
    stepLine (upd s cur d i n) (.assign x e) = .ok (upd s (cur ++ [.expr (some x) e]) d i n) :=
  congrArg Except.ok (emit_upd ..)
theorem step_exprStmt (s : PState) (cur d i n e) :
    stepLine (upd s cur d i n) (.exprStmt e) = .ok (upd s (cur ++ [.expr none e]) d i n) :=
  congrArg Except.ok (emit_upd ..)
theorem step_labelLine (s : PState) (cur d i n l) :
    stepLine (upd s cur d i n) (.label l) = .ok (upd s (cur ++ [.label l]) d i n) :=
  congrArg Except.ok (emit_upd ..)
theorem step_jumpLine (s : PState) (cur d i n l c) :
    stepLine (upd s cur d i n) (.jump l c) = .ok (upd s (cur ++ [.jump l c]) d i n) :=
  congrArg Except.ok (emit_upd ..)
theorem step_ret (s : PState) (cur d i n e) :
    stepLine (upd s cur d i n) (.ret e) = .ok (upd s (cur ++ [.ret e]) d i n) :=
  congrArg Except.ok (emit_upd ..)

theorem step_ifBegin (s : PState) (cur d i n c) :
    stepLine (upd s cur d i n) (.ifBegin c) =
      .ok (upd s (cur ++ [.jump (lIf i) (some (notE c))]) (.ifD cur.length (lIf i) (lDone i) false :: d) (i + 1) n) :=
  (congrArg Except.ok (emit_upd_with ..)).trans (by rw [upd_cur]; rfl)

theorem step_whileBegin (s : PState) (cur d i n c) :
    stepLine (upd s cur d i n) (.whileBegin c) =
      .ok (upd s (cur ++ [.jump (lDone i) (some (notE c)), .label (lLoop i)]) (.whileD (lLoop i) (lDone i) c :: d) (i + 1) n) :=
  congrArg Except.ok (emit_upd_with ..)

theorem step_forBegin (s : PState) (cur d i n v ix vals) :
    stepLine (upd s cur d i n) (.forBegin v ix vals) =
      .ok (upd s (cur ++ forHeader i v (ix.getD (vIndex i)) vals) (.forD i (ix.getD (vIndex i)) false :: d) (i + 1) n) :=
  congrArg Except.ok (emit_upd_with ..)

section
variable (s : PState) (cur : List Stmt) (sc below : List LabelDef) (i n : Nat) (hfl : below.length = s.floor)
include hfl

theorem step_endwhile (loop done c) :
    stepLine (upd s cur (.whileD loop done c :: sc ++ below) i n) .endwhile =
      .ok (upd s (cur ++ [.jump loop (some c), .label done]) (sc ++ below) i n) := by
  rw [stepLine, upd_scope s cur (_ :: sc) below i n hfl]; exact congrArg Except.ok (emit_upd_defs ..)

theorem step_endfor (j ixv hc) :
    stepLine (upd s cur (.forD j ixv hc :: sc ++ below) i n) .endfor =
      .ok (upd s (cur ++ forFooter j ixv hc) (sc ++ below) i n) := by
  rw [stepLine, upd_scope s cur (_ :: sc) below i n hfl]; exact congrArg Except.ok (emit_upd_defs ..)

theorem step_endif (at_ l done he) :
    stepLine (upd s cur (.ifD at_ l done he :: sc ++ below) i n) .endif =
      .ok (upd s ((if he then cur else retarget cur at_ done) ++ [.label done]) (sc ++ below) i n) := by
  rw [stepLine, upd_scope s cur (_ :: sc) below i n hfl, upd_cur]; exact congrArg Except.ok (setCur_upd_defs ..)

theorem step_else (at_ l done) :
    stepLine (upd s cur (.ifD at_ l done false :: sc ++ below) i n) .else_ =
      .ok (upd s (cur ++ [.jump done none, .label l]) (.ifD at_ l done true :: sc ++ below) i n) := by
  rw [stepLine, upd_scope s cur (_ :: sc) below i n hfl]; exact congrArg Except.ok (emit_upd_defs ..)

theorem step_elif (at_ l done c) :
    stepLine (upd s cur (.ifD at_ l done false :: sc ++ below) i n) (.elif c) =
      .ok (upd s (cur ++ [.jump done none, .label l, .jump (lIf i) (some (notE c))])
        (.ifD (cur.length + 2) (lIf i) done false :: sc ++ below) (i + 1) n) := by
  rw [stepLine, upd_scope s cur (_ :: sc) below i n hfl, upd_cur]; exact congrArg Except.ok (emit_upd_with ..)

theorem step_break :
    stepLine (upd s cur (sc ++ below) i n) .break_ = match loopOf sc with
      | some (bl, _) => .ok (upd s (cur ++ [.jump bl none]) (sc ++ below) i n)
      | none => .error .breakOutside := by
  rw [stepLine, upd_scope s cur sc below i n hfl, loopOf]
  cases findLoop sc with
  | none => rfl
  | some x =>
    obtain ⟨pre, l, post⟩ := x
    cases l with
    | ifD => rfl
    | whileD loop done c => exact congrArg Except.ok (emit_upd ..)
    | forD j ix hc => exact congrArg Except.ok (emit_upd ..)

theorem step_continue :
    stepLine (upd s cur (sc ++ below) i n) .continue_ = match loopOf sc with
      | some (_, cl) => .ok (upd s (cur ++ [.jump cl none]) (markCont true sc ++ below) i n)
      | none => .error .continueOutside := by
  rw [stepLine, upd_scope s cur sc below i n hfl, loopOf]
  cases hf : findLoop sc with
  | none => rfl
  | some x =>
    obtain ⟨pre, l, post⟩ := x
    have hsp := findLoop_spec sc hf
    cases l with
    | ifD => rfl
    | whileD loop done c =>
      have h2 : markCont true sc = sc := hsp.2
      rw [h2]; exact congrArg Except.ok (emit_upd ..)
    | forD j ix hc =>
      have h2 : markCont true sc = pre ++ .forD j ix true :: post := hsp.2
      refine (congrArg Except.ok (emit_upd_defs ..)).trans ?_
      have h3 : (pre ++ .forD j ix hc :: post ++ below).drop (pre.length + 1) = post ++ below := by
        rw [List.append_assoc, List.drop_length_add_append]; rfl
      rw [h2, upd_defs, hsp.1, h3, List.append_assoc, List.append_assoc]; rfl

end

theorem retarget_mid (pre mid : List Stmt) (l l' : Name) (c : Option Expr) (at_ : Nat) (h : at_ = pre.length) :
    retarget (pre ++ .jump l c :: mid) at_ l' = pre ++ .jump l' c :: mid := by
  subst h; simp [retarget]

def endsInc (l : List Stmt) : Bool :=
  match l.getLast? with
  | some (.include _) => true
  | _ => false

@[simp] theorem endsInc_nil : endsInc [] = false := rfl

theorem endsInc_append_of_last (a b : List Stmt) (x : Stmt) (h : b.getLast? = some x)
    (hx : ∀ incs, x ≠ .include incs) : endsInc (a ++ b) = false := by
  have : (a ++ b).getLast? = some x := by
    simp [List.getLast?_append, h]
  unfold endsInc; rw [this]
  cases x <;> simp_all

/-- the statement list after a block is the lowering, for programs in normal form.  (Not beside `runsS` in `C01Parse`: in one
module with `stepE`, Lean would reuse the matcher of `ExactE` for the `match` in `stepE`'s statement, which is stated without them.) -/
abbrev ExactS (cur : List Stmt) (sc : List LabelDef) (i n : Nat) (s : SStmt) (c : List Stmt) : Prop :=
  fidsS n s = true → incS s = true → (isInc s = true → endsInc cur = false) → c = cur ++ (lowerS (loopOf sc) s i).1

abbrev ExactB (cur : List Stmt) (sc : List LabelDef) (i n : Nat) (B : List SStmt) (c : List Stmt) : Prop :=
  fidsB n B = true → incB B = true → (startsInc B = true → endsInc cur = false) → c = cur ++ (lowerB (loopOf sc) B i).1

abbrev ExactE (cur : List Stmt) (sc : List LabelDef) (i n : Nat) (at_ : Nat) (curL done : Name) (e : SElse) (c : List Stmt) :
    Prop :=
  ∀ (pre mid : List Stmt) (c0 : Option Expr), at_ = pre.length → cur = pre ++ .jump curL c0 :: mid →
    fidsE n e = true → incE e = true →
    c = pre ++ .jump (match e with | .none => done | _ => curL) c0 :: mid ++ (lowerElse (loopOf sc) curL done e i).1

end C01
