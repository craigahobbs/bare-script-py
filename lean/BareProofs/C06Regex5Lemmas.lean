import BareProofs.C06Regex4Lemmas

/-!
# C06Regex5Lemmas — `_R_SCRIPT_FUNCTION_ARG_SPLIT.split(args)` = the identifiers `Scan.argsLoop` collects; reading of the
`function` groups
-/

namespace C06Regex
open Rx Text Scan RxPatterns

/-! ## the text consumed by `argsLoop` -/

/-- the text `(?:\s*,\s*ident)*` consumes = what `argsLoop` skips -/
def argsText : Nat → Chars → Chars
  | 0, _ => []
  | n + 1, r =>
    match lstripL r with
    | x :: r1 =>
      if x = ',' then
        match ident? (lstripL r1) with
        | some (a, r2) => r.takeWhile isSpace ++ ',' :: (r1.takeWhile isSpace ++ a ++ argsText n r2)
        | none => []
      else []
    | [] => []

/-- one round of `argsLoop` and of the text it skips: the end, or a further `, ident` -/
theorem args_round (n : Nat) (r : Chars) :
    (argsText (n + 1) r = [] ∧ argsLoop (n + 1) r = ([], r)) ∨
    ∃ r1 a r2, lstripL r = ',' :: r1 ∧ ident? (lstripL r1) = some (a, r2) ∧
      argsText (n + 1) r = r.takeWhile isSpace ++ ',' :: (r1.takeWhile isSpace ++ a ++ argsText n r2) ∧
      argsLoop (n + 1) r = (a :: (argsLoop n r2).1, (argsLoop n r2).2) := by
  have stop : (∀ r1, lstripL r ≠ ',' :: r1) → argsText (n + 1) r = [] ∧ argsLoop (n + 1) r = ([], r) := by
    intro h1
    refine ⟨?_, argsLoop_succ_nocomma n r h1⟩
    rw [argsText]
    cases hl : lstripL r with
    | nil => rfl
    | cons x r1 => simp [show ¬ x = ',' from fun e => h1 r1 (by rw [hl, e])]
  cases hl : lstripL r with
  | nil => exact .inl (stop fun r1 e => by rw [hl] at e; cases e)
  | cons x r1 =>
    by_cases hx : x = ','
    · subst hx
      cases hi : ident? (lstripL r1) with
      | none => exact .inl ⟨by simp [argsText, hl, hi], argsLoop_succ_noident n r r1 hl hi⟩
      | some ar => exact .inr ⟨r1, ar.1, ar.2, rfl, hi, by simp [argsText, hl, hi], argsLoop_succ_some n r r1 _ _ hl hi⟩
    · exact .inl (stop fun r1' e => by rw [hl] at e; exact hx (List.cons.inj e).1)

theorem argsText_spec : ∀ (n : Nat) (r : Chars), r = argsText n r ++ (argsLoop n r).2
  | 0, r => rfl
  | n + 1, r => by
    rcases args_round n r with ⟨e1, e2⟩ | ⟨r1, a, r2, hl, hi, e1, e2⟩
    · rw [e1, e2]; rfl
    · have h1 := (List.takeWhile_append_dropWhile (p := isSpace) (l := r)).symm
      rw [show r.dropWhile isSpace = ',' :: r1 from hl] at h1
      have h2 := (List.takeWhile_append_dropWhile (p := isSpace) (l := r1)).symm
      rw [show r1.dropWhile isSpace = a ++ r2 from C10.ident?_decomp hi] at h2
      rw [e1, e2]
      simp only [List.append_assoc, List.cons_append]
      rw [← argsText_spec n r2, ← h2, ← h1]

theorem take_argsText (n : Nat) (r : Chars) : r.take (r.length - (argsLoop n r).2.length) = argsText n r := by
  have e := argsText_spec n r
  have hl := congrArg List.length e
  simp only [List.length_append] at hl
  rw [show r.length - (argsLoop n r).2.length = (argsText n r).length from by omega]
  conv => lhs; arg 2; rw [e]
  simp

/-! ## `\s*,\s*` at one position, and `split` -/

theorem argSplit_match (s : Chars) :
    matchFrom functionArgSplit 0 s = match lstripL s with
      | x :: r1 =>
        if x = ',' then some ⟨0 + (s.takeWhile isSpace).length + 1 + (r1.takeWhile isSpace).length, lstripL r1, []⟩ else none
      | [] => none := by
  unfold matchFrom functionArgSplit lit
  rw [ws_lit_det false ',' (by decide)]
  cases lstripL s with
  | nil => rfl
  | cons x r1 =>
    by_cases hx : x = ','
    · simp only [hx, if_true]
      simp only [ws, sp]
      rw [star_atom_backoff, backoff_some _ _ _ _ rfl, adv_takeWhile]
      simp [skip, space_test, lstripL]
    · simp [hx]

theorem splitAux_nil (r : Rx) (fuel : Nat) (cur : Chars) : splitAux r fuel cur [] = [cur.reverse] := by
  cases fuel <;> simp [splitAux]

/-- scanning over word characters: no separator starts there -/
theorem splitAux_word : ∀ (w : Chars) (fuel : Nat) (cur X : Chars), (∀ x ∈ w, isWord x = true) → w.length ≤ fuel →
    splitAux functionArgSplit fuel cur (w ++ X) = splitAux functionArgSplit (fuel - w.length) (w.reverse ++ cur) X
  | [], fuel, cur, X, _, _ => by simp
  | c :: w, 0, cur, X, _, h => by simp at h
  | c :: w, fuel + 1, cur, X, hw, h => by
    have hc : isWord c = true := hw c (by simp)
    have hs : isSpace c = false := C10.word_not_space hc
    have hne : ¬ c = ',' := fun e => by rw [e] at hc; exact absurd hc (by decide)
    rw [List.cons_append, splitAux, argSplit_match]
    simp only [lstripL, List.dropWhile_cons, hs, Bool.false_eq_true, if_false, hne]
    rw [splitAux_word w fuel (c :: cur) X (fun x hx => hw x (List.mem_cons_of_mem _ hx)) (by simpa using h)]
    simp

theorem lstrip_tw_cons (r : Chars) (x : Char) (X : Chars) (hx : isSpace x = false) :
    lstripL (r.takeWhile isSpace ++ x :: X) = x :: X ∧ (r.takeWhile isSpace ++ x :: X).takeWhile isSpace = r.takeWhile isSpace := by
  constructor
  · simp only [lstripL]
    rw [List.dropWhile_append_of_pos (fun a ha => TextRun.mem_takeWhile ha)]
    simp [hx]
  · rw [List.takeWhile_append_of_pos (fun a ha => TextRun.mem_takeWhile ha)]
    simp [hx]

/-- **`_R_SCRIPT_FUNCTION_ARG_SPLIT.split` of `ident(?:\s*,\s*ident)*` = the identifiers** -/
theorem splitAux_args : ∀ (n : Nat) (r : Chars) (fuel : Nat) (cur w : Chars), (∀ x ∈ w, isWord x = true) →
    (w ++ argsText n r).length ≤ fuel →
    splitAux functionArgSplit fuel cur (w ++ argsText n r) = (cur.reverse ++ w) :: (argsLoop n r).1
  | 0, r, fuel, cur, w, hw, hf => by
    have hf' : w.length ≤ fuel := by simpa [argsText] using hf
    simp only [argsText, argsLoop_zero]
    rw [splitAux_word w fuel cur [] hw hf', splitAux_nil]
    simp
  | n + 1, r, fuel, cur, w, hw, hf => by
    rcases args_round n r with ⟨e1, e2⟩ | ⟨r1, a, r2, hl, hi, e1, e2⟩
    · rw [e1] at hf ⊢
      rw [e2, splitAux_word w fuel cur [] hw (by simpa using hf), splitAux_nil]
      simp
    · have ha := ident?_word hi
      rw [e1] at hf ⊢
      rw [e2]
      simp only [List.length_append, List.length_cons] at hf
      rw [splitAux_word w fuel cur _ hw (by omega)]
      -- the separator: blanks, the comma, blanks, in front of the first character of the next identifier
      obtain ⟨hs1, hs2⟩ := lstrip_tw_cons r ',' (r1.takeWhile isSpace ++ a ++ argsText n r2) (by decide)
      obtain ⟨a0, a', rfl⟩ : ∃ a0 a', a = a0 :: a' := by
        cases hlr : lstripL r1 with
        | nil => rw [hlr] at hi; cases hi
        | cons c cs =>
          rw [hlr, ident?] at hi
          split at hi
          · exact ⟨c, _, (Prod.mk.inj (Option.some.inj hi)).1.symm⟩
          · cases hi
      have ha0 : isSpace a0 = false := C10.word_not_space (ha a0 (by simp))
      have hs3 := lstrip_tw_cons r1 a0 (a' ++ argsText n r2) ha0
      obtain ⟨f', hf'⟩ : ∃ f', fuel - w.length = f' + 1 := ⟨fuel - w.length - 1, by omega⟩
      rw [hf']
      have hsne : r.takeWhile isSpace ++ ',' :: (r1.takeWhile isSpace ++ (a0 :: a') ++ argsText n r2) ≠ [] := by simp
      obtain ⟨c0, t0, e0⟩ := List.exists_cons_of_ne_nil hsne
      rw [e0, splitAux, ← e0, argSplit_match, hs1, hs2]
      simp only [if_true]
      rw [show r1.takeWhile isSpace ++ (a0 :: a') ++ argsText n r2 = r1.takeWhile isSpace ++ a0 :: (a' ++ argsText n r2) from by simp]
      rw [hs3.1, hs3.2]
      simp only [show ¬ (0 + (r.takeWhile isSpace).length + 1 + (r1.takeWhile isSpace).length = 0) from by omega, if_false]
      rw [show a0 :: (a' ++ argsText n r2) = (a0 :: a') ++ argsText n r2 from rfl,
        splitAux_args n r2 f' [] (a0 :: a') ha (by simp only [List.length_append, List.length_cons] at hf ⊢; omega)]
      simp

theorem split_args (a r6 : Chars) (ha : ∀ x ∈ a, isWord x = true) :
    split functionArgSplit (a ++ argsText r6.length r6) = a :: (argsLoop r6.length r6).1 := by
  unfold split
  rw [splitAux_args r6.length r6 _ [] a ha (Nat.le_refl _)]
  simp

/-! ## the tail of a function line behind `(` and its blanks, as data -/

/-- the scanner's reading of `args? lastArgArray? ) :` (the text is `Scan.funcBegin?`'s, with `closeOK` for the last two
matches) -/
def funcTail (name : Chars) (isAsync : Bool) (r5 : Chars) : Option Shape :=
  let ar : List Chars × Chars := match ident? r5 with
    | some (a, r6) => (a :: (argsLoop r6.length r6).1, (argsLoop r6.length r6).2)
    | none => ([], r5)
  let lr : Bool × Chars := match keyword? "..." (lstripL ar.2) with
    | some r8 => (true, r8)
    | none => (false, ar.2)
  if closeOK lr.2 then some (.funcBegin name ar.1 lr.1 isAsync) else none

/-- what parser.py reads from a match of `_R_SCRIPT_FUNCTION_BEGIN` -/
def funcReader (line : Chars) (st : St) : Option Shape :=
  (st.group line 2).map fun name =>
    Shape.funcBegin name (match st.group line 3 with | some a => split functionArgSplit a | none => [])
      (st.span 4).isSome (st.span 1).isSome

theorem funcReader_eval (line name : Chars) (isAsync : Bool) (p : Nat) (caps : List (Nat × Nat × Nat))
    (h2 : (caps.lookup 2).map (slice line) = some name) (h1 : (caps.lookup 1).isSome = isAsync) :
    funcReader line ⟨p, [], caps⟩ =
      some (.funcBegin name (match (caps.lookup 3).map (slice line) with | some a => split functionArgSplit a | none => [])
        (caps.lookup 4).isSome isAsync) := by
  simp only [funcReader, St.group, St.span, h2, h1, Option.map_some]

theorem K5_read (line name : Chars) (isAsync : Bool) (p : Nat) (rest : Chars) (caps : List (Nat × Nat × Nat))
    (hnl : '\n' ∉ rest) (h2 : (caps.lookup 2).map (slice line) = some name) (h1 : (caps.lookup 1).isSome = isAsync)
    (h4 : caps.lookup 4 = none) :
    (K5rx.m ⟨p, rest, caps⟩ some).bind (funcReader line) =
      (match keyword? "..." (lstripL rest) with
        | some r8 => if closeOK r8 then some true else none
        | none => if closeOK rest then some false else none).map fun laa =>
          .funcBegin name (match (caps.lookup 3).map (slice line) with | some a => split functionArgSplit a | none => []) laa isAsync := by
  rw [K5_eval _ _ _ hnl]
  cases keyword? "..." (lstripL rest) with
  | none =>
    simp only []
    by_cases hc : closeOK rest = true
    · simp only [hc, if_true, Option.bind_some, Option.map_some]
      rw [funcReader_eval line name isAsync _ _ h2 h1, h4]; rfl
    · simp [hc]
  | some r8 =>
    simp only []
    by_cases hc : closeOK r8 = true
    · simp only [hc, if_true, Option.bind_some, Option.map_some]
      rw [funcReader_eval line name isAsync _ _ (by simp only [List.lookup]; exact h2) (by simp only [List.lookup]; exact h1)]
      rfl
    · simp [hc]

theorem func_read (line name : Chars) (isAsync : Bool) (p5 : Nat) (r5 : Chars) (caps : List (Nat × Nat × Nat))
    (hd : line.drop p5 = r5) (hnl : '\n' ∉ r5)
    (h2 : (caps.lookup 2).map (slice line) = some name) (h1 : (caps.lookup 1).isSome = isAsync)
    (h3 : caps.lookup 3 = none) (h4 : caps.lookup 4 = none) :
    ((Rx.opt (.cap 3 (some "args") (ident ⬝ .star argIter)) ⬝ K5rx).m ⟨p5, r5, caps⟩ some).bind (funcReader line) =
      funcTail name isAsync r5 := by
  rw [K4_eval]
  unfold funcTail
  cases hi : ident? r5 with
  | none =>
    simp only []
    rw [K5_read line name isAsync _ _ _ hnl h2 h1 h4, h3]
    cases keyword? "..." (lstripL r5) with
    | none => simp only []; cases closeOK r5 <;> rfl
    | some r8 => simp only []; cases closeOK r8 <;> rfl
  | some ar =>
    obtain ⟨a, r6⟩ := ar
    have hsp := C10.ident?_decomp hi
    have hla := congrArg List.length hsp
    simp only [List.length_append] at hla
    have hspec := argsText_spec r6.length r6
    have hl7 := congrArg List.length hspec
    simp only [List.length_append] at hl7
    have hn6 : '\n' ∉ r6 := fun hm => hnl (by rw [hsp]; exact List.mem_append_right _ hm)
    have hn7 : '\n' ∉ (argsLoop r6.length r6).2 := fun hm => hn6 (by rw [hspec]; exact List.mem_append_right _ hm)
    have hg3 : slice line (p5, p5 + r5.length - (argsLoop r6.length r6).2.length) = a ++ argsText r6.length r6 := by
      rw [show p5 + r5.length - (argsLoop r6.length r6).2.length = p5 + (a ++ argsText r6.length r6).length from by
        simp only [List.length_append]; omega]
      exact slice_prefix line p5 _ _ (argsLoop r6.length r6).2 (by rw [hd, hsp, List.append_assoc, ← hspec]) rfl
    simp only []
    rw [K5_read line name isAsync _ _ _ hn7 (by simp only [List.lookup]; exact h2) (by simp only [List.lookup]; exact h1)
      (by simp only [List.lookup]; exact h4)]
    simp only [List.lookup, beq_self_eq_true, Option.map_some, hg3, split_args a r6 (ident?_word hi)]
    cases keyword? "..." (lstripL (argsLoop r6.length r6).2) with
    | none => simp only []; cases closeOK (argsLoop r6.length r6).2 <;> rfl
    | some r8 => simp only []; cases closeOK r8 <;> rfl

end C06Regex
