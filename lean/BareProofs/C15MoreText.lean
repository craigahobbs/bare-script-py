import BareModel.LibMore
import BareProofs.C14

/-!
# C15More — the JSON text of a container (`stringNew`, `arrayJoin` elements) is the C14 specification encoder

`LibMore.jsonText` runs the *mirror* encoder of C14 (`json.dumps` stage + the clean-up substitution) on the tree read back from the
heap.  `json_text_spec`: if the oracle's number texts are in the `repr` grammar and the objects of the heap have pairwise different
keys (every Python `dict` does), that text is the direct specification encoder `Json.specEncode` — sorted keys, `ensure_ascii`
escapes, integral numbers without fraction — so every C14 theorem (`json_roundtrip`, `keys_sorted`, `json_injective`) applies to
what `stringNew` returns.
-/

namespace C15More
open Lib LibMore

/-- the oracle's number texts are `repr`-shaped (assumption of the trusted base of C13/C14, here an explicit hypothesis on `T`) -/
def NumTextsOK (T : TextFns) : Prop := ∀ q s, T.num q = some s → Json.reprDec s.toList = true

/-- every object of the heap has pairwise different keys -/
def KeysUnique (h : Heap) : Prop := ∀ r kvs, getObj h r = some kvs → (kvs.map (·.1)).Nodup

theorem TRes.map_ok {α β} {f : α → β} {t : TRes α} {b : β} (h : t.map f = .ok b) : ∃ a, t = .ok a ∧ f a = b := by
  cases t <;> simp [TRes.map] at h
  exact ⟨_, rfl, h⟩

theorem mapT_cons_ok {α β} {f : α → TRes β} {x : α} {xs : List α} {ys : List β} (h : mapT f (x :: xs) = .ok ys) :
    ∃ y ys', f x = .ok y ∧ mapT f xs = .ok ys' ∧ ys = y :: ys' := by
  unfold mapT at h
  cases hx : f x <;> simp only [hx] at h <;> try cases h
  cases hr : mapT f xs <;> simp only [hr] at h <;> cases h
  exact ⟨_, _, rfl, rfl, rfl⟩

theorem mapKV_cons_ok {β} {f : Value → TRes β} {k : String} {v : Value} {kvs : List (String × Value)} {ps : List (Json.Str × β)}
    (h : mapKV f ((k, v) :: kvs) = .ok ps) :
    ∃ y ps', f v = .ok y ∧ mapKV f kvs = .ok ps' ∧ ps = (k.toList, y) :: ps' := by
  unfold mapKV at h
  cases hx : f v <;> simp only [hx] at h <;> try cases h
  cases hr : mapKV f kvs <;> simp only [hr] at h <;> cases h
  exact ⟨_, _, rfl, rfl, rfl⟩

theorem mapT_wf {f : Value → TRes Json.JValue} : ∀ (xs : List Value) (js : List Json.JValue),
    (∀ x ∈ xs, ∀ j, f x = .ok j → Json.WF j) → mapT f xs = .ok js → Json.WFList js
  | [], js, _, h => by cases h; trivial
  | x :: xs, js, hf, h => by
    obtain ⟨y, ys, hy, hys, rfl⟩ := mapT_cons_ok h
    exact ⟨hf x (by simp) y hy, mapT_wf xs ys (fun z hz => hf z (by simp [hz])) hys⟩

theorem mapKV_wf {f : Value → TRes Json.JValue} : ∀ (kvs : List (String × Value)) (ps : List (Json.Str × Json.JValue)),
    (∀ p ∈ kvs, ∀ j, f p.2 = .ok j → Json.WF j) → mapKV f kvs = .ok ps →
      Json.WFMembers ps ∧ ps.map Prod.fst = (kvs.map (·.1)).map String.toList
  | [], ps, _, h => by cases h; exact ⟨trivial, rfl⟩
  | (k, v) :: kvs, ps, hf, h => by
    obtain ⟨y, ps', hy, hps, rfl⟩ := mapKV_cons_ok h
    obtain ⟨h1, h2⟩ := mapKV_wf kvs ps' (fun z hz => hf z (by simp [hz])) hps
    exact ⟨⟨hf (k, v) (by simp) y hy, h1⟩, by simp [h2]⟩

/-- the tree read back from a heap with unique keys, with `repr`-shaped number texts, is well formed in the sense of C14 -/
theorem toJ_wf (T : TextFns) (hT : NumTextsOK T) (h : Heap) (hk : KeysUnique h) :
    ∀ (n : Nat) (v : Value) (j : Json.JValue), toJ T n h v = .ok j → Json.WF j
  | 0, _, _, hj => by simp [toJ] at hj
  | n + 1, v, j, hj => by
    unfold toJ at hj
    cases v with
    | null | bool _ | str _ | fn _ | regex _ => cases hj; simp [Json.WF]
    | num q =>
      simp only at hj
      split at hj
      · cases hj; simp [Json.WF]
      · obtain ⟨s, hs, rfl⟩ := TRes.map_ok hj
        cases hq : T.num q with
        | none => simp [hq, optT] at hs
        | some s' =>
          obtain rfl : s' = s := by simpa [hq, optT] using hs
          exact hT q s' hq
    | dt ms =>
      obtain ⟨s, _, rfl⟩ := TRes.map_ok hj
      simp [Json.WF]
    | arr r =>
      simp only at hj
      cases hx : getArr h r with
      | none => simp [hx] at hj
      | some xs =>
        simp only [hx] at hj
        obtain ⟨js, hjs, rfl⟩ := TRes.map_ok hj
        exact mapT_wf xs js (fun x _ j hxj => toJ_wf T hT h hk n x j hxj) hjs
    | obj r =>
      simp only at hj
      cases hx : getObj h r with
      | none => simp [hx] at hj
      | some kvs =>
        simp only [hx] at hj
        obtain ⟨ps, hps, rfl⟩ := TRes.map_ok hj
        obtain ⟨hwf, hkeys⟩ := mapKV_wf kvs ps (fun p _ j hpj => toJ_wf T hT h hk n p.2 j hpj) hps
        refine ⟨?_, hwf⟩
        rw [hkeys]
        exact List.Pairwise.map String.toList (fun a b hab hl => hab (String.toList_inj.mp hl)) (hk r kvs hx)

/-- **json_text_spec.** Under the two well-formedness hypotheses, the JSON text the extended model produces for any value
(`stringNew(container)`, a container element of `arrayJoin`) is the C14 *specification* encoding of the tree read back from the heap. -/
theorem json_text_spec (T : TextFns) (hT : NumTextsOK T) (h : Heap) (hk : KeysUnique h) (v : Value) (s : String)
    (hs : jsonText T h v = .ok s) :
    ∃ j, toJ T (h.length + 1) h v = .ok j ∧ Json.WF j ∧ s = String.ofList (Json.specEncode j 0) := by
  unfold jsonText at hs
  obtain ⟨j, hj, rfl⟩ := TRes.map_ok hs
  have hwf := toJ_wf T hT h hk _ v j hj
  exact ⟨j, hj, hwf, by rw [C14.cleanup_eq_spec j hwf 0]⟩

/-- non-vacuity: an oracle with a `repr`-shaped text, a heap with an object -/
example : NumTextsOK ⟨fun q => if q = mkRat 5 2 then some "2.5" else none, fun _ => none⟩ := by
  intro q s hs
  simp only at hs
  split at hs
  · simp only [Option.some.injEq] at hs; subst hs; decide
  · cases hs

/-- the text whose shape the theorem describes -/
example : jsonText ⟨fun q => if q = mkRat 5 2 then some "2.5" else none, fun _ => none⟩
    [.obj [("b", .num (mkRat 5 2)), ("a", .arr 1)], .arr []] (.obj 0) = .ok "{\"a\":[],\"b\":2.5}" := by rfl

example : KeysUnique [.obj [("b", numN 1), ("a", .arr 1)], .arr []] := by
  intro r kvs hr
  match r, hr with
  | 0, hr => simp [getObj] at hr; subst hr; decide
  | 1, hr => simp [getObj] at hr
  | n + 2, hr => simp [getObj] at hr

end C15More
