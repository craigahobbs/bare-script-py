import BareProofs.C01EraseLemmas
import BareProofs.C01Parse
import BareProofs.C08

/-!
# C01 — T3 "ticked erasure" and T4

`execS` (BareModel/StructuredS.lean: `callS / execSS / execSB / execSE / forS`, `runS`) is the plain source-level reading
of a structured program — no statement counter, no hidden variables, conditions evaluated as written, `while` re-tests
before every iteration.  `execT` (BareModel/Structured.lean) is the *ticked* reading that T2 (`C01Exact`) proves **equal**
to the jump machine on the lowered code.  This file proves that the two agree on everything observable, in both
directions, and composes T1 (`parseLines_render`), C08 (`cache_transparent`), T2 and T3 into T4.

Main statements (all for every program size / nesting depth / fuel / host / world):

* `ticked_erasure` (T3, `maxStatements = 0`): ticked terminates ⇒ pure terminates (all large fuels) with the same kind of
  outcome, same value / error, `StRel`-related final state; and conversely.  `termination_iff`.
  Halves: `ticked_erasure_forward`, `ticked_erasure_converse`.
* `ticked_erasure_budget` / `ticked_erasure_gen` (any budget): unless the ticked run ends in `exceeded`, it agrees with
  the pure reading — `tick` is the only place `count` / `maxStatements` are consulted.
* `parse_exec_structured` (T4): `execute cfg fuel (parse (render B))` — the real label-caching machine — agrees with
  `runS scfg k B` in both directions; `parse_exec_structured_budget` (forward, any budget).
* `Tiny.while_continue_counterexample` (finding F7): with a `continue` in a `while` the two readings differ.

Hypotheses and why each is needed:

* `Agree cfg scfg start`: same host / `builtins` / `debug`, and `TablesAgree`: the machine's function table is the lowering
  of the structured table (function values are table indices; calls are related by induction on fuel through T2's
  `run_body_eq`).
* `ProgOK B`, `TablesOK scfg` (= `FuncOK` for every definition): `NoRawB` (raw `label`/`jump` have no structured meaning; T2
  needs it), `NoIncludeB` (an included file is jump-level code), `NoReservedB` (a user identifier spelled like a hidden
  `__bareScript…` variable is the same variable: user code could read / overwrite the loop state), `NoWhileContinueB` (F7),
  `WellNested` / `wnB` (`break` / `continue` outside a loop: rejected by the parser; T1 needs it, and the ticked semantics
  treats them as no-ops).
* `TruthyBool host`: the lowering tests `!c` and jumps, the source tests `c`: they agree iff the host's truth value of a
  boolean is that boolean.
* `HostNoReserved host`: a library function that reads / writes a `__bareScript…` global (`systemGlobalGet/Set` with such a
  name) can observe / corrupt the hidden state of a global-scope `for`.
* `StRel st st'`: the two runs start from the same world and the same user-visible globals (hidden entries and `count` free).

Proof: each construct is put against the rules of `Sim` (C01EraseLemmas) once, for both directions.  The three ideas: ticks
are invisible (`Sim.tick`); in a `for` the hidden variables hold the interpreter's values (`ForInv`); the iteration bound of
`loopW` / `loopF` is never binding (`loopW1_eq`, `loopF1_eq`).  One induction on the level (`levels`) gives statements, blocks,
else-chains and the rest of a `while` / `for` together, for any call runner whose calls are covered below the level;
`callCov_all` closes the calls of `callValue₀` through T2.
-/

namespace C01
open StructuredS Machine Lower Structured

variable {W : Type}

/-! ## calls: what the two call runners do -/

theorem callS_script {cfg : Config W} {scfg : SConfig W} {start : FnId → Nat} (ag : Agree cfg scfg start)
    (k : Nat) (id : FnId) (args : List Value) (st : State W) (d : SFuncDef) (h : scfg.sfuns id = some d) :
    callS scfg (k+1) (.fn (.script id)) args st =
      bodyK (execSB scfg k d.body (some (bindArgs cfg.host d.lastArgArray d.args args [] st.world).1)
        { st with world := (bindArgs cfg.host d.lastArgArray d.args args [] st.world).2 }) := by
  conv => lhs; unfold callS
  simp only [h, ag.host]; rfl

/-- the machine side of the same call, through T2 -/
theorem callValue₀_script {cfg : Config W} {scfg : SConfig W} {start : FnId → Nat} (ag : Agree cfg scfg start)
    (m : Nat) (id : FnId) (args : List Value) (st : State W) (d : SFuncDef) (h : scfg.sfuns id = some d) (hraw : NoRawB d.body) :
    callValue₀ cfg (m+1) (.fn (.script id)) args st =
      C09.resOut (toRes (execTB cfg (callValue₀ cfg) (execIncludes₀ cfg) false d.body (start id) m
        (some (bindArgs cfg.host d.lastArgArray d.args args [] st.world).1) none
        { st with world := (bindArgs cfg.host d.lastArgArray d.args args [] st.world).2 })) := by
  rw [C09.callValue₀_script cfg m (show cfg.funs id = some (lowerDef (start id) d) by rw [ag.funs, h]; rfl)]
  simp only [C09.enterFn, lowerDef]
  rw [run_body_eq cfg none d.body (start id) hraw]

/-- what both call runners do with anything but a defined script function: run a library interaction tree, or swallow
the `TypeError` of calling a non-function -/
def callOther (cfg : Config W) (call : CallFn W) (fv : Value) (args : List Value) (st : State W) : Out W :=
  match fv with
  | .fn (.lib name) => runTree cfg call (cfg.host.lib name args st.world) st
  | .fn (.other k) => runTree cfg call (cfg.host.other k args st.world) st
  | v => .ok .null { st with world := cfg.host.notCallable v st.world }

theorem callValue₀_other {cfg : Config W} {scfg : SConfig W} {start : FnId → Nat} (ag : Agree cfg scfg start)
    (m : Nat) (fv : Value) (args : List Value) (st : State W) (h : ∀ id, fv = .fn (.script id) → scfg.sfuns id = none) :
    callValue₀ cfg (m+1) fv args st = callOther cfg (callValue₀ cfg m) fv args st := by
  cases fv with
  | fn fn =>
    cases fn with
    | script id => rw [callValue₀]; simp only [ag.funs, h id rfl]; rfl
    | _ => rfl
  | _ => rfl

theorem callS_other {cfg : Config W} {scfg : SConfig W} {start : FnId → Nat} (ag : Agree cfg scfg start)
    (k : Nat) (fv : Value) (args : List Value) (st : State W) (h : ∀ id, fv = .fn (.script id) → scfg.sfuns id = none) :
    callS scfg (k+1) fv args st = callOther cfg (callS scfg k) fv args st := by
  have h0 : callS scfg (k+1) fv args st = callOther scfg.toConfig (callS scfg k) fv args st := by
    cases fv with
    | fn fn =>
      cases fn with
      | script id =>
        conv => lhs; unfold callS
        simp only [h id rfl]; rfl
      | _ => rfl
    | _ => rfl
  rw [h0]; unfold callOther
  rw [show scfg.toConfig.host = cfg.host from ag.host]
  simp only [runTreeS_eq ag]

theorem callOther_sim {cfg : Config W} {kp : Bool} {L : Nat} {cv : CallFn W} {cs : Nat → CallFn W} (hc : CallSimG kp L cv cs)
    (hhost : HostNoReserved cfg.host) (fv : Value) (args : List Value) {st st' : State W} (hs : StRel st st') :
    OSimG kp L st.globals (callOther cfg cv fv args st) (fun k => callOther cfg (cs k) fv args st') := by
  have hnc : ∀ v, OSimG kp L st.globals (.ok .null { st with world := cfg.host.notCallable v st.world })
      (fun _ => .ok .null { st' with world := cfg.host.notCallable v st'.world }) := fun v =>
    ⟨{ st' with world := cfg.host.notCallable v st'.world }, ⟨by simp only [hs.1], hs.2⟩, fun _ => KeepAll.refl _,
      Ev.of_all fun _ => rfl⟩
  cases fv with
  | fn fn =>
    cases fn with
    | script id => exact hnc _
    | lib name => simp only [callOther, ← hs.1]; exact runTree_sim cfg hc (hhost.1 name args st.world) st st' hs
    | other j => simp only [callOther, ← hs.1]; exact runTree_sim cfg hc (hhost.2 j args st.world) st st' hs
  | _ => exact hnc _

/-- every definition of the structured table is a structured program the simulation covers -/
def TableOK (scfg : SConfig W) : Prop :=
  ∀ id d, scfg.sfuns id = some d → NoRawB d.body ∧ okB .none d.body = true

theorem defined_or (scfg : SConfig W) (fv : Value) :
    (∃ id d, fv = .fn (.script id) ∧ scfg.sfuns id = some d) ∨ ∀ id, fv = .fn (.script id) → scfg.sfuns id = none := by
  by_cases h : ∃ id d, fv = .fn (.script id) ∧ scfg.sfuns id = some d
  · exact Or.inl h
  · refine Or.inr fun id e => ?_
    cases hd : scfg.sfuns id with
    | none => rfl
    | some d => exact absurd ⟨id, d, e, hd⟩ h

/-! ## final results -/

/-- two final results agree on everything observable: same kind of outcome, same returned value / same runtime error,
related final states (same world = same log, heap, …; same user-visible globals) -/
def ResRel : Res W → Res W → Prop
  | .done s, .done s' => StRel s s'
  | .ret v s, .ret v' s' => v = v' ∧ StRel s s'
  | .err e s, .err e' s' => e = e' ∧ StRel s s'
  | _, _ => False

theorem ResRel.ne_oof {r r' : Res W} (h : ResRel r r') : r ≠ .oof ∧ r' ≠ .oof := by
  cases r <;> cases r' <;> first | exact h.elim | exact ⟨nofun, nofun⟩

/-- final result of a pure run (as `runS` reads it off) -/
def toResS : SOut W → Res W
  | .norm _ s => .done s
  | .brk _ s => .done s
  | .cont _ s => .done s
  | .ret v s => .ret v s
  | .err e s => .err e s
  | .oof => .oof

theorem runS_eq (scfg : SConfig W) (k : Nat) (B : List SStmt) (st : State W) :
    runS scfg k B st = toResS (execSB scfg k B none st) := by
  unfold runS; cases execSB scfg k B none st <;> rfl

/-- the ticked run of a script, as a final result -/
abbrev runT₀ (cfg : Config W) (fuel : Nat) (B : List SStmt) (base : Option String) (st : State W) : Res W :=
  toRes (execTB cfg (callValue₀ cfg) (execIncludes₀ cfg) false B 0 fuel none base st)

theorem toRes_withFuel (o : SOut W) (f : Nat) : toRes (o.withFuel f) = toResS o := by cases o <;> rfl

theorem ORel.res {i : Nat} {l0 : Option Env} {g0 : Env} {o o' : SOut W} (h : ORel .none i l0 g0 o o') :
    ResRel (toResS o) (toResS o') := by
  cases o with
  | norm l s => obtain ⟨l', s', rfl, hp⟩ := h; exact hp.2.1
  | brk l s => obtain ⟨_, _, _, h, _⟩ := h; exact absurd rfl h
  | cont l s => obtain ⟨_, _, _, h, _⟩ := h; exact absurd h (by decide)
  | ret v s => obtain ⟨s', rfl, hs, -⟩ := h; exact ⟨rfl, hs⟩
  | err e s => obtain ⟨s', rfl, hs⟩ := h; exact ⟨rfl, hs⟩
  | oof => exact h.elim

theorem CSim.result {i : Nat} {l0 : Option Env} {g0 : Env} {T : Nat → TOut W} {o' : SOut W} (h : CSim .none i l0 g0 T o') :
    o' = .oof ∨ ∃ r, ResRel r (toResS o') ∧ ∃ N, ∀ f, N ≤ f → toRes (T f) = r :=
  h.imp id fun ⟨o, _, hr, ht⟩ => ⟨toResS o, hr.res, Ev.of_shift (ht.mono fun f hf => by rw [hf, toRes_withFuel])⟩

/-! ## the outcome of a function body as the result of the call -/

theorem TSim.body {L F i : Nat} {loc : Env} {g0 : Env} {t : TOut W} {S : Nat → SOut W}
    (h : TSim L F .none i (some loc) g0 t S) : OSim L g0 (C09.resOut (toRes t)) (fun k => bodyK (S k)) := by
  cases t with
  | oof => trivial
  | err e s => exact h.imp id fun ⟨s', hs, hev⟩ => ⟨s', hs, hev.mono fun k hk => by simp only [hk, bodyK]⟩
  | ret v s => obtain ⟨s', hs, hk, hev⟩ := h; exact ⟨s', hs, fun _ => hk, hev.mono fun k hk => by simp only [hk, bodyK]⟩
  | norm l s f =>
    obtain ⟨_, l', s', hp, hev⟩ := h
    exact ⟨s', hp.2.1, fun _ => hp.2.2.2, hev.mono fun k hk => by simp only [hk, bodyK]⟩
  | brk l s f => exact absurd rfl h.2.1
  | cont l s f => exact absurd h.2.1 (by decide)

theorem CSim.body {i : Nat} {loc : Env} {g0 gx : Env} {T : Nat → TOut W} {o' : SOut W}
    (h : CSim .none i (some loc) g0 T o') : OSimG false 0 gx (bodyK o') (fun m => C09.resOut (toRes (T m))) := by
  rcases h with rfl | ⟨o, c, hr, ht⟩
  · trivial
  · have hev : Ev fun m => C09.resOut (toRes (T m)) = C09.resOut (toResS o) :=
      Ev.of_shift (ht.mono fun f hf => by rw [hf, toRes_withFuel])
    cases o with
    | norm l s => obtain ⟨l', s', rfl, hp⟩ := hr; exact ⟨s, hp.2.1.symm, Bool.noConfusion, hev⟩
    | brk l s => obtain ⟨_, _, _, h, _⟩ := hr; exact absurd rfl h
    | cont l s => obtain ⟨_, _, _, h, _⟩ := hr; exact absurd h (by decide)
    | ret v s => obtain ⟨s', rfl, hs, -⟩ := hr; exact ⟨s, hs.symm, Bool.noConfusion, hev⟩
    | err e s => obtain ⟨s', rfl, hs⟩ := hr; exact Or.inr ⟨s, hs.symm, hev⟩
    | oof => exact hr.elim

/-! ## the levels of the induction: everything at machine fuel `< N` and pure fuel `< N` -/

def LvS (on : Prop) (cfg : Config W) (scfg : SConfig W) (cv : CallAt W) (ei : InclAt W) (base : Option String)
    (N : Nat) : Prop :=
  ∀ (lk : LK) (s : SStmt) (i : Nat), okS lk s = true → ∀ (l : Option Env) (st : State W) (l' : Option Env) (st' : State W),
    LRel l l' → StRel st st' →
    Sim on cfg scfg cv N N lk i l st.globals (fun f => execTS cfg cv ei lk.inLoop s i f l base st)
      (fun k => execSS scfg k s l' st')

def LvB (on : Prop) (cfg : Config W) (scfg : SConfig W) (cv : CallAt W) (ei : InclAt W) (base : Option String)
    (N : Nat) : Prop :=
  ∀ (lk : LK) (B : List SStmt) (i : Nat), okB lk B = true → ∀ (l : Option Env) (st : State W) (l' : Option Env) (st' : State W),
    LRel l l' → StRel st st' →
    Sim on cfg scfg cv N N lk i l st.globals (fun f => execTB cfg cv ei lk.inLoop B i f l base st)
      (fun k => execSB scfg k B l' st')

def LvE (on : Prop) (cfg : Config W) (scfg : SConfig W) (cv : CallAt W) (ei : InclAt W) (base : Option String)
    (N : Nat) : Prop :=
  ∀ (lk : LK) (e : SElse) (i : Nat), okE lk e = true → ∀ (l : Option Env) (st : State W) (l' : Option Env) (st' : State W),
    LRel l l' → StRel st st' →
    Sim on cfg scfg cv N N lk i l st.globals (fun f => execTE cfg cv ei lk.inLoop e i f l base st)
      (fun k => execSE scfg k e l' st')

/-- the rest of a `while` loop after a normal end of the body (machine: the test at the bottom; pure: the statement again) -/
def LvW (on : Prop) (cfg : Config W) (scfg : SConfig W) (cv : CallAt W) (ei : InclAt W) (base : Option String)
    (N : Nat) : Prop :=
  ∀ (lk : LK) (c : Expr) (b : List SStmt) (i : Nat), nrE c = true → okB .whileL b = true →
    ∀ (l : Option Env) (st : State W) (l' : Option Env) (st' : State W), LRel l l' → StRel st st' →
    Sim on cfg scfg cv N N lk i l st.globals
      (fun f => wTest cfg cv c (loopW1 cfg cv c fun f l s => execTB cfg cv ei true b (i+1) f l base s) f l st)
      (fun k => execSS scfg k (.while c b) l' st')

/-- the remaining iterations of the `for` loop numbered `i` against `forS` -/
def LvF (on : Prop) (cfg : Config W) (scfg : SConfig W) (cv : CallAt W) (ei : InclAt W) (base : Option String)
    (N : Nat) : Prop :=
  ∀ (lk : LK) (i : Nat) (v : Name) (ix : Option Name) (b : List SStmt) (a n c : Value),
    isGen v = false → ngO ix = true → okB .forL b = true →
    ∀ (l : Option Env) (st : State W) (l' : Option Env) (st' : State W) (l0 : Option Env) (g0 : Env),
    LRel l l' → StRel st st' → ForInv i ix a n c l st.globals → KeepL i l0 l → GKeep l0 i g0 st.globals →
    Sim on cfg scfg cv N N lk i l0 g0
      (fun f => loopF1 cfg cv i v (ix.getD (vIndex i)) (usesContB b)
        (fun f l s => execTB cfg cv ei true b (i+1) f l base s) f l st)
      (fun k => forS scfg k v ix b a n c l' st')

section Constructs
variable {cfg : Config W} {scfg : SConfig W} {start : FnId → Nat} (base : Option String)
  {on : Prop} {cv : CallAt W} {ei : InclAt W} {N : Nat}

theorem chainSim (htb : TruthyBool cfg.host) (Hc : CallCov on cfg scfg cv N N) (hB : LvB on cfg scfg cv ei base N)
    (hE : LvE on cfg scfg cv ei base N) (lk : LK) (c : Expr) (t : List SStmt) (e : SElse) (i : Nat) (hc : nrE c = true)
    (ht : okB lk t = true) (he : okE lk e = true) {l l' : Option Env} {st st' : State W} (hl : LRel l l') (hs : StRel st st') :
    Sim on cfg scfg cv (N+1) N lk i l st.globals
      (fun f => chainT cfg cv ei lk.inLoop c t e i f l base st)
      (fun k => condK cfg.host (fun s => execSB scfg k t l' s) (fun s => execSE scfg k e l' s)
        (evalExpr cfg (callS scfg k) l' c st')) := by
  simp only [chainT, stmtCond_notE cfg htb]
  refine Sim.eval Hc hc hl hs
    (Φ := fun k r => condK cfg.host (fun s => execSB scfg k t l' s) (fun s => execSE scfg k e l' s) r)
    (fun _ _ _ => rfl) (fun _ => rfl) ?_
  intro v s2 s2' hs2 hk
  have hct := cntB_le t (i+1)
  simp only [condK, ← hs2.1]
  cases cfg.host.truthy v s2.world with
  | true =>
    simp only [Bool.not_true, Bool.false_eq_true, if_false, if_true]
    exact Sim.weaken (KeepL.refl i l) (GKeep.of_all l i hk) (Nat.le_succ i) (hB lk t (i+1) ht l s2 l' s2' hl hs2).thenSkip
  | false =>
    simp only [Bool.not_false, Bool.false_eq_true, if_false, if_true]
    exact Sim.weaken (KeepL.refl i l) (GKeep.of_all l i hk) (Nat.le_of_succ_le hct)
      (hE lk e (cntB t (i+1)) he l s2 l' s2' hl hs2)

/-- the iterations of `while`, entered just before the body -/
theorem loopW1Sim (hB : LvB on cfg scfg cv ei base N) (hW : LvW on cfg scfg cv ei base N)
    (lk : LK) (c : Expr) (b : List SStmt) (i : Nat) (hc : nrE c = true) (hok : okB .whileL b = true)
    {l l' : Option Env} {st st' : State W} (hl : LRel l l') (hs : StRel st st') :
    Sim on cfg scfg cv N N lk i l st.globals
      (fun f => loopW1 cfg cv c (fun f l s => execTB cfg cv ei true b (i+1) f l base s) f l st)
      (fun k => loopK (fun l1 s1 => execSS scfg k (.while c b) l1 s1) (execSB scfg k b l' st')) := by
  refine (Sim.loopT (KeepL.refl i l) (GKeep.refl l i _) (hB .whileL b (i+1) hok l st l' st' hl hs) ?_
    (fun h => absurd h (by decide))).congrT
    fun f => loopW1_eq cfg cv c _ (fun f l st => execTB_ok cfg _ _ true b (i+1) f l base st) f l st
  intro l1 s1 l1' s1' hp
  exact Sim.weaken (hp.2.2.1.mono (Nat.le_succ i)) (hp.2.2.2.mono (Nat.le_succ i)) (Nat.le_refl i)
    (hW lk c b i hc hok l1 s1 l1' s1' hp.1 hp.2.1)

theorem lvW_succ (ag : Agree cfg scfg start) (Hc : CallCov on cfg scfg cv N N) (hB : LvB on cfg scfg cv ei base N)
    (hW : LvW on cfg scfg cv ei base N) : LvW on cfg scfg cv ei base (N+1) := by
  intro lk c b i hc hok l st l' st' hl hs
  refine Sim.stepS ?_ rfl (execSS_while ag · c b l' st')
  unfold wTest
  refine Sim.eval Hc hc hl hs
    (Φ := fun k r => condK cfg.host
      (fun s => loopK (fun l1 s1 => execSS scfg k (.while c b) l1 s1) (execSB scfg k b l' s)) (fun s => .norm l' s) r)
    (fun _ _ _ => rfl) (fun _ => rfl) ?_
  intro v s2 s2' hs2 hk
  simp only [condK, ← hs2.1]
  cases cfg.host.truthy v s2.world with
  | true =>
    simp only [if_true]
    exact Sim.weaken (KeepL.refl i l) (GKeep.of_all l i hk) (Nat.le_refl i)
      (loopW1Sim base hB hW lk c b i hc hok hl hs2)
  | false =>
    simp only [Bool.false_eq_true, if_false]
    unfold stmtSkip
    exact Sim.tick (Sim.norm (Post.of_keepAll hl (tk_rel hs2) hk))

/-- the footer of a `for` iteration: both sides assign the same new index value and make the same test -/
theorem forFootSim (hF : LvF on cfg scfg cv ei base N) (lk : LK) (i : Nat) (v : Name) (ix : Option Name) (b : List SStmt)
    (a n : Value) (hv : isGen v = false) (hix : ngO ix = true) (hokb : okB .forL b = true) :
    ∀ (c : Value) (l l' : Option Env) (st st' : State W) (l0 : Option Env) (g0 : Env),
      LRel l l' → StRel st st' → ForInv i ix a n c l st.globals → KeepL i l0 l → GKeep l0 i g0 st.globals →
      Sim on cfg scfg cv N N lk i l0 g0
        (fun f => forFoot cfg cv i (ix.getD (vIndex i))
          (loopF1 cfg cv i v (ix.getD (vIndex i)) (usesContB b) fun f l s => execTB cfg cv ei true b (i+1) f l base s) l st f)
        (fun k => footerS cfg.host scfg k v ix b a n c l' st') := by
  intro c l l' st st' l0 g0 hl hs hinv hkl hkg
  unfold forFoot
  simp only [stmtExpr_andThen, stmtEval_val _ fun f' st1 => evalExpr_incr cfg (cv f') l _ st1]
  refine Sim.tick ?_
  simp only [footerS_eq, assignO_some, tk_globals, tk_world]
  rw [hinv.readIx hl hs.2 hix, hs.1]
  generalize cfg.host.binop .add (idxS ix c l' st'.globals) (.num 1) st'.world = w
  have hp := assign_ix hl (tk_rel hs) hix w i
  have hinv3 := forInv_assign_ix (s := tk st) hinv.1 hinv.2.1 hix c w
  obtain ⟨hkl3, hkg3⟩ := kstep hkl hkg hp.2.2.1 hp.2.2.2
  simp only [stmtCond_eq, stmtEval_val _ fun f' s => evalExpr_ltvars cfg (cv f') _ _ _ s]
  refine Sim.tick ?_
  simp only [tk_globals, tk_world, hinv3.readIx hp.1 hp.2.1.2 hix, hinv3.readLength, hp.2.1.1, footerK]
  cases cfg.host.truthy _ _ with
  | true =>
    simp only [if_true]
    exact hF lk i v ix b a n _ hv hix hokb _ (tk _) _ _ l0 g0 hp.1 (tk_rel hp.2.1) hinv3 hkl3 hkg3
  | false =>
    simp only [Bool.false_eq_true, if_false]
    unfold stmtSkip
    exact Sim.tick (Sim.norm ⟨hp.1, tk_rel (tk_rel hp.2.1), hkl3, hkg3⟩)

theorem lvF_succ (ag : Agree cfg scfg start) (Hc : CallCov on cfg scfg cv N N) (hB : LvB on cfg scfg cv ei base N)
    (hF : LvF on cfg scfg cv ei base N) : LvF on cfg scfg cv ei base (N+1) := by
  intro lk i v ix b a n c hv hix hokb l st l' st' l0 g0 hl hs hinv hkl hkg
  have hfa := forFootSim base hF lk i v ix b a n hv hix hokb
  generalize usesContB b = hcb at hfa ⊢
  refine Sim.stepS ?_ rfl (forS_succ ag · v ix b a n c l' st')
  refine (Sim.evalCall Hc hs (fun m => ForInv.evalGet (st := tk st) cfg (cv m) hinv hl hs.2 hix)
    (Φ := fun k r => forIterK cfg.host scfg k v ix b a n c l' r) (fun _ _ _ => rfl) (fun _ => rfl) ?_).congrT fun f =>
      (loopF1_eq cfg cv i v _ _ _ (fun f l st => execTB_ok cfg _ _ true b (i+1) f l base st) f l st).trans
        (stmtExpr_andThen ..)
  intro x s2 s2' hs2 hk
  simp only [assignO_some, forIterK]
  have hp := assign_user hl hs2 v x hv (i+1)
  have hinvA : ForInv i ix a n c (assign l s2 v x).1 (assign l s2 v x).2.globals :=
    (hinv.keep (KeepL.refl (i+1) l) (GKeep.of_all l (i+1) hk) (Nat.lt_succ_self i)).keep hp.2.2.1 hp.2.2.2
      (Nat.lt_succ_self i)
  obtain ⟨hklA, hkgA⟩ := kstep hkl (kall hkg hk) (hp.2.2.1.mono (Nat.le_succ i)) (hp.2.2.2.mono (Nat.le_succ i))
  have hnext := fun l1 s1 l1' s1' (hp1 : Post (i+1) (assign l s2 v x).1 (assign l s2 v x).2.globals l1 s1 l1' s1') =>
    hfa c l1 l1' s1 s1' l0 g0 hp1.1 hp1.2.1 (hinvA.keep hp1.2.2.1 hp1.2.2.2 (Nat.lt_succ_self i))
      (hp1.weaken hklA hkgA (Nat.le_succ i)).2.2.1 (hp1.weaken hklA hkgA (Nat.le_succ i)).2.2.2
  refine Sim.loopT hklA hkgA (hB .forL b (i+1) hokb _ _ _ _ hp.1 hp.2.1) ?_ (fun _ => hnext)
  intro l1 s1 l1' s1' hp1
  cases hcb with
  | true => exact Sim.skip (hnext l1 (tk s1) l1' s1' hp1)
  | false => exact hnext l1 s1 l1' s1' hp1

theorem forSim (ag : Agree cfg scfg start) (htb : TruthyBool cfg.host) (Hc : CallCov on cfg scfg cv N N)
    (hF : LvF on cfg scfg cv ei base N) (lk : LK) (v : Name) (ix : Option Name) (vals : Expr) (b : List SStmt) (i : Nat)
    (hv : isGen v = false) (hix : ngO ix = true) (hvals : nrE vals = true) (hokb : okB .forL b = true)
    {l l' : Option Env} {st st' : State W} (hl : LRel l l') (hs : StRel st st') :
    Sim on cfg scfg cv (N+1) (N+1) lk i l st.globals
      (fun f => execTS cfg cv ei lk.inLoop (.for v ix vals b) i f l base st)
      (fun k => execSS scfg k (.for v ix vals b) l' st') := by
  refine Sim.stepS ?_ rfl (execSS_for ag · v ix vals b l' st')
  refine (Sim.eval Hc hvals hl hs (Φ := fun k r => forValsK cfg scfg k v ix b l' r)
    (fun _ _ _ => rfl) (fun _ => rfl) ?_).congrT fun f => (execTS_for_seq ..).trans (stmtExpr_andThen ..)
  intro a s2 s2' hs2 hk
  simp only [assignO_some, forValsK]
  -- `values = a`
  have hp1 : Post i l s2.globals (assign l s2 (vValues i) a).1 (assign l s2 (vValues i) a).2 l' s2' :=
    assign_gen hl hs2 .values i a i (Nat.le_refl i)
  have hv1 := sget_assign_self l s2 (vValues i) a
  obtain ⟨k1l, k1g⟩ := kstep (KeepL.refl i l) (GKeep.of_all l i hk) hp1.2.2.1 hp1.2.2.2
  refine ((Sim.evalCall Hc hp1.2.1
    (fun m => evalExpr_length (st := tk (assign l s2 (vValues i) a).2) cfg (cv m) hv1 hp1.1 hp1.2.1.2)
    (Φ := fun k r => forLenK cfg.host scfg k v ix b a l' r) (fun _ _ _ => rfl) (fun _ => rfl) ?_).mono
      (Nat.le_succ N) (Nat.le_refl N)).congrT fun f => stmtExpr_andThen ..
  intro nlen s3 s3' hs3 hk3
  simp only [assignO_some, forLenK]
  -- `length = nlen`; `values` is still `a`
  have hp2 : Post i (assign l s2 (vValues i) a).1 s3.globals (assign (assign l s2 (vValues i) a).1 s3 (vLength i) nlen).1
      (assign (assign l s2 (vValues i) a).1 s3 (vLength i) nlen).2 l' s3' :=
    assign_gen hp1.1 hs3 .length i nlen i (Nat.le_refl i)
  have hn2 := sget_assign_self (assign l s2 (vValues i) a).1 s3 (vLength i) nlen
  have hv2 := (sget_assign_ne (assign l s2 (vValues i) a).1 s3 (vLength i) (vValues i) nlen (by simp [vValues, vLength])).trans
    ((sget_keep (KeepL.refl (i+1) _) (GKeep.of_all _ (i+1) hk3) .values i (Nat.lt_succ_self i)).trans hv1)
  obtain ⟨k2l, k2g⟩ := kstep k1l (kall k1g hk3) hp2.2.2.1 hp2.2.2.2
  simp only [stmtCond_notE cfg htb, stmtCond_eq,
    stmtEval_val _ fun f' s => evalExpr_variable cfg (cv f') _ (vLength i) s]
  refine Sim.tick ?_
  simp only [tk_globals, tk_world, readVar_of_sget rfl hn2, hp2.2.1.1]
  cases cfg.host.truthy nlen s3'.world with
  | false =>
    simp only [Bool.not_false, if_true, Bool.false_eq_true, if_false]
    exact Sim.norm ⟨hp2.1, tk_rel hp2.2.1, k2l, k2g⟩
  | true =>
    simp only [Bool.not_true, Bool.false_eq_true, if_false, if_true]
    -- the index starts at 0; `label loop`
    simp only [stmtExpr_andThen, stmtEval_val _ fun f' s => evalExpr_number cfg (cv f') _ 0 s]
    refine Sim.tick ?_
    simp only [assignO_some]
    have hp4 := assign_ix hp2.1 (tk_rel (tk_rel hp2.2.1)) hix (.num 0) i
    have hinv := forInv_assign_ix (s := tk (tk _)) hv2 hn2 hix (.num 0) (.num 0)
    rw [nextIx_self] at hinv
    obtain ⟨k4l, k4g⟩ := kstep k2l k2g hp4.2.2.1 hp4.2.2.2
    exact Sim.skip
      (hF lk i v ix b a nlen (.num 0) hv hix hokb _ (tk _) _ _ l st.globals hp4.1 (tk_rel hp4.2.1) hinv k4l k4g)

theorem lvS_succ (ag : Agree cfg scfg start) (htb : TruthyBool cfg.host) (Hc : CallCov on cfg scfg cv N N)
    (hB : LvB on cfg scfg cv ei base N) (hE : LvE on cfg scfg cv ei base N)
    (hW : LvW on cfg scfg cv ei base N) (hF : LvF on cfg scfg cv ei base N) : LvS on cfg scfg cv ei base (N+1) := by
  intro lk s i hok l st l' st' hl hs
  cases s with
  | expr n e =>
    simp only [okS, Bool.and_eq_true] at hok
    refine ((Sim.eval Hc hok.2 hl hs (Φ := fun _ r => exprK n l' r) (fun _ _ _ => rfl) (fun _ => rfl) ?_).stepS
      rfl (execSS_expr ag · n e l' st')).congrT
      (fun f => by unfold execTS; rw [← andThen_id (stmtExpr ..), stmtExpr_andThen])
    intro v s2 s2' hs2 hk
    cases n with
    | none => exact Sim.norm (Post.of_keepAll hl hs2 hk)
    | some x =>
      simp only [ngO, Bool.not_eq_true'] at hok
      exact Sim.norm ((assign_user hl hs2 x v hok.1 i).weaken (KeepL.refl i l) (GKeep.of_all l i hk) (Nat.le_refl i))
  | ret e =>
    cases e with
    | none =>
      exact ((Sim.tickUp (k := fun _ st1 => .ret .null st1)
        (Sim.of_rel (o := .ret .null (tk st)) ⟨st', rfl, tk_rel hs, GKeep.refl l i _⟩)).stepS rfl
          (fun k => by unfold execSS; rfl)).congrT fun f => by unfold execTS; rfl
    | some e =>
      simp only [okS, nrEO] at hok
      refine ((Sim.eval Hc hok hl hs (Φ := fun _ r => retK r) (fun _ _ _ => rfl) (fun _ => rfl) ?_).stepS
        rfl (execSS_ret ag · e l' st')).congrT fun f => by unfold execTS; rfl
      intro v s2 s2' hs2 hk
      exact Sim.of_rel (o := .ret v s2) ⟨s2', rfl, hs2, GKeep.of_all l i hk⟩
  | label _ => exact Bool.noConfusion hok
  | jump _ _ => exact Bool.noConfusion hok
  | «include» _ => exact Bool.noConfusion hok
  | brk =>
    simp only [okS] at hok
    have hne : lk ≠ .none := by intro h; subst h; simp [LK.inLoop] at hok
    exact ((Sim.tickUp (k := fun f st1 => .brk l st1 f)
      (Sim.of_rel (o := .brk l (tk st)) ⟨l', st', rfl, hne, Post.of_keepAll hl (tk_rel hs) (KeepAll.refl _)⟩)).stepS rfl
        (fun k => by unfold execSS; rfl)).congrT fun f => by unfold execTS; simp only [hok, if_true]
  | cont =>
    simp only [okS, decide_eq_true_eq] at hok
    subst hok
    exact ((Sim.tickUp (k := fun f st1 => .cont l st1 f)
      (Sim.of_rel (o := .cont l (tk st)) ⟨l', st', rfl, rfl, Post.of_keepAll hl (tk_rel hs) (KeepAll.refl _)⟩)).stepS rfl
        (fun k => by unfold execSS; rfl)).congrT fun f => by unfold execTS; simp only [LK.inLoop, if_true]
  | func fid n args laa isAsync b =>
    simp only [okS, Bool.not_eq_true'] at hok
    exact ((Sim.tickUp (k := fun f st1 => .norm l { st1 with globals := st1.globals.set n (.fn (.script fid)) } f)
      (Sim.norm (s' := { st' with globals := st'.globals.set n (.fn (.script fid)) })
        (Post.of_keepAll hl ⟨hs.1, vis_set_congr hs.2 n _ hok⟩ (keepAll_set_user _ n _ hok)))).stepS rfl
        (fun k => by unfold execSS; rfl)).congrT fun f => by unfold execTS; rfl
  | ite c t e =>
    simp only [okS, Bool.and_eq_true] at hok
    exact ((chainSim base htb Hc hB hE lk c t e i hok.1.1 hok.1.2 hok.2 hl hs).stepS rfl
      (execSS_ite ag · c t e l' st')).congrT fun f => execTS_ite_seq ..
  | «while» c b =>
    simp only [okS, Bool.and_eq_true] at hok
    refine Sim.stepS ?_ rfl (execSS_while ag · c b l' st')
    simp only [execTS_while_seq, stmtCond_notE cfg htb]
    refine Sim.eval Hc hok.1 hl hs
      (Φ := fun k r => condK cfg.host
        (fun s => loopK (fun l1 s1 => execSS scfg k (.while c b) l1 s1) (execSB scfg k b l' s)) (fun s => .norm l' s) r)
      (fun _ _ _ => rfl) (fun _ => rfl) ?_
    intro v s2 s2' hs2 hk
    simp only [condK, ← hs2.1]
    cases cfg.host.truthy v s2.world with
    | false =>
      simp only [Bool.not_false, if_true, Bool.false_eq_true, if_false]
      exact Sim.norm (Post.of_keepAll hl hs2 hk)
    | true =>
      simp only [Bool.not_true, Bool.false_eq_true, if_false, if_true]
      -- `label loop`, then the loop at bound = fuel + 1
      refine Sim.skip ?_
      exact Sim.weaken (KeepL.refl i l) (GKeep.of_all l i hk) (Nat.le_refl i)
        (loopW1Sim base hB hW lk c b i hok.1 hok.2 hl (tk_rel hs2))
  | «for» v ix vals b =>
    simp only [okS, Bool.and_eq_true, Bool.not_eq_true'] at hok
    exact forSim base ag htb Hc hF lk v ix vals b i hok.1.1.1 hok.1.1.2 hok.1.2 hok.2 hl hs

theorem lvB_succ (hS : LvS on cfg scfg cv ei base (N+1)) : LvB on cfg scfg cv ei base (N+1) := by
  intro lk B
  induction B with
  | nil =>
    intro i _ l st l' st' hl hs
    exact ((Sim.norm (Post.of_keepAll hl hs (KeepAll.refl _))).stepS rfl (fun k => by unfold execSB; rfl)).congrT
      fun f => by unfold execTB; rfl
  | cons s ss ih =>
    intro i hok l st l' st' hl hs
    simp only [okB, Bool.and_eq_true] at hok
    refine ((Sim.andThen ((hS lk s i hok.1 l st l' st' hl hs).mono (Nat.le_refl _) (Nat.le_succ N)) ?_).stepS rfl
      (execSB_cons scfg · s ss l' st')).congrT fun f => execTB_cons_seq ..
    intro l1 s1 l1' s1' hp
    exact Sim.weaken hp.2.2.1 hp.2.2.2 (cntS_le s i)
      ((ih (cntS s i) hok.2 l1 s1 l1' s1' hp.1 hp.2.1).mono (Nat.le_refl _) (Nat.le_succ N))

theorem lvE_succ (ag : Agree cfg scfg start) (htb : TruthyBool cfg.host) (Hc : CallCov on cfg scfg cv N N)
    (hB : LvB on cfg scfg cv ei base N) (hE : LvE on cfg scfg cv ei base N)
    (hB1 : LvB on cfg scfg cv ei base (N+1)) : LvE on cfg scfg cv ei base (N+1) := by
  intro lk e i hok l st l' st' hl hs
  cases e with
  | none =>
    exact ((Sim.norm (Post.of_keepAll hl hs (KeepAll.refl _))).stepS rfl (fun k => by unfold execSE; rfl)).congrT
      fun f => by unfold execTE; rfl
  | els b =>
    simp only [okE] at hok
    exact ((((hB1 lk b i hok l st l' st' hl hs).mono (Nat.le_refl _) (Nat.le_succ N)).thenSkip).stepS rfl
      (fun k => by conv => lhs; unfold execSE)).congrT fun f => execTE_els_seq ..
  | elif c t e =>
    simp only [okE, Bool.and_eq_true] at hok
    exact ((chainSim base htb Hc hB hE lk c t e i hok.1.1 hok.1.2 hok.2 hl hs).stepS rfl
      (execSE_elif ag · c t e l' st')).congrT fun f => execTE_elif_seq ..

/-- every level up to `N+1`, given the calls below `N`, for any call runner -/
theorem levels (ag : Agree cfg scfg start) (htb : TruthyBool cfg.host) (Hc : CallCov on cfg scfg cv N N) :
    ∀ M, M ≤ N + 1 → ∀ base, LvS on cfg scfg cv ei base M ∧ LvB on cfg scfg cv ei base M ∧ LvE on cfg scfg cv ei base M ∧
      LvW on cfg scfg cv ei base M ∧ LvF on cfg scfg cv ei base M := by
  intro M
  induction M with
  | zero =>
    exact fun _ base => ⟨fun _ _ _ _ _ _ _ _ _ _ => Sim.zero, fun _ _ _ _ _ _ _ _ _ _ => Sim.zero,
      fun _ _ _ _ _ _ _ _ _ _ => Sim.zero, fun _ _ _ _ _ _ _ _ _ _ _ _ => Sim.zero,
      fun _ _ _ _ _ _ _ _ _ _ _ _ _ _ _ _ _ _ _ _ _ _ => Sim.zero⟩
  | succ M ih =>
    intro hle base
    have hM : M ≤ N := Nat.le_of_succ_le_succ hle
    have hC := Hc.mono hM hM
    obtain ⟨_, hB, hE, hW, hF⟩ := ih (Nat.le_succ_of_le hM) base
    have hS1 := lvS_succ base ag htb hC hB hE hW hF
    have hB1 := lvB_succ base hS1
    exact ⟨hS1, hB1, lvE_succ base ag htb hC hB hE hB1, lvW_succ base ag hC hB hW,
      lvF_succ base ag hC hB hF⟩

/-- calls one level up: a defined script function is T2 plus the block level, anything else is `callOther_sim` -/
theorem callCov_succ (ag : Agree cfg scfg start) (hhost : HostNoReserved cfg.host) (htab : TableOK scfg)
    (Hc : CallCov on cfg scfg (callValue₀ cfg) N N)
    (hB : LvB on cfg scfg (callValue₀ cfg) (execIncludes₀ cfg) none N) :
    CallCov on cfg scfg (callValue₀ cfg) (N+1) (N+1) := by
  constructor
  · intro m hm fv args st st' hs
    cases m with
    | zero => rw [callValue₀]; trivial
    | succ m' =>
      have hm' : m' < N := Nat.lt_of_succ_lt_succ hm
      rcases defined_or scfg fv with ⟨id, d, rfl, hd⟩ | hnS
      · obtain ⟨hraw, hok⟩ := htab id d hd
        rw [callValue₀_script ag m' id args st d hd hraw]
        refine OSimG.step ?_ (fun k => callS_script ag k id args st' d hd)
        rw [← hs.1]
        generalize bindArgs cfg.host d.lastArgArray d.args args [] st.world = bw
        exact TSim.body ((hB .none d.body (start id) hok (some bw.1) { st with world := bw.2 } (some bw.1)
          { st' with world := bw.2 } (LRel.refl _) ⟨rfl, hs.2⟩).1 m' hm')
      · rw [callValue₀_other ag m' fv args st hnS]
        exact (callOther_sim (Hc.1 m' hm') hhost fv args hs).step fun k => callS_other ag k fv args st' hnS
  · intro hc m hm
    cases m with
    | zero => intro fv args st' st hs; unfold callS; trivial
    | succ m' =>
      have hm' : m' < N := Nat.lt_of_succ_lt_succ hm
      intro fv args st' st hs
      rcases defined_or scfg fv with ⟨id, d, rfl, hd⟩ | hnS
      · obtain ⟨hraw, hok⟩ := htab id d hd
        rw [callS_script ag m' id args st' d hd, hs.1]
        refine OSimG.step ?_ fun m => callValue₀_script ag m id args st d hd hraw
        generalize bindArgs cfg.host d.lastArgArray d.args args [] st.world = bw
        exact CSim.body ((hB .none d.body (start id) hok (some bw.1) { st with world := bw.2 } (some bw.1)
          { st' with world := bw.2 } (LRel.refl _) ⟨rfl, hs.2.symm⟩).2 hc m' hm')
      · rw [callS_other ag m' fv args st' hnS]
        exact (callOther_sim (Hc.2 hc m' hm') hhost fv args hs).step fun m => callValue₀_other ag m fv args st hnS

theorem callCov_all (ag : Agree cfg scfg start) (htb : TruthyBool cfg.host) (hhost : HostNoReserved cfg.host)
    (htab : TableOK scfg) : ∀ N, CallCov on cfg scfg (callValue₀ cfg) N N := by
  intro N
  induction N with
  | zero => exact ⟨fun m hm => absurd hm (Nat.not_lt_zero m), fun _ m hm => absurd hm (Nat.not_lt_zero m)⟩
  | succ N ih =>
    exact callCov_succ ag hhost htab ih (levels ag htb ih N (Nat.le_succ N) none).2.1

end Constructs

/-! ## the forward direction alone, for any call runner whose calls are simulated forward (`on := False`) -/

section Erase
variable {cfg : Config W} {scfg : SConfig W} {start : FnId → Nat} (ag : Agree cfg scfg start)
  (htb : TruthyBool cfg.host) {F : Nat} (cv : CallAt W) (ei : InclAt W)
  (base : Option String) (Hc : ∀ m, m < F → CallSim cfg.maxStatements (cv m) (callS scfg))
include ag htb Hc

theorem eraseS (lk : LK) : ∀ (s : SStmt) (i : Nat), okS lk s = true →
    ∀ (f : Nat) (l : Option Env) (st : State W) (l' : Option Env) (st' : State W), f ≤ F → LRel l l' → StRel st st' →
    TSim cfg.maxStatements F lk i l st.globals (execTS cfg cv ei lk.inLoop s i f l base st)
      (fun k => execSS scfg k s l' st') :=
  fun s i h f l st l' st' hf hl hs =>
    (((levels (on := False) (ei := ei) ag htb ⟨Hc, fun hc => hc.1.elim⟩ (F+1) (Nat.le_refl _) base).1
      lk s i h l st l' st' hl hs).1 f (Nat.lt_succ_of_le hf)).monoF hf

theorem eraseE (lk : LK) : ∀ (e : SElse) (i : Nat), okE lk e = true →
    ∀ (f : Nat) (l : Option Env) (st : State W) (l' : Option Env) (st' : State W), f ≤ F → LRel l l' → StRel st st' →
    TSim cfg.maxStatements F lk i l st.globals (execTE cfg cv ei lk.inLoop e i f l base st)
      (fun k => execSE scfg k e l' st') :=
  fun e i h f l st l' st' hf hl hs =>
    (((levels (on := False) (ei := ei) ag htb ⟨Hc, fun hc => hc.1.elim⟩ (F+1) (Nat.le_refl _) base).2.2.1
      lk e i h l st l' st' hl hs).1 f (Nat.lt_succ_of_le hf)).monoF hf

end Erase

/-! ## the hypotheses of T3 as decidable predicates on the source program -/

mutual
/-- `NoReserved`: no identifier of the program — variable, function name, parameter, assignment target, `for` variables,
raw label — is a generated (`__bareScript…`) name -/
def NoReservedS : SStmt → Bool
  | .expr n e => ngO n && nrE e
  | .ret e => nrEO e
  | .ite c t e => nrE c && NoReservedB t && NoReservedE e
  | .while c b => nrE c && NoReservedB b
  | .for v ix vals b => !isGen v && ngO ix && nrE vals && NoReservedB b
  | .func _ n args _ _ b => !isGen n && args.all (fun a => !isGen a) && NoReservedB b
  | .label l => !isGen l
  | .jump l c => !isGen l && nrEO c
  | .brk => true
  | .cont => true
  | .include _ => true
def NoReservedB : List SStmt → Bool
  | [] => true
  | s :: ss => NoReservedS s && NoReservedB ss
def NoReservedE : SElse → Bool
  | .none => true
  | .els b => NoReservedB b
  | .elif c t e => nrE c && NoReservedB t && NoReservedE e
end

mutual
/-- `NoInclude`: no `include` statement (an included file is jump-level code with no structured reading) -/
def NoIncludeS : SStmt → Bool
  | .include _ => false
  | .ite _ t e => NoIncludeB t && NoIncludeE e
  | .while _ b => NoIncludeB b
  | .for _ _ _ b => NoIncludeB b
  | .func _ _ _ _ _ b => NoIncludeB b
  | _ => true
def NoIncludeB : List SStmt → Bool
  | [] => true
  | s :: ss => NoIncludeS s && NoIncludeB ss
def NoIncludeE : SElse → Bool
  | .none => true
  | .els b => NoIncludeB b
  | .elif _ t e => NoIncludeB t && NoIncludeE e
end

mutual
/-- `NoWhileContinue` (finding F7): no `continue` whose innermost enclosing loop is a `while`; `inWhile` = the innermost
enclosing loop of the same function is a `while` -/
def NoWhileContinueS (inWhile : Bool) : SStmt → Bool
  | .cont => !inWhile
  | .ite _ t e => NoWhileContinueB inWhile t && NoWhileContinueE inWhile e
  | .while _ b => NoWhileContinueB true b
  | .for _ _ _ b => NoWhileContinueB false b
  | .func _ _ _ _ _ b => NoWhileContinueB false b
  | _ => true
def NoWhileContinueB (inWhile : Bool) : List SStmt → Bool
  | [] => true
  | s :: ss => NoWhileContinueS inWhile s && NoWhileContinueB inWhile ss
def NoWhileContinueE (inWhile : Bool) : SElse → Bool
  | .none => true
  | .els b => NoWhileContinueB inWhile b
  | .elif _ t e => NoWhileContinueB inWhile t && NoWhileContinueE inWhile e
end

/-- the loop kind described by the flags of `wnS` (`inLoop`) and `NoWhileContinueS` (`inWhile`) -/
def lkOf (inLoop inWhile : Bool) : LK :=
  if inLoop then (if inWhile then .whileL else .forL) else .none

mutual
theorem okS_of (il w fn : Bool) : ∀ s : SStmt, NoRawS s → NoReservedS s = true → NoIncludeS s = true →
    NoWhileContinueS w s = true → wnS il fn s = true → okS (lkOf il w) s = true
  | .expr n e => fun _ h2 _ _ _ => h2
  | .ret e => fun _ h2 _ _ _ => h2
  | .label _ => fun h1 _ _ _ _ => h1.elim
  | .jump _ _ => fun h1 _ _ _ _ => h1.elim
  | .include _ => fun _ _ h3 _ _ => Bool.noConfusion h3
  | .brk => fun _ _ _ _ h5 => by
      simp only [wnS] at h5; subst h5; cases w <;> rfl
  | .cont => fun _ _ _ h4 h5 => by
      simp only [wnS] at h5; simp only [NoWhileContinueS, Bool.not_eq_true'] at h4; subst h5; subst h4; rfl
  | .func _ n args _ _ b => fun _ h2 _ _ _ => by
      simp only [NoReservedS, Bool.and_eq_true] at h2
      exact h2.1.1
  | .ite c t e => fun h1 h2 h3 h4 h5 => by
      simp only [NoRawS] at h1
      simp only [NoReservedS, NoIncludeS, NoWhileContinueS, wnS, Bool.and_eq_true] at h2 h3 h4 h5
      simp only [okS, Bool.and_eq_true]
      exact ⟨⟨h2.1.1, okB_of il w fn t h1.1 h2.1.2 h3.1 h4.1 h5.1⟩, okE_of il w fn e h1.2 h2.2 h3.2 h4.2 h5.2⟩
  | .while c b => fun h1 h2 h3 h4 h5 => by
      simp only [NoRawS] at h1
      simp only [NoReservedS, NoIncludeS, NoWhileContinueS, wnS, Bool.and_eq_true] at h2 h3 h4 h5
      simp only [okS, Bool.and_eq_true]
      exact ⟨h2.1, okB_of true true fn b h1 h2.2 h3 h4 h5⟩
  | .for v ix vals b => fun h1 h2 h3 h4 h5 => by
      simp only [NoRawS] at h1
      simp only [NoReservedS, NoIncludeS, NoWhileContinueS, wnS, Bool.and_eq_true] at h2 h3 h4 h5
      simp only [okS, Bool.and_eq_true]
      exact ⟨h2.1, okB_of true false fn b h1 h2.2 h3 h4 h5⟩
theorem okB_of (il w fn : Bool) : ∀ B : List SStmt, NoRawB B → NoReservedB B = true → NoIncludeB B = true →
    NoWhileContinueB w B = true → wnB il fn B = true → okB (lkOf il w) B = true
  | [] => fun _ _ _ _ _ => rfl
  | s :: ss => fun h1 h2 h3 h4 h5 => by
      simp only [NoRawB] at h1
      simp only [NoReservedB, NoIncludeB, NoWhileContinueB, wnB, Bool.and_eq_true] at h2 h3 h4 h5
      simp only [okB, Bool.and_eq_true]
      exact ⟨okS_of il w fn s h1.1 h2.1 h3.1 h4.1 h5.1, okB_of il w fn ss h1.2 h2.2 h3.2 h4.2 h5.2⟩
theorem okE_of (il w fn : Bool) : ∀ e : SElse, NoRawE e → NoReservedE e = true → NoIncludeE e = true →
    NoWhileContinueE w e = true → wnE il fn e = true → okE (lkOf il w) e = true
  | .none => fun _ _ _ _ _ => rfl
  | .els b => fun h1 h2 h3 h4 h5 => by
      simp only [NoRawE] at h1
      simp only [NoReservedE, NoIncludeE, NoWhileContinueE, wnE] at h2 h3 h4 h5
      simp only [okE]
      exact okB_of il w fn b h1 h2 h3 h4 h5
  | .elif c t e => fun h1 h2 h3 h4 h5 => by
      simp only [NoRawE] at h1
      simp only [NoReservedE, NoIncludeE, NoWhileContinueE, wnE, Bool.and_eq_true] at h2 h3 h4 h5
      simp only [okE, Bool.and_eq_true]
      exact ⟨⟨h2.1.1, okB_of il w fn t h1.1 h2.1.2 h3.1 h4.1 h5.1⟩, okE_of il w fn e h1.2 h2.2 h3.2 h4.2 h5.2⟩
end

/-- the hypotheses on a script: structured (`NoRaw`, `NoInclude`), no reserved identifier, finding F7 excluded, and every
`break` / `continue` inside a loop (what the parser accepts: `WellNested`) -/
structure ProgOK (B : List SStmt) : Prop where
  noRaw : NoRawB B
  noReserved : NoReservedB B = true
  noInclude : NoIncludeB B = true
  noWhileContinue : NoWhileContinueB false B = true
  wellNested : WellNested B

/-- the same for a function definition of the table (its body is in function scope) -/
structure FuncOK (d : SFuncDef) : Prop where
  noRaw : NoRawB d.body
  noReserved : NoReservedB d.body = true
  noReservedHead : (!isGen d.name && d.args.all (fun a => !isGen a)) = true
  noInclude : NoIncludeB d.body = true
  noWhileContinue : NoWhileContinueB false d.body = true
  wellNested : wnB false true d.body = true

def TablesOK (scfg : SConfig W) : Prop := ∀ id d, scfg.sfuns id = some d → FuncOK d

theorem ProgOK.ok {B : List SStmt} (h : ProgOK B) : okB .none B = true :=
  okB_of false false false B h.noRaw h.noReserved h.noInclude h.noWhileContinue h.wellNested

theorem TablesOK.tableOK {scfg : SConfig W} (h : TablesOK scfg) : TableOK scfg :=
  fun id d hd => ⟨(h id d hd).noRaw, okB_of false false true d.body (h id d hd).noRaw (h id d hd).noReserved (h id d hd).noInclude
    (h id d hd).noWhileContinue (h id d hd).wellNested⟩

/-! ## T1, C08 and T2 composed -/

mutual
theorem incS_of_noInclude : ∀ s : SStmt, NoIncludeS s = true → incS s = true ∧ isInc s = false
  | .expr _ _ => fun _ => ⟨rfl, rfl⟩
  | .ret _ => fun _ => ⟨rfl, rfl⟩
  | .label _ => fun _ => ⟨rfl, rfl⟩
  | .jump _ _ => fun _ => ⟨rfl, rfl⟩
  | .brk => fun _ => ⟨rfl, rfl⟩
  | .cont => fun _ => ⟨rfl, rfl⟩
  | .include _ => fun h => Bool.noConfusion h
  | .ite _ t e => fun h => by
      simp only [NoIncludeS, Bool.and_eq_true] at h
      exact ⟨by simp only [incS, incB_of_noInclude t h.1, incE_of_noInclude e h.2, Bool.and_self], rfl⟩
  | .while _ b => fun h => by
      simp only [NoIncludeS] at h; exact ⟨by simp only [incS, incB_of_noInclude b h], rfl⟩
  | .for _ _ _ b => fun h => by
      simp only [NoIncludeS] at h; exact ⟨by simp only [incS, incB_of_noInclude b h], rfl⟩
  | .func _ _ _ _ _ b => fun h => by
      simp only [NoIncludeS] at h; exact ⟨by simp only [incS, incB_of_noInclude b h], rfl⟩
theorem incB_of_noInclude : ∀ B : List SStmt, NoIncludeB B = true → incB B = true
  | [] => fun _ => rfl
  | s :: ss => fun h => by
      simp only [NoIncludeB, Bool.and_eq_true] at h
      have h1 := incS_of_noInclude s h.1
      simp [incB, h1.1, h1.2, incB_of_noInclude ss h.2]
theorem incE_of_noInclude : ∀ e : SElse, NoIncludeE e = true → incE e = true
  | .none => fun _ => rfl
  | .els b => fun h => by simp only [NoIncludeE] at h; simp only [incE, incB_of_noInclude b h]
  | .elif _ t e => fun h => by
      simp only [NoIncludeE, Bool.and_eq_true] at h
      simp only [incE, incB_of_noInclude t h.1, incE_of_noInclude e h.2, Bool.and_self]
end

/-- the (cached) jump machine on the parse of the rendered program *is* the ticked run of the program (T1, T2, C08) -/
theorem execute_parse_eq_runT₀ (cfg : Config W) (B : List SStmt) (hB : ProgOK B) (hfid : FidsInOrder B) :
    parseLines (renderB B) = .ok (lowerProgram B) ∧
    ∀ fuel base st, execute cfg fuel (lowerProgram B) base st = runT₀ cfg fuel B base { st with count := 0 } :=
  ⟨parseLines_render B hB.wellNested hfid (incB_of_noInclude B hB.noInclude),
    fun fuel base st => by rw [C08.execute_eq, execute₀_lowered cfg base B hB.noRaw]⟩

/-! ## T3 and T4, read off `levels` and `callCov_all` -/

section Main
variable {cfg : Config W} {scfg : SConfig W} {start : FnId → Nat} (ag : Agree cfg scfg start)
  (htb : TruthyBool cfg.host) (hhost : HostNoReserved cfg.host) (htab : TablesOK scfg)
include ag htb hhost htab

theorem blockSim (B : List SStmt) (hB : ProgOK B) (N : Nat) (base : Option String) (st st' : State W) (hs : StRel st st') :
    Sim True cfg scfg (callValue₀ cfg) (N+1) (N+1) .none 0 none st.globals
      (fun f => execTB cfg (callValue₀ cfg) (execIncludes₀ cfg) false B 0 f none base st) (fun k => execSB scfg k B none st') :=
  (levels ag htb (callCov_all ag htb hhost htab.tableOK N) (N+1) (Nat.le_refl _) base).2.1
    .none B 0 hB.ok none st none st' trivial hs

/-- general form (any budget): the ticked run is out of fuel, or stopped by a positive statement budget, or the pure run
yields — for every sufficiently large fuel — the same result up to `ResRel` -/
theorem ticked_erasure_gen (B : List SStmt) (hB : ProgOK B) (fuel : Nat) (base : Option String) (st st' : State W)
    (hs : StRel st st') :
    runT₀ cfg fuel B base st = .oof ∨
    (∃ m s, runT₀ cfg fuel B base st = .err (.exceeded m) s ∧ 0 < cfg.maxStatements) ∨
    ∃ r', ResRel (runT₀ cfg fuel B base st) r' ∧ ∃ N, ∀ k, N ≤ k → runS scfg k B st' = r' := by
  have hsim : TSim cfg.maxStatements fuel .none 0 none st.globals
      (execTB cfg (callValue₀ cfg) (execIncludes₀ cfg) false B 0 fuel none base st) (fun k => execSB scfg k B none st') :=
    (blockSim ag htb hhost htab B hB fuel base st st' hs).1 fuel (Nat.lt_succ_self fuel)
  simp only [runT₀]
  rcases hsim.cases with h | ⟨e, s, h, m, rfl, hL⟩ | ⟨o, o', f1, h, _, hr, hev⟩
  · exact Or.inl (by rw [h]; rfl)
  · exact Or.inr (Or.inl ⟨m, s, by rw [h]; rfl, hL⟩)
  · refine Or.inr (Or.inr ⟨toResS o', by rw [h, toRes_withFuel]; exact hr.res, hev.mono fun k hk => ?_⟩)
    rw [runS_eq, hk]

/-- **T3 (forward), unlimited budget.**  If the ticked run terminates (is not out of fuel), the pure run terminates for
every sufficiently large fuel with the same kind of outcome, the same value / error and a related final state. -/
theorem ticked_erasure_forward (hmax : cfg.maxStatements = 0) (B : List SStmt) (hB : ProgOK B) (fuel : Nat)
    (base : Option String) (st st' : State W) (hs : StRel st st') (hterm : runT₀ cfg fuel B base st ≠ .oof) :
    ∃ r', ResRel (runT₀ cfg fuel B base st) r' ∧ ∃ N, ∀ k, N ≤ k → runS scfg k B st' = r' := by
  rcases ticked_erasure_gen ag htb hhost htab B hB fuel base st st' hs with h | ⟨m, s, _, hL⟩ | h
  · exact absurd h hterm
  · exact absurd (hmax ▸ hL) (Nat.lt_irrefl 0)
  · exact h

/-- **T3 (forward), budgeted corollary.**  With any statement budget: a ticked run that terminates and is not stopped by
the budget agrees with the pure reading (the limit test in `tick` is the only place `count` / `maxStatements` matter). -/
theorem ticked_erasure_budget (B : List SStmt) (hB : ProgOK B) (fuel : Nat)
    (base : Option String) (st st' : State W) (hs : StRel st st') (hterm : runT₀ cfg fuel B base st ≠ .oof)
    (hbud : ∀ m s, runT₀ cfg fuel B base st ≠ .err (.exceeded m) s) :
    ∃ r', ResRel (runT₀ cfg fuel B base st) r' ∧ ∃ N, ∀ k, N ≤ k → runS scfg k B st' = r' := by
  rcases ticked_erasure_gen ag htb hhost htab B hB fuel base st st' hs with h | ⟨m, s, h, _⟩ | h
  · exact absurd h hterm
  · exact absurd h (hbud m s)
  · exact h

/-- what the converse components assume, from the forward components -/
theorem conv_of_forward (hmax : cfg.maxStatements = 0) : Conv True cfg scfg (callValue₀ cfg) :=
  ⟨trivial, hmax, fun m => (callCov_all (on := True) ag htb hhost htab.tableOK (m+1)).1 m (Nat.lt_succ_self m)⟩

/-- **T3 (converse), unlimited budget.**  If the pure run terminates (some fuel `k`, result not out-of-fuel), the ticked
run terminates for every sufficiently large fuel, with the same kind of outcome, the same value / error and a related
final state. -/
theorem ticked_erasure_converse (hmax : cfg.maxStatements = 0) (B : List SStmt) (hB : ProgOK B) (k : Nat)
    (base : Option String) (st st' : State W) (hs : StRel st st') (hterm : runS scfg k B st' ≠ .oof) :
    ∃ r, ResRel r (runS scfg k B st') ∧ ∃ N, ∀ f, N ≤ f → runT₀ cfg f B base st = r := by
  rw [runS_eq] at hterm ⊢
  have hc : CSim .none 0 none st.globals (fun f => execTB cfg (callValue₀ cfg) (execIncludes₀ cfg) false B 0 f none base st)
      (execSB scfg k B none st') :=
    (blockSim ag htb hhost htab B hB k base st st' hs).2 (conv_of_forward ag htb hhost htab hmax) k (Nat.lt_succ_self k)
  rcases hc.result with h | h
  · rw [h] at hterm; exact absurd rfl hterm
  · exact h

/-- **T3 `ticked_erasure`** (unlimited budget `maxStatements = 0`).  For every structured program `B` (any size, any
nesting) with `ProgOK B`, every table of structured function definitions with `TablesOK`, every host with
`TruthyBool` and `HostNoReserved`, and related start states (`StRel`: same world, same user-visible globals — the hidden
`__bareScript…` entries and the statement counter are ignored):

* whenever the ticked run terminates, the pure run terminates (for every sufficiently large fuel) with the same kind of
  outcome — normal end / `return` of the same value / the same runtime error — and a related final state
  (same world = same log and heap, same user-visible globals);
* conversely, whenever the pure run terminates, the ticked run terminates (for every sufficiently large fuel) with such
  a result. -/
theorem ticked_erasure (hmax : cfg.maxStatements = 0) (B : List SStmt) (hB : ProgOK B) (base : Option String)
    (st st' : State W) (hs : StRel st st') :
    (∀ fuel, runT₀ cfg fuel B base st ≠ .oof →
      ∃ r', ResRel (runT₀ cfg fuel B base st) r' ∧ ∃ N, ∀ k, N ≤ k → runS scfg k B st' = r') ∧
    (∀ k, runS scfg k B st' ≠ .oof →
      ∃ r, ResRel r (runS scfg k B st') ∧ ∃ N, ∀ f, N ≤ f → runT₀ cfg f B base st = r) :=
  ⟨fun fuel h => ticked_erasure_forward ag htb hhost htab hmax B hB fuel base st st' hs h,
   fun k h => ticked_erasure_converse ag htb hhost htab hmax B hB k base st st' hs h⟩

/-- the two readings terminate on the same inputs -/
theorem termination_iff (hmax : cfg.maxStatements = 0) (B : List SStmt) (hB : ProgOK B) (base : Option String)
    (st st' : State W) (hs : StRel st st') :
    (∃ fuel, runT₀ cfg fuel B base st ≠ .oof) ↔ (∃ k, runS scfg k B st' ≠ .oof) := by
  have h := ticked_erasure ag htb hhost htab hmax B hB base st st' hs
  constructor
  · rintro ⟨fuel, hf⟩
    obtain ⟨r', hr, N, hN⟩ := h.1 fuel hf
    exact ⟨N, by rw [hN N (Nat.le_refl N)]; exact hr.ne_oof.2⟩
  · rintro ⟨k, hk⟩
    obtain ⟨r, hr, N, hN⟩ := h.2 k hk
    exact ⟨N, by rw [hN N (Nat.le_refl N)]; exact hr.ne_oof.1⟩

/-- **T4 `parse_exec_structured`** (unlimited budget).  For every structured program `B` satisfying the hypotheses the
lines a user writes for `B` parse, to a statement list `P` on which `execute_script` (the real machine, with its label
cache) agrees with the pure source-level reading `execS B` in both directions: whenever one of the two terminates, the
other terminates for every sufficiently large fuel with the same kind of outcome, the same returned value / runtime
error, the same world (log, heap, …) and the same user-visible globals.
Composition of T1 (`parseLines_render`), C08 (`cache_transparent`), T2 (`execute₀_lowered`) and T3. -/
theorem parse_exec_structured (hmax : cfg.maxStatements = 0) (B : List SStmt) (hB : ProgOK B) (hfid : FidsInOrder B)
    (base : Option String) (st st' : State W) (hs : StRel st st') :
    ∃ P, parseLines (renderB B) = .ok P ∧
      (∀ fuel, execute cfg fuel P base st ≠ .oof →
        ∃ r', ResRel (execute cfg fuel P base st) r' ∧ ∃ N, ∀ k, N ≤ k → runS scfg k B st' = r') ∧
      (∀ k, runS scfg k B st' ≠ .oof →
        ∃ r, ResRel r (runS scfg k B st') ∧ ∃ N, ∀ f, N ≤ f → execute cfg f P base st = r) := by
  obtain ⟨hP, hE⟩ := execute_parse_eq_runT₀ cfg B hB hfid
  refine ⟨_, hP, ?_⟩
  simp only [hE]
  exact ticked_erasure ag htb hhost htab hmax B hB base { st with count := 0 } st' hs

/-- the forward half, at one fuel -/
theorem parse_exec_structured_forward (hmax : cfg.maxStatements = 0) (B : List SStmt) (hB : ProgOK B) (hfid : FidsInOrder B)
    (fuel : Nat) (base : Option String) (st st' : State W) (hs : StRel st st') :
    ∃ P, parseLines (renderB B) = .ok P ∧
      (execute cfg fuel P base st ≠ .oof →
        ∃ r', ResRel (execute cfg fuel P base st) r' ∧ ∃ N, ∀ k, N ≤ k → runS scfg k B st' = r') :=
  (parse_exec_structured ag htb hhost htab hmax B hB hfid base st st' hs).imp fun _ h => ⟨h.1, h.2.1 fuel⟩

/-- T4 with a statement budget: as long as the machine is not stopped by the budget -/
theorem parse_exec_structured_budget (B : List SStmt) (hB : ProgOK B) (hfid : FidsInOrder B)
    (fuel : Nat) (base : Option String) (st st' : State W) (hs : StRel st st') :
    ∃ P, parseLines (renderB B) = .ok P ∧
      (execute cfg fuel P base st ≠ .oof → (∀ m s, execute cfg fuel P base st ≠ .err (.exceeded m) s) →
        ∃ r', ResRel (execute cfg fuel P base st) r' ∧ ∃ N, ∀ k, N ≤ k → runS scfg k B st' = r') := by
  obtain ⟨hP, hE⟩ := execute_parse_eq_runT₀ cfg B hB hfid
  refine ⟨_, hP, fun hterm hbud => ?_⟩
  rw [hE] at hterm hbud ⊢
  exact ticked_erasure_budget ag htb hhost htab B hB fuel base { st with count := 0 } st' hs hterm hbud

end Main

/-! ## finding F7 and non-vacuity, on a tiny host the kernel can evaluate -/

namespace Tiny

/-- world = the log -/
abbrev TW := List Value

def truthy : Value → TW → Bool
  | .bool b, _ => b
  | .num q, _ => q != 0
  | .null, _ => false
  | _, _ => true

def binop : BinOp → Value → Value → TW → Value
  | .add, .num x, .num y, _ => .num (x + y)
  | .lt, .num x, .num y, _ => .bool (x < y)
  | .eq, .num x, .num y, _ => .bool (x == y)
  | _, _, _, _ => .null

/-- `log(v…)` appends to the log; an "array" is a number `n` standing for `[0, …, n-1]`:
`arrayLength(n) = n`, `arrayGet(n, i) = i` -/
def lib (name : String) (args : List Value) (w : TW) : LibTree TW :=
  if name = "log" then .ret (.ok .null) (w ++ args)
  else if name = "arrayLength" then .ret (.ok (args.head?.getD .null)) w
  else if name = "arrayGet" then .ret (.ok ((args.tail.head?).getD .null)) w
  else .ret (.fail .null) w

def host : Host TW :=
  { truthy := truthy, binop := binop, neg := id, lib := lib, other := fun _ _ w => .ret (.fail .null) w,
    notCallable := fun _ w => w, logFailure := id, newArray := fun _ w => (.null, w), builtin := fun _ => none }

theorem host_truthyBool : TruthyBool host := fun _ _ => rfl

theorem host_noReserved : HostNoReserved host := by
  have ite : ∀ {c : Prop} [Decidable c] {a b : LibTree TW}, TreeOK a → TreeOK b → TreeOK (if c then a else b) :=
    fun ha hb => by split <;> assumption
  exact ⟨fun name args w => ite (.ret _ _) (ite (.ret _ _) (ite (.ret _ _) (.ret _ _))), fun k args w => .ret _ _⟩

private def u (s : String) : Name := .user s
private def var (s : String) : Expr := .variable (u s)
private def call (f : String) (args : List Expr) : Expr := .function (u f) args

def st0 : State TW :=
  { globals := [(u "log", .fn (.lib "log")), (u "arrayLength", .fn (.lib "arrayLength")),
                (u "arrayGet", .fn (.lib "arrayGet"))],
    world := [], count := 0 }

def resWorld {W : Type} : Res W → Option W
  | .done s => some s.world
  | .ret _ s => some s.world
  | .err _ s => some s.world
  | .oof => none

theorem resWorld_rel {W : Type} {r r' : Res W} (h : ResRel r r') : resWorld r = resWorld r' := by
  cases r <;> cases r' <;> simp only [ResRel] at h
  · exact congrArg some h.1
  · exact congrArg some h.2.1
  · exact congrArg some h.2.1

/-! ### F7: `continue` in a `while` -/

/-- `i = 0; while i < 1: (i = i + 1; log(i); if i < 3: continue)` -/
def f7Prog : List SStmt := [
  .expr (some (u "i")) (.number 0),
  .while (.binary .lt (var "i") (.number 1)) [
    .expr (some (u "i")) (.binary .add (var "i") (.number 1)),
    .expr none (call "log" [var "i"]),
    .ite (.binary .lt (var "i") (.number 3)) [.cont] .none ] ]

def f7Cfg : Config TW := { host := host, funs := fun _ => none, maxStatements := 0 }
def f7SCfg : SConfig TW := { host := host, sfuns := fun _ => none }

/-- **finding F7 `while_continue_counterexample`**: on a program with a `continue` whose innermost loop is a `while`
(the only hypothesis of `ProgOK` it violates) the two semantics genuinely differ: the pure reading re-tests the condition
after `continue` and logs `1`; the ticked semantics — hence, by T2, the jump machine on the lowered code — restarts the
body without the test and logs `1 2 3`. -/
theorem while_continue_counterexample :
    NoWhileContinueB false f7Prog = false ∧
    resWorld (runS f7SCfg 100 f7Prog st0) = some [.num 1] ∧
    resWorld (runT₀ f7Cfg 100 f7Prog none st0) = some [.num 1, .num 2, .num 3] ∧
    resWorld (execute₀ f7Cfg 100 (lowerProgram f7Prog) none st0) = some [.num 1, .num 2, .num 3] := by
  have hT : resWorld (runT₀ f7Cfg 100 f7Prog none st0) = some [.num 1, .num 2, .num 3] := by decide +kernel
  refine ⟨by decide, by decide +kernel, hT, ?_⟩
  rw [execute₀_lowered f7Cfg none f7Prog (by simp only [f7Prog, NoRawB, NoRawS, NoRawE, and_self])]
  exact hT

/-! ### non-vacuity: `if / elif / else` in a `while`, and a `for` with `continue`, in a function -/

/-- `function f(n): k = 0; acc = 0; while k < n: (if k == 0: acc = acc + 1 elif k == 1: acc = acc + 10 else: acc = acc + 100;
k = k + 1); for x in 3: (if x == 1: continue; log(x)); return acc` -/
def fBody : List SStmt := [
  .expr (some (u "k")) (.number 0),
  .expr (some (u "acc")) (.number 0),
  .while (.binary .lt (var "k") (var "n")) [
    .ite (.binary .eq (var "k") (.number 0)) [.expr (some (u "acc")) (.binary .add (var "acc") (.number 1))]
      (.elif (.binary .eq (var "k") (.number 1)) [.expr (some (u "acc")) (.binary .add (var "acc") (.number 10))]
        (.els [.expr (some (u "acc")) (.binary .add (var "acc") (.number 100))])),
    .expr (some (u "k")) (.binary .add (var "k") (.number 1)) ],
  .for (u "x") none (.number 3) [
    .ite (.binary .eq (var "x") (.number 1)) [.cont] .none,
    .expr none (call "log" [var "x"]) ],
  .ret (some (var "acc")) ]

def fDef : SFuncDef := { name := u "f", args := [u "n"], lastArgArray := false, body := fBody }

/-- `function f … ; r = f(3); log(r)` -/
def nvProg : List SStmt := [
  .func 0 (u "f") [u "n"] false false fBody,
  .expr (some (u "r")) (call "f" [.number 3]),
  .expr none (call "log" [var "r"]) ]

def nvSCfg : SConfig TW := { host := host, sfuns := fun id => if id = 0 then some fDef else none }
def nvStart : FnId → Nat := fun _ => 0
def nvCfg : Config TW :=
  { host := host, funs := fun id => (nvSCfg.sfuns id).map (lowerDef (nvStart id)), maxStatements := 0 }

theorem nv_agree : Agree nvCfg nvSCfg nvStart := ⟨rfl, rfl, rfl, fun _ => rfl⟩

theorem nv_progOK : ProgOK nvProg :=
  ⟨by simp only [nvProg, fBody, NoRawB, NoRawS, NoRawE, and_self], by decide, by decide, by decide, by decide⟩

theorem nv_tablesOK : TablesOK nvSCfg := by
  intro id d hd
  simp only [nvSCfg] at hd
  split at hd
  · cases hd
    exact ⟨by simp only [fDef, fBody, NoRawB, NoRawS, NoRawE, and_self], by decide, by decide, by decide, by decide, by decide⟩
  · cases hd

/-- the hypotheses of T3 / T4 are inhabited by a non-trivial instance -/
example (base : Option String) (st' : State TW) (hs : StRel st0 st') :=
  ticked_erasure nv_agree host_truthyBool host_noReserved nv_tablesOK rfl nvProg nv_progOK base st0 st' hs
example (base : Option String) (st' : State TW) (hs : StRel st0 st') :=
  parse_exec_structured nv_agree host_truthyBool host_noReserved nv_tablesOK rfl nvProg nv_progOK (by decide) base st0 st' hs

/-- the same with a statement budget -/
def nvCfgB (max : Nat) : Config TW :=
  { host := host, funs := fun id => (nvSCfg.sfuns id).map (lowerDef (nvStart id)), maxStatements := max }

theorem nv_agreeB (max : Nat) : Agree (nvCfgB max) nvSCfg nvStart := ⟨rfl, rfl, rfl, fun _ => rfl⟩

example (max fuel : Nat) (base : Option String) (st' : State TW) (hs : StRel st0 st') :=
  ticked_erasure_budget (nv_agreeB max) host_truthyBool host_noReserved nv_tablesOK nvProg nv_progOK fuel base st0 st' hs
example (max fuel : Nat) (base : Option String) (st' : State TW) (hs : StRel st0 st') :=
  parse_exec_structured_budget (nv_agreeB max) host_truthyBool host_noReserved nv_tablesOK nvProg nv_progOK (by decide) fuel base
    st0 st' hs

private def isExceeded {W : Type} : Res W → Bool
  | .err (.exceeded _) _ => true
  | _ => false

/-- why the budgeted corollary excludes `exceeded`: with `maxStatements = 20` the ticked run is stopped by the budget
(the pure run has none and finishes: `nv_runS`); with 200 it finishes with the same log -/
example : isExceeded (runT₀ (nvCfgB 20) 1000 nvProg none st0) = true ∧
    resWorld (runT₀ (nvCfgB 200) 1000 nvProg none st0) = some [.num 0, .num 2, .num 111] := by
  decide +kernel

theorem nv_runS : resWorld (runS nvSCfg 100 nvProg st0) = some [.num 0, .num 2, .num 111] := by decide +kernel

/-- the pure reading: `f(3)` logs `0`, `2` (the `for` skips `1`), returns 111, which the script logs -/
example : resWorld (runS nvSCfg 100 nvProg st0) = some [.num 0, .num 2, .num 111] := nv_runS

/-- … and so does the label-caching jump machine on the parsed text: by the theorem, not by running it -/
example : ∃ P, parseLines (renderB nvProg) = .ok P ∧
    ∃ N, ∀ f, N ≤ f → resWorld (execute nvCfg f P none st0) = some [.num 0, .num 2, .num 111] := by
  obtain ⟨P, hP, _, hconv⟩ := parse_exec_structured nv_agree host_truthyBool host_noReserved nv_tablesOK rfl nvProg
    nv_progOK (by decide) none st0 st0 (StRel.refl st0)
  have hne : runS nvSCfg 100 nvProg st0 ≠ .oof := by intro h; have := nv_runS; rw [h] at this; cases this
  obtain ⟨r, hr, N, hN⟩ := hconv 100 hne
  exact ⟨P, hP, N, fun f hf => by rw [hN f hf, resWorld_rel hr]; exact nv_runS⟩

end Tiny

end C01

