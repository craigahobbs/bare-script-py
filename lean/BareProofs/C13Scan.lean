import BareProofs.C13Lemmas
import BareProofs.C02Chars

/-!
# C13Scan — one number scanner

`ExprScan.scanNumber` (the literal scanner of the expression parser model) is `NumText.scanTok true` (C13's model of
`_R_EXPR_NUMBER`) followed by `Tok.val`, on EVERY text (`scanNumber_eq_numCore`, `numCore_eq_scanTok`).  The module stands on
`C13Lemmas` and the table side of the scanner's classes (`C02Chars`) alone, below `C02Lemmas`: the scanner lemmas there and
everything above them know the expression number scanner only as `C13.scanTok_sound` and `C13.scanTok_text_rest` read through this
equation (`C02.scanNumber_tok`).  The two scanners are compared component by component: white space class, digit class and digit
value (two independently frozen Unicode tables: the 64 runs of `Rx.digitRanges` against the 67 zero digits of `NumText.uniZeros`),
sign, integer digits, fraction, exponent, and the value (`ExprScan.decVal` against `NumText.Tok.val`).
-/

namespace C13Bridge
open NumText C13

/-- the two models of regex `\s` are the same set (29 code points) -/
theorem isPySpace_eq (c : Char) : ExprScan.isPySpace c = isReSpace c := by
  have h : ∀ n : Nat, (28 ≤ n && n ≤ 32) = (decide (n = 32) || decide (28 ≤ n ∧ n ≤ 31)) := by
    intro n; rw [Bool.eq_iff_iff]; simp only [Bool.and_eq_true, Bool.or_eq_true, decide_eq_true_eq]; omega
  simp only [ExprScan.isPySpace, isReSpace, isUniSpace, h, Bool.decide_or, Bool.decide_and, Bool.beq_eq_decide_eq]
  ac_rfl

theorem isPySpace_fun : ExprScan.isPySpace = isReSpace := funext isPySpace_eq

/-! `Rx.digitRanges` lists runs of digits, `NumText.uniZeros` the zero digit of every block `0..9`.  Cut into blocks of ten
the runs are those blocks (`runs_eq_zeros`), and the blocks do not overlap (`zeros_apart`): the rest is arithmetic. -/

/-- the zero digits of the blocks `0..9` a run consists of -/
def runZeros (r : Nat × Nat) : List Nat := (List.range ((r.2 + 1 - r.1) / 10)).map (fun k => r.1 + 10 * k)

theorem runs_eq_zeros : Rx.digitRanges.flatMap runZeros = 48 :: uniZeros := by decide

theorem runs_whole : ∀ r ∈ Rx.digitRanges, (r.2 + 1 - r.1) % 10 = 0 := by decide

theorem zeros_apart : (48 :: uniZeros).Pairwise (fun a b => a + 10 ≤ b) := by decide +kernel

theorem uniZeros_ge : ∀ z ∈ uniZeros, 128 ≤ z := by decide

theorem mem_zeros {z : Nat} :
    z ∈ 48 :: uniZeros ↔ ∃ r ∈ Rx.digitRanges, ∃ k, k < (r.2 + 1 - r.1) / 10 ∧ r.1 + 10 * k = z := by
  simp only [← runs_eq_zeros, runZeros, List.mem_flatMap, List.mem_map, List.mem_range]

theorem block_unique {l : List Nat} (hl : l.Pairwise (fun a b => a + 10 ≤ b)) {z z' n : Nat} (hz : z ∈ l) (hz' : z' ∈ l)
    (h : z ≤ n ∧ n < z + 10) (h' : z' ≤ n ∧ n < z' + 10) : z = z' := by
  induction hl with
  | nil => cases hz
  | cons hall _ ih =>
    rcases List.mem_cons.mp hz with rfl | ht <;> rcases List.mem_cons.mp hz' with rfl | ht'
    · rfl
    · have := hall _ ht'; omega
    · have := hall _ ht; omega
    · exact ih ht ht'

theorem decDigit?_eq_some {c : Char} {d : Nat} :
    decDigit? c = some d ↔ ∃ z ∈ 48 :: uniZeros, z ≤ c.toNat ∧ c.toNat < z + 10 ∧ d = c.toNat - z := by
  have hfind : ∀ z, uniZeros.find? (fun z => decide (z ≤ c.toNat ∧ c.toNat < z + 10)) = some z →
      z ∈ uniZeros ∧ z ≤ c.toNat ∧ c.toNat < z + 10 := by
    intro z hf
    exact ⟨List.mem_of_find?_eq_some hf, by simpa using List.find?_some hf⟩
  simp only [decDigit?, isAsciiDigit, decide_eq_true_eq]
  constructor
  · intro h
    split at h
    · exact ⟨48, List.mem_cons_self .., by omega, by omega, by simpa using h.symm⟩
    · split at h
      · cases h
      · obtain ⟨z, hf, rfl⟩ := Option.map_eq_some_iff.mp h
        exact ⟨z, List.mem_cons_of_mem _ (hfind z hf).1, (hfind z hf).2.1, (hfind z hf).2.2, rfl⟩
  · rintro ⟨z, hz, h1, h2, rfl⟩
    rcases List.mem_cons.mp hz with rfl | hu
    · rw [if_pos (by omega)]
    · have := uniZeros_ge z hu
      rw [if_neg (by omega), if_neg (by omega)]
      -- `find?` returns the first block that holds `c`; there is only one
      cases hf : uniZeros.find? (fun z => decide (z ≤ c.toNat ∧ c.toNat < z + 10)) with
      | none =>
        have := List.find?_eq_none.mp hf z hu
        simp only [decide_eq_true_eq] at this
        exact absurd ⟨h1, h2⟩ this
      | some z' =>
        rw [block_unique zeros_apart hz (List.mem_cons_of_mem _ (hfind z' hf).1) ⟨h1, h2⟩ (hfind z' hf).2]
        rfl

theorem run_digit {r : Nat × Nat} (hr : r ∈ Rx.digitRanges) {c : Char} (h1 : r.1 ≤ c.toNat) (h2 : c.toNat ≤ r.2) :
    decDigit? c = some ((c.toNat - r.1) % 10) := by
  have hw := runs_whole r hr
  exact decDigit?_eq_some.mpr ⟨r.1 + 10 * ((c.toNat - r.1) / 10), mem_zeros.mpr ⟨r, hr, _, by omega, rfl⟩,
    by omega, by omega, by omega⟩

theorem digit_run {c : Char} {d : Nat} (h : decDigit? c = some d) : ExprScan.isDigit c = true := by
  obtain ⟨z, hz, h1, h2, _⟩ := decDigit?_eq_some.mp h
  obtain ⟨r, hr, k, hk, rfl⟩ := mem_zeros.mp hz
  exact C02.isDigit_iff.mpr ⟨r, hr, by omega, by omega⟩

/-- **one digit class**: `ExprScan.isDigit` (table `Rx.digitRanges`) and `NumText.isDig` (table `NumText.uniZeros`) are the same
set of characters -/
theorem isDigit_eq_isDig (c : Char) : ExprScan.isDigit c = isDig c := by
  cases hd : ExprScan.isDigit c with
  | true =>
    obtain ⟨r, hr, h1, h2⟩ := C02.isDigit_iff.mp hd
    simp only [isDig, run_digit hr h1 h2, Option.isSome_some]
  | false =>
    cases hg : decDigit? c with
    | none => simp only [isDig, hg, Option.isSome_none]
    | some d => rw [digit_run hg] at hd; cases hd

theorem isDigit_fun : ExprScan.isDigit = isDig := funext isDigit_eq_isDig

/-- **one digit value**: offset in the run modulo 10 = offset from the zero digit of the block -/
theorem digitVal_eq_digVal (c : Char) : ExprScan.digitVal c = digVal c := by
  unfold ExprScan.digitVal digVal
  split
  · rename_i r hf
    have hp := List.find?_some hf
    simp only [Bool.and_eq_true, decide_eq_true_eq] at hp
    rw [run_digit (List.mem_of_find?_eq_some hf) hp.1 hp.2]; rfl
  · rename_i hf
    cases hg : decDigit? c with
    | none => rfl
    | some d =>
      obtain ⟨r, hr, h1, h2⟩ := C02.isDigit_iff.mp (digit_run hg)
      have := List.find?_eq_none.mp hf r hr
      simp [h1, h2] at this

theorem digitsVal_foldl (l : List Char) (a : Nat) :
    l.foldl (fun a c => 10 * a + ExprScan.digitVal c) a = l.foldl (fun a c => a * 10 + digVal c) a := by
  induction l generalizing a with
  | nil => rfl
  | cons c l ih =>
    simp only [List.foldl_cons]
    rw [digitVal_eq_digVal, Nat.mul_comm 10 a]
    exact ih _

theorem digitsVal_eq_natOf (l : List Char) : ExprScan.digitsVal l = natOf l :=
  digitsVal_foldl l 0

theorem natOf_append (a b : List Char) : natOf (a ++ b) = natOf a * 10 ^ b.length + natOf b :=
  TextRun.foldl_pos_append digVal a b

theorem scale (x y A C : Rat) (hA : A ≠ 0) : (x + y / A) * (A * C) = (x * A + y) * C := by
  have : A * A⁻¹ = 1 := Rat.mul_inv_cancel A hA
  grind

theorem arith (I F k : Nat) (z : Int) :
    ((I : Rat) + (F : Rat) / (10 : Rat) ^ k) * (10 : Rat) ^ z =
      (if 0 ≤ z - (k : Int) then ((((I * 10 ^ k + F : Nat) : Int) * (10 : Int) ^ (z - (k : Int)).toNat : Int) : Rat)
       else mkRat ((I * 10 ^ k + F : Nat) : Int) (10 ^ (-(z - (k : Int))).toNat)) := by
  have hA : (10 : Rat) ^ k ≠ 0 := by
    have := Rat.pow_pos (a := (10:Rat)) (n := k) (by decide); grind
  have h10 : (10 : Rat) ≠ 0 := by decide
  have c1 : (((I : Nat) : Int) : Rat) = (I : Rat) := rfl
  have c2 : (((F : Nat) : Int) : Rat) = (F : Rat) := rfl
  split
  · rename_i h
    obtain ⟨n, hn⟩ : ∃ n : Nat, z = (k : Int) + n := ⟨(z - k).toNat, by omega⟩
    subst hn
    have e : ((k : Int) + (n : Int) - (k : Int)).toNat = n := by omega
    rw [e, Rat.zpow_add h10, Rat.zpow_natCast, Rat.zpow_natCast]
    simp
    rw [c1, c2]
    exact scale _ _ _ _ hA
  · rename_i h
    obtain ⟨n, hn⟩ : ∃ n : Nat, z = (k : Int) + -(n : Int) := ⟨(-(z - k)).toNat, by omega⟩
    subst hn
    have e : (-((k : Int) + -(n : Int) - (k : Int))).toNat = n := by omega
    rw [e, Rat.zpow_add h10, Rat.zpow_neg, Rat.zpow_natCast, Rat.zpow_natCast, Rat.mkRat_eq_div]
    simp
    rw [c1, c2, Rat.div_def _ ((10 : Rat) ^ n)]
    exact scale _ _ _ _ hA

/-- **one value**: the rational `ExprScan.decVal` computes from the pieces of a literal is the value `NumText.Tok.val`
of the literal (any characters: both sides read a non-digit as 0) -/
theorem val_bridge (sg : Sign) (ip : List Char) (fr : Option (List Char)) (ex : Option ExpPart) :
    ExprScan.decVal (decide (sg = .minus)) ip (fr.getD []) (expVal ex) = Tok.val ⟨sg, ip, fr, ex⟩ := by
  have hfv : fracVal fr = (natOf (fr.getD []) : Rat) / (10 : Rat) ^ (fr.getD []).length := by
    cases fr with
    | none => simp [fracVal, natOf]; grind
    | some fp => rfl
  have hm : ExprScan.digitsVal (ip ++ fr.getD []) = natOf ip * 10 ^ (fr.getD []).length + natOf (fr.getD []) := by
    rw [digitsVal_eq_natOf, natOf_append]
  have key := arith (natOf ip) (natOf (fr.getD [])) (fr.getD []).length (expVal ex)
  simp only [Tok.val, hfv, ExprScan.decVal, hm]
  rw [← key]
  by_cases hs : sg = .minus
  · simp [hs, signVal]; grind
  · simp [hs, signVal]

theorem scanSign_bridge (l : List Char) :
    ExprScan.scanSign l = (decide ((NumText.scanSign l).1 = .minus), (NumText.scanSign l).2) := by
  cases l with
  | nil => rfl
  | cons c r =>
    simp only [ExprScan.scanSign, NumText.scanSign]
    by_cases h1 : c = '+'
    · simp [h1]
    · by_cases h2 : c = '-'
      · simp [h2]
      · simp [h1, h2]

theorem scanFrac_bridge (l : List Char) :
    ExprScan.scanFrac l = (((NumText.scanFrac l).1).getD [], (NumText.scanFrac l).2) := by
  cases l with
  | nil => rfl
  | cons c r =>
    simp only [ExprScan.scanFrac, NumText.scanFrac]
    by_cases h1 : c = '.'
    · simp [h1, isDigit_fun]
    · simp [h1]

theorem scanExp_bridge (l : List Char) :
    ExprScan.scanExp l = (expVal (NumText.scanExp true l).1, (NumText.scanExp true l).2) := by
  match l with
  | [] => rfl
  | [c] =>
    simp only [ExprScan.scanExp, NumText.scanExp]
    by_cases hc : c = 'e'
    · simp [hc, NumText.scanSign, expVal]
    · simp [hc, expVal]
  | c :: s :: r =>
    simp only [ExprScan.scanExp, NumText.scanExp]
    by_cases hc : c = 'e'
    · subst hc
      by_cases hp : s = '+'
      · subst hp
        by_cases hne : r.takeWhile isDig = []
        · simp [NumText.scanSign, isDigit_fun, hne, expVal]
        · simp [NumText.scanSign, isDigit_fun, hne, expVal, ExpPart.val, digitsVal_eq_natOf]
      · by_cases hm : s = '-'
        · subst hm
          by_cases hne : r.takeWhile isDig = []
          · simp [NumText.scanSign, isDigit_fun, hne, expVal]
          · simp [NumText.scanSign, isDigit_fun, hne, expVal, ExpPart.val, digitsVal_eq_natOf]
        · simp [NumText.scanSign, hp, hm, expVal]
    · simp [hc, expVal]

/-- `ExprScan.scanNumber` behind its leading white space.  (`C10.numCore`, above `C02Lemmas`, is this function written once
more; `C06Regex.numCore` is another: the digits, fraction digits and exponent of a literal without its sign.) -/
def numCore (t : List Char) : Option (Rat × List Char) :=
  let (neg, t1) := ExprScan.scanSign t
  let ip := t1.takeWhile ExprScan.isDigit
  if ip.isEmpty then none
  else
    let (fp, t3) := ExprScan.scanFrac (t1.dropWhile ExprScan.isDigit)
    let (ex, t4) := ExprScan.scanExp t3
    some (ExprScan.decVal neg ip fp ex, t4)

theorem scanNumber_eq_numCore (t : List Char) : ExprScan.scanNumber t = numCore (t.dropWhile isReSpace) := by
  show numCore (ExprScan.skipWs t) = _
  rw [ExprScan.skipWs, isPySpace_fun]

/-- **one scanner**: on EVERY text the hand-written number scanner of the expression parser model returns the value of the
literal C13's model of `_R_EXPR_NUMBER` matches, and the same rest -/
theorem numCore_eq_scanTok (l : List Char) :
    numCore l = (scanTok true l).map (fun p => (p.1.val, p.2)) := by
  unfold numCore scanTok
  rw [scanSign_bridge l]
  generalize NumText.scanSign l = sr
  obtain ⟨sg, t1⟩ := sr
  simp only
  rw [isDigit_fun, scanFrac_bridge]
  generalize NumText.scanFrac (t1.dropWhile isDig) = fr
  obtain ⟨fo, t3⟩ := fr
  simp only
  rw [scanExp_bridge]
  generalize NumText.scanExp true t3 = er
  obtain ⟨eo, t4⟩ := er
  simp only
  by_cases hip : t1.takeWhile isDig = []
  · simp [hip]
  · simp [hip, val_bridge sg _ fo eo]

end C13Bridge
