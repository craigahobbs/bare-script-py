import BareProofs.C06Regex3Lemmas
import BareModel.ExprScan

/-!
# C06Regex4Lemmas — `quoteEnd` = the scanner's reading of a quoted url; `re.sub` of the escape pattern; pieces for `function`
-/

namespace C06Regex
open Rx Text Scan RxPatterns

/-! ## equations of `quotesEscaped` / `unescapeQuote` on variable heads -/

theorem qe_quote (b : Chars) : quotesEscaped ('\'' :: b) = false := by simp [quotesEscaped]
theorem qe_bs_quote (b : Chars) : quotesEscaped ('\\' :: '\'' :: b) = quotesEscaped b := by simp [quotesEscaped]
theorem qe_bs_nil : quotesEscaped ['\\'] = true := by simp [quotesEscaped]
theorem qe_bs_other (d : Char) (b : Chars) (hd : ¬ d = '\'') : quotesEscaped ('\\' :: d :: b) = quotesEscaped (d :: b) := by
  rw [quotesEscaped.eq_def]
  have hne : ∀ r, '\\' :: d :: b = '\\' :: '\'' :: r → False := fun r h => hd (List.cons.inj (List.cons.inj h).2).1
  simp [hd]
theorem qe_other (c : Char) (b : Chars) (hq : ¬ c = '\'') (hc : ¬ c = '\\') : quotesEscaped (c :: b) = quotesEscaped b := by
  rw [quotesEscaped.eq_def]
  simp [hc]

theorem uq_bs_bs (r : Chars) : unescapeQuote ('\\' :: '\\' :: r) = '\\' :: unescapeQuote r := by simp [unescapeQuote]
theorem uq_bs_quote (r : Chars) : unescapeQuote ('\\' :: '\'' :: r) = '\'' :: unescapeQuote r := by simp [unescapeQuote]
theorem uq_bs_nil : unescapeQuote ['\\'] = ['\\'] := by simp [unescapeQuote]
theorem uq_bs_other (d : Char) (r : Chars) (h1 : ¬ d = '\\') (h2 : ¬ d = '\'') :
    unescapeQuote ('\\' :: d :: r) = '\\' :: unescapeQuote (d :: r) := by
  rw [unescapeQuote.eq_def]
  simp [h1, h2]
theorem uq_other (c : Char) (r : Chars) (hc : ¬ c = '\\') : unescapeQuote (c :: r) = c :: unescapeQuote r := by
  rw [unescapeQuote.eq_def]
  simp [hc]

/-! ## `quoteEnd` = "the closing quote is the last non-blank and every quote of the body is escaped" -/

theorem quoteEnd_allSpace : ∀ u : Chars, allSpace u = true → quoteEnd u = none
  | [], _ => rfl
  | c :: t, h => by
    simp only [allSpace, List.all_cons, Bool.and_eq_true] at h
    rw [quoteEnd_other c t (fun e => absurd (e ▸ h.1) (by decide)) (fun e => absurd (e ▸ h.1) (by decide)),
      quoteEnd_allSpace t h.2]; rfl

theorem not_allSpace_quote (b tr : Chars) : allSpace (b ++ '\'' :: tr) = false := by
  simp [allSpace, show isSpace '\'' = false from by decide]

theorem quoteEnd_decomp (tr : Chars) (htr : allSpace tr = true) :
    ∀ body : Chars, quoteEnd (body ++ '\'' :: tr) = if quotesEscaped body then some body.length else none
  | [] => by rw [List.nil_append, quoteEnd_quote, htr]; rfl
  | c :: b => by
    rw [List.cons_append]
    by_cases hq : c = '\''
    · subst hq
      rw [quoteEnd_quote, not_allSpace_quote, qe_quote]; rfl
    · by_cases hc : c = '\\'
      · subst hc
        cases b with
        | nil => rw [List.nil_append, quoteEnd_bs_quote, quoteEnd_allSpace tr htr, quoteEnd_quote, htr, qe_bs_nil]; rfl
        | cons d b' =>
          rw [List.cons_append]
          by_cases hd : d = '\''
          · subst hd
            rw [quoteEnd_bs_quote, quoteEnd_decomp tr htr b', quoteEnd_quote, not_allSpace_quote, qe_bs_quote]
            cases quotesEscaped b' <;> rfl
          · rw [quoteEnd_bs_other d _ hd, ← List.cons_append, quoteEnd_decomp tr htr (d :: b'), qe_bs_other d b' hd]
            cases quotesEscaped (d :: b') <;> rfl
      · rw [quoteEnd_other c _ hq hc, quoteEnd_decomp tr htr b, qe_other c b hq hc]
        cases quotesEscaped b <;> rfl

theorem closing_cons (c : Char) {t : Chars} {n : Nat} (h : ∃ tr, allSpace tr = true ∧ t = t.take n ++ '\'' :: tr) :
    ∃ tr, allSpace tr = true ∧ c :: t = (c :: t).take (n + 1) ++ '\'' :: tr := by
  obtain ⟨tr, h1, h2⟩ := h
  exact ⟨tr, h1, by rw [List.take_succ_cons, List.cons_append, ← h2]⟩

theorem quoteEnd_sound : ∀ (u : Chars) (n : Nat), quoteEnd u = some n → ∃ tr, allSpace tr = true ∧ u = u.take n ++ '\'' :: tr
  | [], _, h => by cases h
  | c :: t, n, h => by
    -- the quote found in the rest `t` of the text, one further
    have hstep : (quoteEnd t).map (· + 1) = some n → ∃ tr, allSpace tr = true ∧ c :: t = (c :: t).take n ++ '\'' :: tr := fun h => by
      cases ha : quoteEnd t with
      | none => rw [ha] at h; cases h
      | some a =>
        rw [ha] at h
        cases h
        exact closing_cons c (quoteEnd_sound t a ha)
    by_cases hq : c = '\''
    · subst hq
      rw [quoteEnd_quote] at h
      split at h
      · rename_i ha; cases h; exact ⟨t, ha, rfl⟩
      · cases h
    · by_cases hc : c = '\\'
      · subst hc
        cases t with
        | nil => rw [quoteEnd_bs_nil] at h; cases h
        | cons d t' =>
          by_cases hd : d = '\''
          · subst hd
            rw [quoteEnd_bs_quote] at h
            cases ha : quoteEnd t' with
            | some a =>
              rw [ha] at h
              cases h
              exact closing_cons _ (closing_cons _ (quoteEnd_sound t' a ha))
            | none =>
              rw [ha] at h
              exact hstep h
          · rw [quoteEnd_bs_other d t' hd] at h
            exact hstep h
      · rw [quoteEnd_other c _ hq hc] at h
        exact hstep h

/-- no closing quote as last non-blank: the star cannot succeed -/
theorem quoteEnd_none_of_rev {t : Chars} (h : ∀ br, t.reverse.dropWhile isSpace ≠ '\'' :: br) : quoteEnd t = none := by
  cases hq : quoteEnd t with
  | none => rfl
  | some n =>
    obtain ⟨tr, h1, h2⟩ := quoteEnd_sound t n hq
    exact absurd (h2 ▸ rstrip_cons_of_decomp (by decide) _ _ h1) (h _)

/-! ## `re.sub(r'\\([\\q])', r'\1', raw)` = `ExprScan.unescape q` -/

/-- `\\([\\q])` (the spelling of `q` in the class: escaped or not) -/
def escQ (e : Bool) (q : Char) : Rx := elit '\\' ⬝ .cap 1 none (.one (.cls false [.ch true '\\', .ch e q]))

theorem escQ_cls_test (e : Bool) (q x : Char) : (Atom.cls false [.ch true '\\', .ch e q]).test x = (x == '\\' || x == q) := by
  simp only [Atom.test, Item.test, List.any_cons, List.any_nil, Bool.or_false]
  cases (x == '\\' || x == q) <;> rfl

theorem escQ_match (e : Bool) (q c : Char) (t : Chars) :
    matchFrom (escQ e q) 0 (c :: t) =
      if c = '\\' then
        match t with
        | x :: t' => if x = '\\' ∨ x = q then some ⟨2, t', [(1, 1, 2)]⟩ else none
        | [] => none
      else none := by
  unfold matchFrom escQ elit
  rw [seq_m, one_m', step_lit]
  by_cases hc : c = '\\'
  · simp only [hc, if_true, cap_m, one_m']
    unfold step
    cases t with
    | nil => rfl
    | cons x t' =>
      simp only [escQ_cls_test]
      by_cases h1 : x = '\\'
      · simp [h1]
      · by_cases h2 : x = q
        · simp [h2]
        · simp [h1, h2]
  · simp [hc]

theorem sub1Aux_escQ (e : Bool) (q : Char) : ∀ (fuel : Nat) (s : Chars), s.length ≤ fuel →
    sub1Aux (escQ e q) fuel s = ExprScan.unescape q s
  | 0, s, h => by
    have : s = [] := List.length_eq_zero_iff.mp (by omega)
    subst this; simp [sub1Aux, ExprScan.unescape]
  | n + 1, [], _ => by simp [sub1Aux, ExprScan.unescape]
  | n + 1, c :: t, h => by
    have iht := sub1Aux_escQ e q n t (by simpa using h)
    rw [sub1Aux, escQ_match, ExprScan.unescape.eq_def]
    by_cases hc : c = '\\'
    · subst hc
      simp only [if_true]
      cases t with
      | nil => simp [iht, ExprScan.unescape]
      | cons x t' =>
        have iht' := sub1Aux_escQ e q n t' (by simp at h; omega)
        by_cases h1 : x = '\\'
        · subst h1
          simp [St.group, St.span, List.lookup, slice, iht']
        · by_cases h2 : x = q
          · subst h2
            simp [St.group, St.span, List.lookup, slice, iht']
          · simp [h1, h2, iht]
    · simp [hc, iht]

theorem sub1_escQ (e : Bool) (q : Char) (s : Chars) : sub1 (escQ e q) s = ExprScan.unescape q s :=
  sub1Aux_escQ e q _ s (Nat.le_refl _)

/-! ## `_R_EXPR_STRING_ESCAPE.sub('\\1', url)` = `Scan.unescapeQuote` -/

theorem unescapeQuote_eq : ∀ s : Chars, unescapeQuote s = ExprScan.unescape '\'' s
  | [] => rfl
  | c :: t => by
    rw [ExprScan.unescape.eq_def]
    simp only []
    by_cases hc : c = '\\'
    · subst hc
      rw [if_pos rfl]
      cases t with
      | nil => exact uq_bs_nil
      | cons d t' =>
        by_cases h1 : d = '\\'
        · subst h1; rw [uq_bs_bs, unescapeQuote_eq t']; rfl
        · by_cases h2 : d = '\''
          · subst h2; rw [uq_bs_quote, unescapeQuote_eq t']; rfl
          · rw [uq_bs_other d t' h1 h2, unescapeQuote_eq (d :: t')]; simp [h1, h2]
    · rw [if_neg hc, uq_other c t hc, unescapeQuote_eq t]

theorem sub1_esc (s : Chars) : sub1 exprStringEscape s = unescapeQuote s :=
  (sub1_escQ true '\'' s).trans (unescapeQuote_eq s).symm

/-! ## the quoted url -/

/-- `(?P<url>(?:\\'|[^'])*)'\s*$` -/
theorem quoted_tail (q : Nat) (t : Chars) (caps : List (Nat × Nat × Nat)) (h : '\n' ∉ t) :
    (Rx.cap 2 (some "url") (.star quoteB) ⬝ elit '\'' ⬝ ws ⬝ Rx.eol).m ⟨q, t, caps⟩ some =
      (quoteEnd t).map (fun n => ⟨q + t.length, [], (2, q, q + n) :: caps⟩) := by
  rw [seq_m, cap_m, star_m]
  exact quote_loop q _ q t caps (Nat.le_refl _) h

theorem ws1?_drop {r r' : Chars} (h : ws1? r = some r') : r.drop (nameOff r) = r' := by
  cases r with
  | nil => simp [ws1?] at h
  | cons c r0 =>
    by_cases hc : isSpace c = true
    · simp only [ws1?, hc, if_true, Option.some.injEq] at h
      simp only [nameOff, List.tail_cons, Nat.add_comm 1, List.drop_succ_cons, drop_length_takeWhile]
      exact h
    · simp [ws1?, hc] at h

/-! ## `function`: the starred `(?:\s*,\s*ident)*` = `Scan.argsLoop` -/

/-- `(?:\s*,\s*[A-Za-z_]\w*)` -/
def argIter : Rx := .ncg (ws ⬝ lit ',' ⬝ ws ⬝ ident)

theorem argIter_m (st : St) (K'' : K) (hw : RejectsHead isWord K'') :
    argIter.m st K'' = match lstripL st.rest with
      | x :: r1 =>
        if x = ',' then
          match ident? (lstripL r1) with
          | some (a, r2) =>
            K'' ⟨st.pos + (st.rest.takeWhile isSpace).length + 1 + (r1.takeWhile isSpace).length + a.length, r2, st.caps⟩
          | none => none
        else none
      | [] => none := by
  rw [argIter, ncg_m, lit, ws_lit_ws_det false ',' (by decide) _ (avoids_ident fun _ => space_not_idStart)]
  cases lstripL st.rest with
  | nil => rfl
  | cons x r1 =>
    by_cases hx : x = ','
    · simp only [hx, if_true]
      rw [ident_det _ _ hw]
      rfl
    · simp only [hx, if_false]

theorem argsLoop_zero (r : Chars) : argsLoop 0 r = ([], r) := rfl

theorem argsLoop_succ_some (n : Nat) (r r1 a r2 : Chars) (h1 : lstripL r = ',' :: r1) (h2 : ident? (lstripL r1) = some (a, r2)) :
    argsLoop (n + 1) r = (a :: (argsLoop n r2).1, (argsLoop n r2).2) := by
  simp [argsLoop, h1, h2]

theorem argsLoop_succ_noident (n : Nat) (r r1 : Chars) (h1 : lstripL r = ',' :: r1) (h2 : ident? (lstripL r1) = none) :
    argsLoop (n + 1) r = ([], r) := by
  simp [argsLoop, h1, h2]

theorem argsLoop_succ_nocomma (n : Nat) (r : Chars) (h1 : ∀ r1, lstripL r ≠ ',' :: r1) : argsLoop (n + 1) r = ([], r) := by
  rw [argsLoop]
  split
  · rename_i r1 heq; exact absurd heq (h1 r1)
  · rfl

theorem argIter_avoids_word : Avoids isWord argIter :=
  (Avoids.ws_seq ((avoids_lit false (by decide)).seq _) fun _ hx => C10.word_not_space hx).ncg

/-- **the starred argument group = `Scan.argsLoop`** (for a continuation that can start neither with a word character nor,
after blanks, with a comma); positions are counted from the end `E` of the text, which does not move -/
theorem args_loop_end (k : K) (hw : RejectsHead isWord k) (hcomma : ∀ st : St, (∃ r1, lstripL st.rest = ',' :: r1) → k st = none)
    (E : Nat) : ∀ (n : Nat) (st : St), st.rest.length ≤ n → st.pos + st.rest.length = E →
      loop argIter.m n st k = k ⟨E - (argsLoop n st.rest).2.length, (argsLoop n st.rest).2, st.caps⟩
  | 0, ⟨pos, rest, caps⟩, h, hE => by
    obtain rfl : rest = [] := List.length_eq_zero_iff.mp (Nat.le_zero.mp h)
    rw [← hE]; rfl
  | n + 1, ⟨pos, rest, caps⟩, h, hE => by
    have h : rest.length ≤ n + 1 := h
    have hE : pos + rest.length = E := hE
    have hst : (⟨E - rest.length, rest, caps⟩ : St) = ⟨pos, rest, caps⟩ := by rw [← hE, Nat.add_sub_cancel]
    have hrej : RejectsHead isWord (fun st' => if st'.rest.length < rest.length then loop argIter.m n st' k else none) := by
      intro st' hst'
      show (if _ then _ else none) = none
      split
      · exact loop_rejects hw argIter_avoids_word n st' hst'
      · rfl
    rw [loop, argIter_m _ _ hrej]
    cases hls : lstripL rest with
    | nil => rw [argsLoop_succ_nocomma n rest (fun r1 e => by rw [hls] at e; cases e), hst]; rfl
    | cons x r1 =>
      by_cases hx : x = ','
      · subst hx
        simp only [if_true]
        rw [hcomma ⟨pos, rest, caps⟩ ⟨r1, hls⟩, orElse_none']
        cases hi : ident? (lstripL r1) with
        | none => rw [argsLoop_succ_noident n rest r1 hls hi, hst, hcomma ⟨pos, rest, caps⟩ ⟨r1, hls⟩]
        | some ar =>
          obtain ⟨a, r2⟩ := ar
          have hl := lstrip_split_length rest
          have hl1 := lstrip_split_length r1
          have hl2 := congrArg List.length (C10.ident?_decomp hi)
          rw [hls] at hl
          rw [List.length_append] at hl2
          rw [List.length_cons] at hl
          rw [argsLoop_succ_some n rest r1 a r2 hls hi]
          simp only [show r2.length < rest.length from by omega, if_true]
          exact args_loop_end k hw hcomma E n _ (by simp only []; omega) (by simp only []; omega)
      · simp only [hx, if_false]
        rw [argsLoop_succ_nocomma n rest (fun r1' e => by rw [hls] at e; exact hx (List.cons.inj e).1), hst]; rfl

theorem args_loop (k : K) (hw : RejectsHead isWord k) (hcomma : ∀ st : St, (∃ r1, lstripL st.rest = ',' :: r1) → k st = none) :
    ∀ (n : Nat) (st : St), st.rest.length ≤ n →
      loop argIter.m n st k = k ⟨st.pos + st.rest.length - (argsLoop n st.rest).2.length, (argsLoop n st.rest).2, st.caps⟩ :=
  fun n st h => args_loop_end k hw hcomma _ n st h rfl

/-! ## `function`: the closing part `(?P<lastArgArray>\s*\.\.\.)?\s*\)\s*:\s*$` -/

/-- `\s*\)\s*:\s*$` accepts the rest of the line -/
def closeOK (rest : Chars) : Bool :=
  match lstripL rest with
  | x :: r9 => x == ')' && (match lstripL r9 with
    | y :: r10 => y == ':' && allSpace r10
    | [] => false)
  | [] => false

theorem lstripL_idem (r : Chars) : lstripL (lstripL r) = lstripL r := C10.dropWhile_idem _ _

theorem closeOK_lstrip (r : Chars) : closeOK (lstripL r) = closeOK r := by
  unfold closeOK; rw [lstripL_idem]

theorem T_close (p : Nat) (rest : Chars) (caps : List (Nat × Nat × Nat)) (h : '\n' ∉ rest) :
    (ws ⬝ elit ')' ⬝ ws ⬝ lit ':' ⬝ ws ⬝ Rx.eol).m ⟨p, rest, caps⟩ some =
      if closeOK rest then some ⟨p + rest.length, [], caps⟩ else none := by
  unfold elit
  rw [ws_lit_det true ')' (by decide)]
  unfold closeOK
  have hl := lstrip_split_length rest
  cases hls : lstripL rest with
  | nil => rfl
  | cons x r9 =>
    rw [hls] at hl
    simp only [List.length_cons] at hl
    by_cases hx : x = ')'
    · subst hx
      have h9 : '\n' ∉ r9 := noNL_lstrip_tail h hls
      simp only [if_true, beq_self_eq_true, Bool.true_and]
      rw [colon_tail _ _ (by exact h9)]
      simp only []
      cases hl9 : lstripL r9 with
      | nil => rfl
      | cons y r10 =>
        by_cases hy : y = ':'
        · subst hy
          simp only [beq_self_eq_true, Bool.true_and]
          by_cases ha : allSpace r10 = true
          · simp only [ha, if_true, Option.some.injEq, St.mk.injEq, and_true]; omega
          · simp [ha]
        · have hne : ∀ r, y :: r10 = ':' :: r → False := fun r e => hy (List.cons.inj e).1
          simp [hy]
    · simp [hx]

theorem dots_m (st : St) (k : K) :
    (elit '.' ⬝ elit '.' ⬝ elit '.').m st k = match keyword? "..." st.rest with
      | some r8 => k ⟨st.pos + 3, r8, st.caps⟩
      | none => none :=
  kw_m "..." (by decide +kernel) st k

theorem closeOK_false_of_head {rest : Chars} {x : Char} {e : Chars} (h : lstripL rest = x :: e) (hx : ¬ x = ')') :
    closeOK rest = false := by
  unfold closeOK; rw [h]; simp [hx]

/-- `(?P<lastArgArray>\s*\.\.\.)?\s*\)\s*:\s*$` -/
def K5rx : Rx :=
  Rx.opt (.cap 4 (some "lastArgArray") (ws ⬝ elit '.' ⬝ elit '.' ⬝ elit '.')) ⬝ ws ⬝ elit ')' ⬝ ws ⬝ lit ':' ⬝ ws ⬝ Rx.eol

theorem K5_eval (p : Nat) (rest : Chars) (caps : List (Nat × Nat × Nat)) (h : '\n' ∉ rest) :
    K5rx.m ⟨p, rest, caps⟩ some =
      match keyword? "..." (lstripL rest) with
      | some r8 =>
        if closeOK r8 then some ⟨p + rest.length, [], (4, p, p + (rest.length - r8.length)) :: caps⟩ else none
      | none => if closeOK rest then some ⟨p + rest.length, [], caps⟩ else none := by
  rw [K5rx, seq_m, opt_m, cap_m, seq_m, ws_det _ _ (by unfold elit; exact ((avoids_lit true (by decide)).seq _) _), dots_m]
  simp only [skip]
  have hl := lstrip_split_length rest
  cases hk : keyword? "..." (lstripL rest) with
  | none =>
    simp only [show List.dropWhile isSpace rest = lstripL rest from rfl, hk]
    rw [none_orElse]
    exact T_close p rest caps h
  | some r8 =>
    have hk8 := C10.keyword?_length hk
    have h8 : '\n' ∉ r8 := noNL_keyword (not_mem_dropWhile h) hk
    simp only [show List.dropWhile isSpace rest = lstripL rest from rfl, hk]
    rw [T_close _ r8 _ h8, T_close p rest caps h]
    have hcf : closeOK rest = false := by
      cases hls : lstripL rest with
      | nil => rw [hls] at hk; simp [keyword?, show "...".toList = ['.', '.', '.'] from rfl] at hk
      | cons x e' =>
        apply closeOK_false_of_head hls
        intro hx; subst hx
        rw [hls] at hk
        simp [keyword?, show "...".toList = ['.', '.', '.'] from rfl, List.isPrefixOf] at hk
    rw [show "...".length = 3 from rfl] at hk8
    by_cases hc : closeOK r8 = true
    · simp only [hc, if_true, hcf, Bool.false_eq_true, if_false, orElse_none', Option.some.injEq, St.mk.injEq, true_and,
        List.cons.injEq, Prod.mk.injEq, and_true]
      omega
    · simp [hc, hcf]

/-! ## `function`: the argument group -/

theorem K5_none_of_head (st : St) (x : Char) (e : Chars) (h : lstripL st.rest = x :: e) (h1 : ¬ x = '.') (h2 : ¬ x = ')') :
    K5rx.m st some = none := by
  unfold K5rx elit
  rw [seq_m, opt_m, cap_m, ws_lit_det true '.' (by decide), ws_lit_det true ')' (by decide), h]
  simp [h1, h2]

theorem K5_rejects_word (f : St → List (Nat × Nat × Nat)) :
    RejectsHead isWord (fun st => K5rx.m ⟨st.pos, st.rest, f st⟩ some) := by
  intro st ⟨c, r, hr, hc⟩
  exact K5_none_of_head _ c r (by simp [hr, lstripL, C10.word_not_space hc])
    (fun e => by rw [e] at hc; exact absurd hc (by decide)) (fun e => by rw [e] at hc; exact absurd hc (by decide))

/-- `(?P<args>ident(?:\s*,\s*ident)*)?` in front of the closing part -/
theorem K4_eval (p : Nat) (r5 : Chars) (caps : List (Nat × Nat × Nat)) :
    (Rx.opt (.cap 3 (some "args") (ident ⬝ .star argIter)) ⬝ K5rx).m ⟨p, r5, caps⟩ some =
      match ident? r5 with
      | some (_, r6) =>
        K5rx.m ⟨p + r5.length - (argsLoop r6.length r6).2.length, (argsLoop r6.length r6).2,
          (3, p, p + r5.length - (argsLoop r6.length r6).2.length) :: caps⟩ some
      | none => K5rx.m ⟨p, r5, caps⟩ some := by
  rw [seq_m, opt_m, cap_m, seq_m, ident_det]
  · cases hi : ident? r5 with
    | none => simp
    | some ar =>
      obtain ⟨a, r6⟩ := ar
      have hl := congrArg List.length (C10.ident?_decomp hi)
      rw [List.length_append] at hl
      simp only []
      rw [star_m, args_loop_end (fun st' => K5rx.m ⟨st'.pos, st'.rest, (3, p, st'.pos) :: st'.caps⟩ some)
        (K5_rejects_word (fun st' => (3, p, st'.pos) :: st'.caps))
        (fun _ ⟨r1, h⟩ => K5_none_of_head _ ',' r1 h (by decide) (by decide)) (p + r5.length) r6.length ⟨p + a.length, r6, caps⟩
        (Nat.le_refl _) (by rw [hl, Nat.add_assoc])]
      have hnone : K5rx.m ⟨p, r5, caps⟩ some = none := by
        obtain ⟨c, cs, rfl, hc⟩ := ident?_head hi
        exact K5_rejects_word (fun _ => caps) ⟨p, c :: cs, caps⟩ ⟨c, cs, rfl, hc⟩
      rw [hnone, orElse_none']
  · intro st' hst'
    show (Rx.star argIter).m st' _ = none
    rw [star_m]
    exact loop_rejects (K5_rejects_word _) argIter_avoids_word _ st' hst'

theorem K5_none_transfer (p p' : Nat) (r r' : Chars) (c c' : List (Nat × Nat × Nat)) (h : '\n' ∉ r) (h' : '\n' ∉ r')
    (hl : lstripL r' = lstripL r) (hn : K5rx.m ⟨p, r, c⟩ some = none) : K5rx.m ⟨p', r', c'⟩ some = none := by
  rw [K5_eval _ _ _ h] at hn
  rw [K5_eval _ _ _ h', hl]
  have hc : closeOK r' = closeOK r := by rw [← closeOK_lstrip r', hl, closeOK_lstrip]
  cases hk : keyword? "..." (lstripL r) with
  | none =>
    rw [hk] at hn
    simp only [] at hn ⊢
    rw [hc]
    by_cases hcr : closeOK r = true
    · simp [hcr] at hn
    · simp [hcr]
  | some r8 =>
    rw [hk] at hn
    simp only [] at hn ⊢
    by_cases hc8 : closeOK r8 = true
    · simp [hc8] at hn
    · simp [hc8]

/-- `\(\s*` then the argument group: the blanks are skipped (giving some back never helps) -/
theorem ws_K4 (p4 : Nat) (r4 : Chars) (caps : List (Nat × Nat × Nat)) (h : '\n' ∉ r4) :
    (ws ⬝ Rx.opt (.cap 3 (some "args") (ident ⬝ .star argIter)) ⬝ K5rx).m ⟨p4, r4, caps⟩ some =
      (Rx.opt (.cap 3 (some "args") (ident ⬝ .star argIter)) ⬝ K5rx).m ⟨p4 + (r4.takeWhile isSpace).length, lstripL r4, caps⟩ some := by
  rw [seq_m]
  simp only [ws, sp]
  rw [star_atom_backoff, space_test]
  have hfull : adv ⟨p4, r4, caps⟩ (r4.takeWhile isSpace).length = ⟨p4 + (r4.takeWhile isSpace).length, lstripL r4, caps⟩ := by
    simp [adv, drop_length_takeWhile, lstripL]
  cases hv : (Rx.opt (.cap 3 (some "args") (ident ⬝ .star argIter)) ⬝ K5rx).m
      ⟨p4 + (r4.takeWhile isSpace).length, lstripL r4, caps⟩ some with
  | some v => exact backoff_some _ _ v _ (by rw [hfull]; exact hv)
  | none =>
    apply backoff_none
    intro j hj
    rcases Nat.lt_or_ge j (r4.takeWhile isSpace).length with hlt | hge
    · obtain ⟨c, r, hr, hc⟩ := drop_takeWhile_head isSpace r4 j hlt
      have hlj : lstripL (r4.drop j) = lstripL r4 := by
        have e := List.takeWhile_append_dropWhile (p := isSpace) (l := r4)
        have : r4.drop j = (r4.takeWhile isSpace).drop j ++ r4.dropWhile isSpace := by
          conv => lhs; rw [← e]
          rw [List.drop_append_of_le_length (by omega)]
        rw [this]; simp only [lstripL]
        rw [List.dropWhile_append_of_pos]
        · exact (lstripL_idem r4)
        · intro a ha; exact TextRun.mem_takeWhile ((List.drop_sublist j _).subset ha)
      have hid : ident? (r4.drop j) = none := by rw [hr]; simp [ident?, space_not_idStart hc]
      rw [K4_eval] at hv ⊢
      simp only [adv, hid]
      have hnj : '\n' ∉ r4.drop j := not_mem_drop h
      have hnl : '\n' ∉ lstripL r4 := not_mem_dropWhile h
      cases hi : ident? (lstripL r4) with
      | none =>
        rw [hi] at hv
        exact K5_none_transfer _ _ _ _ _ _ hnl hnj (hlj.trans (lstripL_idem r4).symm) hv
      | some ar =>
        obtain ⟨x, e, hl4, hw⟩ := ident?_head hi
        exact K5_none_of_head _ x e (by simp only []; rw [hlj, hl4])
          (fun e => by rw [e] at hw; exact absurd hw (by decide)) (fun e => by rw [e] at hw; exact absurd hw (by decide))
    · simp only [] at hj
      have : j = (r4.takeWhile isSpace).length := by omega
      rw [this, hfull]; exact hv

end C06Regex
