import BareProofs.C14Lemmas

/-!
# C14 — JSON serialisation is faithful: `jsonParse (jsonStringify v) ≈ v`

Model: `BareModel/Json.lean`.  `mirrorEncode` = the two stages of `value_json` (stage 1 `json.dumps` layout with `repr`
numbers, stage 2 the clean-up substitution as a scanner); `specEncode` writes integral numbers without fraction
directly; `decode` is a standard JSON reader; `norm` is the canonical form (numbers by value, members sorted by key)
and `Equiv v w := norm v = norm w` is equality of BareScript values (`value_compare = 0`).

Every theorem is for **all** values: unbounded depth and length, strings and keys over all Unicode scalar values,
every indent (`ind = 0` is "no indent").  Hypothesis `WF v`: the text of every `dec` number is in the `repr` grammar
(`reprDec`, an assumption about `float.__repr__`) and object keys are unique.

That the pattern in `value.py` is the one the scanner `clean` was written for is `cleanup_regex_is_modelled`
(`BareProofs/C14Regex.lean`, generated table).
-/

namespace C14
open Json

/-- **strings_untouched**: the clean-up pass copies the literal of *any* string `s` verbatim and resumes after it, in any
context `rest` (even `.0,` directly inside or after the literal); in particular a string value or a key is serialised as
the plain `ensure_ascii` escape of its characters. -/
theorem strings_untouched (s rest : Str) :
    clean .out (encStr s ++ rest) = encStr s ++ clean .out rest ∧
    (∀ ind, mirrorEncode (.str s) ind = encStr s) ∧
    mirrorEncode (.obj [(s, .null)]) 0 = '{' :: encStr s ++ [':', 'n', 'u', 'l', 'l', '}'] := by
  refine ⟨clean_encStr s rest, fun ind => (clean_encWith ind (.str s) trivial 0).clean_eq, ?_⟩
  · simp only [mirrorEncode, stage1, encWith, encMembers, sortKeys, insertKey, List.map, joinItems, member, nl, colon, if_true,
      List.nil_append, List.append_assoc, List.cons_append]
    rw [clean_cons (by decide) (by decide), clean_encStr]
    rfl

example : clean .out (encStr "a.0]".toList ++ ".0,".toList) = encStr "a.0]".toList ++ ",".toList := by decide +kernel

/-- **cleanup_eq_spec**: for every well-formed value and every indent, what `value_json` produces (stage 1 + clean-up) is
exactly the spec encoding: nothing inside a string literal is touched and exactly the `.0` of integral floats is removed. -/
theorem cleanup_eq_spec (v : JValue) (h : WF v) (ind : Nat) : mirrorEncode v ind = specEncode v ind :=
  (clean_encWith ind v h 0).clean_eq

/-- **string_roundtrip**: unescaping the escape of any string gives the string back (all code points: named escapes,
`\u00XX` controls and DEL, BMP `\uXXXX`, astral characters as surrogate pairs), and stops right after the closing quote. -/
theorem string_roundtrip (s rest : Str) :
    unesc (escBody s ++ '"' :: rest) = some (s, rest) ∧ decode (encStr s) = some (.str s) :=
  ⟨unesc_body s rest, decode_of_parseOK (parse_encWith 0 (.str s) (by simp [WF]) 0)⟩

/-- **json_roundtrip_spec**: decoding the spec encoding of `v` (any indent) yields the canonical form of `v`. -/
theorem json_roundtrip_spec (v : JValue) (h : WF v) (ind : Nat) : decode (specEncode v ind) = some (norm v) :=
  decode_of_parseOK (parse_encWith ind v h 0)

/-- `norm` is a canonical form: -/
theorem norm_idem (v : JValue) : norm (norm v) = norm v := norm_norm v

/-- **json_roundtrip**: `jsonParse (jsonStringify v indent)` succeeds and is a value `v'` with `v' ≈ v`
(same shape, strings and keys identical, numbers equal in value, objects equal as maps). -/
theorem json_roundtrip (v : JValue) (h : WF v) (ind : Nat) :
    ∃ v', decode (mirrorEncode v ind) = some v' ∧ Equiv v' v ∧ v' = norm v :=
  ⟨norm v, by rw [cleanup_eq_spec v h, json_roundtrip_spec v h], norm_norm v, rfl⟩

/-- **json_injective**: two values with the same serialisation (under any two indents) are equal as values. -/
theorem json_injective (v w : JValue) (hv : WF v) (hw : WF w) (i j : Nat)
    (h : mirrorEncode v i = mirrorEncode w j) : Equiv v w := by
  obtain ⟨_, h1, _, rfl⟩ := json_roundtrip v hv i
  obtain ⟨_, h2, _, rfl⟩ := json_roundtrip w hw j
  rw [h, h2] at h1
  exact (Option.some.inj h1).symm

/-- **keys_sorted**: in the serialised text the members of every object appear in ascending key order (the decoder keeps
text order), and no key occurs twice (`WF v'`), so the decoded member lists are dictionaries. -/
theorem keys_sorted (v : JValue) (h : WF v) (ind : Nat) :
    ∃ v', decode (mirrorEncode v ind) = some v' ∧ KeysSorted v' ∧ WF v' := by
  obtain ⟨v', h1, _, rfl⟩ := json_roundtrip v h ind
  exact ⟨_, h1, keysSorted_norm v, wf_norm v h⟩

mutual
/-- every number in the value satisfies `P` -/
def AllNums (P : JNum → Prop) : JValue → Prop
  | .num n => P n
  | .arr xs => AllNumsList P xs
  | .obj kvs => AllNumsMembers P kvs
  | _ => True
def AllNumsList (P : JNum → Prop) : List JValue → Prop
  | [] => True
  | x :: xs => AllNums P x ∧ AllNumsList P xs
def AllNumsMembers (P : JNum → Prop) : List (Str × JValue) → Prop
  | [] => True
  | (_, v) :: kvs => AllNums P v ∧ AllNumsMembers P kvs
end

theorem allNumsList_iff (P : JNum → Prop) (xs : List JValue) : AllNumsList P xs ↔ ∀ x ∈ xs, AllNums P x := by
  induction xs with
  | nil => simp [AllNumsList]
  | cons x xs ih => simp [AllNumsList, ih]

theorem allNumsMembers_iff (P : JNum → Prop) (kvs : List (Str × JValue)) :
    AllNumsMembers P kvs ↔ ∀ p ∈ kvs, AllNums P p.2 := by
  induction kvs with
  | nil => simp [AllNumsMembers]
  | cons p kvs ih => obtain ⟨k, v⟩ := p; simp [AllNumsMembers, ih]

/-- a number that is integral: a Python `int` or an integral float below 1e16 -/
def IsIntegral : JNum → Prop
  | .dec _ => False
  | _ => True

/-- a number that the decoder read from an integer token -/
def IsInt : JNum → Prop
  | .int _ => True
  | _ => False

theorem allNums_norm (v : JValue) : AllNums IsIntegral v → AllNums IsInt (norm v) := by
  induction v using valInd with
  | hnum n => intro h; cases n <;> simp_all [norm, AllNums, normNum, IsInt, IsIntegral]
  | harr xs ih =>
    intro h
    rw [AllNums, allNumsList_iff] at h
    rw [norm_arr, AllNums, allNumsList_iff]
    exact List.forall_mem_map.mpr fun x hx => ih x hx (h x hx)
  | hobj kvs ih =>
    intro h
    rw [AllNums, allNumsMembers_iff] at h
    rw [norm_obj, AllNums, allNumsMembers_iff]
    intro p hp
    obtain ⟨q, hq, rfl⟩ := List.mem_map.mp hp
    have hq' := (mem_sortKeys q _).mp hq
    exact ih q hq' (h q hq')
  | _ => intro _; simp [norm, AllNums]

/-- **integral_no_fraction**: (1) an integral float (|x| < 1e16, including `-0.0`) is serialised as its integer, without
`.0`, under every indent; (2) if all numbers of a value are integral then every number token of the serialised text is
read back as an integer; and (3) such a token consists of an optional `-` and digits only. -/
theorem integral_no_fraction :
    (∀ neg n ind, mirrorEncode (.num (.fint neg n)) ind = signText neg ++ natText n) ∧
    (∀ v, WF v → AllNums IsIntegral v → ∀ ind, ∃ v', decode (mirrorEncode v ind) = some v' ∧ AllNums IsInt v') ∧
    (∀ t k, parseNum t = some (.int k) → allDigits (stripSign t) = true ∧ (t = stripSign t ∨ t = '-' :: stripSign t)) := by
  refine ⟨fun neg n ind => ?_, fun v h hi ind => ?_, fun t k h => ?_⟩
  · rw [cleanup_eq_spec _ (by simp [WF])]; rfl
  · obtain ⟨v', h1, _, rfl⟩ := json_roundtrip v h ind
    exact ⟨_, h1, allNums_norm v hi⟩
  · -- `parseNum` returns an integer only when nothing follows the digits
    have he : (takeDigits (stripSign t)).2 = [] := by
      simp only [parseNum] at h
      split at h
      · split at h
        · exact List.isEmpty_iff.mp ‹_›
        · split at h <;> simp at h
      · cases h
    have happ := td_append (stripSign t)
    rw [he, List.append_nil] at happ
    obtain ⟨neg, hs⟩ := stripSign_shape t
    refine ⟨happ ▸ td_all (stripSign t), ?_⟩
    cases neg
    · exact .inl hs
    · exact .inr hs

/-! ### non-vacuity: the nasty strings of the property, all number kinds, nested containers, indentation -/

private def S (s : String) : Str := s.toList

/-- `["etc., x", "a.0]", {"q\"x.0,": "\\", "é": "😀", "b": [1.0, -0.0, 1e+16, 1.5, 12], "a": {}}, [], 2.5e-07]` -/
private def sample : JValue :=
  .arr [.str (S "etc., x"), .str (S "a.0]"),
    .obj [(S "q\"x.0,", .str (S "\\")), (S "é", .str (S "😀")),
          (S "b", .arr [.num (.fint false 1), .num (.fint true 0), .num (.dec (S "1e+16")), .num (.dec (S "1.5")), .num (.int 12)]),
          (S "a", .obj [])],
    .arr [], .num (.dec (S "2.5e-07"))]

private theorem sample_wf : WF sample := by
  simp only [sample, WF, WFList, WFMembers, List.map, and_true, true_and]
  refine ⟨?_, ?_⟩ <;> decide +kernel

example : mirrorEncode sample 0 =
    S "[\"etc., x\",\"a.0]\",{\"a\":{},\"b\":[1,-0,1e+16,1.5,12],\"q\\\"x.0,\":\"\\\\\",\"\\u00e9\":\"\\ud83d\\ude00\"},[],2.5e-07]" := by
  rw [S, String.toList_ofList]; decide +kernel

example : stage1 sample 0 =
    S "[\"etc., x\",\"a.0]\",{\"a\":{},\"b\":[1.0,-0.0,1e+16,1.5,12],\"q\\\"x.0,\":\"\\\\\",\"\\u00e9\":\"\\ud83d\\ude00\"},[],2.5e-07]" := by
  rw [S, String.toList_ofList]; decide +kernel

example : mirrorEncode (.arr [.num (.fint false 1), .obj [(S "k", .str (S "x.0,"))]]) 2 =
    S "[\n  1,\n  {\n    \"k\": \"x.0,\"\n  }\n]" := by rw [S, String.toList_ofList]; decide +kernel

example : (decode (mirrorEncode sample 3)).map (specEncode · 0) = some (specEncode (norm sample) 0) := by decide +kernel

example : ∃ v', decode (mirrorEncode sample 4) = some v' ∧ Equiv v' sample ∧ v' = norm sample := json_roundtrip sample sample_wf 4

example : (decode (S "[\"\\u00e9\\ud83d\\ude00\\/\\b\", -0, 1.5E3]")).map (specEncode · 0) =
    some (S "[\"\\u00e9\\ud83d\\ude00/\\b\",0,1.5E3]") := by rw [S, S, String.toList_ofList, String.toList_ofList]; decide +kernel

example : decode (S "[1,]") = none ∧ decode (S "\"\\ud83d\"") = none ∧ decode (S "01") = none ∧ decode (S "[1] x") = none := by
  decide +kernel

/-- two different values never share a text — here `1.0` and the string `"1.0"`, `"a.0,"` and `"a,"` (the F3 collision) -/
example : mirrorEncode (.str (S "a.0,")) 0 ≠ mirrorEncode (.str (S "a,")) 0 := by decide +kernel

end C14
