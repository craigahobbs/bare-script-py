import BareProofs.C15CbLemmas
import BareProofs.HostLibBridge
import BareProofs.C11

/-!
# C15Cb — the call-back forms of `arrayIndexOf` / `arrayLastIndexOf` / `arraySort` (model: `BareModel/LibCb.lean`)

All theorems are about `Machine.runTree cfg call tree st` for an ARBITRARY call-back runner `call : Machine.CallFn LWorld` (the machine
instantiates it with `Machine.callValue cfg fuel`), so they speak about library calls issued by running scripts.  The call-back is a script
function value `.fn (.script id)` (what `function f(x): … endfunction` binds); library functions as call-backs: `cb_failure_lib`.

The searches: the live-heap index loop is the reference scan over the elements (`search_refines`, `indexOf_cb_spec`), frame and the
three ways a search fails.  The sort: with a pure comparator the tree evaluates `pySort` (`sort_cb_pure`, `sort_cb_contract`); whatever
the comparator does the array keeps a permutation of its contents (`sort_cb_perm_always`).  Last, the dispatch of `LibCb.lib` to these
trees (`lib_array*_cb`).

Not proved here (full statements):
* `sort_cb_eq_nocb`: `∀ call answering systemCompare (call f [x, y] st = .ok (num (cmpD st.world.heap x y)) st) and every element of xs
  Readable, runTree (sortCb f r xs w) st = .ok (.arr r) {st with world := setArr w r (LibMore.sortV w.heap xs)}` — i.e. the call-back sort
  with `systemCompare` stores what `LibMore.arraySortM` stores.  `sort_cb_contract` gives it for comparators that are total preorders on
  ALL values; `cmpD h` is one only on the readable values, so what is missing is the on-elements version of `pySort_eval` (parametricity of
  `pySort` under `Subtype.val`, as `C11.sortBy_map_on` does for `sortBy`).  The stream checks it on every run (`cmpSys`, `systemCompare`).
* `history_refines_cb`: `Lib.runHistory` has no place for call-backs (a step is `Heap → Res × Heap`); the history level for these calls is
  the machine itself (`Machine.execute` over `LibCb.host`), tied by the `cb-scripts` stream.
-/

namespace C15Cb
open Machine HostLib LibCb Compare C11

abbrev St := State LWorld

/-! ## plumbing -/

theorem resolve_script (n : Nat) (w : LWorld) (id : Nat) (a : List Value) :
    resolve n w (.fn (.script id)) a = (.fn (.script id), a) := by
  cases n <;> simp [resolve]

theorem cbCall_script (id : Nat) (args : List Value) (w : LWorld) (k : Value → LWorld → Tree) (e : Value → LWorld → Tree) :
    cbCall (.fn (.script id)) args w k e = .call (.fn (.script id)) args w k := by
  unfold cbCall; rw [resolve_script]

theorem resolve_lib (n : Nat) (w : LWorld) (name : String) (a : List Value) :
    resolve n w (.fn (.lib name)) a = (.fn (.lib name), a) := by
  cases n <;> simp [resolve]

variable (cfg : Config LWorld) (call : CallFn LWorld)

theorem runTree_ret_ok (v : Value) (st : St) : runTree cfg call (.ret (.ok v) st.world) st = .ok v st := rfl

theorem runTree_call (f : Value) (args : List Value) (w : LWorld) (k : Value → LWorld → Tree) (st : St) :
    runTree cfg call (.call f args w k) st =
      match call f args { st with world := w } with
      | .ok v st1 => runTree cfg call (k v st1.world) st1
      | o => o := by
  cases h : call f args { st with world := w } <;> simp [runTree, h]

/-- a tree carries its own world: the world component of the state it is run in is irrelevant -/
theorem runTree_world (t : Tree) (st : St) (w' : LWorld) :
    runTree cfg call t { st with world := w' } = runTree cfg call t st := by
  cases t with
  | ret o w => cases o <;> simp [runTree]
  | call f a w k => simp [runTree]
  | globalGet n w k => simp [runTree]
  | globalSet n v w k => simp [runTree]

/-- the call-backs a tree makes, in order -/
def callsOf : Tree → St → List (Value × List Value)
  | .ret _ _, _ => []
  | .call f a w k, st =>
    (f, a) :: match call f a { st with world := w } with
      | .ok v st1 => callsOf (k v st1.world) st1
      | _ => []
  | .globalGet n w k, st => callsOf (k (st.globals.get? n) w) { st with world := w }
  | .globalSet n v w k, st => callsOf (k w) { st with globals := st.globals.set n v, world := w }

/-! ## the index searches -/

/-- reference: scan the elements (with their indices) in order, threading the state through the predicate calls -/
def scanSpec (f : Value) : List (Nat × Lib.Value) → St → Out LWorld
  | [], st => .ok (numV (-1)) st
  | (i, x) :: rest, st =>
    match call f [ofLib x] st with
    | .ok v st1 => if Lib.truthy st1.world.heap (toLib v) then .ok (numV i) st1 else scanSpec f rest st1
    | o => o

theorem getArr_bind {h : Lib.Heap} {r : Nat} {xs : List Lib.Value} (hx : Lib.getArr h r = some xs) {i : Nat} (hi : i < xs.length) :
    (Lib.getArr h r).bind (·[i]?) = some ((xs[i]?).getD .null) := by
  rw [hx]; simp [List.getElem?_eq_getElem hi]

/-- **search_refines.**  If the call-backs never change the contents of the searched array, the index loop over the LIVE array is the
scan over the elements the array had at the start. -/
theorem search_refines (id r : Nat) (xs : List Lib.Value)
    (hkeep : ∀ x st v st1, call (.fn (.script id)) [ofLib x] st = .ok v st1 →
      Lib.getArr st1.world.heap r = Lib.getArr st.world.heap r) :
    ∀ (is : List Nat) (st : St), Lib.getArr st.world.heap r = some xs → (∀ i ∈ is, i < xs.length) →
      runTree cfg call (searchCb (.fn (.script id)) r is st.world) st =
        scanSpec call (.fn (.script id)) (is.map fun i => (i, (xs[i]?).getD .null)) st
  | [], st, _, _ => rfl
  | i :: is, st, hx, hin => by
    unfold searchCb
    rw [getArr_bind hx (hin i (by simp))]
    simp only [cbCall_script, runTree_call, List.map_cons, scanSpec]
    cases hc : call (.fn (.script id)) [ofLib ((xs[i]?).getD .null)] st with
    | ok v st1 =>
      simp only
      by_cases ht : Lib.truthy st1.world.heap (toLib v) = true
      · simp only [ht, if_true]; rfl
      · simp only [ht, Bool.false_eq_true, if_false]
        exact search_refines id r xs hkeep is st1 ((hkeep _ _ _ _ hc).trans hx) (fun j hj => hin j (by simp [hj]))
    | err e st1 => rfl
    | oof => rfl

example : upFrom 2 5 = [2, 3, 4] ∧ downFrom 3 = [3, 2, 1, 0] ∧ downFrom (-1) = [] := by decide

/-- the indices visited: up to and including the first hit -/
def scanned (p : Nat → Bool) : List Nat → List Nat
  | [] => []
  | i :: is => i :: if p i then [] else scanned p is

/-- **indexOf_cb_spec** (also `arrayLastIndexOf`: `is` is the index list the function computed once, `upFrom start len` resp.
`downFrom start`).  With a call-back that has no effects, the result is the FIRST index in scan order whose element satisfies the
predicate (`-1` if none), the state is unchanged, and the call-backs made are exactly `fn(element)` for the elements from the start to the
hit, each once, in order. -/
theorem indexOf_cb_spec (id r : Nat) (xs : List Lib.Value) (ans : Lib.Value → Value)
    (hpure : ∀ x st, call (.fn (.script id)) [ofLib x] st = .ok (ans x) st)
    (st : St) (hx : Lib.getArr st.world.heap r = some xs) :
    ∀ (is : List Nat), (∀ i ∈ is, i < xs.length) →
      runTree cfg call (searchCb (.fn (.script id)) r is st.world) st =
        .ok (match is.find? (fun i => Lib.truthy st.world.heap (toLib (ans ((xs[i]?).getD .null)))) with
             | some i => numV i
             | none => numV (-1)) st ∧
      callsOf call (searchCb (.fn (.script id)) r is st.world) st =
        (scanned (fun i => Lib.truthy st.world.heap (toLib (ans ((xs[i]?).getD .null)))) is).map
          fun i => (.fn (.script id), [ofLib ((xs[i]?).getD .null)])
  | [], _ => ⟨rfl, rfl⟩
  | i :: is, hin => by
    have ih := indexOf_cb_spec id r xs ans hpure st hx is (fun j hj => hin j (by simp [hj]))
    unfold searchCb
    rw [getArr_bind hx (hin i (by simp))]
    simp only [cbCall_script, runTree_call, callsOf, hpure, List.find?_cons, scanned, List.map_cons]
    by_cases ht : Lib.truthy st.world.heap (toLib (ans ((xs[i]?).getD .null))) = true
    · simp only [ht, if_true]
      exact ⟨rfl, by simp [callsOf]⟩
    · simp only [ht, Bool.false_eq_true, if_false]
      exact ⟨ih.1, by rw [ih.2]⟩

/-- `arrayLastIndexOf(array, fn [, index])`: `indexOf_cb_spec` read for the descending index list -/
theorem lastIndexOf_cb_spec (id r : Nat) (xs : List Lib.Value) (ans : Lib.Value → Value)
    (hpure : ∀ x st, call (.fn (.script id)) [ofLib x] st = .ok (ans x) st)
    (st : St) (hx : Lib.getArr st.world.heap r = some xs) (start : Int) (hs : start < xs.length) :
    runTree cfg call (searchCb (.fn (.script id)) r (downFrom start) st.world) st =
      .ok (match (downFrom start).find? (fun i => Lib.truthy st.world.heap (toLib (ans ((xs[i]?).getD .null)))) with
           | some i => numV i
           | none => numV (-1)) st :=
  (indexOf_cb_spec cfg call id r xs ans hpure st hx (downFrom start) (fun i hi => by
    simp only [downFrom, List.mem_reverse, List.mem_range] at hi; omega)).1

/-- non-vacuity of the pure hypotheses: the predicate "is the string b" as a call-back runner; the found index and the trace -/
example :
    let call : CallFn LWorld := fun _ a st => .ok (.bool (a == [Value.str "b"])) st
    let st : St := { globals := [], world := { heap := [.arr [.str "a", .str "b", .str "c", .str "b"]] }, count := 0 }
    runTree { host := host, funs := fun _ => none, maxStatements := 0 } call (searchCb (.fn (.script 0)) 0 (upFrom 0 4) st.world) st
      = .ok (numV 1) st ∧
    callsOf call (searchCb (.fn (.script 0)) 0 (upFrom 0 4) st.world) st
      = [(.fn (.script 0), [.str "a"]), (.fn (.script 0), [.str "b"])] ∧
    runTree { host := host, funs := fun _ => none, maxStatements := 0 } call (searchCb (.fn (.script 0)) 0 (downFrom 3) st.world) st
      = .ok (numV 3) st := by
  intro call st
  exact ⟨rfl, rfl, rfl⟩

/-- outcome predicate used by the frame theorems -/
def OutInv (Inv : St → Prop) : Out LWorld → Prop
  | .ok _ st => Inv st
  | .err _ st => Inv st
  | .oof => True

/-- **cb_frame.**  A search changes nothing by itself: every property of the machine state that the call-backs preserve holds after the
search (for the host of this model the debug log line of a swallowed failure is the identity: `hlog`). -/
theorem cb_frame (id r : Nat) (Inv : St → Prop) (hlog : ∀ w, cfg.host.logFailure w = w)
    (hpres : ∀ a st, Inv st → OutInv Inv (call (.fn (.script id)) a st)) :
    ∀ (is : List Nat) (st : St), Inv st → OutInv Inv (runTree cfg call (searchCb (.fn (.script id)) r is st.world) st)
  | [], st, hi => hi
  | i :: is, st, hi => by
    unfold searchCb
    cases hb : (Lib.getArr st.world.heap r).bind (·[i]?) with
    | none =>
      simp only [runTree, hlog, ite_self]
      exact hi
    | some x =>
      simp only [cbCall_script, runTree_call]
      have hp := hpres [ofLib x] st hi
      cases hc : call (.fn (.script id)) [ofLib x] st with
      | ok v st1 =>
        rw [hc] at hp
        simp only
        by_cases ht : Lib.truthy st1.world.heap (toLib v) = true
        · simp only [ht, if_true]; exact hp
        · simp only [ht, Bool.false_eq_true, if_false]
          exact cb_frame id r Inv hlog hpres is st1 hp
      | err e st1 => rw [hc] at hp; exact hp
      | oof => trivial

example : ∀ w, (host : Host LWorld).logFailure w = w := fun _ => rfl

/-- **cb_failure_script.**  A call-back that ends with a runtime error (statement budget, unknown label, undefined function) ends the
search with that error in the state the call-back left; no further element is visited. -/
theorem cb_failure_script (id r i : Nat) (is : List Nat) (x : Lib.Value) (st st1 : St) (e : RtErr)
    (hb : (Lib.getArr st.world.heap r).bind (·[i]?) = some x)
    (hc : call (.fn (.script id)) [ofLib x] st = .err e st1) :
    runTree cfg call (searchCb (.fn (.script id)) r (i :: is) st.world) st = .err e st1 ∧
    callsOf call (searchCb (.fn (.script id)) r (i :: is) st.world) st = [(.fn (.script id), [ofLib x])] := by
  unfold searchCb
  rw [hb]
  simp [cbCall_script, runTree_call, callsOf, hc]

/-- **cb_failure_lib** (finding F38, the current behaviour of library.py): a LIBRARY function as match function whose own call fails
(argument validation or any other exception): the exception leaves `arrayIndexOf` / `arrayLastIndexOf`, the call wrapper returns the
INNER function's failure value; no call-back node, nothing further visited. -/
theorem cb_failure_lib (name : String) (r i : Nat) (is : List Nat) (x : Lib.Value) (w : LWorld) (v : Lib.Value) (h : Lib.Heap)
    (hb : (Lib.getArr w.heap r).bind (·[i]?) = some x)
    (hf : base name [ofLib x] w = (.fail v, h)) :
    searchCb (.fn (.lib name)) r (i :: is) w = .ret (.fail (ofLib v)) { w with heap := h } := by
  unfold searchCb
  rw [hb]
  simp only [cbCall, resolve_lib, hf]

/-- `arrayIndexOf(arrayNew(arrayNew(1), 1), arrayLength)`: the second element is not an array, `arrayLength` fails with ITS failure
value `0`, which becomes the result of `arrayIndexOf` (not `-1`, not an index) -/
example : searchCb (.fn (.lib "arrayLength")) 0 [1] { heap := [.arr [.arr 1, .num 1], .arr [.num 1]] } =
    .ret (.fail (.num 0)) { heap := [.arr [.arr 1, .num 1], .arr [.num 1]] } :=
  cb_failure_lib "arrayLength" 0 1 [] (.num 1) _ (Lib.numN 0) [.arr [.arr 1, .num 1], .arr [.num 1]] rfl (by decide +kernel)

/-- **cb_failure_shrunk.**  The element the loop is about to read is gone (an earlier call-back shortened the array): `IndexError`,
the wrapper's `null`. -/
theorem cb_failure_shrunk (f : Value) (r i : Nat) (is : List Nat) (w : LWorld)
    (hb : (Lib.getArr w.heap r).bind (·[i]?) = none) :
    searchCb f r (i :: is) w = .ret (.fail .null) w := by
  unfold searchCb; rw [hb]

/-! ## arraySort with a compare function -/

theorem getArr_setArr (w : LWorld) (r : Nat) (ys : List Lib.Value) (hr : r < w.heap.length) :
    Lib.getArr (setArr w r ys).heap r = some ys := by
  simp [Lib.getArr, setArr, hr]

theorem setArr_setArr (w : LWorld) (r : Nat) (xs ys : List Lib.Value) : setArr (setArr w r xs) r ys = setArr w r ys := by
  simp [setArr]

theorem setArr_self {w : LWorld} {r : Nat} {xs : List Lib.Value} (hx : Lib.getArr w.heap r = some xs) : setArr w r xs = w := by
  have hr := C15.getArr_lt (Option.isSome_of_eq_some hx)
  unfold Lib.getArr at hx
  rw [List.getElem?_eq_getElem hr] at hx
  have hc : w.heap[r] = .arr xs := by
    split at hx
    · rename_i ys heq; simp at hx; subst hx; simpa using heq
    · simp at hx
  unfold setArr
  rw [← hc, List.set_getElem_self]

/-- **sort_cb_pure.**  With a comparator that has no effects and always answers a number or a boolean, running the sort tree is
evaluating the sorting computation with `x < y := compare_fn(x, y) < 0` and storing the result. -/
theorem sort_cb_pure (id r : Nat) (ans : Lib.Value → Lib.Value → Value) (lt : Lib.Value → Lib.Value → Bool)
    (hpure : ∀ x y st, call (.fn (.script id)) [ofLib x, ofLib y] st = .ok (ans x y) st)
    (hlt : ∀ x y, ltZero (toLib (ans x y)) = some (lt x y)) :
    ∀ (a : Ask Lib.Value (List Lib.Value)) (w : LWorld) (st : St),
      runTree cfg call (sortTree (.fn (.script id)) r a w) st =
        runTree cfg call (finishSort r (a.eval lt) w) st := by
  intro a
  induction a with
  | done ys => intro w st; rfl
  | ask cur x y k ih =>
    intro w st
    unfold sortTree
    simp only [cbCall_script, runTree_call, hpure, hlt, Ask.eval]
    rw [ih (lt x y) w { st with world := w }, runTree_world]

/-- **sort_cb_contract.**  `arraySort(array, compareFn)` with a comparator that has no effects and is a total preorder (`C11.IsPre`:
`c a a = 0`, `c a b = -c b a`, transitive `≤`; `c` = the sign the comparator's answers have): the call returns the array it was given; the
array now holds `ys`, a permutation of its old contents, ordered w.r.t. the comparator, in which elements the comparator calls equal keep
their order — and `ys` is the only such list; nothing else in the state changes. -/
theorem sort_cb_contract (id r : Nat) (xs : List Lib.Value) (c : Lib.Value → Lib.Value → Int) (hc : IsPre c)
    (ans : Lib.Value → Lib.Value → Value)
    (hpure : ∀ x y st, call (.fn (.script id)) [ofLib x, ofLib y] st = .ok (ans x y) st)
    (hlt : ∀ x y, ltZero (toLib (ans x y)) = some (decide (c x y < 0)))
    (st : St) (hx : Lib.getArr st.world.heap r = some xs) :
    runTree cfg call (sortCb (.fn (.script id)) r xs st.world) st =
      .ok (.arr r) { st with world := setArr st.world r (sortBy (ltOf c) xs) } ∧
    (sortBy (ltOf c) xs).Perm xs ∧ Sorted c (sortBy (ltOf c) xs) ∧
    (∀ a, (sortBy (ltOf c) xs).filter (eqv c a) = xs.filter (eqv c a)) ∧
    (∀ ys, Sorted c ys → (∀ a, ys.filter (eqv c a) = xs.filter (eqv c a)) → ys = sortBy (ltOf c) xs) := by
  obtain ⟨h1, h2, h3, h4⟩ := sortBy_spec hc xs
  refine ⟨?_, h2, h1, h3, h4⟩
  have hr := C15.getArr_lt (Option.isSome_of_eq_some hx)
  unfold sortCb
  by_cases hlen : xs.length < 2
  · simp only [hlen, if_true]
    have hs : sortBy (ltOf c) xs = xs := by
      rcases xs with _ | ⟨x, _ | ⟨y, tl⟩⟩
      · rfl
      · rfl
      · simp only [List.length_cons] at hlen; omega
    rw [hs, setArr_self hx]
    rfl
  · simp only [hlen, if_false]
    have := sort_cb_pure cfg call id r ans (ltOf c) hpure hlt (pySort xs) (setArr st.world r []) st
    rw [pySort_eval hc] at this
    rw [this]
    unfold finishSort
    simp only [getArr_setArr st.world r [] hr, beq_self_eq_true, if_true, setArr_setArr]
    rfl

/-- non-vacuity: "ascending by integer key" `c x y = key x - key y` (a script comparator `return x - y` on integers) is a total
preorder, and its answers have the right sign -/
example :
    let key : Lib.Value → Int := fun v => match v with | .num q => q.floor | _ => 0
    IsPre (fun x y => key x - key y) ∧
    ∀ x y, ltZero (toLib (numV (key x - key y))) = some (decide (key x - key y < 0)) := by
  refine ⟨⟨fun _ => by simp, fun _ _ => by omega, fun _ _ _ _ _ => by omega⟩, fun x y => ?_⟩
  simp only [numV, toLib, ltZero]
  rfl

/-- **sort_cb_perm_always** (the failure clause for `arraySort`).  However the comparator behaves — inconsistent answers, an answer that
is not a number at ANY point of the sort (`TypeError`, the call returns `null`), effects on other containers, appending to the array being
sorted (`ValueError`, `null`) — whenever the call returns, the array holds a permutation of its original contents: nothing is lost or
duplicated.  (`hlen`: call-backs only allocate, a heap never shrinks.) -/
theorem sort_cb_perm_always (id r : Nat) (xs : List Lib.Value) (hlog : ∀ w, cfg.host.logFailure w = w)
    (hlen : ∀ a st v st1, call (.fn (.script id)) a st = .ok v st1 → st.world.heap.length ≤ st1.world.heap.length) :
    ∀ (a : Ask Lib.Value (List Lib.Value)), AllP (fun l => l.Perm xs) a → ∀ (w : LWorld) (st : St), r < w.heap.length →
      ∀ v st', runTree cfg call (sortTree (.fn (.script id)) r a w) st = .ok v st' →
        ∃ ys, Lib.getArr st'.world.heap r = some ys ∧ ys.Perm xs := by
  intro a
  induction a with
  | done ys =>
    intro hall w st hr v st' hrun
    cases hall with
    | done hp =>
      refine ⟨ys, ?_, hp⟩
      unfold sortTree finishSort at hrun
      split at hrun
      · simp only [runTree] at hrun
        injection hrun with _ hst; subst hst
        exact getArr_setArr w r ys hr
      · simp only [runTree, hlog, ite_self] at hrun
        injection hrun with _ hst; subst hst
        exact getArr_setArr w r ys hr
  | ask cur x y k ih =>
    intro hall w st hr v st' hrun
    cases hall with
    | ask hcur hk =>
      unfold sortTree at hrun
      simp only [cbCall_script, runTree_call] at hrun
      cases hc : call (.fn (.script id)) [ofLib x, ofLib y] { st with world := w } with
      | ok res st1 =>
        rw [hc] at hrun
        simp only at hrun
        have hr1 : r < st1.world.heap.length := Nat.lt_of_lt_of_le hr (hlen _ _ _ _ hc)
        cases hz : ltZero (toLib res) with
        | some b =>
          rw [hz] at hrun
          exact ih b (hk b) st1.world st1 hr1 v st' hrun
        | none =>
          rw [hz] at hrun
          simp only [runTree, hlog, ite_self] at hrun
          injection hrun with _ hst; subst hst
          exact ⟨cur, getArr_setArr st1.world r cur hr1, hcur⟩
      | err e st1 => rw [hc] at hrun; simp at hrun
      | oof => rw [hc] at hrun; simp at hrun

/-- `sort_cb_perm_always` for the call itself -/
theorem arraySort_cb_perm (id r : Nat) (xs : List Lib.Value) (hlog : ∀ w, cfg.host.logFailure w = w)
    (hlen : ∀ a st v st1, call (.fn (.script id)) a st = .ok v st1 → st.world.heap.length ≤ st1.world.heap.length)
    (st : St) (hx : Lib.getArr st.world.heap r = some xs) (v : Value) (st' : St)
    (hrun : runTree cfg call (sortCb (.fn (.script id)) r xs st.world) st = .ok v st') :
    ∃ ys, Lib.getArr st'.world.heap r = some ys ∧ ys.Perm xs := by
  have hr := C15.getArr_lt (Option.isSome_of_eq_some hx)
  unfold sortCb at hrun
  by_cases hl : xs.length < 2
  · simp only [hl, if_true, runTree] at hrun
    injection hrun with _ hst; subst hst
    exact ⟨xs, hx, List.Perm.refl _⟩
  · simp only [hl, if_false] at hrun
    exact sort_cb_perm_always cfg call id r xs hlog hlen (pySort xs) (pySort_allPerm xs)
      (setArr st.world r []) st (by simpa [setArr] using hr) v st' hrun

/-- **sort_cb_nonnumber.**  The first answer of the comparator is neither a number nor a boolean (`null`, a string, an array, …):
`TypeError` inside `list.sort`; the call returns `null` and the array has exactly its old contents, in the old order. -/
theorem sort_cb_nonnumber (id r : Nat) (x0 x1 : Lib.Value) (tl : List Lib.Value) (hlog : ∀ w, cfg.host.logFailure w = w)
    (st st1 : St) (res : Value)
    (hc : call (.fn (.script id)) [ofLib x1, ofLib x0] { st with world := setArr st.world r [] } = .ok res st1)
    (hz : ltZero (toLib res) = none) :
    runTree cfg call (sortCb (.fn (.script id)) r (x0 :: x1 :: tl) st.world) st =
      .ok .null { st1 with world := setArr st1.world r (x0 :: x1 :: tl) } := by
  unfold sortCb
  have : ¬ (x0 :: x1 :: tl).length < 2 := by simp
  simp only [this, if_false, pySort]
  unfold sortTree
  simp only [cbCall_script, runTree_call, hc, hz, runTree, hlog, ite_self]

/-! ## the dispatch: the calls a script writes ARE these trees -/

/-- the validated arguments of a call of any function with a documented signature: `C15.gen_rows` read at its name -/
theorem validated_row {f : String} {ms : List Gen.ArgModel} (hs : (f, ms) ∈ LibMore.docSigAll) (args : List Lib.Value)
    (h : Lib.Heap) : validated f args h = some (Lib.validate h ms args) := by
  obtain ⟨mn, h1, -, h2⟩ := C15.gen_row_all hs
  simp only [validated, h1, h2]

/-- `value_args_validate` with the regenerated argument models (`Gen.argModels`) accepts the call-back forms and fills the defaults -/
theorem validated_sort (h : Lib.Heap) (r g : Nat) :
    validated "arraySort" [.arr r, .fn g] h = some (some [.one (.arr r), .one (.fn g)]) :=
  validated_row (ms := [Lib.Spec.arrP "array", { Lib.Spec.P "compareFn" (some "function") with nullable := true }])
    (List.mem_iff_getElem?.mpr ⟨1, rfl⟩) _ h

theorem validated_indexOf (h : Lib.Heap) (r g : Nat) :
    validated "arrayIndexOf" [.arr r, .fn g] h = some (some [.one (.arr r), .one (.fn g), .one (Lib.numN 0)]) :=
  validated_row (ms := [Lib.Spec.arrP "array", Lib.Spec.anyP "value", Lib.Spec.idx0P "index"])
    (List.mem_iff_getElem?.mpr ⟨7, rfl⟩) _ h

theorem validated_lastIndexOf (h : Lib.Heap) (r g : Nat) :
    validated "arrayLastIndexOf" [.arr r, .fn g] h = some (some [.one (.arr r), .one (.fn g), .one .null]) :=
  validated_row (ms := [Lib.Spec.arrP "array", Lib.Spec.anyP "value", Lib.Spec.idxEndP "index"])
    (List.mem_iff_getElem?.mpr ⟨9, rfl⟩) _ h

theorem lib_of_cbForm {name : String} {args : List Value} {w : LWorld} {t : Tree} (h : cbForm name args w = some t) :
    LibCb.lib name args w = t := by
  unfold LibCb.lib
  rw [h]

theorem cbForm_sort {args : List Value} {w : LWorld} {r g : Nat} {xs : List Lib.Value}
    (hv : validated "arraySort" (args.map toLib) w.heap = some (some [.one (.arr r), .one (.fn g)]))
    (hx : Lib.getArr w.heap r = some xs) : cbForm "arraySort" args w = some (sortCb (ofLib (.fn g)) r xs w) := by
  unfold cbForm
  simp only [beq_iff_eq, String.reduceEq, ↓reduceIte, hv, hx]

theorem cbForm_indexOf {args : List Value} {w : LWorld} {r g : Nat} {q : Rat} {xs : List Lib.Value}
    (hv : validated "arrayIndexOf" (args.map toLib) w.heap = some (some [.one (.arr r), .one (.fn g), .one (.num q)]))
    (hx : Lib.getArr w.heap r = some xs) (hq : Lib.rle (Lib.ofNat xs.length) q = false) :
    cbForm "arrayIndexOf" args w = some (searchCb (ofLib (.fn g)) r (upFrom (Lib.pyInt q).toNat xs.length) w) := by
  unfold cbForm
  simp only [beq_self_eq_true, ↓reduceIte, hv, hx, hq, Bool.false_eq_true]

theorem cbForm_lastIndexOf {args : List Value} {w : LWorld} {r g : Nat} {ix : Lib.Value} {q : Rat} {xs : List Lib.Value}
    (hv : validated "arrayLastIndexOf" (args.map toLib) w.heap = some (some [.one (.arr r), .one (.fn g), .one ix]))
    (hx : Lib.getArr w.heap r = some xs) (hi : Lib.idxOr xs.length ix = some q)
    (hq : Lib.rle (Lib.ofNat xs.length) q = false) :
    cbForm "arrayLastIndexOf" args w = some (searchCb (ofLib (.fn g)) r (downFrom (Lib.pyInt q)) w) := by
  unfold cbForm
  simp only [beq_iff_eq, String.reduceEq, ↓reduceIte, hv, hx, hi, hq, Bool.false_eq_true]

theorem ofLib_encFn_script (id : Nat) : ofLib (.fn (encFn (.script id))) = Value.fn (.script id) :=
  ofLib_toLib (.fn (.script id))

/-- **dispatch.**  `arraySort(array, f)` / `arrayIndexOf(array, f)` / `arrayLastIndexOf(array, f)` with a script function `f`, as the machine
host `LibCb.host` answers them, are exactly `sortCb` / `searchCb` over `range(0, len)` / `range(len-1, -1, -1)`: the theorems above
are theorems about these library calls (rewrite with these equations). -/
theorem lib_arraySort_cb (w : LWorld) (r id : Nat) (xs : List Lib.Value) (hx : Lib.getArr w.heap r = some xs) :
    LibCb.lib "arraySort" [.arr r, .fn (.script id)] w = sortCb (.fn (.script id)) r xs w := by
  have h := cbForm_sort (args := [.arr r, .fn (.script id)]) (validated_sort w.heap r (encFn (.script id))) hx
  rw [ofLib_encFn_script] at h
  exact lib_of_cbForm h

theorem lib_arrayIndexOf_cb (w : LWorld) (r id : Nat) (xs : List Lib.Value) (hx : Lib.getArr w.heap r = some xs) (hne : 0 < xs.length) :
    LibCb.lib "arrayIndexOf" [.arr r, .fn (.script id)] w = searchCb (.fn (.script id)) r (upFrom 0 xs.length) w := by
  have hq : Lib.rle (Lib.ofNat xs.length) (Rat.ofInt 0) = false := by
    rw [C15.rle_ofNat_ofInt]
    exact decide_eq_false (show ¬ (xs.length : Int) ≤ 0 by omega)
  have h := cbForm_indexOf (args := [.arr r, .fn (.script id)]) (validated_indexOf w.heap r (encFn (.script id))) hx hq
  rw [ofLib_encFn_script] at h
  exact lib_of_cbForm h

theorem lib_arrayLastIndexOf_cb (w : LWorld) (r id : Nat) (xs : List Lib.Value) (hx : Lib.getArr w.heap r = some xs) :
    LibCb.lib "arrayLastIndexOf" [.arr r, .fn (.script id)] w = searchCb (.fn (.script id)) r (downFrom ((xs.length : Int) - 1)) w := by
  have hq : Lib.rle (Lib.ofNat xs.length) (Rat.ofInt ((xs.length : Int) - 1)) = false := by
    rw [C15.rle_ofNat_ofInt]
    exact decide_eq_false (show ¬ (xs.length : Int) ≤ (xs.length : Int) - 1 by omega)
  have h := cbForm_lastIndexOf (args := [.arr r, .fn (.script id)]) (validated_lastIndexOf w.heap r (encFn (.script id))) hx rfl hq
  rw [ofLib_encFn_script, C15.pyInt_ofInt] at h
  exact lib_of_cbForm h

end C15Cb
