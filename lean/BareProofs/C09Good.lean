import BareProofs.RunRelMachine
open Machine
namespace C09
variable {W α β : Type}

/-- a preorder "the effects of `w'` extend those of `w`" on the abstract world -/
structure Ext (W : Type) where
  le : W → W → Prop
  refl : ∀ w, le w w
  trans : ∀ {a b c}, le a b → le b c → le a c

/-- the trivial preorder (used when only the counter matters) -/
def Ext.triv (W : Type) : Ext W := ⟨fun _ _ => True, fun _ => trivial, fun _ _ => trivial⟩

/-- every world a library interaction tree mentions extends the world it was started in -/
inductive TreeExt (E : Ext W) : W → LibTree W → Prop where
  | ret {w0 w out} : E.le w0 w → TreeExt E w0 (.ret out w)
  | call {w0 w f args k} : E.le w0 w → (∀ v w1, E.le w w1 → TreeExt E w1 (k v w1)) → TreeExt E w0 (.call f args w k)
  | globalGet {w0 w n k} : E.le w0 w → (∀ v, TreeExt E w (k v w)) → TreeExt E w0 (.globalGet n w k)
  | globalSet {w0 w n v k} : E.le w0 w → TreeExt E w (k w) → TreeExt E w0 (.globalSet n v w k)

/-- host law: no host operation loses observable effects -/
structure HostExt (E : Ext W) (host : Host W) : Prop where
  lib : ∀ name args w, TreeExt E w (host.lib name args w)
  other : ∀ k args w, TreeExt E w (host.other k args w)
  notCallable : ∀ v w, E.le w (host.notCallable v w)
  logFailure : ∀ w, E.le w (host.logFailure w)
  newArray : ∀ xs w, E.le w (host.newArray xs w).2

theorem treeExt_triv : ∀ (w0 : W) (t : LibTree W), TreeExt (Ext.triv W) w0 t
  | _, .ret _ _ => .ret trivial
  | _, .call _ _ _ k => .call trivial fun v w1 _ => treeExt_triv w1 (k v w1)
  | _, .globalGet _ w k => .globalGet trivial fun v => treeExt_triv w (k v w)
  | _, .globalSet _ _ w k => .globalSet trivial (treeExt_triv w (k w))

theorem hostExt_triv (host : Host W) : HostExt (Ext.triv W) host :=
  ⟨fun _ _ w => treeExt_triv w _, fun _ _ w => treeExt_triv w _, fun _ _ => trivial, fun _ => trivial, fun _ _ => trivial⟩

/-- the counter is within the budget `L` (`L = 0`: unlimited) -/
def Pre (L : Nat) (st : State W) : Prop := 0 < L → st.count ≤ L

def Step (E : Ext W) (s s' : State W) : Prop := s.count ≤ s'.count ∧ E.le s.world s'.world

theorem Step.refl (E : Ext W) (s : State W) : Step E s s := ⟨Nat.le_refl _, E.refl _⟩
theorem Step.trans {E : Ext W} {a b c : State W} (h1 : Step E a b) (h2 : Step E b c) : Step E a c :=
  ⟨Nat.le_trans h1.1 h2.1, E.trans h1.2 h2.2⟩

/-- an error state: the budget error is raised with the counter at exactly `L + 1`; any other error within the budget -/
def ErrOk (L : Nat) (e : RtErr) (s' : State W) : Prop :=
  match e with
  | .exceeded m => 0 < L ∧ m = L ∧ s'.count = L + 1
  | _ => Pre L s'

/-- final view of an outcome: what the invariants talk about -/
inductive Fin (W : Type) where
  | ok (st : State W)
  | err (e : RtErr) (st : State W)
  | oof

def Oc.fin : Oc α W → Fin W
  | .ok _ st => .ok st
  | .err e st => .err e st
  | .oof => .oof

def _root_.Machine.Out.fin : Out W → Fin W
  | .ok _ st => .ok st
  | .err e st => .err e st
  | .oof => .oof

def _root_.Machine.ArgsOut.fin : ArgsOut W → Fin W
  | .ok _ st => .ok st
  | .err e st => .err e st
  | .oof => .oof

def _root_.Machine.Res.fin : Res W → Fin W
  | .done st => .ok st
  | .ret _ st => .ok st
  | .err e st => .err e st
  | .oof => .oof

def Good (E : Ext W) (L : Nat) (st : State W) : Fin W → Prop
  | .ok s' => Step E st s' ∧ (Pre L st → Pre L s')
  | .err e s' => Step E st s' ∧ (Pre L st → ErrOk L e s')
  | .oof => True

theorem Good.trans {E : Ext W} {L : Nat} {st s1 : State W} {o : Fin W}
    (h1 : Good E L st (.ok s1)) (h2 : Good E L s1 o) : Good E L st o := by
  cases o with
  | ok s' => exact ⟨h1.1.trans h2.1, fun h => h2.2 (h1.2 h)⟩
  | err e s' => exact ⟨h1.1.trans h2.1, fun h => h2.2 (h1.2 h)⟩
  | oof => trivial

theorem Good.refl (E : Ext W) (L : Nat) (st : State W) : Good E L st (.ok st) := ⟨Step.refl E st, id⟩

theorem Good.errHere (E : Ext W) (L : Nat) (st : State W) (e : RtErr) (h : ∀ m, e ≠ .exceeded m) :
    Good E L st (.err e st) := by
  refine ⟨Step.refl E st, fun hp => ?_⟩
  cases e <;> first | exact hp | exact absurd rfl (h _)

def CallGood (E : Ext W) (L : Nat) (call : CallFn W) : Prop := ∀ f a s, Good E L s (call f a s).fin

theorem Out.fin_oc (o : Out W) : o.oc.fin = o.fin := by cases o <;> rfl
theorem ArgsOut.fin_oc (o : ArgsOut W) : o.oc.fin = o.fin := by cases o <;> rfl
theorem Res.fin_oc (o : Res W) : o.oc.fin = o.fin := by cases o <;> rfl

theorem Good.bind {E : Ext W} {L : Nat} {st : State W} {a : Oc α W} {k : α → State W → Oc β W}
    (h : Good E L st a.fin) (hk : ∀ x s1, Good E L s1 (k x s1).fin) : Good E L st (a.bind k).fin := by
  cases a with
  | ok x s1 => exact h.trans (hk x s1)
  | err e s1 => exact h
  | oof => trivial

theorem Good.sameCW {E : Ext W} {L : Nat} {s s' : State W} (hcnt : s'.count = s.count) (hw : s'.world = s.world) :
    Good E L s (.ok s') := by
  refine ⟨⟨by omega, by rw [hw]; exact E.refl _⟩, ?_⟩
  intro hp h0; have := hp h0; omega

theorem Good.world {E : Ext W} {L : Nat} {st : State W} {w : W} (h : E.le st.world w) :
    Good E L st (.ok { st with world := w }) := ⟨⟨Nat.le_refl _, h⟩, id⟩

/-- `Good` of one run, as a relation between runs: the right run is the left run -/
def goodRel (E : Ext W) (L : Nat) : RunRel W Unit :=
  .diag (fun s o => Good E L s o.fin) (fun _ s => Good.refl E L s) (fun e s he => Good.errHere E L s e he) Good.bind

theorem goodRel.holds {E : Ext W} {L : Nat} {s : State W} {o : Oc α W} {S : Unit → Oc α W} (h : (goodRel E L).R s o S) :
    Good E L s o.fin := h.2

theorem goodRel.call {E : Ext W} {L : Nat} {call : CallFn W} (hc : CallGood E L call) :
    (goodRel E L).Call call fun _ => call := RunRel.diag_call fun f a s => Out.fin_oc _ ▸ hc f a s

/-- a call runner related to another along the diagonal is that runner, and `Good` -/
theorem goodRel.callGood {E : Ext W} {L : Nat} {call call' : CallFn W} (h : (goodRel E L).Call call fun _ => call') :
    CallGood E L call ∧ call' = call :=
  ⟨fun f a s => Out.fin_oc _ ▸ (h f a s s rfl).2, funext fun f => funext fun a => funext fun s => Out.oc_inj (h f a s s rfl).1⟩

section Eval
set_option linter.unusedSectionVars false
variable (E : Ext W) (L : Nat) (cfg : Config W) (call : CallFn W) (hc : CallGood E L call) (locals : Option Env)
include hc

theorem evalExpr_good (e : Expr) (st : State W) : Good E L st (evalExpr cfg call locals e st).fin :=
  Out.fin_oc _ ▸ goodRel.holds ((goodRel E L).evalExpr_rel (.of_eq (fun _ _ h => h) rfl rfl locals fun _ => True)
    (goodRel.call hc) e st st (fun _ _ => trivial) rfl)

theorem evalIf_good : ∀ (es : List Expr) (st : State W), Good E L st (evalIf cfg call locals es st).fin :=
  fun es st => Out.fin_oc _ ▸ goodRel.holds ((goodRel E L).evalIf_rel
    (.of_eq (fun _ _ h => h) rfl rfl locals fun _ => True) (goodRel.call hc) es st st (fun _ _ => trivial) rfl)

/-- library interaction trees: call-backs go through `call`; the tree itself cannot touch the counter -/
theorem runTree_good (hlf : ∀ w, E.le w (cfg.host.logFailure w)) :
    ∀ (t : LibTree W) (st : State W), TreeExt E st.world t → Good E L st (runTree cfg call t st).oc.fin
  | .ret (.ok v) w, st, .ret hw => Good.world hw
  | .ret (.fail v) w, st, .ret hw => by
      simp only [runTree]
      split
      · exact Good.world (E.trans hw (hlf w))
      · exact Good.world hw
  | .ret (.rt msg) w, st, .ret hw => ⟨⟨Nat.le_refl _, hw⟩, id⟩
  | .call f args w k, st, .call hw hk => by
      rw [runTree_call]
      have h1 := hc f args { st with world := w }
      rw [← Out.fin_oc] at h1
      refine (Good.world hw).trans ?_
      generalize (call f args { st with world := w }).oc = o at h1 ⊢
      cases o with
      | ok v s1 => exact h1.trans (runTree_good hlf (k v s1.world) s1 (hk v s1.world h1.1.2))
      | err e s1 => exact h1
      | oof => trivial
  | .globalGet n w k, st, .globalGet hw hk => by
      simp only [runTree]
      exact (Good.world hw).trans (runTree_good hlf _ { st with world := w } (hk _))
  | .globalSet n v w k, st, .globalSet hw hk => by
      simp only [runTree]
      exact Good.trans (s1 := { st with globals := st.globals.set n v, world := w }) ⟨⟨Nat.le_refl _, hw⟩, id⟩
        (runTree_good hlf _ _ hk)
end Eval

theorem bindArgs_ext (E : Ext W) (host : Host W) (hna : ∀ xs w, E.le w (host.newArray xs w).2) (laa : Bool) :
    ∀ (ps : List Name) (as : List Value) (env : Env) (w : W), E.le w (bindArgs host laa ps as env w).2
  | [], _, _, w => by simp only [bindArgs]; exact E.refl w
  | [p], as, env, w => by
      simp only [bindArgs]
      split
      · exact hna as w
      · exact E.refl w
  | p :: q :: ps, as, env, w => by
      simp only [bindArgs]
      exact bindArgs_ext E host hna laa (q :: ps) as.tail _ w

theorem Good.tick (E : Ext W) (cfg : Config W) {st : State W} (hb : ¬ overBudget cfg st = true) :
    Good E cfg.maxStatements st (.ok { st with count := st.count + 1 }) := by
  simp only [overBudget, Bool.and_eq_true, decide_eq_true_eq] at hb
  refine ⟨⟨Nat.le_succ _, E.refl _⟩, fun _ h0 => ?_⟩
  simp only; omega

theorem goodMach (E : Ext W) (cfg : Config W) (hE : HostExt E cfg.host) : MachAgree (goodRel E cfg.maxStatements) cfg cfg where
  eq := fun _ _ h => h
  funs := rfl
  builtins := rfl
  resolve := rfl
  fetch := rfl
  truthy := rfl
  binop := rfl
  neg := rfl
  builtin := rfl
  notCallable := rfl
  newArray := rfl
  oof := fun _ => ⟨rfl, trivial⟩
  tick := fun st _ => ⟨rfl, by
    unfold tickOc
    split
    · next hb =>
      simp only [overBudget, Bool.and_eq_true, decide_eq_true_eq] at hb
      refine ⟨⟨Nat.le_succ _, E.refl _⟩, fun hp => ?_⟩
      have := hp hb.1
      exact ⟨hb.1, rfl, by simp only; omega⟩
    · next hb => exact Good.tick E cfg hb⟩
  enter := fun fd a s _ => ⟨rfl, Good.world (bindArgs_ext E cfg.host hE.newArray fd.lastArgArray fd.args a [] s.world)⟩
  typeError := fun _ _ _ => ⟨rfl, Good.world (hE.notCallable _ _)⟩
  setGlobals := fun _ _ _ => ⟨rfl, Good.sameCW rfl rfl⟩
  lib := fun h _ _ s _ =>
    have ⟨hg, he⟩ := goodRel.callGood h
    ⟨by rw [he], runTree_good E _ cfg _ hg hE.logFailure _ s (hE.lib _ _ _)⟩
  other := fun h _ _ s _ =>
    have ⟨hg, he⟩ := goodRel.callGood h
    ⟨by rw [he], runTree_good E _ cfg _ hg hE.logFailure _ s (hE.other _ _ _)⟩

def GoodM (E : Ext W) (cfg : Config W) (fuel : Nat) : Prop :=
  CallGood E cfg.maxStatements (callValue₀ cfg fuel) ∧
  (∀ P locals base pc st, Good E cfg.maxStatements st (execM₀ cfg fuel P locals base pc st).oc.fin) ∧
  (∀ base incs st, Good E cfg.maxStatements st (execIncludes₀ cfg fuel base incs st).oc.fin)

theorem goodM (E : Ext W) (cfg : Config W) (hE : HostExt E cfg.host) : ∀ fuel, GoodM E cfg fuel := fun fuel =>
  have ⟨hC, hX, hI⟩ := (goodMach E cfg hE).machine_rel fuel fuel (.inl rfl)
  ⟨fun f a s => Out.fin_oc _ ▸ goodRel.holds (hC f a s rfl), fun P l base pc st => goodRel.holds (hX P l base pc st rfl),
    fun base incs st => goodRel.holds (hI base incs st rfl)⟩

/-- a statement that starts within the budget: the final state is reached from the *ticked* state (so the counter
strictly increases over a started statement), for every fuel -/
theorem execM₀_tick_good (E : Ext W) (cfg : Config W) (hE : HostExt E cfg.host) (fuel : Nat) (P : List Stmt)
    (locals : Option Env) (base : Option String) (pc : Nat) (st : State W) (s : Stmt) (hs : P[pc]? = some s)
    (hb : ¬ overBudget cfg st = true) :
    Good E cfg.maxStatements { st with count := st.count + 1 } (execM₀ cfg fuel P locals base pc st).oc.fin := by
  cases fuel with
  | zero => rw [execM₀_zero hs]; trivial
  | succ fuel =>
    rw [execM₀_tick hs, tickOc, if_neg hb]
    exact goodRel.holds ((goodMach E cfg hE).stmt_rel ((goodMach E cfg hE).machine_rel fuel fuel (.inl rfl)) P locals base pc s _ rfl)

end C09
