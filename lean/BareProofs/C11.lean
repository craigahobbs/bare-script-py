import BareProofs.C11Lemmas

/-!
# C11 — value comparison is a total preorder and every consumer agrees with it

All theorems are about the mirror `Compare.valueCompare` (value.py:193-229) and hold for **all** closed values: any
nesting depth, any array/object size, any rational number, any string.  NaN is excluded by typing (`Rat` has none).
At the end, `key_faithful`: what makes a function of closed values a canonical key for the equivalence `valueCompare a b = 0`.
-/

namespace C11
open Compare

/-- The comparison only ever answers -1, 0 or 1. -/
theorem cmp_range (a b : PValue) : valueCompare a b = -1 ∨ valueCompare a b = 0 ∨ valueCompare a b = 1 := by
  have := (laws a).range b; omega

/-- Reflexive: every value compares equal to itself. -/
theorem cmp_refl (a : PValue) : valueCompare a a = 0 := (laws a).refl

/-- Antisymmetric: swapping the operands negates the result. -/
theorem cmp_antisymm (a b : PValue) : valueCompare a b = - valueCompare b a := (laws a).antisymm b

/-- Transitive. -/
theorem cmp_trans (a b c : PValue) (h₁ : valueCompare a b ≤ 0) (h₂ : valueCompare b c ≤ 0) : valueCompare a c ≤ 0 :=
  valueCompare_isPre.trans a b c h₁ h₂

/-- Transitivity, strict on the left / strict on the right / for "equal". -/
theorem cmp_trans_strict (a b c : PValue) :
    (valueCompare a b < 0 → valueCompare b c ≤ 0 → valueCompare a c < 0) ∧
    (valueCompare a b ≤ 0 → valueCompare b c < 0 → valueCompare a c < 0) ∧
    (valueCompare a b = 0 → valueCompare b c = 0 → valueCompare a c = 0) := (laws a).t3 b c

/-- Total: any two values are comparable. -/
theorem cmp_total (a b : PValue) : valueCompare a b ≤ 0 ∨ valueCompare b a ≤ 0 := by
  have := cmp_antisymm a b; omega

theorem cmp_congr {a a' : PValue} (h : valueCompare a a' = 0) (b : PValue) :
    valueCompare a b = valueCompare a' b ∧ valueCompare b a = valueCompare b a' := by
  have h' : valueCompare a' a = 0 := by rw [cmp_antisymm, h]; rfl
  have e : valueCompare a b = valueCompare a' b := by
    -- against `b` the signs agree (`a` and `a'` are interchangeable on the left), and both results lie in [-1, 1]
    have t2 := (cmp_trans_strict a a' b).2.1 (Int.le_of_eq h)
    have t3 := (cmp_trans_strict a a' b).2.2 h
    have u2 := (cmp_trans_strict a' a b).2.1 (Int.le_of_eq h')
    have u3 := (cmp_trans_strict a' a b).2.2 h'
    have := (laws a).range b
    have := (laws a').range b
    omega
  exact ⟨e, by rw [cmp_antisymm b a, cmp_antisymm b a', e]⟩

example : valueCompare (.arr [.num 1, .obj [("b", .null), ("a", .str "x")]]) (.arr [.num 1, .obj [("a", .str "x"), ("b", .null)]]) = 0 ∧
    valueCompare (.arr [.num 1]) (.arr [.num 1, .null]) = -1 ∧ valueCompare (.fn 1) (.fn 2) = 0 := by
  have e1 : strCompare "a" "b" = -1 := by decide
  have e2 : strCompare "b" "a" = 1 := by decide
  have e3 : strCompare "a" "a" = 0 := by decide
  have e4 : strCompare "b" "b" = 0 := by decide
  have e5 : strCompare "x" "x" = 0 := by decide
  have e6 : strCompare "function" "function" = 0 := by decide
  refine ⟨?_, ?_, ?_⟩ <;> simp [valueCompare, cmpList, cmpItems, sortItems, sortBy, insertBy, tri, typeName, *]

/-- null orders before everything else, and only null equals null. -/
theorem null_least (b : PValue) :
    valueCompare .null b ≤ 0 ∧ valueCompare b .null ≥ 0 ∧
    (valueCompare .null b = 0 ↔ b = .null) ∧ (b ≠ .null → valueCompare .null b = -1 ∧ valueCompare b .null = 1) := by
  cases b <;> simp [valueCompare]

/-- Two non-null values of different types compare exactly as their type names compare (as strings). -/
theorem cross_type_by_name (a b : PValue) (ha : a ≠ .null) (hb : b ≠ .null) (h : typeName a ≠ typeName b) :
    valueCompare a b = strCompare (typeName a) (typeName b) := cmp_of_typeName_ne ha hb h

/-- … that is: by the alphabetical rank array < boolean < datetime < function < number < object < regex < string. -/
theorem cross_type_by_rank (a b : PValue) :
    (rank a < rank b → valueCompare a b = -1) ∧ (rank b < rank a → valueCompare a b = 1) ∧
    (rank a = rank b ↔ typeName a = typeName b) := ⟨cmp_rank_lt a b, cmp_rank_gt a b, rank_eq_iff a b⟩

example : valueCompare (.num 5) (.str "") = -1 ∧ valueCompare (.bool true) (.arr []) = 1 ∧
    typeName (.regex 0) ≠ typeName (.obj []) := by
  refine ⟨?_, ?_, ?_⟩ <;> simp [valueCompare, typeName] <;> decide

/-- Numbers compare by their rational value and by nothing else: -/
theorem num_cmp (p q : Rat) :
    (valueCompare (.num p) (.num q) < 0 ↔ p < q) ∧ (valueCompare (.num p) (.num q) = 0 ↔ p = q) ∧
    (valueCompare (.num p) (.num q) > 0 ↔ q < p) := by
  simp only [valueCompare, tri, decide_eq_true_eq]
  rcases Std.lt_trichotomy p q with h | rfl | h
  · simp [h, Std.ne_of_lt h, Std.not_gt_of_lt h]
  · simp [Std.lt_irrefl]
  · simp [h, (Std.ne_of_lt h).symm, Std.not_gt_of_lt h]

/-- a host number: a Python `int`, or a finite `float` `m · 2^e` -/
inductive PyNum where
  | int (z : Int)
  | float (m : Int) (e : Int)

/-- its exact value -/
def PyNum.val : PyNum → Rat
  | .int z => z
  | .float m e => m * (2 : Rat) ^ e

/-- The comparison sees a number only through its rational value: two spellings of the same number (`1` and `1.0`) are the
same `PValue`, hence indistinguishable in every position of every comparison — as operand, and inside any container
context `C`. -/
theorem int_float_irrelevant (x y : PyNum) (h : x.val = y.val) (C : PValue → PValue) (b : PValue) :
    valueCompare (C (.num x.val)) b = valueCompare (C (.num y.val)) b ∧
    valueCompare b (C (.num x.val)) = valueCompare b (C (.num y.val)) ∧
    valueCompare (.num x.val) (.num y.val) = 0 := by
  rw [h]; exact ⟨rfl, rfl, cmp_refl _⟩

example : (PyNum.int 3).val = (PyNum.float 3 0).val ∧ (PyNum.int 3).val = (PyNum.float 6 (-1)).val := by
  constructor <;> simp only [PyNum.val] <;> grind

/-- Arrays: the first position where the elements differ decides; a proper prefix is smaller. -/
theorem arr_elementwise :
    valueCompare (.arr []) (.arr []) = 0 ∧
    (∀ y ys, valueCompare (.arr []) (.arr (y :: ys)) = -1) ∧
    (∀ x xs, valueCompare (.arr (x :: xs)) (.arr []) = 1) ∧
    (∀ x xs y ys, valueCompare (.arr (x :: xs)) (.arr (y :: ys)) =
      if valueCompare x y ≠ 0 then valueCompare x y else valueCompare (.arr xs) (.arr ys)) := by
  refine ⟨?_, ?_, ?_, ?_⟩ <;> intros <;> simp [valueCompare, cmpList]

/-- … spelled out: a common prefix of pairwise equal elements is skipped. -/
theorem arr_skip_equal_prefix : ∀ (p q xs ys : List PValue), p.length = q.length →
    (∀ (i : Nat) x y, p[i]? = some x → q[i]? = some y → valueCompare x y = 0) →
    valueCompare (.arr (p ++ xs)) (.arr (q ++ ys)) = valueCompare (.arr xs) (.arr ys)
  | [], [], _, _, _, _ => rfl
  | [], _ :: _, _, _, h, _ => by simp at h
  | _ :: _, [], _, _, h, _ => by simp at h
  | x :: p, y :: q, xs, ys, hl, he => by
    have h0 : valueCompare x y = 0 := he 0 x y rfl rfl
    have ih := arr_skip_equal_prefix p q xs ys (Nat.succ.inj hl) (fun i a b ha hb => he (i + 1) a b ha hb)
    rw [List.cons_append, List.cons_append, arr_elementwise.2.2.2, h0, if_neg (by decide)]
    exact ih

/-- Objects: both item lists are put in key order; then the first position where the keys differ, or else the values
differ, decides; a proper prefix is smaller. -/
theorem obj_elementwise (a b : List (String × PValue)) :
    valueCompare (.obj a) (.obj b) = cmpItems (sortItems a) (sortItems b) ∧
    cmpItems [] [] = 0 ∧ (∀ y ys, cmpItems [] (y :: ys) = -1) ∧ (∀ x xs, cmpItems (x :: xs) [] = 1) ∧
    (∀ k₁ v₁ xs k₂ v₂ ys, cmpItems ((k₁, v₁) :: xs) ((k₂, v₂) :: ys) =
      if strCompare k₁ k₂ ≠ 0 then strCompare k₁ k₂
      else if valueCompare v₁ v₂ ≠ 0 then valueCompare v₁ v₂ else cmpItems xs ys) := by
  refine ⟨?_, ?_, ?_, ?_, ?_⟩ <;> intros <;> simp [valueCompare, cmpItems]

theorem codeCmp_eq_zero (a b : List Nat) (h : codeCmp a b = 0) : a = b := by
  simpa using (codeCmp_isLex.zero_iff id a b fun x _ y _ => by rw [tri_eq]; simp; omega).mpr h

/-- Strings compare equal only when they are the same string (code-point order is a linear order). -/
theorem str_cmp_zero_iff (s t : String) : strCompare s t = 0 ↔ s = t := by
  refine ⟨fun h => String.toList_inj.mp ?_, fun h => h ▸ (strCompare_laws _).refl⟩
  exact (List.map_inj_right fun a b hab => Char.toNat_inj.mp hab).mp (codeCmp_eq_zero _ _ h)

/-- the comparator `sorted(d.items())` effectively uses -/
abbrev keyCmp : String × PValue → String × PValue → Int := fun p q => strCompare p.1 q.1

theorem keyCmp_isPre : IsPre keyCmp := (IsPre.of_laws strCompare_laws).comap Prod.fst

theorem eq_of_key_eq {l : List (String × PValue)} (hk : (l.map (·.1)).Nodup) {p q : String × PValue} (hp : p ∈ l) (hq : q ∈ l)
    (h : p.1 = q.1) : p = q := by
  have hR : l.Pairwise (fun a b => a.1 ≠ b.1) := List.pairwise_map.mp hk
  exact List.Pairwise.forall_of_forall_of_flip (R := fun a b => a.1 = b.1 → a = b) (fun _ _ _ => rfl)
    (hR.imp fun hne e => absurd e hne) (hR.imp fun hne e => absurd e.symm hne) hp hq h

theorem sorted_items_unique {l₁ l₂ : List (String × PValue)} (h₁ : Sorted keyCmp l₁) (h₂ : Sorted keyCmp l₂)
    (hp : l₁.Perm l₂) (hk : (l₁.map (·.1)).Nodup) : l₁ = l₂ := by
  refine List.Perm.eq_of_pairwise (fun p q hp' hq h1 h2 => eq_of_key_eq hk hp' (hp.mem_iff.mpr hq) ?_) h₁ h₂ hp
  have := keyCmp_isPre.antisymm p q
  exact (str_cmp_zero_iff _ _).mp (by unfold keyCmp at *; omega)

/-- The item list in key order is canonical: two dicts with the same items (in whatever insertion order) and pairwise
different keys have the *same* sorted item list — -/
theorem sortItems_canonical (a b : List (String × PValue)) (hp : a.Perm b) (hk : (a.map (·.1)).Nodup) :
    sortItems a = sortItems b :=
  sorted_items_unique (sortBy_sorted keyCmp_isPre a) (sortBy_sorted keyCmp_isPre b)
    ((sortItems_perm a).trans (hp.trans (sortItems_perm b).symm)) (((sortItems_perm a).map (·.1)).nodup_iff.mpr hk)

/-- … so insertion order is invisible to the comparison. -/
theorem obj_order_irrelevant (a b : List (String × PValue)) (hp : a.Perm b) (hk : (a.map (·.1)).Nodup) (c : PValue) :
    valueCompare (.obj a) (.obj b) = 0 ∧ valueCompare (.obj a) c = valueCompare (.obj b) c ∧
    valueCompare c (.obj a) = valueCompare c (.obj b) := by
  have h0 : valueCompare (.obj a) (.obj b) = 0 := by
    have := cmp_refl (.obj b)
    rw [valueCompare] at this ⊢
    rwa [sortItems_canonical a b hp hk]
  exact ⟨h0, cmp_congr h0 c⟩

theorem wfList_mem (l : List PValue) (h : WFList l = true) (y : PValue) (hy : y ∈ l) : WFValue y = true := by
  induction l with
  | nil => cases hy
  | cons x xs ih => exact (List.mem_cons.mp hy).elim (· ▸ (Bool.and_eq_true_iff.mp h).1) (ih (Bool.and_eq_true_iff.mp h).2)

theorem wfItems_mem (l : List (String × PValue)) (h : WFItems l = true) (q : String × PValue) (hq : q ∈ l) :
    WFValue q.2 = true := by
  induction l with
  | nil => cases hq
  | cons x xs ih => exact (List.mem_cons.mp hq).elim (· ▸ (Bool.and_eq_true_iff.mp h).1) (ih (Bool.and_eq_true_iff.mp h).2)

example : WFValue (.obj [("b", .num 1), ("a", .arr [.obj [("x", .null)]])]) = true ∧
    [("b", PValue.num 1), ("a", .null)].Perm [("a", .null), ("b", .num 1)] := by
  refine ⟨by decide, ?_⟩
  exact List.Perm.swap _ _ _

/-- The six relational operators are exactly the sign tests of the comparison … -/
theorem relops_sign (a b : PValue) :
    (relop .eq a b = true ↔ valueCompare a b = 0) ∧ (relop .ne a b = true ↔ valueCompare a b ≠ 0) ∧
    (relop .le a b = true ↔ valueCompare a b ≤ 0) ∧ (relop .lt a b = true ↔ valueCompare a b < 0) ∧
    (relop .ge a b = true ↔ valueCompare a b ≥ 0) ∧ (relop .gt a b = true ↔ valueCompare a b > 0) := by
  simp [relop]

theorem sign_tri (x : Int) : (decide (x < 0)).toNat + (x == 0).toNat + (decide (x > 0)).toNat = 1 := by
  rcases Int.lt_trichotomy x 0 with h | rfl | h
  · rw [decide_eq_true h, beq_false_of_ne (Int.ne_of_lt h), decide_eq_false (Int.lt_asymm h)]; rfl
  · rfl
  · rw [decide_eq_false (Int.lt_asymm h), beq_false_of_ne (Int.ne_of_gt h), decide_eq_true h]; rfl

/-- … hence obey the usual identities: `!=` is the negation of `==`, `>` of `<=`, `<` of `>=`; `a >= b` is `b <= a`,
`a > b` is `b < a`; `==` is symmetric; `<=` is `<` or `==`; exactly one of `<`, `==`, `>` holds. -/
theorem relops_identities (a b : PValue) :
    relop .ne a b = !relop .eq a b ∧ relop .gt a b = !relop .le a b ∧ relop .lt a b = !relop .ge a b ∧
    relop .ge a b = relop .le b a ∧ relop .gt a b = relop .lt b a ∧ relop .eq a b = relop .eq b a ∧
    relop .le a b = (relop .lt a b || relop .eq a b) ∧
    ((relop .lt a b).toNat + (relop .eq a b).toNat + (relop .gt a b).toNat = 1) := by
  have h := cmp_antisymm a b
  simp only [relop]
  generalize valueCompare a b = x at *
  generalize valueCompare b a = y at *
  subst h
  refine ⟨?_, ?_, ?_, ?_, ?_, ?_, ?_, sign_tri _⟩
  · simp [bne]
  · rw [Bool.eq_iff_iff]; simp
  · rw [Bool.eq_iff_iff]; simp
  · rw [Bool.eq_iff_iff]; simp
  · rw [Bool.eq_iff_iff]; simp
  · rw [Bool.eq_iff_iff]; simp
  · rw [Bool.eq_iff_iff]; simp; omega

example : relop .lt (.num 1) (.num 2) = true ∧ relop .ge (.str "a") (.null) = true := by
  have e5 : (1 : Rat) < 2 := by decide
  simp [relop, valueCompare, tri, e5]

/-- `arraySort` (no compare function) returns an ordered permutation of its input … -/
theorem sort_sorted_perm (xs : List PValue) :
    (arraySort xs).Pairwise (fun x y => valueCompare x y ≤ 0) ∧ (arraySort xs).Perm xs :=
  ⟨sortBy_sorted valueCompare_isPre xs, sortBy_perm _ xs⟩

/-- … in which elements that compare equal keep their original relative order: for every value `a`, the subsequence of
elements equal to `a` is unchanged. -/
theorem sort_stable (xs : List PValue) (a : PValue) :
    (arraySort xs).filter (fun x => valueCompare x a == 0) = xs.filter (fun x => valueCompare x a == 0) :=
  sortBy_stable valueCompare_isPre xs a

/-- A stable sort by a total preorder has exactly one possible result: *any* ordered list with the same
equal-element subsequences as `xs` (what every stable sort returns — CPython's `list.sort` merge runs included) is
`arraySort xs`. -/
theorem stable_sort_unique (xs ys : List PValue)
    (hsorted : ys.Pairwise (fun x y => valueCompare x y ≤ 0))
    (hstable : ∀ a, ys.filter (fun x => valueCompare x a == 0) = xs.filter (fun x => valueCompare x a == 0)) :
    ys = arraySort xs :=
  sorted_stable_unique valueCompare_isPre ys (arraySort xs) hsorted (sort_sorted_perm xs).1
    (fun a => (hstable a).trans (sort_stable xs a).symm)

/-- the same for any comparator that is a total preorder -/
theorem sortBy_spec {α : Type} {c : α → α → Int} (h : IsPre c) (xs : List α) :
    Sorted c (sortBy (ltOf c) xs) ∧ (sortBy (ltOf c) xs).Perm xs ∧
    (∀ a, (sortBy (ltOf c) xs).filter (eqv c a) = xs.filter (eqv c a)) ∧
    (∀ ys, Sorted c ys → (∀ a, ys.filter (eqv c a) = xs.filter (eqv c a)) → ys = sortBy (ltOf c) xs) :=
  ⟨sortBy_sorted h xs, sortBy_perm _ xs, sortBy_stable h xs, fun ys hs hf =>
    sorted_stable_unique h ys _ hs (sortBy_sorted h xs) (fun a => (hf a).trans (sortBy_stable h xs a).symm)⟩

example : arraySort [.num 2, .fn 7, .null, .num 1, .fn 3] = [.null, .fn 7, .fn 3, .num 1, .num 2] := by
  have e1 : strCompare "function" "function" = 0 := by decide
  have e2 : strCompare "function" "number" = -1 := by decide
  have e3 : strCompare "number" "function" = 1 := by decide
  have e4 : ¬ ((2 : Rat) < 1) := by decide
  have e5 : (1 : Rat) < 2 := by decide
  simp [arraySort, sortBy, insertBy, valueCompare, tri, typeName, *]

/-- The multi-key comparator of `dataSort` (fields in order, each ascending or descending, missing field = null) is a
total preorder on rows … -/
theorem sortDataFn_isPre : ∀ sorts : List (String × Bool), IsPre (sortDataFn sorts)
  | [] => ⟨fun _ => rfl, fun _ _ => rfl, fun _ _ _ _ _ => Int.le_refl 0⟩
  | (field, desc) :: rest => by
    have h1 : IsPre (fun r1 r2 : List (String × PValue) =>
        if desc then valueCompare (rowGet field r2) (rowGet field r1) else valueCompare (rowGet field r1) (rowGet field r2)) := by
      cases desc
      · exact valueCompare_isPre.comap (rowGet field)
      · exact (valueCompare_isPre.comap (rowGet field)).flip
    exact h1.lex (sortDataFn_isPre rest)

/-- … so `dataSort` returns the unique ordered, stable permutation of the rows. -/
theorem dataSort_spec (sorts : List (String × Bool)) (rows : List (List (String × PValue))) :
    Sorted (sortDataFn sorts) (dataSort sorts rows) ∧ (dataSort sorts rows).Perm rows ∧
    (∀ r, (dataSort sorts rows).filter (eqv (sortDataFn sorts) r) = rows.filter (eqv (sortDataFn sorts) r)) ∧
    (∀ ys, Sorted (sortDataFn sorts) ys → (∀ r, ys.filter (eqv (sortDataFn sorts) r) = rows.filter (eqv (sortDataFn sorts) r)) →
      ys = dataSort sorts rows) :=
  sortBy_spec (sortDataFn_isPre sorts) rows

example : dataSort [("a", true), ("b", false)] [[("a", .num 1), ("b", .num 2)], [("a", .num 2)], [("b", .num 1), ("a", .num 1)]] =
    [[("a", .num 2)], [("b", .num 1), ("a", .num 1)], [("a", .num 1), ("b", .num 2)]] := by
  have e4 : ¬ ((2 : Rat) < 1) := by decide
  have e5 : (1 : Rat) < 2 := by decide
  simp [dataSort, sortBy, insertBy, sortDataFn, rowGet, valueCompare, tri, *]

/-- the fold of `_math_max` once the first argument has been taken -/
def pick (c : α → α → Int) (r : α) (vs : List α) : α := vs.foldl (fun r v => if c v r > 0 then v else r) r

/-- `r` is a greatest element of `pre`, and the first such -/
def FirstBest (c : α → α → Int) (pre : List α) (r : α) : Prop :=
  ∃ i, pre[i]? = some r ∧ (∀ w ∈ pre, c w r ≤ 0) ∧ (∀ w ∈ pre.take i, c w r < 0)

theorem pick_spec {α : Type} {c : α → α → Int} (h : IsPre c) : ∀ (vs pre : List α) (r : α),
    FirstBest c pre r → FirstBest c (pre ++ vs) (pick c r vs)
  | [], pre, r, hb => by simpa [pick] using hb
  | v :: vs, pre, r, ⟨i, hi, hall, hbefore⟩ => by
    have hlt : i < pre.length := by
      have ⟨hlt, _⟩ := List.getElem?_eq_some_iff.mp hi; exact hlt
    have step : FirstBest c (pre ++ [v]) (if c v r > 0 then v else r) := by
      by_cases hv : c v r > 0
      · simp only [hv, if_true]
        refine ⟨pre.length, by simp, fun w hw => ?_, fun w hw => ?_⟩
        · rcases List.mem_append.mp hw with hw | hw
          · have := h.antisymm v r
            exact Int.le_of_lt (h.le_lt (hall w hw) (by omega))
          · have : w = v := by simpa using hw
            rw [this, h.refl]; omega
        · rw [List.take_left] at hw
          have := h.antisymm v r
          exact h.le_lt (hall w hw) (by omega)
      · simp only [hv, if_false]
        refine ⟨i, by rw [List.getElem?_append_left hlt]; exact hi, fun w hw => ?_, fun w hw => ?_⟩
        · rcases List.mem_append.mp hw with hw | hw
          · exact hall w hw
          · have : w = v := by simpa using hw
            rw [this]; omega
        · rw [List.take_append_of_le_length (Nat.le_of_lt hlt)] at hw
          exact hbefore w hw
    have := pick_spec h vs (pre ++ [v]) _ step
    simpa [pick] using this

theorem foldl_maxStep (r : PValue) (vs : List PValue) :
    (vs.foldl maxStep (r, false)).1 = pick valueCompare r vs := by
  induction vs generalizing r with
  | nil => rfl
  | cons v vs ih =>
    simp only [List.foldl_cons, pick]
    by_cases hv : valueCompare v r > 0
    · simp only [maxStep, hv, if_true, Bool.false_eq_true, if_false]; exact ih v
    · simp only [maxStep, hv, if_false, Bool.false_eq_true]; exact ih r

theorem foldl_minStep (r : PValue) (vs : List PValue) :
    (vs.foldl minStep (r, false)).1 = pick (fun a b => valueCompare b a) r vs := by
  induction vs generalizing r with
  | nil => rfl
  | cons v vs ih =>
    have := cmp_antisymm v r
    simp only [List.foldl_cons, pick]
    by_cases hv : valueCompare v r < 0
    · have hv' : valueCompare r v > 0 := by omega
      simp only [minStep, hv, hv', if_true, Bool.false_eq_true, if_false]; exact ih v
    · have hv' : ¬ valueCompare r v > 0 := by omega
      simp only [minStep, hv, hv', if_false, Bool.false_eq_true]; exact ih r

/-- `mathMax` returns a greatest argument — the *first* one among equals — and `mathMin` a least one, the first among
equals; with no arguments both return null. Arguments may be of any type (null included: it is simply the least value). -/
theorem min_max_spec (values : List PValue) :
    (values = [] → mathMax values = .null ∧ mathMin values = .null) ∧
    (values ≠ [] →
      (∃ i, values[i]? = some (mathMax values) ∧ (∀ w ∈ values, valueCompare w (mathMax values) ≤ 0) ∧
            (∀ w ∈ values.take i, valueCompare w (mathMax values) < 0)) ∧
      (∃ i, values[i]? = some (mathMin values) ∧ (∀ w ∈ values, valueCompare (mathMin values) w ≤ 0) ∧
            (∀ w ∈ values.take i, valueCompare (mathMin values) w < 0))) := by
  refine ⟨fun h => by subst h; exact ⟨rfl, rfl⟩, fun h => ?_⟩
  match values, h with
  | v :: vs, _ =>
    have hmax : mathMax (v :: vs) = pick valueCompare v vs := by
      simp only [mathMax, List.foldl_cons, maxStep, if_true]; exact foldl_maxStep v vs
    have hmin : mathMin (v :: vs) = pick (fun a b => valueCompare b a) v vs := by
      simp only [mathMin, List.foldl_cons, minStep, if_true]; exact foldl_minStep v vs
    have base : ∀ c : PValue → PValue → Int, IsPre c → FirstBest c [v] v := fun c hc =>
      ⟨0, rfl, fun w hw => by have : w = v := by simpa using hw
                              rw [this, hc.refl]; omega, fun w hw => by simp at hw⟩
    have h1 := pick_spec valueCompare_isPre vs [v] v (base _ valueCompare_isPre)
    have h2 := pick_spec valueCompare_isPre.flip vs [v] v (base _ valueCompare_isPre.flip)
    rw [hmax, hmin]
    exact ⟨h1, h2⟩

example : mathMax [.num 1, .str "a", .null, .str "a"] = .str "a" ∧ mathMin [.num 1, .str "a", .null] = .null ∧
    mathMax [] = .null := by
  have e2 : strCompare "string" "number" = 1 := by decide
  have e3 : strCompare "a" "a" = 0 := by decide
  simp [mathMax, mathMin, maxStep, minStep, valueCompare, typeName, *]

theorem arrayIndexOf_eq_none (xs : List PValue) (v : PValue) (index : Nat) :
    arrayIndexOf xs v index = none ↔ ∃ id, v = .fn id := by
  constructor
  · intro h
    cases v with
    | fn id => exact ⟨id, rfl⟩
    | _ => cases h
  · rintro ⟨id, rfl⟩; rfl

theorem arrayIndexOf_value {v : PValue} (hv : ∀ id, v ≠ .fn id) (xs : List PValue) (index : Nat) :
    arrayIndexOf xs v index = some (if index ≥ xs.length then -1 else scanFrom v index (xs.drop index)) := by
  cases v <;> first | rfl | exact absurd rfl (hv _)

theorem findIdx?_cases {α : Type} (p : α → Bool) (l : List α) :
    (l.findIdx? p = none ∧ ∀ (j : Nat) x, l[j]? = some x → p x = false) ∨
    (∃ (k : Nat) (x : α), l.findIdx? p = some k ∧ l[k]? = some x ∧ p x = true ∧
      ∀ (j : Nat) y, j < k → l[j]? = some y → p y = false) := by
  cases h : l.findIdx? p with
  | none => exact .inl ⟨rfl, fun j x hx => List.findIdx?_eq_none_iff.mp h x (List.mem_of_getElem? hx)⟩
  | some k =>
    obtain ⟨hk, hp, hlt⟩ := List.findIdx?_eq_some_iff_getElem.mp h
    refine .inr ⟨k, l[k], rfl, List.getElem?_eq_getElem hk, hp, fun j y hj hy => ?_⟩
    obtain ⟨_, rfl⟩ := List.getElem?_eq_some_iff.mp hy
    exact Bool.eq_false_iff.mpr (hlt j hj)

theorem scanFrom_eq (v : PValue) : ∀ (xs : List PValue) (ix : Nat),
    scanFrom v ix xs = ((xs.findIdx? (eqv valueCompare v)).elim (-1) fun k => ((ix + k : Nat) : Int))
  | [], _ => rfl
  | x :: xs, ix => by
    rw [scanFrom, List.findIdx?_cons, scanFrom_eq v xs (ix + 1)]
    split
    · rfl
    · cases xs.findIdx? (eqv valueCompare v) with
      | none => rfl
      | some k => simp only [Option.map_some, Option.elim_some]; congr 1; omega

theorem scanDown_eq (v : PValue) : ∀ (xs : List PValue) (ix : Nat),
    scanDown v ix xs = ((xs.findIdx? (eqv valueCompare v)).elim (-1) fun k => ((ix - k : Nat) : Int))
  | [], _ => rfl
  | x :: xs, ix => by
    rw [scanDown, List.findIdx?_cons, scanDown_eq v xs (ix - 1)]
    split
    · rfl
    · cases xs.findIdx? (eqv valueCompare v) with
      | none => rfl
      | some k => simp only [Option.map_some, Option.elim_some]; congr 1; omega

/-- `arrayIndexOf(array, value, index)` with a value needle returns the first position `k ≥ index` whose element
compares equal to the needle, and -1 when there is none (in particular when `index` is past the end). A function needle
is not a value search (`none`). -/
theorem indexOf_first (xs : List PValue) (v : PValue) (index : Nat) :
    ((∃ id, v = .fn id) ↔ arrayIndexOf xs v index = none) ∧
    ∀ r, arrayIndexOf xs v index = some r →
      (r = -1 ∧ ∀ j x, index ≤ j → xs[j]? = some x → valueCompare x v ≠ 0) ∨
      (∃ (k : Nat) (x : PValue), r = (k : Int) ∧ index ≤ k ∧ xs[k]? = some x ∧ valueCompare x v = 0 ∧
        ∀ j y, index ≤ j → j < k → xs[j]? = some y → valueCompare y v ≠ 0) := by
  refine ⟨(arrayIndexOf_eq_none xs v index).symm, fun r hr => ?_⟩
  have hv : ∀ id, v ≠ .fn id := fun id e => by rw [e] at hr; cases hr
  rw [arrayIndexOf_value hv] at hr
  cases hr
  by_cases hlen : index ≥ xs.length
  · rw [if_pos hlen]
    exact .inl ⟨rfl, fun j x hj hx => absurd (List.getElem?_eq_some_iff.mp hx).1 (by omega)⟩
  · rw [if_neg hlen, scanFrom_eq]
    rcases findIdx?_cases (eqv valueCompare v) (xs.drop index) with ⟨h, hall⟩ | ⟨k, x, h, hk, hx, hbefore⟩
    · rw [h]
      refine .inl ⟨rfl, fun j x hj hx => ?_⟩
      obtain ⟨d, rfl⟩ := Nat.exists_eq_add_of_le hj
      exact ne_of_beq_false (hall d x (by rw [List.getElem?_drop]; exact hx))
    · rw [h]
      refine .inr ⟨index + k, x, rfl, Nat.le_add_right .., by rw [← List.getElem?_drop]; exact hk, eq_of_beq hx,
        fun j y hj hjk hy => ?_⟩
      obtain ⟨d, rfl⟩ := Nat.exists_eq_add_of_le hj
      exact ne_of_beq_false (hbefore d y (by omega) (by rw [List.getElem?_drop]; exact hy))

example : arrayIndexOf [.num 1, .str "x", .num 1] (.num 1) 1 = some 2 ∧ arrayIndexOf [.num 1] (.num 1) 1 = some (-1) ∧
    arrayIndexOf [.fn 0] (.fn 0) = none := by
  have e1 : strCompare "string" "number" = 1 := by decide
  simp [arrayIndexOf, scanFrom, valueCompare, tri, typeName, *]

theorem arrayLastIndexOf_eq_none (xs : List PValue) (v : PValue) (index : Option Nat) :
    arrayLastIndexOf xs v index = none ↔ ∃ id, v = .fn id := by
  constructor
  · intro h
    cases v with
    | fn id => exact ⟨id, rfl⟩
    | _ => cases index <;> cases h
  · rintro ⟨id, rfl⟩; rfl

theorem arrayLastIndexOf_value {v : PValue} (hv : ∀ id, v ≠ .fn id) (xs : List PValue) (index : Option Nat) :
    arrayLastIndexOf xs v index = some (match index with
      | none => scanDown v (xs.length - 1) xs.reverse
      | some i => if i ≥ xs.length then -1 else scanDown v i (xs.take (i + 1)).reverse) := by
  cases v <;> cases index <;> first | rfl | exact absurd rfl (hv _)

theorem rev_take_get (xs : List PValue) (s k : Nat) (hs : s < xs.length) (hk : k ≤ s) :
    (xs.take (s + 1)).reverse[k]? = xs[s - k]? := by
  have hl : (xs.take (s + 1)).length = s + 1 := by rw [List.length_take]; omega
  rw [List.getElem?_reverse (by omega), hl, List.getElem?_take_of_lt (by omega)]
  rfl

theorem scanDown_take (xs : List PValue) (v : PValue) (s : Nat) (hs : s < xs.length) :
    (scanDown v s (xs.take (s + 1)).reverse = -1 ∧ ∀ j x, j ≤ s → xs[j]? = some x → valueCompare x v ≠ 0) ∨
    (∃ (k : Nat) (x : PValue), scanDown v s (xs.take (s + 1)).reverse = (k : Int) ∧ k ≤ s ∧ xs[k]? = some x ∧ valueCompare x v = 0 ∧
      ∀ j y, k < j → j ≤ s → xs[j]? = some y → valueCompare y v ≠ 0) := by
  -- position `j ≤ s` of `xs` is position `s - j` of the reversed prefix
  have hget : ∀ j x, j ≤ s → xs[j]? = some x → (xs.take (s + 1)).reverse[s - j]? = some x := fun j x hj hx => by
    rw [rev_take_get xs s (s - j) hs (Nat.sub_le ..), Nat.sub_sub_self hj]; exact hx
  rw [scanDown_eq]
  rcases findIdx?_cases (eqv valueCompare v) (xs.take (s + 1)).reverse with ⟨h, hall⟩ | ⟨k, x, h, hk, hx, hbefore⟩
  · rw [h]
    exact .inl ⟨rfl, fun j x hj hxj => ne_of_beq_false (hall _ x (hget j x hj hxj))⟩
  · have hks : k ≤ s := by
      have := (List.getElem?_eq_some_iff.mp hk).1
      rw [List.length_reverse, List.length_take] at this; omega
    rw [h]
    refine .inr ⟨s - k, x, rfl, Nat.sub_le .., by rw [← rev_take_get xs s k hs hks]; exact hk, eq_of_beq hx,
      fun j y hkj hjs hy => ne_of_beq_false (hbefore _ y (by omega) (hget j y hjs hy))⟩

/-- `arrayLastIndexOf(array, value, index)` with a value needle returns the last position `k ≤ index` (default: the last
position of the array) whose element compares equal to the needle, and -1 when there is none; an `index` past the end is
the argument error whose value is -1. -/
theorem lastIndexOf_last (xs : List PValue) (v : PValue) (index : Option Nat) :
    ((∃ id, v = .fn id) ↔ arrayLastIndexOf xs v index = none) ∧
    ∀ r, arrayLastIndexOf xs v index = some r →
      ((∃ i, index = some i ∧ i ≥ xs.length) ∧ r = -1) ∨
      (r = -1 ∧ ∀ j x, j ≤ index.getD (xs.length - 1) → xs[j]? = some x → valueCompare x v ≠ 0) ∨
      (∃ (k : Nat) (x : PValue), r = (k : Int) ∧ k ≤ index.getD (xs.length - 1) ∧ xs[k]? = some x ∧ valueCompare x v = 0 ∧
        ∀ j y, k < j → j ≤ index.getD (xs.length - 1) → xs[j]? = some y → valueCompare y v ≠ 0) := by
  refine ⟨(arrayLastIndexOf_eq_none xs v index).symm, fun r hr => ?_⟩
  have hv : ∀ id, v ≠ .fn id := fun id e => by rw [e] at hr; cases index <;> cases hr
  rw [arrayLastIndexOf_value hv] at hr
  cases hr
  cases index with
  | some i =>
    by_cases hi : i ≥ xs.length
    · exact .inl ⟨⟨i, rfl, hi⟩, if_pos hi⟩
    · simp only [if_neg hi, Option.getD_some]
      exact .inr (scanDown_take xs v i (Nat.lt_of_not_le hi))
  | none =>
    cases xs with
    | nil => exact .inr (.inl ⟨rfl, fun j x _ hx => by simp at hx⟩)
    | cons y ys =>
      have h := scanDown_take (y :: ys) v ((y :: ys).length - 1) (Nat.sub_lt (Nat.succ_pos _) Nat.one_pos)
      rw [List.take_of_length_le (by simp)] at h
      exact .inr h

example : arrayLastIndexOf [.num 1, .str "x", .num 1, .null] (.num 1) = some 2 ∧
    arrayLastIndexOf [.num 1, .str "x", .num 1] (.num 1) (some 1) = some 0 ∧ arrayLastIndexOf [] (.num 1) = some (-1) := by
  have e1 : strCompare "string" "number" = 1 := by decide
  simp [arrayLastIndexOf, scanDown, valueCompare, tri, typeName, *]

/-! ## canonical keys: functions of closed values that tell apart exactly what `value_compare` tells apart -/

/-- `value_compare` asks the types first, so it never calls values of different types equal -/
theorem rank_eq_of_cmp_zero {a b : PValue} (h : valueCompare a b = 0) : rank a = rank b := by
  rcases Nat.lt_trichotomy (rank a) (rank b) with hr | hr | hr
  · rw [cmp_rank_lt a b hr] at h; omega
  · exact hr
  · rw [cmp_rank_gt a b hr] at h; omega

theorem bool_cmp_zero (x y : Bool) : valueCompare (.bool x) (.bool y) = 0 ↔ x = y := by
  rw [valueCompare, tri_eq]; cases x <;> cases y <;> decide

theorem dt_cmp_zero (x y : Int) : valueCompare (.dt x) (.dt y) = 0 ↔ x = y := by
  rw [valueCompare, tri_eq, decide_eq_false_iff_not, decide_eq_true_eq]; omega

/-- **Canonical keys.**  What makes `F a = F b` say `valueCompare a b = 0`, on a class `C` of closed values that contains the
elements of its arrays and the item values of its objects (`Carr`, `Cobj`).  The type of a value can be read off its key, by `rk`
(`hrk`).  The key of an array is an injective function `A` of the keys of its elements (`harr`, `hA`); the key of an object, an
injective function `O` of its key-sorted items, each item key rendered injectively by `key` and each item value replaced by its
key (`hobj`, `hO`, `hkey`).  On the booleans, numbers, strings and datetimes of `C`, `F` is injective; on its functions and on its
regexes, constant. -/
theorem key_faithful {γ κ : Type} (C : PValue → Prop) (F : PValue → γ) (rk : γ → Nat) (key : String → κ)
    (A : List γ → γ) (O : List (κ × γ) → γ)
    (Carr : ∀ xs, C (.arr xs) → ∀ x ∈ xs, C x) (Cobj : ∀ kvs, C (.obj kvs) → ∀ p ∈ kvs, C p.2)
    (hrk : ∀ a, C a → rk (F a) = rank a)
    (harr : ∀ xs, F (.arr xs) = A (xs.map F)) (hA : Function.Injective A)
    (hobj : ∀ kvs, F (.obj kvs) = O ((sortItems kvs).map fun kv => (key kv.1, F kv.2)))
    (hO : Function.Injective O) (hkey : Function.Injective key)
    (hbool : ∀ x y, C (.bool x) → C (.bool y) → F (.bool x) = F (.bool y) → x = y)
    (hnum : ∀ x y, C (.num x) → C (.num y) → F (.num x) = F (.num y) → x = y)
    (hstr : ∀ x y, C (.str x) → C (.str y) → F (.str x) = F (.str y) → x = y)
    (hdt : ∀ x y, C (.dt x) → C (.dt y) → F (.dt x) = F (.dt y) → x = y)
    (hfn : ∀ x y, C (.fn x) → C (.fn y) → F (.fn x) = F (.fn y))
    (hre : ∀ x y, C (.regex x) → C (.regex y) → F (.regex x) = F (.regex y)) (a : PValue) :
    ∀ b, C a → C b → (F a = F b ↔ valueCompare a b = 0) := by
  -- values of different types: `F` tells them apart, and the comparison is by type first
  have hne (a b) (ha : C a) (hb : C b) (hr : (rank a == rank b) = false) : F a = F b ↔ valueCompare a b = 0 :=
    have hr := ne_of_beq_false hr
    iff_of_false (fun e => hr (by rw [← hrk _ ha, e, hrk _ hb])) (fun e => hr (rank_eq_of_cmp_zero e))
  induction a using pvalInd with (intro b ha hb; cases b <;> first | exact hne _ _ ha hb rfl | skip)
  | null => exact iff_of_true rfl (cmp_refl _)
  | bool x => exact ⟨fun e => hbool _ _ ha hb e ▸ cmp_refl _, fun e => by rw [(bool_cmp_zero x _).mp e]⟩
  | num x => exact ⟨fun e => hnum _ _ ha hb e ▸ cmp_refl _, fun e => by rw [(num_cmp x _).2.1.mp e]⟩
  | str x =>
    exact ⟨fun e => hstr _ _ ha hb e ▸ cmp_refl _, fun e => by rw [(str_cmp_zero_iff x _).mp (by rwa [valueCompare] at e)]⟩
  | dt x => exact ⟨fun e => hdt _ _ ha hb e ▸ cmp_refl _, fun e => by rw [(dt_cmp_zero x _).mp e]⟩
  | fn x => exact iff_of_true (hfn _ _ ha hb) (by rw [valueCompare.eq_def]; exact (str_cmp_zero_iff _ _).mpr rfl)
  | regex x => exact iff_of_true (hre _ _ ha hb) (by rw [valueCompare.eq_def]; exact (str_cmp_zero_iff _ _).mpr rfl)
  | arr xs ih =>
    rw [harr, harr, hA.eq_iff, valueCompare]
    exact cmpList_isLex.zero_iff F xs _ fun x hx y hy => ih x hx y (Carr xs ha x hx) (Carr _ hb y hy)
  | obj kvs ih =>
    rename_i kvs'
    rw [hobj, hobj, hO.eq_iff, valueCompare]
    refine cmpItems_isLex.zero_iff _ _ _ fun p hp q hq => ?_
    have hp := (sortItems_perm kvs).mem_iff.mp hp
    rw [Prod.mk.injEq, hkey.eq_iff, thenCmp_eq, str_cmp_zero_iff,
      ih p hp q.2 (Cobj kvs ha p hp) (Cobj kvs' hb q ((sortItems_perm kvs').mem_iff.mp hq))]

end C11
