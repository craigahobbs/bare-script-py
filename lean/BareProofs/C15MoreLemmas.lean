import BareModel.LibMore
import BareProofs.C15

/-!
# C15More — the anatomy of `effMore`

A call of the extended model is a call of `Lib` (a name outside `newNames`), or one of the three new functions: validated against
the documented signature, failing with `null`, otherwise the new body.  From this: the extended model *is* its specification layer
(`lib_spec_more_eq`) and agrees with `Lib` wherever `Lib` answers (`effMore_conservative`).  Everything else in `C15More*` starts
from these two facts and from what a call of a new function may be (`effMore_shape`).
-/

namespace C15More
open Lib LibMore

def newNames : List String := ["arrayJoin", "arraySort", "stringNew"]

theorem newNames_lookup (T : TextFns) {f : String} (hf : f ∈ newNames) :
    ∃ b ms, (moreBodies T).lookup f = some b ∧ docSigMore.lookup f = some ms := by
  simp only [newNames, List.mem_cons, List.not_mem_nil, or_false] at hf
  rcases hf with rfl | rfl | rfl <;> exact ⟨_, _, rfl, rfl⟩

theorem docFailTxt_new : ∀ f ∈ newNames, C15.docFailTxt f = "null" := by decide +kernel

/-- the row of `C15.gen_rows` for a new name -/
theorem gen_row_new {f : String} (hf : f ∈ newNames) : ∃ mn ms, Gen.libFns.lookup f = some (mn, "null") ∧ (mn == "") = false ∧
    Gen.argModels.lookup mn = some ms ∧ docSigMore.lookup f = some ms := by
  obtain ⟨_, ms, -, hms⟩ := newNames_lookup TextFns.none hf
  obtain ⟨mn, hl, hmn, ha⟩ := C15.gen_row_all (List.mem_append_left _ (C15.lookup_mem hms))
  exact ⟨mn, ms, docFailTxt_new f hf ▸ hl, hmn, ha, hms⟩

/-- **Generated table obligation.** The argument models of the three functions in the working tree are the documented signatures. -/
theorem sig_table_more : ∀ f ∈ newNames,
    (Gen.libFns.lookup f).bind (fun p => Gen.argModels.lookup p.1) = docSigMore.lookup f := by
  intro f hf
  obtain ⟨mn, ms, hl, -, ha, hms⟩ := gen_row_new hf
  rw [hl, Option.bind_some, ha, hms]

/-- **Generated table obligation.** They validate against a model (are not raw-argument functions) and pass `null` as failure value. -/
theorem fail_table_more : ∀ f ∈ newNames,
    (Gen.libFns.lookup f).map Prod.snd = some "null" ∧ (Gen.libFns.lookup f).map Prod.fst ≠ some "" := by
  intro f hf
  obtain ⟨mn, ms, hl, hmn, -, -⟩ := gen_row_new hf
  rw [hl]
  exact ⟨rfl, fun he => beq_eq_false_iff_ne.mp hmn (Option.some.inj he)⟩

theorem docFail_new : ∀ f ∈ newNames, ∀ args, Spec.docFail f args = .null := fun f hf args =>
  Option.some.inj ((C15.failValue_docFailTxt f args).symm.trans (docFailTxt_new f hf ▸ rfl))

theorem moreBodies_none (T : TextFns) {f : String} (hf : f ∉ newNames) : (moreBodies T).lookup f = none :=
  C15.lookup_none_of_not_mem _ f hf

theorem moreBodies_some {T : TextFns} {f : String} {b} (hb : (moreBodies T).lookup f = some b) :
    f ∈ newNames ∧ (f, b) ∈ moreBodies T := by
  refine ⟨Decidable.by_contra fun hf => ?_, C15.lookup_mem hb⟩
  rw [moreBodies_none T hf] at hb
  cases hb

theorem effMore_old (T : TextFns) {f : String} (hf : f ∉ newNames) (args : List Value) (h : Heap) :
    effMore T f args h = eff f args h := by
  unfold effMore; rw [moreBodies_none T hf]

theorem specMore_old (T : TextFns) {f : String} (hf : f ∉ newNames) (args : List Value) (h : Heap) :
    specMore T f args h = Spec.specEff f args h := by
  unfold specMore; rw [moreBodies_none T hf]

theorem effMore_new (T : TextFns) {f : String} {b} (hb : (moreBodies T).lookup f = some b) {ms} (hms : docSigMore.lookup f = some ms)
    (args : List Value) (h : Heap) : effMore T f args h = C15.callRow ms .null b args h := by
  obtain ⟨mn, ms', hl, -, ha, hms'⟩ := gen_row_new (moreBodies_some hb).1
  obtain rfl : ms' = ms := Option.some.inj (hms'.symm.trans hms)
  have hfv : failValue "null" args = some .null := rfl
  unfold effMore
  simp only [hb, hl, ha, hfv]
  rfl

theorem specMore_new (T : TextFns) {f : String} {b} (hb : (moreBodies T).lookup f = some b) {ms} (hms : docSigMore.lookup f = some ms)
    (args : List Value) (h : Heap) : specMore T f args h = C15.callRow ms .null b args h := by
  unfold specMore
  rw [hb]
  simp only [hms, docFail_new f (moreBodies_some hb).1]
  rfl

theorem effMore_arraySort (T : TextFns) (args : List Value) (h : Heap) :
    effMore T "arraySort" args h =
      C15.callRow [Spec.arrP "array", { Spec.P "compareFn" (some "function") with nullable := true }] .null arraySortM args h :=
  effMore_new T rfl rfl args h

/-- **Specification (equation).** For every oracle, function name, argument list and heap the extended model — argument models
and failure values from the generated tables, Python-shaped bodies — is the specification layer `specMore`: documented signatures,
documented failure values, reference operations on natural indices (`Lib.Spec`), and for the three new functions the join of the
element texts / the JSON text / the stable sort.  (`lib_spec_more` in C15MoreStill adds: outside `StillUnmodelled` both sides are
not `unmodelled`.) -/
theorem lib_spec_more_eq (T : TextFns) (f : String) (args : List Value) (h : Heap) :
    effMore T f args h = specMore T f args h := by
  by_cases hf : f ∈ newNames
  · obtain ⟨b, ms, hb, hms⟩ := newNames_lookup T hf
    rw [effMore_new T hb hms, specMore_new T hb hms]
  · rw [effMore_old T hf, specMore_old T hf]; exact C15.lib_spec_partial f args h

theorem libMore_eq_specLibMore (T : TextFns) : libMore T = specLibMore T := by
  funext f args h
  simp only [libMore, specLibMore, lib_spec_more_eq]

theorem eff_arraySort (args : List Value) (h : Heap) : eff "arraySort" args h = .unmodelled :=
  C15.eff_unmodelled (C15.lookup_none_of_not_mem _ _ C15.arraySort_not_table) (by decide) args h

theorem eff_stringNew (args : List Value) (h : Heap) : eff "stringNew" args h = .unmodelled :=
  C15.eff_unmodelled (C15.lookup_none_of_not_mem _ _ C15.stringNew_not_table) (by decide) args h

theorem eff_arrayJoin (args : List Value) (h : Heap) :
    eff "arrayJoin" args h = C15.callRow [Spec.arrP "array", Spec.strP "separator"] .null arrayJoinB args h :=
  C15.eff_row (C15.table_at (i := 5) rfl) args h

theorem arrayJoinM_conservative (T : TextFns) (va : List VArg) (h : Heap) (hne : arrayJoinB va h ≠ .unmodelled) :
    arrayJoinM T va h = arrayJoinB va h := by
  unfold arrayJoinM
  split
  · rename_i r sep
    simp only [arrayJoinB] at hne ⊢
    cases hx : getArr h r with
    | none => rfl
    | some xs =>
      simp only [hx] at hne ⊢
      cases hj : joinStrs sep xs with
      | none => simp [hj] at hne
      | some s => rfl
  · unfold arrayJoinB at hne
    split at hne
    · simp_all
    · exact absurd rfl hne

/-- **Conservativity.** Wherever the unextended model `Lib.eff` answers (`ret`, `fail`, `store`, `alloc`), the extended model gives
the very same effect — for every oracle `T`.  Everything proved about `Lib` (C15, the machine bridge) therefore transfers to the
calls it already covered; the extension only replaces `unmodelled` answers. -/
theorem effMore_conservative (T : TextFns) (f : String) (args : List Value) (h : Heap) (hne : eff f args h ≠ .unmodelled) :
    effMore T f args h = eff f args h := by
  by_cases hf : f ∈ newNames
  · simp only [newNames, List.mem_cons, List.not_mem_nil, or_false] at hf
    rcases hf with rfl | rfl | rfl
    · rw [effMore_new T (b := arrayJoinM T) rfl (ms := [Spec.arrP "array", Spec.strP "separator"]) rfl, eff_arrayJoin]
      rw [eff_arrayJoin] at hne
      unfold C15.callRow at hne ⊢
      cases hv : validate h [Spec.arrP "array", Spec.strP "separator"] args with
      | none => rfl
      | some va =>
        simp only [hv] at hne ⊢
        exact arrayJoinM_conservative T va h hne
    · exact absurd (eff_arraySort args h) hne
    · exact absurd (eff_stringNew args h) hne
  · exact effMore_old T hf args h

theorem libMore_conservative (T : TextFns) (f : String) (args : List Value) (h : Heap) (hne : (lib f args h).1 ≠ .unmodelled) :
    libMore T f args h = lib f args h := by
  unfold libMore lib
  rw [effMore_conservative T f args h]
  intro he
  apply hne
  unfold lib
  rw [he]
  rfl

/-- non-vacuity of `libMore_conservative`: a call `Lib` answers, and the extended model answers the same -/
example : (lib "arrayJoin" [.arr 0, .str "-"] [.arr [numN 1, .str "a"]]).1 ≠ .unmodelled ∧
    libMore TextFns.none "arrayJoin" [.arr 0, .str "-"] [.arr [numN 1, .str "a"]] = (.ok (.str "1-a"), [.arr [numN 1, .str "a"]]) := by
  rw [libMore_eq_specLibMore, lib, C15.lib_spec_partial]
  decide +kernel

theorem textEff_out (t : TRes String) : C15.PureLike (textEff t) ∧ C15.FailsWith .null (textEff t) := by
  cases t <;> exact ⟨trivial, by trivial⟩

theorem arrayJoinM_out (T : TextFns) (va h) : C15.PureLike (arrayJoinM T va h) ∧ C15.FailsWith .null (arrayJoinM T va h) := by
  fun_cases arrayJoinM T va h <;> try exact textEff_out _
  all_goals exact ⟨trivial, trivial⟩

theorem stringNewM_out (T : TextFns) (va h) : C15.PureLike (stringNewM T va h) ∧ C15.FailsWith .null (stringNewM T va h) := by
  fun_cases stringNewM T va h <;> try exact textEff_out _
  all_goals exact ⟨trivial, trivial⟩

theorem arraySortM_out (va h) :
    (C15.EffOK va (arraySortM va h) ∧ C15.NoAlloc (arraySortM va h)) ∧ C15.FailsWith .null (arraySortM va h) := by
  fun_cases arraySortM va h <;> try exact ⟨⟨trivial, trivial⟩, trivial⟩
  exact ⟨⟨C15.effOK_arr .., trivial⟩, trivial⟩

theorem arraySortM_form (va h) :
    arraySortM va h = .unmodelled ∨ ∃ r xs rest, va = .one (.arr r) :: rest ∧ arraySortM va h = .store r (.arr xs) (.arr r) := by
  generalize he : arraySortM va h = e
  unfold arraySortM at he
  split at he
  · split at he
    · split at he
      · exact .inr ⟨_, _, _, rfl, he.symm⟩
      · exact .inl he.symm
    · exact .inl he.symm
  · exact .inl he.symm

/-- the class of a new function -/
def clsMore (f : String) : C15.Cls := if f = "arraySort" then .upd else .pure

/-- what a call of a new function may be -/
theorem effMore_shape (T : TextFns) {f : String} (hf : f ∈ newNames) (args : List Value) (h : Heap) :
    C15.CallShape (clsMore f) .null args (effMore T f args h) := by
  simp only [newNames, List.mem_cons, List.not_mem_nil, or_false] at hf
  rcases hf with rfl | rfl | rfl
  · rw [effMore_new T rfl rfl]; exact C15.callRow_shape (c := .pure) (arrayJoinM_out T) args h
  · rw [effMore_new T rfl rfl]; exact C15.callRow_shape (c := .upd) arraySortM_out args h
  · rw [effMore_new T rfl rfl]; exact C15.callRow_shape (c := .pure) (stringNewM_out T) args h

end C15More
