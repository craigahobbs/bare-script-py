import BareProofs.C01Fuel
import BareProofs.C07Lemmas
import BareModel.HostImpl

/-!
# C01 — T2: the jump machine on lowered code *is* the ticked structured semantics

`sim` (`simB`, `simElse`): for every structured statement / block / else-chain, lowered at counter `i`, whose code occupies
positions `[p, q)` (`Seg`) of any program `P`, running the cache-free machine from `p` equals running `execT` and then
continuing the machine at `q` (normal exit), behind the enclosing loop's `done` label (break) or `continue`
label (continue) — as an **equation between functions of fuel, locals, counter and state**, so termination, divergence
(out of fuel), the statement count and every effect are preserved at once.  No bound on nesting depth or program size.

The construct lemmas (`chain_lemma`, `while_lemma`, `for_lemma`) take the simulation of their sub-blocks as a hypothesis
(`SimB`, `SimE`).
-/

namespace C01
open Machine Lower Structured

variable {W : Type} (cfg : Config W) (P : List Stmt) (base : Option String)

/-- what the machine does after a structured outcome: it goes on at `after` (normal exit), or behind the enclosing loop's
break label at `pb` / continue label at `pc` (a jump lands behind its label); `ret`, `err`, `oof` end the run -/
def Cont (pb pc after : Nat) (o : TOut W) : Res W :=
  o.bind (fun l st f => execM₀ cfg f P l base after st)
         (fun l st f => execM₀ cfg f P l base (pb+1) st)
         (fun l st f => execM₀ cfg f P l base (pc+1) st)

theorem Cont_def (pb pc after : Nat) (o : TOut W) : Cont cfg P base pb pc after o =
  o.bind (fun l st f => execM₀ cfg f P l base after st)
         (fun l st f => execM₀ cfg f P l base (pb+1) st)
         (fun l st f => execM₀ cfg f P l base (pc+1) st) := rfl

/-- the enclosing loop's labels are where `pb` / `pc` say; the continue label is only required to exist when the code
in question uses `continue` (a `for` loop emits its continue label only then) -/
def LpOK (lp : Option (Name × Name)) (pb pc : Nat) (uses : Bool) : Prop :=
  ∀ bl cl, lp = some (bl, cl) → findLabel P bl = some pb ∧ (uses = true → findLabel P cl = some pc)

theorem LpOK.mono {P : List Stmt} {lp : Option (Name × Name)} {pb pc : Nat} {u u' : Bool}
    (h : LpOK P lp pb pc u) (hu : u' = true → u = true) : LpOK P lp pb pc u' :=
  fun bl cl e => ⟨(h bl cl e).1, fun hu' => (h bl cl e).2 (hu hu')⟩

theorem LpOK.or {P : List Stmt} {lp : Option (Name × Name)} {pb pc : Nat} {u v : Bool} (h : LpOK P lp pb pc (u || v)) :
    LpOK P lp pb pc u ∧ LpOK P lp pb pc v :=
  ⟨h.mono fun hu => Bool.or_eq_true_iff.mpr (.inl hu), h.mono fun hv => Bool.or_eq_true_iff.mpr (.inr hv)⟩

/-! ## one machine step against one structured step in a sequence (in the continuation only smaller fuel matters) -/

variable {cfg P base}

theorem step_expr {f : Nat} {l : Option Env} {pc : Nat} {st : State W} {n : Option Name} {e : Expr}
    (hg : P[pc]? = some (.expr n e)) (g : Option Env → State W → Nat → TOut W)
    (kn kb kc : Option Env → State W → Nat → Res W)
    (hk : ∀ l' st' f', f' < f → execM₀ cfg f' P l' base (pc+1) st' = (g l' st' f').bind kn kb kc) :
    execM₀ cfg f P l base pc st = (andThen (stmtExpr cfg (callValue₀ cfg) n e f l st) g).bind kn kb kc :=
  (exec_expr hg _ kb kc hk).trans (bind_andThen ..).symm

theorem step_label {f : Nat} {l : Option Env} {pc : Nat} {st : State W} {lab : Name}
    (hg : P[pc]? = some (.label lab)) (g : Option Env → State W → Nat → TOut W)
    (kn kb kc : Option Env → State W → Nat → Res W)
    (hk : ∀ l' st' f', f' < f → execM₀ cfg f' P l' base (pc+1) st' = (g l' st' f').bind kn kb kc) :
    execM₀ cfg f P l base pc st = (andThen (stmtSkip cfg f l st) g).bind kn kb kc :=
  (exec_label hg _ kb kc fun _ _ => hk _ _ _).trans (bind_andThen ..).symm

theorem step_jump {f : Nat} {l : Option Env} {pc : Nat} {st : State W} {lab : Name} {tgt : Nat}
    (hg : P[pc]? = some (.jump lab none)) (hf : findLabel P lab = some tgt) (g : Option Env → State W → Nat → TOut W)
    (kn kb kc : Option Env → State W → Nat → Res W)
    (hk : ∀ l' st' f', f' < f → execM₀ cfg f' P l' base (tgt+1) st' = (g l' st' f').bind kn kb kc) :
    execM₀ cfg f P l base pc st = (andThen (stmtSkip cfg f l st) g).bind kn kb kc :=
  (exec_jump hg hf _ kb kc fun _ _ => hk _ _ _).trans (bind_andThen ..).symm

theorem step_cond {f : Nat} {l : Option Env} {pc : Nat} {st : State W} {lab : Name} {c : Expr} {tgt : Nat}
    (hg : P[pc]? = some (.jump lab (some c))) (hf : findLabel P lab = some tgt) (k : Bool → Nat → State W → TOut W)
    (kn kb kc : Option Env → State W → Nat → Res W)
    (hk : ∀ t f' st', f' < f →
      (if t then execM₀ cfg f' P l base (tgt+1) st' else execM₀ cfg f' P l base (pc+1) st') = (k t f' st').bind kn kb kc) :
    execM₀ cfg f P l base pc st = (stmtCond cfg (callValue₀ cfg) c f l st k).bind kn kb kc := by
  refine step_tick hg _ _ _ _ fun f' st1 hlt => ?_
  simp only [C09.stepStmt]
  cases evalExpr cfg (callValue₀ cfg f') l c st1 with
  | ok v st2 =>
    refine Eq.trans ?_ (hk _ _ _ hlt)
    dsimp only; split <;> simp only [C09.StmtStep.run, hf]
  | err e st2 => rfl
  | oof => rfl

theorem step_block {f : Nat} {l : Option Env} {p q pb pc : Nat} {st : State W} {o : TOut W}
    (hB : execM₀ cfg f P l base p st = Cont cfg P base pb pc q o) (g : Option Env → State W → Nat → TOut W)
    (after : Nat) (hk : ∀ l' st' f', execM₀ cfg f' P l' base q st' = Cont cfg P base pb pc after (g l' st' f')) :
    execM₀ cfg f P l base p st = Cont cfg P base pb pc after (andThen o g) := by
  rw [hB, Cont_def, Cont_def, bind_andThen]
  cases o with
  | norm l1 st1 f1 => exact hk l1 st1 f1
  | _ => rfl

variable (cfg P base)

/-- statement of `sim` for one statement; `lp`, the enclosing loop's labels, as in `lowerS`, and `pb`, `pc`, their
positions, as in `Cont`; `execTS` is only told whether there is a loop -/
def SimS (lp : Option (Name × Name)) (pb pc : Nat) (s : SStmt) (i : Nat) : Prop :=
  ∀ p q, Seg P p (lowerS lp s i).1 q → ∀ f l st, execM₀ cfg f P l base p st =
    Cont cfg P base pb pc q (execTS cfg (callValue₀ cfg) (execIncludes₀ cfg) lp.isSome s i f l base st)

/-- … for one block (passed to the construct lemmas as induction hypothesis) -/
def SimB (lp : Option (Name × Name)) (pb pc : Nat) (B : List SStmt) (i : Nat) : Prop :=
  ∀ p q, Seg P p (lowerB lp B i).1 q → ∀ f l st, execM₀ cfg f P l base p st =
    Cont cfg P base pb pc q (execTB cfg (callValue₀ cfg) (execIncludes₀ cfg) lp.isSome B i f l base st)

/-- … for one else-chain, entered behind its head -/
def SimE (lp : Option (Name × Name)) (pb pc : Nat) (done : Name) (e : SElse) (j : Nat) : Prop :=
  ∀ p q, Seg P p (elseBody lp done e j) q → ∀ f l st, execM₀ cfg f P l base p st =
    Cont cfg P base pb pc q (execTE cfg (callValue₀ cfg) (execIncludes₀ cfg) lp.isSome e j f l base st)

variable {cfg P base}

/-- the conditional jump of a branch goes to just behind the head of the else-chain -/
theorem chain_target {k : Nat} {done : Name} {e : SElse} {m m' : Nat} (hH : Seg P m (elseHead (lIf k) done e) m') :
    ∃ tgt, findLabel P (chainTgt e k done) = some tgt ∧ tgt + 1 = m' := by
  cases e with
  | none => exact ⟨m, hH.2.1, hH.2.2.symm⟩
  | els b => exact ⟨m+1, hH.2.2.2.1, hH.2.2.2.2.symm⟩
  | elif c t e => exact ⟨m+1, hH.2.2.2.1, hH.2.2.2.2.symm⟩

/-- a finished then-block leaves the machine at `label done` or at `jump done`: one tick, and on behind the chain -/
theorem exec_elseHead {lp : Option (Name × Name)} {cur done : Name} {e : SElse} {j m m' d : Nat}
    (hH : Seg P m (elseHead cur done e) m') (hE : Seg P m' (elseBody lp done e j) (d+1)) (hd : findLabel P done = some d)
    (pb pc : Nat) (f : Nat) (l : Option Env) (st : State W) :
    execM₀ cfg f P l base m st = Cont cfg P base pb pc (d+1) (stmtSkip cfg f l st) := by
  cases e with
  | none =>
    obtain ⟨hg, -, rfl⟩ := hH
    exact exec_label hg _ _ _ fun _ _ _ => by rw [show d + 1 = m + 1 from hE]
  | els b => exact exec_jump hH.1 hd _ _ _ fun _ _ _ => rfl
  | elif c t e => exact exec_jump hH.1 hd _ _ _ fun _ _ _ => rfl

theorem chain_lemma (lp : Option (Name × Name)) (pb pc : Nat) (done : Name) (c : Expr) (t : List SStmt) (e : SElse) (k : Nat)
    (hB : SimB cfg P base lp pb pc t (k+1)) (hE : SimE cfg P base lp pb pc done e (cntB t (k+1)))
    (p q : Nat) (h : Seg P p (chainCode lp done c t e k) q) (f : Nat) (l : Option Env) (st : State W) :
    execM₀ cfg f P l base p st =
      Cont cfg P base pb pc q (chainT cfg (callValue₀ cfg) (execIncludes₀ cfg) lp.isSome c t e k f l base st) := by
  obtain ⟨hg, -, h1⟩ := h
  obtain ⟨m, hT, hEl⟩ := h1.app
  -- the chain ends in `label done`: it lies at `d`, and `q = d+1`
  obtain ⟨init, hi⟩ := lowerElse_last lp done e (lIf k) (cntB t (k+1))
  obtain ⟨d, -, -, hd, rfl⟩ := (hi ▸ hEl).app
  rw [lowerElse_eq] at hEl
  obtain ⟨m', hH, hEb⟩ := hEl.app
  obtain ⟨tgt, htgt, rfl⟩ := chain_target hH
  rw [chainT, Cont_def]
  refine step_cond hg htgt _ _ _ _ fun taken f' st1 _ => ?_
  rw [← Cont_def]
  cases taken
  · simp only [Bool.false_eq_true, if_false]
    exact step_block (hB _ _ hT f' l st1) _ _ fun l2 st2 f2 => exec_elseHead hH hEb hd pb pc f2 l2 st2
  · simp only [if_true]
    exact hE _ _ hEb f' l st1

/-- `while`: header test, `label loop`, the iterations (`loopW`), `label done` -/
theorem while_lemma (lp : Option (Name × Name)) (pb pc : Nat) (c : Expr) (b : List SStmt) (i : Nat)
    (hB : ∀ pbW pcW, LpOK P (some (lDone i, lLoop i)) pbW pcW (usesContB b) →
      SimB cfg P base (some (lDone i, lLoop i)) pbW pcW b (i+1)) :
    SimS cfg P base lp pb pc (.while c b) i := by
  intro p q h f l st
  rw [lowerS_while_eq] at h
  obtain ⟨hg0, -, hg1, hfl, h2⟩ := h
  obtain ⟨m, hT, hg2, -, hg3, hfd, rfl⟩ := h2.app
  -- `p`: the test, `p+1`: `label loop`, `[p+2, m)`: the body, `m`: `jump loop c`, `m+1`: `label done`
  have hbody := hB _ _ (fun _ _ e => by cases e; exact ⟨hfd, fun _ => hfl⟩) _ _ hT
  rw [Option.isSome_some] at hbody
  have hloop : ∀ n f l st, f < n → execM₀ cfg f P l base (p+1+1) st =
      Cont cfg P base pb pc (m+1+1)
        (loopW cfg (callValue₀ cfg) c
          (fun f l s => execTB cfg (callValue₀ cfg) (execIncludes₀ cfg) true b (i+1) f l base s) n f l st) := by
    intro n
    induction n with
    | zero => exact fun _ _ _ h => nomatch h
    | succ n ih =>
      intro f l st hlt
      have hok := execTB_fuel cfg (callValue₀ cfg) (execIncludes₀ cfg) true b (i+1) f l base st
      rw [hbody f l st]; unfold loopW
      generalize execTB cfg (callValue₀ cfg) (execIncludes₀ cfg) true b (i+1) f l base st = o at hok ⊢
      cases o with
      | norm l1 st1 f1 =>
        refine step_cond hg2 hfl _ _ _ _ fun t f2 st2 hlt2 => ?_
        cases t
        · exact exec_label hg3 _ _ _ fun _ _ _ => rfl
        · exact ih f2 l1 st2 (Nat.lt_of_lt_of_le hlt2 (Nat.le_trans hok (Nat.le_of_lt_succ hlt)))
      | brk l1 st1 f1 => rfl
      | cont l1 st1 f1 =>
        -- F7: `continue` jumps to `label loop`, which stands before the body and not before a test: on at `p+2`, as `loopW`
        exact ih f1 l1 st1 (Nat.lt_of_lt_of_le hok.2 (Nat.le_of_lt_succ hlt))
      | ret v st1 => rfl
      | err e st1 => rfl
      | oof => rfl
  rw [execTS_while_seq, Cont_def]
  refine step_cond hg0 hfd _ _ _ _ fun t f1 st1 _ => ?_
  cases t
  · refine step_label hg1 _ _ _ _ fun l2 st2 f2 _ => ?_
    exact hloop (f2+1) f2 l2 st2 (Nat.lt_succ_self _)
  · rfl

/-- `for`: header (values, length, emptiness test, index, `label loop`), the iterations (`loopF`), `label done` -/
theorem for_lemma (lp : Option (Name × Name)) (pb pc : Nat) (v : Name) (ix : Option Name) (vals : Expr) (b : List SStmt) (i : Nat)
    (hB : ∀ pbW pcW, LpOK P (some (lDone i, lCont i)) pbW pcW (usesContB b) →
      SimB cfg P base (some (lDone i, lCont i)) pbW pcW b (i+1)) :
    SimS cfg P base lp pb pc (.for v ix vals b) i := by
  intro p q h f l st
  rw [execTS_for_seq]
  rw [lowerS_for_eq] at h
  generalize ix.getD (vIndex i) = ixv at *
  generalize usesContB b = hc at *
  obtain ⟨_, ⟨hg0, -, hg1, -, hg2, -, hg3, -, hg4, hfl, hg5, -, rfl⟩, hTF⟩ := h.app
  obtain ⟨m, hT, hF⟩ := hTF.app
  obtain ⟨mc, hC, hg6, -, hg7, -, hg8, hfd, rfl⟩ := hF.app
  -- `p` … `p+5`: the header, with `label loop` at `p+4`; `[p+6, m)`: the body; `[m, mc)`: `label continue` or nothing;
  -- `mc`, `mc+1`, `mc+2`: increment, test, `label done`.  With `mc = k+1`, the continue label, if there is one, lies at `k`
  obtain ⟨k, rfl⟩ : ∃ k, mc = k + 1 :=
    Nat.exists_eq_succ_of_ne_zero (Nat.ne_of_gt (Nat.lt_of_lt_of_le (Nat.succ_pos _) (Nat.le_trans hT.le hC.le)))
  have hfc : hc = true → findLabel P (lCont i) = some k := by
    rintro rfl; obtain ⟨-, hf, e⟩ := hC; cases e; exact hf
  have hbody := hB _ _ (fun _ _ e => by cases e; exact ⟨hfd, hfc⟩) _ _ hT
  rw [Option.isSome_some] at hbody
  have hloop : ∀ n f l st, f < n → execM₀ cfg f P l base (p+1+1+1+1+1) st =
      Cont cfg P base pb pc (k+1+1+1+1)
        (loopF cfg (callValue₀ cfg) i v ixv hc
          (fun f l s => execTB cfg (callValue₀ cfg) (execIncludes₀ cfg) true b (i+1) f l base s) n f l st) := by
    intro n
    induction n with
    | zero => exact fun _ _ _ h => nomatch h
    | succ n ih =>
      intro f l st hlt
      have hAfter : ∀ l2 st2 f2, f2 ≤ n → execM₀ cfg f2 P l2 base (k+1) st2 =
          Cont cfg P base pb pc (k+1+1+1+1)
            (forAfter cfg (callValue₀ cfg) i v ixv hc
              (fun f l s => execTB cfg (callValue₀ cfg) (execIncludes₀ cfg) true b (i+1) f l base s) n l2 st2 f2) := by
        intro l2 st2 f2 h2
        refine step_expr hg6 _ _ _ _ fun l3 st3 f3 h3 => ?_
        refine step_cond hg7 hfl _ _ _ _ fun t f4 st4 h4 => ?_
        cases t
        · exact exec_label hg8 _ _ _ fun _ _ _ => rfl
        · exact ih f4 l3 st4 (Nat.lt_of_lt_of_le (Nat.lt_trans h4 h3) h2)
      rw [loopF_succ, Cont_def]
      refine step_expr hg5 _ _ _ _ fun l0 st0 f0 h0 => ?_
      have hok := execTB_fuel cfg (callValue₀ cfg) (execIncludes₀ cfg) true b (i+1) f0 l0 base st0
      rw [← Cont_def, hbody f0 l0 st0]
      generalize execTB cfg (callValue₀ cfg) (execIncludes₀ cfg) true b (i+1) f0 l0 base st0 = o at hok ⊢
      cases o with
      | norm l1 st1 f1 =>
        have h1 : f1 ≤ n := Nat.le_of_lt_succ (Nat.lt_of_le_of_lt hok (Nat.lt_trans h0 hlt))
        cases hc
        · cases (show k + 1 = m from hC); exact hAfter l1 st1 f1 h1
        · obtain ⟨hgc, -, e⟩ := hC; cases e
          refine step_label hgc _ _ _ _ fun l2 st2 f2 h2 => ?_
          exact hAfter l2 st2 f2 (Nat.le_trans (Nat.le_of_lt h2) h1)
      | cont l1 st1 f1 => exact hAfter l1 st1 f1 (Nat.le_of_lt_succ (Nat.lt_trans hok.2 (Nat.lt_trans h0 hlt)))
      | brk l1 st1 f1 => rfl
      | ret v st1 => rfl
      | err e st1 => rfl
      | oof => rfl
  rw [Cont_def]
  refine step_expr hg0 _ _ _ _ fun l1 st1 f1 _ => ?_
  refine step_expr hg1 _ _ _ _ fun l2 st2 f2 _ => ?_
  refine step_cond hg2 hfd _ _ _ _ fun t f3 st3 _ => ?_
  cases t
  · refine step_expr hg3 _ _ _ _ fun l4 st4 f4 _ => ?_
    refine step_label hg4 _ _ _ _ fun l5 st5 f5 _ => ?_
    exact hloop (f5+1) f5 l5 st5 (Nat.lt_succ_self _)
  · rfl

variable (cfg P base)

/-- **T2 at any position**: the walk over the syntax -/
theorem sim :
    (∀ s lp pb pc i, NoRawS s → LpOK P lp pb pc (usesContS s) → SimS cfg P base lp pb pc s i) ∧
    (∀ B lp pb pc i, NoRawB B → LpOK P lp pb pc (usesContB B) → SimB cfg P base lp pb pc B i) ∧
    (∀ e lp pb pc done j, NoRawE e → LpOK P lp pb pc (usesContE e) → SimE cfg P base lp pb pc done e j) :=
  syntax_induct
    (expr := fun n e lp pb pc i _ _ p q ⟨hg, _, hq⟩ f l st => by
      cases hq; exact exec_expr hg _ _ _ fun _ _ _ _ => rfl)
    (ret := fun e lp pb pc i _ _ p q h f l st => by
      unfold execTS
      cases e with
      | none => exact step_tick h.1 _ _ _ _ fun _ _ _ => rfl
      | some e =>
        refine step_tick h.1 _ _ _ _ fun f' st1 _ => ?_
        simp only [C09.stepStmt]
        cases evalExpr cfg (callValue₀ cfg f') l e st1 <;> rfl)
    (ite := fun c t e hT hE lp pb pc i hn hlp p q h f l st => by
      rw [lowerS_ite_eq] at h; rw [execTS_ite_seq]
      exact chain_lemma lp pb pc (lDone i) c t e i (hT lp pb pc (i+1) hn.1 hlp.or.1) (hE lp pb pc (lDone i) _ hn.2 hlp.or.2)
        p q h f l st)
    (while_ := fun c b hB lp pb pc i hn _ => while_lemma lp pb pc c b i fun pbW pcW => hB _ pbW pcW (i+1) hn)
    (for_ := fun v ix vals b hB lp pb pc i hn _ => for_lemma lp pb pc v ix vals b i fun pbW pcW => hB _ pbW pcW (i+1) hn)
    (brk := fun lp pb pc i _ hlp p q h f l st => by
      cases lp with
      | none => cases (show q = p from h); rfl
      | some x =>
        unfold execTS; rw [Option.isSome_some, if_pos rfl]
        refine step_tick h.1 _ _ _ _ fun f' st1 _ => ?_
        simp only [C09.stepStmt, C09.StmtStep.run, (hlp x.1 x.2 rfl).1]; rfl)
    (cont := fun lp pb pc i _ hlp p q h f l st => by
      cases lp with
      | none => cases (show q = p from h); rfl
      | some x =>
        unfold execTS; rw [Option.isSome_some, if_pos rfl]
        refine step_tick h.1 _ _ _ _ fun f' st1 _ => ?_
        simp only [C09.stepStmt, C09.StmtStep.run, (hlp x.1 x.2 rfl).2 rfl]; rfl)
    (func := fun fid n args laa isAsync b _ lp pb pc i _ _ p q ⟨hg, _, hq⟩ f l st => by
      cases hq; unfold execTS; exact step_tick hg _ _ _ _ fun _ _ _ => rfl)
    (label := fun _ lp pb pc i hn => hn.elim)
    (jump := fun _ _ lp pb pc i hn => hn.elim)
    (incl := fun incs lp pb pc i _ _ p q ⟨hg, _, hq⟩ f l st => by
      cases hq; unfold execTS
      refine step_tick hg _ _ _ _ fun f' st1 _ => ?_
      simp only [C09.stepStmt]
      cases execIncludes₀ cfg f' base incs st1 <;> rfl)
    (nil := fun lp pb pc i _ _ p q h f l st => by cases (show q = p from h); rfl)
    (cons := fun s ss hS hB lp pb pc i hn hlp p q h f l st => by
      rw [lowerB_cons] at h; rw [execTB_cons_seq]
      obtain ⟨m, h1, h2⟩ := h.app
      exact step_block (hS lp pb pc i hn.1 hlp.or.1 p m h1 f l st) _ _
        fun l1 st1 f1 => hB lp pb pc (cntS s i) hn.2 hlp.or.2 m q h2 f1 l1 st1)
    (none := fun lp pb pc done j _ _ p q h f l st => by cases (show q = p from h); rfl)
    (els := fun b hB lp pb pc done j hn hlp p q h f l st => by
      rw [execTE_els_seq]
      obtain ⟨m, h1, hg, -, hq⟩ := Seg.app (A := (lowerB lp b j).1) h
      cases hq
      exact step_block (hB lp pb pc j hn hlp p m h1 f l st) _ _ fun l1 st1 f1 =>
        exec_label hg _ _ _ fun _ _ _ => rfl)
    (elif := fun c t e hT hE lp pb pc done j hn hlp p q h f l st => by
      rw [execTE_elif_seq]
      exact chain_lemma lp pb pc done c t e j (hT lp pb pc (j+1) hn.1 hlp.or.1) (hE lp pb pc done _ hn.2 hlp.or.2)
        p q h f l st)

theorem simB (lp : Option (Name × Name)) (pb pc : Nat) (B : List SStmt) (i : Nat) (hn : NoRawB B)
    (hlp : LpOK P lp pb pc (usesContB B)) : SimB cfg P base lp pb pc B i := (sim cfg P base).2.1 B lp pb pc i hn hlp

theorem simElse (lp : Option (Name × Name)) (pb pc : Nat) (done : Name) (e : SElse) (j : Nat) (hn : NoRawE e)
    (hlp : LpOK P lp pb pc (usesContE e)) : SimE cfg P base lp pb pc done e j := (sim cfg P base).2.2 e lp pb pc done j hn hlp

/-! ## the labels of code lowered from a program without raw labels: `C07`'s block lemmas with no user label -/

theorem lowerB_labels (lp : Option (Name × Name)) (B : List SStmt) (i : Nat) (h : NoRawB B) :
    GenLabels (lowerB lp B i).1 i (cntB B i) := by
  obtain ⟨h1, -, h3, -⟩ := C07.noRawB_spec B ((C07.noRawB_iff B).1 h)
  exact ⟨C07.labelsOf_eq _ ▸ C07.labels_nodup B i h3 (h1 ▸ List.nodup_nil),
    fun l hl => (C07.labB lp B i l hl).resolve_left fun hm => List.not_mem_nil (h1 ▸ hm)⟩

theorem elseBody_labels (lp : Option (Name × Name)) (done : Name) : ∀ (e : SElse) (j : Nat), NoRawE e →
    (∀ K n, done = .gen K n → n < j) → LabelsIn (elseBody lp done e j) done j (cntE e j)
  | .none, _, _, _ => ⟨List.nodup_nil, fun _ hl => nomatch hl⟩
  | .els b, j, h, hd => by
      have hb := lowerB_labels lp b j h
      rw [elseBody, LabelsIn, labelsOf_append]
      refine ⟨List.nodup_append.mpr ⟨hb.1, List.nodup_cons.mpr ⟨List.not_mem_nil, List.nodup_nil⟩, ?_⟩, ?_⟩
      · intro a ha b' hb' hab
        obtain ⟨K, n, rfl, h3, -⟩ := hb.2 a (mem_labelsOf.mp ha)
        cases List.mem_singleton.mp hb'
        exact Nat.lt_irrefl _ (Nat.lt_of_lt_of_le (hd K n hab.symm) h3)
      · intro l hl
        rcases List.mem_append.mp hl with hl | hl
        · exact .inr (hb.2 l (mem_labelsOf.mp hl))
        · exact .inl (List.mem_singleton.mp hl)
  | .elif c t e, j, h, hd =>
      chain_labels (fun K n h => Nat.le_of_lt (hd K n h)) (fun h => Nat.lt_irrefl j (hd _ _ h))
        (lowerB_labels lp t (j+1) h.1)
        (elseBody_labels lp done e (cntB t (j+1)) h.2 fun K n h => Nat.lt_of_lt_of_le (Nat.lt_succ_of_lt (hd K n h)) (cntB_le t (j+1)))

/-- entry offset of an else-chain inside its lowered list: after `label done` for no else, after `label cur` otherwise -/
def elseEntry : SElse → Nat
  | .none => 1
  | _ => 2

theorem elseHead_length (cur done : Name) (e : SElse) : (elseHead cur done e).length = elseEntry e := by
  cases e <;> rfl

/-- `simElse` for code given with what surrounds it -/
theorem simE (lp : Option (Name × Name)) (pb pc : Nat) :
    ∀ (e : SElse) (j : Nat) (cur done : Name) (pre post : List Stmt), NoRawE e → LpOK P lp pb pc (usesContE e) →
    P = pre ++ (lowerElse lp cur done e j).1 ++ post →
    Fresh pre j (cntE e j) → Fresh post j (cntE e j) →
    (∀ K n, cur = .gen K n → n < j) → (∀ K n, done = .gen K n → n < j) →
    findLabel P done = some (pre.length + (lowerElse lp cur done e j).1.length - 1) →
    ∀ f l st, execM₀ cfg f P l base (pre.length + elseEntry e) st =
      Cont cfg P base pb pc (pre.length + (lowerElse lp cur done e j).1.length)
        (execTE cfg (callValue₀ cfg) (execIncludes₀ cfg) lp.isSome e j f l base st) := by
  intro e j cur done pre post hn hlp hP hf1 _ hcur hdone hd f l st
  have hlab := elseBody_labels lp done e j hn hdone
  rw [lowerElse_eq] at hP hd ⊢
  have hs : Seg P (pre ++ elseHead cur done e).length (elseBody lp done e j)
      ((pre ++ elseHead cur done e).length + (elseBody lp done e j).length) := by
    refine seg_mid post _ _ P (by rw [hP]; simp only [List.append_assoc]) hlab.1 fun l hl hpre => ?_
    rcases hlab.2 l hl with rfl | ⟨K, n, rfl, h1, h2⟩
    · have he : e ≠ .none := by rintro rfl; cases hl
      obtain ⟨init, hi⟩ := elseBody_last lp l e j he
      refine ⟨init.length, by rw [hi]; simp, ?_⟩
      rw [hd, hi]; simp only [List.length_append, List.length_cons, List.length_nil]; congr 1; omega
    · rw [labelsOf_append, List.mem_append] at hpre
      rcases hpre with hp | hp
      · exact absurd (mem_labelsOf.mp hp) (hf1 K n h1 h2)
      · have : Name.gen K n = cur ∨ Name.gen K n = done := by
          cases e with
          | none => exact .inr (List.mem_singleton.mp hp)
          | els _ => exact .inl (List.mem_singleton.mp hp)
          | elif _ _ _ => exact .inl (List.mem_singleton.mp hp)
        rcases this with h | h
        · have := hcur K n h.symm; omega
        · have := hdone K n h.symm; omega
  rw [List.length_append, elseHead_length] at hs
  rw [simElse cfg P base lp pb pc done e j hn hlp _ _ hs f l st, List.length_append, elseHead_length, Nat.add_assoc]

/-- the result of a whole structured run (script or function body), as `Structured.runT` reads it off -/
def toRes : TOut W → Res W
  | .norm _ st _ => .done st
  | .brk _ st _ => .done st
  | .cont _ st _ => .done st
  | .ret v st => .ret v st
  | .err e st => .err e st
  | .oof => .oof

/-- **T2 for a function body** (or any block lowered outside a loop, at any value `i` of the label counter): the machine
on the lowered block equals the ticked structured semantics followed by whatever the machine does at the end of the
list — for every fuel, locals, include base and state. -/
theorem lower_exact_body (B : List SStmt) (i : Nat) (h : NoRawB B) (f : Nat) (l : Option Env) (st : State W) :
    execM₀ cfg f (lowerB none B i).1 l base 0 st =
      (execTB cfg (callValue₀ cfg) (execIncludes₀ cfg) false B i f l base st).bind
        (fun l st f => execM₀ cfg f (lowerB none B i).1 l base (lowerB none B i).1.length st)
        (fun _ _ _ => .oof) (fun _ _ _ => .oof) := by
  have hs : Seg (lowerB none B i).1 0 _ (0 + _) :=
    seg_mid [] _ [] _ (List.append_nil _).symm (lowerB_labels none B i h).1 fun _ _ hp => nomatch hp
  have h1 := simB cfg (lowerB none B i).1 base none 0 0 B i h (fun _ _ e => nomatch e) _ _ hs f l st
  have hn := execTB_noBC cfg (callValue₀ cfg) (execIncludes₀ cfg) B i f l base st
  rw [Nat.zero_add, Option.isSome_none] at h1
  rw [h1, Cont_def]
  revert hn
  cases execTB cfg (callValue₀ cfg) (execIncludes₀ cfg) false B i f l base st with
  | brk => exact False.elim
  | cont => exact False.elim
  | _ => exact fun _ => rfl

/-- … and at the end of the list the machine stops: running a lowered body is running the structured body -/
theorem run_body_eq (B : List SStmt) (i : Nat) (h : NoRawB B) (f : Nat) (l : Option Env) (st : State W) :
    execM₀ cfg f (lowerB none B i).1 l base 0 st =
      toRes (execTB cfg (callValue₀ cfg) (execIncludes₀ cfg) false B i f l base st) := by
  have hn := execTB_noBC cfg (callValue₀ cfg) (execIncludes₀ cfg) B i f l base st
  rw [lower_exact_body cfg base B i h f l st]
  revert hn
  cases execTB cfg (callValue₀ cfg) (execIncludes₀ cfg) false B i f l base st with
  | norm l1 st1 f1 => exact fun _ => C09.execM₀_end (List.getElem?_eq_none (Nat.le_refl _)) st1
  | brk => exact False.elim
  | cont => exact False.elim
  | _ => exact fun _ => rfl

/-- **T2 `lower_exact`**: the cache-free machine on the lowering of a structured program, started at statement 0, equals
the ticked structured semantics of the program followed by the machine at the end of the statement list — an equation
between functions of fuel, locals, include base, counter and state (no bound on program size or nesting). -/
theorem lower_exact (B : List SStmt) (h : NoRawB B) (f : Nat) (l : Option Env) (st : State W) :
    execM₀ cfg f (lowerProgram B) l base 0 st =
      (execTB cfg (callValue₀ cfg) (execIncludes₀ cfg) false B 0 f l base st).bind
        (fun l st f => execM₀ cfg f (lowerProgram B) l base (lowerProgram B).length st)
        (fun _ _ _ => .oof) (fun _ _ _ => .oof) :=
  lower_exact_body cfg base B 0 h f l st

/-- running the lowered program *is* running the structured program (`Structured.runT` with the cache-free call /
include runners): same result, same final state (globals, world, statement counter), same out-of-fuel behaviour -/
theorem run_lowered_eq_runT (B : List SStmt) (h : NoRawB B) (f : Nat) (l : Option Env) (st : State W) :
    execM₀ cfg f (lowerProgram B) l base 0 st =
      match execTB cfg (callValue₀ cfg) (execIncludes₀ cfg) false B 0 f l base st with
      | .norm _ st' _ => .done st'
      | .brk _ st' _ => .done st'
      | .cont _ st' _ => .done st'
      | .ret v st' => .ret v st'
      | .err e st' => .err e st'
      | .oof => .oof :=
  run_body_eq cfg base B 0 h f l st

/-- `execute_script (parse_script text)` on the cache-free machine -/
theorem execute₀_lowered (B : List SStmt) (h : NoRawB B) (f : Nat) (st : State W) :
    execute₀ cfg f (lowerProgram B) base st =
      toRes (execTB cfg (callValue₀ cfg) (execIncludes₀ cfg) false B 0 f none base { st with count := 0 }) :=
  run_body_eq cfg base B 0 h f none _

/-! ## non-vacuity: a concrete program (`for` inside `while`, an `if / elif / else` with `continue` and `break`) -/

section NonVacuity

private def u (s : String) : Name := .user s

/-- `n = 0; k = 0; while k < 2: (for x in arrayNew(1,2,3,4): if x == 1: continue elif x == 4: break else: n = n + x); k = k + 1`
then `return n` -/
def nvProg : List SStmt := [
  .expr (some (u "n")) (.number 0),
  .expr (some (u "k")) (.number 0),
  .while (.binary .lt (.variable (u "k")) (.number 2)) [
     .for (u "x") none (.function (u "arrayNew") [.number 1, .number 2, .number 3, .number 4]) [
        .ite (.binary .eq (.variable (u "x")) (.number 1)) [.cont]
          (.elif (.binary .eq (.variable (u "x")) (.number 4)) [.brk]
            (.els [.expr (some (u "n")) (.binary .add (.variable (u "n")) (.variable (u "x")))]))
     ],
     .expr (some (u "k")) (.binary .add (.variable (u "k")) (.number 1))
  ],
  .ret (some (.variable (u "n")))
]

theorem nvProg_noRaw : NoRawB nvProg := by simp [nvProg, NoRawB, NoRawS, NoRawE]

def nvSt : State HostImpl.World :=
  { globals := [(u "arrayNew", .fn (.lib "arrayNew")), (u "arrayLength", .fn (.lib "arrayLength")),
                (u "arrayGet", .fn (.lib "arrayGet"))],
    world := {}, count := 0 }

/-- the driver's host -/
def nvCfg : Config HostImpl.World := { host := HostImpl.host, funs := fun _ => none, maxStatements := 1000 }

/-- the hypotheses of `lower_exact` / `run_lowered_eq_runT` / `lower_exact_body` are inhabited by a non-trivial instance -/
example (f : Nat) := lower_exact nvCfg none nvProg nvProg_noRaw f none nvSt
example (f : Nat) := run_lowered_eq_runT nvCfg none nvProg nvProg_noRaw f none nvSt
example (f : Nat) := lower_exact_body nvCfg none nvProg 7 nvProg_noRaw f (some []) nvSt

/-- `HostImpl.host` with the two comparisons the example uses computed directly on numbers (`HostImpl.compare` is
defined by well-founded recursion, which the kernel cannot evaluate) -/
def nvHost : Host HostImpl.World :=
  { HostImpl.host with
    binop := fun op a b w =>
      match op, a, b with
      | .lt, .num x, .num y => .bool (x < y)
      | .eq, .num x, .num y => .bool (x == y)
      | op, a, b => HostImpl.binop op a b w }

def nvCfg' : Config HostImpl.World := { host := nvHost, funs := fun _ => none, maxStatements := 1000 }

private def resSummary {W : Type} : Res W → Option (Value × Nat)
  | .ret v st => some (v, st.count)
  | _ => none

/-- the lowered program has 28 statements and 4 generated label indices -/
example : (lowerProgram nvProg).length = 28 ∧ cntB nvProg 0 = 4 := by decide

theorem nvProg_run : resSummary (toRes (execTB nvCfg' (callValue₀ nvCfg') (execIncludes₀ nvCfg') false nvProg 0 1000 none none nvSt))
    = some (.num 10, 70) := by decide +kernel

/-- the structured run returns 2+3 twice = 10 after exactly 70 (lowered) statements … -/
example : resSummary (toRes (execTB nvCfg' (callValue₀ nvCfg') (execIncludes₀ nvCfg') false nvProg 0 1000 none none nvSt))
    = some (.num 10, 70) := nvProg_run

/-- … hence (by the theorem, not by running it) so does the jump machine on the lowered program … -/
example : resSummary (execute₀ nvCfg' 1000 (lowerProgram nvProg) none nvSt) = some (.num 10, 70) := by
  rw [execute₀_lowered nvCfg' none nvProg nvProg_noRaw]; exact nvProg_run

/-- … and with 69 units of fuel both run out of fuel -/
example : execute₀ nvCfg' 69 (lowerProgram nvProg) none nvSt = .oof := by
  rw [execute₀_lowered nvCfg' none nvProg nvProg_noRaw]
  have : (match toRes (execTB nvCfg' (callValue₀ nvCfg') (execIncludes₀ nvCfg') false nvProg 0 69 none none
      { nvSt with count := 0 }) with | .oof => true | _ => false) = true := by decide +kernel
  revert this
  cases toRes (execTB nvCfg' (callValue₀ nvCfg') (execIncludes₀ nvCfg') false nvProg 0 69 none none
      { nvSt with count := 0 }) <;> simp

end NonVacuity

end C01

/-
#print axioms C01.lower_exact
  'C01.lower_exact' depends on axioms: [propext, Classical.choice, Quot.sound]
#print axioms C01.lower_exact_body
  'C01.lower_exact_body' depends on axioms: [propext, Classical.choice, Quot.sound]
#print axioms C01.run_lowered_eq_runT
  'C01.run_lowered_eq_runT' depends on axioms: [propext, Classical.choice, Quot.sound]
#print axioms C01.run_body_eq / C01.execute₀_lowered / C01.simE
  the same three
#print axioms C01.sim
  'C01.sim' depends on axioms: [propext, Quot.sound]
-/
