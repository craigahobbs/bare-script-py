import BareProofs.C09Good
open Machine
namespace C09
variable {W α β : Type}

def LeF (L : Nat) : Fin W → Prop
  | .ok s => s.count ≤ L
  | .err _ s => s.count ≤ L
  | .oof => True

/-- the unlimited run went beyond `L` statements, and its effects extend those of the aborted state `s'` -/
def Beyond (E : Ext W) (L : Nat) (s' : State W) : Fin W → Prop
  | .ok s => L < s.count ∧ E.le s'.world s.world
  | .err _ s => L < s.count ∧ E.le s'.world s.world
  | .oof => True

/-- the limited run was aborted exactly when statement `L + 1` would start -/
def Abort (E : Ext W) (L : Nat) (fa fb : Fin W) : Prop :=
  ∃ s', fb = .err (.exceeded L) s' ∧ s'.count = L + 1 ∧ Beyond E L s' fa

/-- `a`: outcome under no limit, `b`: outcome under limit `L`, same start -/
def SimF (E : Ext W) (L : Nat) (fa fb : Fin W) (same : Prop) : Prop := (same ∧ LeF L fa) ∨ Abort E L fa fb

def SimS (E : Ext W) (L : Nat) (a b : Oc α W) : Prop := SimF E L a.fin b.fin (b = a)
def SimO (E : Ext W) (L : Nat) (a b : Out W) : Prop := SimF E L a.fin b.fin (b = a)
def SimA (E : Ext W) (L : Nat) (a b : ArgsOut W) : Prop := SimF E L a.fin b.fin (b = a)
def SimR (E : Ext W) (L : Nat) (a b : Res W) : Prop := SimF E L a.fin b.fin (b = a)

theorem Oc.eq_of_fin_err {o : Oc α W} {e s} (h : o.fin = .err e s) : o = .err e s := by
  cases o <;> cases h; rfl

theorem Res.eq_of_fin_err {o : Res W} {e s} (h : o.fin = .err e s) : o = .err e s :=
  Res.oc_inj (Oc.eq_of_fin_err (Res.fin_oc o ▸ h))

theorem Beyond.trans {E : Ext W} {L : Nat} {s' s1 : State W} {o : Fin W}
    (h : Beyond E L s' (.ok s1)) (g : Good E 0 s1 o) : Beyond E L s' o := by
  cases o with
  | ok s => exact ⟨Nat.lt_of_lt_of_le h.1 g.1.1, E.trans h.2 g.1.2⟩
  | err e s => exact ⟨Nat.lt_of_lt_of_le h.1 g.1.1, E.trans h.2 g.1.2⟩
  | oof => trivial

theorem SimS.refl {E : Ext W} {L : Nat} {a : Oc α W} (h : LeF L a.fin) : SimS E L a a := .inl ⟨rfl, h⟩

/-- both runs go on from a common result within the budget; once the limited run is aborted, the unlimited one only
moves further beyond `L` -/
theorem SimS.bindOk {E : Ext W} {L : Nat} {a b : Oc α W} {ka kb : α → State W → Oc β W} (h : SimS E L a b)
    (hk : ∀ x s1, a = .ok x s1 → s1.count ≤ L → SimS E L (ka x s1) (kb x s1))
    (gk : ∀ x s1, a = .ok x s1 → Good E 0 s1 (ka x s1).fin) : SimS E L (a.bind ka) (b.bind kb) := by
  rcases h with ⟨rfl, hle⟩ | ⟨s', hb, hcnt, hbey⟩
  · cases b with
    | ok x s1 => exact hk x s1 rfl hle
    | err e s1 => exact .inl ⟨rfl, hle⟩
    | oof => exact .inl ⟨rfl, trivial⟩
  · rw [Oc.eq_of_fin_err hb]
    refine .inr ⟨s', rfl, hcnt, ?_⟩
    cases a with
    | ok x s1 => exact hbey.trans (gk x s1 rfl)
    | err e s1 => exact hbey
    | oof => trivial

theorem SimO.oc {E : Ext W} {L : Nat} {a b : Out W} : SimO E L a b ↔ SimS E L a.oc b.oc := by
  rw [SimO, SimS, Out.fin_oc, Out.fin_oc, SimF, SimF, (⟨congrArg _, Out.oc_inj⟩ : b = a ↔ b.oc = a.oc)]

theorem SimA.oc {E : Ext W} {L : Nat} {a b : ArgsOut W} : SimA E L a b ↔ SimS E L a.oc b.oc := by
  rw [SimA, SimS, ArgsOut.fin_oc, ArgsOut.fin_oc, SimF, SimF, (⟨congrArg _, ArgsOut.oc_inj⟩ : b = a ↔ b.oc = a.oc)]

theorem SimR.oc {E : Ext W} {L : Nat} {a b : Res W} : SimR E L a b ↔ SimS E L a.oc b.oc := by
  rw [SimR, SimS, Res.fin_oc, Res.fin_oc, SimF, SimF, (⟨congrArg _, Res.oc_inj⟩ : b = a ↔ b.oc = a.oc)]

/-- the unlimited run against the run under the limit `L`, together with the progress of the unlimited run from the
common start: with it the rule for `bind` needs nothing about the continuation -/
def limitRel (E : Ext W) (L : Nat) : RunRel W Unit where
  St := fun s s' => s' = s
  R := fun s₀ a S => Good E 0 s₀ a.fin ∧ (s₀.count ≤ L → SimS E L a (S ()))
  ok := fun _ s _ hs => ⟨Good.refl E 0 s, fun hle => by cases hs; exact .refl hle⟩
  err := fun e s _ he hs => ⟨Good.errHere E 0 s e he, fun hle => by cases hs; exact .refl hle⟩
  bind := fun h hk => ⟨Good.bind h.1 fun x s1 => (hk x s1 s1 rfl).1, fun hle =>
    SimS.bindOk (h.2 hle) (fun x s1 _ hle1 => (hk x s1 s1 rfl).2 hle1) fun x s1 _ => (hk x s1 s1 rfl).1⟩

theorem limitRel.call {E : Ext W} {L : Nat} {cA cB : CallFn W} :
    (limitRel E L).Call cA (fun _ => cB) ↔
      CallGood E 0 cA ∧ ∀ f a s, s.count ≤ L → SimO E L (cA f a s) (cB f a s) :=
  ⟨fun h => ⟨fun f a s => Out.fin_oc _ ▸ (h f a s s rfl).1, fun f a s hle => SimO.oc.2 ((h f a s s rfl).2 hle)⟩,
    fun h f a s s' e => by cases e; exact ⟨Out.fin_oc _ ▸ h.1 f a s, fun hle => SimO.oc.1 (h.2 f a s hle)⟩⟩

section EvalSim
variable (E : Ext W) (L : Nat) (c0 cL : Config W) (hh : cL.host = c0.host) (hbi : cL.builtins = c0.builtins)
  (cA cB : CallFn W) (hG : CallGood E 0 cA) (hS : ∀ f a s, s.count ≤ L → SimO E L (cA f a s) (cB f a s))
  (locals : Option Env)

def ArgsOK (es : List Expr) : Prop :=
  ∀ st : State W, st.count ≤ L → SimA E L (evalArgs c0 cA locals es st) (evalArgs cL cB locals es st)

def IfOK (es : List Expr) : Prop :=
  ∀ st : State W, st.count ≤ L → SimO E L (evalIf c0 cA locals es st) (evalIf cL cB locals es st)

include hG hS hh hbi in
theorem evalArgs_sim : ∀ (es : List Expr), ArgsOK E L c0 cL cA cB locals es :=
  fun es st h => SimA.oc.2 (((limitRel E L).evalArgs_rel (.of_eq (fun _ _ e => e) hh hbi locals fun _ => True)
    (limitRel.call.2 ⟨hG, hS⟩) es st st (fun _ _ => trivial) rfl).2 h)

include hG hS hh hbi in
theorem evalIf_sim : ∀ (es : List Expr), IfOK E L c0 cL cA cB locals es :=
  fun es st h => SimO.oc.2 (((limitRel E L).evalIf_rel (.of_eq (fun _ _ e => e) hh hbi locals fun _ => True)
    (limitRel.call.2 ⟨hG, hS⟩) es st st (fun _ _ => trivial) rfl).2 h)

include hG hS hh in
theorem runTree_sim (hdb : cL.debug = c0.debug) (hlf : ∀ w, E.le w (c0.host.logFailure w)) :
    ∀ (t : LibTree W) (st : State W), st.count ≤ L → TreeExt E st.world t →
      SimS E L (runTree c0 cA t st).oc (runTree cL cB t st).oc
  | .ret (.ok v) w, st, hst, _ => by simp only [runTree]; exact .refl hst
  | .ret (.fail v) w, st, hst, _ => by simp only [runTree, hdb, hh]; exact .refl hst
  | .ret (.rt msg) w, st, hst, _ => by simp only [runTree]; exact .refl hst
  | .call f args w k, st, hst, .call hw hk => by
      rw [runTree_call, runTree_call]
      have g1 := hG f args { st with world := w }
      rw [← Out.fin_oc] at g1
      refine (SimO.oc.1 (hS f args { st with world := w } hst)).bindOk (fun v s1 ha hle => ?_) fun v s1 ha => ?_
      · rw [ha] at g1
        exact runTree_sim hdb hlf (k v s1.world) s1 hle (hk v s1.world g1.1.2)
      · rw [ha] at g1
        exact runTree_good E 0 c0 cA hG hlf (k v s1.world) s1 (hk v s1.world g1.1.2)
  | .globalGet n w k, st, hst, .globalGet hw hk => by
      simp only [runTree]
      exact runTree_sim hdb hlf _ { st with world := w } hst (hk _)
  | .globalSet n v w k, st, hst, .globalSet hw hk => by
      simp only [runTree]
      exact runTree_sim hdb hlf _ { st with globals := st.globals.set n v, world := w } hst hk
end EvalSim

/-- `cL` is `c0` with the limit `L` instead of "unlimited" -/
structure SameBut (c0 cL : Config W) (L : Nat) : Prop where
  max0 : c0.maxStatements = 0
  maxL : cL.maxStatements = L
  pos : 0 < L
  host : cL.host = c0.host
  funs : cL.funs = c0.funs
  builtins : cL.builtins = c0.builtins
  debug : cL.debug = c0.debug
  resolve : cL.resolve = c0.resolve
  fetch : cL.fetch = c0.fetch

def SimM (E : Ext W) (L : Nat) (c0 cL : Config W) (fuel : Nat) : Prop :=
  (∀ f a s, s.count ≤ L → SimO E L (callValue₀ c0 fuel f a s) (callValue₀ cL fuel f a s)) ∧
  (∀ P locals base pc st, st.count ≤ L →
      SimS E L (execM₀ c0 fuel P locals base pc st).oc (execM₀ cL fuel P locals base pc st).oc) ∧
  (∀ base incs st, st.count ≤ L →
      SimS E L (execIncludes₀ c0 fuel base incs st).oc (execIncludes₀ cL fuel base incs st).oc)

theorem limitMach (E : Ext W) (L : Nat) (c0 cL : Config W) (hE : HostExt E c0.host) (hs : SameBut c0 cL L) :
    MachAgree (limitRel E L) c0 cL where
  eq := fun _ _ h => h
  funs := hs.funs
  builtins := hs.builtins
  resolve := hs.resolve
  fetch := hs.fetch
  truthy := by rw [hs.host]
  binop := by rw [hs.host]
  neg := by rw [hs.host]
  builtin := by rw [hs.host]
  notCallable := by rw [hs.host]
  newArray := by rw [hs.host]
  oof := fun _ => ⟨trivial, fun _ => .inl ⟨rfl, trivial⟩⟩
  tick := fun st _ => by
    have hb0 : ¬ overBudget c0 st = true := by simp [overBudget, hs.max0]
    have hg := Good.tick E c0 hb0
    rw [hs.max0] at hg
    rw [tickOc, if_neg hb0]
    refine ⟨hg, fun hle => ?_⟩
    rw [tickOc]
    split
    · -- statement L+1 would start: the limited run aborts here, the unlimited run is at count L+1
      next hbL =>
      simp only [overBudget, hs.maxL, Bool.and_eq_true, decide_eq_true_eq] at hbL
      exact .inr ⟨{ st with count := st.count + 1 }, by rw [hs.maxL]; rfl, by simp only; omega, by simp only; omega, E.refl _⟩
    · next hbL =>
      simp only [overBudget, hs.maxL, hs.pos, Bool.and_eq_true, decide_eq_true_eq, true_and, Nat.not_lt, gt_iff_lt] at hbL
      exact .refl hbL
  enter := fun fd a s _ =>
    ⟨Good.world (bindArgs_ext E c0.host hE.newArray fd.lastArgArray fd.args a [] s.world), fun hle => .refl hle⟩
  typeError := fun _ _ _ => ⟨Good.world (hE.notCallable _ _), fun hle => .refl hle⟩
  setGlobals := fun _ _ _ => ⟨Good.sameCW rfl rfl, fun hle => .refl hle⟩
  lib := fun h _ _ s _ =>
    have ⟨hG, hS⟩ := limitRel.call.1 h
    ⟨runTree_good E 0 c0 _ hG hE.logFailure _ s (hE.lib _ _ _), fun hle => by
      rw [hs.host]; exact runTree_sim E L c0 cL hs.host _ _ hG hS hs.debug hE.logFailure _ s hle (hE.lib _ _ _)⟩
  other := fun h _ _ s _ =>
    have ⟨hG, hS⟩ := limitRel.call.1 h
    ⟨runTree_good E 0 c0 _ hG hE.logFailure _ s (hE.other _ _ _), fun hle => by
      rw [hs.host]; exact runTree_sim E L c0 cL hs.host _ _ hG hS hs.debug hE.logFailure _ s hle (hE.other _ _ _)⟩

theorem simM (E : Ext W) (L : Nat) (c0 cL : Config W) (hE : HostExt E c0.host) (hs : SameBut c0 cL L) :
    ∀ fuel, SimM E L c0 cL fuel := fun fuel =>
  have ⟨hC, hX, hI⟩ := (limitMach E L c0 cL hE hs).machine_rel fuel fuel (.inl rfl)
  ⟨fun f a s hle => SimO.oc.2 ((hC f a s rfl).2 hle), fun P l base pc st hle => (hX P l base pc st rfl).2 hle,
    fun base incs st hle => (hI base incs st rfl).2 hle⟩

end C09
