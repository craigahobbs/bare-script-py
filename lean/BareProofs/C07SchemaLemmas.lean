import BareModel.Schema
import BareProofs.C02PrintLemmas

/-!
# C07Schema — lemmas: the generated schema stated type by type, the validator on the boundary's JSON (forward direction),
inversion of the validator (converse direction).  See `C07Schema.lean` for the property theorems.
-/

namespace C07Schema
open Schema PJson Gen

/-! ## the generated table, one user type at a time

Every lemma is `rfl` against `Gen.schema`: a renamed / added / removed member, a changed `optional` flag, attribute, member type,
`union` flag or enum value in `model.BARE_SCRIPT_TYPES` breaks the lemma for that type (and with it `lake build BareProofs.C07Schema`). -/

abbrev S := Gen.schema

def msBareScript : List SMember := [
  { name := "statements", type := .array (.user "ScriptStatement") [], optional := false, attr := [] }]
def msScriptStatement : List SMember := [
  { name := "expr", type := .user "ExpressionStatement", optional := false, attr := [] },
  { name := "jump", type := .user "JumpStatement", optional := false, attr := [] },
  { name := "return", type := .user "ReturnStatement", optional := false, attr := [] },
  { name := "label", type := .builtin "string", optional := false, attr := [] },
  { name := "function", type := .user "FunctionStatement", optional := false, attr := [] },
  { name := "include", type := .user "IncludeStatement", optional := false, attr := [] }]
def msExpressionStatement : List SMember := [
  { name := "name", type := .builtin "string", optional := true, attr := [] },
  { name := "expr", type := .user "Expression", optional := false, attr := [] }]
def msJumpStatement : List SMember := [
  { name := "label", type := .builtin "string", optional := false, attr := [] },
  { name := "expr", type := .user "Expression", optional := true, attr := [] }]
def msReturnStatement : List SMember := [
  { name := "expr", type := .user "Expression", optional := true, attr := [] }]
def msFunctionStatement : List SMember := [
  { name := "async", type := .builtin "bool", optional := true, attr := [] },
  { name := "name", type := .builtin "string", optional := false, attr := [] },
  { name := "args", type := .array (.builtin "string") [], optional := true, attr := [("lenGT", 0)] },
  { name := "lastArgArray", type := .builtin "bool", optional := true, attr := [] },
  { name := "statements", type := .array (.user "ScriptStatement") [], optional := false, attr := [] }]
def msIncludeStatement : List SMember := [
  { name := "includes", type := .array (.user "IncludeScript") [], optional := false, attr := [("lenGT", 0)] }]
def msIncludeScript : List SMember := [
  { name := "url", type := .builtin "string", optional := false, attr := [] },
  { name := "system", type := .builtin "bool", optional := true, attr := [] }]
def msExpression : List SMember := [
  { name := "number", type := .builtin "float", optional := false, attr := [] },
  { name := "string", type := .builtin "string", optional := false, attr := [] },
  { name := "variable", type := .builtin "string", optional := false, attr := [] },
  { name := "function", type := .user "FunctionExpression", optional := false, attr := [] },
  { name := "binary", type := .user "BinaryExpression", optional := false, attr := [] },
  { name := "unary", type := .user "UnaryExpression", optional := false, attr := [] },
  { name := "group", type := .user "Expression", optional := false, attr := [] }]
def msBinaryExpression : List SMember := [
  { name := "op", type := .user "BinaryExpressionOperator", optional := false, attr := [] },
  { name := "left", type := .user "Expression", optional := false, attr := [] },
  { name := "right", type := .user "Expression", optional := false, attr := [] }]
def msUnaryExpression : List SMember := [
  { name := "op", type := .user "UnaryExpressionOperator", optional := false, attr := [] },
  { name := "expr", type := .user "Expression", optional := false, attr := [] }]
def msFunctionExpression : List SMember := [
  { name := "name", type := .builtin "string", optional := false, attr := [] },
  { name := "args", type := .array (.user "Expression") [], optional := true, attr := [] }]

theorem def_BareScript : lookupDef S "BareScript" = some (.struct false msBareScript) := by rfl
theorem def_ScriptStatement : lookupDef S "ScriptStatement" = some (.struct true msScriptStatement) := by rfl
theorem def_ExpressionStatement : lookupDef S "ExpressionStatement" = some (.struct false msExpressionStatement) := by rfl
theorem def_JumpStatement : lookupDef S "JumpStatement" = some (.struct false msJumpStatement) := by rfl
theorem def_ReturnStatement : lookupDef S "ReturnStatement" = some (.struct false msReturnStatement) := by rfl
theorem def_FunctionStatement : lookupDef S "FunctionStatement" = some (.struct false msFunctionStatement) := by rfl
theorem def_IncludeStatement : lookupDef S "IncludeStatement" = some (.struct false msIncludeStatement) := by rfl
theorem def_IncludeScript : lookupDef S "IncludeScript" = some (.struct false msIncludeScript) := by rfl
theorem def_Expression : lookupDef S "Expression" = some (.struct true msExpression) := by rfl
theorem def_BinaryExpression : lookupDef S "BinaryExpression" = some (.struct false msBinaryExpression) := by rfl
theorem def_UnaryExpression : lookupDef S "UnaryExpression" = some (.struct false msUnaryExpression) := by rfl
theorem def_FunctionExpression : lookupDef S "FunctionExpression" = some (.struct false msFunctionExpression) := by rfl
theorem def_BinaryExpressionOperator : lookupDef S "BinaryExpressionOperator" = some (.enum (BinOp.all.map BinOp.text)) := by rfl
theorem def_UnaryExpressionOperator : lookupDef S "UnaryExpressionOperator" = some (.enum ["-", "!"]) := by rfl

/-- the table has exactly these fourteen user types (nothing else is reachable or unreachable) -/
theorem schema_names : S.map (·.1) = ["BareScript", "ScriptStatement", "ExpressionStatement", "JumpStatement", "ReturnStatement",
    "FunctionStatement", "IncludeStatement", "IncludeScript", "Expression", "BinaryExpression", "BinaryExpressionOperator",
    "UnaryExpression", "UnaryExpressionOperator", "FunctionExpression"] := by rfl

theorem msScriptStatement_nodup : (msScriptStatement.map (·.name)).Nodup := by simp [msScriptStatement]
theorem msExpression_nodup : (msExpression.map (·.name)).Nodup := by simp [msExpression]

/-! ## the validator, clause by clause (so that `simp` never has to be given `val` itself) -/

theorem val_builtin (S : List (String × SDef)) (b : String) (j : PJson) : val S (.builtin b) j = valBuiltin b j := by
  simp [val]

theorem val_obj {S : List (String × SDef)} {n : String} {u : Bool} {ms : List SMember} (h : lookupDef S n = some (.struct u ms))
    (kvs : List (String × PJson)) : val S (.user n) (.obj kvs) = (valKVs S ms kvs).bind (finishStruct u ms) := by
  simp [val, h]

theorem val_arr (S : List (String × SDef)) (t : SType) (a : List (String × Int)) (xs : List PJson) :
    val S (.array t a) (.arr xs) = (valArr S t a xs).map PJson.arr := by
  simp [val]

theorem val_enum {S : List (String × SDef)} {n : String} {vs : List String} {s : String}
    (hd : lookupDef S n = some (.enum vs)) (hs : s ∈ vs) : val S (.user n) (.str s) = some (.str s) := by
  simp [val, hd, hs]

theorem valKVs_cons {S : List (String × SDef)} {ms : List SMember} {k : String} {m : SMember} {v v' : PJson}
    (hm : findMember ms k = some m) (hv : val S m.type v = some v') (ha : attrOk m.attr v' = true)
    (r : List (String × PJson)) : valKVs S ms ((k, v) :: r) = (valKVs S ms r).map ((k, v') :: ·) := by
  simp only [valKVs, hm, hv, ha, if_true]

theorem findMember_nil (k : String) : findMember [] k = none := rfl

theorem findMember_cons (m : SMember) (ms : List SMember) (k : String) :
    findMember (m :: ms) k = if m.name = k then some m else findMember ms k := by
  by_cases h : m.name = k <;> simp [findMember, h]

theorem lookupKV_nil (k : String) : lookupKV [] k = none := rfl

theorem lookupKV_cons (k' : String) (v : PJson) (r : List (String × PJson)) (k : String) :
    lookupKV ((k', v) :: r) k = if k' = k then some v else lookupKV r k := by
  by_cases h : k' = k <;> simp [lookupKV, h]

theorem hasKey_nil (k : String) : hasKey [] k = false := rfl

theorem hasKey_cons (k' : String) (v : PJson) (r : List (String × PJson)) (k : String) :
    hasKey ((k', v) :: r) k = (k' == k || hasKey r k) := by
  simp [hasKey]

theorem order_nil (out : List (String × PJson)) : order [] out = [] := rfl

theorem order_cons (m : SMember) (ms : List SMember) (out : List (String × PJson)) :
    order (m :: ms) out = ((lookupKV out m.name).map fun v => (m.name, v)).toList ++ order ms out := by
  simp only [order, List.filterMap_cons]
  cases lookupKV out m.name <;> rfl

/-- the validated copy of a one-member object keeps that member, when the member names of the type are distinct -/
theorem order_single {k : String} {m : SMember} (v : PJson) : ∀ {ms : List SMember}, (ms.map (·.name)).Nodup →
    findMember ms k = some m → order ms [(k, v)] = [(k, v)]
  | [], _, h => by simp [findMember] at h
  | a :: r, hnd, h => by
      rw [List.map_cons, List.nodup_cons] at hnd
      rw [order_cons, lookupKV_cons]
      by_cases hk : k = a.name
      · subst hk
        have hr : order r [(a.name, v)] = [] := by
          simp only [order, List.filterMap_eq_nil_iff, lookupKV_cons]
          intro b hb
          have : a.name ≠ b.name := fun h' => hnd.1 (List.mem_map.2 ⟨b, hb, h'.symm⟩)
          simp [this, lookupKV]
        simp [hr]
      · have hk' : ¬ (a.name == k) = true := fun h' => hk (eq_of_beq h').symm
        simp only [findMember, List.find?_cons, hk'] at h
        simp [hk, lookupKV, order_single v hnd.2 h]

/-! ### an optional member `if c then [(k, v)] else []` in front of other members -/

theorem valKVs_opt {S : List (String × SDef)} {ms : List SMember} {k : String} {m : SMember} {v v' : PJson}
    (hm : findMember ms k = some m) (hv : val S m.type v = some v') (ha : attrOk m.attr v' = true) (c : Bool)
    (r : List (String × PJson)) :
    valKVs S ms ((if c then [(k, v)] else []) ++ r) = (valKVs S ms r).map ((if c then [(k, v')] else []) ++ ·) := by
  cases c
  · simp
  · simpa using valKVs_cons hm hv ha r

theorem hasKey_opt (c : Bool) (k : String) (v : PJson) (r : List (String × PJson)) (k' : String) :
    hasKey ((if c then [(k, v)] else []) ++ r) k' = (c && k == k' || hasKey r k') := by
  cases c <;> simp [hasKey_cons]

theorem nodupKeys_opt (c : Bool) (k : String) (v : PJson) (r : List (String × PJson)) :
    nodupKeys ((if c then [(k, v)] else []) ++ r) = ((!c || !hasKey r k) && nodupKeys r) := by
  cases c <;> simp [nodupKeys]

theorem lookupKV_opt (c : Bool) (k : String) (v : PJson) (r : List (String × PJson)) (k' : String) :
    lookupKV ((if c then [(k, v)] else []) ++ r) k' = if c = true ∧ k = k' then some v else lookupKV r k' := by
  cases c <;> simp [lookupKV_cons]

theorem toList_ite {α : Type} (c : Bool) (x : α) : (if c = true then some x else none).toList = if c then [x] else [] := by
  cases c <;> rfl

theorem val_str (S : List (String × SDef)) (s : String) : val S (.builtin "string") (.str s) = some (.str s) := by
  simp [val_builtin, valBuiltin]

theorem val_true (S : List (String × SDef)) : val S (.builtin "bool") (.bool true) = some (.bool true) := by
  simp [val_builtin, valBuiltin]

section forward

attribute [local simp] findMember_nil findMember_cons lookupKV_nil lookupKV_cons hasKey_nil hasKey_cons order_nil order_cons
  nodupKeys finishStruct valKVs attrOk mk val_builtin valBuiltin val_arr

/-- a union value: its one member is validated against the member of that name -/
theorem val_union {S : List (String × SDef)} {n k : String} {ms : List SMember} {m : SMember} {v v' : PJson}
    (hd : lookupDef S n = some (.struct true ms)) (hnd : (ms.map (·.name)).Nodup) (hm : findMember ms k = some m)
    (hv : val S m.type v = some v') (ha : attrOk m.attr v' = true) : val S (.user n) (mk [(k, v)]) = some (mk [(k, v')]) := by
  rw [mk, val_obj hd, valKVs_cons hm hv ha]
  simp [order_single v' hnd hm]

theorem binop_mem_all (op : BinOp) : op ∈ BinOp.all := by cases op <;> decide

theorem val_binop (op : BinOp) : val S (.user "BinaryExpressionOperator") (.str op.text) = some (.str op.text) :=
  val_enum def_BinaryExpressionOperator (List.mem_map_of_mem (binop_mem_all op))

theorem val_unop (op : UnOp) : val S (.user "UnaryExpressionOperator") (.str op.text) = some (.str op.text) :=
  val_enum def_UnaryExpressionOperator (by cases op <;> simp [UnOp.text])

mutual
theorem val_exprJ : ∀ e : Expr, val S (.user "Expression") (exprJ e) = some (exprW e)
  | .number q => by
      have hq := q.den_pos
      simp only [exprJ, exprW]
      exact val_union def_Expression msExpression_nodup (k := "number") rfl
        (by simp [floatOf, Syntax.ratToJson, hq, Rat.mkRat_self]) rfl
  | .string s => by
      simp only [exprJ, exprW]
      exact val_union def_Expression msExpression_nodup (k := "string") rfl (by simp) rfl
  | .variable n => by
      simp only [exprJ, exprW]
      exact val_union def_Expression msExpression_nodup (k := "variable") rfl (by simp) rfl
  | .group e => by
      simp only [exprJ, exprW]
      exact val_union def_Expression msExpression_nodup (k := "group") rfl (val_exprJ e) rfl
  | .unary op e => by
      simp only [exprJ, exprW]
      refine val_union def_Expression msExpression_nodup (k := "unary") rfl ?_ rfl
      simp [val_obj def_UnaryExpression, msUnaryExpression, val_exprJ e, val_unop op]
  | .binary op l r => by
      simp only [exprJ, exprW]
      refine val_union def_Expression msExpression_nodup (k := "binary") rfl ?_ rfl
      simp [val_obj def_BinaryExpression, msBinaryExpression, val_exprJ l, val_exprJ r, val_binop op]
  | .function n args => by
      simp only [exprJ, exprW]
      refine val_union def_Expression msExpression_nodup (k := "function") rfl ?_ rfl
      simp [val_obj def_FunctionExpression, msFunctionExpression, val_exprsJ args]
theorem val_exprsJ : ∀ es : List Expr, valArr S (.user "Expression") [] (exprsJ es) = some (exprsW es)
  | [] => by simp [exprsJ, exprsW, valArr]
  | e :: r => by simp [exprsJ, exprsW, valArr, val_exprJ e, val_exprsJ r]
end

theorem val_names : ∀ args : List Name, valArr S (.builtin "string") [] (args.map fun a => PJson.str a.render) =
    some (args.map fun a => PJson.str a.render)
  | [] => by simp [valArr]
  | a :: r => by simp [valArr, val_names r]

theorem val_incJ (i : IncludeScript) : val S (.user "IncludeScript") (incJ i) = some (incW i) := by
  cases i with
  | mk url system =>
    cases system <;>
      simp [incJ, incW, val_obj def_IncludeScript, msIncludeScript]

theorem val_incs : ∀ incs : List IncludeScript, valArr S (.user "IncludeScript") [] (incs.map incJ) = some (incs.map incW)
  | [] => by simp [valArr]
  | i :: r => by simp [valArr, val_incJ i, val_incs r]

mutual
theorem val_stmtJ : ∀ s : Stmt, wfS s = true → val S (.user "ScriptStatement") (stmtJ s) = some (stmtW s)
  | .expr none e, _ => by
      simp only [stmtJ, stmtW]
      refine val_union def_ScriptStatement msScriptStatement_nodup (k := "expr") rfl ?_ rfl
      simp [val_obj def_ExpressionStatement, msExpressionStatement, val_exprJ e]
  | .expr (some n) e, _ => by
      simp only [stmtJ, stmtW]
      refine val_union def_ScriptStatement msScriptStatement_nodup (k := "expr") rfl ?_ rfl
      simp [val_obj def_ExpressionStatement, msExpressionStatement, val_exprJ e]
  | .jump l none, _ => by
      simp only [stmtJ, stmtW]
      refine val_union def_ScriptStatement msScriptStatement_nodup (k := "jump") rfl ?_ rfl
      simp [val_obj def_JumpStatement, msJumpStatement]
  | .jump l (some c), _ => by
      simp only [stmtJ, stmtW]
      refine val_union def_ScriptStatement msScriptStatement_nodup (k := "jump") rfl ?_ rfl
      simp [val_obj def_JumpStatement, msJumpStatement, val_exprJ c]
  | .ret none, _ => by
      simp only [stmtJ, stmtW]
      refine val_union def_ScriptStatement msScriptStatement_nodup (k := "return") rfl ?_ rfl
      simp [val_obj def_ReturnStatement, msReturnStatement]
  | .ret (some e), _ => by
      simp only [stmtJ, stmtW]
      refine val_union def_ScriptStatement msScriptStatement_nodup (k := "return") rfl ?_ rfl
      simp [val_obj def_ReturnStatement, msReturnStatement, val_exprJ e]
  | .label l, _ => by
      simp only [stmtJ, stmtW]
      exact val_union def_ScriptStatement msScriptStatement_nodup (k := "label") rfl (by simp) rfl
  | .include incs, h => by
      have hlen : 0 < incs.length := List.length_pos_iff.mpr (by simpa [wfS] using h)
      simp only [stmtJ, stmtW]
      refine val_union def_ScriptStatement msScriptStatement_nodup (k := "include") rfl ?_ rfl
      simp [val_obj def_IncludeStatement, msIncludeStatement, val_incs incs, attr1, jlen, hlen]
  | .function fid n args laa isAsync body, h => by
      have hbody := val_stmtsJ body (by simpa [wfS] using h)
      simp only [stmtJ, stmtW]
      refine val_union def_ScriptStatement msScriptStatement_nodup (k := "function") rfl ?_ rfl
      -- the two flags are carried along as optional members; only `args` (absent when empty) is split
      have hrest : valKVs S msFunctionStatement [("name", .str n.render), ("statements", .arr (stmtsJ body))] =
          some [("name", .str n.render), ("statements", .arr (stmtsW body))] := by
        rw [valKVs_cons rfl (val_str ..) rfl, valKVs_cons rfl (by rw [val_arr, hbody]; rfl) rfl]; rfl
      rw [mk, val_obj def_FunctionStatement]
      cases args with
      | nil =>
        simp only [List.isEmpty_nil, if_true, List.nil_append, List.append_assoc]
        rw [valKVs_opt rfl (val_true S) rfl, valKVs_opt rfl (val_true S) rfl, hrest]
        simp [nodupKeys_opt, hasKey_opt, lookupKV_opt, toList_ite, msFunctionStatement]
      | cons a as =>
        have hn := val_names (a :: as)
        simp only [List.isEmpty_cons, Bool.false_eq_true, if_false, List.append_assoc, List.cons_append, List.nil_append]
        rw [valKVs_cons rfl (by rw [val_arr, hn]; rfl) (by simp [attr1, jlen]),
          valKVs_opt rfl (val_true S) rfl, valKVs_opt rfl (val_true S) rfl, hrest]
        simp [nodupKeys_opt, hasKey_opt, lookupKV_opt, toList_ite, msFunctionStatement]
theorem val_stmtsJ : ∀ ss : List Stmt, wfL ss = true → valArr S (.user "ScriptStatement") [] (stmtsJ ss) = some (stmtsW ss)
  | [], _ => by simp [stmtsJ, stmtsW, valArr]
  | s :: r, h => by
      simp only [wfL, Bool.and_eq_true] at h
      simp [stmtsJ, stmtsW, valArr, val_stmtJ s h.1, val_stmtsJ r h.2]
end

theorem val_scriptJ (P : List Stmt) (h : wfL P = true) : validate S "BareScript" (scriptJ P) = some (scriptW P) := by
  simp [validate, scriptJ, scriptW, val_obj def_BareScript, msBareScript, val_stmtsJ P h]

end forward

theorem findMember_some {ms : List SMember} {k : String} {m : SMember} (h : findMember ms k = some m) : m ∈ ms ∧ m.name = k :=
  ⟨List.mem_of_find?_eq_some h, by simpa using List.find?_some h⟩

theorem hasKey_eq (kvs : List (String × PJson)) (k : String) : hasKey kvs k = (lookupKV kvs k).isSome := by
  induction kvs with
  | nil => rfl
  | cons a r ih =>
    rw [hasKey_cons, lookupKV_cons, ih]
    by_cases h : a.1 = k <;> simp [h]

theorem mem_sizeOf {k : String} {v : PJson} : ∀ {kvs : List (String × PJson)}, (k, v) ∈ kvs → sizeOf v < sizeOf kvs
  | [], h => by simp at h
  | a :: r, h => by
      rcases List.mem_cons.mp h with h | h
      · subst h; simp; omega
      · have := mem_sizeOf h; simp; omega

theorem mem_sizeOf_list {x : PJson} : ∀ {xs : List PJson}, x ∈ xs → sizeOf x < sizeOf xs
  | [], h => by simp at h
  | a :: r, h => by
      rcases List.mem_cons.mp h with h | h
      · subst h; simp; omega
      · have := mem_sizeOf_list h; simp; omega

theorem valKVs_cons_inv {S : List (String × SDef)} {ms : List SMember} {k : String} {v : PJson} {r out : List (String × PJson)}
    (h : valKVs S ms ((k, v) :: r) = some out) :
    ∃ m v' out', findMember ms k = some m ∧ val S m.type v = some v' ∧ attrOk m.attr v' = true ∧ valKVs S ms r = some out' ∧
      out = (k, v') :: out' := by
  simp only [valKVs] at h
  split at h
  · cases h
  · rename_i m hm
    split at h
    · cases h
    · rename_i v' hv
      split at h
      · rename_i ha
        obtain ⟨out', hr, rfl⟩ := Option.map_eq_some_iff.1 h
        exact ⟨m, v', out', hm, hv, ha, hr, rfl⟩
      · cases h

theorem valKVs_lookup {S : List (String × SDef)} {ms : List SMember} :
    ∀ {kvs out : List (String × PJson)}, valKVs S ms kvs = some out → ∀ {k : String} {v' : PJson}, lookupKV out k = some v' →
      ∃ v m, (k, v) ∈ kvs ∧ findMember ms k = some m ∧ val S m.type v = some v' ∧ attrOk m.attr v' = true
  | [], out, h, k, v', hl => by
      simp only [valKVs, Option.some.injEq] at h; subst h; cases hl
  | (k0, v0) :: r, out, h, k, v', hl => by
      obtain ⟨m, w, out', hm, hv, ha, hr, rfl⟩ := valKVs_cons_inv h
      rw [lookupKV_cons] at hl
      split at hl
      · rename_i hk
        cases hl; subst hk
        exact ⟨v0, m, List.mem_cons_self, hm, hv, ha⟩
      · obtain ⟨v, m', hmem, h'⟩ := valKVs_lookup hr hl
        exact ⟨v, m', List.mem_cons_of_mem _ hmem, h'⟩

theorem valKVs_length {S : List (String × SDef)} {ms : List SMember} :
    ∀ {kvs out : List (String × PJson)}, valKVs S ms kvs = some out → out.length = kvs.length
  | [], out, h => by simp only [valKVs, Option.some.injEq] at h; subst h; rfl
  | (k0, v0) :: r, out, h => by
      obtain ⟨_, _, out', -, -, -, hr, rfl⟩ := valKVs_cons_inv h
      simp [valKVs_length hr]

/-- a value accepted at a struct or union type: an object, or the empty string standing for the object without members -/
theorem val_struct_kvs {S : List (String × SDef)} {n : String} {u : Bool} {ms : List SMember} {j j' : PJson}
    (hd : lookupDef S n = some (.struct u ms)) (h : val S (.user n) j = some j') :
    ∃ kvs out, valKVs S ms kvs = some out ∧ finishStruct u ms out = some j' ∧ (j = .obj kvs ∨ kvs = []) := by
  cases j with
  | obj kvs =>
    rw [val_obj hd] at h
    obtain ⟨out, ho, hf⟩ := Option.bind_eq_some_iff.1 h
    exact ⟨kvs, out, ho, hf, Or.inl rfl⟩
  | str s =>
    simp only [val, hd] at h
    split at h
    · exact ⟨[], [], rfl, h, Or.inr rfl⟩
    · cases h
  | null | bool _ | num _ | raw _ | arr _ => simp [val, hd] at h

/-- a validated struct value (not a union): its copy lists, in schema order, the validated members `out`, and for each member of
the type either the value has none and the member is optional, or `out` holds the validated value of a smaller part of `j` -/
theorem val_struct_inv {S : List (String × SDef)} {n : String} {ms : List SMember} {j j' : PJson}
    (hd : lookupDef S n = some (.struct false ms)) (h : val S (.user n) j = some j') :
    ∃ out, j' = .obj (order ms out) ∧ ∀ k m, findMember ms k = some m →
      (lookupKV out k = none ∧ m.optional = true) ∨
      ∃ v v', lookupKV out k = some v' ∧ sizeOf v < sizeOf j ∧ val S m.type v = some v' ∧ attrOk m.attr v' = true := by
  obtain ⟨kvs, out, ho, hf, hj⟩ := val_struct_kvs hd h
  have hsz : ∀ k v, (k, v) ∈ kvs → sizeOf v < sizeOf j := by
    rcases hj with rfl | rfl
    · intro k v hmem; have := mem_sizeOf hmem; simp; omega
    · intro k v hmem; cases hmem
  simp only [finishStruct, Bool.false_eq_true, if_false] at hf
  split at hf
  · cases hf
  · split at hf
    · rename_i hall
      refine ⟨out, (Option.some.inj hf).symm, fun k m hm => ?_⟩
      cases hl : lookupKV out k with
      | none =>
        obtain ⟨hmem, rfl⟩ := findMember_some hm
        have := List.all_eq_true.mp hall m hmem
        rw [hasKey_eq, hl] at this
        exact Or.inl ⟨rfl, by simpa using this⟩
      | some v' =>
        obtain ⟨v, m', hmem, hm', hv, ha⟩ := valKVs_lookup ho hl
        rw [hm] at hm'; cases hm'
        exact Or.inr ⟨v, v', rfl, hsz k v hmem, hv, ha⟩
    · cases hf

/-- a validated union value: exactly one member, of a known name (the member names of the type being distinct) -/
theorem val_union_inv {S : List (String × SDef)} {n : String} {ms : List SMember} {j j' : PJson}
    (hd : lookupDef S n = some (.struct true ms)) (hnd : (ms.map (·.name)).Nodup) (h : val S (.user n) j = some j') :
    ∃ m v v', m ∈ ms ∧ j = .obj [(m.name, v)] ∧ val S m.type v = some v' ∧ attrOk m.attr v' = true ∧ j' = .obj [(m.name, v')] := by
  obtain ⟨kvs, out, ho, hf, hj⟩ := val_struct_kvs hd h
  have hlen := valKVs_length ho
  simp only [finishStruct, if_true] at hf
  split at hf
  · cases hf
  · split at hf
    · rename_i h1
      rw [beq_iff_eq, hlen] at h1
      match kvs, h1, ho, hj with
      | [(k, v)], _, ho, hj =>
        obtain ⟨m, v', out', hm, hv, ha, hr, rfl⟩ := valKVs_cons_inv ho
        cases hr
        obtain ⟨hmem, rfl⟩ := findMember_some hm
        rw [order_single v' hnd hm] at hf
        exact ⟨m, v, v', hmem, hj.resolve_right (List.cons_ne_nil _ _), hv, ha, (Option.some.inj hf).symm⟩
    · cases hf

theorem val_enum_inv {S : List (String × SDef)} {n : String} {vs : List String} {j j' : PJson}
    (hd : lookupDef S n = some (.enum vs)) (h : val S (.user n) j = some j') : ∃ s, j' = .str s ∧ s ∈ vs := by
  cases j <;> simp [val, hd] at h
  exact ⟨_, h.2.symm, h.1⟩

theorem val_string_inv {S : List (String × SDef)} {j j' : PJson} (h : val S (.builtin "string") j = some j') :
    ∃ s, j = .str s ∧ j' = .str s := by
  rw [val_builtin] at h
  cases j <;> simp [valBuiltin] at h
  exact ⟨_, rfl, h.symm⟩

theorem val_bool_inv {S : List (String × SDef)} {j j' : PJson} (h : val S (.builtin "bool") j = some j') : ∃ b, j' = .bool b := by
  rw [val_builtin] at h
  cases j <;> simp [valBuiltin] at h
  · exact ⟨_, h.symm⟩
  · rename_i s
    by_cases h1 : s = "true"
    · simp [h1] at h; exact ⟨_, h.symm⟩
    · by_cases h2 : s = "false"
      · simp [h2] at h; exact ⟨_, h.symm⟩
      · simp [h1, h2] at h

theorem val_float_inv {S : List (String × SDef)} {j j' : PJson} (h : val S (.builtin "float") j = some j') :
    ∃ q : Rat, j' = Syntax.ratToJson q := by
  rw [val_builtin] at h
  simp only [valBuiltin] at h
  simp at h
  obtain ⟨q, _, hq⟩ := h
  exact ⟨q, hq.symm⟩

/-- array: the validated value is an array, element by element (an empty string counts as the empty array) -/
theorem val_array_inv {S : List (String × SDef)} {t : SType} {a : List (String × Int)} {j j' : PJson}
    (h : val S (.array t a) j = some j') :
    ∃ xs xs', valArr S t a xs = some xs' ∧ j' = .arr xs' ∧ (∀ x ∈ xs, sizeOf x < sizeOf j) := by
  cases j with
  | arr xs =>
    rw [val_arr] at h
    simp only [Option.map_eq_some_iff] at h
    obtain ⟨xs', h1, h2⟩ := h
    refine ⟨xs, xs', h1, h2.symm, ?_⟩
    intro x hx
    have := mem_sizeOf_list hx
    simp; omega
  | str s =>
    simp only [val] at h
    split at h
    · exact ⟨[], [], by simp [valArr], by simpa using h.symm, by simp⟩
    · cases h
  | null | bool _ | num _ | raw _ | obj _ => simp [val] at h

theorem valArr_cons_inv {S : List (String × SDef)} {t : SType} {a : List (String × Int)} {x : PJson} {r ys : List PJson}
    (h : valArr S t a (x :: r) = some ys) :
    ∃ x' r', val S t x = some x' ∧ attrOk a x' = true ∧ valArr S t a r = some r' ∧ ys = x' :: r' := by
  simp only [valArr] at h
  cases hv : val S t x with
  | none => simp [hv] at h
  | some x' =>
    simp only [hv] at h
    by_cases ha : attrOk a x' = true
    · simp only [ha, if_true, Option.map_eq_some_iff] at h
      obtain ⟨r', h1, h2⟩ := h
      exact ⟨x', r', rfl, ha, h1, h2.symm⟩
    · simp [ha] at h

theorem valArr_length {S : List (String × SDef)} {t : SType} {a : List (String × Int)} :
    ∀ {xs ys : List PJson}, valArr S t a xs = some ys → ys.length = xs.length
  | [], ys, h => by simp [valArr] at h; subst h; rfl
  | x :: r, ys, h => by
      obtain ⟨x', r', _, _, h3, rfl⟩ := valArr_cons_inv h
      simp [valArr_length h3]

end C07Schema
