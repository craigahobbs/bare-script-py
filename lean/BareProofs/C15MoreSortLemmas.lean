import BareModel.LibMore
import BareProofs.C11Opt

/-!
# C15More — bridge between the heap comparison `Lib.vcmp` and the tree comparison `Compare.valueCompare` of C11

`reify n h v` reads a heap value back as a closed tree value (`Compare.PValue`), `none` when a reference is dangling, an object has
a duplicate key, or the nesting exceeds `n`.  `vcmp_reify`: on values that read back, the heap comparison with the same fuel *is*
the C11 comparison of the trees.  All order laws of C11 (`valueCompare_isPre`) therefore hold for the heap comparison on such
values.  The proof runs like `C11Bridge.valueCompare_bridge` for the machine host: operands of different types are settled by
`C11.rank_decides`, the loops by `C11Bridge.IsLexOpt.bridge`; `Lib.sortKV` inserts from the right, so it agrees with
`Compare.sortItems` only where no key repeats (`sortKV_reify`).
-/

namespace C15More
open Lib LibMore Compare C11Bridge

def reify : Nat → Heap → Value → Option PValue
  | 0, _, _ => none
  | n + 1, h, v =>
    match v with
    | .null => some .null
    | .bool b => some (.bool b)
    | .num q => some (.num q)
    | .str s => some (.str s)
    | .dt ms => some (.dt ms)
    | .fn i => some (.fn i)
    | .regex i => some (.regex i)
    | .arr r =>
      (match getArr h r with
      | some xs => (xs.mapM (reify n h)).map .arr
      | none => none)
    | .obj r =>
      (match getObj h r with
      | some kvs =>
        if (kvs.map (·.1)).Nodup then (kvs.mapM (fun p => (reify n h p.2).map (fun t => (p.1, t)))).map .obj else none
      | none => none)

theorem reify_arr (n : Nat) (h : Heap) (r : Nat) :
    reify (n + 1) h (.arr r) = (getArr h r).bind fun xs => (xs.mapM (reify n h)).map .arr := by
  simp only [reify]; cases getArr h r <;> rfl

theorem reify_obj (n : Nat) (h : Heap) (r : Nat) :
    reify (n + 1) h (.obj r) = (getObj h r).bind fun kvs =>
      if (kvs.map (·.1)).Nodup then (kvs.mapM (fun p => (reify n h p.2).map (fun t => (p.1, t)))).map .obj else none := by
  simp only [reify]; cases getObj h r <;> rfl

theorem strCmp_codeCmp : ∀ a b : List Char, strCmp a b = codeCmp (a.map Char.toNat) (b.map Char.toNat)
  | [], [] => rfl
  | [], _ :: _ => rfl
  | _ :: _, [] => rfl
  | a :: as, b :: bs => by
    simp only [strCmp, List.map_cons, codeCmp, strCmp_codeCmp as bs]
    by_cases h1 : a.toNat < b.toNat
    · simp [h1]
    · by_cases h2 : b.toNat < a.toNat
      · have : ¬ a.toNat = b.toNat := by omega
        simp [h1, h2, this]
      · have : a.toNat = b.toNat := by omega
        simp [this]

theorem strCmp_strCompare (s t : String) : strCmp s.toList t.toList = strCompare s t := by
  simp [strCompare, codes, strCmp_codeCmp]

theorem rcmp_tri (x y : Rat) : rcmp x y = tri (x < y) (x = y) := by
  have e : ∀ a b : Rat, rlt a b = decide (a < b) := fun a b => by simp [rlt, Rat.lt_iff]
  simp only [rcmp, e, tri, decide_eq_true_eq]
  by_cases h1 : x < y
  · simp [h1]
  · by_cases h3 : x = y
    · simp [h3]
    · have : y < x := Rat.lt_of_le_of_ne (Rat.not_lt.mp h1) (Ne.symm h3)
      simp [h1, h3, this]

theorem boolCmp_tri (x y : Bool) :
    (if (x == y) = true then (0 : Int) else if x = true then 1 else -1) = tri (!x && y) (x == y) := by
  cases x <;> cases y <;> rfl

theorem dtCmp_tri (x y : Int) :
    (if x < y then (-1 : Int) else if (x == y) = true then 0 else 1) = tri (decide (x < y)) (decide (x = y)) := by
  simp only [tri, decide_eq_true_eq, beq_iff_eq]

theorem insertKV_eq (kv : String × Value) (l : List (String × Value)) :
    insertKV kv l = insertBy (fun p q => decide (strCompare p.1 q.1 < 0)) kv l := by
  induction l with
  | nil => rfl
  | cons x xs ih =>
    simp only [insertKV, insertBy, strCmp_strCompare, ih, decide_eq_true_eq]

theorem sortKV_perm (kvs : List (String × Value)) : (sortKV kvs).Perm kvs := by
  unfold sortKV
  induction kvs with
  | nil => exact .refl _
  | cons p ps ih =>
    simp only [List.foldr_cons]
    rw [insertKV_eq]
    exact (insertBy_perm _ _ _).trans (List.Perm.cons p ih)

/-- `C11.rank` of what a library value reads back as -/
def rankL : Value → Nat
  | .null => 0 | .arr _ => 1 | .bool _ => 2 | .dt _ => 3 | .fn _ => 4 | .num _ => 5 | .obj _ => 6 | .regex _ => 7 | .str _ => 8

theorem typeName_rankL (a : Value) : Lib.typeName a = C11.rankName (rankL a) ∧ rankL a ≤ 8 := by
  cases a <;> exact ⟨rfl, Nat.le_of_ble_eq_true rfl⟩

theorem rankL_eq_zero {a : Value} : rankL a = 0 ↔ a = .null := by cases a <;> simp [rankL]

theorem reify_arr_iff (n : Nat) (h : Heap) (r : Nat) (p : PValue) :
    reify (n + 1) h (.arr r) = some p ↔ ∃ xs, getArr h r = some xs ∧ ∃ pxs, mapOpt (reify n h) xs = some pxs ∧ .arr pxs = p := by
  rw [reify_arr]; simp only [Option.bind_eq_some_iff, Option.map_eq_some_iff, mapM_eq_mapOpt]

theorem reify_obj_iff (n : Nat) (h : Heap) (r : Nat) (p : PValue) :
    reify (n + 1) h (.obj r) = some p ↔ ∃ kvs, getObj h r = some kvs ∧ (kvs.map (·.1)).Nodup ∧
      ∃ pkvs, mapOpt (itemOpt (reify n h)) kvs = some pkvs ∧ .obj pkvs = p := by
  rw [reify_obj]
  simp only [Option.bind_eq_some_iff, Option.ite_none_right_eq_some, Option.map_eq_some_iff, mapM_eq_mapOpt]
  rfl

theorem reify_rank {n : Nat} {h : Heap} {a : Value} {p : PValue} (hp : reify n h a = some p) : C11.rank p = rankL a := by
  cases n with
  | zero => cases hp
  | succ n =>
    cases a with
    | arr r => obtain ⟨_, _, _, _, rfl⟩ := (reify_arr_iff n h r p).mp hp; rfl
    | obj r => obtain ⟨_, _, _, _, _, rfl⟩ := (reify_obj_iff n h r p).mp hp; rfl
    | _ => cases hp; rfl

/-- the last branch of the library's ladder -/
theorem vcmp_cross (h : Heap) (f : Nat) {a b : Value} (ha : a ≠ .null) (hb : b ≠ .null)
    (hn : Lib.typeName a ≠ Lib.typeName b) :
    vcmp (f + 1) h a b = some (strCompare (Lib.typeName a) (Lib.typeName b)) := by
  rw [← strCmp_strCompare]
  exact vcmp.eq_11 h a b f ha hb (fun e _ => ha e) (fun _ _ e e' => hn (e ▸ e' ▸ rfl))
    (fun _ _ e e' => hn (e ▸ e' ▸ rfl)) (fun _ _ e e' => hn (e ▸ e' ▸ rfl)) (fun _ _ e e' => hn (e ▸ e' ▸ rfl))
    (fun _ _ e e' => hn (e ▸ e' ▸ rfl)) (fun _ _ e e' => hn (e ▸ e' ▸ rfl))

theorem vcmp_rank (h : Heap) (f : Nat) {a b : Value} (e : rankL a < rankL b) :
    vcmp (f + 1) h a b = some (-1) ∧ vcmp (f + 1) h b a = some 1 :=
  C11.rank_decides (fun x hx => vcmp.eq_3 h x f hx) (fun x hx => vcmp.eq_4 h x f hx)
    (fun _ _ => vcmp_cross h f) typeName_rankL (fun _ => rankL_eq_zero) e

theorem ite_eq_zero (r : Int) (x y : Option Int) : (if r = 0 then x else y) = if r != 0 then y else x := by
  by_cases h : r = 0 <;> simp [h]

theorem lcmpWith_isLexOpt (c : Value → Value → Option Int) : IsLexOpt c (lcmpWith c) :=
  ⟨by rw [lcmpWith], fun _ _ => by rw [lcmpWith], fun _ _ => by rw [lcmpWith], fun x xs y ys => by
    rw [lcmpWith]; cases c x y <;> first | rfl | exact ite_eq_zero ..⟩

theorem ocmpWith_isLexOpt (c : Value → Value → Option Int) :
    IsLexOpt (fun x y => if strCompare x.1 y.1 != 0 then some (strCompare x.1 y.1) else c x.2 y.2) (ocmpWith c) :=
  ⟨by rw [ocmpWith], fun _ _ => by rw [ocmpWith], fun _ _ => by rw [ocmpWith], fun (k1, v1) xs (k2, v2) ys => by
    rw [ocmpWith, strCmp_strCompare]
    by_cases hk : (strCompare k1 k2 != 0) = true
    · simp only [hk, if_true, Option.bind_some]
    · simp only [hk, if_false, Bool.false_eq_true]
      cases c v1 v2 <;> first | rfl | exact ite_eq_zero ..⟩

/-- sorting the items of an object cell by key and reading the values back = reading back and sorting with `Compare.sortItems` -/
theorem sortKV_reify (f : Value → Option PValue) (kvs : List (String × Value)) (qs : List (String × PValue))
    (h : mapOpt (itemOpt f) kvs = some qs) (hk : (kvs.map (·.1)).Nodup) :
    mapOpt (itemOpt f) (sortKV kvs) = some (sortItems qs) := by
  -- `sortKV` inserts from the right, `sortItems` from the left: the same list, as the order of insertion does not matter
  rw [C11.sortItems_canonical qs qs.reverse (List.reverse_perm _).symm (mapOpt_item_keys f kvs qs h ▸ hk)]
  unfold sortItems sortBy sortKV
  rw [List.foldl_reverse]
  clear hk
  induction kvs generalizing qs with
  | nil => rw [(mapOpt_nil_iff _ qs).mp h]; rfl
  | cons x xs ih =>
    obtain ⟨y, ys, h1, h2, rfl⟩ := (mapOpt_cons_iff _ x xs qs).mp h
    rw [List.foldr_cons, List.foldr_cons, insertKV_eq]
    refine insertBy_mapOpt _ _ _ (fun a b pa pb ha hb => ?_) x y h1 _ _ (ih ys h2)
    rw [((itemOpt_iff f a pa).mp ha).1, ((itemOpt_iff f b pb).mp hb).1]

/-- The heap comparison recurses only as deep as the shallower operand: fuel for reading back the left one is enough. -/
theorem vcmp_reify_le : ∀ (f : Nat) (h : Heap) (n m : Nat) (a b : Value) (pa pb : PValue),
    reify n h a = some pa → reify m h b = some pb → n ≤ f → vcmp f h a b = some (valueCompare pa pb) := by
  intro f h
  induction f with
  | zero => intro n m a b pa pb ha hb hn; cases hn; cases ha
  | succ f ih =>
    intro n m a b pa pb ha hb hn
    cases n with | zero => cases ha | succ n => ?_
    cases m with | zero => cases hb | succ m => ?_
    have IH : ∀ x px y py, reify n h x = some px → reify m h y = some py → vcmp f h x y = some (valueCompare px py) :=
      fun x px y py hx hy => ih n m x y px py hx hy (Nat.le_of_succ_le_succ hn)
    have ra := reify_rank ha
    have rb := reify_rank hb
    rcases Nat.lt_trichotomy (rankL a) (rankL b) with e | e | e
    · rw [(vcmp_rank h f e).1, C11.cmp_rank_lt pa pb (ra ▸ rb ▸ e)]
    · -- the same rank: `b` has the constructor of `a`, and both ladders take the same branch
      cases a with
      | arr r =>
        cases b <;> cases e
        obtain ⟨xs, hxs, pxs, hmx, rfl⟩ := (reify_arr_iff n h r pa).mp ha
        obtain ⟨ys, hys, pys, hmy, rfl⟩ := (reify_arr_iff m h _ pb).mp hb
        rw [vcmp.eq_9, hxs, hys, Compare.valueCompare]
        exact (lcmpWith_isLexOpt _).bridge C11.cmpList_isLex _ _ IH xs pxs ys pys hmx hmy
      | obj r =>
        cases b <;> cases e
        obtain ⟨xs, hxs, hkx, pxs, hmx, rfl⟩ := (reify_obj_iff n h r pa).mp ha
        obtain ⟨ys, hys, hky, pys, hmy, rfl⟩ := (reify_obj_iff m h _ pb).mp hb
        rw [vcmp.eq_10, hxs, hys, Compare.valueCompare]
        exact (ocmpWith_isLexOpt _).bridge C11.cmpItems_isLex _ _ (item_bridge (fun _ _ => rfl) _ _ IH) _ _ _ _
          (sortKV_reify _ xs pxs hmx hkx) (sortKV_reify _ ys pys hmy hky)
      | _ =>
        cases b <;> cases e
        all_goals
          cases ha; cases hb
          simp only [vcmp, Compare.valueCompare, strCmp_strCompare, rcmp_tri, boolCmp_tri, dtCmp_tri, Lib.typeName,
            Compare.typeName]
    · rw [(vcmp_rank h f e).2, C11.cmp_rank_gt pa pb (ra ▸ rb ▸ e)]

/-- **Bridge.** If both values read back from the heap as trees (within nesting depth `n`), the heap comparison with fuel `n` is
defined and is the C11 comparison of the trees. -/
theorem vcmp_reify (n : Nat) (h : Heap) (a b : Value) (pa pb : PValue)
    (ha : reify n h a = some pa) (hb : reify n h b = some pb) : vcmp n h a b = some (valueCompare pa pb) :=
  vcmp_reify_le n h n n a b pa pb ha hb (Nat.le_refl n)

/-- non-vacuity: an array holding an object and an array reads back -/
example : reify 3 [.arr [.obj 1, .arr 2], .obj [("k", numN 1)], .arr []] (.arr 0) =
    some (.arr [.obj [("k", .num 1)], .arr []]) := by rfl

end C15More
