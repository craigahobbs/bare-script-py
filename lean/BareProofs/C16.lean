import BareProofs.C16Text
import BareModel.Gen.Args

/-!
# C16 — datetime construction, arithmetic and ISO text are correct in any time zone

Model: `BareModel/Datetime.lean`.  `datetimeNew` is ordinal arithmetic for ALL integer arguments (calendar facts in `C16Lemmas`:
`_ord2ymd` / `_ymd2ord` are mutually inverse on every integer ordinal / valid date, which is what gives the spec layer its
meaning); its getters recompose to the instant; `(d + n) − d = n` on the integer-millisecond model.  The ISO mirror (`isoParse`,
`isoFormatUs`) factors through the text layer of `C16Text`, whose round trip needs no zone; what is proved here is the zone
step.  PARTIAL: `iso_roundtrip_partial` (the zone is two abstract offset functions, the property's carve-outs are hypotheses)
and `round_ms_exact_partial` (in `C16Round`: relative-error model of IEEE doubles over ℚ, not bit-level floats).
-/

open Datetime
namespace C16

def argModel (name : String) (default : Option String) (lte gte : Option Int) : Gen.ArgModel :=
  { name := name, type := some "number", nullable := false, default := default, lastArgArray := false, integer := true,
    lt := none, lte := lte, gt := none, gte := gte }

/-- `_DATETIME_NEW_ARGS` as extracted from the working tree is the argument model `datetimeNew` validates against -/
theorem args_table : Gen.argModels.lookup "_DATETIME_NEW_ARGS" = some [
    argModel "year" none none (some yearGte), argModel "month" none none none, argModel "day" none (some dayLte) (some dayGte),
    argModel "hour" (some "0") none none, argModel "minute" (some "0") none none, argModel "second" (some "0") none none,
    argModel "millisecond" (some "0") none none] := by decide +kernel

theorem carry_eq (x y : Int) {k : Int} (hk : 0 < k) : carry x y k = (x % k, y + x / k) := by
  unfold carry; rw [pyFloorDiv_pos _ hk]
  split
  · rw [Int.emod_def, Int.mul_comm]
  · have h0 : 0 ≤ x := by omega
    have h1 : x < k := by omega
    rw [Int.emod_eq_of_lt h0 h1, Int.ediv_eq_zero_of_lt h0 h1, Int.add_zero]

theorem monthNorm_eq (y mo : Int) : monthNorm y mo = (y + (mo - 1) / 12, (mo - 1) % 12 + 1) := by
  unfold monthNorm; rw [pyFloorDiv_pos _ (by decide)]
  split <;> (apply Prod.ext <;> simp only [] <;> omega)

/-- the carry chain leaves the total millisecond count unchanged: whole days plus a time of day with digits in range -/
theorem carry_chain (h mi s ms : Int) {s1 mi1 h1 : Int} (hs1 : s + ms / 1000 = s1) (hm1 : mi + s1 / 60 = mi1)
    (hh1 : h + mi1 / 60 = h1) :
    ((h * 60 + mi) * 60 + s) * 1000 + ms =
      h1 / 24 * 86400000 + (((h1 % 24 * 60 + mi1 % 60) * 60 + s1 % 60) * 1000 + ms % 1000) := by
  omega

/-- **C16 / normalisation.** For ALL integer arguments the carry chain, the month normalisation and the two day
loops of `_datetime_new` compute exactly proleptic-Gregorian ordinal arithmetic: the instant
`ordinal(first day of the normalised month) + (day − 1)` days `+` the total millisecond count, and `null`
(`none`) exactly when that instant lies outside years 1..9999 (where `datetime.datetime(...)` raises). -/
theorem datetimeNewCore_is_ordinal_arithmetic (y mo d h mi s ms : Int) :
    datetimeNewCore y mo d h mi s ms = datetimeNewSpec y mo d h mi s ms := by
  simp only [datetimeNewCore, carry_eq _ _ (show (0 : Int) < 1000 by decide), carry_eq _ _ (show (0 : Int) < 60 by decide),
    carry_eq _ _ (show (0 : Int) < 24 by decide), monthNorm_eq, datetimeNewSpec, msPerDay]
  generalize hs1 : s + ms / 1000 = s1
  generalize hm1 : mi + s1 / 60 = mi1
  generalize hh1 : h + mi1 / 60 = h1
  have hb : 0 ≤ h1 % 24 ∧ h1 % 24 ≤ 23 ∧ 0 ≤ mi1 % 60 ∧ mi1 % 60 ≤ 59 ∧ 0 ≤ s1 % 60 ∧ s1 % 60 ≤ 59 ∧
      0 ≤ ms % 1000 ∧ ms % 1000 ≤ 999 := by omega
  obtain ⟨b0, b1, _⟩ := tod_of_fields hb
  obtain ⟨e1, e2⟩ := ediv_emod_digits (h1 / 24) b0 b1
  rw [carry_chain h mi s ms hs1 hm1 hh1, e1, e2, fromOrdinalMs_tod _ hb]
  obtain ⟨y', m', d', hr, a1, a2, b1, b2, ho⟩ :=
    dayAdjust_spec (y + (mo - 1) / 12) ((mo - 1) % 12 + 1) (d + h1 / 24) (by omega) (by omega)
  have hv : ValidMD y' m' d' := ⟨a1, a2, b1, b2⟩
  have hord : ymd2ord (y + (mo - 1) / 12) ((mo - 1) % 12 + 1) 1 + (d - 1) + h1 / 24 = ymd2ord y' m' d' := by
    simp only [ymd2ord_eq]; omega
  rw [hr, hord, ord2ymd_ymd2ord hv]
  simp only [construct, mkDT]
  by_cases hy : 1 ≤ y' ∧ y' ≤ 9999
  · rw [if_pos ((year_range_iff hv).1 hy), if_pos ⟨hy.1, hy.2, a1, a2, b1, b2, hb⟩]
  · rw [if_neg fun c => hy ((year_range_iff hv).2 c), if_neg fun c => hy ⟨c.1, c.2.1⟩]

/-- non-vacuity: month 14, day −3, 25 h, 61 min, 61 s, 1001 ms all normalise (both layers computed by the kernel) -/
example : datetimeNewCore 2024 14 (-3) 25 61 61 1001 = some ⟨2025, 1, 29, 2, 2, 2, 1⟩ ∧
    datetimeNewSpec 2024 14 (-3) 25 61 61 1001 = some ⟨2025, 1, 29, 2, 2, 2, 1⟩ := by decide +kernel
/-- the `while day > month_days` loop across a leap February; the `while day < 1` loop across a year boundary -/
example : datetimeNewCore 2024 1 60 0 0 0 0 = some ⟨2024, 2, 29, 0, 0, 0, 0⟩ ∧
    datetimeNewCore 2023 1 60 0 0 0 0 = some ⟨2023, 3, 1, 0, 0, 0, 0⟩ ∧
    datetimeNewCore 2024 1 (-366) 0 0 0 (-1) = some ⟨2022, 12, 29, 23, 59, 59, 999⟩ := by decide +kernel
/-- the failure branch: one millisecond past 9999-12-31T23:59:59.999, and a month far in the past -/
example : datetimeNewCore 9999 12 31 23 59 59 1000 = none ∧ datetimeNewSpec 9999 12 31 23 59 59 1000 = none ∧
    datetimeNewCore 100 (-1200) 1 0 0 0 0 = none ∧ datetimeNewCore 9999 12 31 23 59 59 999 ≠ none := by decide +kernel

/-- the same with the argument validation of `_DATETIME_NEW_ARGS` in front (what a script call does) -/
theorem datetimeNew_is_ordinal_arithmetic (y mo d h mi s ms : Int) :
    datetimeNew y mo d h mi s ms =
      if yearGte ≤ y ∧ dayGte ≤ d ∧ d ≤ dayLte then datetimeNewSpec y mo d h mi s ms else none := by
  unfold datetimeNew; rw [datetimeNewCore_is_ordinal_arithmetic]

example : datetimeNew 99 1 1 0 0 0 0 = none ∧ datetimeNew 2024 1 10001 0 0 0 0 = none ∧
    datetimeNew 100 (-30) (-10000) (-5000) (-5000) (-5000) (-5000) = some ⟨69, 6, 15, 3, 16, 35, 0⟩ := by decide +kernel

/-- **C16 / getters.** Whatever `datetimeNew` returns is a well-formed datetime; its getters (year, month, day, hour,
minute, second, millisecond) are the parts of the normalised instant — they recompose to
`ordinal(first of normalised month) + day − 1` days plus the total milliseconds — and feeding them back to
`datetimeNew` returns the same datetime (normalisation is idempotent). -/
theorem getters_roundtrip {y mo d h mi s ms : Int} {t : DT} (hnew : datetimeNewCore y mo d h mi s ms = some t) :
    t.Valid ∧
    toLocalMs t = (ymd2ord (y + (mo - 1) / 12) ((mo - 1) % 12 + 1) 1 - 1 + (d - 1)) * msPerDay +
      (((h * 60 + mi) * 60 + s) * 1000 + ms) ∧
    datetimeNewCore t.year t.month t.day t.hour t.minute t.second t.ms = some t := by
  rw [datetimeNewCore_is_ordinal_arithmetic] at hnew
  simp only [datetimeNewSpec] at hnew
  have hs := fromOrdinalMs_some hnew (Int.emod_nonneg _ (by decide)) (Int.emod_lt_of_pos _ (by decide))
  refine ⟨hs.1, ?_, ?_⟩
  · rw [hs.2]; simp only [msPerDay]; omega
  · obtain ⟨b0, b1, _⟩ := tod_of_fields hs.1.2.2.2.2.2.2
    have m1 := hs.1.2.2.1
    have m2 := hs.1.2.2.2.1
    have k1 : t.year + (t.month - 1) / 12 = t.year := by omega
    have k2 : (t.month - 1) % 12 + 1 = t.month := by omega
    have k3 : ymd2ord t.year t.month 1 + (t.day - 1) + 0 = ymd2ord t.year t.month t.day := by
      simp only [ymd2ord_eq]; omega
    rw [datetimeNewCore_is_ordinal_arithmetic]
    simp only [datetimeNewSpec, msPerDay, k1, k2, Int.ediv_eq_zero_of_lt b0 b1, Int.emod_eq_of_lt b0 b1, k3]
    exact fromOrdinalMs_of_valid hs.1

example : (⟨2025, 1, 29, 2, 2, 2, 1⟩ : DT).Valid ∧
    datetimeNewCore 2025 1 29 2 2 2 1 = some ⟨2025, 1, 29, 2, 2, 2, 1⟩ ∧
    toLocalMs ⟨2025, 1, 29, 2, 2, 2, 1⟩ = (ymd2ord 2025 2 1 - 1 + (-3 - 1)) * msPerDay + (((25 * 60 + 61) * 60 + 61) * 1000 + 1001) := by
  decide +kernel

/-- **C16 / arithmetic.** Adding an integral number `n` of milliseconds and then subtracting the original datetime
gives `n` (whenever the sum is a datetime at all, i.e. stays within years 1..9999; otherwise the sum is `null`). -/
theorem add_sub_ms {t t' : DT} {n : Int} (h : addMs t n = some t') : subMs t' t = n ∧ t'.Valid := by
  have := toLocalMs_ofLocalMs h
  exact ⟨by simp only [subMs, this.2]; omega, this.1⟩

example : addMs ⟨2024, 2, 29, 0, 0, 0, 0⟩ 1000000000000 = some ⟨2055, 11, 7, 1, 46, 40, 0⟩ ∧
    subMs ⟨2055, 11, 7, 1, 46, 40, 0⟩ ⟨2024, 2, 29, 0, 0, 0, 0⟩ = 1000000000000 ∧
    addMs ⟨2024, 3, 1, 0, 0, 0, 0⟩ (-1) = some ⟨2024, 2, 29, 23, 59, 59, 999⟩ ∧
    addMs ⟨9999, 12, 31, 23, 59, 59, 999⟩ 1 = none := by decide +kernel

/-- the sum is `null` exactly when it leaves years 1..9999 -/
theorem add_none_iff (t : DT) (n : Int) :
    addMs t n = none ↔ ¬ (1 ≤ (toLocalMs t + n) / msPerDay + 1 ∧ (toLocalMs t + n) / msPerDay + 1 ≤ maxOrdinal) := by
  simp only [addMs, ofLocalMs, fromOrdinalMs]
  split <;> simp_all

/-- adding zero is the identity; adding in two steps is adding the sum -/
theorem add_zero {t : DT} (hv : t.Valid) : addMs t 0 = some t := by
  simp only [addMs, Int.add_zero]; exact ofLocalMs_toLocalMs hv

theorem add_add {t t' : DT} {a b : Int} (h : addMs t a = some t') : addMs t' b = addMs t (a + b) := by
  have := toLocalMs_ofLocalMs h
  simp only [addMs, this.2, Int.add_assoc]

/-- **C16 / ISO round trip — PARTIAL.** Full statement of the property: "for every datetime `t` that exists in the process
time zone (whole-minute UTC offset), `datetimeISOParse(datetimeISOFormat(t)) = t` to the millisecond, whatever the zone".
Proved here: for ANY pair of offset functions `offL` (seconds east of UTC that `astimezone()` picks for a naive local time,
argument = local milliseconds) and `offU` (offset in force at a UTC instant), every well-formed `t` and every
sub-millisecond remainder `us` (what `datetimeNow()` adds; the text is cut to the millisecond),
`isoParse offU (isoFormatUs (offL t) t us) = some t`, under the explicit hypotheses
* `hmin`  the offset is a whole number of minutes (the property's carve-out; `iso_offset_seconds_lost` shows it is needed),
* `hlo/hhi`  |offset| < 24 h (true of every `tzinfo`; needed for the two-digit hour field),
* `hexists`  the local time exists: the instant `t − offL t` maps back to the same offset (`astimezone` round trip),
* `hutc`  that UTC instant lies in years 1..9999 (fails only within a day of the ends of the range).
What is missing for the unqualified statement: `astimezone()` over the OS zone database is not modelled — that
`offL`/`offU` are what CPython computes is an assumption, sampled per zone by the `dt-iso` stream. -/
theorem iso_roundtrip_partial (offL offU : Int → Int) (t : DT) (us : Int) (hv : t.Valid)
    (hmin : offL (toLocalMs t) % 60 = 0)
    (hlo : -86400 < offL (toLocalMs t)) (hhi : offL (toLocalMs t) < 86400)
    (hexists : offU (toLocalMs t - offL (toLocalMs t) * 1000) = offL (toLocalMs t))
    (hutc : (ofLocalMs (toLocalMs t - offL (toLocalMs t) * 1000)).isSome = true) :
    isoParse offU (isoFormatUs (offL (toLocalMs t)) t us) = some t := by
  rw [C16Text.isoFormatUs_eq _ t us hv.2.2.2.2.2.2.2.2.2.2.2.2.1 hmin, C16Text.isoParse_factors, IsoText.parseDateChars,
    C16Text.scanDate_formatChars, C16Text.isoText_roundtrip_chars _ _ (C16Text.fieldsOf_valid hv hmin hlo hhi)]
  exact C16Text.toZone_roundtrip offU t hv hmin hexists hutc

/-- the instance for values made inside BareScript (no sub-millisecond part): `isoFormat` itself -/
theorem iso_roundtrip_format_partial (offL offU : Int → Int) (t : DT) (hv : t.Valid)
    (hmin : offL (toLocalMs t) % 60 = 0)
    (hlo : -86400 < offL (toLocalMs t)) (hhi : offL (toLocalMs t) < 86400)
    (hexists : offU (toLocalMs t - offL (toLocalMs t) * 1000) = offL (toLocalMs t))
    (hutc : (ofLocalMs (toLocalMs t - offL (toLocalMs t) * 1000)).isSome = true) :
    isoParse offU (isoFormat offL t) = some t :=
  iso_roundtrip_partial offL offU t 0 hv hmin hlo hhi hexists hutc

/-- non-vacuity of `iso_roundtrip_partial`: Kathmandu (+05:45) with milliseconds, New York standard time without -/
example : isoFormatWith 20700 ⟨2024, 2, 29, 1, 2, 3, 45⟩ = "2024-02-29T01:02:03.045+05:45".toList ∧
    isoParse (fun _ => 20700) "2024-02-29T01:02:03.045+05:45".toList = some ⟨2024, 2, 29, 1, 2, 3, 45⟩ ∧
    isoFormatWith (-18000) ⟨124, 12, 31, 23, 59, 59, 0⟩ = "0124-12-31T23:59:59-05:00".toList ∧
    isoParse (fun _ => -18000) "0124-12-31T23:59:59-05:00".toList = some ⟨124, 12, 31, 23, 59, 59, 0⟩ ∧
    isoParse (fun _ => 20700) "2024-01-01T00:00:00.999999Z".toList = some ⟨2024, 1, 1, 5, 45, 0, 999⟩ ∧
    isoFormatUs 0 ⟨2024, 3, 10, 2, 30, 0, 0⟩ 1 = "2024-03-10T02:30:00.000+00:00".toList := by decide_lit

/-- the whole-minute hypothesis cannot be dropped: under New York local mean time (−4:56:02) the seconds of the offset are
not printed, and the text parses to a datetime two seconds earlier -/
theorem iso_offset_seconds_lost :
    isoFormatWith (-17762) ⟨1850, 1, 1, 0, 0, 0, 0⟩ = "1850-01-01T00:00:00-04:56".toList ∧
    isoParse (fun _ => -17762) (isoFormatWith (-17762) ⟨1850, 1, 1, 0, 0, 0, 0⟩) = some ⟨1849, 12, 31, 23, 59, 58, 0⟩ := by
  decide_lit

/-- an ASCII decimal digit -/
def IsDigit (c : Char) : Prop := 48 ≤ c.toNat ∧ c.toNat ≤ 57

/-- `^\d{4}-\d{2}-\d{2}\Z` (ASCII) -/
def DateShape (cs : List Char) : Prop :=
  ∃ y1 y2 y3 y4 m1 m2 d1 d2, cs = [y1, y2, y3, y4, '-', m1, m2, '-', d1, d2] ∧
    IsDigit y1 ∧ IsDigit y2 ∧ IsDigit y3 ∧ IsDigit y4 ∧ IsDigit m1 ∧ IsDigit m2 ∧ IsDigit d1 ∧ IsDigit d2

/-- `(?:Z|[+-]\d{2}:\d{2})` -/
def ZoneShape (z : List Char) : Prop :=
  z = ['Z'] ∨ ∃ sg h1 h2 m1 m2, z = [sg, h1, h2, ':', m1, m2] ∧ (sg = '+' ∨ sg = '-') ∧
    IsDigit h1 ∧ IsDigit h2 ∧ IsDigit m1 ∧ IsDigit m2

/-- `(?:\.\d{1,6})?` -/
def FracShape (f : List Char) : Prop :=
  f = [] ∨ ∃ ds, f = '.' :: ds ∧ 1 ≤ ds.length ∧ ds.length ≤ 6 ∧ ∀ c ∈ ds, IsDigit c

/-- `^\d{4}-\d{2}-\d{2}T\d{2}:\d{2}:\d{2}(?:\.\d{1,6})?(?:Z|[+-]\d{2}:\d{2})\Z` (ASCII) -/
def DateTimeShape (cs : List Char) : Prop :=
  ∃ y1 y2 y3 y4 m1 m2 d1 d2 h1 h2 i1 i2 s1 s2 f z,
    cs = y1 :: y2 :: y3 :: y4 :: '-' :: m1 :: m2 :: '-' :: d1 :: d2 :: 'T' :: h1 :: h2 :: ':' :: i1 :: i2 :: ':' :: s1 :: s2 :: (f ++ z) ∧
    IsDigit y1 ∧ IsDigit y2 ∧ IsDigit y3 ∧ IsDigit y4 ∧ IsDigit m1 ∧ IsDigit m2 ∧ IsDigit d1 ∧ IsDigit d2 ∧
    IsDigit h1 ∧ IsDigit h2 ∧ IsDigit i1 ∧ IsDigit i2 ∧ IsDigit s1 ∧ IsDigit s2 ∧ FracShape f ∧ ZoneShape z

/-! The shapes above are what this file states for the mirror; the text layer (`C16Text`) proves the sharper ones
(offset minutes `[0-5]\d`), of which these are consequences. -/

theorem isDigit_of_dig {c : Char} (h : C16Text.Dig c) : IsDigit c := C16Text.dig_iff.1 h

theorem dateShape_of_text {cs : List Char} : C16Text.DateShape cs → DateShape cs := by
  simp only [C16Text.DateShape, DateShape, C16Text.dig_iff, IsDigit]; exact id

theorem fracShape_of_text {f : List Char} : C16Text.FracShape f → FracShape f := by
  simp only [C16Text.FracShape, FracShape, C16Text.dig_iff, IsDigit]; exact id

theorem zoneShape_of_text {z : List Char} (h : C16Text.ZoneShape z) : ZoneShape z :=
  h.imp id fun ⟨sg, h1, h2, m1, m2, e, hs, a1, a2, b1, b2⟩ =>
    ⟨sg, h1, h2, m1, m2, e, hs, isDigit_of_dig a1, isDigit_of_dig a2, isDigit_of_dig (C16Text.cls05_dig b1), isDigit_of_dig b2⟩

theorem dateTimeShape_of_text {cs : List Char} (h : C16Text.DateTimeShape cs) : DateTimeShape cs := by
  obtain ⟨y1, y2, y3, y4, m1, m2, d1, d2, h1, h2, i1, i2, s1, s2, f, z, e, a1, a2, a3, a4, b1, b2, c1, c2, g1, g2, j1, j2, k1, k2,
    hf, hz⟩ := h
  exact ⟨y1, y2, y3, y4, m1, m2, d1, d2, h1, h2, i1, i2, s1, s2, f, z, e, isDigit_of_dig a1, isDigit_of_dig a2, isDigit_of_dig a3,
    isDigit_of_dig a4, isDigit_of_dig b1, isDigit_of_dig b2, isDigit_of_dig c1, isDigit_of_dig c2, isDigit_of_dig g1,
    isDigit_of_dig g2, isDigit_of_dig j1, isDigit_of_dig j2, isDigit_of_dig k1, isDigit_of_dig k2, fracShape_of_text hf,
    zoneShape_of_text hz⟩

theorem scanDateTime_some {cs : List Char} {f : IsoFields} (h : scanDateTime cs = some f) :
    DateTimeShape cs ∧ -86400 < f.off ∧ f.off < 86400 ∧ f.off % 60 = 0 := by
  rw [C16Text.scanDateTime_eq] at h
  obtain ⟨r, hr, hf⟩ := Option.bind_eq_some_iff.1 h
  refine ⟨dateTimeShape_of_text (C16Text.scanRaw_shape hr), ?_⟩
  unfold C16Text.rawIso at hf
  split at hf
  · cases hf; show -86400 < r.off * 60 ∧ r.off * 60 < 86400 ∧ r.off * 60 % 60 = 0; omega
  · cases hf

/-- **C16 / rejection (fields).** What `datetimeISOParse` accepts has valid calendar fields: year 1..9999, month 1..12, day
within the month (so `2024-02-30` and `2024-13-01T00:00:00Z` are null), hour ≤ 23, minute ≤ 59, second ≤ 59, offset `hh ≤ 23`, `mm ≤ 59`;
the result is a well-formed datetime. -/
theorem iso_reject_fields (offU : Int → Int) (cs : List Char) (t : DT) (h : isoParse offU cs = some t) :
    t.Valid ∧
    ((∃ y mo d : Nat, scanDate cs = some (y, mo, d) ∧ t = ⟨y, mo, d, 0, 0, 0, 0⟩) ∨
     (∃ f, scanDate cs = none ∧ scanDateTime cs = some f ∧
        DT.Valid ⟨f.year, f.month, f.day, f.hour, f.minute, f.second, (f.us / 1000 : Nat)⟩ ∧
        -86400 < f.off ∧ f.off < 86400 ∧ f.off % 60 = 0)) := by
  unfold isoParse at h
  split at h
  · rename_i y mo d hd
    have := mkDT_some h
    exact ⟨this.2, Or.inl ⟨y, mo, d, hd, this.1⟩⟩
  · rename_i hnone
    split at h
    · simp at h
    · rename_i f hf
      split at h
      · simp at h
      · rename_i t0 hk
        simp only [] at h
        split at h
        · simp at h
        · have hv := (toLocalMs_ofLocalMs h).1
          have h0 := mkDT_some hk
          refine ⟨hv, Or.inr ⟨f, hnone, hf, ?_, (scanDateTime_some hf).2⟩⟩
          have := h0.2; rw [h0.1] at this; exact this

/-- **C16 / rejection (shape).** Text on which `datetimeISOParse` does not return null has exactly one of the two
anchored shapes over ASCII digits — nothing before, nothing after (no trailing newline), `T` and `Z` in upper case,
1 to 6 fraction digits. Contrapositive: everything else parses to null. -/
theorem iso_reject (offU : Int → Int) (cs : List Char) (t : DT) (h : isoParse offU cs = some t) :
    DateShape cs ∨ DateTimeShape cs := by
  obtain ⟨-, ⟨y, mo, d, hd, -⟩ | ⟨f, -, hf, -⟩⟩ := iso_reject_fields offU cs t h
  · exact Or.inl (dateShape_of_text (C16Text.scanDate_shape hd))
  · exact Or.inr (scanDateTime_some hf).1

/-- non-vacuity: both shapes are inhabited, and the regression inputs of findings F10/F20 are rejected -/
example : isoParse (fun _ => 0) "2024-02-29".toList = some ⟨2024, 2, 29, 0, 0, 0, 0⟩ ∧
    isoParse (fun _ => 0) "2024-02-30".toList = none ∧
    isoParse (fun _ => 0) "2024-13-01T00:00:00Z".toList = none ∧
    isoParse (fun _ => 0) "2024-01-01\n".toList = none ∧
    isoParse (fun _ => 0) "2024-01-01T00:00:00+00:60".toList = none ∧
    isoParse (fun _ => 0) "2024-01-01T00:00:00.1234567Z".toList = none ∧
    isoParse (fun _ => 0) "2024-01-01t00:00:00Z".toList = none ∧
    isoParse (fun _ => 0) "2024-01-01T24:00:00Z".toList = none ∧
    isoParse (fun _ => 0) "0001-01-01T00:00:00+00:01".toList = none := by decide_lit

end C16

open IsoText
namespace C16Text

/-- **C16Text / ISO round trip on strings — PARTIAL** (same missing piece as `C16.iso_roundtrip_partial`: `astimezone()`
over the OS zone database is abstracted as the two offset functions; the hypotheses are the property's carve-outs).
`datetimeISOParse(datetimeISOFormat(t)) = t` on actual `String`s: `String.ofList` / `toList` around
`C16.iso_roundtrip_format_partial`, which goes through the text layer. -/
theorem iso_text_roundtrip_partial (offL offU : Int → Int) (t : DT) (hv : t.Valid)
    (hmin : offL (toLocalMs t) % 60 = 0)
    (hlo : -86400 < offL (toLocalMs t)) (hhi : offL (toLocalMs t) < 86400)
    (hexists : offU (toLocalMs t - offL (toLocalMs t) * 1000) = offL (toLocalMs t))
    (hutc : (ofLocalMs (toLocalMs t - offL (toLocalMs t) * 1000)).isSome = true) :
    isoParseText offU (isoFormatText offL t) = some t := by
  rw [isoParseText, isoFormatText, String.toList_ofList]
  exact C16.iso_roundtrip_format_partial offL offU t hv hmin hlo hhi hexists hutc

/-- **C16Text / text to text — PARTIAL** (zone abstracted, as above). The text `datetimeISOFormat` prints is a fixed point:
parsing it and printing the result gives the same string, character for character. -/
theorem iso_text_to_text_partial (offL offU : Int → Int) (t : DT) (hv : t.Valid)
    (hmin : offL (toLocalMs t) % 60 = 0)
    (hlo : -86400 < offL (toLocalMs t)) (hhi : offL (toLocalMs t) < 86400)
    (hexists : offU (toLocalMs t - offL (toLocalMs t) * 1000) = offL (toLocalMs t))
    (hutc : (ofLocalMs (toLocalMs t - offL (toLocalMs t) * 1000)).isSome = true) :
    (isoParseText offU (isoFormatText offL t)).map (isoFormatText offL) = some (isoFormatText offL t) := by
  rw [iso_text_roundtrip_partial offL offU t hv hmin hlo hhi hexists hutc]; rfl

/-- **C16Text / parse ∘ format ∘ parse = parse — PARTIAL** (zone abstracted). Starting from ANY accepted text `s` (written
with `Z`, another offset, six fraction digits, or the date-only form): what it parses to is a well-formed datetime, and if
that datetime exists in the zone (the carve-outs, now about the parsed value), printing and re-parsing returns it unchanged —
`datetimeISOFormat` canonicalises the text without moving the instant. -/
theorem iso_text_canonicalises_partial (offL offU : Int → Int) (s : String) (t : DT)
    (h : isoParseText offU s = some t)
    (hmin : offL (toLocalMs t) % 60 = 0)
    (hlo : -86400 < offL (toLocalMs t)) (hhi : offL (toLocalMs t) < 86400)
    (hexists : offU (toLocalMs t - offL (toLocalMs t) * 1000) = offL (toLocalMs t))
    (hutc : (ofLocalMs (toLocalMs t - offL (toLocalMs t) * 1000)).isSome = true) :
    t.Valid ∧ isoParseText offU (isoFormatText offL t) = some t := by
  have hv := (C16.iso_reject_fields offU s.toList t h).1
  exact ⟨hv, iso_text_roundtrip_partial offL offU t hv hmin hlo hhi hexists hutc⟩

/-- non-vacuity (Kathmandu, +05:45, constant): a `Z` text with six fraction digits parses to local time, is printed
canonically, and that text is a fixed point -/
example : isoParseText (fun _ => 20700) "2024-02-28T19:17:03.045999Z" = some ⟨2024, 2, 29, 1, 2, 3, 45⟩ ∧
    isoFormatText (fun _ => 20700) ⟨2024, 2, 29, 1, 2, 3, 45⟩ = "2024-02-29T01:02:03.045+05:45" ∧
    isoParseText (fun _ => 20700) "2024-02-29T01:02:03.045+05:45" = some ⟨2024, 2, 29, 1, 2, 3, 45⟩ ∧
    (⟨2024, 2, 29, 1, 2, 3, 45⟩ : DT).Valid ∧ (20700 : Int) % 60 = 0 ∧
    (ofLocalMs (toLocalMs ⟨2024, 2, 29, 1, 2, 3, 45⟩ - 20700 * 1000)).isSome = true ∧
    toZone (fun _ => 20700) ⟨2024, 2, 28, 19, 17, 3, 45, 0⟩ = some ⟨2024, 2, 29, 1, 2, 3, 45⟩ ∧
    isoFormatUs 20700 ⟨2024, 2, 29, 1, 2, 3, 45⟩ 0 = formatChars ⟨2024, 2, 29, 1, 2, 3, 45, 345⟩ 0 := by
  simp only [isoParseText, isoFormatText]
  rw [String.ofList_inj]
  decide_lit

end C16Text
