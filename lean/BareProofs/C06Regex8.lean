import BareProofs.C06Regex7
import BareProofs.C06Regex8Lemmas

/-!
# C06Regex8 — the string and bracketed-name tokens; `parse_script` regex driven down to every token but the number literal
-/

namespace C06Regex
open Rx Text RxPatterns

/-! ## strings -/

/-- `_R_EXPR_STRING(_DOUBLE).match(text)`: `group(1)` through `_R_EXPR_STRING(_DOUBLE)_ESCAPE.sub('\\1', …)`, rest of the text -/
def rxScanStringQ (e : Bool) (q : Char) (t : Chars) : Option (Chars × Chars) :=
  (matchAt (exprStringQ q) t).bind fun st => (st.group t 1).map fun g => (sub1 (escQ e q) g, st.rest)

/-- **`^\s*q((?:\\\\|\\q|[^q])*)q`** for a quote `q` (not a backslash, not a blank): `ExprScan.scanString q` = the first backtracking
match (an escaped pair is taken iff a closing quote is still ahead: `strBody`), the group through the escape substitution.
The pattern is exponential on unterminated strings with backslash runs (finding F27); the theorem is about results, not cost. -/
theorem string_regex_q (e : Bool) (q : Char) (hq : ¬ q = '\\') (hs : isSpace q = false) (t : Chars) :
    ExprScan.scanString q t = rxScanStringQ e q t := by
  have hfold : exprStringQ q = Rx.bol ⬝ ws ⬝ lit q ⬝ Rx.cap 1 none (.star (strB q)) ⬝ lit q := rfl
  unfold ExprScan.scanString rxScanStringQ matchAt matchFrom
  rw [hfold, skipWs_eq, lead _ _ _ (by unfold lit; exact (avoids_lit false hs).seq _ some)]
  unfold lit
  rw [seq_m, one_m', step_lit]
  cases hl : lstripL t with
  | nil => rfl
  | cons c r =>
    by_cases hc : c = q
    · subst hc
      simp only [if_true]
      rw [seq_m, cap_m, star_m]
      have := str_loop c hq ((t.takeWhile isSpace).length + 1) r.length ((t.takeWhile isSpace).length + 1) r [] (Nat.le_refl _)
      unfold strK lit at this
      simp only [] at this ⊢
      rw [this]
      cases hb : ExprScan.strBody c r with
      | none => rfl
      | some v =>
        obtain ⟨raw, rest⟩ := v
        have hsp := strBody_spec c hq r raw rest hb
        have hd : t.drop ((t.takeWhile isSpace).length + 1) = r := by
          rw [← List.drop_drop, drop_ind, hl]; rfl
        have hg := slice_prefix t ((t.takeWhile isSpace).length + 1) _ raw (c :: rest) (by rw [hd, hsp]) rfl
        simp [St.group, St.span, List.lookup, hg, sub1_escQ]
    · simp [hc]

def rxScanString (t : Chars) : Option (Chars × Chars) := rxScanStringQ true '\'' t
def rxScanStringDouble (t : Chars) : Option (Chars × Chars) := rxScanStringQ false '"' t

/-- **`_R_EXPR_STRING`** `^\s*'((?:\\\\|\\'|[^'])*)'` with `_R_EXPR_STRING_ESCAPE` -/
theorem string_regex (t : Chars) : ExprScan.scanString '\'' t = rxScanString t :=
  string_regex_q true '\'' (by decide) (by decide) t

/-- **`_R_EXPR_STRING_DOUBLE`** `^\s*"((?:\\\\|\\"|[^"])*)"` with `_R_EXPR_STRING_DOUBLE_ESCAPE` -/
theorem stringDouble_regex (t : Chars) : ExprScan.scanString '"' t = rxScanStringDouble t :=
  string_regex_q false '"' (by decide) (by decide) t

/-- the patterns behind the two readers are the pinned ones -/
theorem string_patterns : exprString = exprStringQ '\'' ∧ exprStringDouble = exprStringQ '"' ∧
    exprStringEscape = escQ true '\'' ∧ exprStringDoubleEscape = escQ false '"' ∧ exprVariableExEscape = escQ true ']' :=
  ⟨rfl, rfl, rfl, rfl, rfl⟩

/-! ## bracketed names -/

/-- `_R_EXPR_VARIABLE_EX.match(text)`: `group(1)` through `_R_EXPR_VARIABLE_EX_ESCAPE.sub('\\1', …)`, rest of the text -/
def rxScanVariableEx (t : Chars) : Option (Chars × Chars) :=
  (matchAt exprVariableEx t).bind fun st => (st.group t 1).map fun g => (sub1 (escQ true ']') g, st.rest)

/-- **`_R_EXPR_VARIABLE_EX`** `^\s*\[\s*((?:\\\]|[^\]])+)\s*\]` with `_R_EXPR_VARIABLE_EX_ESCAPE`: the group runs to the first `]`
that is not taken as an escaped pair (`bracketBody`); `[   ]` names the variable `" "` (the `\s*` gives its last blank back). -/
theorem variableEx_regex (t : Chars) : ExprScan.scanVariableEx t = rxScanVariableEx t := by
  have hfold : exprVariableEx = Rx.bol ⬝ ws ⬝ elit '[' ⬝ ws ⬝ Rx.cap 1 none (.plus brC) ⬝ ws ⬝ elit ']' := rfl
  unfold ExprScan.scanVariableEx rxScanVariableEx matchAt matchFrom
  rw [hfold, skipWs_eq, isPySpace_eq, lead _ _ _ (by unfold elit; exact (avoids_lit true (by decide)).seq _ some), seq_m]
  unfold elit
  rw [one_m', step_lit]
  cases hl : lstripL t with
  | nil => rfl
  | cons c r =>
    by_cases hc : c = '['
    · subst hc
      simp only [if_true]
      have hd : t.drop ((t.takeWhile isSpace).length + 1) = r := by
        rw [← List.drop_drop, drop_ind, hl]; rfl
      have hbo := br_outer ((t.takeWhile isSpace).length + 1) r
      unfold elit at hbo
      rw [hbo]
      have hsplit := List.takeWhile_append_dropWhile (p := isSpace) (l := r)
      cases hrf : r.dropWhile isSpace with
      | nil => rfl
      | cons d r2 =>
        simp only []
        by_cases hdd : d = ']'
        · subst hdd
          simp only [if_true]
          cases hw : (r.takeWhile isSpace).getLast? with
          | none => rfl
          | some w =>
            obtain ⟨m, hm⟩ : ∃ m, (r.takeWhile isSpace).length = m + 1 := by
              cases h : r.takeWhile isSpace with
              | nil => rw [h] at hw; cases hw
              | cons _ l => exact ⟨l.length, rfl⟩
            have hdl := drop_last _ w hw
            rw [hm, Nat.add_sub_cancel] at hdl
            have hdrop : r.drop m = [w] ++ (']' :: r2) := by
              conv => lhs; arg 2; rw [← hsplit]
              rw [List.drop_append_of_le_length (by omega), hdl, hrf]
            have hg := slice_prefix t ((t.takeWhile isSpace).length + 1 + m) 1 [w] (']' :: r2)
              (by rw [← List.drop_drop, hd, hdrop]) rfl
            rw [Nat.add_assoc _ m 1] at hg
            simp only [hm]
            simp [St.group, St.span, List.lookup, hg, sub1_escQ, C02.unescape_single ']' w]
        · simp only [hdd, if_false]
          cases hb : ExprScan.bracketBody (d :: r2) with
          | none => rfl
          | some v =>
            obtain ⟨raw, rest⟩ := v
            have hsp := bracketBody_spec _ raw rest hb
            have hg := slice_prefix t ((t.takeWhile isSpace).length + 1 + (r.takeWhile isSpace).length) _ raw (']' :: rest)
              (by rw [← List.drop_drop, hd, drop_length_takeWhile, hrf, hsp]) rfl
            simp [brVal, St.group, St.span, List.lookup, hg, sub1_escQ]
    · simp [hc]

/-! ## the capstones, with every token but the number literal by the engine -/

/-- the string reader for both quote characters `parseAtom` uses (any other quote character is never asked for) -/
def rxStr (q : Char) (t : Chars) : Option (Chars × Chars) :=
  if q = '\'' then rxScanString t else if q = '"' then rxScanStringDouble t else ExprScan.scanString q t

theorem scanString_eq_rxStr : ExprScan.scanString = rxStr := by
  funext q t
  unfold rxStr
  by_cases h1 : q = '\''
  · subst h1; simp only [if_true]; exact string_regex t
  · by_cases h2 : q = '"'
    · subst h2; simp only [h1, if_false, if_true]; exact stringDouble_regex t
    · simp only [h1, h2, if_false]

/-- the token scanners by the engine on the pinned `_R_EXPR_*` ASTs: everything except `_R_EXPR_NUMBER` -/
def rxS2 : Scanners :=
  ⟨rxScanBinOp, rxScanUnaryOp, rxScanGroupOpen, rxScanClose, rxScanComma, rxScanFuncOpen,
   ExprScan.scanNumber, rxStr, rxScanVariable, rxScanVariableEx⟩

theorem exS_eq_rxS2 : exS = rxS2 := by
  rw [exS_eq_rxS]
  unfold rxS rxS2
  rw [scanString_eq_rxStr, show ExprScan.scanVariableEx = rxScanVariableEx from funext variableEx_regex]

/-- `parse_expression` with every token scanner except the number literal replaced by the engine -/
def rxParseExpr2 (s : String) : Except ParseErr Expr := parseExprLW rxS2 s.toList

/-- `ExprParse.parseExpr` = the same parser with the operator, parenthesis, comma, function-open, variable, bracketed-variable and
both string token scanners (with their escape substitutions) computed by the backtracking engine on the pinned ASTs — ALL texts.

`scanNumber` follows in `C06Regex9` (`parseExpr_is_regex_driven`). -/
theorem parseExpr_is_regex_driven_partial2 (s : String) : ExprParse.parseExpr s = rxParseExpr2 s := by
  unfold ExprParse.parseExpr rxParseExpr2
  rw [← parseExprLW_ex, exS_eq_rxS2]

/-- **`parse_script` is regex driven down to every token except the number literal**: all inputs, no side condition. -/
theorem parseScript_fully_regex_driven_partial2 (chunks : List String) (start : Nat) :
    Parser.parseScript chunks start = rxParseScriptWith rxParseExpr2 chunks start := by
  rw [parseScript_is_regex_driven, ← show ExprParse.parseExpr = rxParseExpr2 from funext parseExpr_is_regex_driven_partial2]
  rfl

example : rxScanString " 'it\\'s\\\\' + 1".toList = some ("it's\\".toList, " + 1".toList) := by decide_lit
example : rxScanStringDouble "\"a\\\"b\" x".toList = some ("a\"b".toList, " x".toList) := by decide_lit
example : rxScanVariableEx "[   ]".toList = some ([' '], []) ∧ rxScanVariableEx "[ a\\]b ] c".toList = some ("a]b ".toList, " c".toList) ∧
    rxScanVariableEx "[a\\]".toList = some ("a\\".toList, []) := by decide_lit

end C06Regex
