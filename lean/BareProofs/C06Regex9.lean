import BareProofs.C06Regex8
import BareProofs.C06Regex9Lemmas

/-!
# C06Regex9 — the number literal `_R_EXPR_NUMBER`, and the capstones without suffix

`float(match.group(1))`: the engine-side reading `readNumber` re-scans exactly the captured text into sign, integer digits,
fraction digits and exponent and applies `ExprScan.decVal` (the exact rational `float()` then rounds).  That `float(text)` is this
value for every text of the grammar `[+-]?\d+(?:\.\d*)?(?:e[+-]\d+)?` with Unicode decimal digits is C13's
`floatText_text_uni` / `scanNumber_eq_literal` (`BareProofs/C13Bridge*.lean`), not re-proved here.
-/

namespace C06Regex
open Rx Text RxPatterns

/-- `float(group(1))` as the exact rational of the re-scanned captured text -/
def readNumber (g : Chars) : Rat :=
  let sg := ExprScan.scanSign g
  let c := numCore sg.2
  ExprScan.decVal sg.1 c.1 c.2.1 c.2.2

/-- `_R_EXPR_NUMBER.match(text)`: `float(group(1))`, rest of the text -/
def rxScanNumber (t : Chars) : Option (Rat × Chars) :=
  (matchAt exprNumber t).bind fun st => (st.group t 1).map fun g => (readNumber g, st.rest)

theorem scanNumber_eq (t : Chars) :
    ExprScan.scanNumber t =
      if ((ExprScan.scanSign (lstripL t)).2.takeWhile ExprScan.isDigit).isEmpty then none
      else some (ExprScan.decVal (ExprScan.scanSign (lstripL t)).1 (numCore (ExprScan.scanSign (lstripL t)).2).1
        (numCore (ExprScan.scanSign (lstripL t)).2).2.1 (numCore (ExprScan.scanSign (lstripL t)).2).2.2,
        numTail (ExprScan.scanSign (lstripL t)).2) := by
  unfold ExprScan.scanNumber
  rw [skipWs_eq]
  rfl

/-- the bridge's `numCore` in the vocabulary of this file -/
theorem numCore_eq (s : Chars) :
    C13Bridge.numCore s =
      if ((ExprScan.scanSign s).2.takeWhile ExprScan.isDigit).isEmpty then none
      else some (readNumber s, numTail (ExprScan.scanSign s).2) := rfl

/-- the value read back from the captured text is the scanner's value: the captured text is the text of the token scanned
(`scanTok_sound`), and the text of a token scans to it (`scanTok_text`) -/
theorem readNumber_take (s : Chars) (hne : ((ExprScan.scanSign s).2.takeWhile ExprScan.isDigit).isEmpty = false) :
    readNumber (s.take (s.length - (numTail (ExprScan.scanSign s).2).length)) =
      ExprScan.decVal (ExprScan.scanSign s).1 (numCore (ExprScan.scanSign s).2).1 (numCore (ExprScan.scanSign s).2).2.1
        (numCore (ExprScan.scanSign s).2).2.2 := by
  show _ = readNumber s
  have h := numCore_eq s
  rw [hne, C13Bridge.numCore_eq_scanTok] at h
  obtain ⟨⟨t, r⟩, hs, he⟩ := Option.map_eq_some_iff.1 h
  obtain ⟨hv, hr⟩ := Prod.mk.inj he
  obtain ⟨htext, hwf⟩ := C13.scanTok_sound hs
  simp only at hv hr
  have htake : s.take (s.length - (numTail (ExprScan.scanSign s).2).length) = t.text := by
    rw [← hr, htext]; simp
  have h2 := numCore_eq t.text
  rw [C13Bridge.numCore_eq_scanTok, C13.scanTok_text hwf] at h2
  rw [htake, ← hv]
  split at h2
  · cases h2
  · exact ((Prod.mk.inj (Option.some.inj h2)).1).symm

/-- **`_R_EXPR_NUMBER`** `^\s*([+-]?\d+(?:\.\d*)?(?:e[+-]\d+)?)`: every optional piece is greedy in front of a rest that accepts
anything, so the engine never backs off; the value is read back from the captured text (`readNumber`). -/
theorem number_regex (t : Chars) : ExprScan.scanNumber t = rxScanNumber t := by
  have hk : ∀ p, Total (fun st' : St => some (⟨st'.pos, st'.rest, (1, p, st'.pos) :: st'.caps⟩ : St)) := fun _ _ => rfl
  rw [scanNumber_eq]
  unfold rxScanNumber matchAt matchFrom exprNumber
  rw [lead]
  · rw [cap_m, numBody_total _ _ (hk _)]
    simp only []
    by_cases he : ((ExprScan.scanSign (lstripL t)).2.takeWhile ExprScan.isDigit).isEmpty = true
    · simp [he]
    · have he' : ((ExprScan.scanSign (lstripL t)).2.takeWhile ExprScan.isDigit).isEmpty = false := by simpa using he
      simp only [he', Bool.false_eq_true, if_false, Option.bind_some, St.group, St.span, List.lookup, beq_self_eq_true,
        Option.map_some]
      have hg : slice t ((t.takeWhile isSpace).length,
          (t.takeWhile isSpace).length + ((lstripL t).length - (numTail (ExprScan.scanSign (lstripL t)).2).length)) =
          (lstripL t).take ((lstripL t).length - (numTail (ExprScan.scanSign (lstripL t)).2).length) := by
        simp [slice, drop_ind]
      rw [hg, readNumber_take _ he']
  · intro st ⟨x, r, hr, hx⟩
    show (Rx.cap 1 none _).m st some = none
    rw [cap_m, numBody_total _ _ (hk _), hr, scanSign_cons]
    have h1 : ¬ x = '+' := fun e => by rw [e] at hx; exact absurd hx (by decide)
    have h2 : ¬ x = '-' := fun e => by rw [e] at hx; exact absurd hx (by decide)
    have hd : ExprScan.isDigit x = false := space_not_digit hx
    simp [h1, h2, hd]

/-! ## the capstones -/

/-- EVERY token scanner of `parse_expression` by the engine on the pinned `_R_EXPR_*` ASTs -/
def rxS3 : Scanners :=
  ⟨rxScanBinOp, rxScanUnaryOp, rxScanGroupOpen, rxScanClose, rxScanComma, rxScanFuncOpen,
   rxScanNumber, rxStr, rxScanVariable, rxScanVariableEx⟩

theorem exS_eq_rxS3 : exS = rxS3 := by
  rw [exS_eq_rxS2]
  unfold rxS2 rxS3
  rw [show ExprScan.scanNumber = rxScanNumber from funext number_regex]

/-- `parse_expression` with every token scanner replaced by the engine -/
def rxParseExprFull (s : String) : Except ParseErr Expr := parseExprLW rxS3 s.toList

/-- **`parse_expression` is regex driven**: `ExprParse.parseExpr` = the same recursive-descent parser with EVERY token scanner
(number, both strings with their escape substitutions, variable, bracketed variable with its escape, function open, binary and
unary operators, group open / close, argument comma / close) computed by the backtracking engine `Rx.m` on the ASTs pinned to
parser.py's `_R_EXPR_*` sources — for ALL texts, no side condition. -/
theorem parseExpr_is_regex_driven (s : String) : ExprParse.parseExpr s = rxParseExprFull s := by
  unfold ExprParse.parseExpr rxParseExprFull
  rw [← parseExprLW_ex, exS_eq_rxS3]

/-- **`parse_script` is fully regex driven**: for every chunk list and start line, the model of `parse_script` equals the pipeline
in which the line splitter, the comment and continuation tests, the whole statement cascade AND every expression token are the
engine on the ASTs pinned to parser.py's pattern sources.  No side condition. -/
theorem parseScript_fully_regex_driven (chunks : List String) (start : Nat) :
    Parser.parseScript chunks start = rxParseScriptWith rxParseExprFull chunks start := by
  rw [parseScript_is_regex_driven, ← show ExprParse.parseExpr = rxParseExprFull from funext parseExpr_is_regex_driven]
  rfl

example : rxScanNumber "  -12.5e+3x".toList = some (-12500, ['x']) ∧ rxScanNumber "1e+".toList = some (1, "e+".toList) ∧
    rxScanNumber "+.5".toList = none := by decide_lit

end C06Regex
