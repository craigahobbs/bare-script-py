import BareProofs.C19Lemmas
import BareProofs.C13Lemmas

/-!
C19, dataJoin: the field-name maps, the unique-name search (fuel suffices), `joinRow` keeps the left row as a prefix, and the
bucketed loop is the relational join.
-/

namespace C19
open Compare Data

/-- `if name not in names: names[name] = …` -/
theorem mem_addName (n x : String) (acc : List String) :
    n ∈ (if acc.contains x = true then acc else acc ++ [x]) ↔ n ∈ acc ∨ n = x := by
  split
  · rename_i h
    exact ⟨.inl, fun h' => h'.elim id (· ▸ by simpa using h)⟩
  · simp

theorem mem_foldl_addName (n : String) : ∀ (row : Row) (acc : List String),
    n ∈ row.foldl (fun acc p => if acc.contains p.1 then acc else acc ++ [p.1]) acc ↔ n ∈ acc ∨ n ∈ row.map (·.1)
  | [], acc => by simp
  | p :: row, acc => by
    rw [List.foldl_cons, mem_foldl_addName n row, mem_addName, List.map_cons, List.mem_cons, or_assoc]

theorem mem_fieldNames (n : String) (data : Table) : n ∈ fieldNames data ↔ ∃ row ∈ data, n ∈ row.map (·.1) := by
  rw [fieldNames, ← List.foldl_flatten, mem_foldl_addName]
  simp only [List.not_mem_nil, false_or, List.mem_map, List.mem_flatten]
  exact ⟨fun ⟨p, ⟨row, hr, hp⟩, e⟩ => ⟨row, hr, p, hp, e⟩, fun ⟨row, hr, p, hp, e⟩ => ⟨p, ⟨row, hr, hp⟩, e⟩⟩

theorem numStr_injective (a b : Nat) (h : numStr a = numStr b) : a = b := by
  have h' : NumText.natStr a = NumText.natStr b := by
    have := congrArg String.toList h
    simpa [numStr, String.toList_ofList] using this
  have := congrArg NumText.natOf h'
  simpa [C13.natOf_natStr] using this

theorem candidate_injective (name : String) (a b : Nat) (h : name ++ numStr a = name ++ numStr b) : a = b := by
  have := congrArg String.toList h
  simp only [String.toList_append] at this
  exact numStr_injective a b (String.toList_inj.mp (List.append_cancel_left this))

theorem uniqueName_eq (taken : String → Bool) (name : String) : ∀ fuel ix : Nat,
    uniqueName taken name fuel ix = ((List.range' ix fuel).find? fun j => !taken (name ++ numStr j)).map (name ++ numStr ·)
  | 0, _ => rfl
  | fuel + 1, ix => by
    rw [uniqueName, List.range'_succ, List.find?_cons, uniqueName_eq taken name fuel (ix + 1)]
    cases taken (name ++ numStr ix) <;> rfl

/-- what the `while` loop returns -/
theorem uniqueName_spec (taken : String → Bool) (name : String) (fuel ix : Nat) (u : String) (h : uniqueName taken name fuel ix = some u) :
    ∃ k, ix ≤ k ∧ u = name ++ numStr k ∧ taken u = false ∧ ∀ j, ix ≤ j → j < k → taken (name ++ numStr j) = true := by
  rw [uniqueName_eq, Option.map_eq_some_iff] at h
  obtain ⟨k, hk, rfl⟩ := h
  obtain ⟨hf, hm, hall⟩ := List.find?_range'_eq_some.mp hk
  exact ⟨k, (List.mem_range'_1.mp hm).1, rfl, by simpa using hf, fun j h1 h2 => by simpa using hall j h1 h2⟩

/-- the loop terminates within `|taken| + 1` steps: the candidates are pairwise different (pigeonhole) -/
theorem uniqueName_fuel (taken : String → Bool) (T : List String) (hT : ∀ u, taken u = true → u ∈ T) (name : String)
    (fuel ix : Nat) (hf : T.length < fuel) : ∃ u, uniqueName taken name fuel ix = some u := by
  cases h : uniqueName taken name fuel ix with
  | some u => exact ⟨u, rfl⟩
  | none =>
    rw [uniqueName_eq, Option.map_eq_none_iff, List.find?_range'_eq_none] at h
    have hnd : ((List.range' ix fuel).map (name ++ numStr ·)).Nodup :=
      List.Pairwise.map _ (fun a b hab he => hab (candidate_injective name a b he)) List.nodup_range'
    have := hnd.length_le_of_subset (l₂ := T) fun u hu => by
      obtain ⟨j, hj, rfl⟩ := List.mem_map.mp hu
      obtain ⟨h1, h2⟩ := List.mem_range'_1.mp hj
      exact hT _ (by simpa using h j h1 h2)
    simp only [List.length_map, List.length_range'] at this
    omega

theorem taken_iff (left raw : List String) (accKeys : List String) (hacc : ∀ k ∈ accKeys, k ∈ raw) (u : String) :
    (left.contains u || accKeys.contains u || raw.contains u) = true ↔ (u ∈ left ∨ u ∈ raw) := by
  simp only [Bool.or_eq_true, List.contains_eq_mem, decide_eq_true_eq]
  constructor
  · rintro ((h | h) | h)
    · exact .inl h
    · exact .inr (hacc u h)
    · exact .inr h
  · rintro (h | h)
    · exact .inl (.inl h)
    · exact .inr h

/-- one round of the loop: the name gets its joined name (the search for a free name does not run out of fuel) -/
theorem rightNamesLoop_step (left raw : List String) (name : String) (todo : List String) (acc : List (String × String))
    (hkeys : ∀ k ∈ acc.map (·.1), k ∈ raw) :
    ∃ u, IsJoinedName left raw name u ∧
      rightNamesLoop left raw (name :: todo) acc = rightNamesLoop left raw todo (acc ++ [(name, u)]) := by
  by_cases hl : left.contains name = true
  · have hmem : name ∈ left := by simpa using hl
    let taken := fun u => left.contains u || (acc.map (·.1)).contains u || raw.contains u
    obtain ⟨u, hu⟩ := uniqueName_fuel taken (left ++ raw)
      (fun u hu => List.mem_append.mpr ((taken_iff left raw _ hkeys u).mp hu))
      name (left.length + raw.length + raw.length + 1) 2 (by simp; omega)
    obtain ⟨k, hk, hue, hfree, hall⟩ := uniqueName_spec taken name _ 2 u hu
    have hfree' : ¬ (u ∈ left ∨ u ∈ raw) := fun h =>
      Bool.false_ne_true (hfree.symm.trans ((taken_iff left raw _ hkeys u).mpr h))
    refine ⟨u, ?_, ?_⟩
    · simp only [IsJoinedName, hmem, if_true]
      exact ⟨k, hk, hue, fun h => hfree' (.inl h), fun h => hfree' (.inr h),
        fun j hj hjk => (taken_iff left raw _ hkeys _).mp (hall j hj hjk)⟩
    · simp only [rightNamesLoop, hl, Bool.not_true, Bool.false_eq_true, if_false]
      show (match uniqueName taken name _ 2 with
        | none => none
        | some u => rightNamesLoop left raw todo (acc ++ [(name, u)])) = _
      rw [hu]
  · have hnot : name ∉ left := by simpa using hl
    exact ⟨name, by simp [IsJoinedName, hnot], by simp [rightNamesLoop, hnot]⟩

/-- the loop over the raw right names never gets stuck, maps exactly the raw names in order, each to its joined name -/
theorem rightNamesLoop_ok (left raw : List String) : ∀ (todo : List String) (acc : List (String × String)),
    acc.map (·.1) ++ todo = raw → (∀ p ∈ acc, IsJoinedName left raw p.1 p.2) →
    ∃ names, rightNamesLoop left raw todo acc = some names ∧ names.map (·.1) = raw ∧ ∀ p ∈ names, IsJoinedName left raw p.1 p.2
  | [], acc, hraw, hacc => ⟨acc, rfl, by simpa using hraw, hacc⟩
  | name :: todo, acc, hraw, hacc => by
    obtain ⟨u, hj, e⟩ := rightNamesLoop_step left raw name todo acc (fun k hk => hraw ▸ List.mem_append_left _ hk)
    rw [e]
    refine rightNamesLoop_ok left raw todo (acc ++ [(name, u)]) (by simpa using hraw) fun p hp => ?_
    rcases List.mem_append.mp hp with h | h
    · exact hacc p h
    · obtain rfl : p = (name, u) := by simpa using h
      exact hj

theorem IsJoinedName.not_left {left raw : List String} {n u : String} (h : IsJoinedName left raw n u) : u ∉ left := by
  unfold IsJoinedName at h
  split at h
  · obtain ⟨_, _, _, h1, _⟩ := h; exact h1
  · subst h; assumption

/-- `right_names[n]` as a function (identity outside the dict) -/
def renameOf (names : List (String × String)) (n : String) : String := (bucketLookup n names).getD n

/-- SPEC of one joined row: the left row, then every right field assigned under its joined name -/
def mergeRow (rename : String → String) (left right : Row) : Row :=
  right.foldl (fun jr p => rowSet (rename p.1) p.2 jr) left

/-- no `KeyError`: every field of a right row is a key of the dict -/
theorem joinRow_eq (names : List (String × String)) : ∀ (right left : Row), (∀ p ∈ right, p.1 ∈ names.map (·.1)) →
    joinRow names left right = some (mergeRow (renameOf names) left right)
  | [], left, _ => rfl
  | (n, v) :: rest, left, h => by
    obtain ⟨u, hu⟩ := bucketLookup_some_of_mem n names (h (n, v) List.mem_cons_self)
    have ih := joinRow_eq names rest (rowSet u v left) (fun p hp => h p (List.mem_cons_of_mem _ hp))
    simp [joinRow, hu, ih, mergeRow, renameOf]

/-- the joined row extends the left row: nothing of the left row moves or changes -/
theorem mergeRow_prefix (rename : String → String) (left : Row) : ∀ (right ext : Row), (∀ p ∈ right, rename p.1 ∉ left.map (·.1)) →
    ∃ ext', mergeRow rename (left ++ ext) right = left ++ ext'
  | [], ext, _ => ⟨ext, rfl⟩
  | p :: rest, ext, h => by
    rw [mergeRow, List.foldl_cons, rowSet_append _ _ _ _ (h p List.mem_cons_self)]
    exact mergeRow_prefix rename left rest _ (fun q hq => h q (List.mem_cons_of_mem _ hq))

theorem rowGet_mergeRow_other (rename : String → String) (n : String) : ∀ (right left : Row), (∀ p ∈ right, rename p.1 ≠ n) →
    rowGet n (mergeRow rename left right) = rowGet n left
  | [], _, _ => rfl
  | p :: rest, left, h => by
    rw [mergeRow, List.foldl_cons]
    exact (rowGet_mergeRow_other rename n rest _ fun q hq => h q (List.mem_cons_of_mem _ hq)).trans
      (rowGet_rowSet_other _ _ _ _ (Ne.symm (h p List.mem_cons_self)))

/-- every right field is found in the joined row under its joined name, unless a later right field was given the same name -/
theorem rowGet_mergeRow (rename : String → String) : ∀ (right left : Row) (n : String) (v : PValue),
    (right.map (·.1)).Nodup → (n, v) ∈ right → (∀ p ∈ right, p.1 ≠ n → rename p.1 ≠ rename n) →
    rowGet (rename n) (mergeRow rename left right) = v
  | [], _, _, _, _, h, _ => by simp at h
  | (k, w) :: rest, left, n, v, hnd, hmem, hinj => by
    have ⟨hk, hnd'⟩ := List.nodup_cons.mp (show (k :: rest.map (·.1)).Nodup from hnd)
    rw [mergeRow, List.foldl_cons]
    rcases List.mem_cons.mp hmem with e | e
    · obtain ⟨rfl, rfl⟩ := Prod.mk.inj e
      exact (rowGet_mergeRow_other rename _ rest _ fun p hp => hinj p (List.mem_cons_of_mem _ hp) fun e' => hk (e' ▸ List.mem_map_of_mem hp)).trans
        (rowGet_rowSet_same _ _ _)
    · exact rowGet_mergeRow rename rest _ n v hnd' e (fun p hp => hinj p (List.mem_cons_of_mem _ hp))

theorem bucketRowsM_total (kr : Row → PValue) : ∀ (rows : Table) (acc : List (Key × List Row)),
    bucketRowsM (fun r => some (kr r)) rows acc = some (rows.foldl (fun bs r => bucketAdd (bucketKey (kr r)) r bs) acc)
  | [], _ => rfl
  | r :: rows, acc => by simp [bucketRowsM, bucketRowsM_total kr rows]

theorem bucketRowsM_none (eval : Row → Option PValue) : ∀ (rows : Table) (acc : List (Key × List Row)),
    (∃ r ∈ rows, eval r = none) → bucketRowsM eval rows acc = none
  | [], _, h => by simp at h
  | row :: rest, acc, h => by
    cases he : eval row with
    | none => simp [bucketRowsM, he]
    | some v =>
      simp only [bucketRowsM, he]
      exact bucketRowsM_none eval rest _ (exists_none_tail h he)

/-- one left row of the relational join -/
def joinOne (kl kr : Row → PValue) (merge : Row → Row → Row) (keepUnmatched : Bool) (rightData : Table) (l : Row) : Table :=
  let partners := rightData.filter (fun r => bucketKey (kr r) = bucketKey (kl l))
  if partners.isEmpty then (if keepUnmatched then [l] else []) else partners.map (merge l)

theorem joinSpec_eq (kl kr : Row → PValue) (merge : Row → Row → Row) (keep : Bool) (L R : Table) :
    joinSpec kl kr merge keep L R = L.flatMap (joinOne kl kr merge keep R) := rfl

theorem joinRows_eq (names : List (String × String)) (l : Row) : ∀ rs : List Row, (∀ r ∈ rs, ∀ p ∈ r, p.1 ∈ names.map (·.1)) →
    joinRows names l rs = some (rs.map (mergeRow (renameOf names) l))
  | [], _ => rfl
  | r :: rs, h => by
    simp [joinRows, joinRow_eq names r l (h r List.mem_cons_self), joinRows_eq names l rs (fun r' hr' => h r' (List.mem_cons_of_mem _ hr'))]

theorem joinLoop_total (kl kr : Row → PValue) (names : List (String × String)) (R : Table) (flag : Bool)
    (hnames : ∀ r ∈ R, ∀ p ∈ r, p.1 ∈ names.map (·.1)) : ∀ (rows acc : Table),
    joinLoop (fun r => some (kl r)) names (groupSpec (fun r => bucketKey (kr r)) R) flag rows acc =
      some (acc ++ rows.flatMap (joinOne kl kr (mergeRow (renameOf names)) (!flag) R))
  | [], acc => by simp [joinLoop]
  | l :: rows, acc => by
    have ih := joinLoop_total kl kr names R flag hnames rows
    simp only [joinLoop, bucketLookup_groupSpec, List.flatMap_cons, joinOne]
    by_cases he : (R.filter fun r => decide (bucketKey (kr r) = bucketKey (kl l))).isEmpty = true
    · simp only [he, if_true, ih]
      cases flag <;> simp
    · simp only [he, Bool.false_eq_true, if_false, joinRows_eq names l _ fun r hr => hnames r (List.mem_filter.mp hr).1, ih,
        List.append_assoc]

theorem joinLoop_none (evalL : Row → Option PValue) (names : List (String × String)) (buckets : List (Key × List Row)) (flag : Bool) :
    ∀ (rows acc : Table), (∃ r ∈ rows, evalL r = none) → joinLoop evalL names buckets flag rows acc = none
  | [], _, h => by simp at h
  | l :: rows, acc, h => by
    cases he : evalL l with
    | none => simp [joinLoop, he]
    | some v =>
      have ih := fun acc => joinLoop_none evalL names buckets flag rows acc (exists_none_tail h he)
      simp only [joinLoop, he]
      cases bucketLookup (bucketKey v) buckets with
      | none => exact ih _
      | some rs =>
        simp only [ih]
        cases joinRows names l rs <;> rfl

end C19
