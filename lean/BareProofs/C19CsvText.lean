import BareProofs.C19
import BareProofs.C19CsvTextLemmas

/-!
C19 extension: the CSV typing round trip at the level of the WHOLE TABLE TEXT.

`C19CsvTextLemmas` shows that the `_csv` reader run over the lines of a text written by the RFC-4180 writer gives the
records back, `C19Csv` (`validate_rect`) that `validate_data(csv=True)` types each column of a rectangular table on its own.
Here: the decidable side conditions `CsvText.tableOK` give the hypotheses of both, `csv.DictReader` over the records, and the
theorem `csv_text_roundtrip`.  Examples on the example table: `C19CsvTextEx`.
-/

namespace C19CsvText
open Compare Data CsvText

/-- text that `value_parse_datetime` accepts has a dash at the fifth and at the eighth place and does not start with one -/
theorem isoParse_shape (offU : Int → Int) (cs : List Char) (h : (Datetime.isoParse offU cs).isSome = true) :
    ∃ a b c d e f rest, cs = a :: b :: c :: d :: '-' :: e :: f :: '-' :: rest ∧ a ≠ '-' := by
  obtain ⟨t, ht⟩ := Option.isSome_iff_exists.1 h
  have hd : ∀ a : Char, C16.IsDigit a → a ≠ '-' := fun a ha e => by subst e; exact absurd ha.1 (by decide)
  rcases C16.iso_reject offU cs t ht with ⟨a, b, c, d, e, f, _, _, rfl, ha, _⟩ |
    ⟨a, b, c, d, e, f, _, _, _, _, _, _, _, _, _, _, rfl, ha, _⟩
  · exact ⟨a, b, c, d, e, f, _, rfl, hd a ha⟩
  · exact ⟨a, b, c, d, e, f, _, rfl, hd a ha⟩

theorem count_dash_ascii {l : List Char} (h : C13.AsciiDigs l) : l.count '-' = 0 := by
  rw [List.count_eq_zero]
  intro hm
  have := h _ hm
  revert this; decide

/-- a decimal literal with ASCII digits and no minus sign contains at most one dash (that of the exponent) -/
theorem count_dash_tok (t : NumText.Tok) (ha : C13.TokAscii t) (hs : t.sign ≠ .minus) : t.text.count '-' ≤ 1 := by
  obtain ⟨sign, ip, frac, exp⟩ := t
  simp only [NumText.Tok.text, List.count_append]
  have h1 : sign.text.count '-' = 0 := by
    cases sign
    · simp [NumText.Sign.text]
    · simp [NumText.Sign.text]
    · exact absurd rfl hs
  have h2 : ip.count '-' = 0 := count_dash_ascii ha.ip
  have h3 : (NumText.fracText frac).count '-' = 0 := by
    cases frac with
    | none => simp [NumText.fracText]
    | some fp => simp [NumText.fracText, count_dash_ascii (ha.fp fp rfl)]
  have h4 : (NumText.expText exp).count '-' ≤ 1 := by
    cases exp with
    | none => simp [NumText.expText]
    | some e =>
      have hd := count_dash_ascii (ha.ex e rfl)
      simp only [NumText.expText, NumText.ExpPart.text, List.count_cons, List.count_append, hd]
      cases e.sign <;> cases e.upper <;> simp [NumText.Sign.text]
  omega

theorem isoParse_none_of_tok (offU : Int → Int) (t : NumText.Tok) (ha : C13.TokAscii t) : Datetime.isoParse offU t.text = none := by
  cases hp : Datetime.isoParse offU t.text with
  | none => rfl
  | some d =>
    exfalso
    obtain ⟨a, b, c, d, e, f, rest, hshape, hne⟩ := isoParse_shape offU t.text (by simp [hp])
    by_cases hs : t.sign = .minus
    · have : t.text.head? = some '-' := by simp [NumText.Tok.text, hs, NumText.Sign.text]
      rw [hshape] at this
      simp at this
      exact hne this
    · have h1 := count_dash_tok t ha hs
      simp only [hshape, List.count_cons, beq_self_eq_true, if_true] at h1
      omega

/-- **a number text is no ISO datetime** (`float`): the text `value_string` gives for a float whose `repr` is in the `repr`
grammar is not accepted by `value_parse_datetime`, in any zone -/
theorem parseDatetime_float (offU : Int → Int) (r : String) (hr : NumText.IsRepr r) :
    parseDatetime offU (NumText.valueStringNum (.float r)) = none := by
  obtain ⟨t, ht, hw, hshape⟩ := C13.repr_tok hr
  obtain ⟨t', hstrip, _, ha, _, _, _⟩ := C13.strip_tok hw hshape
  simp only [parseDatetime, NumText.valueStringNum, NumText.stripDotZeros, String.toList_ofList, ht, hstrip, isoParse_none_of_tok offU t' ha,
    Option.map_none]

/-- **a number text is no ISO datetime** (`int`) -/
theorem parseDatetime_int (offU : Int → Int) (z : Int) : parseDatetime offU (NumText.valueStringNum (.int z)) = none := by
  simp only [parseDatetime, C13.intTok_text, isoParse_none_of_tok offU _ (C13.intTok_ascii z), Option.map_none]

def toColKind : FieldType → C19.ColKind
  | .number => .number | .boolean => .boolean | .datetime => .datetime | .string => .string

theorem toColKind_fieldType (k : FieldType) : (toColKind k).fieldType = k := by cases k <;> rfl

theorem toColKind_string (k : FieldType) : toColKind k = .string ↔ k = .string := by cases k <;> simp [toColKind]

theorem cellOK_sound (nullText : String) (offL offU : Int → Int) (k : FieldType) (x : CsvVal)
    (h : cellOK offL offU k x = true) : C19.CellOK (toColKind k) offL offU nullText x (cellValue x) := by
  cases x with
  | null => simp [C19.CellOK, cellValue]
  | bool b =>
    simp only [cellOK, beq_iff_eq] at h
    subst h
    exact ⟨rfl, rfl⟩
  | num n =>
    cases n with
    | int z =>
      simp only [cellOK, inFloatRange, Bool.and_eq_true, beq_iff_eq, decide_eq_true_eq] at h
      obtain ⟨hk, hlo, hhi⟩ := h
      subst hk
      exact ⟨rfl, rfl, hlo, hhi, parseDatetime_int offU z⟩
    | float r =>
      simp only [cellOK, Bool.and_eq_true, beq_iff_eq, decide_eq_true_eq] at h
      obtain ⟨⟨hk, hr⟩, hq⟩ := h
      subst hk
      cases hv : NumText.decVal r with
      | none => simp [hv] at hq
      | some q =>
        simp only [hv, inFloatRange, Bool.and_eq_true, decide_eq_true_eq] at hq
        exact ⟨rfl, q, by simp [cellValue, hv], hr, hv, hq.1, hq.2, parseDatetime_float offU r hr⟩
  | dt t =>
    simp only [cellOK, Bool.and_eq_true, beq_iff_eq, decide_eq_true_eq] at h
    obtain ⟨⟨⟨⟨⟨⟨hk, hv⟩, hmin⟩, hlo⟩, hhi⟩, hex⟩, hutc⟩ := h
    subst hk
    exact ⟨rfl, rfl, hv, hmin, hlo, hhi, hex, hutc⟩
  | str s =>
    simp only [cellOK, Bool.and_eq_true, beq_iff_eq, bne_iff_ne, ne_eq] at h
    obtain ⟨hk, hs⟩ := h
    subst hk
    exact ⟨rfl, rfl, hs⟩

theorem exists_nonnull_of_colKind (col : List CsvVal) (h : colKind col ≠ .string) : ∃ x ∈ col, x ≠ CsvVal.null := by
  cases hf : col.findSome? valType with
  | none => simp [colKind, hf] at h
  | some k =>
    obtain ⟨x, hx, hv⟩ := List.exists_of_findSome?_eq_some hf
    exact ⟨x, hx, fun e => by subst e; cases hv⟩

theorem colType_of_stringColOK (offU : Int → Int) : ∀ texts : List String, stringColOK offU texts = true →
    C19.colType offU texts = .string
  | [], _ => by simp [C19.colType, C19.firstType]
  | c :: cs, h => by
    by_cases hc : c = "" ∨ c = "null"
    · have hd : detectType true offU (.str c) = some none := by simp [detectType, hc]
      have hf : (c != "" && c != "null") = false := by rcases hc with e | e <;> simp [e]
      have h' : stringColOK offU cs = true := by simpa [stringColOK, List.find?, hf] using h
      have ih := colType_of_stringColOK offU cs h'
      simpa [C19.colType, C19.firstType, hd] using ih
    · have hf : (c != "" && c != "null") = true := by
        simp only [not_or] at hc
        simp [hc.1, hc.2]
      have hd : detectType true offU (.str c) = some (some .string) := by simpa [stringColOK, List.find?, hf] using h
      simp [C19.colType, C19.firstType, hd]

theorem natAbs_lt_of_range (z : Int) (h : inFloatRange z = true) : z.natAbs < 10 ^ 309 := by
  simp only [inFloatRange, Bool.and_eq_true] at h
  have h1 := of_decide_eq_true h.1
  have h2 := of_decide_eq_true h.2
  have hN : (2 ^ 1024 - 2 ^ 970 : Nat) < 10 ^ 309 := by decide +kernel
  unfold NumText.overflowBound at h1 h2
  generalize (2 ^ 1024 - 2 ^ 970 : Nat) = N at *
  rw [← Rat.intCast_natCast, ← Rat.intCast_neg, Rat.intCast_lt_intCast] at h1
  rw [← Rat.intCast_natCast, Rat.intCast_lt_intCast] at h2
  omega

theorem textOK_of (s : List Char) (hlen : s.length ≤ fieldLimit) (hhead : s.head? ≠ some ' ') : textOK s = true := by
  simp [textOK, hlen, hhead]

theorem textOK_int (z : Int) (h : inFloatRange z = true) : textOK (NumText.intStr z).toList = true := by
  have hlen : (NumText.natStr z.natAbs).length ≤ 309 :=
    C13.natStr_eq _ ▸ (Nat.length_toDigits_le_iff (by decide) (by decide)).2 (natAbs_lt_of_range z h)
  have hhead : (NumText.natStr z.natAbs).head? ≠ some ' ' := by
    cases hs : NumText.natStr z.natAbs with
    | nil => simp
    | cons c t =>
      have := C13.ascii_natStr z.natAbs c (by simp [hs])
      intro e
      cases e
      exact absurd this (by decide)
  simp only [NumText.intStr, String.toList_ofList, NumText.intStrL]
  split
  · exact textOK_of _ (by simp only [List.length_cons, fieldLimit]; omega) (by simp)
  · exact textOK_of _ (by simp only [fieldLimit]; omega) hhead

theorem digitChar_ne_space (n : Nat) : Datetime.digitChar n ≠ ' ' := by
  have : ∀ d, d < 10 → Char.ofNat (48 + d) ≠ ' ' := by decide
  exact this _ (Nat.mod_lt _ (by decide))

theorem textOK_dt (offL : Int → Int) (t : Datetime.DT) : textOK (String.ofList (Datetime.isoFormat offL t)).toList = true := by
  rw [String.toList_ofList]
  refine textOK_of _ ?_ ?_
  · simp only [Datetime.isoFormat, Datetime.isoFormatWith, Datetime.isoFormatUs, Datetime.pad4, Datetime.pad2, Datetime.pad3,
      Datetime.fmtOffset, fieldLimit]
    split <;> simp
  · simp [Datetime.isoFormat, Datetime.isoFormatWith, Datetime.isoFormatUs, Datetime.pad4, digitChar_ne_space]

/-- the text of a cell that is fine for its column is fit for the reader; only strings and `float` texts need the check -/
theorem cell_textOK (nullText : String) (offL offU : Int → Int) (hnull : nullText = "" ∨ nullText = "null") (k : FieldType)
    (x : CsvVal) (h : cellOK offL offU k x = true) (ht : cellTextOK x = true) :
    textOK (csvText nullText offL x).toList = true := by
  cases x with
  | null =>
    rcases hnull with rfl | rfl
    · exact (by decide : textOK "".toList = true)
    · exact (by decide : textOK "null".toList = true)
  | bool b =>
    cases b
    · exact (by decide : textOK "false".toList = true)
    · exact (by decide : textOK "true".toList = true)
  | num n =>
    cases n with
    | int z =>
      simp only [cellOK, Bool.and_eq_true] at h
      exact textOK_int z h.2
    | float r => exact ht
  | dt t => exact textOK_dt offL t
  | str s => exact ht

/-- what `columnOK` gives: the cells convert under the column's detected type, and their texts are fit for the reader -/
theorem columnOK_sound (nullText : String) (offL offU : Int → Int) (hnull : nullText = "" ∨ nullText = "null") (f : String)
    (col : List CsvVal) (h : columnOK nullText offL offU col = true) :
    ∀ x ∈ col,
      convertCell true offU f (C19.colType offU (col.map (csvText nullText offL))) (.str (csvText nullText offL x)) = .ok (cellValue x) ∧
      textOK (csvText nullText offL x).toList = true := by
  simp only [columnOK, Bool.and_eq_true, List.all_eq_true, Bool.or_eq_true, bne_iff_ne, ne_eq, beq_iff_eq] at h
  obtain ⟨hall, hs⟩ := h
  have hconv := C19.column_convert_of (toColKind (colKind col)) offL offU nullText hnull f col cellValue
    (fun x hx => cellOK_sound nullText offL offU _ x (hall x hx).1)
    (by
      by_cases hk : colKind col = .string
      · exact .inl ((toColKind_string _).mpr hk)
      · exact .inr (.inr (exists_nonnull_of_colKind col hk)))
    (fun hk => by
      rcases hs with h1 | ⟨h1, h2⟩
      · exact absurd ((toColKind_string _).mp hk) h1
      · refine ⟨h1.imp_right fun hv x hx hxn => ?_, colType_of_stringColOK offU _ h2⟩
        subst hxn
        exact absurd (hv _ hx) (by decide))
  exact fun x hx => ⟨hconv x hx, cell_textOK nullText offL offU hnull _ x (hall x hx).1 (hall x hx).2⟩

/-- **several columns**: a rectangular table of cell texts written from typed cells, every column fine, validates to the
typed values (each column typed on its own) -/
theorem validate_table (nullText : String) (offL offU : Int → Int) (hnull : nullText = "" ∨ nullText = "null")
    (header : List String) (hnd : header.Nodup) (rows : List (List CsvVal))
    (hcols : ∀ f ∈ header, columnOK nullText offL offU (colAt header f rows) = true) :
    validateData true offU (rows.map (fun r => header.zip ((r.map (csvText nullText offL)).map PValue.str))) =
      .ok (rows.map (fun r => header.zip (r.map cellValue))) := by
  have := C19.validate_rect (csvText nullText offL) cellValue offU header hnd rows fun r hr p hp =>
    (columnOK_sound nullText offL offU hnull p.1 _ (hcols p.1 (List.of_mem_zip hp).1) p.2 (C19.mem_colAt header hnd rows r hr p.1 p.2 hp)).1
  simpa only [List.map_map, Function.comp_def] using this

theorem foldl_rowSet_str : ∀ (ps : List (String × String)) (acc : Row), (acc.map (·.1) ++ ps.map (·.1)).Nodup →
    ps.foldl (fun d p => rowSet p.1 (.str p.2) d) acc = acc ++ ps.map (fun p => (p.1, PValue.str p.2))
  | [], acc, _ => by simp
  | (k, v) :: ps, acc, h => by
    have hk : k ∉ acc.map (·.1) := by
      intro hmem
      have := (List.nodup_append.mp h).2.2 k hmem k List.mem_cons_self
      exact this rfl
    simp only [List.foldl_cons]
    rw [C19.rowSet_new k (PValue.str v) acc hk]
    rw [foldl_rowSet_str ps (acc ++ [(k, PValue.str v)]) (by simpa [List.map_append, List.append_assoc] using h)]
    simp

theorem dictRow_rect (header : List String) (hnd : header.Nodup) (r : List String) (hlen : r.length = header.length) :
    dictRow header r = ⟨header.zip (r.map PValue.str), none⟩ := by
  unfold dictRow
  have h1 : ¬ header.length < r.length := by omega
  have h2 : header.drop r.length = [] := by rw [hlen]; simp
  simp only [h1, if_false, h2, List.foldl_nil]
  rw [foldl_rowSet_str (header.zip r) [] (by simpa using (C19.zip_keys_sublist header r).nodup hnd)]
  simp only [List.nil_append, List.zip_map_right]
  rfl

theorem dictReader_rect (header : List String) (hne : header ≠ []) (hnd : header.Nodup) (rows : List (List String))
    (hlen : ∀ r ∈ rows, r.length = header.length) :
    dictReader (header :: rows) = (some header, rows.map (fun r => ⟨header.zip (r.map PValue.str), none⟩)) := by
  simp only [dictReader]
  have hf : rows.filter (fun r => !r.isEmpty) = rows := by
    refine List.filter_eq_self.mpr (fun r hr => ?_)
    have := hlen r hr
    cases r with
    | nil =>
      cases header with
      | nil => exact absurd rfl hne
      | cons _ _ => simp at this
    | cons _ _ => rfl
  rw [hf]
  congr 1
  exact List.map_congr_left (fun r hr => dictRow_rect header hnd r (hlen r hr))

theorem readRecords_write (le : LineEnd) (trailing : Bool) (recs : List (List String))
    (h : ∀ r ∈ recs, r ≠ [] ∧ ∀ s ∈ r, FieldOK s.toList) :
    readRecords (splitLines (String.ofList (writeRecords le trailing (recs.map (fun r => r.map String.toList)))).toList) = .ok recs := by
  unfold readRecords
  rw [String.toList_ofList, events_splitLines, run_writeRecords le trailing _ (by
    intro r hr
    obtain ⟨r0, hr0, rfl⟩ := List.mem_map.mp hr
    obtain ⟨hne, hok⟩ := h r0 hr0
    refine ⟨by simpa using hne, fun f hf => ?_⟩
    obtain ⟨s, hs, rfl⟩ := List.mem_map.mp hf
    exact hok s hs)]
  simp [Except.map, Function.comp_def, String.ofList_toList]

theorem exists_zip_of_mem {α β : Type} : ∀ (hs : List α) (r : List β), r.length ≤ hs.length → ∀ x ∈ r, ∃ f, (f, x) ∈ hs.zip r
  | _, [], _, x, hx => by simp at hx
  | [], _ :: _, h, _, _ => by simp at h
  | f :: hs, y :: r, h, x, hx => by
    rcases List.mem_cons.mp hx with e | e
    · subst e; exact ⟨f, by simp⟩
    · obtain ⟨g, hg⟩ := exists_zip_of_mem hs r (by simpa using h) x e
      exact ⟨g, by simp [hg]⟩

/-- **CSV round trip at the level of the whole table text, any line end.**
For every header and every table of typed cells that satisfy `CsvText.tableOK` (below), for each of the line ends LF, CRLF, CR
and with or without a line end after the last record: writing the table as CSV text and parsing the text with
`dataParseCSV` gives the header back and, cell for cell, the typed values. -/
theorem csv_text_roundtrip_lineend (le : LineEnd) (trailing : Bool) (nullText : String) (offL offU : Int → Int)
    (header : List String) (rows : List (List CsvVal)) (h : tableOK nullText offL offU header rows = true) :
    parseCsv offU (writeCsvLE le trailing nullText offL header rows) = .ok ⟨some header, expectedRows header rows⟩ := by
  simp only [tableOK, Bool.and_eq_true, Bool.not_eq_true', List.isEmpty_eq_false_iff, decide_eq_true_eq, List.all_eq_true,
    Bool.or_eq_true, beq_iff_eq] at h
  obtain ⟨⟨⟨⟨⟨hne, hnd⟩, hhdr⟩, hnull⟩, hlen⟩, hcols⟩ := h
  have hlen' : ∀ r ∈ rows, r.length = header.length := fun r hr => by simpa using hlen r hr
  let text := csvText nullText offL
  have hrec := readRecords_write le trailing (header :: rows.map (fun r => r.map text)) (by
    intro r hr
    rcases List.mem_cons.mp hr with e | e
    · subst e
      exact ⟨hne, fun s hs => fieldOK_of_textOK (hhdr s hs)⟩
    · obtain ⟨r0, hr0, rfl⟩ := List.mem_map.mp e
      have hl := hlen' r0 hr0
      refine ⟨?_, fun s hs => ?_⟩
      · intro hnil
        have : r0.length = 0 := by simpa using congrArg List.length hnil
        rw [hl] at this
        exact hne (List.eq_nil_of_length_eq_zero this)
      · obtain ⟨x, hx, rfl⟩ := List.mem_map.mp hs
        obtain ⟨f, hf⟩ := exists_zip_of_mem header r0 (by omega) x hx
        have hcol := hcols f (List.of_mem_zip hf).1
        exact fieldOK_of_textOK (columnOK_sound nullText offL offU hnull f _ hcol x (C19.mem_colAt header hnd rows r0 hr0 f x hf)).2)
  have hdict := dictReader_rect header hne hnd (rows.map (fun r => r.map text)) (by
    intro r hr
    obtain ⟨r0, hr0, rfl⟩ := List.mem_map.mp hr
    simpa using hlen' r0 hr0)
  have hval := validate_table nullText offL offU hnull header hnd rows hcols
  unfold parseCsv parseArgs writeCsvLE writeCsvWith
  simp only [List.filterMap_cons, id, List.filterMap_nil, List.flatMap_cons, List.flatMap_nil, List.append_nil, List.map_cons]
  simp only [List.map_cons] at hrec
  rw [show (rows.map (fun r => r.map (csvText nullText offL))).map (fun r => r.map String.toList) =
    (rows.map (fun r => r.map text)).map (fun r => r.map String.toList) from rfl, hrec]
  simp only [hdict, List.map_map, Function.comp_def]
  simp only [List.map_map, Function.comp_def] at hval
  rw [hval]
  simp only [expectedRows, List.zip_map', List.map_map, Function.comp_def]

/-- **CSV round trip at the level of the whole table text** (property C19, second sentence).
`writeCsv` writes the header and the rows as RFC 4180 text — a field is quoted iff it contains a comma, a quote, CR or LF,
quotes are doubled, a record that consists of one empty field is written `""`, records are separated by LF.  `parseCsv` is
`dataParseCSV`: the text cut into lines at CR / LF / CRLF, the `_csv` reader state machine (quoted fields may contain
commas, quotes, CR and LF and go on over several lines), `csv.DictReader`, then `validate_data(csv=True)`.
For ALL headers and ALL tables of typed cells (any number of rows and columns, any Unicode in strings) with
`tableOK nullText offL offU header rows` the parse returns the header and, cell for cell, the typed values.

`tableOK` (decidable, `BareModel/CsvText.lean`) says:
* the header has at least one name, the names are pairwise different (they may be empty, contain commas, quotes, line ends);
* nulls are written as the empty cell or as `null`; every row has as many cells as the header;
* every field name, every string cell and every `float` text is at most 131072 characters long (`csv.field_size_limit`)
  and does not start with a blank unless it is quoted anyway (the reader is created with `skipinitialspace=True`:
  `dataParseCSV('a\\n x')` is `x`); the texts of nulls, booleans, `int`s and datetimes always are (`cell_textOK`);
* every non-null cell of a column has the type of the column's first non-null cell; an `int` is inside the double range; a
  `float` is given by its `repr` text (C13's A1/A2) and is finite (a number text is never an ISO datetime:
  `parseDatetime_int`, `parseDatetime_float`); a datetime
  satisfies the hypotheses of C16's ISO round trip; a string value is not `null`;
* a string column that contains nulls writes them as `null`, and its first cell that is neither empty nor `null` is not itself read as a
  datetime, boolean or number (e.g. `12`, `true`, `2024-02-29`: a CSV cannot tell them from the typed values).  Date-LIKE
  text that is no date (`2024-02-30`) is fine anywhere and comes back as a string. -/
theorem csv_text_roundtrip (nullText : String) (offL offU : Int → Int) (header : List String) (rows : List (List CsvVal))
    (h : tableOK nullText offL offU header rows = true) :
    parseCsv offU (writeCsv nullText offL header rows) = .ok ⟨some header, expectedRows header rows⟩ :=
  csv_text_roundtrip_lineend .lf false nullText offL offU header rows h

/-- **the reader inverts the writer on tables of arbitrary strings** (no typing): for every line end, with or without a
line end after the last record, for records of at least one field whose texts are fit for the reader (`textOK`: at most
131072 characters, no leading blank unless quoted anyway) — the fields may contain commas, quotes, CR, LF, any Unicode -/
theorem csv_records_roundtrip (le : LineEnd) (trailing : Bool) (header : List String) (rows : List (List String))
    (h : (header :: rows).all (fun r => !r.isEmpty && r.all (fun s => textOK s.toList)) = true) :
    readRecords (splitLines (writeCsvWith le trailing header rows).toList) = .ok (header :: rows) := by
  simp only [List.all_eq_true, Bool.and_eq_true, Bool.not_eq_true', List.isEmpty_eq_false_iff] at h
  exact readRecords_write le trailing (header :: rows) (fun r hr => ⟨(h r hr).1, fun s hs => fieldOK_of_textOK ((h r hr).2 s hs)⟩)

/-- **the error branch**: a record with an unquoted field of more than 131072 characters after a header makes
`dataParseCSV` fail with `_csv.Error: field larger than field limit (131072)` — the length bound in `textOK` is needed -/
theorem csv_field_limit (offU : Int → Int) (hdr : List (List Char)) (hne : hdr ≠ []) (hok : ∀ f ∈ hdr, FieldOK f) (s : List Char)
    (hq : needsQuote s = false) (hsp : s.head? ≠ some ' ') (hlen : fieldLimit < s.length) :
    (match parseCsv offU (String.ofList (recordText hdr ++ '\n' :: s)) with
     | .error (.csv .fieldLimit) => true
     | _ => false) = true := by
  obtain ⟨f, gs, rfl⟩ := List.exists_cons_of_ne_nil hne
  obtain ⟨c0, t0, hct, _⟩ := recordText_head f gs
  have hsplit : s = s.take fieldLimit ++ s[fieldLimit] :: s.drop (fieldLimit + 1) := by
    rw [← List.drop_eq_getElem_cons hlen, List.take_append_drop]
  have hq' : needsQuote (s.take fieldLimit ++ [s[fieldLimit]]) = false := by
    rw [← List.take_succ_eq_append_getElem hlen]
    simp only [needsQuote, List.any_eq_false] at hq ⊢
    exact fun c hc => hq c (List.mem_of_mem_take hc)
  have hsp' : (s.take fieldLimit).head? ≠ some ' ' := by
    cases s <;> simpa [fieldLimit] using hsp
  have hsne : s ≠ [] := fun e => by simp [e] at hlen
  have herr : run .reset (evE s) = .error .fieldLimit := by
    rw [hsplit]
    exact run_field_limit [] .startRecord (.inl rfl) _ _ _ (by simp; omega) hq' hsp'
  have hev : evE ('\n' :: s) = [some '\n', none] ++ evE s := by
    rw [evE_break '\n' s rfl]
    simp [evT, hsne]
  have hrun : run .reset (evT (recordText (f :: gs) ++ '\n' :: s)) = .error .fieldLimit := by
    have : evT (recordText (f :: gs) ++ '\n' :: s) = evE (recordText (f :: gs) ++ '\n' :: s) := by simp [evT, hct]
    rw [this, run_record f gs hok _ _ _ (.inr (.inl rfl)) hev, herr]
    rfl
  simp only [parseCsv, parseArgs, List.filterMap_cons, id, List.filterMap_nil, List.flatMap_cons, List.flatMap_nil, List.append_nil,
    readRecords, String.toList_ofList, events_splitLines, hrun]
  rfl

/-- `dataParseCSV('a\n' + 'x' * n)` fails for every `n > 131072` (e.g. 131073), in every zone -/
example (offU : Int → Int) (n : Nat) (hn : fieldLimit < n) :
    (match parseCsv offU (String.ofList (recordText [['a']] ++ '\n' :: List.replicate n 'x')) with
     | .error (.csv .fieldLimit) => true
     | _ => false) = true :=
  csv_field_limit offU [['a']] (by simp) (fun f hf => by
      simp only [List.mem_singleton] at hf; subst hf; exact fieldOK_of_textOK (by decide)) (List.replicate n 'x') (by simp [needsQuote])
    (by cases n <;> simp [List.replicate]) (by simpa using hn)

/-- a table with a column of every type: numbers (`int`, `float` by `repr` text), strings with commas, quotes, LF, CRLF, CR,
non-ASCII and astral characters, a leading blank inside a quoted field, the empty string, date-like text that is no date
(`2024-02-30`), text that looks like a number or boolean further down a string column, datetimes in a +05:45 zone, booleans;
nulls everywhere; a field name that needs quoting -/
def exHeader : List String := ["id", "name, \"quoted\"", "when", "ok", "note"]

def exRows : List (List CsvVal) := [
  [.num (.int 17), .str "a,b", .dt ⟨2024, 2, 29, 1, 2, 3, 45⟩, .bool true, .null],
  [.null, .str "say \"hi\"", .null, .null, .str "2024-02-30"],
  [.num (.float "1.5e-07"), .str "line1\nline2\r\nline3\rend", .dt ⟨1999, 12, 31, 23, 59, 59, 0⟩, .bool false, .str "12"],
  [.num (.int (-2)), .str "", .null, .null, .str " naïve 😀,  "],
  [.num (.float "123.0"), .null, .null, .bool true, .str "true"]]

theorem exTable_ok : tableOK "null" (fun _ => 20700) (fun _ => 20700) exHeader exRows = true := by decide +kernel

/-- date-like text that is no date may stand at the head of a string column, in every zone -/
theorem datelike_column_ok (offU : Int → Int) (rest : List String) : stringColOK offU ("2024-02-30" :: rest) = true := by
  have h := (C19.datelike_kept_string offU).2.2.2.1
  simp [stringColOK, List.find?, h]

end C19CsvText
