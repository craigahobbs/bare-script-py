import BareProofs.C06RegexLemmas

/-!
# C06Regex2Lemmas — `re.search`; a greedy `.+` in front of `\s*:\s*$` (it ends before the LAST colon that is followed by
blanks only); the tails of `return` and `for`
-/

namespace C06Regex
open Rx Text Scan RxPatterns

/-! ## `re.search` -/

theorem searchFrom_none (r : Rx) : ∀ (l : Chars) (p : Nat),
    (∀ i, i ≤ l.length → matchFrom r (p + i) (l.drop i) = none) → searchFrom r p l = none
  | [], p, h => by
    rw [searchFrom, show matchFrom r p [] = none from h 0 (Nat.le_refl _)]; rfl
  | c :: t, p, h => by
    rw [searchFrom, show matchFrom r p (c :: t) = none from h 0 (Nat.zero_le _)]
    exact searchFrom_none r t (p + 1) fun i hi => by
      have := h (i + 1) (Nat.succ_le_succ hi)
      rwa [List.drop_succ_cons, ← Nat.add_assoc, Nat.add_right_comm] at this

theorem searchFrom_first (r : Rx) (st : St) : ∀ (n : Nat) (l : Chars) (p : Nat), n ≤ l.length →
    (∀ i, i < n → matchFrom r (p + i) (l.drop i) = none) → matchFrom r (p + n) (l.drop n) = some st →
    searchFrom r p l = some (p + n, st)
  | 0, l, p, _, _, hm => by
    have hm : matchFrom r p l = some st := hm
    cases l <;> rw [searchFrom, hm] <;> rfl
  | n + 1, [], p, hl, _, _ => absurd hl (Nat.not_succ_le_zero n)
  | n + 1, c :: t, p, hl, hn, hm => by
    rw [searchFrom, show matchFrom r p (c :: t) = none from hn 0 (Nat.zero_lt_succ _)]
    have := searchFrom_first r st n t (p + 1) (Nat.le_of_succ_le_succ hl)
      (fun i hi => by
        have := hn (i + 1) (Nat.succ_lt_succ hi)
        rwa [List.drop_succ_cons, ← Nat.add_assoc, Nat.add_right_comm] at this)
      (by rwa [List.drop_succ_cons, ← Nat.add_assoc, Nat.add_right_comm] at hm)
    rwa [Nat.add_right_comm, Nat.add_assoc] at this

/-! ## the last non-blank character of a text -/

theorem rstrip_cons_of_decomp {c : Char} (hc : isSpace c = false) (a t : Chars) (ht : allSpace t = true) :
    (a ++ c :: t).reverse.dropWhile isSpace = c :: a.reverse := by
  rw [show a ++ c :: t = (a ++ [c]) ++ t from (List.append_cons a c t), C10.rev_dropWhile_append_ws _ _ ht,
    List.reverse_append, List.reverse_singleton, List.singleton_append, List.dropWhile_cons, hc]
  rfl

theorem decomp_of_rstrip_cons {r rb : Chars} {c : Char} (h : r.reverse.dropWhile isSpace = c :: rb) :
    ∃ t, allSpace t = true ∧ r = rb.reverse ++ c :: t := by
  refine ⟨(r.reverse.takeWhile isSpace).reverse, ?_, ?_⟩
  · rw [allSpace, List.all_reverse]; exact List.all_takeWhile
  · have h1 := congrArg List.reverse (List.takeWhile_append_dropWhile (p := isSpace) (l := r.reverse))
    rw [h, List.reverse_append, List.reverse_cons, List.reverse_reverse, List.append_assoc, List.singleton_append] at h1
    exact h1.symm

/-! ## the continuation backslash -/

/-- `\\\s*$` at one position -/
theorem cont_matchFrom_cons (p : Nat) (x : Char) (r : Chars) (h : '\n' ∉ x :: r) :
    matchFrom continuation p (x :: r) =
      if x = '\\' ∧ allSpace r = true then some ⟨p + (x :: r).length, [], []⟩ else none := by
  show (Rx.one (.lit true '\\') ⬝ ws ⬝ Rx.eol).m _ some = _
  rw [seq_m, one_m', step_lit]
  by_cases hx : x = '\\'
  · simp only [hx, if_true, true_and]
    rw [ws_eol_seq _ _ (not_mem_tail h)]
    simp only [List.length_cons, Nat.add_assoc, Nat.add_comm 1]
  · simp only [hx, if_false, false_and]

theorem contBody?_of_decomp (b w : Chars) (hw : allSpace w = true) : contBody? (b ++ '\\' :: w) = some b := by
  rw [contBody?, rstrip_cons_of_decomp (by decide) b w hw]
  simp only [List.reverse_reverse]

/-! ## patterns whose leading `\s*` sits inside the first group -/

/-- `^(?P<g>\s*R)T` when `R` cannot start with a blank -/
theorem lead_cap (i : Nat) (nm : Option String) (R T : Rx) (line : Chars) (k : K) (hR : Avoids isSpace R) :
    (Rx.bol ⬝ Rx.cap i nm (ws ⬝ R) ⬝ T).m ⟨0, line, []⟩ k =
      R.m ⟨(line.takeWhile isSpace).length, lstripL line, []⟩
        (fun st' => T.m ⟨st'.pos, st'.rest, (i, 0, st'.pos) :: st'.caps⟩ k) := by
  show (Rx.star (.one .space)).m ⟨0, line, []⟩ _ = _
  rw [star_atom_det .space _ _ (hR _)]
  simp only [skip, space_test, Nat.zero_add]; rfl

/-- `(?:\s+(?P<expr>\S.*))?` then `\s*$` after the group that closes: the tail of `_R_SCRIPT_RETURN` -/
theorem return_tail (p : Nat) (r : Chars) (hr : '\n' ∉ r) :
    (Rx.opt (.ncg (ws1 ⬝ .cap 2 (some "expr") (.one .nspace ⬝ .star (.one .dot))))).m ⟨p, r, []⟩
        (fun st' => (ws ⬝ Rx.eol).m ⟨st'.pos, st'.rest, (1, 0, st'.pos) :: st'.caps⟩ some) =
      if allSpace r then some ⟨p + r.length, [], [(1, 0, p)]⟩
      else match r with
        | c :: _ =>
          if isSpace c then
            some ⟨p + r.length, [], [(1, 0, p + r.length), (2, p + (r.takeWhile isSpace).length, p + r.length)]⟩
          else none
        | [] => none := by
  rw [opt_m, ncg_m, ws_eol_seq _ _ hr,
    ws1_det _ _ _ (((avoids_one (a := .nspace) fun x hx => by rw [Atom.test, hx]; rfl).seq _).cap 2 _ _)]
  cases r with
  | nil => rfl
  | cons c r' =>
    have hr' : '\n' ∉ r' := not_mem_tail hr
    by_cases hc : isSpace c = true
    · simp only [hc, if_true, cap_m, seq_m, one_m']
      cases he : lstripL r' with
      | nil =>
        have ha : allSpace (c :: r') = true := by
          rw [allSpace, List.all_cons, hc]; exact allSpace_of_lstrip_nil he
        rw [ha]; rfl
      | cons x e =>
        have hna : allSpace (c :: r') = false := by
          rw [allSpace, List.all_cons, hc]; exact not_allSpace_of_lstrip_cons he
        have he' : '\n' ∉ e := noNL_lstrip_tail hr' he
        have hl := lstrip_split_length r'
        rw [he, List.length_cons] at hl
        rw [step_cons, show Atom.nspace.test x = true from by rw [Atom.test, head_lstrip_ns he]; rfl, if_pos rfl,
          star_atom_backoff, takeWhile_dot_length he', backoff_some]
        · rw [hna]; rfl
        · simp only [adv, List.drop_length]
          rw [ws_eol _ _ List.not_mem_nil]
          simp only [allSpace, List.all_nil, if_true, List.length_nil, Nat.add_zero, List.takeWhile_cons, hc, List.length_cons,
            Option.some.injEq, St.mk.injEq, true_and, List.cons.injEq, Prod.mk.injEq, and_true]
          omega
    · have hna : allSpace (c :: r') = false := by rw [allSpace, List.all_cons, Bool.eq_false_iff.mpr hc]; rfl
      simp only [hc, hna, Bool.false_eq_true, if_false]
      rfl

/-! ## `.+\s*:\s*$` — the LAST colon that is followed by blanks only -/

/-- no suffix of `r` is `\s*:\s*` when the last non-blank of `r` is not a colon -/
theorem no_colon_suffix {r : Chars} (h : ∀ rb, r.reverse.dropWhile isSpace ≠ ':' :: rb) (m : Nat) (r2 : Chars)
    (h1 : lstripL (r.drop m) = ':' :: r2) : allSpace r2 = false := by
  cases ha : allSpace r2 with
  | false => rfl
  | true =>
    have e : r = (r.take m ++ (r.drop m).takeWhile isSpace) ++ ':' :: r2 := by
      rw [List.append_assoc, ← h1, lstripL, List.takeWhile_append_dropWhile, List.take_append_drop]
    exact absurd (e ▸ rstrip_cons_of_decomp (by decide) _ _ ha) (h _)

/-- `(?P<g>.+)\s*:\s*$` when no suffix has the form `\s*:\s*` -/
theorem dotplus_colon_none (i : Nat) (nm : Option String) (st : St) (h : '\n' ∉ st.rest)
    (hno : ∀ m r2, lstripL (st.rest.drop m) = ':' :: r2 → allSpace r2 = false) :
    (Rx.cap i nm dotPlus ⬝ ws ⬝ lit ':' ⬝ ws ⬝ Rx.eol).m st some = none := by
  rw [seq_m, dotPlus, cap_dotplus_m _ _ _ _ h]
  cases hr : st.rest with
  | nil => rfl
  | cons x rest' =>
    refine backoff_none _ _ _ fun j _ => ?_
    rw [hr] at h hno
    show (ws ⬝ lit ':' ⬝ ws ⬝ Rx.eol).m _ some = none
    rw [colon_tail _ _ (not_mem_drop (not_mem_tail h))]
    split
    · rename_i r2 heq
      rw [hno (j + 1) r2 heq]; rfl
    · rfl

/-- `(?P<g>.+)\s*:\s*$` on `b : t` with `t` blank: the group is `b` (non-empty) -/
theorem dotplus_colon (i : Nat) (nm : Option String) (q : Nat) (b t : Chars) (caps : List (Nat × Nat × Nat))
    (h : '\n' ∉ b ++ ':' :: t) (ht : allSpace t = true) :
    (Rx.cap i nm dotPlus ⬝ ws ⬝ lit ':' ⬝ ws ⬝ Rx.eol).m ⟨q, b ++ ':' :: t, caps⟩ some =
      if b = [] then none else some ⟨q + (b ++ ':' :: t).length, [], (i, q, q + b.length) :: caps⟩ := by
  have hnt : '\n' ∉ t := fun hm => h (List.mem_append_right _ (List.mem_cons_of_mem _ hm))
  -- behind the colon only blanks are left: `\s*:` finds no colon there
  have hbehind : ∀ (p : Nat) (caps' : List (Nat × Nat × Nat)) (j : Nat),
      (ws ⬝ lit ':' ⬝ ws ⬝ Rx.eol).m ⟨p, t.drop j, caps'⟩ some = none := fun p caps' j => by
    rw [colon_tail _ _ (not_mem_drop hnt)]
    show (match lstripL (t.drop j) with | ':' :: r2 => _ | _ => none) = none
    rw [C10.lstrip_allSpace (allSpace_drop ht j)]
  cases b with
  | nil =>
    rw [seq_m, dotPlus, cap_dotplus_m _ _ _ _ h]
    exact backoff_none _ _ _ fun j _ => hbehind _ _ j
  | cons y b' =>
    rw [List.cons_append] at h ⊢
    have hn' : '\n' ∉ b' ++ ':' :: t := not_mem_tail h
    rw [seq_m, dotPlus, cap_dotplus_m _ _ _ _ h, if_neg (List.cons_ne_nil y b')]
    refine backoff_first _ _ _ b'.length _ (by simp) ?_ ?_
    · simp only [adv, List.drop_left]
      rw [colon_tail _ _ (fun hm => hn' (List.mem_append_right _ hm))]
      simp only [lstripL, List.dropWhile_cons, show isSpace ':' = false from by decide, Bool.false_eq_true, if_false, ht, if_true,
        List.length_cons, List.length_append, Option.some.injEq, St.mk.injEq, true_and, List.cons.injEq, Prod.mk.injEq, and_true]
      omega
    · intro j h1 h2
      obtain ⟨k, rfl⟩ : ∃ k, j = b'.length + (k + 1) := ⟨j - b'.length - 1, by omega⟩
      simp only [adv, ← List.drop_drop, List.drop_left, List.drop_succ_cons]
      exact hbehind _ _ k

/-- `Scan.exprColon?` on a text whose last non-blank is a colon: the expression starts behind the blanks, or with the
last of them when nothing else stands before the colon -/
theorem exprColon?_decomp (a t : Chars) (ht : allSpace t = true) :
    exprColon? (a ++ ':' :: t) =
      if min (a.takeWhile isSpace).length (a.length - 1) = 0 then none
      else some (min (a.takeWhile isSpace).length (a.length - 1), a.drop (min (a.takeWhile isSpace).length (a.length - 1))) := by
  unfold exprColon?
  rw [rstrip_cons_of_decomp (by decide) _ _ ht]
  simp only [List.reverse_reverse]
  have hl := lstrip_split_length a
  cases hd : a.dropWhile isSpace with
  | cons x e =>
    have hd' : (lstripL a).length = e.length + 1 := by rw [lstripL, hd]; rfl
    rw [Nat.min_eq_left (by omega), drop_length_takeWhile, hd]
    cases hg : (a.takeWhile isSpace).getLast? with
    | none => rw [List.getLast?_eq_none_iff.mp hg]; rfl
    | some c =>
      have : a.takeWhile isSpace ≠ [] := fun e => by rw [e] at hg; cases hg
      rw [if_neg (fun e => this (List.length_eq_zero_iff.mp e))]
  | nil =>
    have hd' : (lstripL a).length = 0 := by rw [lstripL, hd]; rfl
    have htw : a.takeWhile isSpace = a := by
      have := List.takeWhile_append_dropWhile (p := isSpace) (l := a)
      rwa [hd, List.append_nil] at this
    rw [htw, Nat.min_eq_right (Nat.sub_le _ _)]
    cases hg : a.getLast? with
    | none => rw [List.getLast?_eq_none_iff.mp hg]; rfl
    | some c =>
      rw [drop_last a c hg]
      by_cases h2 : a.length ≥ 2
      · simp only [h2, if_true]; rw [if_neg (by omega)]
      · simp only [h2, if_false]; rw [if_pos (by omega)]

theorem exprColon?_none {r : Chars} (h : ∀ rb, r.reverse.dropWhile isSpace ≠ ':' :: rb) : exprColon? r = none := by
  unfold exprColon?
  split
  · rename_i rb heq; exact absurd heq (h rb)
  · rfl

theorem takeWhile_append_colon (a t : Chars) : (a ++ ':' :: t).takeWhile isSpace = a.takeWhile isSpace := by
  rw [List.takeWhile_append]
  split
  · rename_i h
    rw [List.takeWhile_cons, show isSpace ':' = false from by decide]
    simp only [Bool.false_eq_true, if_false, List.append_nil]
    exact ((List.takeWhile_sublist _).eq_of_length h).symm
  · rfl

/-- **`\s+(?P<g>.+)\s*:\s*$`** on the rest of a line = `Scan.exprColon?`: the group ends before the LAST colon that is followed
by blanks only; `\s+` takes all blanks, but gives its last one to the group when nothing else stands before that colon. -/
theorem exprColon_rx (i : Nat) (nm : Option String) (p : Nat) (rest : Chars) (caps : List (Nat × Nat × Nat)) (h : '\n' ∉ rest) :
    (ws1 ⬝ Rx.cap i nm dotPlus ⬝ ws ⬝ lit ':' ⬝ ws ⬝ Rx.eol).m ⟨p, rest, caps⟩ some =
      match exprColon? rest with
      | some (n, e) => some ⟨p + rest.length, [], (i, p + n, p + n + e.length) :: caps⟩
      | none => none := by
  rw [seq_m, ws1, sp, plus_m, one_m']
  by_cases hyes : ∃ rb, rest.reverse.dropWhile isSpace = ':' :: rb
  · obtain ⟨rb, hrb⟩ := hyes
    obtain ⟨t, ht, e⟩ := decomp_of_rstrip_cons hrb
    generalize rb.reverse = a at e
    subst e
    rw [exprColon?_decomp _ _ ht]
    cases a with
    | nil => rfl
    | cons c0 a' =>
      rw [List.cons_append, step_cons, space_test, List.takeWhile_cons]
      by_cases hc : isSpace c0 = true
      · have hn' : '\n' ∉ a' ++ ':' :: t := not_mem_tail h
        have hle : (a'.takeWhile isSpace).length ≤ a'.length := (List.takeWhile_sublist _).length_le
        simp only [hc, if_true, List.length_cons, Nat.add_sub_cancel]
        -- with `j` characters of `a'` gone, `.+` takes what is left of it
        have hK : ∀ j, j ≤ a'.length →
            (Rx.cap i nm dotPlus ⬝ ws ⬝ lit ':' ⬝ ws ⬝ Rx.eol).m (adv ⟨p + 1, a' ++ ':' :: t, caps⟩ j) some =
              if a'.drop j = [] then none
              else some ⟨p + 1 + j + (a'.drop j ++ ':' :: t).length, [], (i, p + 1 + j, p + 1 + j + (a'.drop j).length) :: caps⟩ := by
          intro j hj
          have := not_mem_drop (n := j) hn'
          rw [List.drop_append_of_le_length hj] at this
          rw [adv, List.drop_append_of_le_length hj]
          exact dotplus_colon i nm _ _ t caps this ht
        refine (ws_giveback ⟨p + 1, a' ++ ':' :: t, caps⟩ _ (fun j => ⟨p + 1 + j + (a'.drop j ++ ':' :: t).length, [],
            (i, p + 1 + j, p + 1 + j + (a'.drop j).length) :: caps⟩) a'.length (by rw [takeWhile_append_colon]; exact hle)
          (fun j hj => by rw [hK j (Nat.le_of_lt hj), if_neg (drop_ne_nil hj)])
          (by rw [hK _ (Nat.le_refl _), if_pos (List.drop_length)])).trans ?_
        rw [takeWhile_append_colon]
        by_cases h0 : a'.length = 0
        · rw [if_pos h0, if_pos (by omega)]
        · rw [if_neg h0, if_neg (by omega),
            show min ((a'.takeWhile isSpace).length + 1) a'.length = min (a'.takeWhile isSpace).length (a'.length - 1) + 1 from by omega,
            List.drop_succ_cons]
          simp only [List.length_append, List.length_cons, List.length_drop, Option.some.injEq, St.mk.injEq, true_and,
            List.cons.injEq, Prod.mk.injEq, and_true]
          omega
      · simp only [hc, Bool.false_eq_true, if_false, List.length_nil, Nat.zero_min, if_true]
  · have hno : ∀ rb, rest.reverse.dropWhile isSpace ≠ ':' :: rb := fun rb hrb => hyes ⟨rb, hrb⟩
    rw [exprColon?_none hno]
    cases rest with
    | nil => rfl
    | cons c r' =>
      rw [step_cons]
      split
      · rw [star_atom_backoff]
        refine backoff_none _ _ _ fun j _ => dotplus_colon_none _ _ _ (not_mem_drop (not_mem_tail h)) fun m r2 h1 => ?_
        refine no_colon_suffix hno (j + m + 1) r2 ?_
        rw [List.drop_succ_cons, ← List.drop_drop]; exact h1
      · rfl

theorem exprColon?_drop {r e : Chars} {n : Nat} (h : exprColon? r = some (n, e)) : ∃ tl, r.drop n = e ++ tl := by
  by_cases hyes : ∃ rb, r.reverse.dropWhile isSpace = ':' :: rb
  · obtain ⟨rb, hrb⟩ := hyes
    obtain ⟨t, ht, rfl⟩ := decomp_of_rstrip_cons hrb
    rw [exprColon?_decomp _ _ ht] at h
    split at h
    · cases h
    · cases h
      exact ⟨':' :: t, List.drop_append_of_le_length (Nat.le_trans (Nat.min_le_right _ _) (Nat.sub_le _ _))⟩
  · rw [exprColon?_none (fun rb hrb => hyes ⟨rb, hrb⟩)] at h; cases h

/-! ## `for`: the pieces -/

theorem ws1?_suffix {rest r : Chars} (h : ws1? rest = some r) : ∃ pre, rest = pre ++ r := by
  cases rest with
  | nil => cases h
  | cons c r0 =>
    by_cases hc : isSpace c = true
    · simp only [ws1?, hc, if_true, Option.some.injEq] at h
      exact ⟨c :: r0.takeWhile isSpace, by rw [← h, List.cons_append, lstripL, List.takeWhile_append_dropWhile]⟩
    · simp [ws1?, hc] at h

theorem keyword?_suffix {w : String} {l r : Chars} (h : keyword? w l = some r) : ∃ pre, l = pre ++ r :=
  ⟨l.take w.length, by rw [keyword?_drop h]; exact (List.take_append_drop _ _).symm⟩

theorem drop_of_suffix {rest pre r : Chars} (h : rest = pre ++ r) : rest.drop (rest.length - r.length) = r := by
  subst h; simp

/-- `\s+in\s+(?P<values>.+)\s*:\s*$`, what follows the loop variables -/
def forTail : Rx := ws1 ⬝ kw "in".toList ⬝ ws1 ⬝ Rx.cap 3 (some "values") dotPlus ⬝ ws ⬝ lit ':' ⬝ ws ⬝ Rx.eol

theorem for_tail (p : Nat) (rest : Chars) (caps : List (Nat × Nat × Nat)) (h : '\n' ∉ rest) :
    forTail.m ⟨p, rest, caps⟩ some =
      match ws1? rest with
      | some r =>
        match keyword? "in" r with
        | some r' =>
          match exprColon? r' with
          | some (n, e) =>
            some ⟨p + rest.length, [], (3, p + rest.length - r'.length + n, p + rest.length - r'.length + n + e.length) :: caps⟩
          | none => none
        | none => none
      | none => none := by
  have hin : startsNonBlank "in" = true := by decide +kernel
  rw [forTail, ws1_det _ _ _ ((avoids_kw hin).seq _ _)]
  cases rest with
  | nil => rfl
  | cons c r0 =>
    by_cases hc : isSpace c = true
    · simp only [hc, if_true, ws1?]
      rw [seq_m, kw_m "in" hin]
      cases hk : keyword? "in" (lstripL r0) with
      | none => rfl
      | some r' =>
        have hl := C10.keyword?_length hk
        have hl2 := lstrip_split_length r0
        simp only []
        rw [exprColon_rx _ _ _ _ _ (noNL_keyword (not_mem_dropWhile (not_mem_tail h)) hk)]
        cases exprColon? r' with
        | none => rfl
        | some ne =>
          simp only [List.length_cons, Option.some.injEq, St.mk.injEq, true_and, List.cons.injEq, Prod.mk.injEq, and_true]
          omega
    · simp only [hc, ws1?, Bool.false_eq_true, if_false]

/-- the optional index group `(?:\s*,\s*(?P<index>[A-Za-z_]\w*))?` in front of a continuation that cannot start with a word
character and (at this state) not behind a comma either -/
theorem for_index (st : St) (K' : K) (hw : RejectsHead isWord K')
    (hcomma : ∀ r1, lstripL st.rest = ',' :: r1 → K' st = none) :
    (Rx.opt (.ncg (ws ⬝ lit ',' ⬝ ws ⬝ .cap 2 (some "index") ident))).m st K' =
      match lstripL st.rest with
      | x :: r1 =>
        if x = ',' then
          match ident? (lstripL r1) with
          | some (ix, r2) =>
            K' ⟨st.pos + (st.rest.takeWhile isSpace).length + 1 + (r1.takeWhile isSpace).length + ix.length, r2,
              (2, st.pos + (st.rest.takeWhile isSpace).length + 1 + (r1.takeWhile isSpace).length,
                st.pos + (st.rest.takeWhile isSpace).length + 1 + (r1.takeWhile isSpace).length + ix.length) :: st.caps⟩
          | none => none
        else K' st
      | [] => K' st := by
  rw [opt_m, ncg_m, show lit ',' = Rx.one (.lit false ',') from rfl,
    ws_lit_ws_det false ',' (by decide) _ (avoids_cap_ident 2 _)]
  cases hl : lstripL st.rest with
  | nil => rfl
  | cons x r1 =>
    by_cases hx : x = ','
    · subst hx
      simp only [if_true]
      rw [hcomma r1 hl, orElse_none', cap_ident_det _ _ _ _ hw]
      rfl
    · simp only [hx, if_false]; rfl

end C06Regex
