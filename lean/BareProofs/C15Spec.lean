import BareProofs.C15MoreShape

/-!
# C15 — the Python-shaped bodies compute the reference operations on validated arguments

A number validated against an index model is `ofNat n` (the patterns `.I`, `.IN` of `C15More.Shaped`); on it the comparisons, `int()`
and the Python sequence primitives are the operations on `n`, and a body lemma is that rewriting and a case distinction on `n < length`.
-/

namespace C15
open Lib Lib.Spec C15More

theorem rle_ofNat_ofInt (a : Nat) (i : Int) : rle (ofNat a) (Rat.ofInt i) = decide ((a : Int) ≤ i) := by
  simp [rle, ofNat, Rat.ofInt]

theorem pyInt_ofInt (i : Int) : pyInt (Rat.ofInt i) = i := by
  simp [pyInt, Rat.ofInt]

theorem rle_ofNat (a b : Nat) : rle (ofNat a) (ofNat b) = decide (a ≤ b) := by
  simp [rle, ofNat, Rat.ofInt]

theorem rlt_ofNat (a b : Nat) : rlt (ofNat a) (ofNat b) = decide (a < b) := by
  simp [rlt, ofNat, Rat.ofInt]

theorem pyInt_ofNat (n : Nat) : pyInt (ofNat n) = n := pyInt_ofInt n

theorem nat_ofNat (n : Nat) : nat (ofNat n) = n := rfl

theorem ofNat_num (n : Nat) : (ofNat n).num = n := rfl

theorem pyGetItem_natCast {α} (xs : List α) (n : Nat) : pyGetItem xs (n : Int) = xs[n]? := by
  unfold pyGetItem
  rw [if_neg (by omega), Int.toNat_natCast]

theorem pyIdx_natCast (len n : Nat) : pyIdx len (n : Int) = if n < len then some n else none := by
  unfold pyIdx
  rw [if_neg (by omega), Int.toNat_natCast]

theorem pyAdj_natCast (len n : Nat) : pyAdj len (n : Int) = min n len := by
  unfold pyAdj
  rw [if_neg (by omega), Int.toNat_natCast]

/-! ## numbers that passed validation as an index -/

/-- **validation fact**: a number found at position `i` of the validated arguments, where the model says `number`, satisfies
the model's constraints, or is the model's default -/
theorem validate_num (h : Heap) : ∀ (ms : List Gen.ArgModel) (args : List Value) (va : List VArg),
    validate h ms args = some va → ∀ (i : Nat) (m : Gen.ArgModel) (q : Rat), ms[i]? = some m → va[i]? = some (.one (.num q)) →
    m.type = some "number" → numBad m q = false ∨ m.default.bind parseDefault = some (.num q) := by
  intro ms args va hv i m q hm hq ht
  rcases validate_get h ms args va hv i m _ hm hq with ⟨a, -, hc⟩ | hmiss
  · exact .inl ((checkArg_some hc).2 q rfl ht)
  · rcases missingArg_inv hmiss with ⟨_, hx⟩ | ⟨_, w, hx, hw⟩
    · cases hx
    · cases hx
      rcases hw with hd | ⟨_, hb⟩ | ⟨hn, _⟩
      · exact .inr hd
      · cases hb
      · cases hn

/-- `len - 1`, the start of a backward search when none is given -/
theorem idxOr_null (l : Nat) : idxOr (l + 1) .null = some (ofNat l) := by
  simp only [idxOr, ofNat]
  congr 2
  omega

theorem last_cases (len : Nat) {ix : Value} (hix : ix = .null ∨ ∃ k : Nat, ix = .num (ofNat k)) :
    (len = 0 ∧ idxOr len ix = some (Rat.ofInt (-1)) ∧ lastStart len ix = some none) ∨
    (∃ k, idxOr len ix = some (ofNat k) ∧ lastStart len ix = some (some k)) := by
  rcases hix with rfl | ⟨k, rfl⟩
  · cases len with
    | zero => exact .inl ⟨rfl, rfl, rfl⟩
    | succ l => exact .inr ⟨l, idxOr_null l, by simp [lastStart]⟩
  · exact .inr ⟨k, rfl, rfl⟩

/-! ## body lemmas: on validated arguments the Python-shaped body is the reference operation -/

theorem arrayGet_body (va : List VArg) (h : Heap) (hs : Shaped [.A, .I] va) : arrayGetB va h = arrayGetS va h := by
  obtain ⟨r, n, rfl⟩ := hs
  rw [arrayGetB, arrayGetS, nat_ofNat]
  cases getArr h r with
  | none => rfl
  | some xs =>
    simp only [rle_ofNat, pyInt_ofNat, pyGetItem_natCast, decide_eq_true_eq]
    split
    · rename_i hle
      rw [List.getElem?_eq_none hle]
    · rfl

theorem stringCharCodeAt_body (va : List VArg) (h : Heap) (hs : Shaped [.S, .I] va) :
    stringCharCodeAtB va h = stringCharCodeAtS va h := by
  obtain ⟨s, n, rfl⟩ := hs
  rw [stringCharCodeAtB, stringCharCodeAtS, nat_ofNat]
  simp only [rle_ofNat, pyInt_ofNat, pyGetItem_natCast, decide_eq_true_eq]
  split
  · rename_i hle
    rw [List.getElem?_eq_none hle]
  · rfl

theorem arrayDelete_body (va : List VArg) (h : Heap) (hs : Shaped [.A, .I] va) : arrayDeleteB va h = arrayDeleteS va h := by
  obtain ⟨r, n, rfl⟩ := hs
  rw [arrayDeleteB, arrayDeleteS, nat_ofNat]
  cases getArr h r with
  | none => rfl
  | some xs =>
    simp only [rle_ofNat, pyInt_ofNat, pyDelItem, pyIdx_natCast, decide_eq_true_eq]
    by_cases hlt : n < xs.length
    · simp only [hlt, Nat.not_le.mpr hlt, if_true, if_false, Option.map_some]
    · simp only [hlt, Nat.le_of_not_lt hlt, if_true, if_false]

theorem arraySet_body (va : List VArg) (h : Heap) (hs : Shaped [.A, .I, .V] va) : arraySetB va h = arraySetS va h := by
  obtain ⟨r, n, v, rfl⟩ := hs
  rw [arraySetB, arraySetS, nat_ofNat]
  cases getArr h r with
  | none => rfl
  | some xs =>
    simp only [rle_ofNat, pyInt_ofNat, pySetItem, pyIdx_natCast, decide_eq_true_eq]
    by_cases hlt : n < xs.length
    · simp only [hlt, Nat.not_le.mpr hlt, if_true, if_false, Option.map_some]
    · simp only [hlt, Nat.le_of_not_lt hlt, if_true, if_false]

theorem arrayNewSize_body (va : List VArg) (h : Heap) (hs : Shaped [.I, .V] va) : arrayNewSizeB va h = arrayNewSizeS va h := by
  obtain ⟨n, v, rfl⟩ := hs
  rw [arrayNewSizeB, arrayNewSizeS, pyInt_ofNat]
  rfl

theorem stringRepeat_body (va : List VArg) (h : Heap) (hs : Shaped [.S, .I] va) : stringRepeatB va h = stringRepeatS va h := by
  obtain ⟨s, n, rfl⟩ := hs
  rw [stringRepeatB, stringRepeatS, pyInt_ofNat]
  rfl

/-- the two range tests followed by a Python slice, for natural bounds -/
theorem slice_core {α β} (xs : List α) (s e : Nat) (A : β) (B : List α → β) :
    (if rlt (ofNat xs.length) (ofNat s) = true then A else if rlt (ofNat xs.length) (ofNat e) = true then A
      else B (pySlice xs (pyInt (ofNat s)) (pyInt (ofNat e)))) =
    if s ≤ xs.length ∧ e ≤ xs.length then B (sliceN xs s e) else A := by
  simp only [rlt_ofNat, pyInt_ofNat, pySlice, pyAdj_natCast, sliceN, decide_eq_true_eq]
  by_cases h1 : s ≤ xs.length
  · by_cases h2 : e ≤ xs.length
    · simp only [h1, h2, Nat.not_lt.mpr h1, Nat.not_lt.mpr h2, Nat.min_eq_left h1, Nat.min_eq_left h2, and_self, if_true, if_false]
    · simp only [h1, h2, Nat.not_lt.mpr h1, Nat.lt_of_not_le h2, and_false, if_true, if_false]
  · simp only [h1, Nat.lt_of_not_le h1, false_and, if_true, if_false]

theorem arraySlice_body (va : List VArg) (h : Heap) (hs : Shaped [.A, .I, .IN] va) : arraySliceB va h = arraySliceS va h := by
  obtain ⟨r, s, (rfl | ⟨k, rfl⟩)⟩ := hs
  all_goals
    rw [arraySliceB, arraySliceS, nat_ofNat]
    cases getArr h r with
    | none => rfl
    | some xs => exact slice_core xs s _ (Eff.fail .null) fun ys => Eff.alloc (.arr ys)

theorem stringSlice_body (va : List VArg) (h : Heap) (hs : Shaped [.S, .I, .IN] va) : stringSliceB va h = stringSliceS va h := by
  obtain ⟨s, b, (rfl | ⟨k, rfl⟩)⟩ := hs
  all_goals
    rw [stringSliceB, stringSliceS, nat_ofNat]
    exact slice_core (chars s) b _ (Eff.fail .null) fun ys => Eff.ret (mkStr ys)

theorem pyFind_natCast (s sub : List Char) (n : Nat) :
    pyFind s sub (n : Int) = if s.length < n then -1 else optIdx (findFrom sub (s.drop n) n) := by
  unfold pyFind
  simp only [show ¬ (n : Int) < 0 by omega, if_false, Int.toNat_natCast]

theorem stringIndexOf_body (va : List VArg) (h : Heap) (hs : Shaped [.S, .S, .I] va) : stringIndexOfB va h = stringIndexOfS va h := by
  obtain ⟨s, t, n, rfl⟩ := hs
  rw [stringIndexOfB, stringIndexOfS, nat_ofNat]
  simp only [rle_ofNat, pyInt_ofNat, pyFind_natCast, decide_eq_true_eq]
  by_cases hlt : n < (chars s).length
  · simp only [hlt, Nat.not_le.mpr hlt, Nat.not_lt.mpr (Nat.le_of_lt hlt), if_true, if_false]
  · simp only [hlt, Nat.le_of_not_lt hlt, if_true, if_false]

theorem take_min_length {α} (xs : List α) (n : Nat) : xs.take (min n xs.length) = xs.take n := by
  by_cases h : n ≤ xs.length
  · rw [Nat.min_eq_left h]
  · have h' : xs.length ≤ n := by omega
    rw [Nat.min_eq_right h', List.take_of_length_le h', List.take_of_length_le (Nat.le_refl _)]

theorem pyRFind_natCast (s sub : List Char) (n : Nat) :
    pyRFind s sub ((n : Int) + (sub.length : Int)) = optIdx (lastMatch sub (s.take (n + sub.length)) 0) := by
  unfold pyRFind
  rw [← Int.natCast_add, pyAdj_natCast, take_min_length]

theorem stringLastIndexOf_body (va : List VArg) (h : Heap) (hs : Shaped [.S, .S, .IN] va) :
    stringLastIndexOfB va h = stringLastIndexOfS va h := by
  have key : ∀ (s t : String) (ix : Value), (ix = .null ∨ ∃ k : Nat, ix = .num (ofNat k)) →
      stringLastIndexOfB [.one (.str s), .one (.str t), .one ix] h = stringLastIndexOfS [.one (.str s), .one (.str t), .one ix] h := by
    intro s t ix hix
    rw [stringLastIndexOfB, stringLastIndexOfS]
    rcases last_cases (chars s).length hix with ⟨h0, h1, h2⟩ | ⟨k, h1, h2⟩
    · have hnil : chars s = [] := List.eq_nil_of_length_eq_zero h0
      simp only [h1, h2]
      simp [hnil, rle, ofNat, Rat.ofInt, pyRFind]
    · simp only [h1, h2, rle_ofNat, pyInt_ofNat, pyRFind_natCast, decide_eq_true_eq]
      by_cases hlt : k < (chars s).length
      · simp only [hlt, Nat.not_le.mpr hlt, if_true, if_false]
      · simp only [hlt, Nat.le_of_not_lt hlt, if_true, if_false]
  obtain ⟨s, t, (rfl | ⟨k, rfl⟩)⟩ := hs
  · exact key s t _ (.inl rfl)
  · exact key s t _ (.inr ⟨k, rfl⟩)

/-! ### the two array searches -/

theorem searchRes_map (x : Option (Option Nat)) : searchRes (x.map (Option.map Int.ofNat)) = searchResN x := by
  rcases x with _ | _ | i <;> rfl

theorem pyRange_natCast (a b : Nat) : pyRange (a : Int) (b : Int) = (List.range' a (b - a)).map Int.ofNat := by
  unfold pyRange
  rw [show ((b : Int) - (a : Int)).toNat = b - a by omega, List.range'_eq_map_range, List.map_map]
  apply List.map_congr_left
  intro k _
  simp

/-- the forward loop `for ix in range(a, len)` is the reference search in `xs.drop a` -/
theorem searchIdx_up (h : Heap) (xs : List Value) (v : Value) : ∀ (n a : Nat), a + n = xs.length →
    searchIdx h xs v ((List.range' a n).map Int.ofNat) = (indexOfN h v (xs.drop a) a).map (Option.map Int.ofNat)
  | 0, a, ha => by
    rw [List.drop_eq_nil_of_le (by omega)]
    rfl
  | n + 1, a, ha => by
    have hlt : a < xs.length := by omega
    rw [List.range'_succ, List.map_cons, List.drop_eq_getElem_cons hlt]
    simp only [searchIdx, indexOfN, Int.ofNat_eq_natCast, pyGetItem_natCast, List.getElem?_eq_getElem hlt]
    rw [searchIdx_up h xs v n (a + 1) (by omega)]
    cases valueCompare h xs[a] v with
    | none => rfl
    | some c => by_cases hc : c = 0 <;> simp [hc]

theorem arrayIndexOf_body (va : List VArg) (h : Heap) (hs : Shaped [.A, .V, .I] va) : arrayIndexOfB va h = arrayIndexOfS va h := by
  obtain ⟨r, v, n, rfl⟩ := hs
  rw [arrayIndexOfB, arrayIndexOfS, nat_ofNat]
  cases getArr h r with
  | none => rfl
  | some xs =>
    simp only [rle_ofNat, pyInt_ofNat, pyRange_natCast, decide_eq_true_eq]
    by_cases hlt : n < xs.length
    · have hs := fun v => searchIdx_up h xs v (xs.length - n) n (by omega)
      simp only [hlt, Nat.not_le.mpr hlt, if_true, if_false, hs, searchRes_map]
      cases v <;> rfl
    · simp only [hlt, Nat.le_of_not_lt hlt, if_true, if_false]

theorem pyRangeDown_natCast (i : Nat) : pyRangeDown (i : Int) = (List.range (i + 1)).reverse.map Int.ofNat := by
  unfold pyRangeDown
  rw [show ((i : Int) + 1).toNat = i + 1 by omega]
  apply List.ext_getElem
  · simp
  · intro k h1 h2
    simp only [List.length_map, List.length_range] at h1
    simp only [List.getElem_map, List.getElem_range, List.getElem_reverse, List.length_range, Int.ofNat_eq_natCast]
    omega

/-- the backward loop `for ix in range(n-1, -1, -1)` is the reference search below `n` -/
theorem searchIdx_down (h : Heap) (xs : List Value) (v : Value) : ∀ (n : Nat),
    searchIdx h xs v ((List.range n).reverse.map Int.ofNat) = (lastIndexOfN h v xs n).map (Option.map Int.ofNat)
  | 0 => rfl
  | n + 1 => by
    rw [List.range_succ, List.reverse_append, List.reverse_singleton, List.singleton_append, List.map_cons]
    simp only [searchIdx, lastIndexOfN, Int.ofNat_eq_natCast, pyGetItem_natCast]
    rw [searchIdx_down h xs v n]
    cases xs[n]? with
    | none => rfl
    | some x =>
      dsimp only
      cases valueCompare h x v with
      | none => rfl
      | some c => by_cases hc : c = 0 <;> simp [hc]

theorem arrayLastIndexOf_body (va : List VArg) (h : Heap) (hs : Shaped [.A, .V, .IN] va) :
    arrayLastIndexOfB va h = arrayLastIndexOfS va h := by
  have key : ∀ (r : Nat) (v ix : Value), (ix = .null ∨ ∃ k : Nat, ix = .num (ofNat k)) →
      arrayLastIndexOfB [.one (.arr r), .one v, .one ix] h = arrayLastIndexOfS [.one (.arr r), .one v, .one ix] h := by
    intro r v ix hix
    unfold arrayLastIndexOfB arrayLastIndexOfS
    dsimp only
    cases getArr h r with
    | none => rfl
    | some xs =>
      rcases last_cases xs.length hix with ⟨h0, h1, h2⟩ | ⟨k, h1, h2⟩
      · -- the empty array, no start given: the loop `range(-1, -1, -1)` is empty
        cases List.eq_nil_of_length_eq_zero h0
        have e1 : rle (ofNat 0) (Rat.ofInt (-1)) = false := by decide
        have e2 : pyRangeDown (pyInt (Rat.ofInt (-1))) = [] := by decide
        simp only [h1, h2]
        simp only [List.length_nil, e1, e2, searchIdx, searchRes, Bool.false_eq_true, if_false]
        cases v <;> rfl
      · have hs := fun v => searchIdx_down h xs v (k + 1)
        simp only [h1, h2, rle_ofNat, pyInt_ofNat, pyRangeDown_natCast, hs, searchRes_map, decide_eq_true_eq]
        by_cases hlt : k < xs.length
        · simp only [hlt, Nat.not_le.mpr hlt, if_true, if_false]
          cases v <;> rfl
        · simp only [hlt, Nat.le_of_not_lt hlt, if_true, if_false]
  obtain ⟨r, v, (rfl | ⟨k, rfl⟩)⟩ := hs
  · exact key r v _ (.inl rfl)
  · exact key r v _ (.inr ⟨k, rfl⟩)

end C15
