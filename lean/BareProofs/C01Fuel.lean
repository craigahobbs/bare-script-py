import BareProofs.C01Lemmas

/-!
# The fuel a structured run leaves; the ticked semantics as a sequence of statements (the equations `…_seq`)

`execT_fuel` (`execTS_fuel / execTB_fuel / execTE_fuel`): a statement run with fuel `f` leaves at most `f`; it ends in
`break` / `continue` only inside a loop, and then with strictly less.  The loop inductions of `C01Exact` rest on this.
-/

namespace C01
open Machine Lower Structured

variable {W : Type}

/-- remaining fuel never exceeds the fuel given; `break` / `continue` cost at least one unit -/
def FuelOK (f : Nat) : TOut W → Prop
  | .norm _ _ f' => f' ≤ f
  | .brk _ _ f' => f' < f
  | .cont _ _ f' => f' < f
  | _ => True

/-- as `FuelOK`, but a normal exit also costs at least one unit -/
def StrictOK (f : Nat) : TOut W → Prop
  | .norm _ _ f' => f' < f
  | .brk _ _ f' => f' < f
  | .cont _ _ f' => f' < f
  | _ => True

/-- outcome of a loop: never `break` / `continue` -/
def LoopOK (f : Nat) : TOut W → Prop
  | .norm _ _ f' => f' ≤ f
  | .brk _ _ _ => False
  | .cont _ _ _ => False
  | _ => True

def NoBC : TOut W → Prop
  | .brk _ _ _ => False
  | .cont _ _ _ => False
  | _ => True

/-- the common form of the four predicates above: the fuel left satisfies `pn` after a normal exit and `pb` after
`break` / `continue` -/
def _root_.Structured.TOut.Fuel (pn pb : Nat → Prop) : TOut W → Prop
  | .norm _ _ f => pn f
  | .brk _ _ f => pb f
  | .cont _ _ f => pb f
  | _ => True

theorem fuelOK_iff {f : Nat} {o : TOut W} : FuelOK f o ↔ o.Fuel (· ≤ f) (· < f) := by cases o <;> exact Iff.rfl
theorem strictOK_iff {f : Nat} {o : TOut W} : StrictOK f o ↔ o.Fuel (· < f) (· < f) := by cases o <;> exact Iff.rfl
theorem loopOK_iff {f : Nat} {o : TOut W} : LoopOK f o ↔ o.Fuel (· ≤ f) (fun _ => False) := by cases o <;> exact Iff.rfl
theorem noBC_iff {o : TOut W} : NoBC o ↔ o.Fuel (fun _ => True) (fun _ => False) := by cases o <;> exact Iff.rfl

theorem _root_.Structured.TOut.Fuel.mono {pn pb pn' pb' : Nat → Prop} {o : TOut W} (h : o.Fuel pn pb)
    (hn : ∀ f, pn f → pn' f) (hb : ∀ f, pb f → pb' f) : o.Fuel pn' pb' :=
  match o, h with
  | .norm .., h => hn _ h
  | .brk .., h => hb _ h
  | .cont .., h => hb _ h
  | .ret .., _ => trivial
  | .err .., _ => trivial
  | .oof, _ => trivial

theorem StrictOK.mono {f f2 : Nat} {o : TOut W} (h : StrictOK f o) (h2 : f ≤ f2) : StrictOK f2 o :=
  strictOK_iff.mpr ((strictOK_iff.mp h).mono (fun _ h => Nat.lt_of_lt_of_le h h2) fun _ h => Nat.lt_of_lt_of_le h h2)

theorem loopOK_then {f : Nat} {o : TOut W} (h : StrictOK f o ∨ FuelOK f o) (hnb : ∀ l st f', o ≠ .brk l st f') (hnc : ∀ l st f', o ≠ .cont l st f')
    (g : Option Env → State W → Nat → TOut W) (hg : ∀ l st f', LoopOK f' (g l st f')) :
    LoopOK f (match o with | .norm l st f' => g l st f' | o' => o') := by
  cases o with
  | norm l st f' =>
    have hle : f' ≤ f := h.elim Nat.le_of_lt id
    exact loopOK_iff.mpr ((loopOK_iff.mp (hg l st f')).mono (fun _ h => Nat.le_trans h hle) fun _ h => h)
  | brk l st f' => exact absurd rfl (hnb l st f')
  | cont l st f' => exact absurd rfl (hnc l st f')
  | ret v st => trivial
  | err e st => trivial
  | oof => trivial

theorem fuel_andThen {pn pn' pb : Nat → Prop} {o : TOut W} {g : Option Env → State W → Nat → TOut W}
    (h : o.Fuel pn' pb) (hg : ∀ l st f, pn' f → (g l st f).Fuel pn pb) : (andThen o g).Fuel pn pb :=
  match o, h with
  | .norm l st f, h => hg l st f h
  | .brk .., h => h
  | .cont .., h => h
  | .ret .., _ => trivial
  | .err .., _ => trivial
  | .oof, _ => trivial

section
variable {pn pb : Nat → Prop} (cfg : Config W)

theorem fuel_tick (f : Nat) (st : State W) (k : Nat → State W → TOut W)
    (h : ∀ f' st1, f' < f → (k f' st1).Fuel pn pb) : (tick cfg f st k).Fuel pn pb := by
  cases f with
  | zero => trivial
  | succ f =>
    simp only [tick]; split
    · trivial
    · exact h f _ f.lt_succ_self

theorem fuel_stmtExpr (cv : CallAt W) (n : Option Name) (e : Expr) (f : Nat) (l : Option Env) (st : State W)
    (h : ∀ f', f' < f → pn f') : (stmtExpr cfg cv n e f l st).Fuel pn pb := by
  refine fuel_tick cfg f st _ fun f' st1 hlt => ?_
  cases evalExpr cfg (cv f') l e st1 with
  | ok v st2 => cases n <;> exact h f' hlt
  | err e st2 => trivial
  | oof => trivial

theorem fuel_stmtCond (cv : CallAt W) (c : Expr) (f : Nat) (l : Option Env) (st : State W)
    (k : Bool → Nat → State W → TOut W) (h : ∀ t f' st2, f' < f → (k t f' st2).Fuel pn pb) :
    (stmtCond cfg cv c f l st k).Fuel pn pb := by
  refine fuel_tick cfg f st _ fun f' st1 hlt => ?_
  cases evalExpr cfg (cv f') l c st1 with
  | ok v st2 => exact h _ f' st2 hlt
  | err e st2 => trivial
  | oof => trivial

theorem fuel_stmtSkip (f : Nat) (l : Option Env) (st : State W) (h : ∀ f', f' < f → pn f') :
    (stmtSkip cfg f l st).Fuel pn pb :=
  fuel_tick cfg f st _ fun f' _ hlt => h f' hlt

end

/-- at most `f` is left; `break` / `continue` come out only inside a loop (`il`), and then strictly less is left -/
abbrev Bounded (il : Bool) (f : Nat) (o : TOut W) : Prop := o.Fuel (· ≤ f) (fun f' => il = true ∧ f' < f)

theorem Bounded.mono {il : Bool} {f f2 : Nat} {o : TOut W} (h : Bounded il f o) (h2 : f ≤ f2) : Bounded il f2 o :=
  TOut.Fuel.mono h (fun _ h => Nat.le_trans h h2) fun _ h => ⟨h.1, Nat.lt_of_lt_of_le h.2 h2⟩

theorem Bounded.fuelOK {il : Bool} {f : Nat} {o : TOut W} (h : Bounded il f o) : FuelOK f o :=
  fuelOK_iff.mpr (TOut.Fuel.mono h (fun _ h => h) fun _ h => h.2)

theorem Bounded.noBC {f : Nat} {o : TOut W} (h : Bounded false f o) : NoBC o :=
  noBC_iff.mpr (TOut.Fuel.mono h (fun _ _ => trivial) fun _ h => nomatch h.1)

variable (cfg : Config W)

section
variable (cv : CallAt W) (ei : InclAt W) (il : Bool)

theorem execTB_cons_seq (s : SStmt) (ss : List SStmt) (i f : Nat) (l : Option Env) (base : Option String) (st : State W) :
    execTB cfg cv ei il (s :: ss) i f l base st =
      andThen (execTS cfg cv ei il s i f l base st) fun l1 st1 f1 => execTB cfg cv ei il ss (cntS s i) f1 l1 base st1 := by
  conv => lhs; unfold execTB
  rfl

/-- what `execTS (.ite c t e)` and `execTE (.elif c t e)` both do, the run of `chainCode`: test `c`; then the then-block and
the tick of the `jump done` / `label done` behind it, or the rest of the chain -/
def chainT (c : Expr) (t : List SStmt) (e : SElse) (k f : Nat) (l : Option Env) (base : Option String) (st : State W) : TOut W :=
  stmtCond cfg cv (notE c) f l st fun taken f st1 =>
    if taken then execTE cfg cv ei il e (cntB t (k+1)) f l base st1
    else andThen (execTB cfg cv ei il t (k+1) f l base st1) fun l2 st2 f2 => stmtSkip cfg f2 l2 st2

theorem execTS_ite_seq (c : Expr) (t : List SStmt) (e : SElse) (i f : Nat) (l : Option Env) (base : Option String) (st : State W) :
    execTS cfg cv ei il (.ite c t e) i f l base st = chainT cfg cv ei il c t e i f l base st := by
  unfold execTS; rfl

theorem execTE_els_seq (b : List SStmt) (i f : Nat) (l : Option Env) (base : Option String) (st : State W) :
    execTE cfg cv ei il (.els b) i f l base st =
      andThen (execTB cfg cv ei il b i f l base st) fun l1 st1 f1 => stmtSkip cfg f1 l1 st1 := by
  conv => lhs; unfold execTE
  rfl

theorem execTE_elif_seq (c : Expr) (t : List SStmt) (e : SElse) (i f : Nat) (l : Option Env) (base : Option String) (st : State W) :
    execTE cfg cv ei il (.elif c t e) i f l base st = chainT cfg cv ei il c t e i f l base st := by
  conv => lhs; unfold execTE
  rfl

theorem chainT_fuel (c : Expr) (t : List SStmt) (e : SElse) (k f : Nat) (l : Option Env) (base : Option String) (st : State W)
    (hT : ∀ f st, Bounded il f (execTB cfg cv ei il t (k+1) f l base st))
    (hE : ∀ f st, Bounded il f (execTE cfg cv ei il e (cntB t (k+1)) f l base st)) :
    Bounded il f (chainT cfg cv ei il c t e k f l base st) := by
  refine fuel_stmtCond cfg cv _ f l st _ fun tk f' st1 h => ?_
  cases tk
  · exact fuel_andThen ((hT f' st1).mono (Nat.le_of_lt h)) fun l2 st2 f2 h2 =>
      fuel_stmtSkip cfg f2 l2 st2 fun f3 h3 => Nat.le_trans (Nat.le_of_lt h3) h2
  · exact (hE f' st1).mono (Nat.le_of_lt h)

theorem execTS_while_seq (c : Expr) (b : List SStmt) (i f : Nat) (l : Option Env) (base : Option String) (st : State W) :
    execTS cfg cv ei il (.while c b) i f l base st =
      stmtCond cfg cv (notE c) f l st fun taken f st1 =>
        if taken then .norm l st1 f
        else andThen (stmtSkip cfg f l st1) fun l2 st2 f2 =>
          loopW cfg cv c (fun f l s => execTB cfg cv ei true b (i+1) f l base s) (f2 + 1) f2 l2 st2 := by
  unfold execTS; rfl

theorem execTS_for_seq (v : Name) (ix : Option Name) (vals : Expr) (b : List SStmt) (i f : Nat) (l : Option Env)
    (base : Option String) (st : State W) :
    execTS cfg cv ei il (.for v ix vals b) i f l base st =
      andThen (stmtExpr cfg cv (some (vValues i)) vals f l st) fun l1 st1 f1 =>
      andThen (stmtExpr cfg cv (some (vLength i)) (.function fnArrayLength [.variable (vValues i)]) f1 l1 st1) fun l2 st2 f2 =>
      stmtCond cfg cv (notE (.variable (vLength i))) f2 l2 st2 fun taken f3 st3 =>
        if taken then .norm l2 st3 f3
        else
          andThen (stmtExpr cfg cv (some (ix.getD (vIndex i))) (.number 0) f3 l2 st3) fun l4 st4 f4 =>
          andThen (stmtSkip cfg f4 l4 st4) fun l5 st5 f5 =>
            loopF cfg cv i v (ix.getD (vIndex i)) (usesContB b)
              (fun f l s => execTB cfg cv ei true b (i+1) f l base s) (f5 + 1) f5 l5 st5 := by
  unfold execTS; rfl

end

/-- the part of a `for` iteration after the (optional) `label continue`: index increment, test, next iteration or
`label done` -/
def forAfter (cv : CallAt W) (i : Nat) (v ixv : Name) (hc : Bool) (body : Nat → Option Env → State W → TOut W) (n : Nat)
    (l2 : Option Env) (st2 : State W) (f2 : Nat) : TOut W :=
  andThen (stmtExpr cfg cv (some ixv) (.binary .add (.variable ixv) (.number 1)) f2 l2 st2) fun l3 st3 f3 =>
    stmtCond cfg cv (.binary .lt (.variable ixv) (.variable (vLength i))) f3 l3 st3 fun taken f4 st4 =>
      if taken then loopF cfg cv i v ixv hc body n f4 l3 st4 else stmtSkip cfg f4 l3 st4

theorem loopF_succ (cv : CallAt W) (i : Nat) (v ixv : Name) (hc : Bool) (body : Nat → Option Env → State W → TOut W) (n : Nat)
    (f : Nat) (l : Option Env) (st : State W) :
    loopF cfg cv i v ixv hc body (n+1) f l st =
      andThen (stmtExpr cfg cv (some v) (.function fnArrayGet [.variable (vValues i), .variable ixv]) f l st) fun l0 st0 f0 =>
        match body f0 l0 st0 with
        | .norm l1 st1 f1 =>
            if hc then andThen (stmtSkip cfg f1 l1 st1) (forAfter cfg cv i v ixv hc body n)
            else forAfter cfg cv i v ixv hc body n l1 st1 f1
        | .cont l1 st1 f1 => forAfter cfg cv i v ixv hc body n l1 st1 f1
        | .brk l1 st1 f1 => .norm l1 st1 f1
        | o => o := by
  cases hc <;> rfl

theorem loopW_fuel (cv : CallAt W) (c : Expr) (body : Nat → Option Env → State W → TOut W)
    (hb : ∀ f l st, Bounded true f (body f l st)) :
    ∀ n f l st, (loopW cfg cv c body n f l st).Fuel (· ≤ f) (fun _ => False)
  | 0, _, _, _ => trivial
  | n+1, f, l, st => by
      have hb1 := hb f l st
      unfold loopW
      generalize body f l st = o at hb1 ⊢
      cases o with
      | norm l1 st1 f1 =>
        refine fuel_stmtCond cfg cv c f1 l1 st1 _ fun t f2 st2 h2 => ?_
        cases t
        · exact fuel_stmtSkip cfg f2 l1 st2 fun f3 h3 => Nat.le_of_lt (Nat.lt_of_lt_of_le (Nat.lt_trans h3 h2) hb1)
        · exact (loopW_fuel cv c body hb n f2 l1 st2).mono
            (fun f3 h3 => Nat.le_trans h3 (Nat.le_of_lt (Nat.lt_of_lt_of_le h2 hb1))) fun _ h => h
      | brk l1 st1 f1 => exact Nat.le_of_lt hb1.2
      | cont l1 st1 f1 =>
        exact (loopW_fuel cv c body hb n f1 l1 st1).mono (fun f3 h3 => Nat.le_trans h3 (Nat.le_of_lt hb1.2)) fun _ h => h
      | ret v st1 => trivial
      | err e st1 => trivial
      | oof => trivial

theorem loopF_fuel (cv : CallAt W) (i : Nat) (v ixv : Name) (hc : Bool) (body : Nat → Option Env → State W → TOut W)
    (hb : ∀ f l st, Bounded true f (body f l st)) :
    ∀ n f l st, (loopF cfg cv i v ixv hc body n f l st).Fuel (· ≤ f) (fun _ => False)
  | 0, _, _, _ => trivial
  | n+1, f, l, st => by
      have hafter : ∀ l2 st2 f2, (forAfter cfg cv i v ixv hc body n l2 st2 f2).Fuel (· ≤ f2) (fun _ => False) :=
        fun l2 st2 f2 =>
          fuel_andThen (fuel_stmtExpr (pn := (· ≤ f2)) cfg cv _ _ f2 l2 st2 fun _ h => Nat.le_of_lt h) fun l3 st3 f3 h3 =>
            fuel_stmtCond cfg cv _ f3 l3 st3 _ fun t f4 st4 h4 => by
              cases t
              · exact fuel_stmtSkip cfg f4 l3 st4 fun f5 h5 => Nat.le_of_lt (Nat.lt_of_lt_of_le (Nat.lt_trans h5 h4) h3)
              · exact (loopF_fuel cv i v ixv hc body hb n f4 l3 st4).mono
                  (fun f5 h5 => Nat.le_trans h5 (Nat.le_of_lt (Nat.lt_of_lt_of_le h4 h3))) fun _ h => h
      rw [loopF_succ]
      refine fuel_andThen (fuel_stmtExpr (pn := (· ≤ f)) cfg cv _ _ f l st fun _ h => Nat.le_of_lt h) fun l0 st0 f0 h0 => ?_
      have hb1 := hb f0 l0 st0
      generalize body f0 l0 st0 = o at hb1 ⊢
      cases o with
      | norm l1 st1 f1 =>
        have h1 : f1 ≤ f := Nat.le_trans hb1 h0
        cases hc
        · exact (hafter l1 st1 f1).mono (fun _ h => Nat.le_trans h h1) fun _ h => h
        · exact fuel_andThen (fuel_stmtSkip (pn := (· ≤ f)) cfg f1 l1 st1 fun _ h => Nat.le_trans (Nat.le_of_lt h) h1)
            fun l2 st2 f2 h2 => (hafter l2 st2 f2).mono (fun _ h => Nat.le_trans h h2) fun _ h => h
      | cont l1 st1 f1 =>
        exact (hafter l1 st1 f1).mono (fun _ h => Nat.le_trans h (Nat.le_trans (Nat.le_of_lt hb1.2) h0)) fun _ h => h
      | brk l1 st1 f1 => exact Nat.le_trans (Nat.le_of_lt hb1.2) h0
      | ret v st1 => trivial
      | err e st1 => trivial
      | oof => trivial

section
variable (cv : CallAt W) (ei : InclAt W)

theorem execT_fuel :
    (∀ s il i f l base st, Bounded il f (execTS cfg cv ei il s i f l base st)) ∧
    (∀ B il i f l base st, Bounded il f (execTB cfg cv ei il B i f l base st)) ∧
    (∀ e il i f l base st, Bounded il f (execTE cfg cv ei il e i f l base st)) :=
  syntax_induct
    (expr := fun n e il i f l base st => by unfold execTS; exact fuel_stmtExpr cfg cv n e f l st fun _ h => Nat.le_of_lt h)
    (ret := fun e il i f l base st => by
      unfold execTS
      cases e with
      | none => exact fuel_tick cfg f st _ fun _ _ _ => trivial
      | some e =>
        refine fuel_tick cfg f st _ fun f' st1 _ => ?_
        cases evalExpr cfg (cv f') l e st1 <;> trivial)
    (ite := fun c t e hT hE il i f l base st => by
      rw [execTS_ite_seq]
      exact chainT_fuel cfg cv ei il c t e i f l base st (fun f st => hT il (i+1) f l base st) fun f st => hE il _ f l base st)
    (while_ := fun c b hB il i f l base st => by
      rw [execTS_while_seq]
      refine fuel_stmtCond cfg cv _ f l st _ fun tk f' st1 h => ?_
      cases tk
      · refine fuel_andThen (fuel_stmtSkip (pn := (· ≤ f)) cfg f' l st1 fun _ h' => Nat.le_of_lt (Nat.lt_trans h' h)) fun l2 st2 f2 h2 => ?_
        exact (loopW_fuel cfg cv c _ (fun f l s => hB true (i+1) f l base s) (f2+1) f2 l2 st2).mono
          (fun _ h => Nat.le_trans h h2) fun _ h => h.elim
      · exact Nat.le_of_lt h)
    (for_ := fun v ix vals b hB il i f l base st => by
      rw [execTS_for_seq]
      refine fuel_andThen (fuel_stmtExpr (pn := (· ≤ f)) cfg cv _ _ f l st fun _ h => Nat.le_of_lt h) fun l1 st1 f1 h1 => ?_
      refine fuel_andThen (fuel_stmtExpr (pn := (· ≤ f)) cfg cv _ _ f1 l1 st1 fun _ h => Nat.le_of_lt (Nat.lt_of_lt_of_le h h1)) fun l2 st2 f2 h2 => ?_
      refine fuel_stmtCond cfg cv _ f2 l2 st2 _ fun tk f3 st3 h3 => ?_
      cases tk
      · refine fuel_andThen (fuel_stmtExpr (pn := (· ≤ f)) cfg cv _ _ f3 l2 st3 fun _ h => Nat.le_of_lt (Nat.lt_of_lt_of_le (Nat.lt_trans h h3) h2)) fun l4 st4 f4 h4 => ?_
        refine fuel_andThen (fuel_stmtSkip (pn := (· ≤ f)) cfg f4 l4 st4 fun _ h => Nat.le_of_lt (Nat.lt_of_lt_of_le h h4)) fun l5 st5 f5 h5 => ?_
        exact (loopF_fuel cfg cv i v _ _ _ (fun f l s => hB true (i+1) f l base s) (f5+1) f5 l5 st5).mono
          (fun _ h => Nat.le_trans h h5) fun _ h => h.elim
      · exact Nat.le_trans (Nat.le_of_lt h3) h2)
    (brk := fun il i f l base st => by
      unfold execTS; cases il
      · exact Nat.le_refl f
      · rw [if_pos rfl]; exact fuel_tick cfg f st _ fun _ _ h => ⟨rfl, h⟩)
    (cont := fun il i f l base st => by
      unfold execTS; cases il
      · exact Nat.le_refl f
      · rw [if_pos rfl]; exact fuel_tick cfg f st _ fun _ _ h => ⟨rfl, h⟩)
    (func := fun fid n args laa isAsync b _ il i f l base st => by
      unfold execTS; exact fuel_tick cfg f st _ fun _ _ h => Nat.le_of_lt h)
    (label := fun _ il i f l base st => by unfold execTS; exact fuel_stmtSkip cfg f l st fun _ h => Nat.le_of_lt h)
    (jump := fun _ _ il i f l base st => by unfold execTS; trivial)
    (incl := fun incs il i f l base st => by
      unfold execTS; refine fuel_tick cfg f st _ fun f' st1 h => ?_
      cases ei f' base incs st1
      · exact Nat.le_of_lt h
      all_goals trivial)
    (nil := fun il i f l base st => by unfold execTB; exact Nat.le_refl f)
    (cons := fun s ss hS hB il i f l base st => by
      rw [execTB_cons_seq]
      exact fuel_andThen (hS il i f l base st) fun l1 st1 f1 h1 => (hB il _ f1 l1 base st1).mono h1)
    (none := fun il i f l base st => by unfold execTE; exact Nat.le_refl f)
    (els := fun b hB il i f l base st => by
      rw [execTE_els_seq]
      exact fuel_andThen (hB il i f l base st) fun l1 st1 f1 h1 =>
        fuel_stmtSkip cfg f1 l1 st1 fun f2 h2 => Nat.le_trans (Nat.le_of_lt h2) h1)
    (elif := fun c t e hT hE il i f l base st => by
      rw [execTE_elif_seq]
      exact chainT_fuel cfg cv ei il c t e i f l base st (fun f st => hT il (i+1) f l base st) fun f st => hE il _ f l base st)

theorem execTS_fuel (il : Bool) (s : SStmt) (i f : Nat) (l : Option Env) (base : Option String) (st : State W) :
    Bounded il f (execTS cfg cv ei il s i f l base st) := (execT_fuel cfg cv ei).1 s il i f l base st

theorem execTB_fuel (il : Bool) (B : List SStmt) (i f : Nat) (l : Option Env) (base : Option String) (st : State W) :
    Bounded il f (execTB cfg cv ei il B i f l base st) := (execT_fuel cfg cv ei).2.1 B il i f l base st

theorem execTE_fuel (il : Bool) (e : SElse) (i f : Nat) (l : Option Env) (base : Option String) (st : State W) :
    Bounded il f (execTE cfg cv ei il e i f l base st) := (execT_fuel cfg cv ei).2.2 e il i f l base st

end

theorem execTS_ok (cfg : Config W) (cv : CallAt W) (ei : InclAt W) (il : Bool) :
    ∀ (s : SStmt) (i f : Nat) (l : Option Env) (base : Option String) (st : State W),
      FuelOK f (execTS cfg cv ei il s i f l base st) :=
  fun s i f l base st => (execTS_fuel cfg cv ei il s i f l base st).fuelOK

theorem execTB_ok (cfg : Config W) (cv : CallAt W) (ei : InclAt W) (il : Bool) :
    ∀ (B : List SStmt) (i f : Nat) (l : Option Env) (base : Option String) (st : State W),
      FuelOK f (execTB cfg cv ei il B i f l base st) :=
  fun B i f l base st => (execTB_fuel cfg cv ei il B i f l base st).fuelOK

theorem execTE_ok (cfg : Config W) (cv : CallAt W) (ei : InclAt W) (il : Bool) :
    ∀ (e : SElse) (i f : Nat) (l : Option Env) (base : Option String) (st : State W),
      FuelOK f (execTE cfg cv ei il e i f l base st) :=
  fun e i f l base st => (execTE_fuel cfg cv ei il e i f l base st).fuelOK

theorem execTS_noBC (cv : CallAt W) (ei : InclAt W) :
    ∀ (s : SStmt) (i f : Nat) (l : Option Env) (base : Option String) (st : State W),
      NoBC (execTS cfg cv ei false s i f l base st) :=
  fun s i f l base st => (execTS_fuel cfg cv ei false s i f l base st).noBC

theorem execTB_noBC (cv : CallAt W) (ei : InclAt W) :
    ∀ (B : List SStmt) (i f : Nat) (l : Option Env) (base : Option String) (st : State W),
      NoBC (execTB cfg cv ei false B i f l base st) :=
  fun B i f l base st => (execTB_fuel cfg cv ei false B i f l base st).noBC

theorem execTE_noBC (cv : CallAt W) (ei : InclAt W) :
    ∀ (e : SElse) (i f : Nat) (l : Option Env) (base : Option String) (st : State W),
      NoBC (execTE cfg cv ei false e i f l base st) :=
  fun e i f l base st => (execTE_fuel cfg cv ei false e i f l base st).noBC

end C01
