import BareProofs.C10BreakFrame
import BareProofs.C10Ws

/-!
# C10 — a line broken with a trailing backslash at any inter-token blank, for every statement kind

`continuation_break_irrelevant` (`BareProofs/C10Ws.lean`) assumes that the statement pattern captures the same groups around
the blank run, and proves that for assignments only.  Here the lines are given by their tokens and blank runs (that is all
a line of a kind can be: the patterns are anchored), the frames of `BareProofs/C10BreakFrame.lean` apply, and no hypothesis
about the pattern is left, for any statement kind of the cascade; blank runs in the *statement part* of a line (outside the
expression) are covered as well.  `SameExpr` / `SameStmt`: the same expression / statement in two layouts.
`continuation_break_statement` is the summary and `continuation_break_irrelevant_<kind>` its instances; `layout_<kind>`
replaces all blank runs of the statement part of a kind at once.
-/

namespace C10
open Text Scan

/-! ## the same expression / the same statement in two layouts -/

-- left reducible, every unification of two `EqUpToColumn (parseExpr …) …` evaluates the parser to find the constructor
attribute [local irreducible] EqUpToColumn

/-- expression texts that differ only in their layout: a non-empty blank run outside string literals and bracketed names
replaced by another (`Gap`), other trailing blanks, other leading blanks — any number of times -/
inductive SameExpr : Chars → Chars → Prop
  | refl (e : Chars) : SameExpr e e
  | gap {ws ws' q e e' : Chars} (hws : allSpace ws = true) (hws' : allSpace ws' = true) (hne : ws ≠ []) (hne' : ws' ≠ [])
      (h : Gap ws ws' q e e') : SameExpr e e'
  | trail (e : Chars) {ws ws' : Chars} (hws : allSpace ws = true) (hws' : allSpace ws' = true) : SameExpr (e ++ ws) (e ++ ws')
  | lead {ws ws' : Chars} (e : Chars) (hws : allSpace ws = true) (hws' : allSpace ws' = true) : SameExpr (ws ++ e) (ws' ++ e)
  | trans {a b c : Chars} : SameExpr a b → SameExpr b c → SameExpr a c

/-- **The same expression in two layouts** parses to the same tree, or is rejected with the same error text. -/
theorem sameExpr_parse {e e' : Chars} (h : SameExpr e e') :
    EqUpToColumn (ExprParse.parseExpr (String.ofList e')) (ExprParse.parseExpr (String.ofList e)) := by
  induction h with
  | refl e => exact EqUpToColumn.refl _
  | gap hws hws' hne hne' h => exact (parseExpr_blank_stretch hws hws' hne hne' h).2
  | trail e hws hws' =>
    rw [parseExpr_trailing_blanks e _ hws, parseExpr_trailing_blanks e _ hws']; exact EqUpToColumn.refl _
  | lead e hws hws' =>
    exact (parseExpr_skips_leading_blanks _ e hws').trans (parseExpr_skips_leading_blanks _ e hws).symm
  | trans _ _ ih1 ih2 => exact ih2.trans ih1

example : SameExpr "a +  b ".toList "a + b".toList :=
  have g : SameExpr "a +  b".toList "a + b".toList :=
    .gap (ws := "  ".toList) (ws' := " ".toList) (q := "b".toList) (by decide_lit) (by decide_lit) (by simp)
    (by simp)
      (.cons 'a' rfl (.cons ' ' rfl (.cons '+' rfl .site)))
  .trans (.trail "a +  b".toList (ws := " ".toList) (ws' := []) (by decide_lit) (by decide +kernel)) (by simpa using g)

/-- **A frame in two layouts**: the same statement kind (`f`) written with other blank runs in the statement part
(`pre'`, `post'` — both frames) and the expression in another layout: same classified line up to the error column. -/
theorem frame_layout {pre post pre' post' : Chars} {ok : Chars → Bool} {f : Expr → Line} (h : IsFrame pre post ok f)
    (h' : IsFrame pre' post' ok f) {e e' : Chars} (he : ok e = true) (he' : ok e' = true) (hs : SameExpr e e') :
    EqUpToColumn (classifyL ExprParse.parseExpr (pre' ++ (e' ++ post'))) (classifyL ExprParse.parseExpr (pre ++ (e ++ post))) := by
  rw [h _ e he, h' _ e' he']
  exact EqUpToColumn.shift2 _ _ f (sameExpr_parse hs)

/-- two lines that are the same statement written in two layouts -/
inductive SameStmt : Chars → Chars → Prop
  /-- a statement with a captured expression (`if`/`elif`/`while`, `for`, `return e`, `jumpif`, assignment): two frames of
  the same kind, the expression in two layouts -/
  | frame {pre post pre' post' : Chars} {ok : Chars → Bool} {f : Expr → Line} (h : IsFrame pre post ok f)
      (h' : IsFrame pre' post' ok f) {e e' : Chars} (he : ok e = true) (he' : ok e' = true) (hs : SameExpr e e') :
      SameStmt (pre ++ (e ++ post)) (pre' ++ (e' ++ post'))
  /-- a statement without expression (`jump`, `else:`, `include`, function header, …): both lines are the statement `r`
  whatever the expression parser is -/
  | plain {l l' : Chars} (r : Line) (h : ∀ pe, classifyL pe l = .ok r) (h' : ∀ pe, classifyL pe l' = .ok r) : SameStmt l l'
  /-- an expression statement (call line): the line in two layouts -/
  | call {l l' : Chars} (h : isCallLine l = true) (h' : isCallLine l' = true) (hs : SameExpr l l') : SameStmt l l'

/-- with the two equations as goals of their own, literal texts are compared by evaluation, not by the unifier -/
theorem SameStmt.of_eq {a b a' b' : Chars} (ha : a = a') (hb : b = b') (h : SameStmt a b) : SameStmt a' b' :=
  ha ▸ hb ▸ h

/-- **The same statement in two layouts classifies identically**, up to the error column. -/
theorem sameStmt_classify {l l' : Chars} (h : SameStmt l l') :
    EqUpToColumn (classifyL ExprParse.parseExpr l') (classifyL ExprParse.parseExpr l) := by
  cases h with
  | frame h h' he he' hs => exact frame_layout h h' he he' hs
  | plain r h h' => rw [h, h']; exact EqUpToColumn.refl _
  | call h h' hs =>
    rw [classifyL_call _ h, classifyL_call _ h']
    exact (sameExpr_parse hs).map _

/-! ## line continuation -/

/-- **Summary: breaking a line at a blank run does not matter, for every statement kind.**  The logical line
`l = p ++ ws ++ q` (`ws` a non-empty blank run) and the two physical lines `p ws1 \ tr` / `ind q`: the line loop yields the
one logical line `p ++ " " ++ q`; if that is the same statement as `l` in another layout (`SameStmt`: every statement kind
with every blank run of its statement part, and every blank run of its expression outside string literals and bracketed
names — see the instances below), it classifies like `l`. -/
theorem continuation_break_statement (i ix : Nat) (p q ws ws1 tr ind : Chars) (rest : List Chars)
    (hp : rstripL p = p) (hq : stripL q = q) (hpc : isCommentL p = false) (hqc : isCommentL q = false)
    (hqb : contBody? q = none) (h1 : allSpace ws1 = true) (h2 : allSpace tr = true) (h3 : allSpace ind = true)
    (hs : SameStmt (p ++ ws ++ q) (p ++ ' ' :: q)) :
    loopL i ((p ++ ws1 ++ '\\' :: tr) :: (ind ++ q) :: rest) [] ix =
      emit (i, p ++ ' ' :: q) (loopL (i + 2) rest [] i) ∧
    EqUpToColumn (classifyL ExprParse.parseExpr (p ++ ' ' :: q)) (classifyL ExprParse.parseExpr (p ++ ws ++ q)) :=
  ⟨continuation_break_line i ix p q ws1 tr ind rest hp hq hpc hqc hqb h1 h2 h3, sameStmt_classify hs⟩

/-- a break inside the expression of the lines `pre e post`: the line `pre e1 ws qe post` broken after `e1` gives the
logical line `pre e1 " " qe post`, which classifies like the unbroken one -/
def BreakInExpr (pre post : Chars) (ok : Chars → Bool) : Prop :=
  ∀ (i ix : Nat) (e1 qe ws ws1 tr ind : Chars) (rest : List Chars),
    rstripL (pre ++ e1) = pre ++ e1 → stripL (qe ++ post) = qe ++ post →
    isCommentL (pre ++ e1) = false → isCommentL (qe ++ post) = false → contBody? (qe ++ post) = none →
    allSpace ws1 = true → allSpace tr = true → allSpace ind = true → allSpace ws = true → ws ≠ [] →
    ok (e1 ++ ws ++ qe) = true → ok (e1 ++ ' ' :: qe) = true → Gap ws [' '] qe (e1 ++ ws ++ qe) (e1 ++ ' ' :: qe) →
    loopL i ((pre ++ e1 ++ ws1 ++ '\\' :: tr) :: (ind ++ (qe ++ post)) :: rest) [] ix =
      emit (i, pre ++ e1 ++ ' ' :: (qe ++ post)) (loopL (i + 2) rest [] i) ∧
    EqUpToColumn (classifyL ExprParse.parseExpr (pre ++ e1 ++ ' ' :: (qe ++ post)))
      (classifyL ExprParse.parseExpr (pre ++ e1 ++ ws ++ (qe ++ post)))

/-- … **inside the expression** of any frame (`if`/`elif`/`while` header, `for`, `return`, `jumpif`, assignment).  No
hypothesis about the statement pattern: only decidable facts about the pieces. -/
theorem continuation_break_irrelevant_frame {pre post : Chars} {ok : Chars → Bool} {f : Expr → Line}
    (hf : IsFrame pre post ok f) : BreakInExpr pre post ok := by
  intro i ix e1 qe ws ws1 tr ind rest hp hq hpc hqc hqb h1 h2 h3 hws hne hok hok' hg
  refine continuation_break_statement i ix (pre ++ e1) (qe ++ post) ws ws1 tr ind rest hp hq hpc hqc hqb h1 h2 h3 ?_
  have e1' : pre ++ e1 ++ ws ++ (qe ++ post) = pre ++ ((e1 ++ ws ++ qe) ++ post) := by simp
  have e2' : pre ++ e1 ++ ' ' :: (qe ++ post) = pre ++ ((e1 ++ ' ' :: qe) ++ post) := by simp
  rw [e1', e2']
  exact .frame hf hf hok hok' (.gap hws (by decide) hne (by simp) hg)

theorem continuation_break_irrelevant_header (h : Header) (hh : h ∈ headers) {ind0 w1 w3 : Chars}
    (hi : allSpace ind0 = true) (hw1 : allSpace w1 = true) (hne : w1 ≠ []) (hw3 : allSpace w3 = true) :
    BreakInExpr (ind0 ++ (h.kw.toList ++ w1)) (':' :: w3) exprStart :=
  continuation_break_irrelevant_frame (frame_header h hh hi hw1 hne hw3)

theorem continuation_break_irrelevant_if {ind0 w1 w3 : Chars} (hi : allSpace ind0 = true) (hw1 : allSpace w1 = true)
    (hne : w1 ≠ []) (hw3 : allSpace w3 = true) : BreakInExpr (ind0 ++ ("if".toList ++ w1)) (':' :: w3) exprStart :=
  continuation_break_irrelevant_header ⟨"if", .ifBegin, .ifBegin⟩ (by simp [headers]) hi hw1 hne hw3

theorem continuation_break_irrelevant_elif {ind0 w1 w3 : Chars} (hi : allSpace ind0 = true) (hw1 : allSpace w1 = true)
    (hne : w1 ≠ []) (hw3 : allSpace w3 = true) : BreakInExpr (ind0 ++ ("elif".toList ++ w1)) (':' :: w3) exprStart :=
  continuation_break_irrelevant_header ⟨"elif", .elif, .elif⟩ (by simp [headers]) hi hw1 hne hw3

theorem continuation_break_irrelevant_while {ind0 w1 w3 : Chars} (hi : allSpace ind0 = true) (hw1 : allSpace w1 = true)
    (hne : w1 ≠ []) (hw3 : allSpace w3 = true) : BreakInExpr (ind0 ++ ("while".toList ++ w1)) (':' :: w3) exprStart :=
  continuation_break_irrelevant_header ⟨"while", .whileBegin, .whileBegin⟩ (by simp [headers]) hi hw1 hne hw3

theorem continuation_break_irrelevant_for {ind0 w1 v w4 w5 w6 : Chars} (mid : Option (Chars × Chars × Chars))
    (hi : allSpace ind0 = true) (hw1 : allSpace w1 = true) (hne1 : w1 ≠ []) (hv : isIdent v = true)
    (hm : forMidOK mid = true) (hw4 : allSpace w4 = true) (hne4 : w4 ≠ []) (hw5 : allSpace w5 = true) (hne5 : w5 ≠ [])
    (hw6 : allSpace w6 = true) :
    BreakInExpr (ind0 ++ ("for".toList ++ (w1 ++ (v ++ (forMid mid ++ (w4 ++ ("in".toList ++ w5))))))) (':' :: w6) nbStart :=
  continuation_break_irrelevant_frame (frame_for mid hi hw1 hne1 hv hm hw4 hne4 hw5 hne5 hw6)

theorem continuation_break_irrelevant_return {ind0 w1 : Chars} (hi : allSpace ind0 = true) (hw1 : allSpace w1 = true)
    (hne : w1 ≠ []) : BreakInExpr (ind0 ++ ("return".toList ++ w1)) [] retStart :=
  continuation_break_irrelevant_frame (frame_return hi hw1 hne)

theorem continuation_break_irrelevant_jumpif {ind0 w0 w1 nm w2 : Chars} (hi : allSpace ind0 = true)
    (hw0 : allSpace w0 = true) (hw1 : allSpace w1 = true) (hne : w1 ≠ []) (hid : isIdent nm = true)
    (hw2 : allSpace w2 = true) :
    BreakInExpr (ind0 ++ ("jumpif".toList ++ (w0 ++ ['(']))) (')' :: (w1 ++ (nm ++ w2))) (fun e => !e.isEmpty) :=
  continuation_break_irrelevant_frame (frame_jumpif hi hw0 hw1 hne hid hw2)

/-- `name = <expr>` broken inside the expression (as `continuation_break_irrelevant_assign`, the line given by its pieces) -/
theorem continuation_break_irrelevant_assign' {ind0 nm w1 w2 : Chars} (hi : allSpace ind0 = true) (hid : isIdent nm = true)
    (hw1 : allSpace w1 = true) (hw2 : allSpace w2 = true) :
    BreakInExpr (ind0 ++ (nm ++ (w1 ++ '=' :: w2))) [] nbStart :=
  continuation_break_irrelevant_frame (frame_assign hi hid hw1 hw2)

/-- `  while i <` + backslash / `\t arrayLength(a) && ok :`, compared with the unbroken line with three blanks -/
example := continuation_break_irrelevant_while (ind0 := "  ".toList) (w1 := " ".toList) (w3 := []) (by decide_lit)
  (by decide_lit)
  (by simp) (by decide +kernel) 7 0 "i <".toList "arrayLength(a) && ok ".toList "   ".toList " ".toList "".toList "\t ".toList []
  (by decide_lit) (by decide_lit) (by decide_lit) (by decide_lit) (by decide_lit)
  (by decide_lit) (by decide_lit) (by decide_lit) (by decide_lit) (by simp)
  (by decide_lit) (by decide_lit) (.cons 'i' rfl (.cons ' ' rfl (.cons '<' rfl .site)))

/-- `for v, i in arrayNew(1,` + backslash / `2):` -/
example := continuation_break_irrelevant_for (ind0 := []) (w1 := " ".toList) (v := "v".toList) (w4 := " ".toList)
  (w5 := " ".toList) (w6 := []) (some ([], " ".toList, "i".toList)) (by decide +kernel) (by decide_lit) (by simp)
  (by decide_lit) (by decide_lit)
  (by decide_lit) (by simp) (by decide_lit) (by simp) (by decide +kernel)
  0 0 "arrayNew(1,".toList "2)".toList "  ".toList "".toList "".toList "    ".toList []
  (by decide_lit) (by decide_lit) (by decide_lit) (by decide_lit) (by decide_lit)
  (by decide_lit) (by decide_lit) (by decide_lit) (by decide_lit) (by simp)
  (by decide_lit) (by decide_lit)
  (gap_of_topLevelAt _ _ _ 15 11 _ _ (by kernel_rfl) (List.append_assoc _ _ _) (by decide_lit))

/-- `return a +` + backslash / `b` and `jumpif (a &&` + backslash / `b) done` -/
example := continuation_break_irrelevant_return (ind0 := "\t".toList) (w1 := " ".toList) (by decide_lit)
  (by decide_lit) (by simp)
  0 0 "a +".toList "b".toList " ".toList "".toList "".toList "  ".toList []
  (by decide_lit) (by decide_lit) (by decide_lit) (by decide_lit) (by decide_lit)
  (by decide_lit) (by decide_lit) (by decide_lit) (by decide_lit) (by simp)
  (by decide_lit) (by decide_lit) (.cons 'a' rfl (.cons ' ' rfl (.cons '+' rfl .site)))
example := continuation_break_irrelevant_jumpif (ind0 := []) (w0 := " ".toList) (w1 := " ".toList) (nm := "done".toList)
  (w2 := []) (by decide +kernel) (by decide_lit) (by decide_lit) (by simp) (by decide_lit) (by decide +kernel)
  0 0 "a &&".toList "b".toList "  ".toList "".toList "".toList "  ".toList []
  (by decide_lit) (by decide_lit) (by decide_lit) (by decide_lit) (by decide_lit)
  (by decide_lit) (by decide_lit) (by decide_lit) (by decide_lit) (by simp)
  (by decide_lit) (by decide_lit) (.cons 'a' rfl (.cons ' ' rfl (.cons '&' rfl (.cons '&' rfl .site))))

theorem continuation_break_irrelevant_call (i ix : Nat) (p q ws ws1 tr ind : Chars) (rest : List Chars)
    (hp : rstripL p = p) (hq : stripL q = q) (hpc : isCommentL p = false) (hqc : isCommentL q = false)
    (hqb : contBody? q = none) (h1 : allSpace ws1 = true) (h2 : allSpace tr = true) (h3 : allSpace ind = true)
    (hws : allSpace ws = true) (hne : ws ≠ []) (hc : isCallLine (p ++ ws ++ q) = true)
    (hc' : isCallLine (p ++ ' ' :: q) = true) (hg : Gap ws [' '] q (p ++ ws ++ q) (p ++ ' ' :: q)) :
    loopL i ((p ++ ws1 ++ '\\' :: tr) :: (ind ++ q) :: rest) [] ix =
      emit (i, p ++ ' ' :: q) (loopL (i + 2) rest [] i) ∧
    EqUpToColumn (classifyL ExprParse.parseExpr (p ++ ' ' :: q)) (classifyL ExprParse.parseExpr (p ++ ws ++ q)) :=
  continuation_break_statement i ix p q ws ws1 tr ind rest hp hq hpc hqc hqb h1 h2 h3
    (.call hc hc' (.gap hws (by decide) hne (by simp) hg))

/-- `  systemLog('a  b',` + backslash / `1 + 2)`: an expression statement broken after a comma -/
example := continuation_break_irrelevant_call 0 0 "  systemLog('a  b',".toList "1 + 2)".toList "   ".toList "".toList "".toList
  "\t".toList [] (by decide_lit) (by decide_lit) (by decide_lit) (by decide_lit) (by decide_lit)
  (by decide_lit) (by decide_lit) (by decide_lit) (by decide_lit)
  (by simp) (by decide_lit) (by decide_lit)
  (gap_of_topLevelAt _ _ _ 28 19 _ _ (by kernel_rfl) (List.append_assoc _ _ _) (by decide_lit))

/-! ## blank runs in the statement part: one theorem per statement kind, all its sites at once -/

/-- **`if` / `elif` / `while`**: the indentation, the run after the keyword (non-empty), the run before the colon (may be
empty) and the run after the colon (may be empty) replaced by any others. -/
theorem layout_header (h : Header) (hh : h ∈ headers) {ind ind' w1 w1' w2 w2' w3 w3' e0 : Chars}
    (hi : allSpace ind = true) (hi' : allSpace ind' = true) (hw1 : allSpace w1 = true) (hw1' : allSpace w1' = true)
    (hne : w1 ≠ []) (hne' : w1' ≠ []) (hw2 : allSpace w2 = true) (hw2' : allSpace w2' = true)
    (hw3 : allSpace w3 = true) (hw3' : allSpace w3' = true) (he : exprStart e0 = true) :
    EqUpToColumn (classifyL ExprParse.parseExpr ((ind' ++ (h.kw.toList ++ w1')) ++ ((e0 ++ w2') ++ ':' :: w3')))
      (classifyL ExprParse.parseExpr ((ind ++ (h.kw.toList ++ w1)) ++ ((e0 ++ w2) ++ ':' :: w3))) :=
  frame_layout (frame_header h hh hi hw1 hne hw3) (frame_header h hh hi' hw1' hne' hw3') (exprStart_append he _)
    (exprStart_append he _) (.trail e0 hw2 hw2')

/-- **`for`**: the runs after `for`, before `in`, after `in` (non-empty), around the comma, before and after the colon
(may be empty). -/
theorem layout_for {ind ind' w1 w1' v w4 w4' w5 w5' w2 w2' w6 w6' e0 : Chars} (mid mid' : Option (Chars × Chars × Chars))
    (hmm : mid.map (fun m => m.2.2) = mid'.map (fun m => m.2.2))
    (hi : allSpace ind = true) (hi' : allSpace ind' = true) (hw1 : allSpace w1 = true) (hw1' : allSpace w1' = true)
    (hne1 : w1 ≠ []) (hne1' : w1' ≠ []) (hv : isIdent v = true) (hm : forMidOK mid = true) (hm' : forMidOK mid' = true)
    (hw4 : allSpace w4 = true) (hw4' : allSpace w4' = true) (hne4 : w4 ≠ []) (hne4' : w4' ≠ [])
    (hw5 : allSpace w5 = true) (hw5' : allSpace w5' = true) (hne5 : w5 ≠ []) (hne5' : w5' ≠ [])
    (hw2 : allSpace w2 = true) (hw2' : allSpace w2' = true) (hw6 : allSpace w6 = true) (hw6' : allSpace w6' = true)
    (he : nbStart e0 = true) :
    EqUpToColumn
      (classifyL ExprParse.parseExpr ((ind' ++ ("for".toList ++ (w1' ++ (v ++ (forMid mid' ++ (w4' ++ ("in".toList ++ w5'))))))) ++
        ((e0 ++ w2') ++ ':' :: w6')))
      (classifyL ExprParse.parseExpr ((ind ++ ("for".toList ++ (w1 ++ (v ++ (forMid mid ++ (w4 ++ ("in".toList ++ w5))))))) ++
        ((e0 ++ w2) ++ ':' :: w6))) := by
  have f' := frame_for mid' hi' hw1' hne1' hv hm' hw4' hne4' hw5' hne5' hw6'
  rw [← hmm] at f'
  exact frame_layout (frame_for mid hi hw1 hne1 hv hm hw4 hne4 hw5 hne5 hw6) f' (nbStart_append he _)
    (nbStart_append he _) (.trail e0 hw2 hw2')

theorem layout_return {ind ind' w1 w1' e : Chars} (hi : allSpace ind = true) (hi' : allSpace ind' = true)
    (hw1 : allSpace w1 = true) (hw1' : allSpace w1' = true) (hne : w1 ≠ []) (hne' : w1' ≠ []) (he : retStart e = true) :
    EqUpToColumn (classifyL ExprParse.parseExpr ((ind' ++ ("return".toList ++ w1')) ++ (e ++ [])))
      (classifyL ExprParse.parseExpr ((ind ++ ("return".toList ++ w1)) ++ (e ++ []))) :=
  frame_layout (frame_return hi hw1 hne) (frame_return hi' hw1' hne') he he (.refl e)

/-- **`jumpif (e) label`**: the run between `jumpif` and `(` (may be empty), between `)` and the label (non-empty), after
the label. -/
theorem layout_jumpif {ind ind' w0 w0' w1 w1' nm w2 w2' e : Chars} (hi : allSpace ind = true) (hi' : allSpace ind' = true)
    (hw0 : allSpace w0 = true) (hw0' : allSpace w0' = true) (hw1 : allSpace w1 = true) (hw1' : allSpace w1' = true)
    (hne : w1 ≠ []) (hne' : w1' ≠ []) (hid : isIdent nm = true) (hw2 : allSpace w2 = true) (hw2' : allSpace w2' = true)
    (he : e ≠ []) :
    EqUpToColumn
      (classifyL ExprParse.parseExpr ((ind' ++ ("jumpif".toList ++ (w0' ++ ['(']))) ++ (e ++ ')' :: (w1' ++ (nm ++ w2')))))
      (classifyL ExprParse.parseExpr ((ind ++ ("jumpif".toList ++ (w0 ++ ['(']))) ++ (e ++ ')' :: (w1 ++ (nm ++ w2))))) := by
  have hee : (!e.isEmpty) = true := by cases e with
    | nil => exact absurd rfl he
    | cons _ _ => rfl
  exact frame_layout (frame_jumpif hi hw0 hw1 hne hid hw2) (frame_jumpif hi' hw0' hw1' hne' hid hw2') hee hee (.refl e)

theorem layout_assign {ind ind' nm w1 w1' w2 w2' e : Chars} (hi : allSpace ind = true) (hi' : allSpace ind' = true)
    (hid : isIdent nm = true) (hw1 : allSpace w1 = true) (hw1' : allSpace w1' = true) (hw2 : allSpace w2 = true)
    (hw2' : allSpace w2' = true) (he : nbStart e = true) :
    EqUpToColumn (classifyL ExprParse.parseExpr ((ind' ++ (nm ++ (w1' ++ '=' :: w2'))) ++ (e ++ [])))
      (classifyL ExprParse.parseExpr ((ind ++ (nm ++ (w1 ++ '=' :: w2))) ++ (e ++ []))) :=
  frame_layout (frame_assign hi hid hw1 hw2) (frame_assign hi' hid hw1' hw2') he he (.refl e)

/-- **`[async] function name(params[...]):`**: every run replaced (the one after `function` non-empty, all others may be
empty), same names: the classified line is *equal*.  (`jump`, `else:`, `include`: `classifyL_jump`, `classifyL_else`,
`classifyL_include(_system)` state the result outright — it does not mention the blank runs.) -/
theorem layout_function (pe : String → Except ParseErr Expr) {ind ind' w1 w1' nm w2 w2' w3 w3' w4 w4' w5 w5' w6 w6' w7 w7' : Chars}
    (asy asy' : Option Chars) (args args' : Option (Chars × List (Chars × Chars × Chars))) (dots : Bool)
    (hasync : asy.isSome = asy'.isSome) (hnames : argNames args = argNames args')
    (hi : allSpace ind = true) (hi' : allSpace ind' = true)
    (hasy : ∀ w0, asy = some w0 → allSpace w0 = true) (hasy' : ∀ w0, asy' = some w0 → allSpace w0 = true)
    (hw1 : allSpace w1 = true) (hw1' : allSpace w1' = true) (hne1 : w1 ≠ []) (hne1' : w1' ≠ []) (hid : isIdent nm = true)
    (hw2 : allSpace w2 = true) (hw2' : allSpace w2' = true) (hw3 : allSpace w3 = true) (hw3' : allSpace w3' = true)
    (ha : argsOK args = true) (ha' : argsOK args' = true) (hw4 : allSpace w4 = true) (hw4' : allSpace w4' = true)
    (hw5 : allSpace w5 = true) (hw5' : allSpace w5' = true) (hw6 : allSpace w6 = true) (hw6' : allSpace w6' = true)
    (hw7 : allSpace w7 = true) (hw7' : allSpace w7' = true) :
    classifyL pe (ind' ++ (asyncText asy' ++ ("function".toList ++ (w1' ++ (nm ++ fnRest w2' w3' args' w4' dots w5' w6' w7'))))) =
      classifyL pe (ind ++ (asyncText asy ++ ("function".toList ++ (w1 ++ (nm ++ fnRest w2 w3 args w4 dots w5 w6 w7))))) := by
  rw [classifyL_function pe asy args dots hi hasy hw1 hne1 hid hw2 hw3 ha hw4 hw5 hw6 hw7,
    classifyL_function pe asy' args' dots hi' hasy' hw1' hne1' hid hw2' hw3' ha' hw4' hw5' hw6' hw7', hasync, hnames]

/-! ### breaks in the statement part -/

/-- `if` + backslash / `x > 1 :` against `if   x > 1 :` — the break between the keyword and the condition -/
example := continuation_break_statement 0 0 "if".toList "x > 1 :".toList "   ".toList "".toList "".toList "  ".toList []
  (by decide_lit) (by decide_lit) (by decide_lit) (by decide_lit) (by decide_lit)
  (by decide_lit) (by decide_lit) (by decide_lit)
  (.of_eq (by decide_lit) (by decide_lit) <|
    SameStmt.frame (pre := [] ++ ("if".toList ++ "   ".toList)) (post := ':' :: [])
      (pre' := [] ++ ("if".toList ++ " ".toList)) (post' := ':' :: []) (e := "x > 1 ".toList) (e' := "x > 1 ".toList)
      (frame_header ⟨"if", .ifBegin, .ifBegin⟩ (by simp [headers]) (by decide +kernel) (by decide_lit) (by simp)
        (by decide +kernel))
      (frame_header ⟨"if", .ifBegin, .ifBegin⟩ (by simp [headers]) (by decide +kernel) (by decide_lit) (by simp)
        (by decide +kernel))
      (by decide_lit) (by decide_lit) (.refl _))

/-- `for v ,` + backslash / `i in a:` — the break after the comma of a `for` header -/
example := continuation_break_statement 0 0 "for v ,".toList "i in a:".toList "\t".toList "".toList "".toList "  ".toList []
  (by decide_lit) (by decide_lit) (by decide_lit) (by decide_lit) (by decide_lit)
  (by decide_lit) (by decide_lit) (by decide_lit)
  (.of_eq (by decide_lit) (by decide_lit) <|
    SameStmt.frame (post := ':' :: []) (post' := ':' :: []) (e := "a".toList) (e' := "a".toList)
      (frame_for (ind := []) (w1 := " ".toList) (v := "v".toList) (w4 := " ".toList) (w5 := " ".toList)
        (some (" ".toList, "\t".toList, "i".toList)) (by decide +kernel) (by decide_lit) (by simp)
        (by decide_lit) (by decide_lit) (by decide_lit) (by simp) (by decide_lit) (by simp)
        (by decide +kernel))
      (frame_for (ind := []) (w1 := " ".toList) (v := "v".toList) (w4 := " ".toList) (w5 := " ".toList)
        (some (" ".toList, " ".toList, "i".toList)) (by decide +kernel) (by decide_lit) (by simp)
        (by decide_lit) (by decide_lit) (by decide_lit) (by simp) (by decide_lit) (by simp)
        (by decide +kernel))
      (by decide_lit) (by decide_lit) (.refl _))

/-- `jumpif (x)` + backslash / `done` and `function ff(a,` + backslash / `b...):` — statements without / outside the expression -/
example := continuation_break_statement 0 0 "jumpif (x)".toList "done".toList "  ".toList "".toList "".toList " ".toList []
  (by decide_lit) (by decide_lit) (by decide_lit) (by decide_lit) (by decide_lit)
  (by decide_lit) (by decide_lit) (by decide_lit)
  (.of_eq (by decide_lit) (by decide_lit) <|
    SameStmt.frame (e := "x".toList) (e' := "x".toList)
      (frame_jumpif (ind := []) (w0 := " ".toList) (w1 := "  ".toList) (nm := "done".toList) (w2 := [])
        (by decide +kernel) (by decide_lit) (by decide_lit) (by simp) (by decide_lit) (by decide +kernel))
      (frame_jumpif (ind := []) (w0 := " ".toList) (w1 := " ".toList) (nm := "done".toList) (w2 := [])
        (by decide +kernel) (by decide_lit) (by decide_lit) (by simp) (by decide_lit) (by decide +kernel))
      (by decide_lit) (by decide_lit) (.refl _))
example := continuation_break_statement 0 0 "function ff(a,".toList "b...):".toList "   ".toList "".toList "".toList " ".toList []
  (by decide_lit) (by decide_lit) (by decide_lit) (by decide_lit) (by decide_lit)
  (by decide_lit) (by decide_lit) (by decide_lit)
  (.of_eq (by decide_lit) (by decide_lit) <|
    SameStmt.plain (.funcBegin (nameOf "ff".toList) [nameOf "a".toList, nameOf "b".toList] true false)
      (fun pe => classifyL_function pe (ind := []) (w1 := " ".toList) (nm := "ff".toList) (w2 := []) (w3 := []) (w4 := [])
        (w5 := []) (w6 := []) (w7 := []) none (some ("a".toList, [([], "   ".toList, "b".toList)])) true
        (by decide +kernel) (by simp) (by decide_lit) (by simp) (by decide_lit) (by decide +kernel)
        (by decide +kernel) (by decide_lit) (by decide +kernel) (by decide +kernel) (by decide +kernel)
        (by decide +kernel))
      (fun pe => classifyL_function pe (ind := []) (w1 := " ".toList) (nm := "ff".toList) (w2 := []) (w3 := []) (w4 := [])
        (w5 := []) (w6 := []) (w7 := []) none (some ("a".toList, [([], " ".toList, "b".toList)])) true
        (by decide +kernel) (by simp) (by decide_lit) (by simp) (by decide_lit) (by decide +kernel)
        (by decide +kernel) (by decide_lit) (by decide +kernel) (by decide +kernel) (by decide +kernel)
        (by decide +kernel)))

/-! ## where a blank is NOT allowed, and where the length of a run matters -/

/-- inside a keyword, inside a name, between `jump` and `if`, between the dots of `...`, between `return` / `include` and
what follows when there is *no* blank (the patterns have `\s+` there): the statement changes -/
example : shape "if x:".toList = .ifBegin 3 "x".toList ∧ shape "i f x:".toList = .exprStmt := by decide_lit
example : shape "ab = 1".toList = .assign "ab".toList 5 "1".toList ∧ shape "a b = 1".toList = .exprStmt := by decide_lit
example : shape "jumpif (x) done".toList = .jump "done".toList (some (8, "x".toList)) ∧
    shape "jumpif(x) done".toList = .jump "done".toList (some (7, "x".toList)) ∧
    shape "jump if (x) done".toList = .exprStmt := by decide_lit
example : shape "function ff(a ...):".toList = .funcBegin "ff".toList ["a".toList] true false ∧
    shape "function ff(a.. .):".toList = .exprStmt := by decide_lit
example : shape "return (x)".toList = .ret (some (7, "(x)".toList)) ∧ shape "return(x)".toList = .exprStmt ∧
    shape "include 'a'".toList = .include "a".toList false ∧ shape "include'a'".toList = .exprStmt := by decide_lit
/-- inside the quotes of an `include` a blank run is part of the URL -/
example : shape "include 'a  b'".toList = .include "a  b".toList false ∧
    shape "include 'a b'".toList = .include "a b".toList false := by decide_lit
/-- the one place where the *length* of a run matters: a header with an empty condition.  `if  :` (two blanks) is an `if`
whose expression text is one blank (a syntax error), `if :` is the label `if`.  (`frame_header` excludes it: the
expression text must start with a non-blank.)  Breaking `if :` itself at its blank gives `if :` again. -/
example : shape "if  :".toList = .ifBegin 3 " ".toList ∧ shape "if :".toList = .label "if".toList := by decide_lit
/-- an expression that starts with `=` after a keyword is an assignment to a variable of that name (`exprStart`) -/
example : shape "if = 1:".toList = .assign "if".toList 5 "1:".toList ∧ shape "return :".toList = .label "return".toList := by decide_lit

end C10
