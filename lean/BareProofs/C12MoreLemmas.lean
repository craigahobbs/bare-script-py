import BareProofs.C12
import BareModel.LibH2
import Mathlib.Data.Rat.Floor
import Mathlib.Data.Rat.Lemmas

/-!
# C12More — lemmas: host primitives of `LibH2` commute with forgetting the spelling
-/

namespace C12More
open LibH LibH2 C12

theorem pyCmp_abs (a b : PyNum) : pyCmp a b = ratCmp a.abs b.abs := by
  cases a <;> cases b
  · exact congrArg₂ tri (lt_intCast _ _) (beq_intCast _ _)
  all_goals rfl

/-- As for `eqFuel`: only `num`/`num`, `arr`/`arr` and `obj`/`obj` look at numbers. -/
theorem cmpFuel_abs : ∀ (f : Nat) (a b : HVal),
    cmpFuel pyCmp f a b = cmpFuel ratCmp f (absV a) (absV b) := by
  intro f
  induction f with
  | zero => intro a b; rfl
  | succ f ih =>
    have ih' : cmpFuel pyCmp f = fun a b => cmpFuel ratCmp f (absV a) (absV b) := by
      funext a b; exact ih a b
    intro a b
    cases a with
    | num x => cases b with
      | num y => exact pyCmp_abs x y
      | _ => rfl
    | arr xs => cases b with
      | arr ys => simp only [cmpFuel, absV_arr, List.length_map, List.zipWith_map, ih']
      | _ => rfl
    | obj p => cases b with
      | obj q => simp only [cmpFuel, absV_obj, sortKV_map, List.length_map, List.zipWith_map, ih']
      | _ => rfl
    | _ => cases b <;> rfl

/-- `value_compare(a, b)` depends only on the values, at every depth. -/
theorem cmp_abs (a b : HVal) : valCmp pyCmp a b = valCmp ratCmp (absV a) (absV b) := by
  simp only [valCmp, cmpFuel_abs, absV, size_map]


theorem list1_map {α β : Type} (f : α → β) (v : List α) : list1 (v.map f) = (list1 v).map f := by
  rcases v with _ | ⟨a, _ | ⟨b, t⟩⟩ <;> rfl

theorem list7_map {α β : Type} (f : α → β) (v : List α) :
    list7 (v.map f) = (list7 v).map (fun p => (f p.1, f p.2.1, f p.2.2.1, f p.2.2.2.1, f p.2.2.2.2.1, f p.2.2.2.2.2.1, f p.2.2.2.2.2.2)) := by
  rcases v with _ | ⟨a, _ | ⟨b, _ | ⟨c, _ | ⟨d, _ | ⟨e, _ | ⟨g, _ | ⟨h, _ | ⟨i, t⟩⟩⟩⟩⟩⟩⟩⟩ <;> rfl

theorem asBool_abs (a : HVal) : (absV a).asBool? = a.asBool?.map id := by cases a <;> rfl

theorem arrayCopy_ref (v : List HVal) : absB (arrayCopyG v) = arrayCopyG (v.map absV) := by
  refine bind_ref (req_ref (list1_map absV v)) fun a => ?_
  exact bind_ref (req_ref (asArr_abs a)) fun xs => congrArg (fun a => Except.ok (a, none)) (absV_arr xs)

theorem arrayPush_ref (v : List HVal) : absB (arrayPushG v) = arrayPushG (v.map absV) := by
  refine bind_ref (req_ref (list2_map absV v)) fun (a, b) => ?_
  refine bind_ref (req_ref (asArr_abs a)) fun xs => ?_
  refine bind_ref (req_ref (asArr_abs b)) fun ys => ?_
  rw [← List.map_append, ← absV_arr]; rfl

/-- `arrayExtend` is `arrayPush` on the validated argument list -/
theorem arrayExtend_ref (v : List HVal) : absB (arrayExtendG v) = arrayExtendG (v.map absV) := arrayPush_ref v

theorem arrayLength_ref (v : List HVal) :
    absB (arrayLengthG PyNum.int v) = arrayLengthG (fun (n : Int) => (n : Rat)) (v.map absV) := by
  refine bind_ref (req_ref (list1_map absV v)) fun a => ?_
  refine bind_ref (req_ref (asArr_abs a)) fun xs => ?_
  rw [List.length_map]; rfl

theorem stringLength_ref (v : List HVal) :
    absB (stringLengthG PyNum.int v) = stringLengthG (fun (n : Int) => (n : Rat)) (v.map absV) := by
  refine bind_ref (req_ref (list1_map absV v)) fun a => ?_
  exact bind_ref (req_ref (asStr_abs a)) fun s => rfl

theorem arrayNew_ref (v : List HVal) : absB (arrayNewG v) = arrayNewG (v.map absV) :=
  congrArg (fun a => Except.ok (a, none)) (absV_arr v)

theorem arrayPop_ref (v : List HVal) : absB (arrayPopG v) = arrayPopG (v.map absV) := by
  refine bind_ref (req_ref (list1_map absV v)) fun a => ?_
  refine bind_ref (req_ref (asArr_abs a)) fun xs => ?_
  rw [List.getLast?_map, ← List.map_dropLast]
  cases xs.getLast? <;> rfl

theorem arrayShift_ref (v : List HVal) : absB (arrayShiftG v) = arrayShiftG (v.map absV) := by
  refine bind_ref (req_ref (list1_map absV v)) fun a => ?_
  refine bind_ref (req_ref (asArr_abs a)) fun xs => ?_
  cases xs <;> rfl

/-- an integer inside the quantifier of C12: |n| < 1e15 -/
def smallInt (n : Int) : Prop := -(10 ^ 15 : Int) < n ∧ n < (10 ^ 15 : Int)

instance (n : Int) : Decidable (smallInt n) := inferInstanceAs (Decidable (_ ∧ _))

/-- what is assumed of the abstract host functions: rounding is idempotent, the truncation of a double is a double, `10^k` is a
    double for `k ≤ 22` (the F15 boundary), an integer below 1e15 is a double and prints the same as a float and as an int. -/
structure Sane (E : Env) : Prop where
  rnd_idem : ∀ q, E.rnd (E.rnd q) = E.rnd q
  rnd_trunc : ∀ q, E.rnd ((ratTrunc (E.rnd q) : Int) : Rat) = ((ratTrunc (E.rnd q) : Int) : Rat)
  rnd_pow10 : ∀ k : Nat, k ≤ 22 → E.rnd ((10 : Rat) ^ k) = (10 : Rat) ^ k
  rnd_int : ∀ n : Int, smallInt n → E.rnd (n : Rat) = (n : Rat)
  text_int : ∀ n : Int, smallInt n → E.floatText (n : Rat) = intText n

/-- a host number the rounding model may be applied to: a small int, or a float that holds a double -/
def NumOk (E : Env) : PyNum → Prop
  | .int n => smallInt n
  | .float q => E.rnd q = q

/-- an integral digit count 0..22 in either spelling -/
def DigitsOk (d : PyNum) : Prop := ((ratTrunc d.abs : Int) : Rat) = d.abs ∧ 0 ≤ ratTrunc d.abs ∧ ratTrunc d.abs ≤ 22

instance (d : PyNum) : Decidable (DigitsOk d) := inferInstanceAs (Decidable (_ ∧ _))

/-- a value whose text is taken directly: a host int must be small -/
def TextOk : HVal → Prop
  | .num (.int n) => smallInt n
  | _ => True

instance (v : HVal) : Decidable (TextOk v) := by
  cases v with
  | num x => cases x <;> simp only [TextOk] <;> exact inferInstance
  | _ => simp only [TextOk]; exact inferInstance

theorem valueString_abs (E : Env) (hE : Sane E) (v : HVal) (h : TextOk v) : valueStringH E v = valueStringA E (absV v) := by
  cases v with
  | num x =>
    cases x with
    | int n => simp only [valueStringH, numTextH, absV_num, valueStringA, abs_int]; exact (hE.text_int n h).symm
    | float q => rfl
  | arr xs => simp [valueStringH, valueStringA]
  | obj kvs => simp [valueStringH, valueStringA]
  | _ => rfl

theorem arrayJoin_ref (E : Env) (hE : Sane E) (v : List HVal)
    (hpre : ∀ a s xs, list2 v = some (a, s) → a.asArr? = some xs → ∀ x ∈ xs, TextOk x) :
    absB (arrayJoinH E v) = arrayJoinA E (v.map absV) := by
  refine bind_ref' (req_ref (list2_map absV v)) fun (a, s) hv => ?_
  refine bind_ref' (req_ref (asArr_abs a)) fun xs ha => ?_
  refine bind_ref (req_ref (asStr_abs s)) fun sep => ?_
  have hm : xs.map (valueStringH E) = (xs.map absV).map (valueStringA E) := by
    rw [List.map_map]
    exact List.map_congr_left fun x hx => valueString_abs E hE x (hpre a s xs (req_ok hv) (req_ok ha) x hx)
  exact congrArg (fun l => Except.ok (Val.str (sep.intercalate l), none)) hm

theorem stringNew_ref (E : Env) (hE : Sane E) (v : List HVal) (hpre : ∀ a, list1 v = some a → TextOk a) :
    absB (stringNewH E v) = stringNewA E (v.map absV) :=
  bind_ref' (req_ref (list1_map absV v)) fun a hv =>
    congrArg (fun t => Except.ok (Val.str t, none)) (valueString_abs E hE a (hpre a (req_ok hv)))

theorem systemCompare_ref (v : List HVal) : absB (systemCompareH v) = systemCompareA (v.map absV) :=
  bind_ref (req_ref (list2_map absV v)) fun (l, r) => congrArg (fun c => Except.ok (ofI c, none)) (cmp_abs l r)

theorem jsonStringify_ref (E : Env) (v : List HVal) : absB (jsonStringifyH E v) = jsonStringifyA E (v.map absV) := by
  refine bind_ref (req_ref (list2_map absV v)) fun (value, i) => ?_
  refine bind_ref (req_ref (asOptNum_abs i)) fun indent => ?_
  cases indent with
  | none => rfl
  | some x => simp only [Option.map_some, jsonH, hostE, toInt_abs]; rfl

theorem absH_abs (x : PyNum) : (absH x).abs = if x.abs < 0 then -x.abs else x.abs := by
  cases x with
  | float q => rfl
  | int n =>
    show ((n.natAbs : Int) : Rat) = if (n : Rat) < 0 then -(n : Rat) else (n : Rat)
    rw [Int.natCast_natAbs, Int.cast_abs]
    split
    · exact abs_of_neg ‹_›
    · exact abs_of_nonneg (not_lt.mp ‹_›)

theorem ceilH_abs (x : PyNum) : ceilH x = x.abs.ceil := by
  cases x
  · exact (Rat.ceil_intCast _).symm
  · rfl

theorem floorH_abs (x : PyNum) : floorH x = x.abs.floor := by
  cases x
  · exact (Rat.floor_intCast _).symm
  · rfl

theorem mathAbs_ref (v : List HVal) : absB (mathAbsH v) = mathAbsA (v.map absV) := by
  refine bind_ref (req_ref (list1_map absV v)) fun a => ?_
  exact bind_ref (req_ref (asNum_abs a)) fun x => congrArg (fun q => Except.ok (Val.num q, none)) (absH_abs x)

theorem mathCeil_ref (v : List HVal) : absB (mathCeilH v) = mathCeilA (v.map absV) := by
  refine bind_ref (req_ref (list1_map absV v)) fun a => ?_
  exact bind_ref (req_ref (asNum_abs a)) fun x => congrArg (fun k => Except.ok (ofI k, none)) (ceilH_abs x)

theorem mathFloor_ref (v : List HVal) : absB (mathFloorH v) = mathFloorA (v.map absV) := by
  refine bind_ref (req_ref (list1_map absV v)) fun a => ?_
  exact bind_ref (req_ref (asNum_abs a)) fun x => congrArg (fun k => Except.ok (ofI k, none)) (floorH_abs x)

theorem mathSign_ref (v : List HVal) : absB (mathSignH v) = mathSignA (v.map absV) := by
  refine bind_ref (req_ref (list1_map absV v)) fun a => ?_
  refine bind_ref (req_ref (asNum_abs a)) fun x => ?_
  rw [pyLtI_abs, pyEq_abs]; rfl

theorem extStep_abs (sign : Int) (res : Option HVal) (value : HVal) :
    (extStep pyCmp sign res value).map absV = extStep ratCmp sign (res.map absV) (absV value) := by
  cases res with
  | none => rfl
  | some r => simp only [extStep, Option.map_some, cmp_abs]; exact apply_ite (Option.map absV) _ _ _

theorem foldl_extStep_abs (sign : Int) (v : List HVal) (res : Option HVal) :
    (v.foldl (extStep pyCmp sign) res).map absV = (v.map absV).foldl (extStep ratCmp sign) (res.map absV) := by
  induction v generalizing res with
  | nil => rfl
  | cons a t ih => simp only [List.foldl_cons, List.map_cons, ih, extStep_abs]

theorem extremum_ref (sign : Int) (v : List HVal) : absB (extremumG pyCmp sign v) = extremumG ratCmp sign (v.map absV) := by
  have h : _ = (v.map absV).foldl (extStep ratCmp sign) none := foldl_extStep_abs sign v none
  rw [extremumG, extremumG, ← h]
  cases List.foldl (extStep pyCmp sign) none v <;> rfl

theorem roundNumber_ok (E : Env) (hE : Sane E) (x d : PyNum) (hx : NumOk E x) (hd : DigitsOk d) :
    roundNumberH E.rnd x d = roundNumberA E.rnd x.abs d.abs := by
  obtain ⟨h1, h2, h3⟩ := hd
  refine roundNumber_refines E.rnd x (ratTrunc d.abs) d h2 ?_ hE.rnd_idem hE.rnd_trunc (hE.rnd_pow10 _ (by omega)) ?_
  · cases d with
    | int n => exact .inl (congrArg PyNum.int (ratTrunc_intCast n).symm)
    | float q => exact .inr (congrArg PyNum.float h1.symm)
  · cases x with
    | int n => exact hE.rnd_int n hx
    | float q => exact hx

theorem mathRound_ref (E : Env) (hE : Sane E) (v : List HVal)
    (hpre : ∀ a d x dg, list2 v = some (a, d) → a.asNum? = some x → d.asNum? = some dg → NumOk E x ∧ DigitsOk dg) :
    absB (mathRoundH E v) = mathRoundA E (v.map absV) := by
  refine bind_ref' (req_ref (list2_map absV v)) fun (a, d) hv => ?_
  refine bind_ref' (req_ref (asNum_abs a)) fun x ha => ?_
  refine bind_ref' (req_ref (asNum_abs d)) fun dg hd => ?_
  obtain ⟨hx, hdg⟩ := hpre a d x dg (req_ok hv) (req_ok ha) (req_ok hd)
  exact congrArg (fun q => Except.ok (Val.num q, none)) (roundNumber_ok E hE x dg hx hdg)

theorem numberToFixed_ref (E : Env) (hE : Sane E) (v : List HVal)
    (hpre : ∀ a d t x dg, list3 v = some (a, d, t) → a.asNum? = some x → d.asNum? = some dg → NumOk E x ∧ DigitsOk dg) :
    absB (numberToFixedH E v) = numberToFixedA E (v.map absV) := by
  refine bind_ref' (req_ref (list3_map absV v)) fun (a, d, t) hv => ?_
  refine bind_ref' (req_ref (asNum_abs a)) fun x ha => ?_
  refine bind_ref' (req_ref (asNum_abs d)) fun dg hd => ?_
  refine bind_ref (req_ref (asBool_abs t)) fun trim => ?_
  obtain ⟨hx, hdg⟩ := hpre a d t x dg (req_ok hv) (req_ok ha) (req_ok hd)
  rw [← roundNumber_ok E hE x dg hx hdg, ← toInt_abs]; rfl

theorem addH_abs (a b : PyNum) : (addH a b).abs = a.abs + b.abs := by
  cases a <;> cases b
  · exact Int.cast_add _ _
  all_goals rfl

theorem subH_abs (a b : PyNum) : (subH a b).abs = a.abs - b.abs := by
  cases a <;> cases b
  · exact Int.cast_sub _ _
  all_goals rfl

theorem mulI_abs (a : PyNum) (k : Int) : (mulI a k).abs = a.abs * (k : Rat) := by
  cases a
  · exact Int.cast_mul _ _
  · rfl

theorem fdiv_cast (a k : Int) (hk : 0 < k) : ((Int.fdiv a k : Int) : Rat) = ((((a : Rat) / (k : Rat)).floor : Int) : Rat) := by
  obtain ⟨d, rfl⟩ := Int.eq_ofNat_of_zero_le (le_of_lt hk)
  have h := Rat.floor_intCast_div_natCast a d
  have h2 : ((a : Rat) / ((d : Int) : Rat)).floor = a / (d : Int) := by
    rw [← h]; simp only [Int.cast_natCast]; rfl
  rw [h2, Int.fdiv_eq_ediv_of_nonneg a (le_of_lt hk)]

theorem floorDivI_abs (x : PyNum) (k : Int) (hk : 0 < k) : (floorDivI x k).abs = floorDivA x.abs k := by
  cases x
  · exact fdiv_cast _ k hk
  · rfl

def abs2 (p : PyNum × PyNum) : Rat × Rat := (p.1.abs, p.2.abs)

def abs3 (t : PyNum × PyNum × PyNum) : Rat × Rat × Rat := (t.1.abs, t.2.1.abs, t.2.2.abs)

theorem carry_ref (x y : PyNum) (k : Int) (hk : 0 < k) : abs2 (carryH x y k) = carryA x.abs y.abs k := by
  simp only [carryH, carryA, pyLtI_abs]
  split
  · simp only [abs2, subH_abs, mulI_abs, addH_abs, floorDivI_abs _ _ hk]
  · rfl

theorem monthNorm_ref (y mo : PyNum) : abs2 (monthNormH y mo) = monthNormA y.abs mo.abs := by
  simp only [monthNormH, monthNormA, pyLtI_abs, pyLeI_abs]
  split
  · simp only [abs2, subH_abs, mulI_abs, addH_abs, floorDivI_abs _ _ (by decide : (0 : Int) < 12), abs_int]
  · rfl

theorem monthDays_ref (y m : PyNum) : monthDaysH y m = monthDaysA y.abs m.abs := by
  simp only [monthDaysH, monthDaysA, monthrangeH, toInt_abs]

theorem dayUp_ref : ∀ (f : Nat) (y m d : PyNum), (dayUpH f y m d).map abs3 = dayUpA f y.abs m.abs d.abs := by
  intro f
  induction f with
  | zero => intro y m d; rfl
  | succ f ih =>
    intro y m d
    simp only [dayUpH, dayUpA, pyLtI_abs]
    split
    · rw [monthDays_ref]
      simp only [apply_ite PyNum.abs, subH_abs, pyEq_abs, abs_int]
      generalize monthDaysA _ _ = r
      cases r with
      | error e => rfl
      | ok md => simp only [ih, apply_ite PyNum.abs, subH_abs, addH_abs, abs_int]
    · rfl

theorem dayDown_ref : ∀ (f : Nat) (y m d : PyNum) (md : Int),
    (dayDownH f y m d md).map abs3 = dayDownA f y.abs m.abs d.abs md := by
  intro f
  induction f with
  | zero => intro y m d md; rfl
  | succ f ih =>
    intro y m d md
    simp only [dayDownH, dayDownA, pyLeI_abs]
    split
    · rw [monthDays_ref]
      simp only [apply_ite PyNum.abs, addH_abs, pyEq_abs, abs_int]
      generalize monthDaysA _ _ = r
      cases r with
      | error e => rfl
      | ok md' => simp only [ih, apply_ite PyNum.abs, subH_abs, addH_abs, abs_int]
    · rfl

theorem dayAdjust_ref (y m d : PyNum) : (dayAdjustH y m d).map abs3 = dayAdjustA y.abs m.abs d.abs := by
  simp only [dayAdjustH, dayAdjustA, pyLtI_abs, pyLeI_abs, toInt_abs]
  split
  · exact dayUp_ref _ y m d
  · split
    · rw [monthDays_ref]
      cases monthDaysA y.abs m.abs with
      | error e => rfl
      | ok md => exact dayDown_ref _ y m d md
    · rfl

theorem mkDatetimeH_int (y mo d h mi s ms : Int) :
    mkDatetimeH [.int y, .int mo, .int d, .int h, .int mi, .int s, .int ms] = mkDatetimeA y mo d h mi s ms := rfl

theorem hostE_ref {α α' : Type} {f : α → α'} {r : Except HostErr α} {r' : Except HostErr α'} (h : r.map f = r') :
    absE f (hostE r) = hostE r' := by
  subst h; cases r <;> rfl

theorem datetimeCore_ref (year month day hour minute second millisecond : PyNum) :
    absB (datetimeCoreH true year month day hour minute second millisecond)
      = datetimeCoreA year.abs month.abs day.abs hour.abs minute.abs second.abs millisecond.abs := by
  have h1 := carry_ref millisecond second 1000 (by decide)
  have h2 := carry_ref (carryH millisecond second 1000).2 minute 60 (by decide)
  have h3 := carry_ref (carryH (carryH millisecond second 1000).2 minute 60).2 hour 60 (by decide)
  have h4 := carry_ref (carryH (carryH (carryH millisecond second 1000).2 minute 60).2 hour 60).2 day 24 (by decide)
  have hm := monthNorm_ref year month
  simp only [abs2, Prod.ext_iff] at h1 h2 h3 h4 hm
  unfold datetimeCoreH datetimeCoreA
  simp only [if_true]
  rw [← h1.1, ← h1.2, ← h2.1, ← h2.2, ← h3.1, ← h3.2, ← h4.1, ← h4.2, ← hm.1, ← hm.2]
  refine bind_ref (hostE_ref (dayAdjust_ref _ _ _)) fun (y, m, d) => ?_
  refine bind_ref (f := id) (hostE_ref ?_) fun _ => rfl
  rw [mkDatetimeH_int, Except.map_id]; simp only [toInt_abs]; rfl

theorem datetimeNew_ref (v : List HVal) : absB (datetimeNewH v) = datetimeNewA (v.map absV) := by
  refine bind_ref (req_ref (list7_map absV v)) fun (a1, a2, a3, a4, a5, a6, a7) => ?_
  refine bind_ref (req_ref (asNum_abs a1)) fun year => ?_
  refine bind_ref (req_ref (asNum_abs a2)) fun month => ?_
  refine bind_ref (req_ref (asNum_abs a3)) fun day => ?_
  refine bind_ref (req_ref (asNum_abs a4)) fun hour => ?_
  refine bind_ref (req_ref (asNum_abs a5)) fun minute => ?_
  refine bind_ref (req_ref (asNum_abs a6)) fun second => ?_
  refine bind_ref (req_ref (asNum_abs a7)) fun millisecond => ?_
  exact datetimeCore_ref year month day hour minute second millisecond

/-! ### on host ints `_datetime_new` is, step by step, the integer mirror of C16 (`Datetime.datetimeNewCore`) -/

theorem carryH_int (x y k : Int) :
    carryH (.int x) (.int y) k = (.int (Datetime.carry x y k).1, .int (Datetime.carry x y k).2) := by
  simp only [carryH, Datetime.carry, Datetime.pyFloorDiv, pyLtI, floorDivI, mulI, subH, addH, Bool.or_eq_true, decide_eq_true_eq,
    Bool.not_eq_true', decide_eq_false_iff_not, Int.not_lt, ge_iff_le]
  split <;> rfl

theorem monthNormH_int (y mo : Int) :
    monthNormH (.int y) (.int mo) = (.int (Datetime.monthNorm y mo).1, .int (Datetime.monthNorm y mo).2) := by
  simp only [monthNormH, Datetime.monthNorm, Datetime.pyFloorDiv, pyLtI, pyLeI, floorDivI, mulI, subH, addH, Bool.or_eq_true,
    decide_eq_true_eq, Bool.not_eq_true', decide_eq_false_iff_not, Int.not_le, gt_iff_lt]
  split <;> rfl

/-- an integer triple as host ints -/
def intT : Option (Int × Int × Int) → Except HostErr (PyNum × PyNum × PyNum)
  | some (y, m, d) => .ok (.int y, .int m, .int d)
  | none => .error .valueError

theorem dayUpH_int : ∀ (f : Nat) (y m d : Int), dayUpH f (.int y) (.int m) (.int d) = intT (Datetime.dayUp f y m d) := by
  intro f
  induction f with
  | zero => intro y m d; rfl
  | succ f ih =>
    intro y m d
    simp only [dayUpH, Datetime.dayUp, monthDaysH, monthrangeH, pyLtI, pyEq, subH, addH, ← apply_ite PyNum.int, toInt,
      decide_eq_true_eq, ne_eq, Bool.not_eq_true', beq_eq_false_iff_ne]
    by_cases hd : d < 1
    · rw [if_pos hd, if_pos hd]
      generalize Datetime.monthrange _ _ = r
      cases r with
      | none => rfl
      | some md => exact ih _ _ _
    · rw [if_neg hd, if_neg hd]; rfl

theorem dayDownH_int : ∀ (f : Nat) (y m d md : Int),
    dayDownH f (.int y) (.int m) (.int d) md = intT (Datetime.dayDown f y m d md) := by
  intro f
  induction f with
  | zero => intro y m d md; rfl
  | succ f ih =>
    intro y m d md
    simp only [dayDownH, Datetime.dayDown, monthDaysH, monthrangeH, pyLeI, pyEq, subH, addH, ← apply_ite PyNum.int, toInt,
      ne_eq, Bool.not_eq_true', beq_eq_false_iff_ne, decide_eq_false_iff_not, Int.not_le, gt_iff_lt]
    by_cases hd : md < d
    · rw [if_pos hd, if_pos hd]
      generalize Datetime.monthrange _ _ = r
      cases r with
      | none => rfl
      | some md' => exact ih _ _ _ _
    · rw [if_neg hd, if_neg hd]; rfl

theorem dayAdjustH_int (y m d : Int) : dayAdjustH (.int y) (.int m) (.int d) = intT (Datetime.dayAdjust y m d) := by
  simp only [dayAdjustH, Datetime.dayAdjust, monthDaysH, monthrangeH, pyLtI, pyLeI, toInt, decide_eq_true_eq, Bool.not_eq_true',
    decide_eq_false_iff_not, Int.not_le, gt_iff_lt]
  split
  · exact dayUpH_int _ y m d
  · split
    · cases Datetime.monthrange y m with
      | none => rfl
      | some md => exact dayDownH_int _ y m d md
    · rfl

/-- the result of `datetimeNew` for an integer tuple, from the integer mirror of C16 -/
def ofCore : Option Datetime.DT → Except (Fail Rat) (BodyR Rat)
  | some t => .ok (.opaque "datetime" (Datetime.toLocalMs t), none)
  | none => .error (.host .valueError)

theorem datetimeCoreH_int (y mo d h mi s ms : Int) :
    absB (datetimeCoreH true (.int y) (.int mo) (.int d) (.int h) (.int mi) (.int s) (.int ms))
      = ofCore (Datetime.datetimeNewCore y mo d h mi s ms) := by
  unfold datetimeCoreH Datetime.datetimeNewCore
  simp only [carryH_int, monthNormH_int, dayAdjustH_int, if_true]
  generalize Datetime.dayAdjust _ _ _ = r
  rcases r with _ | ⟨y', m', d'⟩
  · rfl
  · simp only [intT, hostE, bind, Except.bind, toInt, mkDatetimeH_int, mkDatetimeA, Datetime.construct]
    generalize Datetime.mkDT _ _ _ _ _ _ _ = t
    cases t <;> rfl

/-! ### `%`: C `fmod` + sign adjustment on two integers is Python's integer `%` -/

theorem trunc_div (a b : Int) (hb : b ≠ 0) : ratTrunc ((a : Rat) / (b : Rat)) = Int.tdiv a b := by
  obtain ⟨c, h1, h2⟩ := Rat.exists_eq_mul_div_num_and_eq_mul_div_den a hb
  unfold ratTrunc
  generalize ((a : Rat) / (b : Rat)) = q at h1 h2 ⊢
  have hc : c ≠ 0 := by
    intro h; rw [h] at h2; simp at h2; exact hb h2
  rw [h1, h2]
  rcases lt_or_gt_of_ne hc with hneg | hpos
  · obtain ⟨c', rfl⟩ : ∃ c', c = -c' := ⟨-c, by omega⟩
    rw [Int.neg_mul, Int.neg_mul, Int.neg_tdiv_neg, Int.mul_tdiv_mul_of_pos _ _ (by omega)]
  · rw [Int.mul_tdiv_mul_of_pos _ _ hpos]

theorem fmod_tmod (a b : Int) :
    Int.fmod a b = if Int.tmod a b = 0 then 0 else if (b < 0) ≠ (Int.tmod a b < 0) then Int.tmod a b + b else Int.tmod a b := by
  rw [Int.fmod_eq_tmod]
  by_cases hd : b ∣ a
  · rw [if_pos hd, if_pos (Int.dvd_iff_tmod_eq_zero.mp hd), Int.dvd_iff_tmod_eq_zero.mp hd]; rfl
  · -- a remainder that is not zero has the sign of the dividend
    have hs : Int.tmod a b < 0 ↔ a < 0 := by
      rw [← Int.sign_eq_neg_one_iff_neg, Int.sign_tmod, if_neg hd, Int.sign_eq_neg_one_iff_neg]
    rw [if_neg hd, if_neg (mt Int.dvd_iff_tmod_eq_zero.mpr hd)]
    simp only [ne_eq, eq_iff_iff, hs]
    split_ifs <;> omega

theorem floatMod_int (rnd : Rat → Rat) (a b : Int) (hb : b ≠ 0)
    (hI : rnd (((Int.tmod a b + b : Int)) : Rat) = ((Int.tmod a b + b : Int) : Rat)) :
    floatMod rnd (a : Rat) (b : Rat) = ((Int.fmod a b : Int) : Rat) := by
  have hm : (a : Rat) - (b : Rat) * ((Int.tdiv a b : Int) : Rat) = ((Int.tmod a b : Int) : Rat) := by
    rw [Int.tmod_def]; push_cast; ring
  rw [Int.cast_add] at hI
  simp only [floatMod, trunc_div a b hb, hm, fmod_tmod, hI, beq_iff_eq, bne_iff_ne, ne_eq, decide_eq_decide, Int.cast_eq_zero,
    Int.cast_lt_zero, eq_iff_iff, apply_ite (Int.cast : Int → Rat), Int.cast_zero, Int.cast_add]

end C12More
