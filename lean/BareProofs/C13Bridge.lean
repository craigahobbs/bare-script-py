import BareProofs.C13BridgeLemmas
import BareProofs.C02PrintLemmas
import BareProofs.C01Source
import BareProofs.C14Bridge
import BareProofs.C04Lemmas
import BareModel.HostImpl

/-!
# C13Bridge — ONE number text: the literal scanner of the expression parser IS the C13 literal model

C13 (`BareProofs/C13.lean`) proves that the text produced for a finite number is, for `x ≥ 0`, a numeric literal of the source
grammar — about `NumText.literal`, C13's own model of `_R_EXPR_NUMBER.match` + `float(group 1)`.  The expression parser
model of C01/C02/C06/C10 (`ExprParse.parseExpr`) scans numbers with a different hand-written function,
`ExprScan.scanNumber`.  This module connects them, up to the script level:

1. **one scanner** — `scanNumber_eq_literal`: on EVERY string the two agree: both fail, or same value and same consumed
   length.  The white-space classes are the same set (`isPySpace_eq`), the digit classes are the same set with the same
   digit values (`isDigit_eq_isDig`, `digitVal_eq_digVal`: CPython's `\d` and `float()` accept every Unicode decimal digit —
   the real `parse_expression('\u0663')` is `{'number': 3.0}` — and both models have it, from two independently frozen
   tables), the values are the same rational (`val_bridge`); `float()` never raises on what the pattern matched
   (`literal_never_floatRaises`, no ASCII hypothesis; `scanners_agree_on_unicode_digit`: test vectors with non-ASCII digits).
2. **the parser** — `parseExpr_valueString`: the text of every number whose text does not start with `-` parses, as a WHOLE
   expression, to the number leaf with the denoted rational; `parseExpr_valueString_neg`: a text starting with `-` parses
   to the unary-minus NODE over the leaf of the absolute text (`_R_EXPR_UNARY_OP` is tried before `_R_EXPR_NUMBER`; the
   `[+-]?` of the number pattern never sees a `-` in operand position) — which is why C13's source-literal clause is about
   `x ≥ 0`; under C13's assumptions A1/A2 (`C13.PyFloat`): `literal_parse_roundtrip(_neg)`.
3. **the script** — `assign_literal_roundtrip`: `n = <text>` through `Parser.parseScript` and `Machine.execute` (any host,
   `HostImpl` included) leaves global `n` = the number; `assign_text_roundtrip` (negative texts too, given the host's unary
   minus), `assign_float_roundtrip` (A1/A2); the reverse direction through the machine's own stringification:
   `concat_integral_roundtrip` (`'' + <integral literal>` evaluates to the digits, no fraction).

`HostImpl` has no `numberParseFloat` / `numberParseInt`.
-/

set_option linter.unusedSimpArgs false

namespace C13Bridge
open NumText C13

/-- the answer of the parser model's scanner `ExprScan.scanNumber` in the vocabulary of `NumText.LitRes` -/
def scanRes (s : String) : LitRes :=
  match ExprScan.scanNumber s.toList with
  | none => .noMatch
  | some (q, rest) => .number (s.length - rest.length) q

theorem literal_of_scanTok {s : String} {t : Tok} {rest : List Char}
    (hsc : scanTok true (s.toList.dropWhile isReSpace) = some (t, rest)) : literal s = .number (s.length - rest.length) t.val := by
  obtain ⟨hl, hw⟩ := scanTok_sound hsc
  unfold literal
  simp only [hsc, floatText_text_uni hw (tokWF_weaken hw)]

/-- **`scanNumber_eq_literal`** — for EVERY string, C13's literal model (`_R_EXPR_NUMBER.match` + `float(group 1)` +
`len(group 0)`) and the number scanner of the expression parser model agree: both fail, or equal value and equal consumed
length.  (In particular `float()` never raises.)  No hypothesis: Unicode decimal digits included. -/
theorem scanNumber_eq_literal (s : String) : literal s = scanRes s := by
  unfold scanRes
  rw [scanNumber_eq_numCore, numCore_eq_scanTok]
  cases hsc : scanTok true (s.toList.dropWhile isReSpace) with
  | none => simp [literal, hsc]
  | some p =>
    obtain ⟨t, rest⟩ := p
    simp [literal_of_scanTok hsc]

example : literal "  12.5e+3 rest" = .number 9 12500 ∧ scanRes "  12.5e+3 rest" = .number 9 12500 := by decide +kernel
example : literal "1e5" = scanRes "1e5" := scanNumber_eq_literal "1e5"

/-- non-ASCII decimal digits: the real `re`/`float` give
`parse_expression('٣') == {'number': 3.0}`, `parse_expression('1٣') == {'number': 13.0}`,
`parse_expression('١٢.٥e+٣') == {'number': 12500.0}`, and so do both models -/
theorem scanners_agree_on_unicode_digit :
    ExprScan.scanNumber "٣".toList = some (3, []) ∧ literal "٣" = .number 1 3 ∧
    scanRes "1٣" = .number 2 13 ∧ literal "1٣" = .number 2 13 ∧
    scanRes "١٢.٥e+٣" = .number 7 12500 ∧ literal "١٢.٥e+٣" = .number 7 12500 := by decide +kernel

/-- `NumText.literal` never answers `.floatRaises`: CPython's `float()` accepts whatever `_R_EXPR_NUMBER` matched, Unicode
decimal digits included (`float('1٣') == 13.0`).  Strengthens `C13.literal_never_raises` (which assumes an ASCII text). -/
theorem literal_never_floatRaises (s : String) : literal s ≠ .floatRaises := by
  intro h
  rw [scanNumber_eq_literal s] at h
  unfold scanRes at h
  split at h <;> cases h

open ExprParse ExprScan

theorem scanNumber_head {cs rest : List Char} {q : Rat} (h : scanNumber cs = some (q, rest)) :
    ∃ c r, skipWs cs = c :: r ∧ (c = '+' ∨ c = '-' ∨ isDigit c = true) := by
  obtain ⟨t, hs, -⟩ := C02.scanNumber_tok.mp h
  obtain ⟨hl, hw⟩ := scanTok_sound hs
  obtain ⟨c, r, e, hc⟩ := body_head hw
  rw [hl, Tok.text, e]
  cases t.sign with
  | none => exact ⟨c, _, rfl, .inr (.inr ((isDigit_eq_isDig c).trans (hc.resolve_right (by simp))))⟩
  | plus => exact ⟨'+', _, rfl, .inl rfl⟩
  | minus => exact ⟨'-', _, rfl, .inr (.inl rfl)⟩

theorem head_facts {c : Char} (h : c = '+' ∨ c = '-' ∨ isDigit c = true) : c ≠ '(' ∧ isIdStart c = false := by
  rcases h with h | h | h
  · subst h; decide +kernel
  · subst h; decide +kernel
  · constructor
    · intro e; subst e; revert h; decide +kernel
    · exact C02.digit_not_idStart h

theorem parseUnary_number {cs rest : List Char} {q : Rat} (h : scanNumber cs = some (q, rest)) (hu : scanUnaryOp cs = none)
    (fuel : Nat) : parseUnary fuel cs = .ok (.number q, rest) := by
  obtain ⟨c, r, hs, hc⟩ := scanNumber_head h
  obtain ⟨h1, h2⟩ := head_facts hc
  have hg : scanGroupOpen cs = none := by simp [scanGroupOpen, scanChar, hs, h1]
  have hf : scanFuncOpen cs = none := by simp [scanFuncOpen, hs, h2]
  exact (C02.parseUnary_atom hg hu hf fuel).trans (C02.parseAtom_number h)

theorem scanBinOp_blank {rest : List Char} (h : skipWs rest = []) : scanBinOp rest = none := by
  simp [scanBinOp, h, firstAlt, binOpAlts, stripPrefix?]

/-- a text that is one number literal (optionally behind white space and followed by white space) parses to the number leaf -/
theorem parseExprL_number {cs rest : List Char} {q : Rat} (h : scanNumber cs = some (q, rest)) (hu : scanUnaryOp cs = none)
    (hr : skipWs rest = []) : parseExprL cs = .ok (.number q) := by
  simp [parseExprL, parseBinary, binaryWith, parseUnary_number h hu, C02.chainLoop_none (scanBinOp_blank hr), hr]

/-- `-` in operand position is always the unary operator: `-<literal>` is the negation NODE over the literal's leaf -/
theorem parseExprL_neg_number {u rest : List Char} {q : Rat} (h : scanNumber u = some (q, rest)) (hu : scanUnaryOp u = none)
    (hr : skipWs rest = []) : parseExprL ('-' :: u) = .ok (.unary .neg (.number q)) := by
  have hpu : parseUnary (u.length + 1) ('-' :: u) = .ok (.unary .neg (.number q), rest) :=
    C02.parseUnary_unary (C02.scanGroupOpen_unText .neg u) (C02.scanUnaryOp_text .neg u) (parseUnary_number h hu _)
  simp [parseExprL, parseBinary, binaryWith, hpu, C02.chainLoop_none (scanBinOp_blank hr), hr]

/-- the literal scanner of the parser model on the text of a literal of the source grammar with ASCII digits -/
theorem scanNumber_text {t : Tok} (hw : TokWF true t) (ha : TokAscii t) :
    scanNumber t.text = some (t.val, []) := by
  have hn := numChars_text ha
  rw [scanNumber_eq_numCore, dropWhile_none (fun c hc => numChar_not_reSpace (hn c hc)),
    numCore_eq_scanTok, scanTok_text hw]
  rfl

/-- the positive twin of a literal -/
def unsignedTok (t : Tok) : Tok := { t with sign := .none }

theorem scanUnaryOp_text {t : Tok} (hw : TokWF true t) (ha : TokAscii t) (hs : t.sign ≠ .minus) : scanUnaryOp t.text = none := by
  have hhead : ∃ c r, t.text = c :: r ∧ c ≠ '!' ∧ c ≠ '-' := by
    cases hsg : t.sign with
    | minus => exact absurd hsg hs
    | plus => exact ⟨'+', t.ip ++ (fracText t.frac ++ expText t.exp), by simp [Tok.text, hsg, Sign.text], by decide, by decide⟩
    | none =>
      obtain ⟨c, r, e, hd⟩ := text_head_dig hw hsg
      exact ⟨c, r, e, by rintro rfl; revert hd; decide, by rintro rfl; revert hd; decide⟩
  obtain ⟨c, r, e, h1, h2⟩ := hhead
  have hsp : ExprScan.isPySpace c = false := by
    rw [isPySpace_eq]; exact numChar_not_reSpace (numChars_text ha c (by simp [e]))
  rw [e]; exact C02.scanUnaryOp_ne hsp h1 h2 r

theorem unsigned_wf {t : Tok} (hw : TokWF true t) : TokWF true (unsignedTok t) := ⟨hw.ip, hw.fp, hw.someDigit, hw.exp⟩
theorem unsigned_ascii {t : Tok} (ha : TokAscii t) : TokAscii (unsignedTok t) := ⟨ha.ip, ha.fp, ha.ex⟩

theorem val_unsigned {t : Tok} (hs : t.sign = .minus) : t.val = - (unsignedTok t).val := by
  simp only [Tok.val, unsignedTok, hs, signVal]
  simp
  grind

theorem text_unsigned {t : Tok} (hs : t.sign = .minus) : t.text = '-' :: (unsignedTok t).text := by
  simp [Tok.text, unsignedTok, hs, Sign.text]

/-- a literal without a minus sign, as a whole expression text, is the number leaf -/
theorem parseExprL_tok {t : Tok} (hw : TokWF true t) (ha : TokAscii t) (hs : t.sign ≠ .minus) :
    parseExprL t.text = .ok (.number t.val) :=
  parseExprL_number (scanNumber_text hw ha) (scanUnaryOp_text hw ha hs) rfl

/-- a literal WITH a minus sign is the negation node over the leaf of its positive twin -/
theorem parseExprL_tok_neg {t : Tok} (hw : TokWF true t) (ha : TokAscii t) (hs : t.sign = .minus) :
    parseExprL t.text = .ok (.unary .neg (.number (unsignedTok t).val)) := by
  rw [text_unsigned hs]
  exact parseExprL_neg_number (scanNumber_text (unsigned_wf hw) (unsigned_ascii ha))
    (scanUnaryOp_text (unsigned_wf hw) (unsigned_ascii ha) (by simp [unsignedTok])) rfl

/-- the rational a host number denotes (a float carrier is given by its `repr` text, A1) -/
def numDenote : PyNum → Option Rat
  | .int n => some (n : Rat)
  | .float r => NumText.decVal r

/-- the text the number-text model is about: any `int`, a float whose `repr` is in the `repr` grammar -/
def NumTextOK : PyNum → Prop
  | .int _ => True
  | .float r => IsRepr r

instance (x : PyNum) : Decidable (NumTextOK x) := by cases x <;> simp only [NumTextOK] <;> infer_instance

/-- anatomy of `value_string` on a number: the text is a literal of the SOURCE grammar with ASCII digits, never signed `+`,
denoting the number -/
theorem valueString_tok (x : PyNum) (hx : NumTextOK x) :
    ∃ t, (valueStringNum x).toList = t.text ∧ TokWF true t ∧ TokAscii t ∧ numDenote x = some t.val ∧ t.sign ≠ .plus := by
  cases x with
  | float r =>
    obtain ⟨t, t', _, _, f, hd, hst, hw', ha', hv, hsg⟩ := strip_repr hx
    exact ⟨t', by simp only [valueStringNum, hst, String.toList_ofList], hw', ha', by simp only [numDenote, hd, hv],
      hsg ▸ f.noPlus⟩
  | int n =>
    refine ⟨intTok n, intTok_text n, intTok_wf true n, intTok_ascii n, by simp [numDenote, intTok_val], ?_⟩
    simp only [intTok]; split <;> simp

theorem head_minus_iff {strict : Bool} {t : Tok} (hw : TokWF strict t) (hp : t.sign ≠ .plus) :
    t.text.head? = some '-' ↔ t.sign = .minus := by
  constructor
  · intro hh
    cases hsg : t.sign with
    | minus => rfl
    | plus => exact absurd hsg hp
    | none =>
      obtain ⟨c, r, e, hc⟩ := body_head hw
      simp only [Tok.text, hsg, Sign.text, List.nil_append, e, List.head?_cons, Option.some.injEq] at hh
      subst hh
      rcases hc with hc | ⟨_, hc⟩
      · rw [isDig_minus] at hc; cases hc
      · revert hc; decide
  · intro hs; simp [text_unsigned hs]

theorem repr_head_minus {r : String} (h : IsRepr r) :
    (stripDotZeros r).toList.head? = some '-' ↔ r.toList.head? = some '-' := by
  obtain ⟨t, t', hl, hw, f, _, hst, hw', _, _, hsg⟩ := strip_repr h
  rw [hst, String.toList_ofList, hl, head_minus_iff hw' (hsg ▸ f.noPlus), head_minus_iff hw f.noPlus, hsg]

/-- **`parseExpr_valueString`** — the text `value_string` produces for a number whose text does not start with `-` (every
`int ≥ 0`, every float `≥ +0.0` with its `repr` in the `repr` grammar) is, as a WHOLE expression text for the expression
parser model `ExprParse.parseExpr` (the one C01/C02/C06/C10 are about), the number leaf carrying the denoted rational:
all of the text is consumed, nothing else is in the tree. -/
theorem parseExpr_valueString (x : PyNum) (hx : NumTextOK x) (hpos : (valueStringNum x).toList.head? ≠ some '-') :
    ∃ q, numDenote x = some q ∧ ExprParse.parseExpr (valueStringNum x) = .ok (.number q) := by
  obtain ⟨t, ht, hw, ha, hv, hp⟩ := valueString_tok x hx
  have hs : t.sign ≠ .minus := fun h => hpos (by rw [ht]; exact (head_minus_iff hw hp).mpr h)
  refine ⟨t.val, hv, ?_⟩
  simp only [ExprParse.parseExpr, ht]
  exact parseExprL_tok hw ha hs

/-- … and for a text that starts with `-` (negative numbers, and `-0.0` ↦ `-0`) the tree is the unary-minus NODE over the
number leaf of the absolute text: the parser tries `_R_EXPR_UNARY_OP` before `_R_EXPR_NUMBER`, so the `[+-]?` of the number
pattern never sees a `-` in operand position.  This is why C13 states the source-literal clause for `x ≥ 0` only: the text
of a negative number is not a literal but an operator application (which evaluates to the number, `assign_text_roundtrip`). -/
theorem parseExpr_valueString_neg (x : PyNum) (hx : NumTextOK x) (hneg : (valueStringNum x).toList.head? = some '-') :
    ∃ q, numDenote x = some (-q) ∧ ExprParse.parseExpr (valueStringNum x) = .ok (.unary .neg (.number q)) := by
  obtain ⟨t, ht, hw, ha, hv, hp⟩ := valueString_tok x hx
  have hs : t.sign = .minus := (head_minus_iff hw hp).mp (by rw [← ht]; exact hneg)
  refine ⟨(unsignedTok t).val, by rw [hv, val_unsigned hs], ?_⟩
  simp only [ExprParse.parseExpr, ht]
  exact parseExprL_tok_neg hw ha hs

/-- what a literal / negated-literal tree denotes -/
def litValue : Expr → Option Rat
  | .number q => some q
  | .unary .neg (.number q) => some (-q)
  | _ => none

/-- both cases at once: the number text always parses, to a tree denoting the number -/
theorem parseExpr_valueString_any (x : PyNum) (hx : NumTextOK x) :
    ∃ e q, ExprParse.parseExpr (valueStringNum x) = .ok e ∧ numDenote x = some q ∧ litValue e = some q := by
  by_cases hneg : (valueStringNum x).toList.head? = some '-'
  · obtain ⟨q, h1, h2⟩ := parseExpr_valueString_neg x hx hneg
    exact ⟨_, -q, h2, h1, rfl⟩
  · obtain ⟨q, h1, h2⟩ := parseExpr_valueString x hx hneg
    exact ⟨_, q, h2, h1, rfl⟩

/-- **`literal_parse_roundtrip`** (under A1/A2 of C13, structure `C13.PyFloat`): the stringified non-negative float is, as a
whole expression, the number leaf whose rational `float()` rounds back to `x`. -/
theorem literal_parse_roundtrip {F : Type} (P : PyFloat F) (x : F) (hpos : (P.repr x).toList.head? ≠ some '-') :
    ∃ q, P.ofRat q = x ∧ ExprParse.parseExpr (valueStringF P x) = .ok (.number q) := by
  obtain ⟨q, h1, h2⟩ := parseExpr_valueString (.float (P.repr x)) (P.repr_grammar x)
    fun h => hpos ((repr_head_minus (P.repr_grammar x)).mp h)
  exact ⟨q, P.ofRat_of_decVal h1, h2⟩

theorem literal_parse_roundtrip_neg {F : Type} (P : PyFloat F) (x : F) (hneg : (P.repr x).toList.head? = some '-') :
    ∃ q, P.ofRat (-q) = x ∧ ExprParse.parseExpr (valueStringF P x) = .ok (.unary .neg (.number q)) := by
  obtain ⟨q, h1, h2⟩ := parseExpr_valueString_neg (.float (P.repr x)) (P.repr_grammar x)
    ((repr_head_minus (P.repr_grammar x)).mpr hneg)
  exact ⟨q, P.ofRat_of_decVal h1, h2⟩

open Machine in
theorem execute_assign {W : Type} (cfg : Config W) (fuel : Nat) (n : Name) (e : Expr) (v : Value) (base : Option String)
    (st : State W) (hev : ∀ call locals (st' : State W), evalExpr cfg call locals e st' = .ok v st') :
    execute cfg (fuel + 1) [.expr (some n) e] base st =
      .done { globals := st.globals.set n v, world := st.world, count := 1 } := by
  unfold execute
  rw [execM.eq_1]
  have hlim : ¬ (cfg.maxStatements > 0 ∧ 1 > cfg.maxStatements) := by omega
  simp [hev, hlim]
  rw [execM.eq_1]
  simp
  omega

open Machine in
/-- running the one-statement program `n = <number leaf>`: global `n` holds the number, nothing else changes, one statement
counted — for EVERY host, configuration (any statement limit) and start state. -/
theorem execute_assign_number {W : Type} (cfg : Config W) (fuel : Nat) (n : Name) (q : Rat) (base : Option String)
    (st : State W) :
    execute cfg (fuel + 1) [.expr (some n) (.number q)] base st =
      .done { globals := st.globals.set n (.num q), world := st.world, count := 1 } :=
  execute_assign cfg fuel n _ _ base st (fun _ _ _ => rfl)

open Machine in
theorem execute_assign_neg_number {W : Type} (cfg : Config W) (fuel : Nat) (n : Name) (q : Rat) (base : Option String)
    (st : State W) :
    execute cfg (fuel + 1) [.expr (some n) (.unary .neg (.number q))] base st =
      .done { globals := st.globals.set n (cfg.host.neg (.num q)), world := st.world, count := 1 } :=
  execute_assign cfg fuel n _ _ base st (fun _ _ _ => by simp [evalExpr])

theorem numChar_textOK {c : Char} (h : numChar c = true) :
    PrintScript.headOK c = true ∧ PrintScript.lastOK c = true ∧ c ≠ '\n' :=
  (by decide +kernel : ∀ c ∈ numChars, PrintScript.headOK c = true ∧ PrintScript.lastOK c = true ∧ c ≠ '\n') c (numChar_mem h)

/-- a non-empty text made of digits, signs, `.`, `e` can stand as the expression of a line (`PrintScript.ExprTextOK`) -/
theorem exprTextOK_numChars {l : List Char} (hne : l ≠ []) (h : ∀ c ∈ l, numChar c = true) :
    PrintScript.ExprTextOK l = true := by
  have h1 : l.contains '\n' = false := by
    cases hc : l.contains '\n' with
    | false => rfl
    | true =>
      have hm : '\n' ∈ l := by simpa using hc
      exact absurd rfl (numChar_textOK (h _ hm)).2.2
  unfold PrintScript.ExprTextOK
  rw [h1]
  cases l with
  | nil => exact absurd rfl hne
  | cons c r =>
    cases hl : (c :: r).getLast? with
    | none => exact absurd (List.getLast?_eq_none_iff.mp hl) hne
    | some d =>
      have a := (numChar_textOK (h c (List.mem_cons_self ..))).1
      have b := (numChar_textOK (h d (List.mem_of_getLast? hl))).2.1
      simp [a, b]

theorem eqL : " = ".toList = [' ', '=', ' '] := by decide +kernel

theorem printLines_assign (n : Name) (text : String) (e : Expr) :
    PrintScript.printLines (fun _ => text) [.assign n e] = n.render ++ " = " ++ text := by
  apply String.toList_inj.mp
  rw [C01.printLines_toList, String.toList_append, String.toList_append, eqL]
  show PrintScript.nameL n ++ (' ' :: '=' :: ' ' :: text.toList) = _
  simp [PrintScript.nameL]

/-- the text-level parser model on the one-line script `n = <text>` — for ANY expression text the expression parser accepts
that can stand in a line (instance of `C01.parseScript_printLines` with the constant printer) -/
theorem parseScript_assign (n : Name) (hn : PrintScript.NameOK n = true) (text : String) (e : Expr)
    (hp : ExprParse.parseExpr text = .ok e) (hok : PrintScript.ExprTextOK text.toList = true) (start : Nat := 1) :
    Parser.parseScript [n.render ++ " = " ++ text] start = .ok [.expr (some n) e] := by
  have hl : C01.LinesPrintable (fun _ => text) [.assign n e] := by
    constructor
    · intro l hl
      simp only [List.mem_singleton] at hl; subst hl
      simp [PrintScript.LineOK, PrintScript.names, PrintScript.exprs, hn, hok]
    · intro l hl e' he'
      simp only [List.mem_singleton] at hl; subst hl
      simp only [PrintScript.exprs, List.mem_singleton] at he'; subst he'
      exact hp
  have := C01.parseScript_printLines (fun _ => text) [.assign n e] hl (P := [.expr (some n) e]) rfl start
  rwa [printLines_assign] at this

theorem valueString_textOK (x : PyNum) (hx : NumTextOK x) : PrintScript.ExprTextOK (valueStringNum x).toList = true := by
  obtain ⟨t, ht, hw, ha, _, _⟩ := valueString_tok x hx
  rw [ht]
  refine exprTextOK_numChars ?_ (numChars_text ha)
  intro h0
  have := scanNumber_text hw ha
  rw [h0] at this
  simp [ExprScan.scanNumber, ExprScan.skipWs, ExprScan.scanSign] at this

open Machine in
/-- **`assign_literal_roundtrip`** — the number text as SOURCE: for a number whose text does not start with `-`, the one-line
script `n = <value_string of the number>` is accepted by the text-level parser model `Parser.parseScript`, and running the
parsed program with `Machine.execute` — on ANY host (the driver host `HostImpl.host` in particular), any statement limit, any
start state, any positive fuel — ends normally with global `n` holding exactly the denoted number, the world untouched and one
statement counted. -/
theorem assign_literal_roundtrip (x : PyNum) (hx : NumTextOK x) (hpos : (valueStringNum x).toList.head? ≠ some '-')
    (n : Name) (hn : PrintScript.NameOK n = true) {W : Type} (cfg : Config W) (fuel : Nat) (base : Option String) (st : State W) :
    ∃ q P, numDenote x = some q ∧ Parser.parseScript [n.render ++ " = " ++ valueStringNum x] = .ok P ∧
      execute cfg (fuel + 1) P base st = .done { globals := st.globals.set n (.num q), world := st.world, count := 1 } ∧
      (st.globals.set n (.num q)).get? n = some (.num q) := by
  obtain ⟨q, h1, h2⟩ := parseExpr_valueString x hx hpos
  exact ⟨q, _, h1, parseScript_assign n hn _ _ h2 (valueString_textOK x hx), execute_assign_number cfg fuel n q base st,
    C04.get?_set_same _ _ _⟩

open Machine in
/-- the same for EVERY number text, negative ones included, on a host whose unary minus negates numbers (`HostImpl.host` does,
`hostImpl_neg`): the text of a negative number is not a literal but `-<literal>`, and evaluates to the number. -/
theorem assign_text_roundtrip (x : PyNum) (hx : NumTextOK x) (n : Name) (hn : PrintScript.NameOK n = true) {W : Type}
    (cfg : Config W) (hneg : ∀ q, cfg.host.neg (.num q) = .num (-q)) (fuel : Nat) (base : Option String) (st : State W) :
    ∃ q P, numDenote x = some q ∧ Parser.parseScript [n.render ++ " = " ++ valueStringNum x] = .ok P ∧
      execute cfg (fuel + 1) P base st = .done { globals := st.globals.set n (.num q), world := st.world, count := 1 } := by
  by_cases hm : (valueStringNum x).toList.head? = some '-'
  · obtain ⟨q, h1, h2⟩ := parseExpr_valueString_neg x hx hm
    refine ⟨-q, _, h1, parseScript_assign n hn _ _ h2 (valueString_textOK x hx), ?_⟩
    rw [execute_assign_neg_number, hneg]
  · obtain ⟨q, P, h1, h2, h3, _⟩ := assign_literal_roundtrip x hx hm n hn cfg fuel base st
    exact ⟨q, P, h1, h2, h3⟩

theorem hostImpl_neg : ∀ q, HostImpl.host.neg (.num q) = .num (-q) := fun _ => rfl

open Machine in
/-- under A1/A2 (C13's `PyFloat`): `v = <'' + x>` binds `v` to a rational that `float()` rounds to `x` -/
theorem assign_float_roundtrip {F : Type} (Pf : PyFloat F) (x : F) (n : Name) (hn : PrintScript.NameOK n = true) {W : Type}
    (cfg : Config W) (hneg : ∀ q, cfg.host.neg (.num q) = .num (-q)) (fuel : Nat) (base : Option String) (st : State W) :
    ∃ q P, Pf.ofRat q = x ∧ Parser.parseScript [n.render ++ " = " ++ valueStringF Pf x] = .ok P ∧
      execute cfg (fuel + 1) P base st = .done { globals := st.globals.set n (.num q), world := st.world, count := 1 } := by
  obtain ⟨q, P, h1, h2, h3⟩ := assign_text_roundtrip (.float (Pf.repr x)) (Pf.repr_grammar x) n hn cfg hneg fuel base st
  exact ⟨q, P, Pf.ofRat_of_decVal h1, h2, h3⟩

theorem scanNumber_blank (l : List Char) : scanNumber (' ' :: l) = scanNumber l := by
  have : isReSpace ' ' = true := by decide +kernel
  rw [scanNumber_eq_numCore, scanNumber_eq_numCore, List.dropWhile_cons, this]; rfl

theorem scanUnaryOp_blank (l : List Char) : scanUnaryOp (' ' :: l) = scanUnaryOp l := by
  have : ExprScan.isPySpace ' ' = true := by decide +kernel
  simp [scanUnaryOp, skipWs, List.dropWhile_cons, this]

/-- `'' + <number literal>` is the addition node over the empty string and the number leaf -/
theorem parseExprL_concat_number {u rest : List Char} {q : Rat} (h : scanNumber u = some (q, rest)) (hu : scanUnaryOp u = none)
    (hr : skipWs rest = []) :
    parseExprL ('\'' :: '\'' :: ' ' :: '+' :: u) = .ok (.binary .add (.string "") (.number q)) := by
  have hbin : scanBinOp (' ' :: '+' :: u) = some (.add, u) := by
    have hsp : ExprScan.isPySpace ' ' = true := by decide +kernel
    have hpl : ExprScan.isPySpace '+' = false := by decide +kernel
    simp [scanBinOp, skipWs, List.dropWhile_cons, hsp, hpl, firstAlt, binOpAlts, stripPrefix?]
  have hpu : ∀ fuel, parseUnary fuel ('\'' :: '\'' :: ' ' :: '+' :: u) = .ok (.string "", ' ' :: '+' :: u) :=
    C02.parseUnary_string "" _
  have hlen : ('\'' :: '\'' :: ' ' :: '+' :: u).length = (u.length + 3) + 1 := by simp
  unfold parseExprL parseBinary binaryWith
  rw [hpu, hlen]
  simp only []
  rw [C02.chainLoop_step hbin (parseUnary_number h hu _), C02.chainLoop_none (scanBinOp_blank hr)]
  simp [hr, insR]

theorem concatL : "'' + ".toList = ['\'', '\'', ' ', '+', ' '] := by decide +kernel

open Machine in
/-- **the round trip text → number → text for integral values.**  For `n ≥ 0` let `t = str(n)` (the C13 number text of the
integer).  The expression text `'' + t` parses to `'' + <number leaf n>`, and evaluating that tree on the driver host
`HostImpl` — whose string concatenation uses the machine's own `value_string` (`HostImpl.valueString?`, bridged to the C13/C14
text by `C14Bridge.valueString_bridge` / `strOf_integral`) — gives back exactly the string `t`: digits only, no fraction. -/
theorem concat_integral_roundtrip (n : Int) (hn : 0 ≤ n) (cfg : Config HostImpl.World) (hh : cfg.host = HostImpl.host)
    (call : CallFn HostImpl.World) (locals : Option Env) (st : State HostImpl.World) :
    ∃ e, ExprParse.parseExpr ("'' + " ++ valueStringNum (.int n)) = .ok e ∧
      evalExpr cfg call locals e st = .ok (.str (valueStringNum (.int n))) st ∧
      '.' ∉ (valueStringNum (.int n)).toList := by
  have hs : (intTok n).sign ≠ .minus := by simp [intTok, show ¬ n < 0 by omega]
  refine ⟨.binary .add (.string "") (.number (intTok n).val), ?_, ?_, (int_prints_digits_only n).choose_spec.2.2.2⟩
  · simp only [ExprParse.parseExpr, String.toList_append, concatL, intTok_text]
    show parseExprL ('\'' :: '\'' :: ' ' :: '+' :: ' ' :: (intTok n).text) = _
    apply parseExprL_concat_number (rest := [])
    · rw [scanNumber_blank]; exact scanNumber_text (intTok_wf true n) (intTok_ascii n)
    · rw [scanUnaryOp_blank]; exact scanUnaryOp_text (intTok_wf true n) (intTok_ascii n) hs
    · rfl
  · have h := C14Bridge.machine_add_str st.world "" (.num n) (.num n) rfl
    rw [(C14Bridge.strOf_integral n (by simp)).1, Rat.num_intCast, String.empty_append] at h
    simp [evalExpr, hh, intTok_val, h]

example : NumTextOK (.float "1.5e-07") ∧ NumTextOK (.float "1e+16") ∧ NumTextOK (.float "-0.0") ∧ NumTextOK (.int 42) ∧
    ¬ NumTextOK (.float "1e16") := by decide +kernel
example : ∃ q, numDenote (.float "1.5e-07") = some q ∧ ExprParse.parseExpr "1.5e-07" = .ok (.number q) :=
  parseExpr_valueString (.float "1.5e-07") (by decide +kernel) (by decide +kernel)
example : ∃ q, numDenote (.float "123.0") = some q ∧ ExprParse.parseExpr (valueStringNum (.float "123.0")) = .ok (.number q) :=
  parseExpr_valueString (.float "123.0") (by decide +kernel) (by decide +kernel)
example : ∃ q, numDenote (.int 9007199254740993) = some q ∧ ExprParse.parseExpr "9007199254740993" = .ok (.number q) :=
  parseExpr_valueString (.int 9007199254740993) trivial (by decide +kernel)
example : ∃ q, numDenote (.float "-2.5") = some (-q) ∧ ExprParse.parseExpr "-2.5" = .ok (.unary .neg (.number q)) :=
  parseExpr_valueString_neg (.float "-2.5") (by decide +kernel) (by decide +kernel)
/-- `-0.0` prints as `-0`, which is the negation node over the literal `0` -/
example : ∃ q, numDenote (.float "-0.0") = some (-q) ∧ ExprParse.parseExpr "-0" = .ok (.unary .neg (.number q)) :=
  parseExpr_valueString_neg (.float "-0.0") (by decide +kernel) (by decide +kernel)
example : ∃ q, toyFloats.ofRat q = 2 ∧ ExprParse.parseExpr "1e+16" = .ok (.number q) :=
  literal_parse_roundtrip toyFloats 2 (by decide +kernel)
example : PrintScript.NameOK (.user "v") = true := by decide +kernel
example (st : Machine.State HostImpl.World) :
    ∃ q P, numDenote (.float "1e+16") = some q ∧ Parser.parseScript ["v = 1e+16"] = .ok P ∧
      Machine.execute { host := HostImpl.host, funs := fun _ => none, maxStatements := 1 } 1 P none st =
        .done { globals := st.globals.set (.user "v") (.num q), world := st.world, count := 1 } ∧
      (st.globals.set (.user "v") (.num q)).get? (.user "v") = some (.num q) :=
  assign_literal_roundtrip (.float "1e+16") (by decide +kernel) (by decide +kernel) (.user "v") (by decide +kernel) _ 0 none st
example (st : Machine.State HostImpl.World) :
    ∃ q P, numDenote (.int (-5)) = some q ∧ Parser.parseScript ["v = -5"] = .ok P ∧
      Machine.execute { host := HostImpl.host, funs := fun _ => none, maxStatements := 0 } 7 P none st =
        .done { globals := st.globals.set (.user "v") (.num q), world := st.world, count := 1 } :=
  assign_text_roundtrip (.int (-5)) trivial (.user "v") (by decide +kernel) _ hostImpl_neg 6 none st
example (st : Machine.State HostImpl.World) :
    ∃ e, ExprParse.parseExpr "'' + 42" = .ok e ∧
      Machine.evalExpr { host := HostImpl.host, funs := fun _ => none, maxStatements := 0 } (fun _ _ _ => .oof) none e st =
        .ok (.str "42") st ∧ '.' ∉ "42".toList :=
  concat_integral_roundtrip 42 (by decide +kernel) _ rfl _ none st

end C13Bridge

namespace C13
open NumText

set_option linter.unusedVariables false in
/-- `float(match.group(1))` cannot raise: the ASCII case of `C13Bridge.literal_never_floatRaises`. -/
theorem literal_never_raises (s : String) (ha : ∀ c ∈ s.toList, c.toNat < 128) : literal s ≠ .floatRaises :=
  C13Bridge.literal_never_floatRaises s

end C13
