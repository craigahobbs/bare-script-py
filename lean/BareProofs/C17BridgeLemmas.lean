import BareModel.IncludeBridge
import BareProofs.C17

/-!
# C17Bridge — lemmas: the traced machine is the machine (erasure), and it simulates the include model
-/

namespace C17Bridge
open Machine IncludeBridge
variable {W : Type}

@[simp] theorem cons_res (ev : Include.Event) (r : TRes W) : (r.cons ev).res = r.res := rfl
@[simp] theorem app_res (tr : List Include.Event) (r : TRes W) : (r.app tr).res = r.res := rfl
@[simp] theorem cons_inc (ev : Include.Event) (r : TRes W) : (r.cons ev).inc = r.inc := rfl
@[simp] theorem app_inc (tr : List Include.Event) (r : TRes W) : (r.app tr).inc = r.inc := rfl
@[simp] theorem cons_trace (ev : Include.Event) (r : TRes W) : (r.cons ev).trace = ev :: r.trace := rfl
@[simp] theorem app_trace (tr : List Include.Event) (r : TRes W) : (r.app tr).trace = tr ++ r.trace := rfl
@[simp] theorem cons_stop (ev : Include.Event) (r : TRes W) : (r.cons ev).stop = r.stop := rfl
@[simp] theorem app_stop (tr : List Include.Event) (r : TRes W) : (r.app tr).stop = r.stop := rfl

def Erases (tag : Stmt → String) (cfg : Config W) (fuel : Nat) : Prop :=
  (∀ P locals base cache pc st,
      (execMT tag cfg fuel P locals base cache pc st).res = execM cfg fuel P locals base cache pc st) ∧
  (∀ base incs st, (execIncludesT tag cfg fuel base incs st).res = execIncludes cfg fuel base incs st)

theorem erases (tag : Stmt → String) (cfg : Config W) : ∀ fuel, Erases tag cfg fuel
  | 0 => by
    refine ⟨?_, ?_⟩
    · intro P locals base cache pc st
      rw [execMT.eq_1, execM.eq_1]
      cases P[pc]? <;> rfl
    · intro base incs st
      cases incs with
      | nil => rw [execIncludesT.eq_1, execIncludes.eq_1]
      | cons i r =>
        rw [execIncludesT.eq_2, execIncludes.eq_2]
        cases cfg.fetch (cfg.resolve base i) <;> rfl
  | fuel+1 => by
    obtain ⟨ihE, ihI⟩ := erases tag cfg fuel
    refine ⟨?_, ?_⟩
    · intro P locals base cache pc st
      rw [execMT.eq_1, execM.eq_1]
      cases P[pc]? with
      | none => rfl
      | some s =>
        simp only
        split
        · rfl
        · cases s with
          | expr name e =>
            simp only
            generalize evalExpr cfg _ locals e _ = r
            cases r with
            | ok v st2 => cases name <;> cases locals <;> simp only [cons_res] <;> exact ihE ..
            | err => rfl
            | oof => rfl
          | jump l c =>
            cases c with
            | none =>
              simp only
              cases jumpTarget P cache l with
              | none => rfl
              | some ci => simp only [cons_res]; exact ihE ..
            | some c =>
              simp only
              generalize evalExpr cfg _ locals c _ = r
              cases r with
              | ok v st2 =>
                simp only
                split
                · cases jumpTarget P cache l with
                  | none => rfl
                  | some ci => simp only [cons_res]; exact ihE ..
                · simp only [cons_res]; exact ihE ..
              | err => rfl
              | oof => rfl
          | ret e =>
            cases e with
            | none => rfl
            | some e =>
              simp only
              generalize evalExpr cfg _ locals e _ = r
              cases r <;> rfl
          | label l => simp only [cons_res]; exact ihE ..
          | function fid name args laa isAsync body => simp only [cons_res]; exact ihE ..
          | «include» incs =>
            simp only
            rw [← ihI]
            generalize execIncludesT tag cfg fuel base incs _ = mi
            cases hmi : mi.res with
            | done st2 => simp only [app_res]; exact ihE ..
            | ret v st2 => simp only [hmi]
            | err e st2 => simp only [hmi]
            | oof => simp only [hmi]
    · intro base incs st
      cases incs with
      | nil => rw [execIncludesT.eq_1, execIncludes.eq_1]
      | cons i r =>
        rw [execIncludesT.eq_2, execIncludes.eq_2]
        simp only
        cases cfg.fetch (cfg.resolve base i) with
        | missing => rfl
        | broken => rfl
        | script ss =>
          simp only
          rw [← ihE]
          generalize execMT tag cfg fuel ss none _ [] 0 st = m
          cases hm : m.res with
          | done st2 => simp only [app_res]; exact ihI ..
          | ret v st2 => simp only [app_res]; exact ihI ..
          | err e st2 => simp only [cons_res, hm]
          | oof => simp only [cons_res, hm]

theorem execMT_res (tag : Stmt → String) (cfg : Config W) (fuel : Nat) (P : List Stmt) (locals : Option Env)
    (base : Option String) (cache : Cache) (pc : Nat) (st : State W) :
    (execMT tag cfg fuel P locals base cache pc st).res = execM cfg fuel P locals base cache pc st :=
  (erases tag cfg fuel).1 ..

theorem execIncludesT_res (tag : Stmt → String) (cfg : Config W) (fuel : Nat) (base : Option String)
    (incs : List IncludeScript) (st : State W) :
    (execIncludesT tag cfg fuel base incs st).res = execIncludes cfg fuel base incs st :=
  (erases tag cfg fuel).2 ..

theorem execIncludesT_not_ret (tag : Stmt → String) (cfg : Config W) :
    ∀ (incs : List IncludeScript) (fuel : Nat) (base : Option String) (st : State W) (v : Value) (st' : State W),
      (execIncludesT tag cfg fuel base incs st).res ≠ .ret v st'
  | [], fuel, base, st, v, st' => by rw [execIncludesT.eq_1]; simp
  | i :: rest, fuel, base, st, v, st' => by
    rw [execIncludesT.eq_2]
    simp only
    cases cfg.fetch (cfg.resolve base i) with
    | missing => simp
    | broken => simp
    | script ss =>
      simp only
      cases fuel with
      | zero => simp
      | succ f =>
        simp only
        generalize execMT tag cfg f ss none _ [] 0 st = m
        cases hm : m.res with
        | done st2 => simp only [app_res]; exact execIncludesT_not_ret tag cfg rest _ _ _ _ _
        | ret v2 st2 => simp only [app_res]; exact execIncludesT_not_ret tag cfg rest _ _ _ _ _
        | err e st2 => simp [hm]
        | oof => simp [hm]

section Sim
variable {σ : Type}

/-- what the include model's result must be, given how the machine run ended -/
def SimS (stop : Stop) (mt : List Include.Event) (r : Include.Res σ) : Prop :=
  match stop with
  | .fin => r.trace = mt ∧ r.outcome = .ok
  | .incFailed u => r.trace = mt ∧ r.outcome = .includeFailed u
  | .incParse u => r.trace = mt ∧ r.outcome = .parseError u
  | .stmt => mt <+: r.trace
  | .oof => mt <+: r.trace

def Sim (m : TRes W) (r : Include.Res σ) : Prop := SimS m.stop m.trace r

theorem simS_prefix {stop : Stop} {mt : List Include.Event} {r : Include.Res σ} (h : SimS stop mt r) : mt <+: r.trace := by
  cases stop <;> simp only [SimS] at h <;> first | exact h | exact h.1 ▸ List.prefix_refl _

theorem simS_app {stop : Stop} {mt : List Include.Event} {r r' : Include.Res σ} (tr : List Include.Event)
    (ht : r'.trace = tr ++ r.trace) (ho : r'.outcome = r.outcome) (h : SimS stop mt r) : SimS stop (tr ++ mt) r' := by
  cases stop <;> simp only [SimS, ht, ho] at h ⊢ <;>
    first | exact ⟨by rw [h.1], h.2⟩ | exact (List.prefix_append_right_inj tr).mpr h

theorem sim_prefix (m : TRes W) (r : Include.Res σ) (hs : m.stop = .stmt ∨ m.stop = .oof) (hp : m.trace <+: r.trace) : Sim m r := by
  rcases hs with hs | hs <;> simpa [Sim, hs, SimS] using hp

theorem stopOf_err_ne_fin (e : RtErr) (st : State W) (b : Bool) : stopOf (.err e st : Res W) b ≠ .fin := by
  cases e <;> cases b <;> simp [stopOf]

theorem stopOf_err_false (e : RtErr) (st : State W) : stopOf (.err e st : Res W) false = .stmt := by
  cases e <;> rfl

theorem andThen_trace_prefix (r : Include.Res σ) (k : Include.Options → σ → Include.Res σ) : r.trace <+: (r.andThen k).trace := by
  unfold Include.Res.andThen
  split
  · exact List.prefix_append _ _
  · exact List.prefix_refl _

/-- the machine went on after `m1`: the simulations of the two parts compose -/
theorem sim_andThen_fin {m1 m2 : TRes W} {r1 : Include.Res σ} {k : Include.Options → σ → Include.Res σ} (hs : m1.stop = .fin)
    (h1 : Sim m1 r1) (h2 : Sim m2 (k r1.opts r1.state)) : Sim (m2.app m1.trace) (r1.andThen k) := by
  simp only [Sim, hs, SimS] at h1
  rw [← h1.1]
  exact simS_app r1.trace (by simp only [Include.Res.andThen, h1.2]) (by simp only [Include.Res.andThen, h1.2]) h2

/-- the machine stopped in `m1`: whatever the include model does afterwards is behind the machine's events -/
theorem sim_andThen_stop {m1 : TRes W} {r1 : Include.Res σ} (k : Include.Options → σ → Include.Res σ) (hs : m1.stop ≠ .fin)
    (h1 : Sim m1 r1) : Sim m1 (r1.andThen k) := by
  unfold Sim at h1 ⊢
  cases hstop : m1.stop <;> rw [hstop] at h1 <;> simp only [SimS] at h1 ⊢
  · exact absurd hstop hs
  · rw [C17.andThen_stop (by simp [h1.2])]; exact h1
  · rw [C17.andThen_stop (by simp [h1.2])]; exact h1
  · exact h1.trans (andThen_trace_prefix _ _)
  · exact h1.trans (andThen_trace_prefix _ _)

/-- every file of the virtual file system is jump-free (for `ofList` file systems: `filesStraight`, decidable) -/
def FilesStraight (fs : String → VFile) : Prop := ∀ u ss, fs u = .stmts ss → Straight ss = true

variable (tag : Stmt → String) (cfg : Config W) (sp : Option String) (fs : String → VFile) (eff : String → σ → σ)

/-- the two halves of the simulation, at one amount of fuel, for every gas of the include model that is at least as large -/
def SimExecAt (fuel : Nat) : Prop :=
  ∀ g, fuel ≤ g → ∀ (P : List Stmt) (locals : Option Env) (base : Option String) (cache : Cache) (pc : Nat) (st : State W)
      (o : Include.Options) (s : σ), Straight P = true → o.urlFn = urlFnOf base →
     Sim (execMT tag (instCfg cfg sp fs) fuel P locals base cache pc st)
         (Include.runItems (icfgOf tag sp fs) eff (Include.runScript (icfgOf tag sp fs) eff g) o (itemsOf tag (P.drop pc)) s)

def SimIncAt (fuel : Nat) : Prop :=
  ∀ g, fuel ≤ g → ∀ (base : Option String) (incs : List IncludeScript) (st : State W) (o : Include.Options) (s : σ),
      o.urlFn = urlFnOf base →
     Sim (execIncludesT tag (instCfg cfg sp fs) fuel base incs st)
         (Include.runEntries (icfgOf tag sp fs) (Include.runScript (icfgOf tag sp fs) eff g) o (incs.map entryOf) s)

def SimAt (fuel : Nat) : Prop := SimExecAt tag cfg sp fs eff fuel ∧ SimIncAt tag cfg sp fs eff fuel

theorem simIncludes (hfs : FilesStraight fs) (fuel : Nat) (ih : ∀ f, fuel = f + 1 → SimAt tag cfg sp fs eff f) :
    SimIncAt tag cfg sp fs eff fuel := by
  intro g hg base incs st o s ho
  cases incs with
  | nil => rw [execIncludesT.eq_1]; simp [Include.runEntries, Sim, SimS, TRes.stop, stopOf]
  | cons i rest =>
    have hurl : Include.resolveEntry (icfgOf tag sp fs) o.urlFn (entryOf i) = (instCfg cfg sp fs).resolve base i := by
      rw [ho]; rfl
    have hf : (icfgOf tag sp fs).fetch = some fun u => fileOf tag (fs u) := rfl
    rw [execIncludesT.eq_2, List.map_cons]
    show Sim (match fetchOf fs _ with | .missing => _ | .broken => _ | .script stmts => _) _
    unfold fetchOf
    cases hfile : fs ((instCfg cfg sp fs).resolve base i) with
    | stmts ss =>
      simp only
      rw [C17.runEntries_text _ _ hf o _ _ s (sc := itemsOf tag ss) (by rw [hurl, hfile]; rfl), hurl]
      generalize (instCfg cfg sp fs).resolve base i = url at hfile ⊢
      cases fuel with
      | zero => exact sim_prefix _ _ (.inr rfl) (List.prefix_cons_inj _ |>.mpr List.nil_prefix |>.trans (andThen_trace_prefix (C17.included url o _) _))
      | succ f =>
        obtain ⟨ihE, ihI⟩ := ih f rfl
        obtain ⟨g', rfl⟩ : ∃ g', g = g' + 1 := ⟨g - 1, by omega⟩
        have h0 := ihE g' (by omega) ss none (some url) [] 0 st { o with urlFn := .relativeTo url } s (hfs url ss hfile) rfl
        have h0' : Sim ((execMT tag (instCfg cfg sp fs) f ss none (some url) [] 0 st).cons (.fetch url))
            (C17.included url o (Include.runScript (icfgOf tag sp fs) eff (g' + 1) { o with urlFn := .relativeTo url } (itemsOf tag ss) s)) :=
          simS_app [_] rfl rfl h0
        have hrest := fun st' => ihI (g' + 1) (by omega) base rest st'
        simp only
        generalize execMT tag (instCfg cfg sp fs) f ss none (some url) [] 0 st = m at h0' ⊢
        cases hm : m.res with
        | done st' => exact sim_andThen_fin (by simp [TRes.stop, hm, stopOf]) h0' (hrest st' _ _ ho)
        | ret v st' => exact sim_andThen_fin (by simp [TRes.stop, hm, stopOf]) h0' (hrest st' _ _ ho)
        | err e st2 => exact sim_andThen_stop _ (by simp [TRes.stop, hm, stopOf_err_ne_fin]) h0'
        | oof => exact sim_andThen_stop _ (by simp [TRes.stop, hm, stopOf]) h0'
    | _ =>
      rw [C17.runEntries_fail _ _ hf o _ _ s (by rw [hurl]; simp [Include.failing, fileOf, hfile]), hurl]
      simp [Sim, SimS, TRes.stop, stopOf, Include.specOutcome, Include.failing, fileOf, hfile]

theorem runItems_cons (rec : Include.Options → Include.Script → σ → Include.Res σ) (o : Include.Options) (it : Include.Item)
    (rest : Include.Script) (s : σ) :
    Include.runItems (icfgOf tag sp fs) eff rec o (it :: rest) s =
      if it = .ret then ⟨[], s, C17.tick o, .ok⟩
      else (C17.runItem (icfgOf tag sp fs) eff rec (C17.tick o) s it).andThen fun o' s' =>
        Include.runItems (icfgOf tag sp fs) eff rec o' rest s' := by
  rw [C17.runItems_cons]; rfl

theorem sim_stmt {m : TRes W} (rec : Include.Options → Include.Script → σ → Include.Res σ) (o : Include.Options) (t : String)
    (rest : Include.Script) (s : σ)
    (h : Sim m (Include.runItems (icfgOf tag sp fs) eff rec (C17.tick o) rest (eff t s))) :
    Sim (m.cons (.exec t)) (Include.runItems (icfgOf tag sp fs) eff rec o (.stmt t :: rest) s) := by
  rw [runItems_cons, if_neg nofun]
  exact simS_app [_] rfl rfl h

theorem sim_stmt_stop {m : TRes W} (rec : Include.Options → Include.Script → σ → Include.Res σ) (o : Include.Options) (t : String)
    (rest : Include.Script) (s : σ) (hs : m.stop = .stmt ∨ m.stop = .oof) (ht : m.trace = [.exec t]) :
    Sim m (Include.runItems (icfgOf tag sp fs) eff rec o (.stmt t :: rest) s) := by
  rw [runItems_cons, if_neg nofun]
  exact sim_prefix _ _ hs (ht ▸ andThen_trace_prefix (⟨[.exec t], eff t s, C17.tick o, .ok⟩ : Include.Res σ) _)

theorem simExec (fuel : Nat) (ih : ∀ f, fuel = f + 1 → SimAt tag cfg sp fs eff f) : SimExecAt tag cfg sp fs eff fuel := by
  intro g hg P locals base cache pc st o s hP ho
  rw [execMT.eq_1]
  cases hget : P[pc]? with
  | none =>
    have : P.drop pc = [] := by rw [List.drop_eq_nil_iff]; exact List.getElem?_eq_none_iff.mp hget
    rw [this]; simp [itemsOf, Include.runItems, Sim, SimS, TRes.stop, stopOf]
  | some s0 =>
    obtain ⟨hlt, hs0⟩ := List.getElem?_eq_some_iff.mp hget
    have hdrop : P.drop pc = s0 :: P.drop (pc+1) := by rw [← hs0]; exact List.drop_eq_getElem_cons hlt
    have hstr : straight s0 = true := List.all_eq_true.mp hP s0 (List.mem_of_getElem? hget)
    rw [hdrop, show itemsOf tag (s0 :: P.drop (pc+1)) = itemOf tag s0 :: itemsOf tag (P.drop (pc+1)) from rfl]
    cases fuel with
    | zero => exact sim_prefix _ _ (.inr rfl) List.nil_prefix
    | succ f =>
      obtain ⟨ihE, ihI⟩ := ih f rfl
      have ho1 : (C17.tick o).urlFn = urlFnOf base := ho
      have next := fun locals cache pc st s => ihE g (by omega) P locals base cache pc st (C17.tick o) s hP ho1
      simp only
      split
      · exact sim_prefix _ _ (.inl (stopOf_err_false _ _)) List.nil_prefix
      · cases s0 with
        | expr name e =>
          simp only [itemOf]
          generalize evalExpr (instCfg cfg sp fs) _ locals e _ = r
          cases r with
          | ok v st2 => cases name <;> cases locals <;> exact sim_stmt tag sp fs eff _ o _ _ s (next ..)
          | err e2 st2 => exact sim_stmt_stop tag sp fs eff _ o _ _ s (.inl (stopOf_err_false _ _)) rfl
          | oof => exact sim_stmt_stop tag sp fs eff _ o _ _ s (.inr rfl) rfl
        | jump l c => simp [straight] at hstr
        | ret e =>
          simp only [itemOf]; rw [runItems_cons, if_pos rfl]
          cases e with
          | none => simp [Sim, SimS, TRes.stop, stopOf]
          | some e =>
            simp only
            generalize evalExpr (instCfg cfg sp fs) _ locals e _ = r
            cases r with
            | ok v st2 => simp [Sim, SimS, TRes.stop, stopOf]
            | err e2 st2 => exact sim_prefix _ _ (.inl (stopOf_err_false _ _)) List.nil_prefix
            | oof => exact sim_prefix _ _ (.inr rfl) List.nil_prefix
        | label l => exact sim_stmt tag sp fs eff _ o _ _ s (next ..)
        | function fid name args laa isAsync body => exact sim_stmt tag sp fs eff _ o _ _ s (next ..)
        | «include» incs =>
          simp only [itemOf]; rw [runItems_cons, if_neg nofun]
          have h1 := ihI g (by omega) base incs { st with count := st.count + 1 } (C17.tick o) s ho1
          have h2 := fun st2 => ihE g (by omega) P locals base cache (pc+1) st2
            (Include.runEntries (icfgOf tag sp fs) (Include.runScript (icfgOf tag sp fs) eff g) (C17.tick o) (incs.map entryOf) s).opts
            (Include.runEntries (icfgOf tag sp fs) (Include.runScript (icfgOf tag sp fs) eff g) (C17.tick o) (incs.map entryOf) s).state
            hP (by rw [C17.runEntries_urlFn]; exact ho1)
          have hnr := execIncludesT_not_ret tag (instCfg cfg sp fs) incs f base { st with count := st.count + 1 }
          generalize execIncludesT tag (instCfg cfg sp fs) f base incs _ = mi at h1 hnr ⊢
          cases hmi : mi.res with
          | done st2 => exact sim_andThen_fin (by simp [TRes.stop, hmi, stopOf]) h1 (h2 st2)
          | ret v st2 => exact absurd hmi (hnr v st2)
          | err e st2 => exact sim_andThen_stop _ (by simp [TRes.stop, hmi, stopOf_err_ne_fin]) h1
          | oof => exact sim_andThen_stop _ (by simp [TRes.stop, hmi, stopOf]) h1

theorem simAt (hfs : FilesStraight fs) : ∀ fuel, SimAt tag cfg sp fs eff fuel
  | 0 => ⟨simExec tag cfg sp fs eff 0 (fun f h => by omega), simIncludes tag cfg sp fs eff hfs 0 (fun f h => by omega)⟩
  | fuel+1 =>
    have ih := simAt hfs fuel
    ⟨simExec tag cfg sp fs eff (fuel+1) (fun f h => by cases h; exact ih),
     simIncludes tag cfg sp fs eff hfs (fuel+1) (fun f h => by cases h; exact ih)⟩

end Sim

end C17Bridge
