import BareProofs.C01ParseLemmas

/-!
# T1 `parseLines_render`: the stack/counter algorithm of `parse_script` computes the recursive lowering

and its converse `parse_rejects_ill_nested`: what is not well nested is rejected.  Both are readings of one statement,
`runsS / runsB / runsE`: what the parser does on the rendered lines of any block, from any state.
-/

namespace C01
open Lower

mutual
theorem wnS_noCont : ∀ (s : SStmt) (f : Bool), wnS false f s = true → usesContS s = false
  | .expr .., _, _ => rfl
  | .ret .., _, _ => rfl
  | .label .., _, _ => rfl
  | .jump .., _, _ => rfl
  | .include .., _, _ => rfl
  | .brk, _, _ => rfl
  | .cont, _, h => nomatch h
  | .ite _ t e, f, h => by
      have h := Bool.and_eq_true_iff.mp h
      show (usesContB t || usesContE e) = false
      rw [wnB_noCont t f h.1, wnE_noCont e f h.2]; rfl
  | .while .., _, _ => rfl
  | .for .., _, _ => rfl
  | .func .., _, _ => rfl
theorem wnB_noCont : ∀ (B : List SStmt) (f : Bool), wnB false f B = true → usesContB B = false
  | [], _, _ => rfl
  | s :: ss, f, h => by
      have h := Bool.and_eq_true_iff.mp h
      show (usesContS s || usesContB ss) = false
      rw [wnS_noCont s f h.1, wnB_noCont ss f h.2]; rfl
theorem wnE_noCont : ∀ (e : SElse) (f : Bool), wnE false f e = true → usesContE e = false
  | .none, _, _ => rfl
  | .els b, f, h => wnB_noCont b f h
  | .elif _ t e, f, h => by
      have h := Bool.and_eq_true_iff.mp h
      show (usesContB t || usesContE e) = false
      rw [wnB_noCont t f h.1, wnE_noCont e f h.2]; rfl
end

theorem endsInc_lowerS (s : SStmt) (lp : Option (Name × Name)) (i : Nat) (pre : List Stmt) (il ifn : Bool)
    (hs : isInc s = false) (hw : wnS il ifn s = true) (hl : il = true → lp.isSome = true) :
    endsInc (pre ++ (lowerS lp s i).1) = false := by
  cases s with
  | expr n e => exact endsInc_append_of_last _ _ (.expr n e) rfl nofun
  | ret e => exact endsInc_append_of_last _ _ (.ret e) rfl nofun
  | label l => exact endsInc_append_of_last _ _ (.label l) rfl nofun
  | jump l c => exact endsInc_append_of_last _ _ (.jump l c) rfl nofun
  | «include» incs => cases hs
  | brk =>
      obtain ⟨⟨b, c⟩, rfl⟩ := Option.isSome_iff_exists.mp (hl hw)
      exact endsInc_append_of_last _ _ (.jump b none) rfl nofun
  | cont =>
      obtain ⟨⟨b, c⟩, rfl⟩ := Option.isSome_iff_exists.mp (hl hw)
      exact endsInc_append_of_last _ _ (.jump c none) rfl nofun
  | ite c t e =>
      obtain ⟨init, h⟩ := lowerS_ends_done lp (.ite c t e) i trivial
      exact endsInc_append_of_last _ _ (.label (lDone i)) (h ▸ List.getLast?_concat) nofun
  | «while» c b =>
      obtain ⟨init, h⟩ := lowerS_ends_done lp (.while c b) i trivial
      exact endsInc_append_of_last _ _ (.label (lDone i)) (h ▸ List.getLast?_concat) nofun
  | «for» v ix vals b =>
      obtain ⟨init, h⟩ := lowerS_ends_done lp (.for v ix vals b) i trivial
      exact endsInc_append_of_last _ _ (.label (lDone i)) (h ▸ List.getLast?_concat) nofun
  | func fid n a l y b =>
      exact endsInc_append_of_last _ _ (.function fid n a l y (lowerB none b i).1) rfl nofun

theorem renderS_ite_append (c : Expr) (t : List SStmt) (e : SElse) (rest : List Line) :
    renderS (.ite c t e) ++ rest = .ifBegin c :: (renderB t ++ (renderE e ++ rest)) := by
  show [_] ++ _ ++ _ ++ rest = _
  simp only [List.append_assoc, List.cons_append, List.nil_append]

theorem renderS_while_append (c : Expr) (b : List SStmt) (rest : List Line) :
    renderS (.while c b) ++ rest = .whileBegin c :: (renderB b ++ .endwhile :: rest) := by
  show [_] ++ _ ++ [_] ++ rest = _
  simp only [List.append_assoc, List.cons_append, List.nil_append]

theorem renderS_for_append (v : Name) (ix : Option Name) (vals : Expr) (b : List SStmt) (rest : List Line) :
    renderS (.for v ix vals b) ++ rest = .forBegin v ix vals :: (renderB b ++ .endfor :: rest) := by
  show [_] ++ _ ++ [_] ++ rest = _
  simp only [List.append_assoc, List.cons_append, List.nil_append]

theorem renderS_func_append (fid : Nat) (n : Name) (args : List Name) (laa isAsync : Bool) (b : List SStmt) (rest : List Line) :
    renderS (.func fid n args laa isAsync b) ++ rest = .funcBegin n args laa isAsync :: (renderB b ++ .funcEnd :: rest) := by
  show [_] ++ _ ++ [_] ++ rest = _
  simp only [List.append_assoc, List.cons_append, List.nil_append]

theorem renderB_cons_append (s : SStmt) (ss : List SStmt) (rest : List Line) :
    renderB (s :: ss) ++ rest = renderS s ++ (renderB ss ++ rest) := List.append_assoc ..

theorem renderE_els_append (b : List SStmt) (rest : List Line) :
    renderE (.els b) ++ rest = .else_ :: (renderB b ++ .endif :: rest) := by
  show [_] ++ _ ++ [_] ++ rest = _
  simp only [List.append_assoc, List.cons_append, List.nil_append]

theorem renderE_elif_append (c : Expr) (t : List SStmt) (e : SElse) (rest : List Line) :
    renderE (.elif c t e) ++ rest = .elif c :: (renderB t ++ (renderE e ++ rest)) := by
  show [_] ++ _ ++ _ ++ rest = _
  simp only [List.append_assoc, List.cons_append, List.nil_append]

/-- consecutive include lines are merged into the include statement that ends the current list -/
theorem includes_merge : ∀ (more : List IncludeScript) (st : PState) (c : List Stmt) (acc : List IncludeScript)
    (rest : List Line), st.cur = c ++ [.include acc] →
    parseLinesFrom st (more.map (fun i => Line.include i.url i.system) ++ rest) =
      parseLinesFrom (upd st (c ++ [.include (acc ++ more)]) st.defs st.idx st.nextFid) rest
  | [], st, c, acc, rest, h => by rw [List.append_nil, ← h, upd_self]; rfl
  | i :: more, st, c, acc, rest, h => by
      have hs : stepLine st (.include i.url i.system) =
          .ok (upd st (c ++ [.include (acc ++ [i])]) st.defs st.idx st.nextFid) := by
        rw [stepLine, h, List.getLast?_concat, List.dropLast_concat]; exact congrArg Except.ok (setCur_eq_upd st _)
      rw [List.map_cons, List.cons_append, pl_cons _ hs, includes_merge more _ c (acc ++ [i]) rest (upd_cur ..),
        upd_upd, List.append_assoc, List.singleton_append]
      rfl

theorem includes_first (st : PState) (i : IncludeScript) (more : List IncludeScript) (rest : List Line)
    (h : endsInc st.cur = false) :
    parseLinesFrom st ((i :: more).map (fun i => Line.include i.url i.system) ++ rest) =
      parseLinesFrom (upd st (st.cur ++ [.include (i :: more)]) st.defs st.idx st.nextFid) rest := by
  have hs : stepLine st (.include i.url i.system) =
      .ok (upd st (st.cur ++ [.include [i]]) st.defs st.idx st.nextFid) := by
    rw [stepLine]
    split
    · rename_i incs hh; rw [endsInc, hh] at h; cases h
    · exact congrArg Except.ok (emit_eq_upd st _)
  rw [List.map_cons, List.cons_append, pl_cons _ hs, includes_merge more _ st.cur [i] rest (upd_cur ..), upd_upd]
  rfl

theorem includes_any (s : PState) (d : List LabelDef) (i n : Nat) : ∀ (incs : List IncludeScript) (cur : List Stmt)
    (rest : List Line), ∃ c, parseLinesFrom (upd s cur d i n) (incs.map (fun i => Line.include i.url i.system) ++ rest) =
      parseLinesFrom (upd s c d i n) rest
  | [], cur, rest => ⟨cur, rfl⟩
  | j :: more, cur, rest => by
      have hs : ∃ c, stepLine (upd s cur d i n) (.include j.url j.system) = .ok (upd s c d i n) := by
        rw [stepLine]; split
        · exact ⟨_, congrArg Except.ok ((setCur_eq_upd ..).trans (upd_upd ..))⟩
        · exact ⟨_, congrArg Except.ok ((emit_eq_upd ..).trans (upd_upd ..))⟩
      obtain ⟨c, hs⟩ := hs
      obtain ⟨c', h⟩ := includes_any s d i n more c rest
      exact ⟨c', by rw [List.map_cons, List.cons_append, pl_cons _ hs, h]⟩

def Errs (r : Except LowerErr PState) : Prop := ∃ e, r = .error e

theorem pl_err {s : PState} {l : Line} {e} (ls : List Line) (h : stepLine s l = .error e) :
    Errs (parseLinesFrom s (l :: ls)) := ⟨e, by rw [parseLinesFrom, h]⟩

/-- parsing `ls` from `a` fails (`false`), or gets through `ls` down to `rest` in the state `b c` for a statement list `c`
with `P c` (`true`) -/
def Runs (a : PState) (ls rest : List Line) (b : List Stmt → PState) (P : List Stmt → Prop) : Bool → Prop
  | true => ∃ c, parseLinesFrom a ls = parseLinesFrom (b c) rest ∧ P c
  | false => Errs (parseLinesFrom a ls)

namespace Runs
variable {a a1 : PState} {ls ms mid rest : List Line} {b b1 : List Stmt → PState} {P P1 : List Stmt → Prop}
  {ok ok1 ok2 : Bool} {l : Line}

theorem nil {c : List Stmt} (h : a = b c) (hP : P c) : Runs a rest rest b P true := ⟨c, h ▸ rfl, hP⟩

theorem line {c : List Stmt} (hs : stepLine a l = .ok (b c)) (hP : P c) : Runs a (l :: rest) rest b P true :=
  ⟨c, pl_cons rest hs, hP⟩

theorem err {e : LowerErr} (hs : stepLine a l = .error e) : Runs a (l :: ls) rest b P false := pl_err ls hs

theorem cons (hs : stepLine a l = .ok a1) (h : Runs a1 ms rest b P ok) : Runs a (l :: ms) rest b P ok := by
  cases ok with
  | false => exact (congrArg Errs (pl_cons ms hs)).mpr h
  | true => obtain ⟨c, h, hP⟩ := h; exact ⟨c, (pl_cons ms hs).trans h, hP⟩

/-- a block, then what follows it (which may use that the block was accepted) -/
theorem seq {P2 : List Stmt → List Stmt → Prop} (h1 : Runs a ls mid b1 P1 ok1)
    (h2 : ok1 = true → ∀ c, P1 c → Runs (b1 c) mid rest b (P2 c) ok2) :
    Runs a ls rest b (fun c' => ok1 = true ∧ ∃ c, P1 c ∧ P2 c c') (ok1 && ok2) := by
  cases ok1 with
  | false => exact h1
  | true =>
    obtain ⟨c, h, hP⟩ := h1
    have h2 := h2 rfl c hP
    cases ok2 with
    | false => exact (congrArg Errs h).mpr h2
    | true => obtain ⟨c', h', hP'⟩ := h2; exact ⟨c', h.trans h', rfl, c, hP, hP'⟩

theorem then_line (f : List Stmt → List Stmt) (h1 : Runs a ls (l :: rest) b1 P1 ok)
    (hs : ∀ c, stepLine (b1 c) l = .ok (b (f c))) (hP : ∀ c, P1 c → P (f c)) : Runs a ls rest b P ok := by
  cases ok with
  | false => exact h1
  | true => obtain ⟨c, h, hc⟩ := h1; exact ⟨f c, h.trans (pl_cons rest (hs c)), hP c hc⟩

theorem conv {b' : List Stmt → PState} {P' : List Stmt → Prop} {ok' : Bool} (h : Runs a ls rest b P ok)
    (hok : ok = ok') (hb : ∀ c, b c = b' c) (hP : ∀ c, P c → P' c) : Runs a ls rest b' P' ok' := by
  subst hok
  cases ok with
  | false => exact h
  | true => obtain ⟨c, h, hc⟩ := h; exact ⟨c, hb c ▸ h, hP c hc⟩

end Runs

theorem upd_markCont_false (s : PState) (c : List Stmt) (sc below : List LabelDef) (i n : Nat) :
    upd s c (sc ++ below) i n = upd s c (markCont false sc ++ below) i n := by rw [markCont_false]

theorem run_plain {s : PState} {cur : List Stmt} {sc below : List LabelDef} {i n : Nat} {line : Line} {xs : List Stmt}
    (rest : List Line) {P : List Stmt → Prop}
    (hs : stepLine (upd s cur (sc ++ below) i n) line = .ok (upd s (cur ++ xs) (sc ++ below) i n)) (hP : P (cur ++ xs)) :
    Runs (upd s cur (sc ++ below) i n) (line :: rest) rest (fun c => upd s c (markCont false sc ++ below) i n) P true :=
  .line (c := cur ++ xs) (hs.trans (congrArg Except.ok (upd_markCont_false ..))) hP

/-!
The rendered lines of a block are rejected exactly when the block is not well nested for the state they meet (a `break` /
`continue` with no loop entry in `sc`, a function definition while a function is open): a closing line never fails, its opener
pushed the matching entry.  The hypotheses on function identifiers and includes stand inside `ExactS / ExactB / ExactE` and not
in front: the parser numbers the functions itself and merges include lines, so without them only the statement list differs.

`runsE`: the open `ifD` entry remembers the position `at_ = pre.length` of the conditional jump `jump curL c0` inside the
current list `pre ++ jump curL c0 :: mid`; later lines only append, and at `endif` without `else` that position is re-targeted
to `done` (`retarget_mid`), which is what `lowerS` / `lowerElse` emit up front.
-/

mutual
theorem runsS : ∀ (s : SStmt) (st : PState) (cur : List Stmt) (sc below : List LabelDef) (i n : Nat) (rest : List Line),
    below.length = st.floor →
    Runs (upd st cur (sc ++ below) i n) (renderS s ++ rest) rest
      (fun c => upd st c (markCont (usesContS s) sc ++ below) (cntS s i) (n + nfS s))
      (ExactS cur sc i n s) (wnS (loopOf sc).isSome st.func.isSome s)
  | .expr none e, st, cur, sc, below, i, n, rest, _ => run_plain rest (step_exprStmt ..) fun _ _ _ => rfl
  | .expr (some x) e, st, cur, sc, below, i, n, rest, _ =>
      run_plain rest (step_assign ..) fun _ _ _ => rfl
  | .ret e, st, cur, sc, below, i, n, rest, _ => run_plain rest (step_ret ..) fun _ _ _ => rfl
  | .label l, st, cur, sc, below, i, n, rest, _ => run_plain rest (step_labelLine ..) fun _ _ _ => rfl
  | .jump l c, st, cur, sc, below, i, n, rest, _ => run_plain rest (step_jumpLine ..) fun _ _ _ => rfl
  | .include incs, st, cur, sc, below, i, n, rest, _ => by
      show Runs _ _ rest (fun c => upd st c (markCont false sc ++ below) i n) _ true
      rw [markCont_false]
      cases hE : endsInc cur with
      | true =>
          obtain ⟨c, h⟩ := includes_any st (sc ++ below) i n incs cur rest
          exact ⟨c, h, fun _ _ he => nomatch hE.symm.trans (he rfl)⟩
      | false =>
          cases incs with
          | nil => exact ⟨cur, rfl, fun _ hi _ => nomatch hi⟩
          | cons j more =>
              refine ⟨_, (includes_first _ j more rest (by rw [upd_cur]; exact hE)).trans ?_, fun _ _ _ => rfl⟩
              rw [upd_upd, upd_cur]; rfl
  | .brk, st, cur, sc, below, i, n, rest, hfl => by
      have hs := step_break st cur sc below i n hfl
      show Runs _ (.break_ :: rest) rest _ _ (loopOf sc).isSome
      cases hlp : loopOf sc with
      | none => rw [hlp] at hs; exact .err hs
      | some p =>
          rw [hlp] at hs
          exact .line (hs.trans (congrArg Except.ok (upd_markCont_false ..))) fun _ _ _ => by rw [hlp]; rfl
  | .cont, st, cur, sc, below, i, n, rest, hfl => by
      have hs := step_continue st cur sc below i n hfl
      show Runs _ (.continue_ :: rest) rest _ _ (loopOf sc).isSome
      cases hlp : loopOf sc with
      | none => rw [hlp] at hs; exact .err hs
      | some p => rw [hlp] at hs; exact .line hs fun _ _ _ => by rw [hlp]; rfl
  | .while c b, st, cur, sc, below, i, n, rest, hfl => by
      rw [renderS_while_append]
      have ih := runsB b st (cur ++ [.jump (lDone i) (some (notE c)), .label (lLoop i)]) (.whileD (lLoop i) (lDone i) c :: sc)
        below (i + 1) n (.endwhile :: rest) hfl
      change Runs _ _ _ (fun c1 => upd st c1 (.whileD (lLoop i) (lDone i) c :: sc ++ below) _ _) _
        (wnB true st.func.isSome b) at ih
      refine .cons (step_whileBegin ..) ((ih.then_line (b := fun c => upd st c (sc ++ below) _ _)
        (· ++ [.jump (lLoop i) (some c), .label (lDone i)]) (fun c1 => step_endwhile st c1 sc below _ _ hfl ..)
        fun c1 hc1 hfi hi _ => ?_).conv rfl (fun _ => upd_markCont_false ..) fun _ h => h)
      rw [hc1 hfi hi fun _ => endsInc_append_of_last _ _ (.label (lLoop i)) rfl nofun, lowerS_while_eq]
      simp only [loopOf_whileD, List.append_assoc, List.cons_append, List.nil_append]
  | .for v ix vals b, st, cur, sc, below, i, n, rest, hfl => by
      rw [renderS_for_append]
      have ih := runsB b st (cur ++ forHeader i v (ix.getD (vIndex i)) vals) (.forD i (ix.getD (vIndex i)) false :: sc)
        below (i + 1) n (.endfor :: rest) hfl
      change Runs _ _ _ (fun c1 => upd st c1 (.forD i (ix.getD (vIndex i)) (usesContB b) :: sc ++ below) _ _) _
        (wnB true st.func.isSome b) at ih
      refine .cons (step_forBegin ..) ((ih.then_line (b := fun c => upd st c (sc ++ below) _ _)
        (· ++ forFooter i (ix.getD (vIndex i)) (usesContB b)) (fun c1 => step_endfor st c1 sc below _ _ hfl ..)
        fun c1 hc1 hfi hi _ => ?_).conv rfl (fun _ => upd_markCont_false ..) fun _ h => h)
      rw [hc1 hfi hi fun _ => endsInc_append_of_last _ _ (.expr (some v) (.function fnArrayGet [.variable (vValues i),
        .variable (ix.getD (vIndex i))])) rfl nofun, lowerS_for_eq]
      simp only [loopOf_forD, List.append_assoc]
  | .func fid x args laa isAsync b, st, cur, sc, below, i, n, rest, _ => by
      obtain ⟨stmts, func, defs, idx, nf⟩ := st
      rw [renderS_func_append]
      cases func with
      | some fd => exact .err (e := .nestedFunction) rfl
      | none =>
        have hs : stepLine (upd ⟨stmts, none, defs, idx, nf⟩ cur (sc ++ below) i n) (.funcBegin x args laa isAsync) =
            .ok (upd ⟨cur, some ⟨n, x, args, laa, isAsync, [], (sc ++ below).length⟩, defs, idx, nf⟩ []
              ([] ++ (sc ++ below)) i (n + 1)) := rfl
        have ih := runsB b ⟨cur, some ⟨n, x, args, laa, isAsync, [], (sc ++ below).length⟩, defs, idx, nf⟩ [] [] (sc ++ below) i
          (n + 1) (.funcEnd :: rest) rfl
        change Runs _ _ _ (fun c1 => upd _ c1 (sc ++ below) _ _) _ (wnB false true b) at ih
        refine .cons hs ((ih.then_line (b := fun c => upd ⟨stmts, none, defs, idx, nf⟩ c (sc ++ below) _ _)
          (fun c1 => cur ++ [.function n x args laa isAsync c1]) (fun c1 => ?_) fun c1 hc1 hfi hi _ => ?_).conv
            rfl (fun _ => upd_markCont_false ..) fun _ h => h)
        · show stepLine ⟨cur, some ⟨n, x, args, laa, isAsync, c1, (sc ++ below).length⟩, sc ++ below, _, _⟩ .funcEnd = _
          rw [stepLine, Nat.add_assoc]; exact if_neg (Nat.lt_irrefl _)
        · obtain ⟨hf1, hf2⟩ := Bool.and_eq_true_iff.mp hfi
          cases (beq_iff_eq.mp hf1 : fid = n)
          rw [hc1 hf2 hi fun _ => rfl]; rfl
  | .ite c t e, st, cur, sc, below, i, n, rest, hfl => by
      rw [renderS_ite_append]
      have ih := runsB t st (cur ++ [.jump (lIf i) (some (notE c))]) (.ifD cur.length (lIf i) (lDone i) false :: sc) below
        (i + 1) n (renderE e ++ rest) hfl
      change Runs _ _ _ (fun c1 => upd st c1 (.ifD cur.length (lIf i) (lDone i) false :: markCont (usesContB t) sc ++ below)
        _ _) _ _ at ih
      refine .cons (step_ifBegin ..) ((ih.seq fun _ c1 hc1 => runsE e st c1 (markCont (usesContB t) sc) below (cntB t (i + 1))
          (n + nfB t) rest cur.length (lIf i) (lDone i) hfl).conv ?_ (fun _ => ?_) fun c2 ⟨_, c1, hc1, hc2⟩ hfi hi _ => ?_)
      · simp only [loopOf_ifD, loopOf_markCont]; rfl
      · simp only [markCont_markCont, Nat.add_assoc]; rfl
      · obtain ⟨hf1, hf2⟩ := Bool.and_eq_true_iff.mp hfi
        obtain ⟨hi1, hi2⟩ := Bool.and_eq_true_iff.mp hi
        have e1 := hc1 hf1 hi1 fun _ => endsInc_append_of_last _ _ (.jump (lIf i) (some (notE c))) rfl nofun
        rw [hc2 cur (lowerB (loopOf sc) t (i + 1)).1 (some (notE c)) rfl
          (by rw [e1, loopOf_ifD, List.append_assoc, List.singleton_append]) hf2 hi2, lowerS_ite_eq, chainCode]
        simp only [loopOf_markCont, List.append_assoc, List.cons_append]; cases e <;> rfl
theorem runsB : ∀ (B : List SStmt) (st : PState) (cur : List Stmt) (sc below : List LabelDef) (i n : Nat) (rest : List Line),
    below.length = st.floor →
    Runs (upd st cur (sc ++ below) i n) (renderB B ++ rest) rest
      (fun c => upd st c (markCont (usesContB B) sc ++ below) (cntB B i) (n + nfB B))
      (ExactB cur sc i n B) (wnB (loopOf sc).isSome st.func.isSome B)
  | [], st, cur, sc, below, i, n, rest, _ =>
      .nil (c := cur) (upd_markCont_false ..) fun _ _ _ => (List.append_nil _).symm
  | s :: ss, st, cur, sc, below, i, n, rest, hfl => by
      rw [renderB_cons_append]
      refine ((runsS s st cur sc below i n _ hfl).seq fun hw c1 hc1 => runsB ss st c1 (markCont (usesContS s) sc) below
        (cntS s i) (n + nfS s) rest hfl).conv ?_ (fun _ => ?_) fun c2 ⟨hw, c1, hc1, hc2⟩ hfi hi he => ?_
      · simp only [loopOf_markCont]; rfl
      · simp only [markCont_markCont, Nat.add_assoc]; rfl
      · obtain ⟨hf1, hf2⟩ := Bool.and_eq_true_iff.mp hfi
        obtain ⟨hi1, hi2⟩ := Bool.and_eq_true_iff.mp hi
        obtain ⟨hi1, hi3⟩ := Bool.and_eq_true_iff.mp hi1
        have e1 := hc1 hf1 hi1 he
        rw [hc2 hf2 hi2 fun h => e1 ▸ endsInc_lowerS s _ i cur _ _
            (by rw [h, Bool.and_true, Bool.not_eq_true'] at hi3; exact hi3) hw id,
          e1, lowerB_cons, loopOf_markCont, List.append_assoc]
theorem runsE : ∀ (e : SElse) (st : PState) (cur : List Stmt) (sc below : List LabelDef) (i n : Nat) (rest : List Line)
    (at_ : Nat) (curL done : Name), below.length = st.floor →
    Runs (upd st cur (.ifD at_ curL done false :: sc ++ below) i n) (renderE e ++ rest) rest
      (fun c => upd st c (markCont (usesContE e) sc ++ below) (cntE e i) (n + nfE e))
      (ExactE cur sc i n at_ curL done e) (wnE (loopOf sc).isSome st.func.isSome e)
  | .none, st, cur, sc, below, i, n, rest, at_, curL, done, hfl =>
      .line (c := retarget cur at_ done ++ [.label done])
        ((step_endif st cur sc below i n hfl at_ curL done false).trans (congrArg Except.ok (upd_markCont_false ..)))
        fun pre mid c0 hat hc _ _ => by rw [hc, retarget_mid _ _ _ _ _ _ hat]; rfl
  | .els b, st, cur, sc, below, i, n, rest, at_, curL, done, hfl => by
      rw [renderE_els_append]
      have ih := runsB b st (cur ++ [.jump done none, .label curL]) (.ifD at_ curL done true :: sc) below i n (.endif :: rest) hfl
      change Runs _ _ _ (fun c1 => upd st c1 (.ifD at_ curL done true :: markCont (usesContB b) sc ++ below) _ _) _ _ at ih
      refine .cons (step_else st cur sc below i n hfl ..) ((ih.then_line (· ++ [.label done])
        (fun c1 => step_endif st c1 _ below _ _ hfl ..) fun c1 hc1 pre mid c0 hat hc hfi hi => ?_).conv ?_
          (fun _ => rfl) fun _ h => h)
      · rw [hc1 hfi hi fun _ => endsInc_append_of_last _ _ (.label curL) rfl nofun, hc]
        show _ = pre ++ .jump curL c0 :: mid ++ ([.jump done none, .label curL] ++ (lowerB (loopOf sc) b i).1 ++ [.label done])
        simp only [loopOf_ifD, List.append_assoc, List.cons_append, List.nil_append]
      · rw [loopOf_ifD]; rfl
  | .elif c t e, st, cur, sc, below, i, n, rest, at_, curL, done, hfl => by
      rw [renderE_elif_append]
      have ih := runsB t st (cur ++ [.jump done none, .label curL, .jump (lIf i) (some (notE c))])
        (.ifD (cur.length + 2) (lIf i) done false :: sc) below (i + 1) n (renderE e ++ rest) hfl
      change Runs _ _ _ (fun c1 => upd st c1 (.ifD (cur.length + 2) (lIf i) done false :: markCont (usesContB t) sc ++ below)
        _ _) _ _ at ih
      refine .cons (step_elif st cur sc below i n hfl ..) ((ih.seq fun _ c1 hc1 => runsE e st c1 (markCont (usesContB t) sc)
        below (cntB t (i + 1)) (n + nfB t) rest (cur.length + 2) (lIf i) done hfl).conv ?_ (fun _ => ?_)
          fun c2 ⟨_, c1, hc1, hc2⟩ pre mid c0 hat hc hfi hi => ?_)
      · simp only [loopOf_ifD, loopOf_markCont]; rfl
      · simp only [markCont_markCont, Nat.add_assoc]; rfl
      · obtain ⟨hf1, hf2⟩ := Bool.and_eq_true_iff.mp hfi
        obtain ⟨hi1, hi2⟩ := Bool.and_eq_true_iff.mp hi
        have e1 := hc1 hf1 hi1 fun _ => endsInc_append_of_last _ _ (.jump (lIf i) (some (notE c))) rfl nofun
        rw [hc2 (cur ++ [.jump done none, .label curL]) (lowerB (loopOf sc) t (i + 1)).1 (some (notE c))
          (by rw [List.length_append]; rfl)
          (by rw [e1, loopOf_ifD]; simp only [List.append_assoc, List.cons_append, List.nil_append]) hf2 hi2,
          lowerElse_eq (loopOf sc) curL done (.elif c t e) i]
        show _ = pre ++ .jump curL c0 :: mid ++ ([.jump done none, .label curL] ++ chainCode (loopOf sc) done c t e i)
        rw [chainCode]
        simp only [hc, loopOf_markCont, List.append_assoc, List.cons_append, List.nil_append]; cases e <;> rfl
end

mutual
theorem wnS_mono {il il' f f' : Bool} (hl : il = true → il' = true) (hf : f = false → f' = false) :
    ∀ s : SStmt, wnS il f s = true → wnS il' f' s = true
  | .expr .., _ | .ret _, _ | .label _, _ | .jump .., _ | .include _, _ => rfl
  | .brk, h => hl h
  | .cont, h => hl h
  | .ite _ t e, h =>
      have h := Bool.and_eq_true_iff.mp h
      Bool.and_eq_true_iff.mpr ⟨wnB_mono hl hf t h.1, wnE_mono hl hf e h.2⟩
  | .while _ b, h => wnB_mono (fun _ => rfl) hf b h
  | .for _ _ _ b, h => wnB_mono (fun _ => rfl) hf b h
  | .func _ _ _ _ _ b, h =>
      have h := Bool.and_eq_true_iff.mp h
      Bool.and_eq_true_iff.mpr ⟨by rw [hf (Bool.not_eq_true' _ ▸ h.1)]; rfl, h.2⟩
theorem wnB_mono {il il' f f' : Bool} (hl : il = true → il' = true) (hf : f = false → f' = false) :
    ∀ B : List SStmt, wnB il f B = true → wnB il' f' B = true
  | [], _ => rfl
  | s :: ss, h =>
      have h := Bool.and_eq_true_iff.mp h
      Bool.and_eq_true_iff.mpr ⟨wnS_mono hl hf s h.1, wnB_mono hl hf ss h.2⟩
theorem wnE_mono {il il' f f' : Bool} (hl : il = true → il' = true) (hf : f = false → f' = false) :
    ∀ e : SElse, wnE il f e = true → wnE il' f' e = true
  | .none, _ => rfl
  | .els b, h => wnB_mono hl hf b h
  | .elif _ t e, h =>
      have h := Bool.and_eq_true_iff.mp h
      Bool.and_eq_true_iff.mpr ⟨wnB_mono hl hf t h.1, wnE_mono hl hf e h.2⟩
end

/-! `stepS`, `stepE`: `runsS`, `runsE` read for an accepted block, the state given as it is; `il`, `ifn` may under-approximate
"inside a loop" and over-approximate "inside a function" (`wnS_mono`). -/

theorem func_isSome_of {st : PState} {ifn : Bool} (hfn : ifn = false → st.func = none) :
    ifn = false → st.func.isSome = false := fun h => by rw [hfn h]; rfl

theorem stepS : ∀ (s : SStmt) (st : PState) (sc below : List LabelDef) (il ifn : Bool) (rest : List Line),
    st.defs = sc ++ below → below.length = st.floor →
    (il = true → (loopOf sc).isSome = true) → (ifn = false → st.func = none) →
    wnS il ifn s = true → fidsS st.nextFid s = true → incS s = true →
    (isInc s = true → endsInc st.cur = false) →
    parseLinesFrom st (renderS s ++ rest) =
      parseLinesFrom (upd st (st.cur ++ (lowerS (loopOf sc) s st.idx).1) (markCont (usesContS s) sc ++ below)
        (cntS s st.idx) (st.nextFid + nfS s)) rest :=
  fun s st sc below il ifn rest hd hfl hl hfn hw hfi hi he => by
    have h := runsS s st st.cur sc below st.idx st.nextFid rest hfl
    rw [← hd, upd_self, wnS_mono hl (func_isSome_of hfn) s hw] at h
    obtain ⟨c, h, hc⟩ := h
    rw [h, hc hfi hi he]

theorem stepE : ∀ (e : SElse) (st : PState) (sc below : List LabelDef) (il ifn : Bool) (rest : List Line)
    (at_ : Nat) (pre mid : List Stmt) (curL done : Name) (c0 : Option Expr),
    st.defs = .ifD at_ curL done false :: (sc ++ below) → below.length = st.floor →
    at_ = pre.length → st.cur = pre ++ .jump curL c0 :: mid →
    (il = true → (loopOf sc).isSome = true) → (ifn = false → st.func = none) →
    wnE il ifn e = true → fidsE st.nextFid e = true → incE e = true →
    parseLinesFrom st (renderE e ++ rest) =
      parseLinesFrom (upd st (pre ++ .jump (match e with | .none => done | _ => curL) c0 :: mid ++
          (lowerElse (loopOf sc) curL done e st.idx).1)
        (markCont (usesContE e) sc ++ below) (cntE e st.idx) (st.nextFid + nfE e)) rest :=
  fun e st sc below il ifn rest at_ pre mid curL done c0 hd hfl hat hc hl hfn hw hfi hi => by
    have h := runsE e st st.cur sc below st.idx st.nextFid rest at_ curL done hfl
    have hd : st.defs = (.ifD at_ curL done false :: sc) ++ below := hd
    rw [← hd, upd_self, wnE_mono hl (func_isSome_of hfn) e hw] at h
    obtain ⟨c, h, hcc⟩ := h
    rw [h, hcc pre mid c0 hat hc hfi hi]
    cases e <;> rfl

/-- **T1.** For a structured program `B` of any nesting depth and length that is well nested (every `break`/`continue`
inside a loop of the same function, no function definition inside a function body), whose function identifiers are
numbered in source order and whose `include` nodes are non-empty and never adjacent, the line-at-a-time parser
(`label_defs` stack, label counter, per-function stack floor, in-place re-targeting of the last conditional jump at
`endif`, "continue label only when used" flag, merging of consecutive include lines) applied to the rendered lines
returns exactly the recursive lowering. -/
theorem parseLines_render (B : List SStmt) (h : WellNested B) (hf : FidsInOrder B) (hi : NoAdjacentIncludes B) :
    parseLines (renderB B) = .ok (lowerProgram B) := by
  have hnc : usesContB B = false := wnB_noCont B false h
  obtain ⟨c, hr, hc⟩ : Runs _ _ _ _ _ true := h ▸ runsB B PState.init [] [] [] 0 0 [] rfl
  rw [List.append_nil (renderB B)] at hr
  change parseLinesFrom PState.init _ = _ at hr
  rw [parseLines, hr, hc hf hi fun _ => rfl, hnc]
  rfl

/-- the hypotheses are inhabited by a non-trivial program: a global loop and a function containing
`for` in `while` in `elif`, with `break` and `continue` at several levels, includes, and a second function -/
def demo : List SStmt :=
  [ .include [⟨"a.bare", false⟩, ⟨"b.bare", true⟩],
    .expr (some (.user "n")) (.number 0),
    .func 0 (.user "f") [.user "xs", .user "k"] false false
      [ .ite (.variable (.user "k")) [.ret (some (.number 1))]
          (.elif (.variable (.user "xs"))
            [ .while (.binary .lt (.variable (.user "k")) (.number 10))
                [ .for (.user "x") (some (.user "ix")) (.variable (.user "xs"))
                    [ .ite (.variable (.user "x")) [.cont] (.elif (.variable (.user "ix")) [.brk] .none),
                      .expr (some (.user "k")) (.binary .add (.variable (.user "k")) (.variable (.user "x"))) ],
                  .ite (.binary .gt (.variable (.user "k")) (.number 5)) [.brk] (.els [.cont]),
                  .for (.user "y") none (.variable (.user "xs")) [.expr none (.variable (.user "y"))] ] ]
            (.els [.include [⟨"c.bare", false⟩], .ret none])),
        .ret (some (.variable (.user "k"))) ],
    .while (.variable (.user "n"))
      [ .func 1 (.user "g") [] true true [.label (.user "l"), .jump (.user "l") none],
        .ite (.variable (.user "n")) [.brk] .none ],
    .include [⟨"d.bare", false⟩] ]

example : parseLines (renderB demo) = .ok (lowerProgram demo) :=
  parseLines_render demo (by decide) (by decide) (by decide)

/-! why `NoAdjacentIncludes` and `FidsInOrder` are needed: the parser merges consecutive include lines, produces no
statement for an empty include node, and numbers the functions itself -/
example : parseLines (renderB [.include [⟨"a", false⟩], .include [⟨"b", true⟩]]) =
    .ok [.include [⟨"a", false⟩, ⟨"b", true⟩]] := rfl
example : lowerProgram [.include [⟨"a", false⟩], .include [⟨"b", true⟩]] =
    [.include [⟨"a", false⟩], .include [⟨"b", true⟩]] := rfl
example : parseLines (renderB [.include []]) = .ok [] := rfl
example : parseLines (renderB [.func 7 (.user "f") [] false false []]) =
    .ok [.function 0 (.user "f") [] false false []] := rfl

/-! ## converse: the parser rejects exactly the ill-nested programs

`rejS`, `rejE` read `runsS`, `runsE` for a state given as it is: whether a block is accepted depends on the state only through its
`shape`, which an accepted block leaves as it was. -/

def isLoopD : LabelDef → Bool
  | .ifD .. => false
  | _ => true

def skel (ds : List LabelDef) : List Bool := ds.map isLoopD

/-- the part of a state that decides acceptance: function open?, stack floor, which stack entries are loops -/
def shape (st : PState) : Bool × Nat × List Bool := (st.func.isSome, st.floor, skel st.defs)

def inLoopK (k : List Bool) (floor : Nat) : Bool := (k.take (k.length - floor)).any id

theorem shape_upd (st c d i n) : shape (upd st c d i n) = (st.func.isSome, st.floor, skel d) := by
  rw [shape, upd_func_isSome, upd_floor]; rfl

theorem shape_eq_iff {st' : PState} {f fl k} : shape st' = (f, fl, k) ↔
    st'.func.isSome = f ∧ st'.floor = fl ∧ skel st'.defs = k := by
  rw [shape, Prod.mk.injEq, Prod.mk.injEq]

theorem skel_markCont (b : Bool) : ∀ ds, skel (markCont b ds) = skel ds
  | [] => rfl
  | .ifD .. :: rest => congrArg (false :: ·) (skel_markCont b rest)
  | .forD .. :: _ => rfl
  | .whileD .. :: _ => rfl

theorem loopOf_isSome (ds : List LabelDef) : (loopOf ds).isSome = (findLoop ds).isSome := by
  rw [loopOf]
  cases h : findLoop ds with
  | none => rfl
  | some x =>
    obtain ⟨pre, l, post⟩ := x
    cases l with
    | ifD => exact (findLoop_spec ds h).2.elim
    | whileD => rfl
    | forD => rfl

theorem inLoopK_floor (k : List Bool) : inLoopK k k.length = false := by
  rw [inLoopK, Nat.sub_self]; rfl

theorem defs_split (st : PState) (hf : st.floor ≤ st.defs.length) :
    ∃ below, st.defs = st.scopeDefs ++ below ∧ below.length = st.floor :=
  ⟨_, (List.take_append_drop (st.defs.length - st.floor) _).symm, by rw [List.length_drop, Nat.sub_sub_self hf]⟩

theorem shape_after (st : PState) (c : List Stmt) (b : Bool) (sc below : List LabelDef) (i n : Nat) :
    shape (upd st c (markCont b sc ++ below) i n) = (st.func.isSome, st.floor, skel (sc ++ below)) := by
  rw [shape_upd, skel, List.map_append, ← skel, skel_markCont, skel, ← List.map_append]; rfl

theorem rejS : ∀ (s : SStmt) (st : PState) (rest : List Line), st.floor ≤ st.defs.length →
    Errs (parseLinesFrom st (renderS s ++ rest)) ∨
    (wnS (findLoop st.scopeDefs).isSome st.func.isSome s = true ∧
      ∃ st', parseLinesFrom st (renderS s ++ rest) = parseLinesFrom st' rest ∧ shape st' = shape st) :=
  fun s st rest hf => by
    obtain ⟨below, hd, hfl⟩ := defs_split st hf
    have h := runsS s st st.cur st.scopeDefs below st.idx st.nextFid rest hfl
    rw [← hd, upd_self, loopOf_isSome] at h
    cases hw : wnS (findLoop st.scopeDefs).isSome st.func.isSome s with
    | false => rw [hw] at h; exact .inl h
    | true =>
      rw [hw] at h
      obtain ⟨c, h, -⟩ := h
      exact .inr ⟨rfl, _, h, (shape_after ..).trans (by rw [← hd]; rfl)⟩

/-- `renderE` starts with `endif`, `else` or `elif`: rejected unless an `if` entry is on top of the scope -/
theorem renderE_noIf (e : SElse) (st : PState) (rest : List Line)
    (h : ∀ a l d he r, st.scopeDefs ≠ .ifD a l d he :: r) : Errs (parseLinesFrom st (renderE e ++ rest)) := by
  have key : ∀ l ls, (l = .endif ∨ l = .else_ ∨ ∃ c, l = .elif c) → Errs (parseLinesFrom st (l :: ls)) := by
    rintro l ls (rfl | rfl | ⟨c, rfl⟩) <;> refine pl_err _ (e := .noMatchingIf) ?_ <;> rw [stepLine] <;> split
    · exact absurd ‹_› (h _ _ _ _ _)
    · rfl
    · exact absurd ‹_› (h _ _ _ _ _)
    · rfl
    · exact absurd ‹_› (h _ _ _ _ _)
    · rfl
  cases e with
  | none => exact key _ _ (.inl rfl)
  | els b => exact key _ _ (.inr (.inl rfl))
  | elif c t e => exact key _ _ (.inr (.inr ⟨c, rfl⟩))

theorem rejE : ∀ (e : SElse) (st : PState) (rest : List Line), st.floor ≤ st.defs.length →
    Errs (parseLinesFrom st (renderE e ++ rest)) ∨
    (wnE (findLoop st.scopeDefs).isSome st.func.isSome e = true ∧
      ∃ st', parseLinesFrom st (renderE e ++ rest) = parseLinesFrom st' rest ∧
        st'.func.isSome = st.func.isSome ∧ st'.floor = st.floor ∧ skel st'.defs = (skel st.defs).tail) :=
  fun e st rest hf => by
    obtain ⟨below, hd, hfl⟩ := defs_split st hf
    cases hsc : st.scopeDefs with
    | nil => exact .inl (renderE_noIf e st rest fun _ _ _ _ _ h => nomatch hsc.symm.trans h)
    | cons d sc =>
      rw [hsc] at hd
      cases d with
      | whileD => exact .inl (renderE_noIf e st rest fun _ _ _ _ _ h => nomatch hsc.symm.trans h)
      | forD => exact .inl (renderE_noIf e st rest fun _ _ _ _ _ h => nomatch hsc.symm.trans h)
      | ifD at_ curL done he =>
        cases he with
        | true =>
          cases e with
          | none =>
            have hs := step_endif st st.cur sc below st.idx st.nextFid hfl at_ curL done true
            rw [← hd, upd_self] at hs
            refine .inr ⟨rfl, _, pl_cons rest hs, shape_eq_iff.mp ((shape_upd ..).trans ?_)⟩
            rw [hd]; rfl
          | els b => exact .inl (pl_err _ (e := .multipleElse) (by rw [stepLine, hsc]; rfl))
          | elif c t e => exact .inl (pl_err _ (e := .elifAfterElse) (by rw [stepLine, hsc]; rfl))
        | false =>
          have h := runsE e st st.cur sc below st.idx st.nextFid rest at_ curL done hfl
          rw [← hd, upd_self, loopOf_isSome] at h
          have hl : (findLoop (.ifD at_ curL done false :: sc)).isSome = (findLoop sc).isSome := by
            rw [← loopOf_isSome, loopOf_ifD, loopOf_isSome]
          rw [hl]
          cases hw : wnE (findLoop sc).isSome st.func.isSome e with
          | false => rw [hw] at h; exact .inl h
          | true =>
            rw [hw] at h
            obtain ⟨c, h, -⟩ := h
            exact .inr ⟨rfl, _, h, shape_eq_iff.mp ((shape_after ..).trans (by rw [hd]; rfl))⟩

/-- the parser rejects every program that is not well nested (no hypothesis on function identifiers or include
statements is needed here); with `parseLines_render`: among the programs with `FidsInOrder` and `NoAdjacentIncludes` it
accepts exactly the well-nested ones -/
theorem parse_rejects_ill_nested (B : List SStmt) (h : ¬ WellNested B) :
    ∃ e, parseLines (renderB B) = .error e := by
  obtain ⟨e, he⟩ : Runs _ _ _ _ _ false := (Bool.not_eq_true _ ▸ h : wnB false false B = false) ▸
    runsB B PState.init [] [] [] 0 0 [] rfl
  rw [List.append_nil (renderB B)] at he
  exact ⟨e, by rw [parseLines, show parseLinesFrom PState.init _ = _ from he]⟩

theorem wellNested_of_parse_ok (B : List SStmt) {r : List Stmt} (h : parseLines (renderB B) = .ok r) :
    WellNested B := by
  refine Decidable.byContradiction fun hn => ?_
  obtain ⟨e, he⟩ := parse_rejects_ill_nested B hn
  rw [he] at h; cases h

/-- `break` inside a function inside a global loop is rejected; so is a nested function definition -/
example : ∃ e, parseLines (renderB
    [.while (.variable (.user "c")) [.func 0 (.user "f") [] false false [.brk]]]) = .error e :=
  parse_rejects_ill_nested _ (by decide)
example : ∃ e, parseLines (renderB
    [.func 0 (.user "f") [] false false [.ite (.variable (.user "c")) [.func 1 (.user "g") [] false false []] .none]])
      = .error e :=
  parse_rejects_ill_nested _ (by decide)

end C01

-- #print axioms C01.parseLines_render            -- [propext, Quot.sound]
-- #print axioms C01.parse_rejects_ill_nested     -- [propext, Quot.sound]
