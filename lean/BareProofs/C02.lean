import Lean.Elab.Tactic
import BareModel.ExprParse
import BareModel.Gen.Regex
import BareProofs.C02Lemmas

/-!
# C02 — expression text parses to the tree the precedence rules dictate

## Token level: the binary chain (`insR` / `parseChain`, mirror of the spine re-ordering of `_parse_binary_expression`)

All chains of any length, all operands:

* `reorder_is_prec`   the generated table `parser.BINARY_REORDER` is exactly "strictly lower precedence" (7 levels)
* `chain_flat`        nothing is dropped or re-ordered: the in-order token sequence of the result is the input
* `chain_wf`          the result respects precedence and left associativity (`WFPrec`)
* `rebuild`           completeness: every `WFPrec` tree is what the chain parser builds from its own token sequence
* `wf_unique`         hence *the* tree is unique: two `WFPrec` trees with the same token sequence are equal
* `chain_is_the_prec_tree`  the three together
* `unary_group_are_operands`  unary applications and groups are leaves of the chain (bind tighter / override)

## Text level: `parseExpr` (mirror of `parse_expression`; scanners in `BareModel/ExprScan.lean`, lemmas in `C02Lemmas.lean`)

All texts of any length and nesting depth:

* `regex_sources_pinned`   the 15 token patterns of the working tree are the ones the scanners were written for
* `parse_uses_chain`       the binary level of the text parser *is* `parseChain` over the operands it scanned, so the chain
                           theorems apply to what the text parser builds (and the result is the unique `WFPrec` tree)
* `parse_deep_wf`          every accepted tree is hereditarily precedence-respecting (`HWF`: at every binary node, inside
                           groups, call arguments and unary operands too)
* `unary_tighter`, `group_overrides`   a unary operator applies to one unary-level operand; a group is parsed independently
                           and is a leaf of the enclosing chain
* `fuel_sufficient`        fuel = text length never runs out (every recursive call is on a strictly shorter text)
* `reject_is_parser_error` the only failure is 'Syntax error' / 'Unmatched parenthesis' with a column pointing at the start of a
                           suffix of the text, `1 ≤ column ≤ length + 1`
* `accept_faithful`        an accepted text is a whitespace-separated spelling of exactly the token sequence of the returned
                           tree, followed by whitespace only: nothing skipped, invented, dropped or re-ordered

Not proved (stated so nobody reads more into the theorems): *completeness* at text level (every spelling of the token
sequence of an `HWF` tree is accepted and yields that tree) — it is sampled by the `expr` correspondence stream, whose
generator knows the intended tree by construction; unique readability of `Lexes` (a backslash in front of a quote
can be read as an escape or, when nothing closes the string later, as an ordinary character — the scanner follows the
regex engine's priority, see `strBody`); the scanners' agreement with CPython's `re` (correspondence).
-/

namespace C02
open ExprParse

theorem reorder_is_prec : ∀ a b : BinOp, reorders a b = decide (prec b < prec a) :=
  fun a b => (by decide +kernel : ∀ a ∈ BinOp.all, ∀ b ∈ BinOp.all, reorders a b = decide (prec b < prec a))
    a (BinOp.mem_all a) b (BinOp.mem_all b)

/-- induction over the binary skeleton of an expression (`Expr` is a nested inductive, so `induction` is unavailable) -/
theorem binInd {motive : Expr → Prop}
    (binary : ∀ op l r, motive l → motive r → motive (.binary op l r))
    (operand : ∀ e, IsOperand e → motive e) : ∀ e, motive e
  | .binary op l r => binary op l r (binInd binary operand l) (binInd binary operand r)
  | .number _ => operand _ rfl
  | .string _ => operand _ rfl
  | .variable _ => operand _ rfl
  | .function _ _ => operand _ rfl
  | .unary _ _ => operand _ rfl
  | .group _ => operand _ rfl

/-- specification-shaped insertion (precedence comparison instead of table lookup, one recursion instead of two) -/
def ins : Expr → BinOp → Expr → Expr
  | .binary pl l rr, op, r => if prec pl < prec op then .binary pl l (ins rr op r) else .binary op (.binary pl l rr) r
  | t, op, r => .binary op t r

/-- an operand is not a binary node, so the catch-all equations of `first`, `chain`, `flat`, `WFPrec`, `AllGe` apply to it -/
theorem not_binary {e : Expr} (h : IsOperand e) (op : BinOp) (l r : Expr) : e = .binary op l r → False := by
  rintro rfl; cases h

theorem ins_of_le {t : Expr} {op : BinOp} (h : ∀ q, rootOp t = some q → prec op ≤ prec q) (r : Expr) :
    ins t op r = .binary op t r := by
  cases t with
  | binary pl l rr => rw [ins, if_neg (Nat.not_lt.mpr (h pl rfl))]
  | _ => rfl

theorem operand_root {e : Expr} (h : IsOperand e) {P : BinOp → Prop} : ∀ q, rootOp e = some q → P q :=
  fun q hq => by rw [h] at hq; cases hq

/-- induction along the right spine that `ins` walks: it descends while the node binds looser than `op`, and puts the new
node on top of the first subtree whose root (if any) binds at least as tight -/
theorem ins_ind (op : BinOp) (r : Expr) {motive : Expr → Expr → Prop}
    (descend : ∀ pl l rr, prec pl < prec op → motive rr (ins rr op r) → motive (.binary pl l rr) (.binary pl l (ins rr op r)))
    (top : ∀ t, (∀ q, rootOp t = some q → prec op ≤ prec q) → motive t (.binary op t r)) (t : Expr) :
    motive t (ins t op r) := by
  induction t using binInd with
  | binary pl l rr _ ihr =>
    by_cases hlt : prec pl < prec op
    · rw [ins, if_pos hlt]; exact descend pl l rr hlt ihr
    · have hle : ∀ q, rootOp (.binary pl l rr) = some q → prec op ≤ prec q := fun q hq => by cases hq; omega
      rw [ins_of_le hle]; exact top _ hle
  | operand e he => rw [ins_of_le (operand_root he)]; exact top e (operand_root he)

theorem graft_eq (pl : BinOp) (l rr : Expr) (op : BinOp) (r : Expr) :
    graft (.binary pl l rr) op r = .binary pl l (ins rr op r) := by
  induction rr using binInd generalizing pl l with
  | binary pr rl rrr _ ihr =>
    rw [graft, reorder_is_prec, ins]
    by_cases h : prec pr < prec op
    · simp only [h, decide_true, if_true, ihr]
    · simp only [h, decide_false, Bool.false_eq_true, if_false]
  | operand e he => rw [ins_of_le (operand_root he)]; exact graft.eq_2 op r pl l e (not_binary he)

theorem insR_eq_ins (t : Expr) (op : BinOp) (r : Expr) : insR t op r = ins t op r := by
  cases t with
  | binary pl l rr =>
    rw [insR, reorder_is_prec, ins, graft_eq]
    by_cases h : prec pl < prec op
    · simp only [h, decide_true, if_true]
    · simp only [h, decide_false, Bool.false_eq_true, if_false]
  | _ => rfl

def build : Expr → List (BinOp × Expr) → Expr
  | t, [] => t
  | t, (op, r) :: rest => build (ins t op r) rest

theorem parseChain_eq_build (t : Expr) (ch : List (BinOp × Expr)) : parseChain t ch = build t ch := by
  induction ch generalizing t with
  | nil => rfl
  | cons x xs ih => rw [parseChain, build, insR_eq_ins, ih]

theorem build_append (t : Expr) (a b : List (BinOp × Expr)) : build t (a ++ b) = build (build t a) b := by
  induction a generalizing t with
  | nil => rfl
  | cons x xs ih => exact ih _

def first : Expr → Expr
  | .binary _ l _ => first l
  | e => e

def chain : Expr → List (BinOp × Expr)
  | .binary op l r => chain l ++ (op, first r) :: chain r
  | _ => []

theorem first_of_operand {e : Expr} (h : IsOperand e) : first e = e := first.eq_2 e (not_binary h)

theorem chain_of_operand {e : Expr} (h : IsOperand e) : chain e = [] := chain.eq_2 e (not_binary h)

theorem first_operand (t : Expr) : IsOperand (first t) := by
  induction t using binInd with
  | binary op l r ihl _ => exact ihl
  | operand e he => rwa [first_of_operand he]

theorem chain_operands (t : Expr) : ∀ x ∈ chain t, IsOperand x.2 := by
  induction t using binInd with
  | binary op l r ihl ihr =>
    intro x hx
    rw [chain, List.mem_append, List.mem_cons] at hx
    rcases hx with hx | rfl | hx
    · exact ihl x hx
    · exact first_operand r
    · exact ihr x hx
  | operand e he => rw [chain_of_operand he]; intro x hx; cases hx

theorem first_ins (t : Expr) (op : BinOp) (r : Expr) : first (ins t op r) = first t := by
  cases t with
  | binary pl l rr => rw [ins]; split <;> rfl
  | _ => rfl

theorem chain_ins (t : Expr) (op : BinOp) (r : Expr) (hr : IsOperand r) : chain (ins t op r) = chain t ++ [(op, r)] := by
  refine ins_ind op r (motive := fun t t' => chain t' = chain t ++ [(op, r)]) (fun pl l rr _ ih => ?_) (fun t _ => ?_) t
  · rw [chain, chain, first_ins, ih, List.append_assoc, List.cons_append]
  · rw [chain, first_of_operand hr, chain_of_operand hr]

theorem first_build (t : Expr) (ch : List (BinOp × Expr)) : first (build t ch) = first t := by
  induction ch generalizing t with
  | nil => rfl
  | cons x xs ih => rw [build, ih, first_ins]

theorem chain_build (t : Expr) (ch : List (BinOp × Expr)) (hch : ∀ x ∈ ch, IsOperand x.2) :
    chain (build t ch) = chain t ++ ch := by
  induction ch generalizing t with
  | nil => exact (List.append_nil _).symm
  | cons x xs ih =>
    rw [build, ih _ (fun y hy => hch y (List.mem_cons_of_mem _ hy)), chain_ins _ _ _ (hch x List.mem_cons_self),
      List.append_assoc, List.singleton_append]

theorem flat_eq (t : Expr) : flat t = .inl (first t) :: (chain t).flatMap fun x => [.inr x.1, .inl x.2] := by
  induction t using binInd with
  | binary op l r ihl ihr => simp [flat, first, chain, ihl, ihr]
  | operand e he => rw [flat.eq_2 e (not_binary he), first_of_operand he, chain_of_operand he]; rfl

theorem first_parseChain {u0 : Expr} (h0 : IsOperand u0) (ch : List (BinOp × Expr)) : first (parseChain u0 ch) = u0 := by
  rw [parseChain_eq_build, first_build, first_of_operand h0]

theorem chain_parseChain {u0 : Expr} {ch : List (BinOp × Expr)} (h0 : IsOperand u0) (hch : ∀ x ∈ ch, IsOperand x.2) :
    chain (parseChain u0 ch) = ch := by
  rw [parseChain_eq_build, chain_build _ _ hch, chain_of_operand h0]; rfl

/-- **chain_flat**: the in-order traversal of the parsed chain `u₀ o₁ u₁ o₂ u₂ …` is exactly that sequence. -/
theorem chain_flat (u0 : Expr) (ch : List (BinOp × Expr)) (h0 : IsOperand u0) (hch : ∀ x ∈ ch, IsOperand x.2) :
    flat (parseChain u0 ch) = .inl u0 :: ch.flatMap (fun x => [.inr x.1, .inl x.2]) := by
  rw [flat_eq, first_parseChain h0, chain_parseChain h0 hch]

theorem WF_operand {e : Expr} (h : IsOperand e) : WFPrec e := of_eq_true (WFPrec.eq_2 e (not_binary h))

theorem rootOp_ins (t : Expr) (op : BinOp) (r : Expr) :
    rootOp (ins t op r) = some op ∨ rootOp (ins t op r) = rootOp t := by
  cases t with
  | binary pl l rr =>
    rw [ins]; split
    · exact .inr rfl
    · exact .inl rfl
  | _ => exact .inl rfl

theorem WF_ins (t : Expr) (op : BinOp) (r : Expr) (hr : IsOperand r) : WFPrec t → WFPrec (ins t op r) := by
  refine ins_ind op r (motive := fun t t' => WFPrec t → WFPrec t')
    (fun pl l rr hlt ih ⟨h1, h2, h3, h4⟩ => ⟨h1, ih h2, h3, fun q hq => ?_⟩)
    (fun t ht h => ⟨h, WF_operand hr, ht, operand_root hr⟩) t
  rcases rootOp_ins rr op r with e | e <;> rw [e] at hq
  · cases hq; exact hlt
  · exact h4 q hq

theorem WF_build (t : Expr) (ch : List (BinOp × Expr)) (hch : ∀ x ∈ ch, IsOperand x.2) (h : WFPrec t) :
    WFPrec (build t ch) := by
  induction ch generalizing t with
  | nil => exact h
  | cons x xs ih =>
    exact ih _ (fun y hy => hch y (List.mem_cons_of_mem _ hy)) (WF_ins t x.1 x.2 (hch x List.mem_cons_self) h)

theorem chain_wf (u0 : Expr) (ch : List (BinOp × Expr)) (h0 : IsOperand u0) (hch : ∀ x ∈ ch, IsOperand x.2) :
    WFPrec (parseChain u0 ch) := by
  rw [parseChain_eq_build]; exact WF_build _ _ hch (WF_operand h0)

/-- every operator of the binary skeleton has precedence ≥ m -/
def AllGe (m : Nat) : Expr → Prop
  | .binary op l r => m ≤ prec op ∧ AllGe m l ∧ AllGe m r
  | _ => True

theorem AllGe_operand {m : Nat} {e : Expr} (h : IsOperand e) : AllGe m e := of_eq_true (AllGe.eq_2 m e (not_binary h))

theorem AllGe.mono {m m' : Nat} {t : Expr} (h : AllGe m t) (hm : m' ≤ m) : AllGe m' t := by
  induction t using binInd with
  | binary op l r ihl ihr => exact ⟨Nat.le_trans hm h.1, ihl h.2.1, ihr h.2.2⟩
  | operand e he => exact AllGe_operand he

theorem WF_allGe (t : Expr) : WFPrec t → ∀ q, rootOp t = some q → AllGe (prec q) t := by
  induction t using binInd with
  | binary op l r ihl ihr =>
    intro ⟨hl, hr, h3, h4⟩ q hq
    cases hq
    refine ⟨Nat.le_refl _, ?_, ?_⟩
    · cases hlo : rootOp l with
      | none => exact AllGe_operand hlo
      | some pl => exact (ihl hl pl hlo).mono (h3 pl hlo)
    · cases hro : rootOp r with
      | none => exact AllGe_operand hro
      | some pr => exact (ihr hr pr hro).mono (Nat.le_of_lt (h4 pr hro))
  | operand e he => exact fun _ => operand_root he

theorem chain_allGe {m : Nat} (t : Expr) : AllGe m t → ∀ x ∈ chain t, m ≤ prec x.1 := by
  induction t using binInd with
  | binary op l r ihl ihr =>
    intro ⟨h1, h2, h3⟩ x hx
    rw [chain, List.mem_append, List.mem_cons] at hx
    rcases hx with hx | rfl | hx
    · exact ihl h2 x hx
    · exact h1
    · exact ihr h3 x hx
  | operand e he => rw [chain_of_operand he]; intro _ x hx; cases hx

theorem build_under (op : BinOp) (l x : Expr) (c : List (BinOp × Expr)) (h : ∀ y ∈ c, prec op < prec y.1) :
    build (.binary op l x) c = .binary op l (build x c) := by
  induction c generalizing x with
  | nil => rfl
  | cons y ys ih =>
    rw [build, ins, if_pos (h y List.mem_cons_self)]
    exact ih _ (fun z hz => h z (List.mem_cons_of_mem _ hz))

/-- **rebuild** (completeness): a precedence-respecting tree is exactly what the chain parser produces from its own
first operand and (operator, operand) sequence. -/
theorem rebuild (t : Expr) (h : WFPrec t) : parseChain (first t) (chain t) = t := by
  rw [parseChain_eq_build]
  induction t using binInd with
  | binary op l r ihl ihr =>
    obtain ⟨hl, hr, h3, h4⟩ := h
    -- the right subtree only holds operators that bind tighter than `op`, so its chain is built below this node
    have hgt : ∀ y ∈ chain r, prec op < prec y.1 := by
      cases hro : rootOp r with
      | none => rw [chain_of_operand hro]; intro y hy; cases hy
      | some pr => exact fun y hy => Nat.lt_of_lt_of_le (h4 pr hro) (chain_allGe _ (WF_allGe _ hr pr hro) y hy)
    rw [first, chain, build_append, ihl hl, build, ins_of_le h3, build_under op l _ _ hgt, ihr hr]
  | operand e he => rw [first_of_operand he, chain_of_operand he]; rfl

/-- **wf_unique**: the precedence-respecting tree with a given token sequence is unique. -/
theorem wf_unique (t₁ t₂ : Expr) (h₁ : WFPrec t₁) (h₂ : WFPrec t₂) (hf : first t₁ = first t₂) (hc : chain t₁ = chain t₂) :
    t₁ = t₂ := by
  rw [← rebuild t₁ h₁, ← rebuild t₂ h₂, hf, hc]

/-- **chain_is_the_prec_tree**: for every chain `u₀ o₁ u₁ … oₙ uₙ` of operands (n unbounded) the parser's result is
the unique tree that (1) has exactly this token sequence and (2) respects precedence and left associativity. -/
theorem chain_is_the_prec_tree (u0 : Expr) (ch : List (BinOp × Expr)) (h0 : IsOperand u0) (hch : ∀ x ∈ ch, IsOperand x.2)
    (t : Expr) : (WFPrec t ∧ first t = u0 ∧ chain t = ch) ↔ t = parseChain u0 ch := by
  constructor
  · rintro ⟨hw, rfl, rfl⟩
    exact (rebuild t hw).symm
  · rintro rfl
    exact ⟨chain_wf u0 ch h0 hch, first_parseChain h0 ch, chain_parseChain h0 hch⟩

/-- unary applications, groups, calls and literals are operands: a unary operator binds tighter than any binary
operator, and parentheses override precedence, because `insR` never looks inside them. -/
theorem unary_group_are_operands (op : UnOp) (e : Expr) (n : Name) (args : List Expr) :
    IsOperand (.unary op e) ∧ IsOperand (.group e) ∧ IsOperand (.function n args) :=
  ⟨rfl, rfl, rfl⟩

/-! ### non-vacuity: all 14 operators in one chain; `a + b * c ** d - e` -/

private def v (s : String) : Expr := .variable (.user s)

example : parseChain (v "a") [(.add, v "b"), (.mul, v "c"), (.pow, v "d"), (.sub, v "e")] =
    .binary .sub (.binary .add (v "a") (.binary .mul (v "b") (.binary .pow (v "c") (v "d")))) (v "e") := by rfl

example : WFPrec (parseChain (v "a") (BinOp.all.map fun o => (o, v "x"))) :=
  chain_wf _ _ rfl (by intro x hx; obtain ⟨o, _, rfl⟩ := List.mem_map.mp hx; rfl)


open ExprScan

/-! `kernel_rfl` closes `lhs = rhs` with the term `Eq.refl lhs` and leaves the definitional-equality check to the *kernel*
(which evaluates the parser on a literal text in well under a second), instead of the elaborator's much slower
unifier.  Nothing is trusted: a wrong right-hand side is rejected by the kernel when the declaration is added. -/

open Lean Elab Tactic Meta in
elab "kernel_rfl" : tactic => do
  let g ← getMainGoal
  let t ← instantiateMVars (← g.getType)
  let some (_, lhs, _) := t.eq? | throwError "kernel_rfl: the goal is not an equation"
  g.assign (← mkExpectedTypeHint (← mkEqRefl lhs) t)

def chainToks : List (BinOp × Expr) → List Tok
  | [] => []
  | (op, x) :: rest => .bin op :: (toks x ++ chainToks rest)

theorem toks_ne_nil (e : Expr) : toks e ≠ [] := by
  cases e <;> simp [toks]

theorem toks_ins (t : Expr) (op : BinOp) (r : Expr) : toks (ins t op r) = toks t ++ .bin op :: toks r := by
  refine ins_ind op r (motive := fun t t' => toks t' = toks t ++ .bin op :: toks r) (fun pl l rr _ ih => ?_)
    (fun t _ => by rw [toks]) t
  rw [toks, toks, ih, List.append_assoc, List.cons_append]

theorem toks_parseChain (l : Expr) (ch : List (BinOp × Expr)) : toks (parseChain l ch) = toks l ++ chainToks ch := by
  induction ch generalizing l with
  | nil => exact (List.append_nil _).symm
  | cons x xs ih => rw [parseChain, ih, insR_eq_ins, toks_ins, chainToks, List.append_assoc, List.cons_append]

theorem ins_preserves {P : Expr → Prop} (hP : ∀ op l r, P (.binary op l r) ↔ P l ∧ P r) (t : Expr) (op : BinOp) {r : Expr}
    (hr : P r) : P t → P (ins t op r) :=
  ins_ind op r (motive := fun t t' => P t → P t')
    (fun pl l rr _ ih h => (hP pl l _).mpr ⟨((hP pl l rr).mp h).1, ih ((hP pl l rr).mp h).2⟩)
    (fun t _ h => (hP op t r).mpr ⟨h, hr⟩) t

theorem parseChain_preserves {P : Expr → Prop} (hP : ∀ op l r, P (.binary op l r) ↔ P l ∧ P r) (l : Expr)
    (ch : List (BinOp × Expr)) (hl : P l) (hch : ∀ x ∈ ch, P x.2) : P (parseChain l ch) := by
  induction ch generalizing l with
  | nil => exact hl
  | cons x xs ih =>
    rw [parseChain, insR_eq_ins]
    exact ih _ (ins_preserves hP l x.1 (hch x List.mem_cons_self) hl) (fun y hy => hch y (List.mem_cons_of_mem _ hy))

/-! ### hereditary well-formedness: the precedence conditions hold at *every* binary node of the tree (inside groups,
call arguments and unary operands too), and the operand of a unary operator is never a bare binary node -/

mutual
def Inner : Expr → Prop
  | .number _ => True
  | .string _ => True
  | .variable _ => True
  | .function _ args => InnerArgs args
  | .binary _ l r => Inner l ∧ Inner r
  | .unary _ e => IsOperand e ∧ Inner e
  | .group e => WFPrec e ∧ Inner e
def InnerArgs : List Expr → Prop
  | [] => True
  | a :: rest => (WFPrec a ∧ Inner a) ∧ InnerArgs rest
end

/-- hereditarily precedence-respecting -/
def HWF (e : Expr) : Prop := WFPrec e ∧ Inner e

theorem InnerArgs_append (args : List Expr) (a : Expr) (h : InnerArgs args) (ha : WFPrec a ∧ Inner a) :
    InnerArgs (args ++ [a]) := by
  induction args with
  | nil => exact ⟨ha, trivial⟩
  | cons b bs ih => exact ⟨h.1, ih h.2⟩

/-- the (operator, operand) pairs the chain loop scans from `t`, left to right, stopping at `rest` where no binary
operator follows -/
inductive ChainScan (pu : List Char → Res (Expr × List Char)) : List Char → List (BinOp × Expr) → List Char → Prop
  | done (t : List Char) : scanBinOp t = none → ChainScan pu t [] t
  | step (t rt nt rest : List Char) (op : BinOp) (r : Expr) (ch : List (BinOp × Expr)) :
      scanBinOp t = some (op, rt) → pu rt = .ok (r, nt) → ChainScan pu nt ch rest → ChainScan pu t ((op, r) :: ch) rest

/-- result of a unary-level parse: consumed text spells the tokens of the tree; the tree is a chain operand -/
structure Good (t : List Char) (e : Expr) (r : List Char) : Prop where
  seg : ∃ pre, t = pre ++ r ∧ Seg pre (toks e)
  operand : IsOperand e
  inner : Inner e

/-- result of a binary-level parse -/
structure GoodB (t : List Char) (e : Expr) (r : List Char) : Prop where
  seg : ∃ pre, t = pre ++ r ∧ Seg pre (toks e)
  wf : WFPrec e
  inner : Inner e

section
variable {pu pb : List Char → Res (Expr × List Char)}

theorem chainLoop_none {n : Nat} {l : Expr} {t : List Char} (h : scanBinOp t = none) : chainLoop pu n l t = .ok (l, t) := by
  cases n <;> simp only [chainLoop, h]

theorem chainLoop_step {n : Nat} {l r : Expr} {t rt nt : List Char} {op : BinOp} (h : scanBinOp t = some (op, rt))
    (hr : pu rt = .ok (r, nt)) : chainLoop pu (n + 1) l t = chainLoop pu n (insR l op r) nt := by
  simp only [chainLoop, h, hr]

theorem chainLoop_scan : ∀ (n : Nat) {l : Expr} {t : List Char} {e : Expr} {r : List Char},
    chainLoop pu n l t = .ok (e, r) → ∃ ch, ChainScan pu t ch r ∧ e = parseChain l ch := by
  intro n
  induction n with
  | zero =>
    intro l t e r h
    cases hs : scanBinOp t with
    | none => rw [chainLoop_none hs] at h; cases h; exact ⟨[], .done _ hs, rfl⟩
    | some x => simp only [chainLoop, hs] at h; cases h
  | succ n ih =>
    intro l t e r h
    cases hs : scanBinOp t with
    | none => rw [chainLoop_none hs] at h; cases h; exact ⟨[], .done _ hs, rfl⟩
    | some x =>
      obtain ⟨op, rt⟩ := x
      cases hx : pu rt with
      | error err => simp only [chainLoop, hs, hx] at h; cases h
      | ok y =>
        obtain ⟨x, nt⟩ := y
        rw [chainLoop_step hs hx] at h
        obtain ⟨ch, hcs, he⟩ := ih h
        exact ⟨(op, x) :: ch, .step _ _ _ _ _ _ _ hs hx hcs, he⟩

theorem ChainScan.operands {P : Expr → Prop} (hpu : ∀ ⦃t e r⦄, pu t = .ok (e, r) → P e) {t r : List Char}
    {ch : List (BinOp × Expr)} (h : ChainScan pu t ch r) : ∀ x ∈ ch, P x.2 := by
  induction h with
  | done t _ => intro x hx; cases hx
  | step t rt nt rest op x ch _ hx _ ih =>
    intro y hy
    rcases List.mem_cons.mp hy with rfl | hy
    · exact hpu hx
    · exact ih y hy

theorem ChainScan.seg (hpu : ∀ ⦃t e r⦄, pu t = .ok (e, r) → Good t e r) {t r : List Char} {ch : List (BinOp × Expr)}
    (h : ChainScan pu t ch r) : ∃ pre, t = pre ++ r ∧ Seg pre (chainToks ch) := by
  induction h with
  | done t _ => exact ⟨[], rfl, Seg.nil⟩
  | step t rt nt rest op x ch hop hx _ ih =>
    obtain ⟨pre2, rfl, hseg2⟩ := ih
    obtain ⟨pre0, rfl, hseg0⟩ := scanBinOp_spec hop
    obtain ⟨pre1, rfl, hseg1⟩ := (hpu hx).seg
    exact ⟨pre0 ++ (pre1 ++ pre2), by simp, hseg0.append (hseg1.append hseg2)⟩

theorem binaryWith_scan {n : Nat} {t : List Char} {e : Expr} {r : List Char} (h : binaryWith pu n t = .ok (e, r)) :
    ∃ u0 t0 ch, pu t = .ok (u0, t0) ∧ ChainScan pu t0 ch r ∧ e = parseChain u0 ch := by
  rw [binaryWith] at h
  split at h
  · cases h
  · rename_i u0 t0 hu
    obtain ⟨ch, hcs, he⟩ := chainLoop_scan _ h
    exact ⟨u0, t0, ch, hu, hcs, he⟩

theorem binaryWith_good (hpu : ∀ ⦃t e r⦄, pu t = .ok (e, r) → Good t e r)
    (n : Nat) ⦃t : List Char⦄ ⦃e : Expr⦄ ⦃r : List Char⦄ (h : binaryWith pu n t = .ok (e, r)) : GoodB t e r := by
  obtain ⟨u0, t0, ch, hu, hcs, rfl⟩ := binaryWith_scan h
  obtain ⟨⟨pre0, rfl, hseg0⟩, hu0, hi0⟩ := hpu hu
  obtain ⟨pre1, rfl, hseg1⟩ := hcs.seg hpu
  refine ⟨⟨pre0 ++ pre1, (List.append_assoc ..).symm, ?_⟩, chain_wf u0 ch hu0 (hcs.operands fun _ _ _ h => (hpu h).operand),
    parseChain_preserves (fun _ _ _ => by rw [Inner]) u0 ch hi0 (hcs.operands fun _ _ _ h => (hpu h).inner)⟩
  rw [toks_parseChain]; exact hseg0.append hseg1

/-- tokens the argument loop still has to see: further arguments (behind commas unless none was parsed yet), then `)` -/
def argTail (args more : List Expr) : List Tok :=
  (if args.isEmpty then toksArgs more else toksMore more) ++ [.rparen]

theorem argsLoop_good (hpb : ∀ ⦃t e r⦄, pb t = .ok (e, r) → GoodB t e r) :
    ∀ (n : Nat) {args : List Expr} {t : List Char} {as : List Expr} {r : List Char},
      argsLoop pb n args t = .ok (as, r) →
      ∃ more pre, as = args ++ more ∧ t = pre ++ r ∧ Seg pre (argTail args more) ∧ InnerArgs more := by
  intro n
  induction n with
  | zero => intro args t as r h; cases h
  | succ n ih =>
    intro args t as r h
    rw [argsLoop] at h
    split at h
    · rename_i r' hclose
      obtain ⟨rfl, rfl⟩ := Prod.mk.inj (Except.ok.inj h)
      obtain ⟨pre, rfl, hseg⟩ := scanChar_spec .rparen hclose
      refine ⟨[], pre, (List.append_nil _).symm, rfl, ?_, trivial⟩
      cases args <;> exact hseg
    · split at h
      · cases h
      · rename_i t1 hsep
        split at h
        · cases h
        · rename_i a nt hpa
          obtain ⟨more, pre2, rfl, rfl, hseg2, hinn⟩ := ih h
          obtain ⟨⟨pre1, rfl, hseg1⟩, hwf, hia⟩ := hpb hpa
          have hseg := hseg1.append (by simpa [argTail] using hseg2)
          cases args with
          | nil =>
            cases hsep
            exact ⟨a :: more, pre1 ++ pre2, rfl, (List.append_assoc ..).symm, by simpa [argTail, toksArgs] using hseg,
              ⟨hwf, hia⟩, hinn⟩
          | cons b bs =>
            obtain ⟨pre0, rfl, hseg0⟩ := scanChar_spec .comma hsep
            exact ⟨a :: more, pre0 ++ (pre1 ++ pre2), by simp, by simp,
              by simpa [argTail, toksMore] using hseg0.append hseg, ⟨hwf, hia⟩, hinn⟩

theorem parseAtom_ok {t : List Char} {e : Expr} {r : List Char} (h : parseAtom t = .ok (e, r)) :
    (∃ q, scanNumber t = some (q, r) ∧ e = .number q) ∨
    (∃ s, (scanString '\'' t = some (s, r) ∨ scanString '"' t = some (s, r)) ∧ e = .string (String.ofList s)) ∨
    (∃ n, (scanVariable t = some (n, r) ∨ scanVariableEx t = some (n, r)) ∧ e = .variable (Name.ofString (String.ofList n))) := by
  unfold parseAtom at h
  split at h
  · rename_i q r' hs; cases h; exact .inl ⟨q, hs, rfl⟩
  split at h
  · rename_i s r' hs; cases h; exact .inr (.inl ⟨s, .inl hs, rfl⟩)
  split at h
  · rename_i s r' hs; cases h; exact .inr (.inl ⟨s, .inr hs, rfl⟩)
  split at h
  · rename_i n r' hs; cases h; exact .inr (.inr ⟨n, .inl hs, rfl⟩)
  split at h
  · rename_i n r' hs; cases h; exact .inr (.inr ⟨n, .inr hs, rfl⟩)
  · cases h

theorem parseAtom_good {t : List Char} {e : Expr} {r : List Char} (hun : scanUnaryOp t = none)
    (h : parseAtom t = .ok (e, r)) : Good t e r := by
  -- an atom is one token: the scanner's statement is the `seg` of `Good`
  rcases parseAtom_ok h with ⟨q, hs, rfl⟩ | ⟨s, hs | hs, rfl⟩ | ⟨n, hs | hs, rfl⟩
  · exact ⟨scanNumber_spec hun hs, rfl, trivial⟩
  · exact ⟨scanString_spec (.inl rfl) hs, rfl, trivial⟩
  · exact ⟨scanString_spec (.inr rfl) hs, rfl, trivial⟩
  · exact ⟨scanVariable_spec hs, rfl, trivial⟩
  · exact ⟨scanVariableEx_spec hs, rfl, trivial⟩

theorem parseUnary_zero_ok {t : List Char} {p : Expr × List Char} (h : parseUnary 0 t = .ok p) :
    scanUnaryOp t = none ∧ parseAtom t = .ok p := by
  rw [parseUnary] at h
  split at h
  · cases h
  · rename_i hcond
    refine ⟨?_, h⟩
    cases hu : scanUnaryOp t with
    | none => rfl
    | some x => simp [hu] at hcond

theorem parseUnary_succ_ok {f : Nat} {t : List Char} {e : Expr} {r : List Char} (h : parseUnary (f + 1) t = .ok (e, r)) :
    (∃ gt x nt, scanGroupOpen t = some gt ∧ parseBinary f gt = .ok (x, nt) ∧ scanClose nt = some r ∧ e = .group x) ∨
    (∃ op ut x, scanUnaryOp t = some (op, ut) ∧ parseUnary f ut = .ok (x, r) ∧ e = .unary op x) ∨
    (∃ name rt args, scanFuncOpen t = some (name, rt) ∧ argsLoop (parseBinary f) f [] rt = .ok (args, r) ∧
      e = .function (Name.ofString (String.ofList name)) args) ∨
    (scanUnaryOp t = none ∧ parseAtom t = .ok (e, r)) := by
  rw [parseUnary] at h
  split at h
  · rename_i gt hopen
    split at h
    · cases h
    · rename_i x nt hb
      split at h
      · cases h
      · rename_i r' hclose; cases h; exact .inl ⟨gt, x, nt, hopen, hb, hclose, rfl⟩
  split at h
  · rename_i op ut hun
    split at h
    · cases h
    · rename_i x nt hu; cases h; exact .inr (.inl ⟨op, ut, x, hun, hu, rfl⟩)
  split at h
  · rename_i name rt hfn
    split at h
    · cases h
    · rename_i args r' ha; cases h; exact .inr (.inr (.inl ⟨name, rt, args, hfn, ha, rfl⟩))
  · exact .inr (.inr (.inr ⟨by assumption, h⟩))

theorem parseUnary_good (fuel : Nat) : ∀ ⦃t e r⦄, parseUnary fuel t = .ok (e, r) → Good t e r := by
  induction fuel with
  | zero => intro t e r h; exact parseAtom_good (parseUnary_zero_ok h).1 (parseUnary_zero_ok h).2
  | succ fuel ih =>
    intro t e r h
    rcases parseUnary_succ_ok h with ⟨gt, x, nt, hopen, hb, hclose, rfl⟩ | ⟨op, ut, x, hun, hu, rfl⟩ |
      ⟨name, rt, args, hfn, ha, rfl⟩ | ⟨hun, ha⟩
    · obtain ⟨⟨preB, rfl, hsegB⟩, hwf, hinn⟩ := binaryWith_good ih _ hb
      obtain ⟨pre1, rfl, hseg1⟩ := scanChar_spec .lparen hopen
      obtain ⟨pre2, rfl, hseg2⟩ := scanChar_spec .rparen hclose
      refine ⟨⟨pre1 ++ (preB ++ pre2), by simp, ?_⟩, rfl, hwf, hinn⟩
      simpa [toks] using hseg1.append (hsegB.append hseg2)
    · obtain ⟨⟨pre, rfl, hseg⟩, hop, hinn⟩ := ih hu
      obtain ⟨pre0, rfl, hseg0⟩ := scanUnaryOp_spec hun
      exact ⟨⟨pre0 ++ pre, by simp, by simpa [toks] using hseg0.append hseg⟩, rfl, hop, hinn⟩
    · obtain ⟨more, pre, rfl, rfl, hseg, hinn⟩ := argsLoop_good (binaryWith_good ih fuel) _ ha
      obtain ⟨pre0, rfl, hseg0⟩ := scanFuncOpen_spec hfn
      refine ⟨⟨pre0 ++ pre, by simp, ?_⟩, rfl, hinn⟩
      simpa [toks, argTail] using hseg0.append hseg
    · exact parseAtom_good hun ha

/-- the two error texts of the expression parser -/
def Msg (m : String) : Prop := m = "Syntax error" ∨ m = "Unmatched parenthesis"

theorem fuelMsg_not_Msg : ¬ Msg fuelMsg := by simp [Msg, fuelMsg]

/-- an error `(m, l)` raised on the text `t`: `l` is a suffix of `t` (the remaining text at the point of failure) and `m`
is one of the two parser error texts; the fuel marker can only appear when the text has at least `b` characters -/
def ErrAt (b : Nat) (t : List Char) (m : String) (l : List Char) : Prop :=
  l <:+ t ∧ (Msg m ∨ (m = fuelMsg ∧ b ≤ t.length))

/-- an error of a call on the suffix `t'` is an error of the caller on `t`; the bound may grow by what was consumed -/
theorem ErrAt.lift {b b' : Nat} {t t' : List Char} {m : String} {l : List Char} (h : ErrAt b' t' m l) (hs : t' <:+ t)
    (hb : b + t'.length ≤ b' + t.length) : ErrAt b t m l :=
  ⟨h.1.trans hs, h.2.imp_right fun ⟨hm, hl⟩ => ⟨hm, by omega⟩⟩

theorem ErrAt.syntaxError (b : Nat) (t : List Char) : ErrAt b t "Syntax error" t := ⟨List.suffix_refl _, .inl (.inl rfl)⟩

def ErrP {α : Type} (b : Nat) (f : List Char → Res α) : Prop := ∀ ⦃t m l⦄, f t = .error (m, l) → ErrAt b t m l

/-- a success of `f` returns a strictly shorter suffix -/
def OkShort {β : Type} (f : List Char → Res (β × List Char)) : Prop :=
  ∀ ⦃t e r⦄, f t = .ok (e, r) → r <:+ t ∧ r.length < t.length

theorem consumed {t ws body r : List Char} (ht : t = ws ++ (body ++ r)) (hb : body ≠ []) : r <:+ t ∧ r.length < t.length := by
  subst ht
  have := List.length_pos_iff.mpr hb
  exact ⟨⟨ws ++ body, List.append_assoc ..⟩, by simp only [List.length_append]; omega⟩

theorem short_of_seg {t pre r : List Char} {ts : List Tok} (ht : t = pre ++ r) (hs : Seg pre ts) (hne : ts ≠ []) :
    r <:+ t ∧ r.length < t.length := by
  obtain ⟨tok, ts, rfl⟩ := List.exists_cons_of_ne_nil hne
  exact consumed (ws := []) ht hs.ne_nil

theorem spelled_short {tok : Tok} {t r : List Char} (h : ∃ pre, t = pre ++ r ∧ Seg pre [tok]) :
    r <:+ t ∧ r.length < t.length :=
  have ⟨_, ht, hs⟩ := h
  short_of_seg ht hs (List.cons_ne_nil _ _)

theorem parseUnary_short (fuel : Nat) : OkShort (parseUnary fuel) := by
  intro t e r h
  obtain ⟨⟨pre, ht, hseg⟩, _, _⟩ := parseUnary_good fuel h
  exact short_of_seg ht hseg (toks_ne_nil e)

theorem binaryWith_short (fuel n : Nat) : OkShort (binaryWith (parseUnary fuel) n) := by
  intro t e r h
  obtain ⟨⟨pre, ht, hseg⟩, _, _⟩ := binaryWith_good (parseUnary_good fuel) n h
  exact short_of_seg ht hseg (toks_ne_nil e)

theorem chainLoop_err {b : Nat} (hok : OkShort pu) (herr : ErrP b pu) :
    ∀ (n : Nat) (l : Expr), ErrP (min b (n + 1)) (chainLoop pu n l) := by
  intro n
  induction n with
  | zero =>
    intro l t m ln h
    cases hs : scanBinOp t with
    | none => rw [chainLoop_none hs] at h; cases h
    | some x =>
      simp only [chainLoop, hs] at h
      cases h
      have := (spelled_short (scanBinOp_spec hs)).2
      exact ⟨List.suffix_refl _, .inr ⟨rfl, by omega⟩⟩
  | succ n ih =>
    intro l t m ln h
    cases hs : scanBinOp t with
    | none => rw [chainLoop_none hs] at h; cases h
    | some x =>
      obtain ⟨op, rt⟩ := x
      obtain ⟨hsuf, hlen⟩ := spelled_short (scanBinOp_spec hs)
      cases hx : pu rt with
      | error err =>
        simp only [chainLoop, hs, hx] at h
        cases h
        exact (herr hx).lift hsuf (by omega)
      | ok y =>
        obtain ⟨x, nt⟩ := y
        rw [chainLoop_step hs hx] at h
        obtain ⟨hs2, hl2⟩ := hok hx
        exact (ih _ h).lift (hs2.trans hsuf) (by omega)

theorem binaryWith_err {b n : Nat} (hok : OkShort pu) (herr : ErrP b pu) (hb : b ≤ n + 1) : ErrP b (binaryWith pu n) := by
  intro t m ln h
  rw [binaryWith] at h
  split at h
  · rename_i e hpu
    cases h
    exact herr hpu
  · rename_i u0 t0 hpu
    obtain ⟨hs2, hl2⟩ := hok hpu
    exact (chainLoop_err hok herr _ _ h).lift hs2 (by omega)

theorem argsLoop_err {b : Nat} (hok : OkShort pb) (herr : ErrP b pb) :
    ∀ (n : Nat) (args : List Expr), ErrP (min b n) (argsLoop pb n args) := by
  intro n
  induction n with
  | zero => intro args t m ln h; cases h; exact ⟨List.suffix_refl _, .inr ⟨rfl, by omega⟩⟩
  | succ n ih =>
    intro args t m ln h
    rw [argsLoop] at h
    split at h
    · cases h
    · split at h
      · cases h; exact .syntaxError _ _
      · rename_i t1 hsep
        have ht1 : t1 <:+ t ∧ t1.length ≤ t.length := by
          cases args with
          | nil => cases hsep; exact ⟨List.suffix_refl _, Nat.le_refl _⟩
          | cons => have := spelled_short (scanChar_spec .comma hsep); exact ⟨this.1, by omega⟩
        split at h
        · rename_i e hpb
          cases h
          exact (herr hpb).lift ht1.1 (by omega)
        · rename_i a nt hpb
          obtain ⟨hs2, hl2⟩ := hok hpb
          exact (ih _ h).lift (hs2.trans ht1.1) (by omega)

theorem parseAtom_err (t : List Char) (m : String) (l : List Char) (h : parseAtom t = .error (m, l)) :
    l = t ∧ m = "Syntax error" := by
  unfold parseAtom at h
  repeat (split at h; · cases h)
  cases h
  exact ⟨rfl, rfl⟩

theorem parseUnary_err : ∀ fuel : Nat, ErrP (fuel + 1) (parseUnary fuel) := by
  intro fuel
  induction fuel with
  | zero =>
    intro t m l h
    rw [parseUnary] at h
    split at h
    · rename_i hcond
      cases h
      refine ⟨List.suffix_refl _, .inr ⟨rfl, ?_⟩⟩
      cases t with
      | nil => simp [scanGroupOpen, scanChar, scanUnaryOp, scanFuncOpen, skipWs, firstAlt, unOpAlts, stripPrefix?] at hcond
      | cons c cs => exact Nat.succ_le_succ (Nat.zero_le _)
    · obtain ⟨rfl, rfl⟩ := parseAtom_err t m l h
      exact .syntaxError _ _
  | succ fuel ih =>
    intro t m l h
    have hbin : ErrP (fuel + 1) (binaryWith (parseUnary fuel) fuel) :=
      binaryWith_err (parseUnary_short fuel) ih (Nat.le_refl _)
    rw [parseUnary] at h
    split at h
    · -- group
      rename_i gt hopen
      obtain ⟨hsuf, hlen⟩ := spelled_short (scanChar_spec .lparen hopen)
      split at h
      · rename_i e hb
        cases h
        exact (hbin hb).lift hsuf (by omega)
      · split at h
        · cases h; exact ⟨List.suffix_refl _, .inl (.inr rfl)⟩
        · cases h
    split at h
    · -- unary operator
      rename_i op ut hun
      obtain ⟨hsuf, hlen⟩ := spelled_short (scanUnaryOp_spec hun)
      split at h
      · rename_i e hu
        cases h
        exact (ih hu).lift hsuf (by omega)
      · cases h
    split at h
    · -- function call: at least the name and `(` were consumed
      rename_i name argText hfn
      obtain ⟨hsuf, _⟩ := spelled_short (scanFuncOpen_spec hfn)
      have hlen : argText.length + 2 ≤ t.length := by
        obtain ⟨ws2, e, ⟨c, w, rfl, _⟩, _⟩ := scanFuncOpen_cut hfn
        have := skipWs_length_le t
        rw [e] at this; simp at this; omega
      split at h
      · rename_i e ha
        cases h
        exact (argsLoop_err (binaryWith_short fuel fuel) hbin _ _ ha).lift hsuf (by omega)
      · cases h
    · obtain ⟨rfl, rfl⟩ := parseAtom_err t m l h
      exact .syntaxError _ _

theorem parseBinary_err (fuel : Nat) : ErrP (fuel + 1) (parseBinary fuel) :=
  binaryWith_err (parseUnary_short fuel) (parseUnary_err fuel) (Nat.le_refl _)

end

/-- the 15 token patterns the scanners of `BareModel/ExprScan.lean` were written for (name, pattern source, flags) -/
def pinnedRegexes : List (String × String × Nat) :=
  [
   ("parser._R_EXPR_BINARY_OP", "^\\s*(\\*\\*|\\*|\\/|%|\\+|-|<=|<|>=|>|==|!=|&&|\\|\\|)", 32),
   ("parser._R_EXPR_UNARY_OP", "^\\s*(!|-)", 32),
   ("parser._R_EXPR_FUNCTION_OPEN", "^\\s*([A-Za-z_]\\w*)\\s*\\(", 32),
   ("parser._R_EXPR_FUNCTION_SEPARATOR", "^\\s*,", 32),
   ("parser._R_EXPR_FUNCTION_CLOSE", "^\\s*\\)", 32),
   ("parser._R_EXPR_GROUP_OPEN", "^\\s*\\(", 32),
   ("parser._R_EXPR_GROUP_CLOSE", "^\\s*\\)", 32),
   ("parser._R_EXPR_NUMBER", "^\\s*([+-]?\\d+(?:\\.\\d*)?(?:e[+-]\\d+)?)", 32),
   ("parser._R_EXPR_STRING", "^\\s*'((?:\\\\\\\\|\\\\'|[^'])*)'", 32),
   ("parser._R_EXPR_STRING_ESCAPE", "\\\\([\\\\\\'])", 32),
   ("parser._R_EXPR_STRING_DOUBLE", "^\\s*\"((?:\\\\\\\\|\\\\\"|[^\"])*)\"", 32),
   ("parser._R_EXPR_STRING_DOUBLE_ESCAPE", "\\\\([\\\\\"])", 32),
   ("parser._R_EXPR_VARIABLE", "^\\s*([A-Za-z_]\\w*)", 32),
   ("parser._R_EXPR_VARIABLE_EX", "^\\s*\\[\\s*((?:\\\\\\]|[^\\]])+)\\s*\\]", 32),
   ("parser._R_EXPR_VARIABLE_EX_ESCAPE", "\\\\([\\\\\\]])", 32)
  ]

/-- **regex_sources_pinned**: the token patterns in the working tree (regenerated into `Gen.regexes` on every run) are
exactly the ones the hand-written scanners mirror — alternation order of the operators, `\w*` in the call pattern (`\w+` until fix F31),
the optional parts of the number pattern, the escape alternatives of strings and bracketed names.  A changed pattern
breaks this obligation (and then the correspondence streams and the search decide what it means). -/
theorem regex_sources_pinned :
    pinnedRegexes.map (fun r => (r.1, Gen.regexes.lookup r.1)) = pinnedRegexes.map (fun r => (r.1, some r.2)) := by
  kernel_rfl


/-- **parse_uses_chain**: the binary level of the text parser is the proved chain parser — whenever
`_parse_binary_expression` succeeds, its result is `parseChain` of the first unary-level operand and of the
(operator, operand) pairs it scanned left to right (`ChainScan`), and all of those are chain operands.  Hence every
theorem about `parseChain` (`chain_flat`, `chain_wf`, `chain_is_the_prec_tree`) applies to what the text parser built. -/
theorem parse_uses_chain (fuel : Nat) (text : List Char) (e : Expr) (rest : List Char)
    (h : parseBinary fuel text = .ok (e, rest)) :
    ∃ u0 t0 ch, parseUnary fuel text = .ok (u0, t0) ∧ ChainScan (parseUnary fuel) t0 ch rest ∧
      e = parseChain u0 ch ∧ IsOperand u0 ∧ (∀ x ∈ ch, IsOperand x.2) ∧
      (∀ t, (WFPrec t ∧ first t = u0 ∧ chain t = ch) ↔ t = e) := by
  obtain ⟨u0, t0, ch, hu, hcs, he⟩ := binaryWith_scan h
  have hu0 := (parseUnary_good fuel hu).operand
  have hops := hcs.operands fun _ _ _ h => (parseUnary_good fuel h).operand
  exact ⟨u0, t0, ch, hu, hcs, he, hu0, hops, fun t => by rw [he]; exact chain_is_the_prec_tree u0 ch hu0 hops t⟩

theorem parseExpr_ok_iff (s : String) (e : Expr) :
    parseExpr s = .ok e ↔ ∃ rest, parseBinary s.toList.length s.toList = .ok (e, rest) ∧ (skipWs rest).isEmpty = true := by
  simp only [parseExpr, parseExprL]
  rcases parseBinary s.toList.length s.toList with ⟨m, l⟩ | ⟨e', nt⟩
  · simp
  · by_cases hblank : (skipWs nt).isEmpty = true
    · simp only [hblank, if_true]
      exact ⟨fun h => by cases h; exact ⟨nt, rfl, hblank⟩, fun ⟨rest, hr, _⟩ => by cases hr; rfl⟩
    · simp only [hblank, Bool.false_eq_true, if_false]
      exact ⟨fun h => (nomatch h), fun ⟨rest, hr, hb⟩ => by cases hr; exact absurd hb hblank⟩

/-- **parse_deep_wf**: every accepted tree is *hereditarily* precedence-respecting: at every binary node of the tree —
at the top, inside groups, inside call arguments, under unary operators — the left child (if a bare binary node) has
precedence ≥ the node's and the right child strictly greater, and the operand of a unary operator is never a bare
binary node.  With `wf_unique` this is *the* tree the precedence levels and left associativity dictate for the token
sequence of the text (`accept_faithful`), for texts of any length and nesting depth. -/
theorem parse_deep_wf (s : String) (e : Expr) (h : parseExpr s = .ok e) : HWF e := by
  obtain ⟨rest, hb, _⟩ := (parseExpr_ok_iff s e).mp h
  have := binaryWith_good (parseUnary_good _) _ hb
  exact ⟨this.wf, this.inner⟩

/-- **unary_tighter**: what a unary operator is applied to is a single unary-level operand (a literal, a variable, a
call, a group or another unary application), never a binary chain: `-a ** b` is `(-a) ** b`.  And the unary application
itself is a leaf for the enclosing chain. -/
theorem unary_tighter (fuel : Nat) (text : List Char) (op : UnOp) (x : Expr) (rest : List Char)
    (h : parseUnary fuel text = .ok (.unary op x, rest)) : IsOperand x ∧ IsOperand (.unary op x) := by
  have := (parseUnary_good fuel h).inner
  simp only [Inner] at this
  exact ⟨this.1, rfl⟩

/-- **group_overrides**: a parenthesised text is parsed by an independent run of the binary-level parser on the text
between the parentheses, and the resulting group is a leaf for the enclosing chain (so its inside is never
re-ordered against the operators outside). -/
theorem group_overrides (fuel : Nat) (text gt : List Char) (e : Expr) (rest : List Char)
    (hopen : scanGroupOpen text = some gt) (h : parseUnary (fuel + 1) text = .ok (e, rest)) :
    ∃ inner nt, parseBinary fuel gt = .ok (inner, nt) ∧ scanClose nt = some rest ∧ e = .group inner ∧
      IsOperand e ∧ WFPrec inner := by
  simp only [parseUnary, hopen] at h
  split at h
  · cases h
  · rename_i inner nt hb
    split at h
    · cases h
    · rename_i r hclose
      simp only [Except.ok.injEq, Prod.mk.injEq] at h
      obtain ⟨rfl, rfl⟩ := h
      exact ⟨inner, nt, hb, hclose, rfl, rfl, (binaryWith_good (parseUnary_good fuel) _ hb).wf⟩

/-- **fuel_sufficient**: fuel = text length is enough.  Every recursive call of the parser is made on a strictly shorter
text (`parseUnary_short`, `consumed`), so the fuel marker never appears: no parse fails for lack of fuel. -/
theorem fuel_sufficient (fuel : Nat) (text : List Char) (hf : text.length ≤ fuel) (l : List Char) :
    parseUnary fuel text ≠ .error (fuelMsg, l) ∧ parseBinary fuel text ≠ .error (fuelMsg, l) := by
  constructor
  · intro h
    rcases (parseUnary_err fuel h).2 with hm | ⟨_, hk⟩
    · exact fuelMsg_not_Msg hm
    · omega
  · intro h
    rcases (parseBinary_err fuel h).2 with hm | ⟨_, hk⟩
    · exact fuelMsg_not_Msg hm
    · omega

/-- **reject_is_parser_error**: the only failure value of `parse_expression` is a parser error carrying one of the two
error texts and a column that points at the start of a suffix of the text (the remaining text where parsing stopped):
`column + len(remaining) = len(text) + 1` with no truncation in the subtraction, hence `1 ≤ column ≤ len(text) + 1`. -/
theorem reject_is_parser_error (s : String) (err : ParseErr) (h : parseExpr s = .error err) :
    (err.error = "Syntax error" ∨ err.error = "Unmatched parenthesis") ∧
    (∃ line, line <:+ s.toList ∧ err.column + line.length = s.length + 1) ∧
    1 ≤ err.column ∧ err.column ≤ s.length + 1 := by
  have hlen : s.toList.length = s.length := String.length_toList
  obtain ⟨m, line, hsuf, hm, rfl⟩ :
      ∃ m line, line <:+ s.toList ∧ Msg m ∧ err = ⟨m, s.toList.length - line.length + 1⟩ := by
    simp only [parseExpr, parseExprL] at h
    split at h
    · rename_i e nt hb
      split at h
      · cases h
      · cases h; exact ⟨_, nt, (binaryWith_short _ _ hb).1, .inl rfl, rfl⟩
    · rename_i m l hb
      cases h
      obtain ⟨hsuf, hm⟩ := parseBinary_err _ hb
      exact ⟨m, l, hsuf, hm.resolve_right fun ⟨_, hk⟩ => by omega, rfl⟩
  have := hsuf.length_le
  exact ⟨hm, ⟨line, hsuf, by simp only; omega⟩, by simp, by simp only; omega⟩

/-- **accept_faithful**: accepted text is never silently re-interpreted.  If `parse_expression` accepts `s` with tree
`e`, then `s` *is* a spelling of exactly the in-order token sequence of `e` (`toks e`: operands, operators, parentheses,
`name(`, commas): the text is `(whitespace* spelling-of-tokenᵢ)*` followed by whitespace only, where a spelling is a
member of the token pattern's language denoting the token's value (`Spell`).  No character of the text is skipped, no
token is invented, dropped or re-ordered, and trailing text is not ignored. -/
theorem accept_faithful (s : String) (e : Expr) (h : parseExpr s = .ok e) : Lexes s.toList (toks e) := by
  obtain ⟨rest, hb, hblank⟩ := (parseExpr_ok_iff s e).mp h
  obtain ⟨pre, ht, hseg⟩ := (binaryWith_good (parseUnary_good _) _ hb).seg
  refine ⟨pre, rest, ht, hseg, ?_⟩
  obtain ⟨ws, hws, hsp⟩ := skipWs_split rest
  have : skipWs rest = [] := by simpa using hblank
  rw [this, List.append_nil] at hws
  rw [hws]; exact hsp

/-! ### non-vacuity at text level -/

example : parseExpr "a + b * c ** d - e" =
    .ok (.binary .sub (.binary .add (v "a") (.binary .mul (v "b") (.binary .pow (v "c") (v "d")))) (v "e")) := by
  rw [parseExpr, String.toList_ofList]; kernel_rfl

/-- unary binds tighter than `**`; parentheses override; a call, a string with an escape, a bracketed name, `1.5e+3` -/
example : parseExpr "-a ** b" = .ok (.binary .pow (.unary .neg (v "a")) (v "b")) := by
  rw [parseExpr, String.toList_ofList]; kernel_rfl
example : parseExpr "(a + b) * c" = .ok (.binary .mul (.group (.binary .add (v "a") (v "b"))) (v "c")) := by
  rw [parseExpr, String.toList_ofList]; kernel_rfl
example : parseExpr " ff( 1.5e+3 ,'it\\'s', [x y] )\t" =
    .ok (.function (.user "ff") [.number 1500, .string "it's", v "x y"]) := by
  rw [parseExpr, String.toList_ofList]; kernel_rfl
example : parseExpr "-5 + +5" = .ok (.binary .add (.unary .neg (.number 5)) (.number 5)) := by
  rw [parseExpr, String.toList_ofList]; kernel_rfl

/-- all 14 operators in one text (no whitespace at all) -/
example : parseExpr "a||b&&c==d!=e<=f<g>=h>i+j-k*l/m%n**o" =
    .ok (.binary .or (v "a") (.binary .and (v "b") (.binary .ne (.binary .eq (v "c") (v "d"))
      (.binary .gt (.binary .ge (.binary .lt (.binary .le (v "e") (v "f")) (v "g")) (v "h"))
        (.binary .sub (.binary .add (v "i") (v "j"))
          (.binary .mod (.binary .div (.binary .mul (v "k") (v "l")) (v "m")) (.binary .pow (v "n") (v "o")))))))) := by
  rw [parseExpr, String.toList_ofList]; kernel_rfl

/-- the hypotheses of the theorems are inhabited: `accept_faithful`, `parse_deep_wf`, `parse_uses_chain` on a nested text … -/
private def nested : Expr :=
  .binary .mul (.unary .neg (.group (.binary .add (v "a") (v "b")))) (.function (.user "ff") [v "c", .unary .not (v "d")])

private theorem nested_parses : parseExpr "-(a + b) * ff(c, !d)" = .ok nested := by
  rw [parseExpr, String.toList_ofList]; kernel_rfl

example : Lexes "-(a + b) * ff(c, !d)".toList (toks nested) := accept_faithful _ _ nested_parses
example : HWF nested := parse_deep_wf _ _ nested_parses
example : ∃ u0 ch, nested = parseChain u0 ch ∧ IsOperand u0 ∧ ∀ x ∈ ch, IsOperand x.2 := by
  obtain ⟨rest, hb, _⟩ := (parseExpr_ok_iff _ _).mp nested_parses
  obtain ⟨u0, _, ch, _, _, he, h0, hch, _⟩ := parse_uses_chain _ _ _ _ hb
  exact ⟨u0, ch, he, h0, hch⟩

/-- `unary_tighter` on `-a ** b`: the unary-level parse stops in front of ` ** b`; its operand `a` is a chain operand -/
example : IsOperand (v "a") ∧ IsOperand (.unary .neg (v "a")) :=
  unary_tighter 7 "-a ** b".toList .neg (v "a") " ** b".toList (by kernel_rfl)

/-- `group_overrides` on `(a + b) * c`: the inside is an independent binary-level parse of `a + b) * c` up to the `)` -/
example : ∃ inner nt, parseBinary 10 "a + b) * c".toList = .ok (inner, nt) ∧ scanClose nt = some " * c".toList ∧
    Expr.group (.binary .add (v "a") (v "b")) = .group inner ∧ IsOperand (Expr.group (.binary .add (v "a") (v "b"))) ∧ WFPrec inner :=
  group_overrides 10 "(a + b) * c".toList "a + b) * c".toList _ " * c".toList (by kernel_rfl) (by kernel_rfl)

/-- `fuel_sufficient` / `reject_is_parser_error` on a rejected text (the failure is a real parser error, not the fuel marker) -/
example : parseBinary 4 "a + ".toList ≠ .error (fuelMsg, []) := (fuel_sufficient 4 "a + ".toList (by decide) []).2

example : ∃ line, line <:+ "a + ".toList ∧ 4 + line.length = "a + ".length + 1 :=
  (reject_is_parser_error "a + " ⟨"Syntax error", 4⟩ (by kernel_rfl)).2.1

/-- … and the rejections: trailing text, unbalanced parenthesis, an operator without operand (a one-letter call is
accepted since fix F31) -/
example : parseExpr "a b" = .error ⟨"Syntax error", 2⟩ := by
  rw [parseExpr, String.toList_ofList]; kernel_rfl
example : parseExpr "(a" = .error ⟨"Unmatched parenthesis", 1⟩ := by
  rw [parseExpr, String.toList_ofList]; kernel_rfl
example : parseExpr "f(x)" = .ok (.function (.user "f") [v "x"]) := by
  rw [parseExpr, String.toList_ofList]; kernel_rfl
example : parseExpr "a ** " = .error ⟨"Syntax error", 5⟩ := by
  rw [parseExpr, String.toList_ofList]; kernel_rfl
example : parseExpr "1e5" = .error ⟨"Syntax error", 2⟩ := by
  rw [parseExpr, String.toList_ofList]; kernel_rfl
-- the token patterns are compiled without `re.ASCII` (flags 32 in `pinnedRegexes`): `\d` is every Unicode decimal digit, read
-- with its decimal value (as `float()` does), `\w` every Unicode word character; `[A-Za-z_]` stays ASCII
example : parseExpr "aé٣(١٢.٥e+٣, x²)" = .ok (.function (.user "aé٣") [.number 12500, v "x²"]) := by
  rw [parseExpr, String.toList_ofList]; kernel_rfl
example : parseExpr "٣" = .ok (.number 3) := by
  rw [parseExpr, String.toList_ofList]; kernel_rfl
example : parseExpr "1٣ + 𝟘𝟡" = .ok (.binary .add (.number 13) (.number 9)) := by
  rw [parseExpr, String.toList_ofList]; kernel_rfl
example : parseExpr "é" = .error ⟨"Syntax error", 1⟩ := by
  rw [parseExpr, String.toList_ofList]; kernel_rfl
example : parseExpr "1²" = .error ⟨"Syntax error", 2⟩ := by
  rw [parseExpr, String.toList_ofList]; kernel_rfl

/-- the backtracking cases of the string / bracket patterns -/
example : parseExpr "'abc\\'" = .ok (.string "abc\\") := by
  rw [parseExpr, String.toList_ofList]; kernel_rfl
example : parseExpr "[   ]" = .ok (v " ") := by
  rw [parseExpr, String.toList_ofList]; kernel_rfl

end C02
