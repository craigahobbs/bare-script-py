import BareProofs.C11Bridge
import BareProofs.C14
import BareProofs.C13

/-!
# C14Bridge — helper lemmas

The text functions of the machine host (`HostImpl.valueJson?`, `HostImpl.valueString?`: heap references, `String`s, a
path of container cells being encoded) against the C14 model (`Json.specEncode`/`mirrorEncode`/`decode` over closed
`Json.JValue`s, `List Char`) and the C13 number text (`NumText.valueStringNum`).

`toJson` is what `value_json` makes of each kind of closed value of C11 (`Compare.PValue`).  `Json.sortKeys` (insertion from the
right, ties before) and `Compare.sortItems` (insertion from the left, ties after) are the same stable sort
(`stableR_eq_sortBy`).  `valueJson_bridgeF` is the fuelled bridge with the path invariant `PathAbove`: the cells being encoded
reach the value being encoded, and a value that reifies does not reach itself.
-/

namespace C14Bridge
open Machine HostImpl C11Bridge

/-- the placeholder text HostImpl prints for a datetime (the real ISO text is the subject of C16) -/
def dtText (t : Int) : String := "<dt " ++ toString t ++ ">"

/-- a rational number as a JSON number: an integral one is an integer; any other is represented by the text HostImpl
prints for it (`ratText`: the decimal expansion, cut after 40 fraction digits) -/
def numJ (q : Rat) : Json.JNum := if q.den = 1 then .int q.num else .dec (ratText q).toList

mutual
/-- what `value_json` makes of a closed value: functions become the string `<function>`, regexes `null`, datetimes their
`value_string` (here: HostImpl's placeholder) -/
def toJson : Compare.PValue → Json.JValue
  | .null => .null
  | .bool b => .bool b
  | .num q => .num (numJ q)
  | .str s => .str s.toList
  | .dt t => .str (dtText t).toList
  | .arr xs => .arr (toJsonList xs)
  | .obj kvs => .obj (toJsonItems kvs)
  | .fn _ => .str "<function>".toList
  | .regex _ => .null
def toJsonList : List Compare.PValue → List Json.JValue
  | [] => []
  | x :: xs => toJson x :: toJsonList xs
def toJsonItems : List (String × Compare.PValue) → List (Json.Str × Json.JValue)
  | [] => []
  | (k, v) :: rest => (k.toList, toJson v) :: toJsonItems rest
end

theorem toJsonList_eq (xs : List Compare.PValue) : toJsonList xs = xs.map toJson := by
  induction xs with
  | nil => rfl
  | cons x xs ih => simp [toJsonList, ih]

theorem toJsonItems_eq (kvs : List (String × Compare.PValue)) : toJsonItems kvs = kvs.map fun kv => (kv.1.toList, toJson kv.2) := by
  induction kvs with
  | nil => rfl
  | cons kv kvs ih => obtain ⟨k, v⟩ := kv; simp [toJsonItems, ih]

theorem toString_nat_toList (n : Nat) : (toString n).toList = Nat.toDigits 10 n := Nat.toList_repr

/-- `toString` of an `Int` is the integer text of the JSON model … -/
theorem toString_int_toList (z : Int) : (toString z).toList = Json.intText z := by
  cases z with
  | ofNat n => exact toString_nat_toList n
  | negSucc n =>
    show ("-" ++ toString (n + 1)).toList = _
    rw [String.toList_append, toString_nat_toList]; rfl

/-- … and `str(n)` of the C13 model -/
theorem toString_int_eq_intStr (z : Int) : toString z = NumText.intStr z := by
  apply String.toList_inj.mp
  rw [toString_int_toList, NumText.intStr, String.toList_ofList]
  cases z with
  | ofNat n =>
    have : ¬ (Int.ofNat n < 0) := Int.not_lt.mpr (Int.natCast_nonneg n)
    simp only [NumText.intStrL, this, if_false, Json.intText, Json.natText, ← C13.natStr_eq]
    rfl
  | negSucc n =>
    have : Int.negSucc n < 0 := Int.negSucc_lt_zero n
    simp only [NumText.intStrL, this, if_true, Json.intText, Json.natText, ← C13.natStr_eq]
    rfl

theorem ratText_integral (q : Rat) (h : q.den = 1) : ratText q = toString q.num := by simp [ratText, h]

/-- the number token of the machine host is the spec token of the JSON model -/
theorem ratText_toList (q : Rat) : (ratText q).toList = Json.numSpec (numJ q) := by
  unfold numJ
  by_cases h : q.den = 1
  · simp only [h, if_true, Json.numSpec, ratText_integral q h, toString_int_toList]
  · simp only [h, if_false, Json.numSpec]

theorem hex4_toList (n : Nat) : (HostImpl.hex4 n).toList = Json.hex4 n := by
  simp only [HostImpl.hex4, String.toList_ofList, Json.hex4, Json.hexDigit]

/-- the two escape functions are the same chain of tests with the same text in every branch -/
theorem jsonEscChar_toList (c : Char) : (jsonEscChar c).toList = Json.escChar c := by
  have hn (n : Nat) (h : (Char.ofNat n).toNat = n) : (c.toNat == n) = decide (c = Char.ofNat n) := by
    rw [Bool.eq_iff_iff, beq_iff_eq, decide_eq_true_eq, ← Char.toNat_inj, h]
  simp only [jsonEscChar, Json.escChar, apply_ite String.toList, hn 8 rfl, hn 12 rfl, beq_iff_eq, decide_eq_true_eq,
    Bool.and_eq_true, String.toList_append, hex4_toList, String.toList_singleton]
  rw [String.toList_ofList, String.toList_ofList, String.toList_ofList, String.toList_ofList, String.toList_ofList,
    String.toList_ofList, String.toList_ofList, String.toList_ofList]
  simp only [List.append_assoc, List.cons_append, List.nil_append]

theorem join_esc_toList : ∀ cs : List Char, (String.join (cs.map jsonEscChar)).toList = Json.escBody cs
  | [] => by simp [Json.escBody]
  | c :: cs => by
    have ih := join_esc_toList cs
    simp only [String.toList_join] at ih ⊢
    simp only [List.map_cons, List.flatMap_cons, Json.escBody, jsonEscChar_toList, ih]

theorem jsonStr_toList (s : String) : (jsonStr s).toList = Json.encStr s.toList := by
  simp only [jsonStr, String.toList_append, join_esc_toList, Json.encStr]
  rfl

theorem jsonStr_eq (s : String) : jsonStr s = String.ofList (Json.encStr s.toList) := by
  rw [← jsonStr_toList, String.ofList_toList]

theorem joinItems_eq_intercalate (sep : Json.Str) : ∀ xs : List Json.Str, Json.joinItems sep xs = sep.intercalate xs
  | [] => rfl
  | [x] => by simp [Json.joinItems, List.intercalate]
  | x :: y :: xs => by
    have ih := joinItems_eq_intercalate sep (y :: xs)
    simp only [Json.joinItems, ih, List.intercalate, List.intersperse, List.flatten_cons, List.append_assoc]

theorem intercalate_toList (xs : List Json.Str) :
    (",".intercalate (xs.map String.ofList)).toList = Json.joinItems [','] xs := by
  rw [String.toList_intercalate, joinItems_eq_intercalate, List.map_map]
  congr 1
  induction xs with
  | nil => rfl
  | cons x xs ih => simp

/-- if `f` reifies the list and `F` maps every element to `G` of its reification, then `F` maps the list to the `G`-image -/
theorem mapOpt_image {α β γ : Type} (f : α → Option β) (F : α → Option γ) (G : β → γ) : ∀ (xs : List α) (ys : List β),
    mapOpt f xs = some ys → (∀ x ∈ xs, ∀ y ∈ ys, f x = some y → F x = some (G y)) → mapOpt F xs = some (ys.map G)
  | [], ys, h, _ => by rw [(mapOpt_nil_iff f ys).mp h]; rfl
  | x :: xs, ys, h, H => by
    obtain ⟨y, ys', h1, h2, rfl⟩ := (mapOpt_cons_iff f x xs ys).mp h
    exact (mapOpt_cons_iff F x xs _).mpr ⟨G y, ys'.map G, H x (by simp) y (by simp) h1,
      mapOpt_image f F G xs ys' h2 (fun x' hx' y' hy' => H x' (by simp [hx']) y' (by simp [hy'])), rfl⟩

/-! ## the two insertion sorts are the same stable sort -/

section StableR
variable {α : Type} (c : α → α → Int)

/-- insertion as `Json.insertKey` does it: the new element goes before the first element that is not smaller -/
def insR (p : α) : List α → List α
  | [] => [p]
  | q :: qs => if c q p < 0 then q :: insR p qs else p :: q :: qs

/-- `Json.sortKeys`: insertion from the right -/
def sortR (l : List α) : List α := l.foldr (insR c) []

variable {c}

theorem insR_mem (p : α) : ∀ (qs : List α) (z : α), z ∈ insR c p qs ↔ z = p ∨ z ∈ qs
  | [], z => by simp [insR]
  | q :: qs, z => by
    unfold insR
    split
    · simp only [List.mem_cons, insR_mem p qs z]
      constructor
      · rintro (h | h | h) <;> simp [h]
      · rintro (h | h | h) <;> simp [h]
    · simp

theorem insR_sorted (h : C11.IsPre c) (p : α) : ∀ qs, C11.Sorted c qs → C11.Sorted c (insR c p qs)
  | [], _ => by simp [insR]
  | q :: qs, hs => by
    have ⟨hq, hqs⟩ := List.pairwise_cons.mp hs
    unfold insR
    by_cases hqp : c q p < 0
    · simp only [hqp, if_true]
      refine List.pairwise_cons.mpr ⟨fun z hz => ?_, insR_sorted h p qs hqs⟩
      rcases (insR_mem p qs z).mp hz with rfl | hz
      · omega
      · exact hq z hz
    · simp only [hqp, if_false]
      have hpq : c p q ≤ 0 := by have := h.antisymm p q; omega
      refine List.pairwise_cons.mpr ⟨fun z hz => ?_, hs⟩
      rcases List.mem_cons.mp hz with rfl | hz
      · exact hpq
      · exact h.trans p q z hpq (hq z hz)

theorem insR_filter (h : C11.IsPre c) (a p : α) : ∀ qs,
    (insR c p qs).filter (C11.eqv c a) = [p].filter (C11.eqv c a) ++ qs.filter (C11.eqv c a)
  | [] => by simp [insR]
  | q :: qs => by
    unfold insR
    by_cases hqp : c q p < 0
    · simp only [hqp, if_true, List.filter_cons, List.filter_nil, insR_filter h a p qs]
      by_cases hq : c q a = 0
      · by_cases hp : c p a = 0
        · -- both in the class of `a`: then `c q p = 0`
          have hap : c a p = 0 := by have := h.antisymm a p; omega
          have := h.eq_eq hq hap
          omega
        · simp [C11.eqv, hq, hp]
      · simp [C11.eqv, hq]
    · simp only [hqp, if_false, List.filter_cons, List.filter_nil]
      split <;> simp

theorem sortR_sorted (h : C11.IsPre c) : ∀ l, C11.Sorted c (sortR c l)
  | [] => List.Pairwise.nil
  | p :: ps => insR_sorted h p _ (sortR_sorted h ps)

theorem sortR_stable (h : C11.IsPre c) (a : α) : ∀ l, (sortR c l).filter (C11.eqv c a) = l.filter (C11.eqv c a)
  | [] => rfl
  | p :: ps => by
    show (insR c p (sortR c ps)).filter _ = _
    rw [insR_filter h a p, sortR_stable h a ps]
    simp only [List.filter_cons, List.filter_nil]
    split <;> simp

/-- a stable sort is unique: insertion from the right (ties before) = insertion from the left (ties after) -/
theorem stableR_eq_sortBy (h : C11.IsPre c) (l : List α) : sortR c l = Compare.sortBy (C11.ltOf c) l :=
  C11.sorted_stable_unique h _ _ (sortR_sorted h l) (C11.sortBy_sorted h l)
    (fun a => (sortR_stable h a l).trans (C11.sortBy_stable h l a).symm)

end StableR

theorem insertKey_map_insR {γ : Type} (g : String × Compare.PValue → Json.Str × γ) (hg : ∀ p, (g p).1 = p.1.toList)
    (p : String × Compare.PValue) : ∀ qs : List (String × Compare.PValue),
    Json.insertKey (g p) (qs.map g) = (insR C11.keyCmp p qs).map g
  | [] => rfl
  | q :: qs => by
    have hlt : ((g q).1 < (g p).1) ↔ C11.keyCmp q p < 0 := by
      rw [hg, hg, ← String.lt_iff]; exact str_lt_iff' q.1 p.1
    simp only [List.map_cons, Json.insertKey, insR]
    by_cases h : C11.keyCmp q p < 0
    · simp only [hlt.mpr h, h, if_true, List.map_cons, insertKey_map_insR g hg p qs]
    · have h' : ¬ ((g q).1 < (g p).1) := fun hh => h (hlt.mp hh)
      simp only [h', h, if_false, List.map_cons]

/-- `Json.sortKeys` after a key-preserving map = the map after `Compare.sortItems` -/
theorem sortKeys_map_sortItems {γ : Type} (g : String × Compare.PValue → Json.Str × γ) (hg : ∀ p, (g p).1 = p.1.toList)
    (l : List (String × Compare.PValue)) : Json.sortKeys (l.map g) = (Compare.sortItems l).map g := by
  have hR : Json.sortKeys (l.map g) = (sortR C11.keyCmp l).map g := by
    induction l with
    | nil => rfl
    | cons p ps ih =>
      show Json.insertKey (g p) (Json.sortKeys (ps.map g)) = (insR C11.keyCmp p (sortR C11.keyCmp ps)).map g
      rw [ih, insertKey_map_insR g hg]
  rw [hR, stableR_eq_sortBy C11.keyCmp_isPre]
  rfl

/-! ## the compact encoder (`indent = None`) -/

theorem block_text {so sc : String} {o c : Char} (ho : so = String.ofList [o]) (hc : sc = String.ofList [c]) (lvl : Nat)
    (items : List Json.Str) :
    so ++ ",".intercalate (items.map String.ofList) ++ sc = String.ofList (C14.block 0 lvl o c items) := by
  apply String.toList_inj.mp
  simp only [ho, hc, String.toList_append, intercalate_toList, String.toList_ofList, C14.block, Json.nl, if_true,
    List.append_nil, List.nil_append, List.cons_append]

/-- the compact text of a closed value -/
abbrev enc (lvl : Nat) (p : Compare.PValue) : Json.Str := Json.encWith Json.numSpec 0 lvl (toJson p)

theorem enc_arr (lvl : Nat) (xs : List Compare.PValue) : enc lvl (.arr xs) = C14.block 0 lvl '[' ']' (xs.map (enc (lvl+1))) := by
  cases xs with
  | nil => rfl
  | cons x xs =>
    show Json.encWith _ 0 lvl (.arr (toJson x :: toJsonList xs)) = _
    rw [C14.encWith_arr, ← toJsonList, toJsonList_eq, List.map_map]; rfl

theorem enc_obj (lvl : Nat) (kvs : List (String × Compare.PValue)) :
    enc lvl (.obj kvs) =
      C14.block 0 lvl '{' '}' ((Compare.sortItems kvs).map fun kv => Json.member 0 (kv.1.toList, enc (lvl+1) kv.2)) := by
  cases kvs with
  | nil => rfl
  | cons kv kvs =>
    show Json.encWith _ 0 lvl (.obj ((kv.1.toList, toJson kv.2) :: toJsonItems kvs)) = _
    rw [C14.encWith_obj, ← toJsonItems, toJsonItems_eq,
      sortKeys_map_sortItems (fun kv : String × Compare.PValue => (kv.1.toList, toJson kv.2)) (fun _ => rfl), List.map_map]
    rfl

theorem sortKeys_mem (kvs : List (String × Value)) (z : String × Value) : z ∈ sortKeys kvs ↔ z ∈ kvs := by
  have e : sortKeys kvs = Compare.sortBy (fun p q => decide (p.1 < q.1)) kvs := by
    simp only [sortKeys, Compare.sortBy, insertSorted_eq]
  rw [e]
  exact (Compare.sortBy_perm _ kvs).mem_iff

/-- every cell on the path (the containers being encoded) reaches the value being encoded -/
def PathAbove (w : World) (path : List Nat) (v : Value) : Prop := ∀ r ∈ path, Reaches w (cellVal w r) v

/-- a value that reifies is not reached from itself: its cell is not on the path -/
theorem PathAbove.not_mem {w : World} {path : List Nat} {r : Nat} {a : Value} (hp : PathAbove w path a)
    (ha : cellVal w r = a) {n : Nat} {p : Compare.PValue} (h : reifyF w n a = some p) : path.contains r = false := by
  cases hc : path.contains r with
  | false => rfl
  | true => rw [reifyF_none_of_reaches_self w a (ha ▸ hp r (by simpa using hc)) n] at h; cases h

/-- entering the cell of `a`, towards its element `x` -/
theorem PathAbove.cons {w : World} {path : List Nat} {r : Nat} {a : Value} (hp : PathAbove w path a)
    (ha : cellVal w r = a) {x : Value} (hc : Child w a x) : PathAbove w (r :: path) x := by
  intro r' hr'
  rcases List.mem_cons.mp hr' with rfl | hr'
  · exact ha ▸ .step hc
  · exact reaches_trans w (hp r' hr') (.step hc)

theorem valueJson_bridgeF (w : World) : ∀ (n : Nat) (v : Value) (p : Compare.PValue), reifyF w n v = some p →
    ∀ (fuel : Nat) (path : List Nat) (lvl : Nat), n ≤ fuel → PathAbove w path v →
    valueJson? w fuel path v = some (String.ofList (enc lvl p))
  | 0, _, _, h, _, _, _, _, _ => by simp [reifyF] at h
  | n+1, _, _, _, 0, _, _, hf, _ => by omega
  | n+1, v, p, h, f+1, path, lvl, hf, hp => by
    cases v with
    | null | fn _ | regex _ => simp only [reifyF, Option.some.injEq] at h; subst h; rfl
    | bool b => simp only [reifyF, Option.some.injEq] at h; subst h; cases b <;> rfl
    | num q =>
      simp only [reifyF, Option.some.injEq] at h; subst h
      simp only [valueJson?, enc, toJson, Json.encWith, ← ratText_toList, String.ofList_toList]
    | str s =>
      simp only [reifyF, Option.some.injEq] at h; subst h
      simp only [valueJson?, enc, toJson, Json.encWith, jsonStr_eq]
    | dt t =>
      simp only [reifyF, Option.some.injEq] at h; subst h
      simp only [valueJson?, enc, toJson, Json.encWith, jsonStr_eq, dtText]
    | arr r =>
      obtain ⟨xs, pxs, hxs, hm, rfl⟩ := (reifyF_arr w n r p).mp h
      have hc := (cellVal_arr w r xs hxs).1
      have hel : mapOpt (valueJson? w f (r :: path)) xs = some (pxs.map fun px => String.ofList (enc (lvl+1) px)) :=
        mapOpt_image _ _ _ xs pxs hm fun x hx px _ hpx =>
          valueJson_bridgeF w n x px hpx f (r :: path) (lvl+1) (by omega) (hp.cons hc (.arr hxs hx))
      simp only [valueJson?, hp.not_mem hc h, hxs, Option.getD_some, mapM_eq_mapOpt, hel, Option.map_some, Bool.false_eq_true,
        if_false]
      rw [enc_arr, ← block_text rfl rfl, List.map_map]; rfl
    | obj r =>
      obtain ⟨kvs, pkvs, hxs, hm, rfl⟩ := (reifyF_obj w n r p).mp h
      have hc := (cellVal_obj w r kvs hxs).1
      have hel : mapOpt (fun kv : String × Value => (valueJson? w f (r :: path) kv.2).map fun s => jsonStr kv.1 ++ ":" ++ s)
          (sortKeys kvs) = some ((Compare.sortItems pkvs).map fun kv =>
            String.ofList (Json.member 0 (kv.1.toList, enc (lvl+1) kv.2))) := by
        refine mapOpt_image _ _ _ _ _ (sortKeys_reify (reifyF w n) kvs pkvs hm) (fun kv hkvm pkv _ hkv => ?_)
        obtain ⟨hk, hv⟩ := (reifyItem_iff _ _ _).mp hkv
        rw [valueJson_bridgeF w n kv.2 pkv.2 hv f (r :: path) (lvl+1) (by omega)
          (hp.cons hc (.obj hxs ((sortKeys_mem kvs kv).mp hkvm)))]
        simp only [Option.map_some, Option.some.injEq]
        apply String.toList_inj.mp
        simp only [String.toList_append, jsonStr_toList, String.toList_ofList, Json.member, Json.colon, if_true, hk]
        rfl
      simp only [valueJson?, hp.not_mem hc h, hxs, Option.getD_some, mapM_eq_mapOpt, hel, Option.map_some, Bool.false_eq_true,
        if_false]
      rw [enc_obj, ← block_text rfl rfl, List.map_map]; rfl

end C14Bridge
