import BareModel.NumText

/-!
# C13 — tie to the generated regex table

Kept in its own module: when a pattern in the working tree changes, this obligation breaks and says which pattern the hand-written
scanners (`NumText.stripL`, `NumText.scanTok true`) no longer stand for, while the theorems of `BareProofs/C13.lean` about the model
keep checking; correspondence and the search then decide whether the property itself fails on the code.
-/

namespace C13
open NumText

/-- The regex sources the scanners were written for are the ones in the working tree (re-extracted on every run). -/
theorem patterns_as_modelled :
    patternOf "value.R_NUMBER_CLEANUP" = some ("\\.0*$", 32) ∧
    patternOf "library.R_NUMBER_CLEANUP" = some ("\\.0*$", 32) ∧
    patternOf "parser._R_EXPR_NUMBER" = some ("^\\s*([+-]?\\d+(?:\\.\\d*)?(?:e[+-]\\d+)?)", 32) := by decide +kernel

end C13
